import SaphyrVerif.Lemmas.C10
import SaphyrVerif.Lemmas.C09
import SaphyrVerif.Lemmas.C10_Gate
import SaphyrVerif.Lemmas.C10_Pipe
/-!
# C10 — I/O faults and the input-size cap are never swallowed (reader and writer)

Theorems about the model of the deferred-error protocol (Model/IoCell.lean: entry points, `ReadIter`, the writer
adapter), of `ChunkedChars` with its own byte cap (Model/Reader.lean), of the raw-byte gate that applies
`max_reader_input_bytes` and watches UTF-16 input (Model/RawGate.lean), and of the pipeline gate → `ChunkedChars`.
-/
namespace SaphyrVerif.Props.C10
open SaphyrVerif SaphyrVerif.Pump SaphyrVerif.Reader SaphyrVerif.IoCell SaphyrVerif.Lemmas.C10 SaphyrVerif.Lemmas.C09

/-- (T) fault_surfaces_single.  For EVERY consumer strategy, EVERY list of parser items (no contract on
the scanner is needed), EVERY set of fault points and every budget / alias configuration: if the shared
cell was set at any point during a `from_reader*` / `with_deserializer_from_reader*` call, the call does
not return `Ok`.  Every observation point (`next`, `peek`, `finish`) returns the taken I/O error, the
consumer propagates it, and — since fix ae01964 — the trailing `peek` ignores only scanner errors after a
document end marker (`Error::is_trailing_garbage`), never an I/O error. -/
theorem fault_surfaces_single (c : Client) (fuel : Nat) (s : Src)
    (hcell : s.cell = none) (hever : s.everSet = false) :
    (fromReader c fuel s).2.everSet = true → (fromReader c fuel s).1 ≠ .ok :=
  fromReader_surfaces c fuel s (fun h => by rw [hever] at h; cases h)

/-- (T) the only errors the trailing-garbage rule can ignore: `Error::is_trailing_garbage` holds of the scanner's own
errors (`scan`, `unknownAnchor`) and of nothing else — not of an I/O error, not of a budget breach. -/
theorem trailing_garbage_only_scanner_errors (e : Err) (h : e.isTrailingGarbage = true) :
    (∃ l, e = .pump (.scan l)) ∨ (∃ l, e = .pump (.unknownAnchor l)) := by
  cases e with
  | pump pe => cases pe <;> simp [Err.isTrailingGarbage] at h ⊢
  | _ => simp [Err.isTrailingGarbage] at h

/-- (T) fault_surfaces_iter (fix 80d7f83).  Drive `ReadIter` (any consumer, any parser
items, any fault points, any budget) until it returns `None`: if every yielded item is `Ok`, the error cell
was never set.  Equivalently a fault always produces an `Err` item — also while a null-like document is
being skipped. -/
theorem fault_surfaces_iter (c : Client) (fuel : Nat) : ∀ (calls : Nat) (it : Iter),
    it.finished = false → K false it.src →
    (iterAll c fuel calls it).2.1 = true →
    (∀ item ∈ (iterAll c fuel calls it).1, item.isErr = false) →
    (iterAll c fuel calls it).2.2.src.everSet = false := by
  intro calls
  induction calls with
  | zero => intro it _ _ h; simp [iterAll] at h
  | succ calls ih =>
    intro it hf hk hend hall
    have hg := iterNext_spec c fuel it hf hk
    simp only [iterAll] at hend hall ⊢
    cases hn : iterNext c fuel it with
    | mk r it' =>
      rw [hn] at hg
      simp only [hn] at hend hall ⊢
      cases r with
      | none =>
        simp only [Good] at hg
        simp only
        cases hev : it'.src.everSet with
        | false => rfl
        | true =>
          rcases hg.1 hev with h | h
          · simp [hg.2] at h
          · simp at h
      | some item =>
        simp only at hend hall ⊢
        cases item with
        | err e =>
          have := hall (.err e) (by simp)
          simp [Item.isErr] at this
        | ok =>
          simp only [Good] at hg
          exact ih it' hg.1 hg.2 hend (fun i hi => hall i (by simp [hi]))

/-- the same as an existence statement: the cell was set ⇒ some item is an `Err` -/
theorem fault_yields_err_item (c : Client) (fuel calls : Nat) (it : Iter)
    (hf : it.finished = false) (hk : K false it.src) (hend : (iterAll c fuel calls it).2.1 = true)
    (hset : (iterAll c fuel calls it).2.2.src.everSet = true) :
    ∃ item ∈ (iterAll c fuel calls it).1, item.isErr = true := by
  apply Classical.byContradiction
  intro hno
  have hall : ∀ item ∈ (iterAll c fuel calls it).1, item.isErr = false := by
    intro item hi
    cases h : item.isErr with
    | false => rfl
    | true => exact absurd ⟨item, hi, h⟩ hno
  have := fault_surfaces_iter c fuel calls it hf hk hend hall
  rw [this] at hset
  cases hset

/-- the fresh iterator of `read` / `read_with_options` satisfies the hypotheses -/
theorem fresh_iter_K (s : Src) (h : s.everSet = false) : K false s := by intro h'; simp [h] at h'

def defaultLimits : Budget.Limits :=
  { maxEvents := Gen.budgetDefault_maxEvents, maxAliases := Gen.budgetDefault_maxAliases,
    maxAnchors := Gen.budgetDefault_maxAnchors, maxDepth := Gen.budgetDefault_maxDepth,
    maxDocuments := Gen.budgetDefault_maxDocuments, maxNodes := Gen.budgetDefault_maxNodes,
    maxTotalScalarBytes := Gen.budgetDefault_maxTotalScalarBytes, maxMergeKeys := Gen.budgetDefault_maxMergeKeys,
    enforceRatio := Gen.budgetDefault_enforceAliasAnchorRatio, minAliases := Gen.budgetDefault_aliasAnchorMinAliases,
    multiplier := Gen.budgetDefault_aliasAnchorRatioMultiplier }

def defaultAlias : AliasLimits :=
  { maxTotalReplayedEvents := Gen.aliasLimitsDefault_maxTotalReplayedEvents,
    maxReplayStackDepth := Gen.aliasLimitsDefault_maxReplayStackDepth,
    maxAliasExpansionsPerAnchor := Gen.aliasLimitsDefault_maxAliasExpansionsPerAnchor }

/-- `read_with_options` over the given parser items and fault points (per-document budget policy) -/
def readIter (items : List RawItem) (fires : List (Nat × IoKind)) : Iter :=
  { src := { pump := { limits := defaultAlias, budget := some (Budget.Enf.new defaultLimits true) },
             input := items, total := items.length, fires := fires } }

/-- parser items of `~\n---\na: 1\n` with `max_reader_input_bytes = 2` as observed on the implementation
(`verif_hooks::reader::reader_items_with_cell`): the scanner has the explicit null and its document end; the
third byte breaches the cap (`FileTooLarge`) while the second item is pulled. -/
def witnessCapItems : List RawItem :=
  [.ev .streamStart 1048577, .ev (.docStart false) 1048577, .ev (.scalar ['~'] .plain 0 none) 1048577,
   .ev .docEnd 2097153, .ev .streamEnd 2097153]

/-- parser items of `x\n` (or `~\n---\na: 1\n`) when the reader fails before the decoder has delivered
anything: an empty stream, for which the pump synthesizes a null document -/
def witnessEmptyItems : List RawItem := [.ev .streamStart 1048577, .ev .streamEnd 1048577]

/-- (regression, fix 80d7f83; the finding `iter_swallows_fault_after_null` of DESIGN.md) on both inputs — a null document followed by a breach of the cap, and a reader that
fails at once — the iterator yields exactly one item, the I/O error, and ends. -/
theorem iter_null_skip_surfaces_fault :
    (iterAll consumeNode 64 8 (readIter witnessCapItems [(2, kFileTooLarge)])).1 = [.err (.io kFileTooLarge)] ∧
    (iterAll consumeNode 64 8 (readIter witnessCapItems [(2, kFileTooLarge)])).2.1 = true ∧
    (iterAll consumeNode 64 8 (readIter witnessEmptyItems [(1, kOther)])).1 = [.err (.io kOther)] ∧
    (iterAll consumeNode 64 8 (readIter witnessEmptyItems [(1, kOther)])).2.1 = true := by
  decide +kernel

/-- (E) the same inputs through the single-document entry point fail as before -/
example : (fromReader consumeNode 64 (readIter witnessCapItems [(2, kFileTooLarge)]).src).1 = .err (.io kFileTooLarge) := by
  decide +kernel
/-- (E) without the fault the iterator skips the null document and ends normally (hypotheses satisfiable) -/
example : (iterAll consumeNode 64 8 (readIter witnessCapItems [])).1 = [] ∧
    (iterAll consumeNode 64 8 (readIter witnessCapItems [])).2.2.src.everSet = false := by decide +kernel
example : (iterAll consumeNode 64 8 (readIter
    [.ev .streamStart 1048577, .ev (.docStart false) 1048577, .ev (.scalar ['x'] .plain 0 none) 1048577,
     .ev .docEnd 2097153, .ev .streamEnd 2097153] [(2, kOther)])).1 = [.err (.io kOther)] := by decide +kernel
/-- a consumer that accepts a value after one event (like a unit/Option target on a shape mismatch) -/
def takeOne : Client := fun hist =>
  match hist with
  | [] => .op .peek
  | [_] => .op .next
  | _ => .done

/-- (E) a container end where a document should start is an error item (fix 2d066df): `[a]` read by a
consumer that stops after one event -/
example : (iterAll takeOne 64 8 (readIter
    [.ev .streamStart 1048577, .ev (.docStart false) 1048577, .ev (.seqStart 0 none) 1048577,
     .ev (.scalar ['a'] .plain 0 none) 1048578, .ev .seqEnd 1048579,
     .ev .docEnd 2097153, .ev .streamEnd 2097153] [])).1 = [.ok, .ok, .err .unexpectedEnd] := by decide +kernel
/-- (E) after a document end marker a scanner error is still ignored, an I/O error is not (fix ae01964) -/
example : (fromReader consumeNode 64 (readIter
    [.ev .streamStart 1048577, .ev (.docStart false) 1048577, .ev (.scalar ['a'] .plain 0 none) 1048577,
     .ev .docEnd 2097153, .err false 3145729] []).src).1 = .ok := by decide +kernel
example : (fromReader consumeNode 64 (readIter
    [.ev .streamStart 1048577, .ev (.docStart false) 1048577, .ev (.scalar ['a'] .plain 0 none) 1048577,
     .ev .docEnd 2097153, .err false 3145729] [(5, kOther)]).src).1 = .err (.io kOther) := by decide +kernel

/-- (T) reader_fault_sets_cell.  The reader delivers any bytes in any partition into non-empty read results
and then a call FAILS with a hard error (any kind other than `Interrupted`, which is retried; since fix
2f20266 this includes `UnexpectedEof`): by the time `ChunkedChars` reports end of input to the scanner the shared cell is set
(with that error, or with the error of a malformed / truncated sequence met earlier).  Together with
`fault_surfaces_single` this is the chain "reader error ⇒ cell set ⇒ `Err`". -/
theorem reader_fault_sets_cell (pre post : Sched) (k : IoKind) (hc : chunked pre = true)
    (hk1 : k ≠ kInterrupted) :
    (collectAll { reader := pre ++ .fail k :: post }).2.cell ≠ none := by
  exact collect_fault_cell k hk1 post _ { reader := pre ++ .fail k :: post } pre rfl hc rfl (bytes_lt_fuel _)

/-- (regression, fix 2f20266) the reader delivers `a: 1\n` and then FAILS with
`Err(ErrorKind::UnexpectedEof)`; the five characters are produced and the error is recorded in the
cell, like any other kind; a clean `Ok(0)` still is the end of the input without an error. -/
theorem unexpected_eof_kind_recorded :
    (collectAll { reader := [.data [0x61, 0x3A, 0x20, 0x31, 0x0A], .fail kUnexpectedEof] }).1 = ['a', ':', ' ', '1', '\n'] ∧
    (collectAll { reader := [.data [0x61, 0x3A, 0x20, 0x31, 0x0A], .fail kUnexpectedEof] }).2.cell = some kUnexpectedEof ∧
    (collectAll { reader := [.data [0x61, 0x3A, 0x20, 0x31, 0x0A], .data []] }).2.cell = none ∧
    (collectAll { reader := [.data [0x61, 0x3A, 0x20, 0x31, 0x0A], .fail kInterrupted, .data [0x62]] }).1 =
      ['a', ':', ' ', '1', '\n', 'b'] := by
  decide +kernel

/-! ### the byte cap of `ChunkedChars`

`cap_pull_bound`, `cap_pull_invariant`, `cap_inactive_below` are about `ChunkedChars.maxBytes`, a cap that the
pipeline of `from_reader` no longer sets since fix 784e913: there the raw-byte gate applies the limit (see the last
two sections).  They cover `ChunkedChars` used with a cap of its own. -/

/-- (T) cap_pull_bound.  For EVERY schedule (any chunking, failing calls, empty reads) and every cap: up to the
first `None` of `next_char` — the first time the reader glue gives up: end of input, I/O error, malformed
sequence or the cap itself — at most `cap + 4` bytes have been taken from the reader (general form: the bytes
pulled beyond those already accounted in `total_bytes` never exceed what the cap still allows plus one
code point). -/
theorem cap_pull_bound_general : ∀ (fuel : Nat) (cc : CC) (cap : Nat), cc.maxBytes = some cap → cc.totalBytes ≤ cap →
    (collectRaw fuel cc).2.pulled + cc.totalBytes ≤ cc.pulled + cap + 4 := by
  intro fuel
  induction fuel with
  | zero => intro cc cap _ h; simp [collectRaw]; omega
  | succ fuel ih =>
    intro cc cap hm ht
    obtain ⟨h1, h2, h3⟩ := nextChar_pull cc
    simp only [collectRaw]
    cases hn : nextChar cc with
    | mk r cc' =>
      rw [hn] at h1 h2 h3
      cases r with
      | none =>
        have := h3 rfl
        simp only at this ⊢
        omega
      | some c =>
        obtain ⟨n, _, a, b, d⟩ := h2 c rfl
        have hcap := d cap hm
        have := ih (noteChar cc' c) cap (by simpa using h1 ▸ hm) (by simpa using hcap)
        simp only at a b this ⊢
        simp at this
        omega

theorem cap_pull_bound (sched : Sched) (cap : Nat) (fuel : Nat) :
    (collectRaw fuel { reader := sched, maxBytes := some cap }).2.pulled ≤ cap + 4 := by
  have := cap_pull_bound_general fuel { reader := sched, maxBytes := some cap } cap rfl (by simp)
  simpa using this

/-- (T) every call of `next` — also the calls the scanner's `BufferedInput` keeps making after the end — pulls
at most one code point: at most 4 bytes.  (It also keeps the cap setting and `total_bytes` under the cap:
`Lemmas.C10.next_pull'`.) -/
theorem pull_per_call (cc : CC) : (Reader.next cc).2.pulled ≤ cc.pulled + 4 := (next_pull' cc).2.1

/-- (T) cap_pull_invariant.  Over ANY number of `next` calls (the run continues after a synthetic line break,
fix bfd6267, so `next_char` can give up more than once): every byte pulled is accounted in `total_bytes`,
which never exceeds the cap, or belongs to one of the at most 4-byte sequences on which `next_char` gave up:
`pulled ≤ cap + 4 · giveUps`. -/
theorem cap_pull_invariant (fuel : Nat) (sched : Sched) (cap : Nat) :
    (collect fuel { reader := sched, maxBytes := some cap }).2.pulled ≤
      cap + 4 * giveUps fuel { reader := sched, maxBytes := some cap } := by
  simpa using collect_pull_bound fuel { reader := sched, maxBytes := some cap } cap rfl (Nat.zero_le _)

/-- (T) cap_inactive_below.  For EVERY schedule (faults and empty reads included) whose stream is at most
`cap` bytes long, `ChunkedChars` with the cap produces the same characters (synthetic break included) and
records the same error as without a cap: the cap never changes the behaviour on inputs that fit. -/
theorem cap_inactive_below_general (fuel : Nat) (cc : CC) (cap L : Nat) (hi : CapInv L cc) (hL : L ≤ cap)
    (hm : cc.maxBytes = some cap) :
    (collect fuel cc).1 = (collect fuel { cc with maxBytes := none }).1 ∧
    (collect fuel cc).2.cell = (collect fuel { cc with maxBytes := none }).2.cell := by
  -- the two runs are in lock step: the same state up to the cap setting
  have := collect_sim (R := fun a b => (CapInv L a ∧ a.maxBytes = some cap) ∧ b = { a with maxBytes := none })
    (fun a b ⟨⟨h1, h2⟩, h3⟩ => by
      obtain ⟨e, h4, h5⟩ := next_cap_free' h1 hL h2
      rw [h3, e]
      exact ⟨rfl, ⟨h4, h5⟩, rfl⟩) fuel cc _ ⟨⟨hi, hm⟩, rfl⟩
  exact ⟨this.1, by rw [this.2.2]⟩

theorem cap_inactive_below (sched : Sched) (cap : Nat) (h : (flat sched).length ≤ cap) :
    (collectAll { reader := sched, maxBytes := some cap }).1 = (collectAll { reader := sched }).1 ∧
    (collectAll { reader := sched, maxBytes := some cap }).2.cell = (collectAll { reader := sched }).2.cell := by
  have := cap_inactive_below_general (2 * Sched.bytes sched + 2) { reader := sched, maxBytes := some cap } cap
    (flat sched).length ⟨Nat.le_refl _, by simp⟩ h rfl
  simpa [collectAll] using this

/-- (E) the cap is breached twice (`%€`, line break, `%€`; cap 3): two synthetic breaks, 9 bytes pulled
= within `cap + 4 · giveUps` = 3 + 4·2, beyond `cap + 4` — why the bound is stated per give-up -/
example : (collectAll { reader := [.data [0x25, 0xE2, 0x82, 0xAC, 0x0A, 0x25, 0xE2, 0x82, 0xAC]], maxBytes := some 3 }).1 =
      ['%', '\n', '\n', '%', '\n'] ∧
    (collectAll { reader := [.data [0x25, 0xE2, 0x82, 0xAC, 0x0A, 0x25, 0xE2, 0x82, 0xAC]], maxBytes := some 3 }).2.pulled = 9 := by
  decide +kernel
/-- (E) the cap is hit in the middle of `a€a` (cap 3): one character, `FileTooLarge`, 4 ≤ 3 + 4 bytes pulled -/
example : (collectAll { reader := [.data [0x61, 0xE2, 0x82, 0xAC, 0x61]], maxBytes := some 3 }).1 = ['a'] ∧
    (collectAll { reader := [.data [0x61, 0xE2, 0x82, 0xAC, 0x61]], maxBytes := some 3 }).2.cell = some kFileTooLarge ∧
    (collectAll { reader := [.data [0x61, 0xE2, 0x82, 0xAC, 0x61]], maxBytes := some 3 }).2.pulled = 4 := by decide +kernel

/-! ### the raw-byte gate in front of the decoder (fix 2cd23fb)

`RawGate` (Model/RawGate.lean) sits between the caller's reader and the external decoder.  The caller's reader is
a schedule of read results (any chunking, failing calls, empty reads); the consumer — the decoder under
`BufReader` — is the list `reqs` of the buffer sizes of its `read` calls (never an empty buffer). -/

section Gate
open SaphyrVerif.Lemmas.C10Gate SaphyrVerif.Spec.Utf16

/-- (T) raw_pull_bound.  For EVERY schedule of the caller's reader, every cap and every sequence of `read` calls
(empty buffers included): the gate takes at most `cap + 1` bytes from the reader — whatever the encoding is and
whatever the decoder behind it does — and never hands on more than `cap`.  (`taken` is exactly what the inner
schedule lost: `raw_taken_is_consumption`.) -/
theorem raw_pull_bound (sched : Sched) (cap : Nat) (reqs : List Nat) :
    (Gate.run { inner := sched, limit := some cap } reqs).2.taken ≤ cap + 1 ∧
    (Gate.run { inner := sched, limit := some cap } reqs).2.pulled ≤ cap := by
  obtain ⟨_, h2, h3⟩ := run_capInv cap reqs { inner := sched, limit := some cap } ⟨rfl, by simp, by simp⟩
  refine ⟨?_, h2⟩
  rw [h3]; split <;> omega

/-- (T) the ghost counter of `raw_pull_bound` is the consumption of the reader: the bytes the schedule still holds
plus `taken` is constant -/
theorem raw_taken_is_consumption (sched : Sched) (limit : Option Nat) (reqs : List Nat) :
    (flat (Gate.run { inner := sched, limit := limit } reqs).2.inner).length +
      (Gate.run { inner := sched, limit := limit } reqs).2.taken = (flat sched).length := by
  simpa using run_taken reqs { inner := sched, limit := limit }

/-- (T) raw_gate_transparent_below_cap.  For EVERY schedule (failing calls and empty reads included) whose stream
has at most `cap` bytes (or with no cap at all) and in which no end-of-input result falls inside a UTF-16
character (`eofClean`), and every sequence of `read` calls with non-empty buffers: the consumer sees exactly the
results the reader itself would have given — same bytes in the same pieces, same errors, same `Ok(0)` — and the
reader is left in the same state. -/
theorem raw_gate_transparent_below_cap (sched : Sched) (limit : Option Nat) (reqs : List Nat)
    (hpos : ∀ n ∈ reqs, 0 < n) (hcap : ∀ cap, limit = some cap → (flat sched).length ≤ cap)
    (hclean : eofClean [] sched = true) :
    (Gate.run { inner := sched, limit := limit } reqs).1 = (readCalls sched reqs).1 ∧
    (Gate.run { inner := sched, limit := limit } reqs).2.inner = (readCalls sched reqs).2 := by
  apply run_transparent reqs { inner := sched, limit := limit } [] hpos
  · exact ⟨rfl, rfl, fun cap h => by simpa using hcap cap h⟩
  · exact hclean

/-- (T) input that does not begin with a UTF-16 byte-order mark (UTF-8 with or without its own mark, anything
shorter than two bytes) satisfies `eofClean` for every schedule: for such input `raw_gate_transparent_below_cap`
needs the size condition only -/
theorem not_utf16_is_clean (sched : Sched) (h : bomOf (flat sched) = none) : eofClean [] sched = true :=
  eofClean_not_utf16 sched [] (by simpa using h)

/-- (T) raw_gate_refuses_above_cap.  The reader delivers MORE than `cap` bytes, in any partition into non-empty
read results; the consumer makes any `read` calls with non-empty buffers.  Then its results are non-empty pieces
of the first `cap` bytes followed by `FileTooLarge` forever: never an end of input, never a byte beyond the cap;
the first refusal comes after exactly the first `cap` bytes, and a consumer that keeps reading (more than `cap`
calls) does meet it. -/
theorem raw_gate_refuses_above_cap (sched : Sched) (cap : Nat) (reqs : List Nat) (hc : chunked sched = true)
    (hpos : ∀ n ∈ reqs, 0 < n) (hlen : cap < (flat sched).length) :
    ∃ (chunks : List (List Nat)) (m : Nat),
      (Gate.run { inner := sched, limit := some cap } reqs).1 =
        chunks.map .ok ++ List.replicate m (.err kFileTooLarge) ∧
      (∀ c ∈ chunks, c ≠ []) ∧
      (∃ rest, chunks.flatten ++ rest = (flat sched).take cap ∧ (0 < m → rest = [])) ∧
      (cap < reqs.length → 0 < m) := by
  obtain ⟨chunks, m, e1, e2, ⟨rest, e3, e4⟩, e5⟩ := run_serves (over_serves cap) reqs
    { inner := sched, limit := some cap } hpos ⟨rfl, rfl, hc, by simp, by simpa using hlen⟩
  have e3' : chunks.flatten ++ rest = (flat sched).take cap := by simpa using e3
  exact ⟨chunks, m, e1, e2, ⟨rest, e3', e4⟩, error_reached e2 e3' (List.length_take_le _ _) e5⟩

/-- (T) utf16_truncation_is_error.  The raw input (delivered in any partition into non-empty read results, under
no cap or a cap it fits) starts with a UTF-16 mark and ends inside a character (`endsInsideChar`: an odd number of
bytes after the mark, or a high surrogate as last code unit).  Then the consumer gets the bytes in non-empty
pieces and after them `UnexpectedEof` on every call — never `Ok(0)`: the decoder is not told "end of input", so
it cannot flush a U+FFFD for the incomplete character as if the text were complete. -/
theorem utf16_truncation_is_error (sched : Sched) (limit : Option Nat) (reqs : List Nat) (hc : chunked sched = true)
    (hpos : ∀ n ∈ reqs, 0 < n) (hcap : ∀ cap, limit = some cap → (flat sched).length ≤ cap)
    (hcut : endsInsideChar (flat sched) = true) :
    ∃ (chunks : List (List Nat)) (m : Nat),
      (Gate.run { inner := sched, limit := limit } reqs).1 =
        chunks.map .ok ++ List.replicate m (.err kUnexpectedEof) ∧
      (∀ c ∈ chunks, c ≠ []) ∧
      (∃ rest, chunks.flatten ++ rest = flat sched ∧ (0 < m → rest = [])) ∧
      ((flat sched).length < reqs.length → 0 < m) := by
  obtain ⟨chunks, m, e1, e2, ⟨rest, e3, e4⟩, e5⟩ := run_serves (fits_serves (flat sched)) reqs
    { inner := sched, limit := limit } hpos ⟨hc, [], ⟨rfl, rfl, fun cap h => by simpa using hcap cap h⟩, rfl⟩
  rw [hcut, if_pos rfl] at e1
  exact ⟨chunks, m, e1, e2, ⟨rest, e3, e4⟩, error_reached e2 e3 (Nat.le_refl _) e5⟩

/-- (T) the flag `RawGate::at_end` tests IS the predicate, for every byte string and every way of handing it on
in pieces: after a fresh gate has noted `chunks.flatten`, `insideChar` = `endsInsideChar (chunks.flatten)` -/
theorem gate_flag_is_predicate (chunks : List (List Nat)) :
    (chunks.foldl (fun g c => g.noteAll c) ({ inner := [] } : Gate)).insideChar = endsInsideChar chunks.flatten := by
  have : ∀ (cs : List (List Nat)) (g : Gate), cs.foldl (fun g c => g.noteAll c) g = g.noteAll cs.flatten := by
    intro cs
    induction cs with
    | nil => intro g; rfl
    | cons c cs ih => intro g; simp only [List.foldl_cons, List.flatten_cons, noteAll_append]; exact ih _
  rw [this]
  exact flag_eq_spec _ _ rfl

/-- (T) which cut positions are "inside a character": the raw bytes of a UTF-16 text (`encode be us` = mark ++ code
units, LE or BE) cut `q` bytes after the mark.  An odd `q` is inside a code unit; `q = 2·(i+1)` is inside a
character exactly when the unit `us[i]` before the cut is a high surrogate; the complete text is inside a
character exactly when its last unit is a high surrogate. -/
theorem utf16_cut_positions (be : Bool) (us : List Nat) :
    (∀ q, q ≤ 2 * us.length → q % 2 = 1 → endsInsideChar ((encode be us).take (2 + q)) = true) ∧
    (∀ i u, us[i]? = some u → endsInsideChar ((encode be us).take (2 + 2 * (i + 1))) = isHigh u) ∧
    (endsInsideChar (encode be us) = true ↔ ∃ u, us.getLast? = some u ∧ isHigh u = true) := by
  have htake : ∀ q, (encode be us).take (2 + q) =
      (if be then [0xFE, 0xFF] else [0xFF, 0xFE]) ++ (us.flatMap (unitBytes be)).take q := by
    intro q
    unfold encode
    rw [show 2 + q = q + 1 + 1 by omega]
    cases be <;> simp [List.take_succ_cons]
  refine ⟨?_, ?_, ?_⟩
  · intro q hq hodd
    rw [htake, endsInsideChar_bom_append]
    exact cut_odd be _ q (by rw [unitBytes_flatMap_length]; exact hq) hodd
  · intro i u hu
    rw [htake, endsInsideChar_bom_append]
    exact cut_after_unit be us i u hu
  · unfold encode
    rw [endsInsideChar_bom_append]
    exact cut_complete be us

/-- (T) utf16_complete_is_clean.  A complete UTF-16 text (an even number of bytes after the mark, no dangling high
surrogate at the end), delivered with any chunking and any failing calls (no empty reads), under no cap or a cap
it fits, passes the gate unchanged: the consumer sees the reader's own results. -/
theorem utf16_complete_is_clean (be : Bool) (us : List Nat) (sched : Sched) (limit : Option Nat) (reqs : List Nat)
    (hne : noEmpty sched = true) (hflat : flat sched = encode be us)
    (hlast : ∀ u, us.getLast? = some u → isHigh u = false)
    (hpos : ∀ n ∈ reqs, 0 < n) (hcap : ∀ cap, limit = some cap → (flat sched).length ≤ cap) :
    (Gate.run { inner := sched, limit := limit } reqs).1 = (readCalls sched reqs).1 := by
  refine (raw_gate_transparent_below_cap sched limit reqs hpos hcap ?_).1
  rw [eofClean_noEmpty sched [] hne, List.nil_append, hflat]
  cases h : endsInsideChar (encode be us) with
  | false => rfl
  | true =>
    obtain ⟨u, hu, hh⟩ := (utf16_cut_positions be us).2.2.1 h
    rw [hlast u hu] at hh; cases hh

/-- (T) the gate's own errors are errors of the "underlying reader" in the sense of `reader_fault_sets_cell` /
`fault_surfaces_single` / `fault_surfaces_iter`: every error result of the gate is either the inner reader's own
error, passed on unchanged, or one of the two hard kinds `FileTooLarge` / `UnexpectedEof` — never an `Interrupted`
of its own making, which `ChunkedChars` would retry. -/
theorem gate_error_origin (g : Gate) (n : Nat) (k : IoKind) (h : (g.read n).1 = .err k) :
    (∃ want s, readCall want g.inner = (.err k, s)) ∨ k = kFileTooLarge ∨ k = kUnexpectedEof := by
  by_cases hn : n = 0
  · subst hn; simp [Gate.read] at h
  · -- an end of input inside a character is the gate's own `UnexpectedEof`
    have hend : ∀ g' : Gate, g'.atEnd = .err k → k = kUnexpectedEof := by
      intro g' he
      rcases atEnd_cases g' with h' | h' <;> rw [h'] at he <;> cases he
      rfl
    have hplain : ∀ want, (g.plain want).1 = .err k →
        (∃ want s, readCall want g.inner = (.err k, s)) ∨ k = kFileTooLarge ∨ k = kUnexpectedEof := by
      intro want hp
      cases hrc : readCall want g.inner with
      | mk r s =>
        rw [plain_eq hrc] at hp
        split at hp
        · exact Or.inr (Or.inr (hend _ hp))
        · exact Or.inl ⟨want, s, by rw [hrc, ← show r = .err k from hp]⟩
    rcases read_paths g n (by omega) with ⟨l, _, _, hr⟩ | ⟨_, hr⟩ | ⟨l, _, _, _, hr⟩ | ⟨l, _, _, _, hr⟩ <;> rw [hr] at h
    · cases h; exact Or.inr (Or.inl rfl)
    · exact hplain _ h
    · exact hplain _ h
    · rcases probe_spec g with ⟨k', s, hrc, he⟩ | ⟨s, _, he⟩ | ⟨b, s, _, he⟩ <;> rw [he] at h
      · cases h; exact Or.inl ⟨1, s, hrc⟩
      · exact Or.inr (Or.inr (hend _ h))
      · cases h; exact Or.inr (Or.inl rfl)

/-- (T) gate_fault_reaches_cell: `reader_fault_sets_cell` applies verbatim to the gate's two errors.  Whatever the
layers between the gate and `ChunkedChars` delivered before (any non-empty read results `pre`: the decoded text so
far), a failing call with the gate's `FileTooLarge` or `UnexpectedEof` leaves the shared cell set by the time
`ChunkedChars` reports the end — and then `fault_surfaces_single` / `fault_surfaces_iter` give `Err`. -/
theorem gate_fault_reaches_cell (pre post : Sched) (k : IoKind) (hc : chunked pre = true)
    (hk : k = kFileTooLarge ∨ k = kUnexpectedEof) :
    (collectAll { reader := pre ++ .fail k :: post }).2.cell ≠ none := by
  apply reader_fault_sets_cell pre post k hc
  rcases hk with rfl | rfl <;> decide

/-- (T) the composition on the decoder's pass-through path (UTF-8 without a mark: decoder and `BufReader` hand the
gate's results on as they are): an input of more than `cap` raw bytes, read by `ChunkedChars` through the gate with
more than `cap` calls, ends with the cell set — by `fault_surfaces_single` the call returns `Err`. -/
theorem gate_cap_refusal_recorded (sched : Sched) (cap : Nat) (reqs : List Nat) (hc : chunked sched = true)
    (hpos : ∀ n ∈ reqs, 0 < n) (hlen : cap < (flat sched).length) (hlong : cap < reqs.length) :
    (collectAll { reader := asSched (Gate.run { inner := sched, limit := some cap } reqs).1 }).2.cell ≠ none := by
  obtain ⟨chunks, m, e1, e2, _, e4⟩ := raw_gate_refuses_above_cap sched cap reqs hc hpos hlen
  obtain ⟨m', rfl⟩ : ∃ m', m = m' + 1 := ⟨m - 1, by have := e4 hlong; omega⟩
  rw [e1, asSched_oks_errs]
  exact gate_fault_reaches_cell _ _ _ (chunked_map_data chunks e2) (Or.inl rfl)

/-- (T) raw_gate_drained: the consumer of the differential run (`Gate.drain`: buffers of `n > 0` bytes until the
first end of input or hard error — the `iofault gate` answers of the model driver) over a reader that delivers its
bytes in any partition into non-empty read results.  More than `cap` bytes: exactly the first `cap` bytes, then
`FileTooLarge`, exactly `cap + 1` bytes taken.  At most `cap` bytes (or no cap): all bytes, all of them taken, and
the end is `UnexpectedEof` exactly when the input ends inside a UTF-16 character, a clean end otherwise. -/
theorem raw_gate_drained (sched : Sched) (n fuel : Nat) (hn : 0 < n) (hc : chunked sched = true) :
    (∀ cap, cap < (flat sched).length → cap < fuel →
      Gate.drain n fuel { inner := sched, limit := some cap } =
        ((flat sched).take cap, some kFileTooLarge, (Gate.drain n fuel { inner := sched, limit := some cap }).2.2) ∧
      (Gate.drain n fuel { inner := sched, limit := some cap }).2.2.taken = cap + 1) ∧
    (∀ limit, (∀ cap, limit = some cap → (flat sched).length ≤ cap) → (flat sched).length < fuel →
      Gate.drain n fuel { inner := sched, limit := limit } =
        (flat sched, if endsInsideChar (flat sched) then some kUnexpectedEof else none,
          (Gate.drain n fuel { inner := sched, limit := limit }).2.2) ∧
      (Gate.drain n fuel { inner := sched, limit := limit }).2.2.taken = (flat sched).length) := by
  constructor
  · intro cap hlen hf
    have hmin : min cap (flat sched).length = cap := Nat.min_eq_left (Nat.le_of_lt hlen)
    obtain ⟨a, b, c⟩ := drain_serves (over_serves cap) n hn (Or.inr ⟨_, rfl, by decide, rfl⟩) fuel
      { inner := sched, limit := some cap } ⟨rfl, rfl, hc, by simp, by simpa using hlen⟩ (by simpa [hmin] using hf)
    refine ⟨?_, by simpa [hmin] using c⟩
    apply Prod.ext
    · simpa using a
    · apply Prod.ext
      · exact b
      · rfl
  · intro limit hcap hf
    obtain ⟨a, b, c⟩ := drain_serves (fits_serves (flat sched)) n hn
      (e := if endsInsideChar (flat sched) then some kUnexpectedEof else none)
      (by cases endsInsideChar (flat sched) <;> simp <;> decide) fuel
      { inner := sched, limit := limit } ⟨hc, [], ⟨rfl, rfl, fun cap h => by simpa using hcap cap h⟩, rfl⟩ hf
    refine ⟨?_, by simpa using c⟩
    apply Prod.ext
    · exact a
    · apply Prod.ext
      · simpa using b
      · rfl

/-- (E) `a: xyz` in UTF-16LE minus its last byte, read in 1-byte pieces with 4-byte buffers:
13 bytes, then `UnexpectedEof` on every further call -/
example : (Gate.run { inner := [.data [0xFF], .data [0xFE, 0x61], .data [0, 0x3A, 0, 0x20, 0, 0x78, 0, 0x79, 0, 0x7A]] }
    [4, 4, 4, 4, 4, 4, 4]).1 =
    [.ok [0xFF], .ok [0xFE, 0x61], .ok [0, 0x3A, 0, 0x20], .ok [0, 0x78, 0, 0x79], .ok [0, 0x7A],
     .err kUnexpectedEof, .err kUnexpectedEof] := by decide +kernel
/-- (E) the complete text is clean; cut after the high half of U+1F600 (`3D D8 | 00 DE`, LE and BE) it is not -/
example : endsInsideChar [0xFF, 0xFE, 0x61, 0, 0x3D, 0xD8, 0x00, 0xDE] = false ∧
    endsInsideChar [0xFF, 0xFE, 0x61, 0, 0x3D, 0xD8] = true ∧
    endsInsideChar [0xFE, 0xFF, 0, 0x61, 0xD8, 0x3D] = true ∧
    endsInsideChar [0xFE, 0xFF, 0, 0x61, 0xD8, 0x3D, 0xDE] = true ∧
    endsInsideChar [0xEF, 0xBB, 0xBF, 0xC3] = false := by decide +kernel
/-- (E) `encode` / cut positions on a non-trivial instance: `a😀` -/
example : encode false [0x61, 0xD83D, 0xDE00] = [0xFF, 0xFE, 0x61, 0, 0x3D, 0xD8, 0x00, 0xDE] ∧
    endsInsideChar ((encode true [0x61, 0xD83D, 0xDE00]).take (2 + 2 * (1 + 1))) = isHigh 0xD83D := by decide +kernel
/-- (E) the cap: 5 raw bytes under cap 3 (reader gives 2-byte pieces): 3 bytes, `FileTooLarge`, 4 bytes taken;
under cap 5 the same reader passes unchanged and the probe sees the end of input -/
example : (Gate.run { inner := [.data [1, 2], .data [3, 4], .data [5]], limit := some 3 } [8, 8, 8, 8]).1 =
      [.ok [1, 2], .ok [3], .err kFileTooLarge, .err kFileTooLarge] ∧
    (Gate.run { inner := [.data [1, 2], .data [3, 4], .data [5]], limit := some 3 } [8, 8, 8, 8]).2.taken = 4 ∧
    (Gate.run { inner := [.data [1, 2], .data [3, 4], .data [5]], limit := some 5 } [8, 8, 8, 8]).1 =
      [.ok [1, 2], .ok [3, 4], .ok [5], .ok []] ∧
    (Gate.run { inner := [.data [1, 2], .data [3, 4], .data [5]], limit := some 5 } [8, 8, 8, 8]).2.taken = 5 := by decide +kernel
/-- (E) hypotheses of the transparency theorem on a schedule with a failing call and an empty read -/
example : eofClean [] [.data [0x61], .fail kInterrupted, .data [], .data [0x62]] = true ∧
    (Gate.run { inner := [.data [0x61], .fail kInterrupted, .data [], .data [0x62]], limit := some 2 } [4, 4, 4, 4, 4]).1 =
      (readCalls [.data [0x61], .fail kInterrupted, .data [], .data [0x62]] [4, 4, 4, 4, 4]).1 := by decide +kernel
/-- (E) `ChunkedChars` behind the gate on the pass-through path: `ab€` (5 bytes) under cap 3 ends with `FileTooLarge`
in the cell after `ab` -/
example : (collectAll { reader := asSched (Gate.run { inner := [.data [0x61, 0x62, 0xE2, 0x82, 0xAC]], limit := some 3 } [8, 8, 8, 8]).1 }).1 = ['a', 'b'] ∧
    (collectAll { reader := asSched (Gate.run { inner := [.data [0x61, 0x62, 0xE2, 0x82, 0xAC]], limit := some 3 } [8, 8, 8, 8]).1 }).2.cell = some kFileTooLarge := by decide +kernel
/-- (E) the draining consumer on truncated UTF-16 and on a UTF-16 input of 14 raw bytes under
cap 7 (its 6 decoded bytes would fit) -/
example : (Gate.drain 8192 20 { inner := [.data [0xFF, 0xFE, 0x61, 0, 0x3A, 0, 0x20, 0, 0x78, 0, 0x79, 0, 0x7A]] }).2.1 = some kUnexpectedEof ∧
    (Gate.drain 8192 20 { inner := [.data [0xFF, 0xFE, 0x61, 0, 0x3A, 0, 0x20, 0, 0x78, 0, 0x79, 0, 0x7A, 0]], limit := some 7 }).2.1 = some kFileTooLarge ∧
    (Gate.drain 8192 20 { inner := [.data [0xFF, 0xFE, 0x61, 0, 0x3A, 0, 0x20, 0, 0x78, 0, 0x79, 0, 0x7A, 0]], limit := some 7 }).2.2.taken = 8 ∧
    (Gate.drain 8192 20 { inner := [.data [0xFF, 0xFE, 0x61, 0, 0x3A, 0, 0x20, 0, 0x78, 0, 0x79, 0, 0x7A, 0]], limit := some 14 }).2.1 = none := by decide +kernel

end Gate

/-! ### the pipeline: the gate owns the limit, `ChunkedChars` behind it has none (fixes cbb7ef9, 784e913)

Since fix 784e913 `buffered_input_from_reader_with_limit` gives `ChunkedChars` no cap of its own; since fix cbb7ef9
UTF-8 input with a byte-order mark is handed on by the decoder as it is (minus the mark), like unmarked UTF-8.
So for UTF-8 the pipeline is `ChunkedChars` (cap-less) over the gate's results (`asSched`), and for every
encoding everything behind the gate is a function of the gate's results. -/

section Pipeline
open SaphyrVerif.Lemmas.C10Gate SaphyrVerif.Lemmas.C10Pipe SaphyrVerif.Spec.Utf8

/-- (T) pipeline_cap_inactive_below (`cap_inactive_below` for the pipeline).  For EVERY byte string in EVERY
encoding (UTF-8 with or without mark, UTF-16, cut inside a character or not), every schedule of the caller's
reader (failing calls, empty reads), every sequence of non-empty `read` calls: if the RAW input has at most `cap`
bytes, the consumer of the gate sees exactly the results it sees with no cap at all — so everything behind the
gate (decoder, `BufReader`, the cap-less `ChunkedChars`, the scanner) behaves as without a cap; spelled out for
`ChunkedChars` reading the gate's results directly. -/
theorem pipeline_cap_inactive_below (sched : Sched) (cap : Nat) (reqs : List Nat) (hpos : ∀ n ∈ reqs, 0 < n)
    (hfit : (flat sched).length ≤ cap) :
    (Gate.run { inner := sched, limit := some cap } reqs).1 = (Gate.run { inner := sched } reqs).1 ∧
    collectAll { reader := asSched (Gate.run { inner := sched, limit := some cap } reqs).1 } =
      collectAll { reader := asSched (Gate.run { inner := sched } reqs).1 } := by
  have h := run_cap_inactive cap reqs { inner := sched, limit := some cap } hpos rfl rfl (by simpa using hfit)
  have h' : (Gate.run { inner := sched, limit := some cap } reqs).1 = (Gate.run { inner := sched } reqs).1 := h
  exact ⟨h', by rw [h']⟩

/-- (T) pipeline_cap_refusal_file_too_large (extends `gate_cap_refusal_recorded` to a refusal in the middle of a code
point).  The reader delivers MORE than `cap` raw bytes (any partition into non-empty read results) whose first `cap`
bytes are the beginning of a well-formed UTF-8 text — possibly ending in the middle of a character; the cap-less
`ChunkedChars` reads the gate's results (more than `cap` calls).  Up to the first `None` of `next_char` it yields
exactly the characters completed within the limit (`take cap = encode chars ++ cut`, `cut` the bytes of the
character the limit falls into, which begins no well-formed character) and the cell holds `FileTooLarge` — not
`unexpected EOF in middle of UTF-8 codepoint`: the continuation loop stores the `Err` it receives.  `collect`
(which goes on after a synthetic break) ends with the cell set, and with `FileTooLarge` when the last line is not
a directive line. -/
theorem pipeline_cap_refusal_file_too_large (sched : Sched) (cap : Nat) (reqs : List Nat) (hc : chunked sched = true)
    (hpos : ∀ n ∈ reqs, 0 < n) (hlen : cap < (flat sched).length) (hlong : cap < reqs.length)
    (cs : List Char) (tail : List Nat) (hwf : (flat sched).take cap ++ tail = encode cs)
    (fuel : Nat) (hfuel : cap < fuel) :
    let cc : CC := { reader := asSched (Gate.run { inner := sched, limit := some cap } reqs).1 }
    (collectRaw fuel cc).2.cell = some kFileTooLarge ∧
    (∃ cut, (flat sched).take cap = encode (collectRaw fuel cc).1 ++ cut ∧ (cut ≠ [] → ¬ StartsWithChar cut)) ∧
    (collect fuel cc).2.cell ≠ none ∧
    ((collectRaw fuel cc).2.inDirectiveLine = false → (collect fuel cc).2.cell = some kFileTooLarge) := by
  intro cc
  obtain ⟨chunks, m, e1, e2, ⟨rest, e3, e4⟩, e5⟩ := raw_gate_refuses_above_cap sched cap reqs hc hpos hlen
  obtain ⟨m', rfl⟩ : ∃ m', m = m' + 1 := ⟨m - 1, by have := e5 hlong; omega⟩
  have hrest := e4 (by omega)
  subst hrest
  simp only [List.append_nil] at e3
  have hreader : cc.reader = chunks.map .data ++ .fail kFileTooLarge :: asSched (List.replicate m' (.err kFileTooLarge)) := by
    show asSched _ = _
    rw [e1, asSched_oks_errs]
  have hflat : flat (chunks.map RItem.data) = (flat sched).take cap := by rw [flat_map_data, e3]
  have hl : (flat (chunks.map RItem.data)).length < fuel := by
    rw [hflat, List.length_take]; omega
  have hgood : (flatDecode fuel (flat (chunks.map RItem.data))).2.1 ≠ some kInvalidData := by
    rw [hflat]
    exact flatDecode_prefix_ok fuel cs _ tail hwf (by rw [List.length_take]; omega)
  obtain ⟨c1, c2⟩ := collectRaw_fault kFileTooLarge (by decide) _ fuel cc _ hreader (chunked_map_data chunks e2) rfl hl
  rw [if_neg hgood] at c2
  obtain ⟨s1, s2, s3⟩ := flatDecode_spec fuel ((flat sched).take cap) (by rw [List.length_take]; omega)
  rw [hflat] at c1
  have hchars : ((collectRaw fuel cc).1).length < fuel := by
    have := collectRaw_len fuel cc
    have hb : (flat cc.reader).length = (List.take cap (flat sched)).length := by
      rw [hreader, flat_append, hflat]; simp [flat, flat_asSched_errs]
    rw [hb, List.length_take] at this
    omega
  obtain ⟨_, _, g2, g3, _⟩ := collect_seg_general fuel cc hchars
  refine ⟨c2, ⟨_, by rw [c1]; exact s1, s3⟩, ?_, ?_⟩
  · have := g2 (by rw [c2]; rfl)
    intro hn; rw [hn] at this; simp at this
  · intro hd; rw [g3 hd, c2]

/-- (E) `ab€` (5 bytes) under cap 3 — the limit falls INSIDE `€`: `ab` is delivered, the cell holds `FileTooLarge`
(not `UnexpectedEof`), 4 bytes taken from the reader -/
example : (collectAll { reader := asSched (Gate.run { inner := [.data [0x61, 0x62], .data [0xE2, 0x82, 0xAC]], limit := some 3 } [8, 8, 8, 8]).1 }).1 = ['a', 'b'] ∧
    (collectAll { reader := asSched (Gate.run { inner := [.data [0x61, 0x62], .data [0xE2, 0x82, 0xAC]], limit := some 3 } [8, 8, 8, 8]).1 }).2.cell = some kFileTooLarge ∧
    (Gate.run { inner := [.data [0x61, 0x62], .data [0xE2, 0x82, 0xAC]], limit := some 3 } [8, 8, 8, 8]).2.taken = 4 ∧
    [0x61, 0x62, 0xE2] ++ [0x82, 0xAC] = encode ['a', 'b', '€'] := by decide +kernel
/-- (E) UTF-16LE `a: 日本` (12 raw bytes, 10 once decoded) under cap 12: the gate's results are those without a cap
(oracle class `C10-utf16-decoded-cap-rejects-small-input`: the input fits by its RAW size) -/
example : (Gate.run { inner := [.data [0xFF, 0xFE, 0x61, 0, 0x3A, 0, 0x20, 0], .data [0xE5, 0x65, 0x2C, 0x67]], limit := some 12 } [8, 8, 8]).1 =
    (Gate.run { inner := [.data [0xFF, 0xFE, 0x61, 0, 0x3A, 0, 0x20, 0], .data [0xE5, 0x65, 0x2C, 0x67]] } [8, 8, 8]).1 := by decide +kernel

end Pipeline

/-- (T) writer_fault_prefix.  For EVERY chunk sequence of the serializer and EVERY schedule of `write`
results (short writes, `Interrupted`, zero-length accepts, hard failures): what the target accepted is a
prefix of the fault-free output; `Ok` means everything was written; and as soon as one `write_all` fails
the call returns the remembered I/O error — never `Ok`, never the bare formatting error. -/
theorem writer_fault_prefix (chunks : List (List Nat)) (own : Bool) (w : W) (hw : w.lastErr = none) :
    (∃ rest, w.written ++ chunks.flatten = (toIoWriter chunks own w).2.written ++ rest) ∧
    ((toIoWriter chunks own w).1 = .ok → (toIoWriter chunks own w).2.written = w.written ++ chunks.flatten) ∧
    ((emitChunks chunks w).1 = true ↔ ∃ k, (toIoWriter chunks own w).1 = .io k) := by
  unfold toIoWriter
  cases he : emitChunks chunks w with
  | mk f w' =>
    have hs := emitChunks_spec chunks w w' f he
    cases f with
    | true =>
      obtain ⟨⟨rest, h1⟩, h2⟩ := hs.2 rfl
      cases hl : w'.lastErr with
      | none => simp [hl] at h2
      | some k =>
        simp only [hl]
        exact ⟨⟨rest, h1⟩, fun h => by simp at h, fun _ => ⟨k, rfl⟩, fun _ => trivial⟩
    | false =>
      obtain ⟨h1, h2⟩ := hs.1 rfl
      rw [hw] at h2
      simp only [h2]
      cases own with
      | true =>
        exact ⟨⟨[], by simp [h1]⟩, fun h => by simp at h, fun h => by simp at h, fun ⟨k, h⟩ => by simp at h⟩
      | false =>
        exact ⟨⟨[], by simp [h1]⟩, fun _ => h1, fun h => by simp at h, fun ⟨k, h⟩ => by simp at h⟩

/-- (E) the third write fails: the I/O error comes back and exactly the first two chunks were accepted -/
example : toIoWriter [[1, 2], [3], [4, 5], [6]] false { sched := [.accept 9, .accept 9, .fail 5] } =
    (.io 5, { sched := [], written := [1, 2, 3] }) := by decide +kernel
/-- (E) short writes and an interrupted call are absorbed by `write_all` -/
example : (toIoWriter [[1, 2, 3], [4]] false { sched := [.accept 1, .fail kInterrupted, .accept 1] }).1 = .ok ∧
    (toIoWriter [[1, 2, 3], [4]] false { sched := [.accept 1, .fail kInterrupted, .accept 1] }).2.written = [1, 2, 3, 4] := by
  decide +kernel
/-- (E) a target that accepts nothing: `WriteZero`, nothing written -/
example : toIoWriter [[1, 2]] false { sched := [.accept 0] } = (.io kWriteZero, { sched := [], written := [] }) := by decide +kernel

end SaphyrVerif.Props.C10
