import SaphyrVerif.Lemmas.C14_Ser
import SaphyrVerif.Lemmas.C14_De
import SaphyrVerif.Lemmas.C14_Rec
import SaphyrVerif.Lemmas.C14_Flat3
import SaphyrVerif.Props.C02
/-!
# C14 — shared-pointer topology survives the round trip through anchors and aliases

Theorems about `Model/Anchors.lean` (serializer: `alloc_anchor_for` + `pending_anchor_id` + the
`__yaml_anchor` / `__yaml_weak_anchor` tuple arms; deserializer: the thread-local `AnchorState`, the
`__yaml_*` newtype arms, the wrapper `Deserialize` impls, the pump's alias arm).

Physical pointer identity (`Rc::ptr_eq`) is a run-time observation: here a pointer is a number (the
original address renamed / a fresh allocation counter), and the tie to the code is the differential run
(`harness/src/anchors.rs`).

State of the findings of this property (see `known_findings.json`):
* repaired — the pending anchor is written by `null` (`None`, `()`, dangling weak) and by enum
  variants with data (before the variant key); a wrapper directly inside a wrapper shares the id of the
  outer one (`anchor_on_null_variant_and_nested_wrapper`, `shared_none_roundtrip`);
* repaired — a dangling weak (`null`) reads back as a dangling weak, and a weak wrapper never sees the
  anchor of an enclosing wrapper (`dangling_weak_reads_back`, `unanchored_weak_is_dangling_or_error`);
* repaired — `ArcRecursive` locks its cell only while it writes the definition: the serializer never
  locks a mutex it holds (`ser_never_deadlocks`);
* repaired (63913c0) — a block scalar cannot carry an anchor: the block-scalar path of `serialize_str`
  drops the pending anchor and forgets the pointer, so a block-scalar payload is written in full at every
  occurrence and no later node ever receives a foreign anchor (`no_anchor_left_pending`,
  `block_scalar_payload_written_in_full`);
* repaired (afd0262) — every wrapper, strong or weak, gets an anchor context of its own: a wrapper whose
  node has no anchor builds a fresh, unshared pointer and never takes the id of an enclosing wrapper
  (`unanchored_strong_is_fresh`, `nested_unanchored_wrappers_are_independent`,
  `block_payload_inside_anchored_wrapper`);
* still known — the sharing of a block-scalar payload is lost on the round trip (values are right):
  `block_scalar_roundtrip_loses_sharing`, `ser_defines_once_counterexample`;
* limitations (errors, never wrong sharing): a weak edge met before its strong owner
  (`weak_before_strong_fails`), an inner wrapper that is already anchored when its outer wrapper is first
  written (`nested_wrapper_alias_is_refused`), same-kind wrappers directly inside each other.
-/
namespace SaphyrVerif.Props.C14
open SaphyrVerif SaphyrVerif.Anchors SaphyrVerif.Spec.Anchors SaphyrVerif.Lemmas.C14

/-- more fuel never changes a finished serialization -/
theorem ser_fuel_mono (H : Heap) (fuel k : Nat) (s : SerSt) (v : Val) (r : Out × SerSt)
    (h : serVal fuel H s v = .ok r) : serVal (fuel + k) H s v = .ok r := by
  induction k with
  | zero => exact h
  | succ k ih => exact ser_fuel_succ H (fuel + k) s v r ih

/-- (T, all graphs, no hypothesis) every anchor mark and every alias of the output carries an id in
`1 … next_anchor_id - 1`, and the pointer table only holds such ids. -/
theorem ser_ids_in_range (fuel : Nat) (H : Heap) (v : Val) (o : Out) (s' : SerSt)
    (h : serialize fuel H v = .ok (o, s')) :
    idsBelow s'.next o = true ∧ TableOK s' := by
  have := (serVal_ser H fuel {} v o s' h).range .init
  exact ⟨this.ids, this.tab⟩

/-- (T, C01 panic-site obligation) `write_anchor_name`'s `id as usize - 1` never underflows for an id
in range, and the index is inside `custom_anchor_names` (one name per allocated id), so the
"out of sync" fallback is dead code. With `ser_ids_in_range` this covers every id the serializer writes. -/
theorem anchor_name_index_in_range (s : SerSt) (id : Nat) (h1 : 1 ≤ id) (h2 : id < s.next) :
    anchorNameIndex s id = some (id - 1, true) := by
  have h0 : id ≠ 0 := by omega
  have h3 : id - 1 < s.next - 1 := by omega
  simp [anchorNameIndex, h0, h3]

/-- (T, all graphs, no hypothesis; C01 totality) **ser_never_deadlocks**: the serializer never locks an
`ArcRecursive` mutex that an enclosing `Serialize` call of the same thread still holds — a cell is locked
only while its definition is written, and a cell being defined is already in the pointer table, so every
further occurrence is an alias. (Before the repair the graph `dlH`/`dlV` below never returned.) -/
theorem ser_never_deadlocks (fuel : Nat) (H : Heap) (v : Val) : serialize fuel H v ≠ .error .deadlock :=
  fun h => ser_nodl H fuel {} v _ h nofun .init rfl

/-- (T, all graphs, all states, no hypothesis) **no_anchor_left_pending**: whenever a value has been
written, `pending_anchor_id` is empty — scalars, `null`, sequences, maps and variants take it, a block
scalar drops it (and forgets the pointer), an alias is only written when nothing is pending.  So no
anchor can ever land on a later, unrelated node: the invariant all the repairs of this property
establish. -/
theorem no_anchor_left_pending (fuel : Nat) (H : Heap) (s : SerSt) (v : Val) (o : Out) (s' : SerSt)
    (h : serVal fuel H s v = .ok (o, s')) : s'.pending = none :=
  (serVal_ser H fuel s v o s' h).clear

/-- (T) **ser_defines_once**: when no payload of a shared allocation is a block scalar (which cannot
carry an anchor: its pointer is forgotten and its id never written, so the ids are not dense) or another
wrapper (which shares node and id with its outer wrapper), the document is well scoped: the anchor marks are `&1, &2, … &n` in order of appearance — each
id defined exactly once, ids dense from 1 — every alias `*i` appears after `&i`, nothing is left in
`pending_anchor_id`, and distinct pointers got distinct ids (so: one definition per shared node, an
alias at every other occurrence). -/
theorem ser_defines_once (fuel : Nat) (H : Heap) (hH : AnchorTaking H) (v : Val) (o : Out) (s' : SerSt)
    (h : serialize fuel H v = .ok (o, s')) :
    wellScoped o 0 = some (s'.next - 1) ∧ s'.pending = none ∧ TableInj s' := by
  have p := (serVal_ser H fuel {} v o s' h).scoped hH (Or.inl rfl) .init nofun
  have e : emitted ({} : SerSt) = 0 := by simp [emitted]
  have q := p.wsc
  rw [e] at q
  exact ⟨q, (serVal_ser H fuel {} v o s' h).clear, p.inj⟩

/-- the statement without the hypothesis on payloads -/
def ser_defines_once_Full : Prop :=
  ∀ (fuel : Nat) (H : Heap) (v : Val) (o : Out) (s' : SerSt),
    serialize fuel H v = .ok (o, s') → wellScoped o 0 = some (s'.next - 1)

def outToks (r : Except SerErr (Out × SerSt)) : Option (List Tok) :=
  match r with
  | .ok (o, _) => some (render o)
  | .error _ => none

/-- witness: `{x: p, z: 7, w: p}` where `*p` is a multi-line `String` (block scalar) -/
def lostH : Heap := [(1, .leaf .block)]
def lostV : Val := .node true [.strong .rc 3 1, .leaf (.int 7), .strong .rc 3 1]

/-- (T, behaviour after 63913c0) the block-scalar payload is written in full at both occurrences,
without anchor or alias, and the plain field `z` carries no anchor: `x: |…`, `z: 7`, `w: |…`. -/
theorem block_scalar_payload_written_in_full :
    outToks (serialize 5 lostH lostV) =
      some [.key, .block, .key, .int 7, .key, .block] := by decide +kernel

def scopedOk (r : Except SerErr (Out × SerSt)) : Bool :=
  match r with
  | .ok (o, s') => wellScoped o 0 == some (s'.next - 1)
  | .error _ => true

/-- (F) counterexample to `ser_defines_once_Full`: the id allocated for a block-scalar payload is never
written, so the anchors of the document are not `&1 … &n` -/
theorem ser_defines_once_counterexample : ¬ ser_defines_once_Full := by
  intro h
  -- a single shared block scalar: its id is allocated and never written
  have hk : scopedOk (serialize 5 lostH (.node true [.strong .rc 3 1])) = false := by decide +kernel
  cases hs : serialize 5 lostH (.node true [.strong .rc 3 1]) with
  | error e => rw [hs] at hk; cases hk
  | ok r =>
    obtain ⟨o, s'⟩ := r
    rw [hs] at hk
    have := h 5 lostH _ o s' hs
    simp [scopedOk, this] at hk

/-- (T, regression of the repaired defect) a shared `None`, a shared enum variant with data and a wrapper
directly inside a wrapper now carry their anchor: `x: &a1 null`, `y: *a1`, `z: 7`;
`x: &a1` / `New: 3`; `&a1 5` for both pointers of the nested pair. -/
theorem anchor_on_null_variant_and_nested_wrapper :
    outToks (serialize 5 [(1, .leaf .null)] (.node true [.strong .rc 4 1, .strong .rc 4 1, .leaf (.int 7)])) =
      some [.key, .anchor 1, .null, .key, .alias 1, .key, .int 7] ∧
    outToks (serialize 5 [(1, .node true [.leaf (.int 3)])] (.node true [.strong .rc 5 1, .strong .rc 5 1])) =
      some [.key, .anchor 1, .key, .int 3, .key, .alias 1] ∧
    outToks (serialize 5 [(1, .strong .arc 2 2), (2, .leaf (.int 5))]
        (.node true [.strong .rc 7 1, .strong .rc 7 1, .strong .arc 2 2])) =
      some [.key, .anchor 1, .int 5, .key, .alias 1, .key, .alias 1] := by decide +kernel

def serCode (r : Except SerErr (Out × SerSt)) : Nat :=
  match r with
  | .ok _ => 0
  | .error .fuel => 1
  | .error .deadStrong => 2
  | .error .deadlock => 3
  | .error .aliasNeedsAnchor => 4

/-- (limitation, an error) the inner pointer of a nested pair is already anchored when the outer wrapper
is first written: the node would have to be `*a1` and define `&a2` at once — refused -/
theorem nested_wrapper_alias_is_refused :
    serCode (serialize 5 [(1, .strong .arc 2 2), (2, .leaf (.int 5))]
      (.node true [.strong .arc 2 2, .strong .rc 7 1])) = 4 := by decide +kernel

/-- the former deadlock witness: `ArcRecursive` cells c0 → c2 ← c1 (a DAG of strong edges) and one weak
edge c2 ⇢ c1; serializing `[c0, c1]` defines c1 at the weak site while c2 is locked and then meets the
strong edge c1 → c2 -/
def dlH : Heap :=
  [(10, .node true [.leaf (.int 1), .node false [.strong .arcRec 10 12]]),
   (11, .node true [.leaf (.int 2), .node false [.strong .arcRec 10 12]]),
   (12, .node true [.leaf (.int 3), .node false [.weak .arcRec 10 11]])]
def dlV : Val := .node false [.strong .arcRec 10 10, .strong .arcRec 10 11]

/-- (T, regression) it now serializes: c2 inside c1 is the alias `*a2` -/
theorem arc_recursive_relock_serializes : outToks (serialize 20 dlH dlV) =
    some [.dash, .anchor 1, .key, .int 1, .key, .dash, .anchor 2, .key, .int 3, .key, .dash, .anchor 3,
          .key, .int 2, .key, .dash, .alias 2, .dash, .alias 3] := by decide +kernel

/-- (T) **replay_keeps_definition_id** (C02): the events an alias delivers are the recorded buffer of
its anchor — copies of the definition's events, carrying the definition's anchor ids.  This is what
lets `peek_anchor_id` find the same id at the alias site as at the definition. -/
theorem replay_keeps_definition_id (σ : Spec.Tab) (opn : List Nat) (id : Nat) (loc : Loc) (r : Spec.Exp)
    (h : Spec.expand σ opn (.alias id loc) = .ok r) : Pump.lookupAnchor σ id = some r.evs ∧ r.tab = σ :=
  Props.C02.alias_expansion_is_buffer σ opn id loc r h

/-- in the model of this property: what an alias delivers is the recorded node of that id, or — for an
anchor still open under a recursive wrapper — the null placeholder carrying the id -/
theorem alias_delivers_recorded (s : DeSt) (id : Nat) (sub : Out) (h : resolveAlias s id = .ok sub) :
    s.defs.lookup id = some sub ∨ (sub = .leaf id .null ∧ s.opn.contains id = true) := by
  unfold resolveAlias at h
  split at h
  · rename_i ho
    split at h
    · simp only [Except.ok.injEq] at h
      exact Or.inr ⟨h.symm, ho⟩
    · cases h
  · split at h
    · cases h
    · rename_i sub' hl
      simp only [Except.ok.injEq] at h
      subst h
      exact Or.inl hl

/-- (T) a weak wrapper never invents a pointer: whenever it succeeds, the result is either a dangling
weak or a pointer that the store already holds for some anchor id under the wrapper's kind, with the same
`TypeId` — "weak edges upgrade to a rebuilt owner" — and the store is left as it was. -/
theorem weak_upgrades_to_stored_owner (k : Kind) (tid : Nat) (o : Out) (s : DeSt) (v : RVal) (e : Out)
    (s' : DeSt) (h : de (.weak k tid) o s = .ok (v, e, s')) :
    (v = .weakNull k ∨ ∃ id q, s.store.lookup (k, id) = some (q, tid) ∧ v = .weak k q) ∧
      s'.store = s.store := by
  have fin : ∀ (onAlias : Ty → Nat → DeSt → DeRes) (live : Bool) (o : Out), (∀ j, o ≠ .alias j) →
      deCore onAlias live (.weak k tid) o s = .ok (v, e, s') →
      (v = .weakNull k ∨ ∃ id q, s.store.lookup (k, id) = some (q, tid) ∧ v = .weak k q) ∧
        s'.store = s.store := by
    intro onAlias live o hna h
    rcases weak_node_ok onAlias live k tid o hna s v e s' h with ⟨_, _, hv, _, hs⟩ | ⟨_, q, h2, h3, h4⟩
    · exact ⟨Or.inl hv, by rw [hs]⟩
    · exact ⟨Or.inr ⟨_, q, h2, h3⟩, h4⟩
  cases o with
  | alias id =>
    obtain ⟨sub, _, h⟩ := de_alias_ok.mp h
    cases sub with
    | alias j => cases h
    | leaf a lk => exact fin noAlias false _ (by intro j; simp) h
    | node a m items => exact fin noAlias false _ (by intro j; simp) h
  | leaf a lk => exact fin onAliasLive true _ (by intro j; simp) h
  | node a m items => exact fin onAliasLive true _ (by intro j; simp) h

/-- (T, regression of the repaired defect) **dangling_weak_reads_back**: `null` without an anchor reads
back as a dangling weak through every weak wrapper type, in every state — also nested inside an
anchored wrapper — and leaves the state untouched. -/
theorem dangling_weak_reads_back (k : Kind) (tid : Nat) (s : DeSt) :
    de (.weak k tid) (.leaf 0 .null) s = .ok (.weakNull k, .leaf 0 .null, s) :=
  de_weak_dangling k tid s

/-- (T) a weak wrapper on a node without an anchor never takes the anchor of an enclosing wrapper: it
succeeds only on `null`, as a dangling weak (the former behaviour "an unanchored weak inside an anchored
wrapper silently points to that wrapper" is gone). -/
theorem unanchored_weak_is_dangling_or_error (k : Kind) (tid : Nat) (o : Out) (hna : ∀ id, o ≠ .alias id)
    (ha : o.rootAnchor = 0) (s : DeSt) (v : RVal) (e : Out) (s' : DeSt)
    (h : de (.weak k tid) o s = .ok (v, e, s')) : o.isNull = true ∧ v = .weakNull k ∧ s' = s := by
  rcases weak_node_ok onAliasLive true k tid o hna s v e s' h with ⟨_, hn, hv, _, hs⟩ | ⟨hne, _⟩
  · exact ⟨hn, hv, hs⟩
  · exact absurd ha hne

def rtCode : RtRes → Nat
  | .ok .. => 0
  | .serErr _ => 1
  | .deErr .weakNoAnchor => 10
  | .deErr .weakUnknown => 11
  | .deErr .recNeedsWeak => 12
  | .deErr .unknownAnchor => 13
  | .deErr .typeReuse => 14
  | .deErr .shape => 15
  | .deErr .internal => 16
  | .noType => 2

/-- a successful round trip as numbers, for the closed examples: the code of the rebuilt value and of every cell of
the rebuilt heap; the legend is `RVal.code` (Spec/Anchors.lean: `3 :: n :: …` a node of `n` items, `4`/`5`/`6` strong /
weak / dangling weak, `0`/`1`/`2` leaves) -/
def rtVal (r : RtRes) : Option (List Nat × List (Ptr × Option (List Nat))) :=
  match r with
  | .ok v s => some (v.code, s.heap.map fun (q, c) => (q, c.map RVal.code))
  | _ => none

/-- (F, the remaining known finding `C14-anchor-not-on-block-scalar`) reading the document of
`block_scalar_payload_written_in_full` back: both fields hold the block scalar (values right, `z` is 7),
but `x` and `w` are two allocations — the sharing of a block-scalar payload is lost. -/
theorem block_scalar_roundtrip_loses_sharing :
    rtVal (roundtrip 5 lostH lostV) =
      some ([3, 3, 4, 0, 1, 0, 7, 4, 0, 2], [(2, some [2]), (1, some [2])]) := by decide +kernel

/-- witness: an anchored wrapper whose payload holds two *different* pointers to block scalars:
`o: &a1 {a: |…, b: |…, n: 1}` -/
def blkInH : Heap :=
  [(1, .node true [.strong .rc 3 2, .strong .rc 3 3, .leaf (.int 1)]), (2, .leaf .block), (3, .leaf .block)]

/-- (T, regression of the defect repaired by afd0262; before it `b` read back as the allocation and the
text of `a`, and the aliased case failed with "anchor id 1 reused with incompatible Rc type") the two
unanchored inner wrappers are two fresh allocations (1 and 2) inside the outer one (3); with the outer
wrapper referenced twice (`p: *a1`) both fields are allocation 3. -/
theorem block_payload_inside_anchored_wrapper :
    rtVal (roundtrip 6 blkInH (.node true [.strong .rc 1 1])) =
      some ([3, 1, 4, 0, 3], [(3, some [3, 3, 4, 0, 1, 4, 0, 2, 0, 1]), (2, some [2]), (1, some [2])]) ∧
    rtVal (roundtrip 6 blkInH (.node true [.strong .rc 1 1, .strong .rc 1 1])) =
      some ([3, 2, 4, 0, 3, 4, 0, 3],
        [(5, some [2]), (4, some [2]), (3, some [3, 3, 4, 0, 1, 4, 0, 2, 0, 1]), (2, some [2]), (1, some [2])]) := by
  decide +kernel

/-- (T, regression) round trip of `[strong p, dangling weak]`: the weak comes back dangling -/
theorem dangling_weak_roundtrip :
    rtVal (roundtrip 6 [(1, .node true [.leaf (.int 5)])]
      (.node false [.strong .rc 1 1, .weak .rc 1 9])) =
      some ([3, 2, 4, 0, 1, 6, 0], [(1, some [3, 1, 0, 5])]) := by decide +kernel

/-- (T, regression) round trip of `{x: p, z: 7, w: p}` with `*p == None` (the former silent corruption
`w = Some(7)`): `x` and `w` are one allocation holding `null`, `z` is 7 -/
theorem shared_none_roundtrip :
    rtVal (roundtrip 5 [(1, .leaf .null)] (.node true [.strong .rc 4 1, .leaf (.int 7), .strong .rc 4 1])) =
      some ([3, 3, 4, 0, 1, 0, 7, 4, 0, 1], [(1, some [1])]) := by decide +kernel

/-- (T) a weak wrapper positioned on an anchored node whose id has no store entry never succeeds —
the general form of the documented limitation "the strong anchor must be defined before the weak". -/
theorem weak_needs_defined_owner (k : Kind) (tid : Nat) (o : Out) (hna : ∀ id, o ≠ .alias id)
    (ha : o.rootAnchor ≠ 0) (s : DeSt) (hs : s.store.lookup (k, o.rootAnchor) = none)
    (r : RVal × Out × DeSt) : de (.weak k tid) o s ≠ .ok r :=
  weak_unstored_fails onAliasLive true k tid o hna ha s hs r

/-- (F, documented limitation) **weak_before_strong_fails**: `{w: weak → p, s: strong p}` is written
`w: &a1 {…}`, `s: *a1` (the definition lands on the weak field) and reading it back is an error, not
wrong sharing. -/
theorem weak_before_strong_fails :
    outToks (serialize 6 [(1, .node true [.leaf (.int 5)])]
      (.node true [.weak .rc 1 1, .strong .rc 1 1])) =
        some [.key, .anchor 1, .key, .int 5, .key, .alias 1] ∧
    rtCode (roundtrip 6 [(1, .node true [.leaf (.int 5)])]
      (.node true [.weak .rc 1 1, .strong .rc 1 1])) = 11 := by decide +kernel

/-- the same numbers (`RVal.code` of the value and of the heap cells) for one deserializer run -/
def deCode (r : DeRes) : Option (List Nat × List (Ptr × Option (List Nat))) :=
  match r with
  | .ok (v, _, s) => some (v.code, s.heap.map fun (q, c) => (q, c.map RVal.code))
  | .error _ => none

/-- `o: &a1 {a: {v: 1}, b: {v: 2}}` read as `RcAnchor<O>` with `O {a: RcAnchor<V>, b: RcAnchor<V>}` -/
def nestedTy : Ty :=
  .node [.strong .rc 2 (.node [.strong .rc 1 (.node [.leaf false]), .strong .rc 1 (.node [.leaf false])])]
def nestedDoc : Out :=
  .node 0 true [.node 1 true [.node 0 true [.leaf 0 (.int 1)], .node 0 true [.leaf 0 (.int 2)]]]

/-- (T, all types, nodes and states) **unanchored_strong_is_fresh**: a strong wrapper on a node without an
anchor never consults the store or an enclosing context: it reads its payload, allocates a fresh pointer
holding it, and stores nothing. -/
theorem unanchored_strong_is_fresh (k : Kind) (tid : Nat) (inner : Ty) (o : Out) (hna : ∀ id, o ≠ .alias id)
    (ha : o.rootAnchor = 0) (s : DeSt) (v : RVal) (e : Out) (s' : DeSt)
    (h : de (.strong k tid inner) o s = .ok (v, e, s')) :
    ∃ v0 s2, de inner o (pushCtx s k 0) = .ok (v0, e, s2) ∧ v = .strong k s2.nextPtr ∧
      s'.store = s2.store ∧ s'.cell s2.nextPtr = some v0 ∧ s'.stack = s2.stack.tail := by
  rw [de, strong_unanchored hna ha] at h
  split at h
  · cases h
  · rename_i v0 e0 s2 hin
    simp only [alloc, Except.ok.injEq, Prod.mk.injEq] at h
    obtain ⟨rfl, rfl, rfl⟩ := h
    exact ⟨v0, s2, hin, rfl, rfl, by simp [DeSt.cell, popCtx], rfl⟩

/-- (T, regression of the defect repaired by afd0262; before it `b` was the allocation of `a` and the
value 2 was dropped) **nested_unanchored_wrappers_are_independent**: in `o: &a1 {a: {v: 1}, b: {v: 2}}`
the unanchored inner wrappers are two fresh allocations holding 1 and 2. -/
theorem nested_unanchored_wrappers_are_independent :
    deCode (deserialize nestedTy nestedDoc) =
      some ([3, 1, 4, 0, 3],
        [(3, some [3, 2, 4, 0, 1, 4, 0, 2]), (2, some [3, 1, 0, 2]), (1, some [3, 1, 0, 1])]) := by decide +kernel

/-- with the inner nodes anchored the two fields are distinct allocations -/
example :
    deCode (deserialize nestedTy
      (.node 0 true [.node 1 true [.node 2 true [.leaf 0 (.int 1)], .node 3 true [.leaf 0 (.int 2)]]])) =
      some ([3, 1, 4, 0, 3],
        [(3, some [3, 2, 4, 0, 1, 4, 0, 2]), (2, some [3, 1, 0, 2]), (1, some [3, 1, 0, 1])]) := by decide +kernel

/-- (T) **recursive_placeholder_filled**: a cell `&a { plain scalars and back references *a }` read
through `RcRecursive` / `ArcRecursive` (payload fields through `RcRecursion` / `ArcRecursion`), for
every list of fields and from every state in which the id is fresh: the result is a new allocation `q`;
every back reference upgrades to `q` itself; after the call the cell is filled with the payload; the
pointer is stored under the id (so later aliases `*a` find it); the context stack is restored; the pump
recorded the node with the back references as null placeholders carrying the id. -/
theorem recursive_placeholder_filled (kind : Kind) (hk : kind.isRec = true) (tid a : Nat) (ha : a ≠ 0)
    (items : List RecItem) (s : DeSt) (hfresh : s.store.lookup (kind, a) = none)
    (hstack : (kind, a) ∉ s.stack) :
    ∃ s', de (.strong kind tid (.node (items.map (recTy kind tid)))) (.node a true (items.map (recDoc a))) s =
        .ok (.strong kind s.nextPtr, .node a true (items.map (recExp a)), s') ∧
      s'.cell s.nextPtr = some (.node true (items.map (recVal kind s.nextPtr))) ∧
      s'.store.lookup (kind, a) = some (s.nextPtr, tid) ∧ s'.stack = s.stack ∧
      s'.defs.lookup a = some (.node a true (items.map (recExp a))) := by
  have hne : (a != 0) = true := by simpa using ha
  unfold de
  rw [strong_new (o := .node a true (items.map (recDoc a))) nofun ha hfresh hstack]
  simp only [Out.rootAnchor, hk, if_true, alloc]
  rw [deCore]
  simp only [Bool.true_and, hne, if_true]
  rw [rec_items kind hk tid a ha s.nextPtr items _ rfl List.lookup_cons_self (by simp)]
  refine ⟨_, rfl, ?_, ?_, rfl, ?_⟩
  · simp [DeSt.cell, popCtx, fill, pushCtx]
  · simp [popCtx, fill, storePtr, pushCtx]
  · simp [popCtx, fill, storePtr]

/-- (T) **plain_fields_independent_copies**: an alias read into a wrapper-free type yields the recorded
node without its marks (`plainVal`) — so any two such reads of the same anchor are equal — contains no
pointer, allocates nothing and leaves the anchor store untouched: the copies are independent values. -/
theorem plain_fields_independent_copies (ty : Ty) (hp : plainTy ty = true) (id : Nat) (s : DeSt)
    (v : RVal) (e : Out) (s' : DeSt) (h : de ty (.alias id) s = .ok (v, e, s')) :
    resolveAlias s id = .ok e ∧ v = plainVal e ∧ pointerFree v = true ∧ SameStore s s' := by
  obtain ⟨sub, hs, h⟩ := de_alias_ok.mp h
  obtain ⟨a1, a2, a3, _, _, a6⟩ := plain_replay ty sub s v e s' hp h
  subst a2
  exact ⟨hs, a1, a6, a3⟩

/-- **sharing_roundtrip, full strength** (FALSE of the code, see the counterexample): every object
graph that serializes is rebuilt with the same sharing — same pointer-equality classes, weak edges
upgrading to the rebuilt owner, dangling weak edges dangling, cells holding the rebuilt payloads. -/
def sharing_roundtrip_Full : Prop :=
  ∀ (fuel : Nat) (H : Heap) (v : Val) (o : Out) (S : SerSt), serialize fuel H v = .ok (o, S) →
    (∃ ty, tyOf fuel H v = some ty) →
    ∃ rv s, roundtrip fuel H v = .ok rv s ∧ SameSharing H v s rv

def serOk (r : Except SerErr (Out × SerSt)) : Bool :=
  match r with
  | .ok _ => true
  | .error _ => false

/-- (F) counterexample to `sharing_roundtrip_Full`: the documented limitation — a live weak field
before the strong field of its pointer serializes, but reading it back is the error `weakUnknown`. -/
theorem sharing_roundtrip_counterexample : ¬ sharing_roundtrip_Full := by
  intro h
  -- the round trip ends in a deserializer error, so the value serializes and has a type
  have hc := weak_before_strong_fails.2
  unfold roundtrip at hc
  split at hc
  · cases hc
  · rename_i o S hs
    split at hc
    · cases hc
    · rename_i ty hty
      obtain ⟨rv, s, hr, _⟩ := h 6 _ _ o S hs ⟨ty, hty⟩
      have := weak_before_strong_fails.2
      rw [hr] at this
      cases this

/-- (T) soundness without the ordering hypothesis: whenever the round trip of such a record succeeds at
all, the sharing is the same — a live weak field before its owner makes the round trip fail (an error),
it never produces wrong sharing. -/
theorem sharing_roundtrip_sound (H : Heap) (kindOf : Ptr → Kind × Nat) (fuel : Nat) (m : Bool)
    (items : List Val) (hflat : ∀ it ∈ items, FlatItem H kindOf it) (rv : RVal) (s : DeSt)
    (h : roundtrip fuel H (.node m items) = .ok rv s) : SameSharing H (.node m items) s rv := by
  obtain ⟨o, S, ty, _, hser, hty, _⟩ := roundtrip_ok.mp h
  rcases roundtrip_flat H kindOf fuel m items hflat o S hser ty hty with ⟨rv', s', hr, hs⟩ | ⟨_, hfail⟩
  · cases hr.symm.trans h
    exact hs
  · exact absurd h (hfail rv s)

/-- (T) **sharing_roundtrip_partial** — records with one level of sharing.  For every record (sequence,
map, struct) whose fields are wrapper-free values or `RcAnchor` / `ArcAnchor` / `RcRecursive` /
`ArcRecursive` / weak wrappers around wrapper-free payloads other than a block scalar, with any sharing
pattern among the fields, any mix of kinds, any order and any number of dangling weak fields — provided
every *live* weak field comes after a strong field of the same pointer (`weaksAfterStrong`) — the round
trip succeeds and the rebuilt record has the same sharing (`SameSharing`): there is an injective renaming
of the original pointers such that each field is the renamed original (so two fields are one allocation
afterwards exactly if they were before, each live weak field upgrades to the allocation of its strong
owner, each dangling weak field is dangling), and each rebuilt allocation holds the original payload.
Missing for the full statement: wrappers nested inside payloads (covered by the differential run and by
`recursive_placeholder_filled`, `weak_upgrades_to_stored_owner`, `ser_defines_once`). -/
theorem sharing_roundtrip_partial (H : Heap) (kindOf : Ptr → Kind × Nat) (fuel : Nat) (m : Bool)
    (items : List Val) (hflat : ∀ it ∈ items, FlatItem H kindOf it)
    (hws : weaksAfterStrong H [] items = true)
    (o : Out) (S : SerSt) (hser : serialize fuel H (.node m items) = .ok (o, S))
    (ty : Ty) (hty : tyOf fuel H (.node m items) = some ty) :
    ∃ rv s, roundtrip fuel H (.node m items) = .ok rv s ∧ SameSharing H (.node m items) s rv := by
  rcases roundtrip_flat H kindOf fuel m items hflat o S hser ty hty with h | ⟨hno, _⟩
  · exact h
  · rw [hno] at hws
    cases hws

/-- a DAG over Rc and Arc with a weak edge after its owner: `{x: p, y: [p, q], w: weak p, z: q}` -/
def dagH : Heap := [(1, .node true [.leaf (.int 5), .strong .arc 8 3]), (2, .leaf (.int 6)),
                    (3, .node true [.leaf (.int 7)])]
def dagV : Val := .node true [.strong .rc 1 1, .node false [.strong .rc 1 1, .strong .rc 2 2],
                              .weak .rc 1 1, .strong .rc 2 2]

example : AnchorTaking dagH := by
  intro p v h
  simp only [dagH, List.lookup] at h
  split at h
  · cases h; rfl
  · split at h
    · cases h; rfl
    · split at h
      · cases h; rfl
      · cases h

example : outToks (serialize 8 dagH dagV) =
    some [.key, .anchor 1, .key, .int 5, .key, .anchor 2, .key, .int 7, .key, .dash, .alias 1, .dash,
          .anchor 3, .int 6, .key, .alias 1, .key, .alias 3] := by decide +kernel

/-- the rebuilt graph: the three occurrences of `p` (two strong, one weak) are allocation 2, the two
occurrences of `q` allocation 3, the Arc child allocation 1 -/
example : rtVal (roundtrip 8 dagH dagV) =
    some ([3, 4, 4, 0, 2, 3, 2, 4, 0, 2, 4, 0, 3, 5, 0, 2, 4, 0, 3],
      [(3, some [0, 6]), (2, some [3, 2, 0, 5, 4, 1, 1]), (1, some [3, 1, 0, 7])]) := by decide +kernel

/-- a self-referential cell through the recursive wrappers, referenced three more times -/
example : rtVal (roundtrip 8 [(1, .node true [.leaf (.int 5), .weak .rcRec 9 1])]
      (.node true [.strong .rcRec 9 1, .strong .rcRec 9 1, .weak .rcRec 9 1])) =
    some ([3, 3, 4, 2, 1, 4, 2, 1, 5, 2, 1], [(1, some [3, 2, 0, 5, 5, 2, 1]), (1, none)]) := by decide +kernel

/-- a record that satisfies the hypotheses of `sharing_roundtrip_partial`: Rc and Arc pointers, a weak
field after its owner, a dangling weak field first, repeated fields, plain fields, a `None` payload -/
def flatH : Heap := [(1, .node true [.leaf (.int 5), .leaf .null]), (2, .leaf .null)]
def flatKind : Ptr → Kind × Nat := fun p => if p = 1 then (.rc, 1) else if p = 2 then (.arc, 2) else (.rc, 1)
def flatItems : List Val :=
  [.weak .rc 1 9, .strong .rc 1 1, .strong .arc 2 2, .weak .rc 1 1, .strong .rc 1 1, .leaf (.int 7),
   .node false [.leaf .null], .strong .arc 2 2]

example : ∀ it ∈ flatItems, FlatItem flatH flatKind it := by
  intro it h
  simp only [flatItems, List.mem_cons, List.not_mem_nil, or_false] at h
  rcases h with rfl | rfl | rfl | rfl | rfl | rfl | rfl | rfl <;>
    simp [FlatItem, flatKind, flatH, List.lookup, plainV, plainVList, takesRoot, LeafKind.takesAnchor]

example : weaksAfterStrong flatH [] flatItems = true := by decide +kernel
example : serOk (serialize 6 flatH (.node true flatItems)) = true := by decide +kernel
example : (tyOf 6 flatH (.node true flatItems)).isSome = true := by decide +kernel
example : rtVal (roundtrip 6 flatH (.node true flatItems)) =
    some ([3, 8, 6, 0, 4, 0, 1, 4, 1, 2, 5, 0, 1, 4, 0, 1, 0, 7, 3, 1, 1, 4, 1, 2],
      [(2, some [1]), (1, some [3, 2, 0, 5, 1])]) := by decide +kernel

example : wellScoped (.node 0 true [.node 1 true [.leaf 0 (.int 5), .alias 1], .alias 1]) 0 = some 1 := by
  decide +kernel

#print axioms ser_fuel_mono
#print axioms ser_ids_in_range
#print axioms anchor_name_index_in_range
#print axioms ser_never_deadlocks
#print axioms ser_defines_once
#print axioms no_anchor_left_pending
#print axioms block_scalar_payload_written_in_full
#print axioms ser_defines_once_counterexample
#print axioms anchor_on_null_variant_and_nested_wrapper
#print axioms nested_wrapper_alias_is_refused
#print axioms arc_recursive_relock_serializes
#print axioms replay_keeps_definition_id
#print axioms alias_delivers_recorded
#print axioms weak_upgrades_to_stored_owner
#print axioms dangling_weak_reads_back
#print axioms unanchored_weak_is_dangling_or_error
#print axioms block_scalar_roundtrip_loses_sharing
#print axioms block_payload_inside_anchored_wrapper
#print axioms dangling_weak_roundtrip
#print axioms shared_none_roundtrip
#print axioms weak_needs_defined_owner
#print axioms weak_before_strong_fails
#print axioms unanchored_strong_is_fresh
#print axioms nested_unanchored_wrappers_are_independent
#print axioms recursive_placeholder_filled
#print axioms plain_fields_independent_copies
#print axioms sharing_roundtrip_counterexample
#print axioms sharing_roundtrip_partial
#print axioms sharing_roundtrip_sound

end SaphyrVerif.Props.C14
