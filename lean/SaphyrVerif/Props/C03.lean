import SaphyrVerif.Spec.Interp
import SaphyrVerif.Lemmas.C03
import SaphyrVerif.Lemmas.C03_Collect
/-!
# C03 — merge keys (`<<`) equal the explicitly merged mapping with fixed precedence

Theorems about the effective entry list `effEntries` (Spec/Interp.lean) — the list of (key, value) nodes a
mapping with merge keys delivers — and about the model's merge expansion functions refining it.
That the map access of the typed deserializer delivers `effEntries` is part of the C05 refinement.
-/
namespace SaphyrVerif.Props.C03
open SaphyrVerif SaphyrVerif.Scalars SaphyrVerif.Pump SaphyrVerif.De SaphyrVerif.Spec
open SaphyrVerif.Lemmas

def keyFps (es : List (ENode × ENode)) : List FP := es.map fun p => fpOf p.1

/-- (T) merge_key_iff (`quoted_or_tagged_is_plain_key` in DESIGN.md): only the plain, untagged scalar `<<` is a merge key (a quoted or tagged `<<` is an ordinary key) -/
theorem merge_key_iff (v : List Char) (tag : Nat) (rt : Option (List Char)) (st : Style) (a : Nat) (l : Loc) :
    isMergeKeyNode (.scalar v tag rt st a l) = true ↔ v = ['<', '<'] ∧ st = .plain ∧ tag = 0 := by
  simp only [isMergeKeyNode, tagNone, Bool.and_eq_true, beq_iff_eq]
  constructor
  · rintro ⟨⟨h1, h2⟩, h3⟩; exact ⟨h3, h1, h2⟩
  · rintro ⟨h3, h1, h2⟩; exact ⟨⟨h1, h2⟩, h3⟩

theorem container_is_not_merge_key (n : ENode) (h : isMergeKeyNode n = true) : ∃ v tag rt st a l, n = .scalar v tag rt st a l := by
  cases n with
  | scalar v tag rt st a l => exact ⟨v, tag, rt, st, a, l, rfl⟩
  | seq => simp [isMergeKeyNode] at h
  | map => simp [isMergeKeyNode] at h

mutual
/-- what may stand after `<<:` — a mapping (whose own merge values are valid), a sequence of valid
sources (nested sequences allowed), or a null scalar (`isNullMergeNode`: tagged `!!null` or plain null-like
text, not forced to a string by `!!str` / `!`) -/
def validSource : ENode → Bool
  | .scalar v tag rt st a l => isNullMergeNode (.scalar v tag rt st a l)
  | .map _ _ _ entries => validSourceE entries
  | .seq _ _ _ _ _ items => validSourceL items
def validSourceL : List ENode → Bool
  | [] => true
  | n :: ns => validSource n && validSourceL ns
def validSourceE : List (ENode × ENode) → Bool
  | [] => true
  | (k, v) :: es => (if isMergeKeyNode k then validSource v else true) && validSourceE es
end

mutual
theorem sourceEntries_isSome : ∀ n : ENode, (sourceEntries n).isSome = validSource n
  | .scalar v tag rt st a l => by
    simp only [sourceEntries, validSource]
    split <;> simp_all
  | .map _ _ _ entries => by simp only [sourceEntries, validSource]; exact mapSourceEntries_isSome entries
  | .seq _ _ _ _ _ items => by simp only [sourceEntries, validSource]; exact seqSourceEntries_isSome items
theorem mapSourceEntries_isSome : ∀ es : List (ENode × ENode), (mapSourceEntries es).isSome = validSourceE es
  | [] => by simp [mapSourceEntries, validSourceE]
  | (k, v) :: rest => by
    have h1 := sourceEntries_isSome v
    have h2 := mapSourceEntries_isSome rest
    simp only [mapSourceEntries, validSourceE]
    split
    · rw [← h1, ← h2]
      cases sourceEntries v <;> cases mapSourceEntries rest <;> simp
    · rw [← h2]
      cases mapSourceEntries rest <;> simp
theorem seqSourceEntries_isSome : ∀ ns : List ENode, (seqSourceEntries ns).isSome = validSourceL ns
  | [] => by simp [seqSourceEntries, validSourceL]
  | n :: ns => by
    have h1 := sourceEntries_isSome n
    have h2 := seqSourceEntries_isSome ns
    simp only [seqSourceEntries, validSourceL]
    rw [← h1, ← h2]
    cases sourceEntries n <;> cases seqSourceEntries ns <;> simp
end

/-- (T) merge_value_kind_check: a merge value is rejected exactly when it is not a mapping, a (nested)
sequence of mappings, or null -/
theorem merge_value_kind_check (n : ENode) : (sourceEntries n).isSome = validSource n :=
  sourceEntries_isSome n

/-- the crate's notion of "this (possibly tagged) scalar is null" applied to merge values: tagged `!!null`
(any text, any style) or plain null-like text (`""`, `~`, `null`), unless the tag forces a string (`!!str`,
or the non-specific tag `!`) -/
def scalarIsNull (v : List Char) (st : Style) (tag : Nat) : Bool :=
  (tag == tagNull || scalarIsNullish v st) && tag != tagString && tag != tagNonSpecific

/-- (T) scalar_merge_value_null_iff (clause "a merge value that is not a mapping, a (nested) sequence of
mappings or null is rejected", scalar case): for EVERY scalar merge value — any text, style, tag class,
anchor — the specification accepts it as a null merge (no entries) iff it is null in the crate's sense, and
rejects it otherwise. The same holds for a scalar element of a merge sequence (`seqSourceEntries` applies
`sourceEntries` to every element). -/
theorem scalar_merge_value_null_iff (v : List Char) (tag : Nat) (rt : Option (List Char)) (st : Style) (a : Nat) (l : Loc) :
    (sourceEntries (.scalar v tag rt st a l) = some [] ↔ scalarIsNull v st tag = true) ∧
    (sourceEntries (.scalar v tag rt st a l) = none ↔ scalarIsNull v st tag = false) := by
  simp only [sourceEntries, isNullMergeNode, scalarIsNull]
  by_cases h : ((tag == tagNull || scalarIsNullish v st) && tag != tagString && tag != tagNonSpecific) = true
  · simp [h]
  · simp [h]

/-- (T) scalar_merge_value_model: the model of `pending_entries_from_events` (the reader of a recorded merge
value and of every element of a merge sequence) on a scalar: no entries iff the scalar is null in the crate's
sense, otherwise `MergeValueNotMapOrSeqOfMaps` at the scalar. -/
theorem scalar_merge_value_model (fuel : Nat) (v : List Char) (tag : Nat) (rt : Option (List Char)) (st : Style)
    (a : Nat) (l loc ref : Loc) :
    pendingFromEvents (fuel + 1) [.scalar v tag rt st a l] loc ref =
      if scalarIsNull v st tag then .ok [] else .error ⟨"MergeValueNotMapOrSeqOfMaps", l, 0⟩ := by
  rw [pendingFromEvents]; rfl

/-- (T) scalar_merge_value_live: the model of `pending_entries_from_live_events` (the reader of the value
after a `<<` key) looking at a scalar: the scalar is consumed and gives no entries iff it is null in the
crate's sense, otherwise `MergeValueNotMapOrSeqOfMaps` at the scalar. -/
theorem scalar_merge_value_live (fuel : Nat) (buf rest : List Ev) (idx : Nat) (cref : Option Loc) (mref : Loc)
    (v : List Char) (tag : Nat) (rt : Option (List Char)) (st : Style) (a : Nat) (l : Loc)
    (h : buf.drop idx = .scalar v tag rt st a l :: rest) :
    pendingFromLive (fuel + 1) (.replay buf idx cref) mref =
      if scalarIsNull v st tag then .ok [] (.replay buf (idx + 1) cref)
      else .err ⟨"MergeValueNotMapOrSeqOfMaps", l, 0⟩ (.replay buf idx cref) := by
  rw [pendingFromLive, Cursor.peek_replay_of_drop cref h]
  by_cases hn : mergeScalarIsNull v st tag = true
  · have : scalarIsNull v st tag = true := hn
    simp [hn, this, Cursor.next_replay_of_drop cref h]
  · have : scalarIsNull v st tag = false := by simpa [scalarIsNull, mergeScalarIsNull] using hn
    simp [hn, this]

/-- (T) the effective entries are free of merge keys and of repeated keys … -/
theorem eff_no_merge_no_dup (dup : DupPolicy) (entries es : List (ENode × ENode))
    (h : effEntries dup entries = some es) (hdup : dup ≠ .lastWins) :
    (∀ e ∈ es, isMergeKeyNode e.1 = false) ∧ (keyFps es).Nodup :=
  ⟨C03T.eff_no_merge dup entries es h, C03T.eff_nodup dup entries es h hdup⟩

/-- (T) merge_eq_explicit: … so "the mapping written out in full" (its effective entries as an ordinary
mapping) reads back as exactly the same entries under every policy: deserializing the merge form and
the explicit form is the same thing. -/
theorem merge_eq_explicit (dup : DupPolicy) (entries es : List (ENode × ENode))
    (h : effEntries dup entries = some es) (hdup : dup ≠ .lastWins) :
    ∀ dup', effEntries dup' es = some es := by
  obtain ⟨hnm, hnd⟩ := eff_no_merge_no_dup dup entries es h hdup
  exact fun dup' => C03T.eff_of_no_merge dup' es hnm (C04.applyPolicy_nodup dup' es [] hnd (by simp))

/-- (T) own_overrides_merged: every own entry kept by the policy is delivered, before all merged ones, and
no merged entry repeats an own key — under every duplicate-key policy (no error, no override). -/
theorem own_overrides_merged (dup : DupPolicy) (entries es : List (ENode × ENode))
    (h : effEntries dup entries = some es) :
    ∃ ownKept merged, applyPolicy dup (splitEntries entries).1 [] = some ownKept ∧ es = ownKept ++ merged ∧
      (∀ m ∈ merged, ∀ o ∈ ownKept, fpOf m.1 ≠ fpOf o.1) := by
  obtain ⟨ownKept, src, h1, -, rfl⟩ := C03.eff_some h
  exact ⟨ownKept, _, h1, rfl, C03.dropSeen_keys_disjoint src ownKept⟩

/-- (T) later_merge_overrides_earlier: with two merge entries, for a key present in both sources the entry
of the LATER `<<` is the one delivered. -/
theorem later_merge_overrides_earlier (dup : DupPolicy) (l1 l2 l3 l4 : Loc) (a b : Nat)
    (k1 v1 k2 v2 : ENode) (hk : fpOf k1 = fpOf k2) (hm1 : isMergeKeyNode k1 = false) (hm2 : isMergeKeyNode k2 = false) :
    effEntries dup
      [(.scalar ['<', '<'] 0 none .plain 0 l1, .map a l2 l2 [(k1, v1)]),
       (.scalar ['<', '<'] 0 none .plain 0 l3, .map b l4 l4 [(k2, v2)])] = some [(k2, v2)] := by
  have hb : (fpOf k2 == fpOf k1) = true := by rw [hk]; exact C04.fp_beq_self _
  have hmk : ∀ l, isMergeKeyNode (.scalar ['<', '<'] 0 none .plain 0 l) = true := fun _ => rfl
  have s1 : sourceEntries (.map a l2 l2 [(k1, v1)]) = some [(k1, v1)] := by
    simp [sourceEntries, mapSourceEntries, hm1]
  have s2 : sourceEntries (.map b l4 l4 [(k2, v2)]) = some [(k2, v2)] := by
    simp [sourceEntries, mapSourceEntries, hm2]
  simp [effEntries, splitEntries, hmk, applyPolicy, s1, s2, dropSeen, hb]

/-- (T) in a merge sequence a later element overrides an earlier one -/
theorem later_seq_element_overrides_earlier (dup : DupPolicy) (l1 l2 l3 l4 : Loc)
    (k1 v1 k2 v2 : ENode) (hk : fpOf k1 = fpOf k2) (hm1 : isMergeKeyNode k1 = false) (hm2 : isMergeKeyNode k2 = false) :
    effEntries dup
      [(.scalar ['<', '<'] 0 none .plain 0 l1,
        .seq 0 0 none l2 l2 [.map 0 l3 l3 [(k1, v1)], .map 0 l4 l4 [(k2, v2)]])] = some [(k2, v2)] := by
  have hb : (fpOf k2 == fpOf k1) = true := by rw [hk]; exact C04.fp_beq_self _
  have hmk : ∀ l, isMergeKeyNode (.scalar ['<', '<'] 0 none .plain 0 l) = true := fun _ => rfl
  have s1 : sourceEntries (.seq 0 0 none l2 l2 [.map 0 l3 l3 [(k1, v1)], .map 0 l4 l4 [(k2, v2)]]) =
      some [(k2, v2), (k1, v1)] := by
    simp [sourceEntries, seqSourceEntries, mapSourceEntries, hm1, hm2]
  simp [effEntries, splitEntries, hmk, applyPolicy, s1, dropSeen, hb]

/-- (T) collect_entries_spec: the model's expansion of a merge value (`pending_entries_from_events`, the
recursive `collect_entries_from_map`) yields exactly `sourceEntries`, entry by entry (fingerprints, recorded
events), or fails exactly when `sourceEntries` does. -/
theorem collect_entries_spec (src : ENode) (loc ref : Loc) :
    ∃ n, ∀ fuel, n ≤ fuel →
      match sourceEntries src, pendingFromEvents fuel (eflatten src) loc ref with
      | some es, .ok ps =>
        ps.map (fun p => (p.key.fp, p.key.events, p.value.fp, p.value.events)) =
          es.map (fun e => (fpOf e.1, eflatten e.1, fpOf e.2, eflatten e.2))
      | none, .error _ => True
      | _, _ => False := by
  refine ⟨2 * (eflatten src).length, fun fuel hf => ?_⟩
  obtain ⟨h1, h2⟩ := C03.pendingFromEvents_spec src loc ref hf
  cases hs : sourceEntries src with
  | some es =>
    obtain ⟨ps, hp, hps⟩ := h1 es hs
    rw [hp]
    exact hps
  | none =>
    obtain ⟨e, hp⟩ := h2 hs
    rw [hp]
    trivial

-- (E) non-vacuity
def sc (s : String) (l : Loc) : ENode := .scalar s.toList 0 none .plain 0 l
def mk (es : List (ENode × ENode)) : ENode := .map 0 0 0 es
/-- `{a: 1, <<: {a: 2, b: 3}, <<: [{b: 4}, {c: 5, b: 6}]}` ⇒ a: 1, then from the last `<<`: c: 5, b: 6 (later element first), then b from the first `<<` is already present -/
example :
    (effEntries .error [(sc "a" 1, sc "1" 2), (sc "<<" 3, mk [(sc "a" 4, sc "2" 5), (sc "b" 6, sc "3" 7)]),
      (sc "<<" 8, .seq 0 0 none 9 9 [mk [(sc "b" 10, sc "4" 11)], mk [(sc "c" 12, sc "5" 13), (sc "b" 14, sc "6" 15)]])]).map
      (fun es => es.map fun p => (p.1.loc, p.2.loc)) = some [(1, 2), (12, 13), (14, 15)] := by decide
example : (sourceEntries (sc "x" 1)).isSome = false := by decide
def tsc (s : String) (tag : Nat) (st : Style) : ENode := .scalar s.toList tag none st 0 1
-- `<<: !!str null` — the string "null": rejected
example : sourceEntries (tsc "null" tagString .plain) = none := by decide
-- `<<: ! null`, `<<: ! ~` — the non-specific tag forces a string: rejected
example : sourceEntries (tsc "null" tagNonSpecific .plain) = none := by decide
example : sourceEntries (tsc "~" tagNonSpecific .plain) = none := by decide
-- `<<: !!null x` — null by its tag: accepted, contributes nothing
example : (sourceEntries (tsc "x" tagNull .plain)).map List.length = some 0 := by decide
-- `<<: null`, `<<: ~`, `<<:` — plain null: accepted
example : (sourceEntries (tsc "null" tagNone .plain)).map List.length = some 0 := by decide
example : (sourceEntries (tsc "~" tagNone .plain)).map List.length = some 0 := by decide
example : (sourceEntries (tsc "" tagNone .plain)).map List.length = some 0 := by decide
-- `<<: "null"` — quoted: rejected
example : sourceEntries (tsc "null" tagNone .double) = none := by decide
-- `<<: !!int 3` rejected; `<<: !custom null` (unknown tag, plain null text) accepted
example : sourceEntries (tsc "3" 1 .plain) = none := by decide
example : (sourceEntries (tsc "null" tagOther .plain)).map List.length = some 0 := by decide
-- elements of a merge sequence: `<<: [!!str null]` rejected, `<<: [!!null x, {b: 1}]` gives b
example : sourceEntries (.seq 0 0 none 1 1 [tsc "null" tagString .plain]) = none := by decide
example : (sourceEntries (.seq 0 0 none 1 1 [tsc "x" tagNull .plain, mk [(sc "b" 2, sc "1" 3)]])).map
    (fun es => es.map fun p => (p.1.loc, p.2.loc)) = some [(2, 3)] := by decide
-- the same on the model: `<<: !!str null` fails with MergeValueNotMapOrSeqOfMaps at the scalar; `<<: !!null x` gives no entries
example : pendingFromEvents (4 + 1) [.scalar "null".toList tagString none .plain 0 7] 0 0 =
    .error ⟨"MergeValueNotMapOrSeqOfMaps", 7, 0⟩ := by
  rw [scalar_merge_value_model, if_neg (by decide)]
example : pendingFromEvents (4 + 1) [.scalar "x".toList tagNull none .plain 0 7] 0 0 = .ok [] := by
  rw [scalar_merge_value_model, if_pos (by decide)]

#print axioms merge_key_iff
#print axioms container_is_not_merge_key
#print axioms merge_value_kind_check
#print axioms scalar_merge_value_null_iff
#print axioms scalar_merge_value_model
#print axioms scalar_merge_value_live
#print axioms eff_no_merge_no_dup
#print axioms merge_eq_explicit
#print axioms own_overrides_merged
#print axioms later_merge_overrides_earlier
#print axioms later_seq_element_overrides_earlier
#print axioms collect_entries_spec

end SaphyrVerif.Props.C03
