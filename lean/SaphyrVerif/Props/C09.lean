import SaphyrVerif.Lemmas.C09_Ring
import SaphyrVerif.Model.IoCell
import SaphyrVerif.Lemmas.C10
/-!
# C09 — all entry points agree: str, slice, reader (any chunking)

Theorems about the model of the reader glue (Model/Reader.lean) against the arithmetic UTF-8
specification (Spec/Utf8.lean).  The quantifier "every partition of the bytes into read calls" is
`∀ sched, chunked sched = true → flat sched = bytes` — every list of non-empty read results whose
concatenation is the input.  (The external layers in front of `ChunkedChars` — `encoding_rs_io`,
`BufReader` — re-chunk the user's partition; whatever they do is again such a schedule.)
-/
namespace SaphyrVerif.Props.C09
open SaphyrVerif SaphyrVerif.Reader SaphyrVerif.Spec.Utf8 SaphyrVerif.Spec.Lines SaphyrVerif.Lemmas.C09 SaphyrVerif.IoCell

/-- (T) chunked_chars_decode.  For EVERY byte list and EVERY schedule of non-empty read results: let `pre`
be the strict UTF-8 decoding of the longest well-formed prefix — the input is exactly
`encode pre ++ rest` and a non-empty `rest` begins with no well-formed encoded character (it is malformed
or truncated).  The characters `ChunkedChars` yields up to its first `None` are `pre`, followed — exactly
when the unterminated last line of `pre` starts with `%` — by ONE synthetic line break (and then
whatever a reader that goes on after the malformed sequence still delivers: `more`, empty when the input
simply ended).  No error is recorded iff `rest` is empty.  Never a wrong character, never a dropped
byte, independent of the schedule. -/
theorem chunked_chars_decode (sched : Sched) (hs : chunked sched = true) :
    let r := collectAll { reader := sched }
    ∃ pre rest more, flat sched = encode pre ++ rest ∧ (rest ≠ [] → ¬ StartsWithChar rest) ∧
      r.1 = pre ++ (if lastLineIsDirective pre then '\n' :: more else []) ∧
      (rest = [] → more = []) ∧ (rest = [] ↔ r.2.cell = none) := by
  exact collect_decode _ { reader := sched } hs rfl rfl rfl rfl (bytes_lt_fuel sched)

/-- (T) the result does not depend on the schedule: two partitions of the same bytes give the same
characters (synthetic break included, also past malformed sequences) and the same recorded error kind. -/
theorem chunked_chars_schedule_independent (s1 s2 : Sched) (h1 : chunked s1 = true) (h2 : chunked s2 = true)
    (hf : flat s1 = flat s2) :
    (collectAll { reader := s1 }).1 = (collectAll { reader := s2 }).1 ∧
    (collectAll { reader := s1 }).2.cell = (collectAll { reader := s2 }).2.cell := by
  have hb : Sched.bytes s1 = Sched.bytes s2 := by simp [Sched.bytes, hf]
  simp only [collectAll, hb]
  exact collect_indep _ { reader := s1 } { reader := s2 } ⟨h1, h2, hf, rfl, rfl, rfl, rfl, rfl⟩

/-- (T) chunked_chars_valid.  For well-formed input: every partition of the UTF-8 encoding of a text yields
exactly `terminated text` — the text, plus ONE line break iff its unterminated last line starts with `%`
(what `from_str` would see for the same text ending in a line break) — and no error. -/
theorem chunked_chars_valid (text : List Char) (sched : Sched) (hs : chunked sched = true)
    (hf : flat sched = encode text) :
    (collectAll { reader := sched }).1 = terminated text ∧ (collectAll { reader := sched }).2.cell = none := by
  exact collect_valid _ { reader := sched } text hs rfl rfl rfl rfl hf (bytes_lt_fuel sched)

/-- (T) synthetic_break_iff.  For ANY schedule (faults, empty reads, caps included), from a fresh
`ChunkedChars`: let `cs` be the real characters delivered until `next_char` first reports the end (EOF,
I/O error, malformed sequence or size cap).  The sequence `next` yields is `cs` and then — EXACTLY when the
unterminated last line of `cs` starts with `%` (byte-order marks in front ignored) — the synthetic `\n`. -/
theorem synthetic_break_iff (cc : CC) (hfresh : cc.atLineStart = true ∧ cc.inDirectiveLine = false)
    (fuel : Nat) (hfin : (collectRaw fuel cc).1.length < fuel) :
    ∃ more, (collect fuel cc).1 =
      (collectRaw fuel cc).1 ++ (if lastLineIsDirective (collectRaw fuel cc).1 then '\n' :: more else []) := by
  have hdir := collectRaw_directive fuel cc hfresh.1 hfresh.2
  obtain ⟨more, c1, _, _⟩ := collect_seg_general fuel cc hfin
  exact ⟨more, by rw [c1, hdir]⟩

/-- (T) the break is emitted once: whenever `next` returns `None` the directive flag is down, and with the
flag down `next` returns `None` whenever `next_char` does — so after the first `None` every later call
returns `None` for as long as the reader delivers nothing more (always, for an exhausted or a persistently
failing reader); no second synthetic character can appear without a new `%` line being read. -/
theorem none_is_stable (cc : CC) :
    ((next cc).1 = none → (next cc).2.inDirectiveLine = false) ∧
    (cc.inDirectiveLine = false → (nextChar cc).1 = none → (next cc).1 = none ∧ (next cc).2.inDirectiveLine = false) := by
  have hf := nextChar_flags cc
  unfold next
  cases hn : nextChar cc with
  | mk r cc' =>
    rw [hn] at hf
    cases r with
    | some c => simp
    | none =>
      simp only []
      by_cases hd : cc'.inDirectiveLine = true
      · simp only [hd, if_true]
        refine ⟨fun h => by simp at h, fun h _ => ?_⟩
        have := hf.2
        simp only at this
        rw [this, h] at hd
        cases hd
      · simp only [hd, Bool.false_eq_true, if_false]
        simp

/-- (T) after the end: an exhausted reader with the flag down yields `None` forever and nothing changes -/
theorem exhausted_stays_none (cc : CC) (hr : cc.reader = []) (hd : cc.inDirectiveLine = false) (fuel : Nat) :
    next cc = (none, cc) ∧ collect fuel cc = ([], cc) :=
  ⟨next_exhausted cc hr hd, collect_exhausted fuel cc hr hd⟩

/-- (E) `%YAML` cut by EOF, by an I/O error, and by the size cap: one synthetic break each, then `None` -/
example : (collectAll { reader := [.data [0x25, 0x59], .data [0x41]] }).1 = ['%', 'Y', 'A', '\n'] := by decide +kernel
example : (runSteps 8 3 { reader := [.data [0x25, 0x59], .fail kOther] }).1 =
    [(some '%', none), (some 'Y', none), (some '\n', some kOther), (none, none), (none, none), (none, none)] := by decide +kernel
example : (collectAll { reader := [.data [0x25, 0x59, 0x41, 0x4D]], maxBytes := some 2 }).1 = ['%', 'Y', '\n'] := by
  decide +kernel
/-- (E) a terminated directive line, a `%` that is not at column 0, a leading BOM -/
example : (collectAll { reader := [.data [0x25, 0x59, 0x0A]] }).1 = ['%', 'Y', '\n'] := by decide +kernel
example : (collectAll { reader := [.data [0x61, 0x25]] }).1 = ['a', '%'] := by decide +kernel
example : (collectAll { reader := [.data [0xEF, 0xBB, 0xBF, 0x25, 0x59]] }).1 = [BOM, '%', 'Y', '\n'] := by decide +kernel
example : lastLineIsDirective ['a', '\n', '%', 'x'] = true ∧ lastLineIsDirective ['%', 'x', '\n'] = false ∧
    lastLineIsDirective ['a', '%'] = false := by decide +kernel

/-- (T) ring_reader_transparent.  For EVERY inner reader (any schedule of read results, failing calls
included), every ring capacity / read-ahead cap and EVERY interleaving of `read(n)` and `get_recent()`:
the bytes returned by the `read` calls, in order, then the stash, then what the inner reader still holds
are exactly the inner stream — so the returned bytes are a prefix of it (nothing dropped, duplicated or
reordered by the read-ahead of `get_recent`) — and the read-ahead never exceeds `MAX_READ_AHEAD`.
Holds after every operation (take any prefix of `ops`). -/
theorem ring_reader_transparent (inner : Sched) (cap ahead : Nat) (ops : List RingOp) :
    let r0 : Ring := { cap := cap, ahead := ahead, inner := inner }
    returned (r0.run ops) ++ (r0.after ops).stash ++ flat (r0.after ops).inner = flat inner ∧
    (∃ rest, flat inner = returned (r0.run ops) ++ rest) ∧
    (r0.after ops).stash.length ≤ ahead := by
  intro r0
  have h0 : RInv (flat inner) r0 := ⟨rfl, rfl, Nat.zero_le _⟩
  obtain ⟨h1, ⟨a, b, c⟩, h3⟩ := run_returned ops r0 h0
  have ho : (r0.after ops).out = returned (r0.run ops) := by rw [h1]; rfl
  refine ⟨?_, ⟨(r0.after ops).stash ++ flat (r0.after ops).inner, ?_⟩, ?_⟩
  · rw [← ho, a]; exact b
  · rw [← ho, ← List.append_assoc, a]; exact b.symm
  · rw [h3] at c; exact c

/-- (T) with the constants of the crate (`RING_BUFFER_SIZE`, `MAX_READ_AHEAD` regenerated from the source) -/
theorem ring_reader_read_ahead_bounded (inner : Sched) (ops : List RingOp) :
    (Ring.after { inner := inner } ops).stash.length ≤ Gen.maxReadAhead :=
  (ring_reader_transparent inner Gen.ringBufferSize Gen.maxReadAhead ops).2.2

/-- (E) `read 2`, `get_recent` (reads ahead), `read 10`: the consumer still sees `hello` in order; tiny ring -/
example : returned (Ring.run { cap := 4, ahead := 2, inner := [.data [104, 101, 108], .data [108, 111]] }
    [.read 2, .recent, .read 10, .read 10]) = [104, 101, 108, 108, 111] := by decide +kernel
example : (Ring.after { cap := 4, ahead := 2, inner := [.data [104, 101, 108], .data [108, 111]] }
    [.read 2, .recent]).stash = [108, 108] := by decide +kernel

/-- (T) single_bom_ignored: one leading U+FEFF in front of a text that does not itself start with
U+FEFF is removed by every entry-point family, which then see the same text. -/
theorem single_bom_ignored (t : List Char) (h : t.head? ≠ some BOM) :
    strPathText (BOM :: t) = t ∧ closureStrPathText (BOM :: t) = t ∧ readerPathText (BOM :: t) = t ∧
    strPathText t = t ∧ readerPathText t = t := by
  cases t with
  | nil => simp [strPathText, closureStrPathText, readerPathText, stripBom]
  | cons c cs =>
    have hc : (c == BOM) = false := by
      simp at h
      simpa using h
    simp [strPathText, closureStrPathText, readerPathText, stripBom, hc]

/-- (T) bom_stripped_once (regression, fix aed36af; oracle id `C09-double-bom`; the finding `double_bom_disagrees` of DESIGN.md): every entry-point family removes
exactly one leading U+FEFF, so they hand the scanner the same text for EVERY input — in particular for an input
starting with two byte-order marks.  In the model the three path texts are all `stripBom`, so the first two clauses
hold by definition; the content is in the model (Model/Reader.lean, where each path's remover is named) and in the
last two clauses.  Since fix cbb7ef9 (C10) the remover on the reader path is the external decoder's BOM peeker
(`strip_bom`), marked UTF-8 being handed on raw; it removes exactly one UTF-8 mark.  (UTF-16 input that begins with two
UTF-16 marks loses both — peeker and decoder remove one each; no other entry point accepts UTF-16, so no
disagreement: recorded in DESIGN.md.) -/
theorem bom_stripped_once (t : List Char) :
    strPathText t = readerPathText t ∧ closureStrPathText t = readerPathText t ∧
    strPathText (BOM :: BOM :: t) = BOM :: t ∧ readerPathText (BOM :: BOM :: t) = BOM :: t := by
  simp [strPathText, closureStrPathText, readerPathText, stripBom]

/-- (T) entry_points_same_pipeline.  In the model the str / slice / closure / reader entry points are the
same composition — the same protocol over the same pump over the items the scanner produces for the text
it is handed.  For every scanner function, every pump configuration, every consumer, EVERY text and EVERY
partition of its UTF-8 encoding into read results: the string, closure and slice entry points agree on the
text, and the reader entry point returns what they return for `terminated text` — the same text, with one
line break added iff it stops inside a `%` line (fix bfd6267).  The closure clause holds by definition (both are the
same composition over `stripBom`); the reader and slice clauses carry the content.  What is assumed, not proved: that
the scanner is one function of the text for both of its input types. -/
theorem entry_points_same_pipeline (p : Pipeline) (text : List Char) (sched : Sched)
    (hs : chunked sched = true) (hf : flat sched = encode text) :
    p.fromReaderEntry sched = p.fromStr (terminated text) ∧ p.closureFromStr text = p.fromStr text ∧
    p.fromSlice (encode text) = p.fromStr text := by
  have hv := chunked_chars_valid text sched hs hf
  refine ⟨?_, rfl, ?_⟩
  · simp only [Pipeline.fromReaderEntry, Pipeline.fromStr, hv.1, strPathText, readerPathText]
  · unfold Pipeline.fromSlice
    rw [Lemmas.C10.utf8Validate_encode]

/-- (T) the common case: a text that does not stop inside a `%` line — all four families agree -/
theorem entry_points_agree (p : Pipeline) (text : List Char) (sched : Sched)
    (hs : chunked sched = true) (hf : flat sched = encode text) (hd : lastLineIsDirective text = false) :
    p.fromReaderEntry sched = p.fromStr text := by
  have := (entry_points_same_pipeline p text sched hs hf).1
  simpa [terminated, hd] using this

/-- (T) borrow_iff_parser_borrowed (model level): a `&str` target succeeds exactly when the tag keeps the text
and the parser handed the scalar out as a slice of the input; whenever it succeeds it receives the same text
as a `String` target, and whenever the tag refuses a `String` it refuses a `&str` too (regression,
fix 7f69297; oracle id `C09-borrowed-str-ignores-tag`). -/
theorem borrow_iff_parser_borrowed (eff : TagEffect) (b : Bool) (t : List Char) :
    (((deserializeStr eff b t).bind visitStrRef).isSome = (b && eff == .keep)) ∧
    (∀ s, (deserializeStr eff b t).bind visitStrRef = some s → (deserializeString eff b t).bind visitString = some s) ∧
    ((deserializeString eff b t).bind visitString = none → (deserializeStr eff b t).bind visitStrRef = none) := by
  cases eff <;> cases b <;> simp [deserializeStr, deserializeString, visitStrRef, visitString]

/-- (T) reader_never_lends (model level): with the parser's `Cow` never `Borrowed` for reader input, a
borrowed target is always refused. -/
theorem reader_never_lends (eff : TagEffect) (t : List Char) :
    (deserializeStr eff readerParserBorrowed t).bind visitStrRef = none := by
  cases eff <;> simp [deserializeStr, deserializeString, visitStrRef, readerParserBorrowed]

/-- (E) `!!binary aGk=`: the tag transforms the text — `String` gets `hi`, `&str` is refused (not handed
the raw `aGk=`); `!!float 007`: both refused -/
example : (deserializeString (.transformed ['h', 'i']) true ['a', 'G', 'k', '=']).bind visitString = some ['h', 'i'] ∧
    (deserializeStr (.transformed ['h', 'i']) true ['a', 'G', 'k', '=']).bind visitStrRef = none ∧
    (deserializeStr .refused true ['0', '0', '7']).bind visitStrRef = none := by decide +kernel

/-- (E) `€` split inside the code point, then `a`: decoded whatever the partition -/
example : (collectAll { reader := [.data [0xE2], .data [0x82], .data [0xAC, 0x61]] }).1 = ['€', 'a'] := by decide +kernel
example : (collectAll { reader := [.data [0xE2, 0x82, 0xAC, 0x61]] }).1 = ['€', 'a'] := by decide +kernel
/-- (E) truncated inside a code point: the complete characters are delivered, an error is recorded -/
example : (collectAll { reader := [.data [0x61, 0xE2], .data [0x82]] }).1 = ['a'] ∧
    (collectAll { reader := [.data [0x61, 0xE2], .data [0x82]] }).2.cell = some kUnexpectedEof := by decide +kernel
/-- (E) overlong / surrogate / invalid leading byte are refused -/
example : (collectAll { reader := [.data [0xC0, 0x80]] }).2.cell = some kInvalidData := by decide +kernel
example : (collectAll { reader := [.data [0xED, 0xA0, 0x80]] }).2.cell = some kInvalidData := by decide +kernel
example : (collectAll { reader := [.data [0xFF]] }).2.cell = some kInvalidData := by decide +kernel

end SaphyrVerif.Props.C09
