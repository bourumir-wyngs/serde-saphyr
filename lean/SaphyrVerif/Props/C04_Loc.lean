import SaphyrVerif.Props.C04
import SaphyrVerif.Lemmas.C04_LocInv
/-!
# C04, location of the duplicate-key report — `Events::at_alias` is exact

`LiveEvents::at_alias` answers "the top replay frame has served exactly one event".  `Props/C04.lean` assumes, for a
key inside a subtree that is being replayed, that the frame had served an event BEFORE the look-ahead
(`key_written_at_replayed`, hypothesis `1 ≤ fr.idx`).  Here that is an invariant of the pump
(`Lemmas/C04_LocInv.lean`), so after a look-ahead `idx == 1` can only belong to a frame this very look-ahead pushed
for an alias token; the exhausted frame of a one-event alias (`idx == 1`) stays only until the next pump, which pops
it before anything else is served.
-/
namespace SaphyrVerif.Props.C04
open SaphyrVerif SaphyrVerif.Scalars SaphyrVerif.Pump SaphyrVerif.De SaphyrVerif.Spec
open SaphyrVerif.Lemmas SaphyrVerif.Lemmas.C04Loc

/-- (T) every replay frame on the stack has served at least one event: true for the empty stack (start of a
document, `reset_document_state`, `skip_to_next_document`), kept by `peek` and by `next` in every state of the pump
(any input, any budget, any limits) -/
theorem replay_frames_have_served (p : Pump) (inp : List RawItem) (h : IdxPos p.inject) :
    IdxPos (Pump.peek p inp).2.1.inject ∧ IdxPos (Pump.next p inp).2.1.inject ∧
    IdxPos p.resetDocumentState.inject ∧ IdxPos (Pump.skipToNextDocument p inp).2.1.inject := by
  refine ⟨peek_idxPos p inp h, next_idxPos p inp h, by simpa [Pump.resetDocumentState] using IdxPos.nil, ?_⟩
  have : ∀ (q : Pump) (l : List RawItem), q.inject = [] → (skipLoop q l).2.1.inject = [] := by
    intro q l
    induction l generalizing q with
    | nil => intro hq; simpa [skipLoop] using hq
    | cons x xs ih =>
      intro hq
      cases x with
      | err a b => simpa [skipLoop] using hq
      | ev raw loc =>
        cases raw
        case docStart b =>
          simp only [skipLoop]
          cases skipBudget q.budget (.docStart b) <;> simp [Pump.resetDocumentState, hq]
        case docEnd =>
          simp only [skipLoop]
          exact ih _ (by simp [Pump.resetDocumentState])
        case streamEnd => simp [skipLoop, hq]
        all_goals (simp only [skipLoop]; exact ih _ hq)
  rw [Pump.skipToNextDocument, this _ _ rfl]
  exact IdxPos.nil

/-- (T) a frame that was on the stack before the look-ahead never makes `at_alias` answer `true`: with the invariant,
the look-ahead inside a replayed buffer leaves `idx ≥ 2` (this is `key_written_at_replayed` with its hypothesis
discharged from the invariant) -/
theorem at_alias_false_on_old_frame (p : Pump) (inp : List RawItem) (fr : InjectFrame) (frs : List InjectFrame)
    (buf : List Ev) (ev : Ev) (p' : Pump) (r : List RawItem)
    (hinv : IdxPos p.inject) (hl : p.look = none) (hi : p.inject = fr :: frs)
    (hb : lookupAnchor p.anchors fr.anchorId = some buf) (hidx : fr.idx < buf.length)
    (h : Pump.peek p inp = (.event ev, p', r)) (c2 : Cur) :
    (Cur.live p' r).atAlias = false ∧ keyWrittenAt (.live p' r) c2 ev = ev.loc := by
  have hpos : 1 ≤ fr.idx := hinv fr (by rw [hi]; exact List.mem_cons_self)
  obtain ⟨-, h2, -⟩ := peek_in_frame p inp fr frs buf ev p' r hl hi hb hidx hpos h
  exact ⟨h2, (key_written_at_replayed p inp fr frs buf ev p' r hl hi hb hidx hpos h c2).1⟩

#print axioms replay_frames_have_served
#print axioms at_alias_false_on_old_frame

end SaphyrVerif.Props.C04
