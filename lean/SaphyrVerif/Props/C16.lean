import SaphyrVerif.Lemmas.Lits
import SaphyrVerif.Lemmas.C16
import SaphyrVerif.Lemmas.LookAhead
import SaphyrVerif.Lemmas.C16Merge
import SaphyrVerif.Lemmas.C16Norm
import SaphyrVerif.Lemmas.C16Static
/-!
# C16 — reported locations are consistent with the input and name the right node

Part A: the conversions of parser marks into `Location`s (`location_from_span`, `from_scan_error`) applied
to marks that are positions of the text (`MarkAt`): the four coordinates denote one position, byte
information is absent rather than wrong.  That the scanner's marks ARE positions of the text is its
contract; it is re-derived from the text on every run (op `locs pos`, and the oracle), where it fails in
the classes recorded as findings (end-of-stream mark, directive lines with non-ASCII characters).

Part B: attribution.  `spannedLocs` is what `deserialize_yaml_spanned` captures; the theorems say which
locations it yields on the pump / replay cursors of `Model/Pump.lean`, `Model/De.lean`, and that the
locations attached to a type error at a scalar leaf are the ones a span-carrying value at that leaf gets.

Part C: the location given to an error that Serde raises without one (the fallback cell) while a sequence
element or a mapping value is read: the use site of that node.
-/
namespace SaphyrVerif.Props.C16
open SaphyrVerif SaphyrVerif.Scalars SaphyrVerif.Pump SaphyrVerif.De SaphyrVerif.Locs
open SaphyrVerif.Lemmas.C16 SaphyrVerif.Lemmas.LookAhead

/-! ## Part A: the conversions on marks that are positions of the text -/

/-- the mark is the scanner's position in front of character `m.index` of `text`, with byte offset -/
def MarkAt (text : List Char) (m : Mark) : Prop :=
  m.index ≤ text.length ∧ m = (posOf text m.index).toMark

theorem MarkAt.fields {text : List Char} {m : Mark} (h : MarkAt text m) :
    m.line = (posOf text m.index).line ∧ m.col = (posOf text m.index).col ∧
    m.byte = some (utf8Len (text.take m.index)) := by
  rw [← posOf_byte text m.index h.1]
  exact ⟨congrArg Mark.line h.2, congrArg Mark.col h.2, congrArg Mark.byte h.2⟩

theorem MarkAt.lineCol {text : List Char} {m : Mark} (h : MarkAt text m) :
    markLineCol m (some text) = (m.line, m.col + 1) := by
  obtain ⟨hl, hc, _⟩ := h.fields
  rw [hl, hc, ← markLineCol_of_posOf text m.index h.1, ← h.2]

theorem locationFromSpanIn_none (s e : Mark) : locationFromSpanIn none s e = locationFromSpan s e :=
  locationFromSpanIn_of_lineCol (markLineCol_none s) e

theorem fromScanErrorIn_none (m : Mark) : fromScanErrorIn none m = fromScanError m :=
  fromScanErrorIn_of_lineCol (markLineCol_none m)

/-- (T) line / column ↔ character offset: for an input of fewer than 2^32 − 1 characters the conversion is
exact: the character offset and length are those of the span, and line / column are the ones of that
character offset (1-based column). -/
theorem location_chars_consistent (text : List Char) (s e : Mark) (hs : MarkAt text s) (he : MarkAt text e)
    (hse : s.index ≤ e.index) (hsz : text.length + 1 < 4294967296) :
    ∃ L, locationFromSpan s e = .ok L ∧
      L.span.offset = s.index ∧ L.span.offset + L.span.len = e.index ∧ L.span.offset + L.span.len ≤ text.length ∧
      L.line = (posOf text L.span.offset).line ∧ L.column = (posOf text L.span.offset).col + 1 := by
  obtain ⟨hl, hc, _⟩ := hs.fields
  have hb := posOf_bounds text s.index hs.1
  have hei := he.1
  obtain ⟨L, hL, h1, h2, h3, h4⟩ := locationFromSpanIn_exact none (markLineCol_none s) hse
    (by omega) (by omega) (by omega) (by omega)
  rw [locationFromSpanIn_none] at hL
  exact ⟨L, hL, h3, by omega, by omega, by rw [h1, h3, hl], by rw [h2, h3, hc]⟩

/-- (T) character offset ↔ byte offset, for inputs of ANY size: the byte information of the produced
location is either exactly the UTF-8 prefix length of the start and the UTF-8 length of the span, or it
is absent (`(0, 0)`), and it is absent only when one of the two does not fit `u32` — or when both are 0,
which is the encoding of "absent" itself. -/
theorem location_bytes_absent_or_exact (text : List Char) (s e : Mark) (hs : MarkAt text s) (he : MarkAt text e)
    (hse : s.index ≤ e.index) (L : Location) (h : locationFromSpan s e = .ok L) :
    let bo := utf8Len (text.take s.index)
    let bl := utf8Len ((text.drop s.index).take (e.index - s.index))
    (L.span.byteInfo = (bo, bl) ∧ bo ≤ U32_MAX ∧ bl ≤ U32_MAX) ∨
    (L.span.byteInfo = (0, 0) ∧ (bo > U32_MAX ∨ bl > U32_MAX)) := by
  rw [← locationFromSpanIn_none] at h
  have hi := locationFromSpanIn_byteInfo none hs.fields.2.2 he.fields.2.2 h
  rw [utf8Len_span text s.index e.index hse] at hi
  split at hi
  · rename_i hbig
    simp only [Bool.or_eq_true, decide_eq_true_eq] at hbig
    exact .inr ⟨hi, hbig⟩
  · rename_i hsmall
    simp only [Bool.or_eq_true, decide_eq_true_eq, not_or, Nat.not_lt] at hsmall
    exact .inl ⟨hi, hsmall⟩

/-- (T) location_fields_consistent: given marks that are positions of the text, the four coordinates of
the produced `Location` denote ONE position of the text:
* its character offset is the span's start, its length the span's length, both inside the text;
* line and column are the line and (1-based) column of that character offset, and no other character
  offset of the text has that line / column pair;
* a reported byte offset is the UTF-8 length of the text before that character offset, a reported byte
  length is the UTF-8 length of the span; no other character offset has that byte offset;
* byte information is absent rather than wrong when it does not fit `u32`.
(`hsz`: fewer than 2^32 − 1 characters, for the `as u32` casts of line, column, character offset and
length; the byte part needs no size assumption — see `char_offset_wraps_counterexample`.) -/
theorem location_fields_consistent (text : List Char) (s e : Mark) (hs : MarkAt text s) (he : MarkAt text e)
    (hse : s.index ≤ e.index) (hsz : text.length + 1 < 4294967296) :
    ∃ L, locationFromSpan s e = .ok L ∧
      -- one position: the character offset …
      L.span.offset ≤ text.length ∧ L.span.offset + L.span.len ≤ text.length ∧
      -- … its line and column, which no other character offset has …
      L.line = (posOf text L.span.offset).line ∧ L.column = (posOf text L.span.offset).col + 1 ∧
      (∀ j, j ≤ text.length → (posOf text j).line = L.line → (posOf text j).col + 1 = L.column → j = L.span.offset) ∧
      -- … and its byte offset and length, exact when present
      (∀ b, L.span.byteOffset = some b → b = utf8Len (text.take L.span.offset) ∧
        ∀ j, j ≤ text.length → utf8Len (text.take j) = b → j = L.span.offset) ∧
      (∀ n, L.span.byteLen = some n → n = utf8Len ((text.drop L.span.offset).take L.span.len)) ∧
      -- absent only when out of range (or for the empty span at byte 0, whose encoding is "absent")
      (L.span.byteOffset = none →
        utf8Len (text.take L.span.offset) > U32_MAX ∨ utf8Len ((text.drop L.span.offset).take L.span.len) > U32_MAX ∨
        (utf8Len (text.take L.span.offset) = 0 ∧ utf8Len ((text.drop L.span.offset).take L.span.len) = 0)) := by
  obtain ⟨L, hL, ho, hlen, hin, hline, hcol⟩ := location_chars_consistent text s e hs he hse hsz
  have hbytes := location_bytes_absent_or_exact text s e hs he hse L hL
  have hlen' : e.index - L.span.offset = L.span.len := by omega
  simp only at hbytes
  rw [← ho, hlen'] at hbytes
  have hoff : L.span.offset ≤ text.length := by omega
  have hinj : ∀ j, j ≤ text.length → utf8Len (text.take j) = utf8Len (text.take L.span.offset) → j = L.span.offset := by
    intro j hj hjb
    rcases Nat.lt_trichotomy j L.span.offset with h | h | h
    · have := utf8Len_take_lt text h hoff; omega
    · exact h
    · have := utf8Len_take_lt text h hj; omega
  refine ⟨L, hL, hoff, hin, hline, hcol,
    fun j hj h1 h2 => posOf_lineCol_injective text j L.span.offset hj hoff (by omega) (by omega), ?_⟩
  rcases hbytes with ⟨hi, _, _⟩ | ⟨hi, hbig⟩
  · refine ⟨fun b hb => ?_, fun n hn => ?_, fun hnone => ?_⟩
    · obtain ⟨_, rfl⟩ := byteOffset_eq_some.mp hb
      rw [hi]
      exact ⟨rfl, hinj⟩
    · obtain ⟨_, rfl⟩ := byteLen_eq_some.mp hn
      rw [hi]
    · have h0 := byteOffset_eq_none.mp hnone
      rw [hi, Prod.mk.injEq] at h0
      exact Or.inr (Or.inr h0)
  · refine ⟨fun b hb => absurd hi (byteOffset_eq_some.mp hb).1, fun n hn => absurd hi (byteLen_eq_some.mp hn).1, fun _ => ?_⟩
    rcases hbig with h | h
    · exact Or.inl h
    · exact Or.inr (Or.inl h)

/-- (T) the location of a scan error: line / column / character offset of the error mark (no byte
information, nominal length 1) -/
theorem scan_error_location_consistent (text : List Char) (m : Mark) (hm : MarkAt text m)
    (hsz : text.length + 1 < 4294967296) :
    ∃ L, fromScanError m = .ok L ∧ L.span.offset = m.index ∧ L.span.offset ≤ text.length ∧
      L.line = (posOf text L.span.offset).line ∧ L.column = (posOf text L.span.offset).col + 1 ∧
      L.span.byteOffset = none ∧ L.span.byteLen = none := by
  -- the span from the mark to itself
  obtain ⟨L, hL, ho, _, _, hline, hcol⟩ := location_chars_consistent text m m hm hm (Nat.le_refl _) hsz
  have hL2 := fromScanErrorIn_of_span none m L (locationFromSpanIn_none m m ▸ hL)
  rw [fromScanErrorIn_none] at hL2
  exact ⟨_, hL2, ho, ho ▸ hm.1, hline, hcol, rfl, rfl⟩

/-- (T) locations_within_input: every location built from marks of the text lies inside the text — the
whole span for `location_from_span` (characters, and bytes when present), the position for a scan error. -/
theorem locations_within_input (text : List Char) (s e : Mark) (hs : MarkAt text s) (he : MarkAt text e)
    (hse : s.index ≤ e.index) (hsz : text.length + 1 < 4294967296) :
    (∃ L, locationFromSpan s e = .ok L ∧ L.span.offset + L.span.len ≤ text.length ∧
      ∀ b n, L.span.byteOffset = some b → L.span.byteLen = some n → b + n ≤ utf8Len text) ∧
    (∃ L, fromScanError s = .ok L ∧ L.span.offset ≤ text.length) := by
  obtain ⟨L, hL, _, hin, _, _, _, hb, hn, _⟩ := location_fields_consistent text s e hs he hse hsz
  obtain ⟨L2, hL2, _, hin2, _⟩ := scan_error_location_consistent text s hs hsz
  refine ⟨⟨L, hL, hin, ?_⟩, ⟨L2, hL2, hin2⟩⟩
  intro b n hb' hn'
  obtain ⟨rfl, _⟩ := hb b hb'
  rw [hn n hn', ← utf8Len_append, ← List.take_add]
  exact utf8Len_take_le text _

/-- (T) the scanner's walk is the counting specification (Spec/Locs.lean): the line of an offset is one more
than the number of line ends (LF, or CR not followed by LF) before it, the column is the distance to the
character after the last of them, the byte offset is the UTF-8 length of the prefix. -/
theorem positions_match_spec (text : List Char) (i : Nat) (hi : i ≤ text.length) :
    posOf text i = ⟨i, Spec.Locs.lineOf text i, Spec.Locs.colOf text i, Spec.Locs.byteOf text i⟩ :=
  posOf_eq_spec text i hi

/-! ### the conversions `LiveEvents` applies for in-memory input (`location_from_span_in`, `from_scan_error_in`) -/

/-- (T) for a start mark that is a position of the text, handing over the text changes nothing: all of
`location_fields_consistent`, `location_fields_spec`, `locations_within_input` hold verbatim for the
conversion with the in-memory input. -/
theorem locationFromSpanIn_of_markAt (text : List Char) (s e : Mark) (hs : MarkAt text s) :
    locationFromSpanIn (some text) s e = locationFromSpan s e :=
  locationFromSpanIn_of_lineCol hs.lineCol e

theorem fromScanErrorIn_of_markAt (text : List Char) (m : Mark) (hm : MarkAt text m) :
    fromScanErrorIn (some text) m = fromScanError m :=
  fromScanErrorIn_of_lineCol hm.lineCol

/-- (T) location_fields_consistent for the conversion the deserializer uses on in-memory input -/
theorem location_fields_consistent_in_memory (text : List Char) (s e : Mark) (hs : MarkAt text s) (he : MarkAt text e)
    (hse : s.index ≤ e.index) (hsz : text.length + 1 < 4294967296) :
    ∃ L, locationFromSpanIn (some text) s e = .ok L ∧
      L.span.offset ≤ text.length ∧ L.span.offset + L.span.len ≤ text.length ∧
      L.line = Spec.Locs.lineOf text L.span.offset ∧ L.column = Spec.Locs.colOf text L.span.offset + 1 ∧
      (∀ b, L.span.byteOffset = some b → b = Spec.Locs.byteOf text L.span.offset) ∧
      (∀ n, L.span.byteLen = some n → n = utf8Len ((text.drop L.span.offset).take L.span.len)) := by
  rw [locationFromSpanIn_of_markAt text s e hs]
  obtain ⟨L, hL, hoff, hin, hline, hcol, _, hb, hn, _⟩ := location_fields_consistent text s e hs he hse hsz
  have hp := posOf_eq_spec text L.span.offset hoff
  refine ⟨L, hL, hoff, hin, ?_, ?_, fun b hb' => (hb b hb').1, hn⟩
  · rw [hline, hp]
  · rw [hcol, hp]

/-- (T) `location_fields_consistent` read against the specification -/
theorem location_fields_spec (text : List Char) (s e : Mark) (hs : MarkAt text s) (he : MarkAt text e)
    (hse : s.index ≤ e.index) (hsz : text.length + 1 < 4294967296) :
    ∃ L, locationFromSpan s e = .ok L ∧ L.span.offset ≤ text.length ∧
      L.line = Spec.Locs.lineOf text L.span.offset ∧ L.column = Spec.Locs.colOf text L.span.offset + 1 ∧
      (∀ b, L.span.byteOffset = some b → b = Spec.Locs.byteOf text L.span.offset) := by
  obtain ⟨L, hL, hoff, _, hline, hcol, hb, _⟩ := location_fields_consistent_in_memory text s e hs he hse hsz
  exact ⟨L, locationFromSpanIn_of_markAt text s e hs ▸ hL, hoff, hline, hcol, hb⟩

/-- (T) end_of_stream_location_consistent: the scanner's end-of-stream mark — which sits on a forced new
line when the text does not end with a break — is converted, for EVERY in-memory text, into the location
of the end of the text: character offset = length, line and column those of that offset (just after the
last character of the last line).  Holds for the span conversion (end-of-document events, EOF errors,
values of empty documents) and for scan errors. -/
theorem end_of_stream_location_consistent (text : List Char) (hsz : text.length + 1 < 4294967296) :
    let E := (streamEndMark text).toMark
    (∃ L, locationFromSpanIn (some text) E E = .ok L ∧ L.span.offset = text.length ∧ L.span.len = 0 ∧
      L.line = (posOf text text.length).line ∧ L.column = (posOf text text.length).col + 1) ∧
    (∃ L, fromScanErrorIn (some text) E = .ok L ∧ L.span.offset = text.length ∧
      L.line = (posOf text text.length).line ∧ L.column = (posOf text text.length).col + 1) := by
  have hn := markLineCol_streamEnd text
  have hb := posOf_bounds text text.length (Nat.le_refl _)
  have hidx : (streamEndMark text).toMark.index = text.length ∧ (streamEndMark text).toMark.col ≤ text.length := by
    have := posOf_index text text.length (Nat.le_refl _)
    simp only [streamEndMark]
    split
    · exact ⟨this, Nat.zero_le _⟩
    · exact ⟨this, hb.2.2⟩
  obtain ⟨L, hL, h1, h2, h3, h4⟩ := locationFromSpanIn_exact (some text) hn (Nat.le_refl _)
    (by omega) (by omega) (by omega) (by omega)
  exact ⟨⟨L, hL, by omega, by omega, h1, h2⟩, ⟨_, fromScanErrorIn_of_span _ _ L hL, h3.trans hidx.1, h1, h2⟩⟩

/-! ## Part B: attribution -/

/-- (T) spanned_plain (live cursor): when no alias replay is in progress after the look-ahead (empty inject
stack), a span-carrying value gets `referenced = defined =` the location of the node's own first event. -/
theorem spanned_plain (p : Pump) (inp : List RawItem) (ev : Ev) (p' : Pump) (rest : List RawItem)
    (h : Pump.peek p inp = (.event ev, p', rest)) (hinj : p'.inject = []) :
    spannedLocs (.live p inp) = .ok (ev.loc, ev.loc) (.live p' rest) := by
  have hl := pump_peek_look p inp ev p' rest h
  rw [spannedLocs_of_peek (live_peek_of p inp ev p' rest h)]
  simp only [Cur.refLoc, Pump.referenceLocation, hinj, hl]

/-- (T) spanned_plain (recorded buffer without use-site override: mapping keys, tagged payloads):
`referenced = defined =` the node's own location. -/
theorem spanned_plain_replay (buf : List Ev) (idx : Nat) (ev : Ev) (h : buf[idx]? = some ev) :
    spannedLocs (.replay buf idx none) = .ok (ev.loc, ev.loc) (.replay buf idx none) := by
  simp only [spannedLocs, Cur.peek, h, Cur.refLoc]

/-- a node event straight from the parser (no alias, no budget): the inject stack stays empty, so
`spanned_plain` applies -/
theorem peek_plain_keeps_inject_empty (p : Pump) (raw : Raw) (loc : Loc) (rest : List RawItem)
    (hl : p.look = none) (hi : p.inject = []) (hb : p.budget = none)
    (hraw : (∃ v st a t, raw = .scalar v st a t) ∨ (∃ a t, raw = .seqStart a t) ∨ (∃ a t, raw = .mapStart a t)) :
    (Pump.peek p (.ev raw loc :: rest)).2.1.inject = [] :=
  -- `hb` is not needed: `peek_node` holds for every budget
  have _ := hb
  (peek_node p raw loc rest hl hi hraw).1

/-- (T) spanned_alias (while an alias is being replayed): with a live inject frame on top (alias token at
`fr.refLoc`, recorded buffer `buf` of the anchored node, next index `fr.idx`), whenever the look-ahead
yields an event it is the next event of the DEFINITION's buffer, a span-carrying value at it gets
`referenced =` the alias token's location and `defined =` that event's own (definition-site) location,
and the frame stays on top with the index advanced (so the statement applies again to the next node
of the replayed subtree: every nested span-carrying value has the same `referenced`). -/
theorem spanned_alias_replay (p : Pump) (inp : List RawItem) (fr : InjectFrame) (frs : List InjectFrame)
    (buf : List Ev) (ev : Ev) (p' : Pump) (r : List RawItem)
    (hl : p.look = none) (hi : p.inject = fr :: frs)
    (hb : lookupAnchor p.anchors fr.anchorId = some buf) (hidx : fr.idx < buf.length)
    (h : Pump.peek p inp = (.event ev, p', r)) :
    buf[fr.idx]? = some ev ∧
    spannedLocs (.live p inp) = .ok (fr.refLoc, ev.loc) (.live p' r) ∧
    p'.inject = { fr with idx := fr.idx + 1 } :: frs ∧ p'.anchors = p.anchors ∧ r = inp := by
  obtain ⟨k1, k2, k3, -, k5⟩ := peek_frame p inp fr frs buf ev p' r hl hi hb hidx h
  refine ⟨k1, ?_, k2, k3, k5⟩
  rw [spannedLocs_of_peek (live_peek_of p inp ev _ _ h)]
  simp only [Cur.refLoc, Pump.referenceLocation, k2]

/-- (T) spanned_alias (at the alias token): the next parser item is an alias `*x` at location `aloc`, the
anchor's recorded buffer is `buf` (by C02 `alias_expansion_is_buffer` / `pump_eq_expand_partial` the
events of the anchored node, which start with that node's own start event).  If the look-ahead yields
an event, a span-carrying value there gets `referenced = aloc` (the alias token) and `defined =` the
location of the first buffered event (the anchored node); the new inject frame carries `aloc`, so
`spanned_alias_replay` continues from index 1.  (No budget, nothing else being replayed.) -/
theorem spanned_alias (p : Pump) (id : Nat) (aloc : Loc) (rest : List RawItem) (buf : List Ev)
    (ev : Ev) (p' : Pump) (r : List RawItem)
    (hl : p.look = none) (hi : p.inject = []) (hb : p.budget = none)
    (hrec : p.recStack.any (fun f => f.id == id) = false)
    (hbuf : lookupAnchor p.anchors id = some buf) (hlen : 0 < buf.length)
    (h : Pump.peek p (.ev (.alias id) aloc :: rest) = (.event ev, p', r)) :
    buf[0]? = some ev ∧
    spannedLocs (.live p (.ev (.alias id) aloc :: rest)) = .ok (aloc, ev.loc) (.live p' r) ∧
    p'.inject = [{ anchorId := id, idx := 1, refLoc := aloc }] ∧ p'.anchors = p.anchors := by
  -- `hb` is not needed: `peek_alias_token` holds for every budget
  have _ := hb
  obtain ⟨k1, k2, k3, -⟩ := peek_alias_token p id aloc rest buf ev p' r hl hi hrec hbuf hlen h
  refine ⟨k1, ?_, k2, k3⟩
  rw [spannedLocs_of_peek (live_peek_of _ _ ev _ _ h)]
  simp only [Cur.refLoc, Pump.referenceLocation, k2]

/-- (T) spanned_merge: a value delivered from a pending (merge-derived or buffered) entry is read from a
replay of the SOURCE node's recorded events with the entry's `reference_location` as use-site override:
a span-carrying value there gets `referenced =` the entry's `ref` (the location observed at the merge
value: the alias token of `<<: *m` / of an element of `<<: [*a, *b]`, the start of an inline mapping) and
`defined =` the location of the source node's own first event. -/
theorem spanned_merge (fuel : Nat) (cfg : Cfg) (t : STy) (c : Cur) (m : MA) (ev : Ev) (evs : List Ev) (ref : Loc)
    (hk : m.haveKey = true) (hp : m.pendingValue = some (ev :: evs, ref))
    (v : SVal) (m' : MA) (c' : Cur)
    (h : nextValueS (fuel + 2) cfg (.spanned t) c m = .ok (v, m') c') :
    ∃ x, v = .spanned ref ev.loc x := by
  simp only [nextValueS, hk, hp, deserS, spannedLocs, Cur.peek, Cur.refLoc] at h
  simp only [List.getElem?_cons_zero, Bool.not_true, Bool.false_eq_true, if_false] at h
  split at h
  · cases h
  · rename_i x rc' hx
    split at hx
    · cases hx
    · rename_i y rc'' hy
      simp only [R.ok.injEq] at hx
      obtain ⟨rfl, rfl⟩ := hx
      split at h
      · cases h
      · simp only [R.ok.injEq, Prod.mk.injEq] at h
        exact ⟨y, h.1.1.symm⟩

/-- the use-site recorded for the own fields of a merged mapping is the one handed to
`collect_entries_from_map` (`PendingEntry.reference_location`) -/
theorem merge_entry_ref (fuel : Nat) (c : Cur) (ref : Loc) (fields : List PendingEntry) (merges : List (List PendingEntry))
    (key value : KeyNode) (c1 c2 : Cur) (ev : Ev)
    (hpk : c.peek = .ok (some ev) c1) (hnotend : ∀ l, ev ≠ .mapEnd l)
    (hk : capture fuel c1 = .ok key c2) (hm : isMergeKey key = false)
    (c3 : Cur) (hv : capture fuel c2 = .ok value c3) :
    collectLoop (fuel + 1) c ref fields merges = collectLoop fuel c3 ref (fields ++ [⟨key, value, ref⟩]) merges := by
  simp only [collectLoop, hpk]
  cases ev <;> first | exact absurd rfl (hnotend _) | simp [hk, hm, hv]

/-- (T) everything expanded from ONE merge source carries the use-site observed at that source:
`pending_entries_from_events(events, _, r)` — own fields, fields of nested `<<` inside the source, elements
of nested merge sequences — yields only entries with `reference_location = r` (the nested readers run on
`ReplayEvents::with_reference(_, r)`, whose `reference_location()` is `r`). -/
theorem merge_source_entries_ref (fuel : Nat) (events : List Ev) (loc r : Loc) (es : List PendingEntry)
    (h : pendingFromEvents fuel events loc r = .ok es) : ∀ e ∈ es, e.ref = r :=
  (merge_readers_ref r fuel).1 events loc es h

/-- (T) `<<: <mapping>` on ANY cursor (live or replay): the entries get the use-site `mref` observed at the
merge value (for `<<: *m` the alias token by `spanned_alias`, for an inline mapping its own start by
`spanned_plain`). -/
theorem merge_map_entries_ref (fuel : Nat) (c c1 : Cur) (a : Nat) (l : Loc) (mref : Loc)
    (hpk : c.peek = .ok (some (.mapStart a l)) c1)
    (es : List PendingEntry) (c' : Cur) (h : pendingFromLive (fuel + 1) c mref = .ok es c') :
    ∀ e ∈ es, e.ref = mref := by
  unfold pendingFromLive at h
  simp only [hpk] at h
  split at h
  · cases h
  · rename_i node c2 _
    split at h
    · cases h
    · rename_i es' hpe
      cases h
      exact merge_source_entries_ref fuel _ _ mref _ hpe

/-- (T) `<<: [ … ]` on ANY cursor: one step of the element loop.  The batch read from an element carries the
use-site observed at THAT element after the look-ahead (`c1.refLoc`: the element's alias token, or its own
start), independently of the other elements. -/
theorem merge_seq_element_ref (fuel : Nat) (c c1 c2 : Cur) (ev : Ev) (batches : List (List PendingEntry))
    (element : KeyNode) (b : List PendingEntry)
    (hpk : c.peek = .ok (some ev) c1) (hne : ∀ l, ev ≠ .seqEnd l)
    (hcap : capture fuel c1 = .ok element c2)
    (hb : pendingFromEvents fuel element.events element.loc c1.refLoc = .ok b) :
    mergeSeqBatches (fuel + 1) c batches = mergeSeqBatches fuel c2 (batches ++ [b]) ∧
    ∀ e ∈ b, e.ref = c1.refLoc := by
  refine ⟨?_, merge_source_entries_ref fuel _ _ _ _ hb⟩
  simp only [mergeSeqBatches, hpk]
  cases ev <;> first | exact absurd rfl (hne _) | simp [hcap, hb]

/-- scalar-leaf target types -/
def scalarTy : Ty → Bool
  | .bool | .int .. | .float _ | .char => true
  | _ => false

theorem deser_scalarTy (fuel : Nat) (cfg : Cfg) (ty : Ty) (hty : scalarTy ty = true) (c : Cur) :
    deser (fuel + 1) cfg ty false false c = deserScalarTyped cfg ty c := by
  cases ty with
  | bool | int | float | char => simp only [deser]
  | _ => cases hty

theorem err_inj_loc {k : String} {l : Loc} {x c2 : Cur} {e : DErr}
    (h : R.err (α := Val) ⟨k, l, 0⟩ x = R.err e c2) (hk : k ≠ "AliasError") :
    e.loc = l ∧ e.loc2 = 0 ∧ e.kind ≠ "AliasError" := by
  cases h; exact ⟨rfl, rfl, hk⟩

/-- every error of a typed scalar read on a cursor whose look-ahead holds the scalar event `ev` is located
at that event (and is not an `AliasError`) -/
theorem deserScalarTyped_err_loc (cfg : Cfg) (ty : Ty) (c c1 : Cur) (v : List Char) (tag : Nat)
    (rt : Option (List Char)) (st : Style) (a : Nat) (l : Loc)
    (hpk : c.peek = .ok (some (.scalar v tag rt st a l)) c1)
    (e : DErr) (c2 : Cur) (h : deserScalarTyped cfg ty c1 = .err e c2) :
    e.loc = l ∧ e.loc2 = 0 ∧ e.kind ≠ "AliasError" := by
  obtain ⟨⟨n1, hn1⟩, ⟨c1', hp1, _, ⟨n2, hn2⟩⟩⟩ := cur_peek_then c _ c1 hpk
  unfold deserScalarTyped at h
  simp only [hp1, hn1, hn2] at h
  -- first the `deserialize_char` pre-check (`some r`: its verdict), then the read proper
  split at h
  · rename_i r heq
    subst h
    repeat' split at heq
    all_goals first
      | (simp only [Option.some.injEq] at heq; exact err_inj_loc heq (by decide))
      | (cases heq)
  · repeat' split at h
    all_goals first
      | (exact err_inj_loc h (by decide))
      | (cases h)

/-- (T) error_location_eq_spanned: a type error at a scalar leaf carries the locations a span-carrying value
at that leaf would carry.  `c1` is the cursor after the look-ahead at the leaf (what `SA::next_element_seed`,
`MA::next_value_seed` and `deserialize_yaml_spanned` all do first); they attach
`attach_alias_locations_if_missing(e, reference_location(), location of the peeked event)` to an error of
the element / value.  For every scalar target type, ANY error of reading the leaf then has
`Error::locations() = (referenced, defined)` exactly as `spannedLocs` reports them: a single location when
no alias is involved (`referenced = defined`), an `AliasError` with both otherwise. -/
theorem error_location_eq_spanned (fuel : Nat) (cfg : Cfg) (ty : Ty) (hty : scalarTy ty = true) (c c1 : Cur)
    (v : List Char) (tag : Nat) (rt : Option (List Char)) (st : Style) (a : Nat) (l : Loc)
    (hpk : c.peek = .ok (some (.scalar v tag rt st a l)) c1)
    (hl : l ≠ 0) (href : c1.refLoc ≠ 0)
    (e : DErr) (c2 : Cur) (h : deser (fuel + 1) cfg ty false false c1 = .err e c2) :
    spannedLocs c = .ok (c1.refLoc, l) c1 ∧
    errLocations (attachAlias e c1.refLoc l) = some (c1.refLoc, l) := by
  rw [deser_scalarTy fuel cfg ty hty] at h
  obtain ⟨h1, _, h3⟩ := deserScalarTyped_err_loc cfg ty c c1 v tag rt st a l hpk e c2 h
  exact ⟨spannedLocs_of_peek hpk, (errLocations_attachAlias h3 href hl (fun hrl => .inl (h1.trans hrl.symm))).1⟩

/-- (T) once an error carries both locations, no enclosing access changes them
(`attach_alias_locations_if_missing` really is "if missing") -/
theorem alias_error_survives_outer_access (e : DErr) (r d : Loc) (h : e.kind = "AliasError") :
    attachAlias e r d = e := by
  simp [attachAlias, h]

/-- (T) error_location_eq_spanned, through any number of enclosing sequence / map accesses: the pair attached
at the innermost access (use site, failing node) is what the caller sees, whatever use / definition sites
`r'`, `d'` the enclosing accesses compute for their whole containers (`e` is the leaf's own error,
`ref ≠ l`: the leaf is reached through an alias or merge).  Together with
`error_location_eq_spanned` (the innermost access attaches exactly the pair a span-carrying value at the
leaf reports) this is the property for leaves nested in aliased or merged containers. -/
theorem error_location_nested (e : DErr) (ref l r' d' : Loc) (hk : e.kind ≠ "AliasError")
    (hl : l ≠ 0) (href : ref ≠ 0) (hne : ref ≠ l) :
    attachAlias (attachAlias e ref l) r' d' = ⟨"AliasError", ref, l⟩ ∧
    errLocations (attachAlias (attachAlias e ref l) r' d') = some (ref, l) := by
  have h0 := attachAlias_proper hk href hl hne
  rw [alias_error_survives_outer_access (attachAlias e ref l) r' d' (by rw [h0]), h0]
  exact ⟨rfl, rfl⟩

/-! ## Part C: errors that Serde raises without a location (the fallback location) -/

/-- (T) a location-less Serde error raised while a SEQUENCE ELEMENT is read (`SA::next_element_seed`): the
access hands on the static constructor's error on ITS OWN use site (`c1.refLoc`, the element guard), wrapped
by `attach_alias_locations_if_missing` with the element's (use site, definition site) — the pair
`spannedLocs` reports for a span-carrying value at that element.  The cell of the enclosing deserialization
plays no role (the access has no such argument). -/
theorem static_error_at_seq_element (fuel : Nat) (cfg : Cfg) (t : STy) (c c1 c2 : Cur) (ev : Ev) (acc : List SVal)
    (kind : String) (hpk : c.peek = .ok (some ev) c1) (hne : ∀ l, ev ≠ .seqEnd l)
    (hs : RaisesStatic fuel cfg t c1 kind c2) :
    seqElemsS (fuel + 1) cfg t c acc = .err (attachAlias (staticErr kind (some c1.refLoc)) c1.refLoc ev.loc) c2 ∧
    spannedLocs c = .ok (c1.refLoc, ev.loc) c1 := by
  refine ⟨?_, spannedLocs_of_peek hpk⟩
  simp only [seqElemsS, hpk]
  cases ev <;> first | exact absurd rfl (hne _) | simp only [hs (some c1.refLoc)]

/-- (T) the same for a MAPPING VALUE read from the live stream (`MA::next_value_seed`, value guard — the
repair of `C16-static-error-at-map-value-reported-at-key`): the value's own use site `c1.refLoc`, not the key. -/
theorem static_error_at_map_value (fuel : Nat) (cfg : Cfg) (t : STy) (c c1 c2 : Cur) (m : MA) (pk : Option Ev)
    (kind : String) (hk : m.haveKey = true) (hp : m.pendingValue = none) (hpk : c.peek = .ok pk c1)
    (hs : RaisesStatic fuel cfg t c1 kind c2) :
    let defined := match pk with | some e => e.loc | none => c1.lastLoc
    nextValueS (fuel + 1) cfg t c m = .err (attachAlias (staticErr kind (some c1.refLoc)) c1.refLoc defined) c2 ∧
    spannedLocs c = .ok (c1.refLoc, defined) c1 := by
  refine ⟨?_, by cases pk <;> simp only [spannedLocs, hpk]⟩
  cases pk <;> simp [nextValueS, hk, hp, hpk, hs (some c1.refLoc)]

/-- (T) the same for a mapping value delivered from a pending entry (merge-derived or buffered:
`ReplayEvents::with_reference(events, reference_location)`): the entry's recorded use site `ref` — by
`merge_source_entries_ref` / `merge_map_entries_ref` / `merge_seq_element_ref` the alias token of `<<: *m`, the
element of `<<: [*a, *b]`, the start of an inline mapping — and the source node's own location. -/
theorem static_error_at_merged_value (fuel : Nat) (cfg : Cfg) (t : STy) (c rc2 : Cur) (m : MA) (ev : Ev) (evs : List Ev)
    (ref : Loc) (kind : String) (hk : m.haveKey = true) (hp : m.pendingValue = some (ev :: evs, ref))
    (hs : RaisesStatic fuel cfg t (.replay (ev :: evs) 0 (some ref)) kind rc2) :
    nextValueS (fuel + 1) cfg t c m = .err (attachAlias (staticErr kind (some ref)) ref ev.loc) c ∧
    spannedLocs (.replay (ev :: evs) 0 (some ref)) = .ok (ref, ev.loc) (.replay (ev :: evs) 0 (some ref)) := by
  refine ⟨?_, by simp only [spannedLocs, Cur.peek, Cur.refLoc, List.getElem?_cons_zero]⟩
  simp only [nextValueS, hk, hp, hs (some ref)]
  simp

/-- (T) **static_error_at_value_node**: the location attached to a location-less Serde error raised while a
sequence element or a mapping value (live, or merged / buffered) is read is the use-site location of THAT
node — through an alias or a merge the alias token / merge entry, with the node's own location as definition
site: `Error::locations()` of the access's error is exactly the pair `(referenced, defined)` that a
span-carrying value at the node reports (`spannedLocs`), and `Error::location()` is the use site.
(`kind ≠ "AliasError"`: the five static constructors; both locations known.)  Nothing of the enclosing
deserialization — the key guard, the container guard, an outer element — enters. -/
theorem static_error_at_value_node (fuel : Nat) (cfg : Cfg) (t : STy) (kind : String) (hkind : kind ≠ "AliasError") :
    -- sequence element
    (∀ (c c1 c2 : Cur) (ev : Ev) (acc : List SVal), c.peek = .ok (some ev) c1 → (∀ l, ev ≠ .seqEnd l) →
      RaisesStatic fuel cfg t c1 kind c2 → c1.refLoc ≠ 0 → ev.loc ≠ 0 →
      ∃ e, seqElemsS (fuel + 1) cfg t c acc = .err e c2 ∧ spannedLocs c = .ok (c1.refLoc, ev.loc) c1 ∧
        errLocations e = some (c1.refLoc, ev.loc) ∧ e.loc = c1.refLoc) ∧
    -- mapping value, live
    (∀ (c c1 c2 : Cur) (m : MA) (ev : Ev), m.haveKey = true → m.pendingValue = none → c.peek = .ok (some ev) c1 →
      RaisesStatic fuel cfg t c1 kind c2 → c1.refLoc ≠ 0 → ev.loc ≠ 0 →
      ∃ e, nextValueS (fuel + 1) cfg t c m = .err e c2 ∧ spannedLocs c = .ok (c1.refLoc, ev.loc) c1 ∧
        errLocations e = some (c1.refLoc, ev.loc) ∧ e.loc = c1.refLoc) ∧
    -- mapping value from a pending (merged / buffered) entry
    (∀ (c rc2 : Cur) (m : MA) (ev : Ev) (evs : List Ev) (ref : Loc), m.haveKey = true →
      m.pendingValue = some (ev :: evs, ref) → RaisesStatic fuel cfg t (.replay (ev :: evs) 0 (some ref)) kind rc2 →
      ref ≠ 0 → ev.loc ≠ 0 →
      ∃ e, nextValueS (fuel + 1) cfg t c m = .err e c ∧
        spannedLocs (.replay (ev :: evs) 0 (some ref)) = .ok (ref, ev.loc) (.replay (ev :: evs) 0 (some ref)) ∧
        errLocations e = some (ref, ev.loc) ∧ e.loc = ref) := by
  have hloc := static_locations kind hkind
  refine ⟨?_, ?_, ?_⟩
  · intro c c1 c2 ev acc hpk hne hs href hdef
    obtain ⟨h1, h2⟩ := static_error_at_seq_element fuel cfg t c c1 c2 ev acc kind hpk hne hs
    exact ⟨_, h1, h2, hloc _ _ href hdef⟩
  · intro c c1 c2 m ev hk hp hpk hs href hdef
    obtain ⟨h1, h2⟩ := static_error_at_map_value fuel cfg t c c1 c2 m (some ev) kind hk hp hpk hs
    exact ⟨_, h1, h2, hloc _ _ href hdef⟩
  · intro c rc2 m ev evs ref hk hp hs href hdef
    obtain ⟨h1, h2⟩ := static_error_at_merged_value fuel cfg t c rc2 m ev evs ref kind hk hp hs
    exact ⟨_, h1, h2, hloc _ _ href hdef⟩

/-- (T) the instance the repair is about: a `NonZero*` target on a node whose integer reading is 0
(`invalid_value`), directly or inside the span-carrying wrapper, satisfies the hypothesis of
`static_error_at_value_node`. -/
theorem nonzero_zero_raises_static (fuel : Nat) (cfg : Cfg) (signed : Bool) (bits : Nat) (c c2 : Cur)
    (h : deser (fuel + 1) cfg (.int signed bits) false false c = .ok (.int 0) c2) :
    RaisesStatic (fuel + 1) cfg (.nonzero signed bits) c "invalid_value" c2 ∧
    (∀ c0 rd, spannedLocs c0 = .ok rd c →
      RaisesStatic (fuel + 2) cfg (.spanned (.nonzero signed bits)) c0 "invalid_value" c2) :=
  ⟨raisesStatic_nonzero fuel cfg signed bits c c2 h,
   fun c0 rd hl => raisesStatic_spanned (fuel + 1) cfg _ c0 c c2 _ rd hl (raisesStatic_nonzero fuel cfg signed bits c c2 h)⟩

/-- (T) once located at the node, the error is left alone by every enclosing access whose own container is
not reached through an alias (`r' = d'`, or one of the two unknown).  (Inside a replayed container the
innermost access already sees use site ≠ definition site and has built the `AliasError`, which no enclosing
access changes: `alias_error_survives_outer_access`, `error_location_nested` — the same composition as for
type errors.) -/
theorem static_error_survives_outer_access (e : DErr) (r' d' : Loc) (hl : e.loc ≠ 0)
    (h : r' = 0 ∨ d' = 0 ∨ r' = d') : attachAlias e r' d' = e := by
  unfold attachAlias
  by_cases hk : (e.kind == "AliasError") = true
  · simp [hk]
  · rcases h with h | h | h <;> simp [hk, h, hl]

/-- (T) the bridge to the thread-local model of C15 (`Model/Tls.lean`): while the body of a scoped guard runs
— the element guard, the value guard: `Tls.Prog.guard loc body k`, the `G` of the call scripts — the cell
holds the guard's location, whatever it held before (`s`, `st` arbitrary); a static constructor called there
yields the location of `staticErr kind (some loc)`: the `fb` that `seqElemsS` / `nextValueS` hand to `deserS`
is the cell of the thread-local model. -/
theorem cell_under_guard_is_fb (loc : Loc) (k : Tls.Prog) (s : Tls.Slot) (st : Tls.St) (kind : String) :
    (Tls.exec (.guard loc .serr k) s st).1 = .err (staticErr kind (some loc)).loc := by
  simp [Tls.exec, Tls.andThen, staticErr]

/-! ## Non-vacuity -/

-- marks of a text with a multi-byte character and a CRLF break are positions of it; the conversion is exact
example : MarkAt "é\r\nb: x".toList ⟨3, 2, 0, some 4⟩ ∧ MarkAt "é\r\nb: x".toList ⟨4, 2, 1, some 5⟩ := by
  unfold MarkAt; decide +kernel
example : locationFromSpan ⟨3, 2, 0, some 4⟩ ⟨4, 2, 1, some 5⟩ = .ok ⟨2, 1, ⟨3, 1, (4, 1)⟩⟩ := by decide +kernel
-- CR alone ends a line, CR before LF does not (the line ends at the LF)
example : (posOf "a\rb\r\nc".toList 2, posOf "a\rb\r\nc".toList 4, posOf "a\rb\r\nc".toList 5) =
    (⟨2, 2, 0, 2⟩, ⟨4, 2, 2, 4⟩, ⟨5, 3, 0, 5⟩) := by decide +kernel
-- byte information out of the `u32` range is dropped, never truncated
example : (locationFromSpan ⟨5, 1, 5, some 4294967296⟩ ⟨6, 1, 6, some 4294967297⟩) = .ok ⟨1, 6, ⟨5, 1, (0, 0)⟩⟩ := by
  decide +kernel
example : (locationFromSpan ⟨5, 1, 5, some 7⟩ ⟨6, 1, 6, some 4294967303⟩) = .ok ⟨1, 6, ⟨5, 1, (0, 0)⟩⟩ := by decide +kernel
-- `Span::len` underflows when the end mark is before the start mark
example : (locationFromSpan ⟨5, 1, 5, some 5⟩ ⟨4, 1, 4, some 4⟩) = .panic "Span::len: end.index() - start.index()" := by decide +kernel

-- the end-of-stream mark of a text without final line break sits on a forced new line (the scanner's rule,
-- compared with the real parser by the `endmark` operation) …
example : streamEndMark "a: [".toList = ⟨4, 2, 0, 4⟩ ∧ posOf "a: [".toList 4 = ⟨4, 1, 4, 4⟩ := by
  char_lits
  decide +kernel
-- … and is converted into the position just after the last character when the text is at hand,
example : locationFromSpanIn (some "a: [".toList) ⟨4, 2, 0, some 4⟩ ⟨4, 2, 0, some 4⟩ = .ok ⟨1, 5, ⟨4, 0, (4, 0)⟩⟩ := by
  char_lits
  decide +kernel
example : fromScanErrorIn (some "é\r\nbé".toList) ⟨5, 3, 0, some 7⟩ = .ok ⟨2, 3, ⟨5, 1, (0, 0)⟩⟩ := by
  char_lits
  decide +kernel
-- left alone without the text (reader input), after a real line break, off a character boundary, beyond the end
example : locationFromSpanIn none ⟨4, 2, 0, some 4⟩ ⟨4, 2, 0, some 4⟩ = .ok ⟨2, 1, ⟨4, 0, (4, 0)⟩⟩ := by decide +kernel
example : fromScanErrorIn (some "ab\n".toList) ⟨3, 2, 0, some 3⟩ = .ok ⟨2, 1, ⟨3, 1, (0, 0)⟩⟩ := by
  char_lits
  decide +kernel
example : fromScanErrorIn (some "é".toList) ⟨1, 2, 0, some 1⟩ = .ok ⟨2, 1, ⟨1, 1, (0, 0)⟩⟩ := by
  char_lits
  decide +kernel
example : fromScanErrorIn (some "a".toList) ⟨3, 2, 0, some 3⟩ = .ok ⟨2, 1, ⟨3, 1, (0, 0)⟩⟩ := by
  char_lits
  decide +kernel

/-- `k: &a [1, <second>]` / `j: *a` as parser items (locations 10 …) -/
def aliasDoc (second : String) : List RawItem :=
  [.ev .streamStart 10, .ev (.docStart false) 10, .ev (.mapStart 0 none) 10,
   .ev (.scalar ['k'] .plain 0 none) 11, .ev (.seqStart 1 none) 12, .ev (.scalar ['1'] .plain 0 none) 13,
   .ev (.scalar second.toList .plain 0 none) 14, .ev .seqEnd 15,
   .ev (.scalar ['j'] .plain 0 none) 16, .ev (.alias 1) 17, .ev .mapEnd 18, .ev .docEnd 18, .ev .streamEnd 18]

def aliasTy : STy := .struct [("j", .seq (.spanned (.leaf (.int true 32))))]
def aliasPump : Pump := { limits := ⟨1000, 8, 100⟩ }

mutual
/-- a flat digest of a delivered value (values have no decidable equality): constructor codes, the two
locations of every wrapper, integer leaves -/
def digestS : SVal → List Nat
  | .leaf (.int i) => [1, i.toNat]
  | .leaf _ => [2]
  | .spanned r d v => 3 :: r :: d :: digestS v
  | .none => [4]
  | .some v => 5 :: digestS v
  | .seq vs => 6 :: digestL vs
  | .map es => 7 :: digestE es
  | .struct fs => 8 :: digestF fs
def digestL : List SVal → List Nat
  | [] => [0]
  | v :: vs => digestS v ++ digestL vs
def digestE : List (Val × SVal) → List Nat
  | [] => [0]
  | (_, v) :: vs => digestS v ++ digestE vs
def digestF : List (String × SVal) → List Nat
  | [] => [0]
  | (_, v) :: vs => digestS v ++ digestF vs
end

/-- outcome of a run: `0 :: digest` of the value, or `1 :: loc :: loc2 :: kind` of the error -/
def outcome (r : R SVal) : List Nat :=
  match r with
  | .ok v _ => 0 :: digestS v
  | .err e _ => 1 :: e.loc :: e.loc2 :: e.kind.toList.map Char.toNat

-- through the alias `*a` (at 17): `referenced` = the alias token, `defined` = each element's own location
theorem aliasDoc_two_outcome : outcome (deserS 40 {} none aliasTy (.live aliasPump (aliasDoc "2"))) =
    0 :: digestS (.struct [("j", .seq [.spanned 17 13 (.leaf (.int 1)), .spanned 17 14 (.leaf (.int 2))])]) := by
  decide +kernel
example : outcome (deserS 40 {} none aliasTy (.live aliasPump (aliasDoc "2"))) =
    0 :: digestS (.struct [("j", .seq [.spanned 17 13 (.leaf (.int 1)), .spanned 17 14 (.leaf (.int 2))])]) :=
  aliasDoc_two_outcome
-- at the definition itself: `referenced = defined`
example : outcome (deserS 40 {} none (.struct [("k", .seq (.spanned (.leaf (.int true 32))))]) (.live aliasPump (aliasDoc "2"))) =
    0 :: digestS (.struct [("k", .seq [.spanned 13 13 (.leaf (.int 1)), .spanned 14 14 (.leaf (.int 2))])]) := by
  decide +kernel
-- an aliased scalar leaf that does not fit the type: `AliasError` with both locations (those of the wrapper)
example : outcome (deserS 40 {} none (.struct [("j", .spanned (.leaf (.int true 32)))]) (.live aliasPump
    [.ev .streamStart 10, .ev (.docStart false) 10, .ev (.mapStart 0 none) 10,
     .ev (.scalar ['k'] .plain 0 none) 11, .ev (.scalar "oops".toList .plain 1 none) 12,
     .ev (.scalar ['j'] .plain 0 none) 16, .ev (.alias 1) 17, .ev .mapEnd 18, .ev .docEnd 18, .ev .streamEnd 18])) =
    1 :: 17 :: 12 :: "AliasError".toList.map Char.toNat := by decide +kernel
-- `t: {<<: *m, z: 3}` with `m = {k: 1}` at 12..15, the alias at 19: merged `k` is referenced at the alias
-- token and defined at its own scalar (14); the own entry `z` has both at 21
example : outcome (deserS 60 {} none (.struct [("t", .map (.spanned (.leaf (.int true 32))))]) (.live aliasPump
    [.ev .streamStart 10, .ev (.docStart false) 10, .ev (.mapStart 0 none) 10,
     .ev (.scalar ['s'] .plain 0 none) 11, .ev (.mapStart 1 none) 12, .ev (.scalar ['k'] .plain 0 none) 13,
     .ev (.scalar ['1'] .plain 0 none) 14, .ev .mapEnd 15,
     .ev (.scalar ['t'] .plain 0 none) 16, .ev (.mapStart 0 none) 17, .ev (.scalar "<<".toList .plain 0 none) 18,
     .ev (.alias 1) 19, .ev (.scalar ['z'] .plain 0 none) 20, .ev (.scalar ['3'] .plain 0 none) 21, .ev .mapEnd 22,
     .ev .mapEnd 23, .ev .docEnd 23, .ev .streamEnd 23])) =
    0 :: digestS (.struct [("t", .map [(.str ['z'], .spanned 21 21 (.leaf (.int 3))), (.str ['k'], .spanned 19 14 (.leaf (.int 1)))])]) := by
  decide +kernel

-- a leaf inside the aliased sequence that does not fit: use site = the alias token, definition site = the LEAF
theorem aliasDoc_oops_outcome : outcome (deserS 40 {} none aliasTy (.live aliasPump (aliasDoc "oops"))) =
    1 :: 17 :: 14 :: "AliasError".toList.map Char.toNat := by decide +kernel
example : outcome (deserS 40 {} none aliasTy (.live aliasPump (aliasDoc "oops"))) =
    1 :: 17 :: 14 :: "AliasError".toList.map Char.toNat := aliasDoc_oops_outcome

/-! ### the fallback location (Part C) on witnesses -/

/-- `a: 1` / `k:   <second>` as parser items: key `k` at 13, its value at 14 -/
def nzDoc (second : String) : List RawItem :=
  [.ev .streamStart 10, .ev (.docStart false) 10, .ev (.mapStart 0 none) 10,
   .ev (.scalar ['a'] .plain 0 none) 11, .ev (.scalar ['1'] .plain 0 none) 12,
   .ev (.scalar ['k'] .plain 0 none) 13, .ev (.scalar second.toList .plain 0 none) 14,
   .ev .mapEnd 15, .ev .docEnd 15, .ev .streamEnd 15]

/-- `struct { a: u8, k: NonZeroU8 }` -/
def nzTy : STy := .struct [("a", .leaf (.int false 8)), ("k", .nonzero false 8)]

-- the witness of the finding: `invalid_value` for `k:   0` is located at the VALUE (14), not at the key (13)
theorem nzDoc_zero_outcome : outcome (deserS 40 {} none nzTy (.live aliasPump (nzDoc "0"))) =
    1 :: 14 :: 0 :: "invalid_value".toList.map Char.toNat := by decide +kernel
example : outcome (deserS 40 {} none nzTy (.live aliasPump (nzDoc "0"))) =
    1 :: 14 :: 0 :: "invalid_value".toList.map Char.toNat := nzDoc_zero_outcome
-- also inside the span-carrying wrapper and `Option`; a non-zero value is delivered
example : outcome (deserS 40 {} none (.struct [("k", .spanned (.option (.nonzero false 8)))]) (.live aliasPump (nzDoc "0"))) =
    1 :: 14 :: 0 :: "invalid_value".toList.map Char.toNat := by
  char_lits
  decide +kernel
example : outcome (deserS 40 {} none nzTy (.live aliasPump (nzDoc "7"))) =
    0 :: digestS (.struct [("a", .leaf (.int 1)), ("k", .leaf (.int 7))]) := by decide +kernel
-- a sequence element: the element (14); through the alias `*a` (17): alias token and the element's own location
theorem nonzero_element_outcome :
    outcome (deserS 40 {} none (.struct [("k", .seq (.nonzero false 8))]) (.live aliasPump (aliasDoc "0"))) =
      1 :: 14 :: 0 :: "invalid_value".toList.map Char.toNat := by
  char_lits
  decide +kernel
example : outcome (deserS 40 {} none (.struct [("k", .seq (.nonzero false 8))]) (.live aliasPump (aliasDoc "0"))) =
    1 :: 14 :: 0 :: "invalid_value".toList.map Char.toNat := nonzero_element_outcome
example : outcome (deserS 40 {} none (.struct [("j", .seq (.nonzero false 8))]) (.live aliasPump (aliasDoc "0"))) =
    1 :: 17 :: 14 :: "AliasError".toList.map Char.toNat := by decide +kernel
-- a mapping value that is an alias (`a: &z 0` at 12, `k: *z` at 14): alias token and anchored scalar
example : outcome (deserS 40 {} none nzTy (.live aliasPump
    [.ev .streamStart 10, .ev (.docStart false) 10, .ev (.mapStart 0 none) 10,
     .ev (.scalar ['a'] .plain 0 none) 11, .ev (.scalar ['0'] .plain 1 none) 12,
     .ev (.scalar ['k'] .plain 0 none) 13, .ev (.alias 1) 14, .ev .mapEnd 15, .ev .docEnd 15, .ev .streamEnd 15])) =
    1 :: 14 :: 12 :: "AliasError".toList.map Char.toNat := by decide +kernel
-- a merged value (`s: &m {k: 0}` with the 0 at 14, `t: {<<: *m, z: 3}` with the alias at 19): merge entry and source node
example : outcome (deserS 60 {} none (.struct [("t", .map (.nonzero false 8))]) (.live aliasPump
    [.ev .streamStart 10, .ev (.docStart false) 10, .ev (.mapStart 0 none) 10,
     .ev (.scalar ['s'] .plain 0 none) 11, .ev (.mapStart 1 none) 12, .ev (.scalar ['k'] .plain 0 none) 13,
     .ev (.scalar ['0'] .plain 0 none) 14, .ev .mapEnd 15,
     .ev (.scalar ['t'] .plain 0 none) 16, .ev (.mapStart 0 none) 17, .ev (.scalar "<<".toList .plain 0 none) 18,
     .ev (.alias 1) 19, .ev (.scalar ['z'] .plain 0 none) 20, .ev (.scalar ['3'] .plain 0 none) 21, .ev .mapEnd 22,
     .ev .mapEnd 23, .ev .docEnd 23, .ev .streamEnd 23])) =
    1 :: 19 :: 14 :: "AliasError".toList.map Char.toNat := by decide +kernel
-- a top-level call has no guard of its own: no location at all (`from_str::<NonZeroU8>("0")`, C15 `callNonZero`)
example : outcome (deserS 40 {} none (.nonzero false 8) (.live aliasPump
    [.ev .streamStart 10, .ev (.docStart false) 10, .ev (.scalar ['0'] .plain 0 none) 11, .ev .docEnd 12, .ev .streamEnd 12])) =
    1 :: 0 :: 0 :: "invalid_value".toList.map Char.toNat := by
  char_lits
  decide +kernel

/-- the hypotheses of `static_error_at_value_node` (mapping value, live) on a concrete cursor: the value of `k`
in a replayed `{k: 0}` whose use site is 19 -/
def nzCur : Cur := .replay [.scalar ['0'] 0 none .plain 0 14, .mapEnd 15] 0 (some 19)
example : RaisesStatic 3 {} (.nonzero false 8) nzCur "invalid_value" (.replay [.scalar ['0'] 0 none .plain 0 14, .mapEnd 15] 1 (some 19)) :=
  raisesStatic_nonzero 2 {} false 8 _ _ (by rfl)
example : nzCur.peek = .ok (some (.scalar ['0'] 0 none .plain 0 14)) nzCur ∧ nzCur.refLoc = 19 := ⟨rfl, rfl⟩

#print axioms location_chars_consistent
#print axioms location_bytes_absent_or_exact
#print axioms location_fields_consistent
#print axioms scan_error_location_consistent
#print axioms locations_within_input
#print axioms spanned_plain
#print axioms spanned_plain_replay
#print axioms peek_plain_keeps_inject_empty
#print axioms spanned_alias_replay
#print axioms spanned_alias
#print axioms spanned_merge
#print axioms merge_entry_ref
#print axioms merge_source_entries_ref
#print axioms merge_map_entries_ref
#print axioms merge_seq_element_ref
#print axioms positions_match_spec
#print axioms location_fields_spec
#print axioms deserScalarTyped_err_loc
#print axioms error_location_eq_spanned
#print axioms end_of_stream_location_consistent
#print axioms locationFromSpanIn_of_markAt
#print axioms location_fields_consistent_in_memory
#print axioms alias_error_survives_outer_access
#print axioms error_location_nested
#print axioms static_error_at_seq_element
#print axioms static_error_at_map_value
#print axioms static_error_at_merged_value
#print axioms static_error_at_value_node
#print axioms nonzero_zero_raises_static
#print axioms static_error_survives_outer_access
#print axioms cell_under_guard_is_fb

end SaphyrVerif.Props.C16
