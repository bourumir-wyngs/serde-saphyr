import SaphyrVerif.Lemmas.C15
import SaphyrVerif.Lemmas.C15Seen
/-!
# C15 — a call's result depends only on its arguments, not on earlier or nested calls

Model: `Model/Tls.lean` (the two thread-locals as explicit state; a call = a program `Prog` of scopes,
guards, wrapper visitors, probes, a failure point and nested calls; `runCall p t` = the call as a function
of its arguments `p` and the thread-locals `t` it is entered with). The model follows the code AFTER the
repairs b68ea91 (`with_document_scope` saves / restores the enclosing call's anchor state instead of
resetting it) and 4aaf328 (`FallbackScopeGuard`: the fallback location is cleared for the scope and restored).

Hypotheses used below, both facts about the code (and exercised by the differential run on every script):
* `isEntry p` (`TopCall`) — a top-level call touches the thread-locals only inside `with_document_scope`,
  one scope per document (`lib.rs`, `de/with_deserializer.rs`: all 12 call sites read);
* `tight false p` (only for `fallback_restored`, which is about SUB-deserializations) — `p` delivers no key
  and runs no map access at its own level: both occur only in the body of a guard or of a document scope
  (`de.rs`: the `MA` value is built only in `deserialize_map`, after the container guard; it owns no guard itself
  — `set_missing_field_fallback` at each key — so whether the visitor drops it or leaks it, `mem::forget`, makes no
  difference). Guards need no hypothesis: RAII is the semantics of `exec`.

Results (all FULL over the model: every program, every entry state, every history):
* `toplevel_call_state_clean`, `history_leaves_initial_state`, `toplevel_call_history_independent`,
  `call_is_function_of_arguments`, `fallback_restored`, `fallback_restored_in_map_access`;
* `nested_call_independent` — a call nested anywhere inside another call returns the fresh result;
* `nested_call_is_noop`, `nested_call_transparent` — for the enclosing call a nested call is a no-op
  (thread-locals, outcome, sharing); all it leaves is the record of its own (fresh) result;
* `seen_membership_only`, `seen_order_irrelevant` — over `Model/De.lean`;
* `no_other_state` is a code-reading fact (see the end of this file), tied to the code by the oracle;
* the three regression theorems of the two repaired defects are in `Props/C15_Findings.lean`.
-/
namespace SaphyrVerif.Tls
open SaphyrVerif.De

/-- what the code guarantees about a top-level call (see the module comment) -/
abbrev TopCall (p : Prog) : Prop := isEntry p = true

/-- From ANY entry value of the thread-locals (garbage in the anchor stack, stores, in-progress counts,
any fallback location) a top-level call returns its fresh-thread result and hands the thread-locals back
untouched. -/
theorem call_is_function_of_arguments (p : Prog) (h : TopCall p) (t : Tls) :
    runCall p t = ((runCall p Tls.init).1, t) := by
  have e : exec p none { anchors := t.anchors, fallback := t.fallback } = _ :=
    exec_entry_tls p h none ({} : St) t.anchors t.fallback
  unfold runCall
  rw [e]
  rfl

/-- C15, clause "no anchor table, error-location fallback … survives a call": after ANY completed
top-level call — succeeded, failed at any point, or unwound by a panicking visitor (all three are
programs `p`: an `err`/`serr`/`panic` at any position; leaked guards included) — both thread-locals are
exactly as the call found them, whatever that was. -/
theorem toplevel_call_state_clean (p : Prog) (h : TopCall p) (t : Tls) : (runCall p t).2 = t := by
  rw [call_is_function_of_arguments p h t]

/-- thread-locals after any history of completed top-level calls on a fresh thread: initial -/
theorem history_leaves_initial_state (hs : List Prog) (h : ∀ q ∈ hs, TopCall q) :
    runHistory hs Tls.init = Tls.init := by
  induction hs with
  | nil => rfl
  | cons q rest ih =>
    rw [runHistory, toplevel_call_state_clean q (h q (List.mem_cons_self ..)) Tls.init]
    exact ih (fun r hr => h r (List.mem_cons_of_mem _ hr))

/-- C15, main clause: for EVERY history of completed top-level calls, the next call (any program `p`
whatsoever) gives the result — outcome, sharing pattern, everything user code can observe during the
call — and leaves the state that it gives as the first call on a fresh thread. -/
theorem toplevel_call_history_independent (hs : List Prog) (h : ∀ q ∈ hs, TopCall q) (p : Prog) :
    runCall p (runHistory hs Tls.init) = runCall p Tls.init := by
  rw [history_leaves_initial_state hs h]

/-- C15, `fallback_restored`: every (sub-)deserialization leaves the fallback cell as it found it, on every
exit path — guards are well nested, and the map access, which owns no guard and only points the cell at each
key it delivers (`set_missing_field_fallback`), sits inside the container guard of `deserialize_map`, which
restores the outer value (also when the visitor leaks the map access). -/
theorem fallback_restored (p : Prog) (h : tight false p = true) (st : St) :
    (exec p none st).2.2.fallback = st.fallback :=
  (exec_keeps p h none st).2

/-- the same for a mapping: whatever happens between two keys — and whether the visitor drops or LEAKS the
map access — once `deserialize_map` returns the cell holds what it held before. (The map access owns no
guard of its own: it points the cell at each key inside the scope of the container's guard.) -/
theorem fallback_restored_in_map_access (leak : Bool) (loc : Loc) (body : Prog) (st : St) :
    (exec (.guard loc (.ma leak body .done) .done) none st).2.2.fallback = st.fallback :=
  fallback_restored _ (by simp [tight]) st

/-! ## Nested calls (a user `Deserialize` impl calls `from_str`) -/

/-- C15, nested clause (FULL): a call nested anywhere — whatever anchor state and fallback location the
enclosing call has at that moment — returns what it returns on a fresh thread. -/
theorem nested_call_independent (p : Prog) (h : TopCall p) (t : Tls) :
    (runCall p t).1 = (runCall p Tls.init).1 := by
  rw [call_is_function_of_arguments p h t]

/-- what user code records about a nested call: its (fresh-thread) result -/
def nestRecord (inner : Prog) : List Item :=
  [.nestBegin] ++ (runCall inner Tls.init).1.trace ++
    [.nestEnd (runCall inner Tls.init).1.out (runCall inner Tls.init).1.ptrs]

/-- C15, nested clause, the enclosing side (FULL): executing a nested call in the middle of a
deserialization is the same as not executing it, except that user code now holds the nested call's result
(which is the fresh-thread result). In particular both thread-locals of the enclosing call are untouched. -/
theorem nested_call_is_noop (inner k : Prog) (s : Slot) (st : St) (h : TopCall inner) :
    exec (.nest inner k) s st = exec k s { st with trace := st.trace ++ nestRecord inner } := by
  have e := exec_entry_tls inner h none ({} : St) st.anchors st.fallback
  have e' : exec inner none { anchors := st.anchors, fallback := st.fallback } =
      ((exec inner none {}).1, (exec inner none {}).2.1, (exec inner none {}).2.2.withTls st.anchors st.fallback) := e
  rw [exec]
  simp only [e', nestRecord, runCall, Tls.init, St.withTls, List.append_assoc]

/-- … hence outcome, pointer sharing and final thread-locals of the enclosing computation are those of the
computation without the nested call. -/
theorem nested_call_transparent (inner k : Prog) (s : Slot) (st : St) (h : TopCall inner) :
    (exec (.nest inner k) s st).1 = (exec k s st).1 ∧
    (exec (.nest inner k) s st).2.2.ptrs = (exec k s st).2.2.ptrs ∧
    (exec (.nest inner k) s st).2.2.anchors = (exec k s st).2.2.anchors ∧
    (exec (.nest inner k) s st).2.2.fallback = (exec k s st).2.2.fallback := by
  rw [nested_call_is_noop inner k s st h]
  exact exec_trace_irrelevant k s st _

/-! ## The value guard of `MA::next_value_seed` (repair of `C16-static-error-at-map-value-reported-at-key`) -/

/-- a static Serde error raised while a mapping VALUE is read — directly, i.e. not under a deeper guard —
carries the value's use-site location `vloc`: not the key location `kloc`, and nothing of what the container
guard, an earlier key or any enclosing deserialization had put into the cell (`s`, `st` arbitrary), whatever
the visitor did between `next_key` and `next_value` (`pre`: any number of probes). -/
theorem static_error_in_value_at_value (kloc vloc : Loc) (n : Nat) (k : Prog) (s : Slot) (st : St) :
    (exec (.entry kloc (Nat.repeat .probe n) vloc .serr k) s st).1 = .err vloc := by
  have hp : ∀ (n : Nat) (s : Slot) (st : St),
      (exec (Nat.repeat .probe n (.guard vloc .serr k)) s st).1 = .err vloc := by
    intro n
    induction n with
    | zero => intro s st; simp [Nat.repeat, exec, andThen, effLoc]
    | succ n ih => intro s st; simpa [Nat.repeat, exec] using ih s _
  cases s <;> simpa [Prog.entry, exec] using hp n _ _

/-- … and the same error raised in a SEQUENCE element (guard of `SA::next_element_seed`), for comparison: the
element's location. Mapping values and sequence elements now follow one rule. -/
theorem static_error_in_element_at_element (eloc : Loc) (k : Prog) (s : Slot) (st : St) :
    (exec (.guard eloc .serr k) s st).1 = .err eloc := by
  simp [exec, andThen, effLoc]

/-- the repair leaves every OTHER use of the cell alone: once the value has been read (any `body` that
succeeds; no well-nestedness hypothesis is needed, the guard's `Drop` writes back what it saved), the cell
holds the key location again — a static error raised after the entry (`missing_field` after the last key,
`unknown_field` / `duplicate_field`-style errors of the visitor) is located at the key, as before. -/
theorem static_error_after_value_at_key (kloc vloc : Loc) (body : Prog) (s : Slot) (st : St)
    (hb : (exec body none { st with fallback := some vloc }).1 = .ok) :
    (exec (.entry kloc (fun k => k) vloc body .serr) s st).1 = .err kloc := by
  cases s <;> simp [Prog.entry, exec, andThen, hb, effLoc]

/-- the cell seen by whatever follows the value (the next key, the visitor's tail, the `Drop` of the map
access) is the one the key guard had set: the value guard is invisible outside the value, on every exit path
of the value. -/
theorem value_guard_invisible_outside (vloc : Loc) (body : Prog) (s : Slot) (st : St) :
    (exec (.guard vloc body .done) s st).2.2.fallback = st.fallback ∧
    (exec (.guard vloc body .done) s st).2.1 = s := by
  simp only [exec, andThen]
  cases (exec body none { st with fallback := some vloc }).1 <;> simp

/-- `from_str::<NonZeroU8>("0")`: `deserialize_u8` → `visit_u8(0)` → `Error::invalid_value` (a static
constructor) with no guard of the call's own -/
def callNonZero : Prog := .scope false .serr .done

def loc (line col : Nat) : Loc := line * 1048576 + col

/-- a struct field `RcAnchor<{v: P}>` on a node with anchor `id`: container guard, key `v` at `vkey`, its value
(one probe) under the value guard at `vval` (the scalar's own start; through an alias the alias token) -/
def rcField (id : Nat) (container vkey vval : Loc) (k : Prog) : Prog :=
  .ctx .rc (some id) (.strong .rc
    (.guard container (.ma false (.entry vkey (fun k => k) vval (.probe .done) .done) .done) .done) .done) k

/-- `x: &a {v: 1}` / `n: …` / `y: *a` deserialized into `struct { x: RcAnchor<_>, n: N, y: RcAnchor<_> }`;
`middle` = what `N::deserialize` does (it runs under the value guard of `n`, at line 2 column 4) -/
def outerDoc (middle : Prog → Prog) : Prog :=
  .scope false
    (.guard (loc 1 1) (.ma false
      (.entry (loc 1 1) (fun k => k) (loc 1 7) (rcField 1 (loc 1 7) (loc 1 8) (loc 1 11) .done)
      (.entry (loc 2 1) (fun k => k) (loc 2 4) (middle .done)
      (.entry (loc 3 1) (fun k => k) (loc 3 4) (rcField 1 (loc 3 4) (loc 1 8) (loc 3 4) .done) .done))) .done) .done) .done

/-- `N::deserialize` calls `from_str` -/
def withNestedCall : Prog := outerDoc fun k => .nest callNonZero k
/-- `N::deserialize` does not parse -/
def withoutNestedCall : Prog := outerDoc fun k => k

/-- `foo: &a {k1: 1, h: …, k3: *a}` into `struct { foo: RcRecursive<{k1: P, h: N, k3: RcRecursion<_>}> }` -/
def recDoc (middle : Prog → Prog) : Prog :=
  .scope false
    (.guard (loc 1 1) (.ma false
      (.entry (loc 1 1) (fun k => k) (loc 2 3) (.ctx .rcRec (some 1) (.strong .rcRec
        (.guard (loc 2 3) (.ma false
          (.entry (loc 2 3) (fun k => k) (loc 2 7) (.probe .done)
          (.entry (loc 3 3) (fun k => k) (loc 3 6) (middle .done)
          -- the alias is met by the look-ahead of `next_value_seed`, before the value guard
          (.entry (loc 4 3) (.recAlias 1 (loc 4 7)) (loc 4 7)
            (.ctx .rcRec (some 1) (.weak .rcRec .done .done) .done) .done))) .done) .done)
        .done) .done) .done) .done) .done) .done

/-! ## Non-vacuity: the hypotheses hold on the programs the differential run uses -/

/-- `k:   0` into `struct { k: NonZeroU8 }` (the witness of the finding): key at 1:1, value at 1:6 — the static
error is reported at the value; with a second, missing field the error after the entry is at the key -/
example : (runCall (.scope false (.guard (loc 1 1) (.ma false
    (.entry (loc 1 1) (fun k => k) (loc 1 6) .serr .done) .done) .done) .done) Tls.init).1.out = .err (loc 1 6) := by decide +kernel
example : (runCall (.scope false (.guard (loc 1 1) (.ma false
    (.entry (loc 1 1) (fun k => k) (loc 1 6) (.probe .done) .serr) .done) .done) .done) Tls.init).1.out = .err (loc 1 1) := by decide +kernel
/-- hypothesis of `static_error_after_value_at_key` on a value with its own map access and probes -/
example : (exec (rcField 1 (loc 1 7) (loc 1 8) (loc 1 11) .done) none { fallback := some (loc 1 7) }).1 = .ok := by decide +kernel

example : TopCall withNestedCall ∧ TopCall withoutNestedCall ∧ TopCall (recDoc fun k => k) ∧ TopCall callNonZero := by decide +kernel
example : tight false withNestedCall = true ∧ tight false (recDoc fun k => .nest callNonZero k) = true := by decide +kernel
/-- a failing call, a panicking call, an iterator call with a failing document, a leaked map access
(even one that is under no guard: the document scope restores the cell) -/
example : TopCall (outerDoc fun _ => .err (loc 2 4)) ∧ TopCall (outerDoc fun _ => .panic) ∧
    TopCall (.scope true (.guard 5 (.ma false (.key 6 .serr) .done) .done) (.scope true (.probe .done) .done)) ∧
    TopCall (.scope false (.ma true (.key 6 (.probe .done)) .done) .done) := by decide +kernel
/-- the three kinds of calls in one history, then the witness: same result as on a fresh thread (instance of
`toplevel_call_history_independent`, evaluated) -/
example : runCall withoutNestedCall
    (runHistory [outerDoc fun _ => .err (loc 2 4), outerDoc fun _ => .panic, withNestedCall] Tls.init) =
    runCall withoutNestedCall Tls.init := by decide +kernel
/-- a map access under no guard (leaked or not) leaves the cell at its last key INSIDE the call: `tight` (every
map access sits in a guard body) is needed for `fallback_restored` … -/
example : (exec (.ma true (.key 6 .done) .done) none {}).2.2.fallback = some 6 ∧
    (exec (.ma false (.key 6 .done) .done) none {}).2.2.fallback = some 6 ∧
    (exec (.guard 3 (.ma false (.key 6 .done) .done) .done) none {}).2.2.fallback = none := by decide +kernel
/-- … but not for a whole call: the document scope puts the entry value back -/
example : (runCall (.scope false (.ma true (.key 6 .done) .done) .done) ⟨.empty, some 9⟩).2.fallback = some 9 := by decide +kernel

/-- C15, clause "no … hash seed survives a call in a way that can be observed" for the duplicate-key set:
`MA::next_key_seed` run with two representations `s'`, `m.seen` of the same SET of fingerprints (same
membership function — any order, any multiplicity, any hashing) takes the same branch, returns the same
key / error / cursor, and leaves map-access states that differ only in the representation of the set
(`reSeen`: the new set is `fp :: s'` resp. `fp :: m.seen`). All uses of `seen` in `de.rs` are
`contains` and `insert` (lines 2184, 2286, 2334, 2434). -/
theorem seen_membership_only (fuel : Nat) (cfg : Cfg) (ks : Ty ⊕ Unit) (c : Cur) (m : MA) (s' : List FP)
    (h : ∀ fp, s'.any (· == fp) = m.seen.any (· == fp)) :
    nextKey fuel cfg ks c { m with seen := s' } = reSeen s' (nextKey fuel cfg ks c m) :=
  nextKey_reSeen fuel cfg ks c m s' h

/-- in particular the result of `nextKey` is invariant under any permutation of `m.seen` (iteration
order of the hash set) -/
theorem seen_order_irrelevant (fuel : Nat) (cfg : Cfg) (ks : Ty ⊕ Unit) (c : Cur) (m : MA) (s' : List FP)
    (h : s'.Perm m.seen) :
    nextKey fuel cfg ks c { m with seen := s' } = reSeen s' (nextKey fuel cfg ks c m) :=
  nextKey_reSeen fuel cfg ks c m s' (SeenEq.of_perm h)

/-!
## `no_other_state` (code-reading fact, not a theorem)

Read completely for this: the only `thread_local!` / mutable `static` items of the crate are
`anchor_store::STATE` and `de_error::MISSING_FIELD_FALLBACK` (the other statics — `TAG_LOOKUP_MAP`
(`LazyLock<BTreeMap>`), the `OnceLock<Regex>` of `ser_quoting.rs`, `DEFAULT_ENGLISH_LOCALIZER`, `DEFAULT_FMT` —
are immutable after initialisation). Every entry point of `lib.rs` / `de/with_deserializer.rs` constructs
its own `LiveEvents` (`from_str` / `from_reader`), which owns the budget enforcer (`BudgetEnforcer::new`:
counters 0, `defined_anchors: FastHashSet::with_capacity(256)`), the alias counters
(`per_anchor_expansions`, `total_replayed_events`, `rec_stack`, `inject`) and the anchor event buffers; the
map access constructs `seen: FastHashSet::with_capacity(8)` per mapping; the serializer constructs its
pointer→anchor map (`HashMap<usize, AnchorId, BuildNoHashHasher>`) per `YamlSerializer`. The hash sets are
used for `contains`/`insert`/`len`/`clear` only (never iterated); `ahash::RandomState` seeds therefore
cannot influence results (`seen_membership_only`; `PathMap` is covered by C18
`find_unique_order_independent`). The oracle of the `calls` area ties this to the code: every call of the
alphabet gives, after every history of length <= 3 (thorough 4) and after random histories of length
5..12, the byte-identical canonical result it gives on a fresh thread, and the probes of both
thread-locals read "clean" after every call; nested at 4 host positions every call still gives that result,
and the enclosing call gives the result it gives with a non-parsing `Deserialize` in that place.
-/

#print axioms static_error_in_value_at_value
#print axioms static_error_in_element_at_element
#print axioms static_error_after_value_at_key
#print axioms value_guard_invisible_outside

end SaphyrVerif.Tls
