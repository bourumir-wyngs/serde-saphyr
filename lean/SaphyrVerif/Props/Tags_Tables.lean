import SaphyrVerif.Gen.Tables
/-!
Semantic pins on the tag table regenerated from `/repo/src/tags.rs` (Gen/Tables.lean).

The typed model and the tree-level specification both classify tags through this table, so a change to the
table in the source is followed by model AND specification. These obligations state what the properties need
from the table itself (C03: a tagged `<<` is an ordinary key; C05/C06: the core-schema tags keep their
meaning, no explicit tag text is ever classified as "no tag"); they break when the table stops providing it.
-/
namespace SaphyrVerif.Props.Tags_Tables
open SaphyrVerif

/-- class code of a raw tag text according to the regenerated table -/
def classOf (t : String) : Option Nat := (Gen.tagLookupTable.find? (fun p => p.1 == t)).map (·.2)

/-- the YAML 1.1 merge tag is not in the table at all (it is an ordinary application tag: class Other) -/
theorem merge_tag_unclassified :
    classOf "tag:yaml.org,2002:merge" = none ∧ classOf "tag:yaml.org,2002:!merge" = none ∧ classOf "!merge" = none := by decide +kernel

/-- the core-schema tags keep their classes (declaration order of `SfTag`) -/
theorem core_tags_classified :
    classOf "tag:yaml.org,2002:int" = some 1 ∧ classOf "tag:yaml.org,2002:float" = some 2 ∧
    classOf "tag:yaml.org,2002:bool" = some 3 ∧ classOf "tag:yaml.org,2002:null" = some 4 ∧
    classOf "tag:yaml.org,2002:seq" = some 5 ∧ classOf "tag:yaml.org,2002:map" = some 6 ∧
    classOf "tag:yaml.org,2002:timestamp" = some 7 ∧ classOf "tag:yaml.org,2002:binary" = some 8 ∧
    classOf "tag:yaml.org,2002:str" = some 9 := by decide +kernel

/-- every class in the table is one of the declared ones (1 … 12; 13 = Other is never stored) -/
theorem classes_in_range : ∀ p ∈ Gen.tagLookupTable, 1 ≤ p.2 ∧ p.2 ≤ 12 := by decide +kernel

/-- No explicit tag text is classified as `SfTag::None` (code 0): "untagged" is reserved for nodes without a tag.
In particular a tagged `<<` (`!!merge <<`, `!!str <<`, `! <<`) can never satisfy the merge-key test, which
requires the untagged class. -/
theorem no_tag_text_is_untagged : ∀ p ∈ Gen.tagLookupTable, p.2 ≠ 0 :=
  fun p hp => Nat.ne_of_gt (classes_in_range p hp).1

/-- only untagged, `!!str` and application tags (`Other`) may be read into a string target -/
theorem can_parse_into_string_table :
    Gen.tagCanParseIntoString = [true, false, false, false, false, false, false, false, false, true, false, false, false, true] := by decide +kernel

/-- the table is keyed by exact text: a lookup is case-sensitive (`!Null`, `!Binary` are application tags) -/
theorem lookup_is_case_sensitive :
    classOf "tag:yaml.org,2002:Null" = none ∧ classOf "tag:yaml.org,2002:Binary" = none ∧ classOf "!Null" = none ∧ classOf "!Binary" = none := by decide +kernel

end SaphyrVerif.Props.Tags_Tables
