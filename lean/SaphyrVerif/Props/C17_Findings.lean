import SaphyrVerif.Lemmas.Lits
import SaphyrVerif.Spec.Snippet
import SaphyrVerif.Model.Snippet
/-!
# C17 — regression theorems on the witnesses of the repaired findings

Each theorem below (tag `(R)`: regression) states the good behaviour of the model on the witness of a finding that has been
repaired in /repo (before the repair the implementation violated the statement on that witness).
The model is tied to the repaired code by the differential run, and the same
witnesses are rendered by the real code in the oracle stream of `harness/src/snippet.rs` under the
unchanged oracle ids, so a regression shows up as a violation. The general (for-all) statements are in
Props/C17.lean (`window_output_clean`, `fmt_window_safe`, `region_lines_exact`,
`regions_cover_location`, `eof_line_terminated`, `reader_snippet_line_aligned`,
`window_contains_error_line_yaml`).
-/
namespace SaphyrVerif.Props.C17
open SaphyrVerif SaphyrVerif.Snippet
open SaphyrVerif.Spec.Snippet (clean)

/-- (R) `report_label_sanitized_regression` — finding `C17-message-control-chars`, fixed.
Document `"\e[31m": 1` into a struct with `deny_unknown_fields`: the message reflects the key
(`unknown field `<ESC>[31m``). Title and label handed to the external renderer are now sanitised
like the source window: ESC has become a space. -/
theorem report_label_sanitized_regression :
    (match snippetRequest "\"\\e[31m\": 1\n".toList ⟨1, 1⟩ (some 1) 64 "unknown field `\x1b[31m`".toList with
     | .ok (some r) =>
       clean r.source && clean r.label && clean r.title &&
       (r.label == "unknown field ` [31m`".toList) &&
       (r.title == "line 1 column 1: unknown field ` [31m`".toList)
     | _ => false) = true := by
  decide +kernel

/-- (R) the same with a C1 control (CSI, U+009B) and DEL in the reflected text -/
theorem report_label_sanitized_c1_regression :
    (match snippetRequest "k: 1\n".toList ⟨1, 1⟩ none 64 "unknown field `\u009b31m\x7f`".toList with
     | .ok (some r) => clean r.label && clean r.title && (r.label == "unknown field `\u00a031m `".toList)
     | _ => false) = true := by
  decide +kernel

/-- (R) `reader_window_mid_line_regression` — finding `C17-reader-window-starts-mid-line`, fixed.
Stream `key: AAAAAAAAAAAA⏎b: 1⏎` read to the end through a ring of 8 bytes (the real ring has
`RING_BUFFER_SIZE = 3072`; the logic does not depend on the size). The snapshot `AA⏎b: 1⏎` starts in
the middle of line 1, so the text attached for snippets leaves that partial line out: it is `b: 1⏎`
starting at line 2. An error located at line 1 column 1 gets no region (it is rendered without a
snippet instead of marking an `A`), and an error at line 2 column 1 is marked on the `b`. -/
theorem reader_window_mid_line_regression :
    (match ringRunAligned 8 0 (encode "key: AAAAAAAAAAAA\nb: 1\n".toList) 100 with
     | .ok (starts, fragment, startLine) =>
       !starts && (fragment == "b: 1\n".toList) && startLine == 2 &&
       (match withSnippetRegions fragment ⟨1, 1⟩ (some startLine) 64 with
        | .ok regions => regions.isEmpty
        | _ => false) &&
       (match withSnippetRegions fragment ⟨2, 1⟩ (some startLine) 64 with
        | .ok regions =>
          match renderPrepare regions ⟨2, 1⟩ 64 with
          | .ok (some p) =>
            p.displayStartRow == 2 &&
            (dropBytes p.windowText p.localStart).bind List.head? ==
              Spec.Snippet.charAtCol (Spec.Snippet.visibleLine "key: AAAAAAAAAAAA\nb: 1\n".toList 2) 1
          | _ => false
        | _ => false)
     | _ => false) = true := by
  decide +kernel

/-- (R) a snapshot that starts right after an evicted line break keeps its first line -/
theorem reader_window_line_start_regression :
    ringRunAligned 5 0 (encode "ab\nb: 1\n".toList) 100 = .ok (true, "b: 1\n".toList, 2) := by
  decide +kernel

/-- (R) `region_end_line_regression` — finding `C17-region-end-line-overcount`, fixed.
Text `a: x⏎b: 1⏎c: 2⏎d: y⏎e: 5⏎` with two located issues, at line 1 and at line 4. The region stored for
line 1 holds rows 1..3 and now ends at line 3: it no longer claims line 4, `pick_cropped_region` picks
the region that was stored for line 4, and the issue on line 4 is rendered with its snippet. A region
at the end of the input still covers the empty line after the final line break. -/
theorem region_end_line_regression :
    (match regionFor "a: x\nb: 1\nc: 2\nd: y\ne: 5\n".toList ⟨1, 4⟩ none 64,
           regionFor "a: x\nb: 1\nc: 2\nd: y\ne: 5\n".toList ⟨4, 4⟩ none 64,
           regionFor "a: x\nb: 1\nc: 2\nd: y\ne: 5\n".toList ⟨6, 1⟩ none 64 with
     | .ok (some a), .ok (some d), .ok (some e) =>
       a.text == "a: x\nb: 1\nc: 2\n".toList && a.startLine == 1 && a.endLine == 3 &&
       !a.covers ⟨4, 4⟩ &&
       (pickRegion [a, d] ⟨4, 4⟩).map (·.startLine) == some 2 &&
       d.startLine == 2 && d.endLine == 6 && d.covers ⟨4, 4⟩ &&
       (match renderPrepare [a, d] ⟨4, 4⟩ 64 with | .ok (some _) => true | _ => false) &&
       e.startLine == 4 && e.endLine == 6 && e.covers ⟨6, 1⟩
     | _, _, _ => false) = true := by
  decide +kernel

/-- (R) `eof_line_shown_regression` — finding `C17-location-on-empty-last-line`, fixed.
`name: 'unterminated⏎` reports line 2 column 1 (the empty line after the final line break). The
source handed to the external renderer now has that line terminated, with the span on it. -/
theorem eof_line_shown_regression :
    (match snippetRequest "name: 'unterminated\n".toList ⟨2, 1⟩ (some 1) 64 "msg".toList with
     | .ok (some r) =>
       (r.source == "name: 'unterminated\n\n".toList) && r.lineStart == 1 && r.spanStart == 20 && r.spanEnd == 20
     | _ => false) = true := by
  decide +kernel

/-- (R) `lone_cr_line_break_regression` — finding `C17-lone-cr-line-break`, fixed.
`name: x⏎count: zz␊flag: true` (⏎ = a lone CR, which is a YAML line break) fails with `line 2 column 8`.
Line 2 under the YAML rule is `count: zz`. The region stored by `with_snippet` now holds the three
lines `name: x` / `count: zz` / `flag: true` (the lone CR has become LF), records lines 1..3, and the
window rendered from it has `count: zz` as its second row with the span on the first `z` (byte 15 of the
window = column 8 of row 2). Before the fix the text had two rows, row 2 was `flag: true`, and the marker
stood under a character of the wrong line. -/
theorem lone_cr_line_break_regression :
    (match withSnippetRegions "name: x\rcount: zz\nflag: true".toList ⟨2, 8⟩ none 64 with
     | .ok [reg] =>
       (reg.text == "name: x\ncount: zz\nflag: true".toList) && reg.startLine == 1 && reg.endLine == 3 &&
       (match renderPrepare [reg] ⟨2, 8⟩ 64 with
        | .ok (some p) =>
          p.displayStartRow == 1 && p.row == 2 && p.localStart == 15 &&
          (dropBytes p.windowText p.localStart).bind List.head? ==
            (Spec.Snippet.yamlLine "name: x\rcount: zz\nflag: true".toList 2).bind (Spec.Snippet.charAtCol · 8) &&
          (dropBytes p.windowText p.localStart).bind List.head? == some 'z'
        | _ => false)
     | _ => false) = true := by
  decide +kernel

/-- (R) the same text ending with lone CRs only (`name: x⏎flag: true⏎count: zz⏎`, error on line 3): four
lines under the YAML rule, the last one empty; the region covers lines 1..4 -/
theorem lone_cr_only_regression :
    (match regionFor "name: x\rflag: true\rcount: zz\r".toList ⟨3, 8⟩ none 64 with
     | .ok (some reg) =>
       (reg.text == "name: x\nflag: true\ncount: zz\n".toList) && reg.startLine == 1 && reg.endLine == 4 &&
       (Spec.Snippet.yamlLines "name: x\rflag: true\rcount: zz\r".toList).length == 4
     | _ => false) = true := by
  decide +kernel

/-- (R) reader entry point: stream `ab⏎cd⏎␊ef␊` (⏎ = CR, ␊ = LF) read to the end through rings of 7, 6,
5, 4 and 3 bytes. Ring of 7: `ab⏎` evicted — the lone CR ended line 1, the snapshot `cd⏎␊ef␊` begins
line 2. Rings of 6 and 5: the snapshot starts inside line 2, the rest of that line up to and including the
CRLF pair is left out and the attached text `ef␊` starts at line 3. Ring of 4 (`ab⏎cd⏎` evicted): the CRLF
pair is split, its CR is not counted as a line, the snapshot `␊ef␊` still belongs to line 2 and the
attached text is again `ef␊` from line 3. Ring of 3: the pair's LF has been evicted too, the snapshot
`ef␊` begins line 3. -/
theorem lone_cr_ring_regression :
    ringRunAligned 7 0 (encode "ab\rcd\r\nef\n".toList) 100 = .ok (true, "cd\r\nef\n".toList, 2) ∧
    ringRunAligned 6 0 (encode "ab\rcd\r\nef\n".toList) 100 = .ok (false, "ef\n".toList, 3) ∧
    ringRunAligned 5 0 (encode "ab\rcd\r\nef\n".toList) 100 = .ok (false, "ef\n".toList, 3) ∧
    ringRunAligned 4 0 (encode "ab\rcd\r\nef\n".toList) 100 = .ok (false, "ef\n".toList, 3) ∧
    ringRunAligned 3 0 (encode "ab\rcd\r\nef\n".toList) 100 = .ok (true, "ef\n".toList, 3) := by
  char_lits
  decide +kernel

end SaphyrVerif.Props.C17
