import SaphyrVerif.Lemmas.Lits
import SaphyrVerif.Spec.Scalars
import SaphyrVerif.Lemmas.C06
/-!
# C06 — scalars are interpreted exactly; never wrapped

Property theorems for the models of `parse_scalars.rs` and `base64.rs`.
-/
namespace SaphyrVerif.Props.C06
open SaphyrVerif SaphyrVerif.Scalars SaphyrVerif.Spec SaphyrVerif.Base64

/-- The checked accumulator computes the exact value and rejects exactly when it exceeds `max`. -/
theorem accum_exact (radix max : Nat) (hr : 1 ≤ radix) (s : List Char) :
    accum radix max s 0 false =
      (digitsValue? radix s).bind (fun v => if v ≤ max then some v else none) := by
  exact Lemmas.C06.accum_exact radix max hr s

/-- (T) parse_int_signed: for every width 1..128 the result is the mathematically exact value of the
notation when it fits the width, and an error otherwise — never wrapped, saturated or truncated. -/
theorem parse_int_signed_exact (w : Nat) (hw1 : 1 ≤ w) (hw : w ≤ 128) (legacy : Bool) (s : List Char) :
    parseIntSigned w legacy s =
      (intNotation legacy s).bind (fun v => if fitsSigned w v then some v else none) := by
  -- `1 ≤ w` (the widths that exist) is not needed: `Lemmas.C06.parseIntSigned_exact` holds for `w = 0` as well
  have _ := hw1
  exact Lemmas.C06.parseIntSigned_exact w hw legacy s

theorem parse_int_unsigned_exact (w : Nat) (hw : w ≤ 128) (legacy : Bool) (s : List Char) :
    parseIntUnsigned w legacy s =
      (uintNotation legacy s).bind (fun v => if fitsUnsigned w v then some v else none) := by
  unfold parseIntUnsigned uintNotation
  simp only []
  exact Lemmas.C06.dash_match (trim s) _ _ _
    (Lemmas.C06.unsignedCore_exact w hw _ (Lemmas.C06.radix_pos _ _) _)

/-- acceptance, both directions: the notation has exactly the value `v`, and `v` lies in the range of the width -/
theorem parse_int_signed_iff (w : Nat) (hw : w ≤ 128) (legacy : Bool) (s : List Char) (v : Int) :
    parseIntSigned w legacy s = some v ↔
      intNotation legacy s = some v ∧ - (2 : Int) ^ (w - 1) ≤ v ∧ v < (2 : Int) ^ (w - 1) := by
  rw [Lemmas.C06.parseIntSigned_exact w hw, Lemmas.C06.bind_fit_some, fitsSigned, Bool.and_eq_true,
    decide_eq_true_eq, decide_eq_true_eq]

theorem parse_int_unsigned_iff (w : Nat) (hw : w ≤ 128) (legacy : Bool) (s : List Char) (v : Nat) :
    parseIntUnsigned w legacy s = some v ↔ uintNotation legacy s = some v ∧ v < 2 ^ w := by
  rw [parse_int_unsigned_exact w hw, Lemmas.C06.bind_fit_some, fitsUnsigned, decide_eq_true_eq]

/-- soundness half ("never wrapped") -/
theorem never_wrapped_signed (w : Nat) (hw1 : 1 ≤ w) (hw : w ≤ 128) (legacy : Bool) (s : List Char) (v : Int)
    (h : parseIntSigned w legacy s = some v) :
    intNotation legacy s = some v ∧ - (2 : Int) ^ (w - 1) ≤ v ∧ v < (2 : Int) ^ (w - 1) :=
  have _ := hw1
  (parse_int_signed_iff w hw legacy s v).mp h

theorem never_wrapped_unsigned (w : Nat) (hw : w ≤ 128) (legacy : Bool) (s : List Char) (v : Nat)
    (h : parseIntUnsigned w legacy s = some v) :
    uintNotation legacy s = some v ∧ v < 2 ^ w :=
  (parse_int_unsigned_iff w hw legacy s v).mp h

/-- completeness half: every notation whose value fits is accepted (includes `i128::MIN` in every radix) -/
theorem complete_signed (w : Nat) (hw1 : 1 ≤ w) (hw : w ≤ 128) (legacy : Bool) (s : List Char) (v : Int)
    (h : intNotation legacy s = some v) (hlo : - (2 : Int) ^ (w - 1) ≤ v) (hhi : v < (2 : Int) ^ (w - 1)) :
    parseIntSigned w legacy s = some v :=
  have _ := hw1
  (parse_int_signed_iff w hw legacy s v).mpr ⟨h, hlo, hhi⟩

theorem complete_unsigned (w : Nat) (hw : w ≤ 128) (legacy : Bool) (s : List Char) (v : Nat)
    (h : uintNotation legacy s = some v) (hhi : v < 2 ^ w) :
    parseIntUnsigned w legacy s = some v :=
  (parse_int_unsigned_iff w hw legacy s v).mpr ⟨h, hhi⟩

/-- (T) the YAML 1.1 boolean table is exact -/
theorem bool_table_exact (s : List Char) :
    (parseYaml11Bool s = some true ↔
        lowerAscii (trim s) ∈ ["true".toList, "yes".toList, "y".toList, "on".toList]) ∧
    (parseYaml11Bool s = some false ↔
        lowerAscii (trim s) ∈ ["false".toList, "no".toList, "n".toList, "off".toList]) := by
  unfold parseYaml11Bool eqIgnoreAsciiCase
  simp only []
  obtain ⟨e1, e2, e3, e4, e5, e6, e7, e8, -⟩ := Lemmas.C06.lower_consts
  rw [e1, e2, e3, e4, e5, e6, e7, e8]
  exact Lemmas.C06.table_lemma _ _ _ _ _ _ _ _ _ (by decide)

theorem strict_bool_exact (s : List Char) :
    (parseStrictBool s = some true ↔ lowerAscii (trim s) = "true".toList) ∧
    (parseStrictBool s = some false ↔ lowerAscii (trim s) = "false".toList) := by
  unfold parseStrictBool eqIgnoreAsciiCase
  simp only []
  obtain ⟨e1, -, -, -, e5, -⟩ := Lemmas.C06.lower_consts
  rw [e1, e5, (Lemmas.C06.table_some _ _).1, (Lemmas.C06.table_some _ _).2, beq_iff_eq, beq_iff_eq,
    beq_eq_false_iff_ne]
  exact ⟨Iff.rfl, And.right, fun h => ⟨by rw [h]; decide, h⟩⟩

/-- (T) null-likes: only plain style, only the three spellings -/
theorem nullish_exact (v : List Char) (st : Style) :
    scalarIsNullish v st = true ↔
      st = .plain ∧ (v = [] ∨ v = ['~'] ∨ lowerAscii v = "null".toList) := by
  unfold scalarIsNullish eqIgnoreAsciiCase
  rw [Lemmas.C06.lower_consts.2.2.2.2.2.2.2.2]
  simp [List.isEmpty_iff, or_assoc]

theorem nullish_option_exact (v : List Char) (st : Style) :
    scalarIsNullishForOption v st = true ↔
      (v = [] ∧ st ≠ .single ∧ st ≠ .double) ∨
      (st = .plain ∧ (v = ['~'] ∨ lowerAscii v = "null".toList)) := by
  unfold scalarIsNullishForOption eqIgnoreAsciiCase
  rw [Lemmas.C06.lower_consts.2.2.2.2.2.2.2.2]
  simp [List.isEmpty_iff]

/-- quoted scalars are never null-like -/
theorem quoted_never_nullish (v : List Char) (st : Style) (h : st = .single ∨ st = .double) :
    scalarIsNullish v st = false ∧ scalarIsNullishForOption v st = false := by
  rcases h with rfl | rfl <;> simp [scalarIsNullish, scalarIsNullishForOption]

/-- (T) base64: decoding the RFC 4648 encoding of any byte string gives it back -/
theorem b64_decode_encode (bs : List Nat) (h : ∀ b ∈ bs, b < 256) :
    decodeChunks (b64encode bs) = some bs := by
  exact Lemmas.C06.b64_decode_encode bs h

/-- (T) base64 strictness: the only accepted text (after whitespace removal) is the canonical encoding
of the result — canonical padding, zero trailing bits. -/
theorem b64_strict (s bs : List Nat) (h : decodeChunks s = some bs) : s = b64encode bs := by
  exact Lemmas.C06.b64_strict s bs h

theorem b64_output_bytes (s bs : List Nat) (h : decodeChunks s = some bs) : ∀ b ∈ bs, b < 256 := by
  exact Lemmas.C06.b64_output_bytes s bs h

/-- (T) ASCII whitespace is the only thing ignored -/
theorem b64_decode_ws (s : List Nat) :
    decode s = decodeChunks (s.filter (fun b => !isAsciiWhitespaceByte b)) := rfl

-- (E) non-vacuity: concrete accepted / rejected notations
example : parseIntSigned 8 false "-0x80".toList = some (-128) := by decide +kernel
example : parseIntSigned 8 false "0x80".toList = none := by decide +kernel
example : parseIntSigned 128 false "-0x80000000000000000000000000000000".toList = some (-(2:Int)^127) := by
  char_lits
  decide +kernel
example : parseIntUnsigned 8 true " 00_7_7 ".toList = some 63 := by decide +kernel
example : parseIntUnsigned 8 false "-0".toList = none := by decide +kernel
example : decodeChunks (b64encode [1, 2, 3, 250]) = some [1, 2, 3, 250] := by decide +kernel
example : decodeChunks [65, 66, 61, 61] = none := by decide +kernel

section AxiomAudit
#print axioms accum_exact
#print axioms parse_int_signed_exact
#print axioms parse_int_unsigned_exact
#print axioms never_wrapped_signed
#print axioms never_wrapped_unsigned
#print axioms complete_signed
#print axioms complete_unsigned
#print axioms bool_table_exact
#print axioms strict_bool_exact
#print axioms nullish_exact
#print axioms nullish_option_exact
#print axioms quoted_never_nullish
#print axioms b64_decode_encode
#print axioms b64_strict
#print axioms b64_output_bytes
#print axioms b64_decode_ws
end AxiomAudit

end SaphyrVerif.Props.C06
