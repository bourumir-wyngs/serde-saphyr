import SaphyrVerif.Spec.Explicit
import SaphyrVerif.Props.C03
import SaphyrVerif.Props.E2E
import SaphyrVerif.Lemmas.C03_TypedE
/-!
# C03 at the level of typed values, and end to end

`Props/C03.lean` is about entry lists (`effEntries`), `Props/C05.lean` about the typed deserializer on replay
cursors, `Props/E2E.lean` about live documents with anchors and aliases.  This file joins them: the effective
entry list is an ordinary mapping under each policy (`eff_idempotent`); a tree with merge entries has the typed
meaning of its written-out form (`Spec.writeOut`, total; `Spec.explicitTree`, strict) except where an ENUM meets a
mapping, since an externally tagged enum reads the first RAW key (`…_counterexample`); and the same on the LIVE
cursor over documents whose merge values are aliases: for large fuel the live run IS `interp` of the written-out
tree of the expansion (`merge_explicit_eq_interp`; `merge_explicit_end_to_end` and its variants are readings of it).
-/
namespace SaphyrVerif.Props.C03Typed
open SaphyrVerif SaphyrVerif.Scalars SaphyrVerif.Pump SaphyrVerif.De SaphyrVerif.Spec
open SaphyrVerif.Lemmas
open SaphyrVerif.Lemmas.C02 (noFoldedIndent)
open SaphyrVerif.Props.C02 (initPump)
open SaphyrVerif.Props.C05 (deserTop noKemnKeys tupleFree)
open SaphyrVerif.Props.E2E (deserTopLive)

abbrev keyFps (es : List (ENode × ENode)) : List FP := es.map fun p => fpOf p.1

/-- own (non-merge) entries of a mapping, in document order -/
abbrev ownEntries (entries : List (ENode × ENode)) : List (ENode × ENode) := (splitEntries entries).1

/-! `ENode` has no `DecidableEq`; its event lists have one, and `eflatten` is injective (`treeOf` parses back).
An equation `x = some t` between optional trees is therefore decided as `x.map eflatten = (some t).map eflatten`. -/

theorem eflatten_injective : Function.Injective eflatten := fun a b h =>
  Option.some.inj ((Lemmas.CurSim.treeOf_eflatten a).symm.trans
    ((congrArg treeOf h).trans (Lemmas.CurSim.treeOf_eflatten b)))

/-- (T) eff_idempotent: under each of the three policies, the effective entry list `es` of a mapping contains
no merge entry, and read as a mapping of its own it has itself as effective entry list (under the same
policy): the merged mapping is an explicit mapping. -/
theorem eff_idempotent (dup : DupPolicy) (entries es : List (ENode × ENode)) (h : effEntries dup entries = some es) :
    (∀ e ∈ es, isMergeKeyNode e.1 = false) ∧ effEntries dup es = some es :=
  ⟨C03T.eff_no_merge dup entries es h, C03T.eff_idem dup entries es h⟩

/-- `effEntries` is `none` exactly for a repeated own key under `Error` or an invalid merge value -/
theorem eff_none_iff (dup : DupPolicy) (entries : List (ENode × ENode)) :
    effEntries dup entries = none ↔
      applyPolicy dup (ownEntries entries) [] = none ∨ seqSourceEntries (splitEntries entries).2 = none := by
  rw [C03.effEntries_alt]
  cases applyPolicy dup (splitEntries entries).1 [] <;> cases seqSourceEntries (splitEntries entries).2 <;> simp

/-- (T) repeated own keys, `Error`: the effective entries exist only if the own keys are pairwise
different; then ALL own entries are delivered, followed by merged ones, and no key occurs twice — so the
result is its own effective entry list under every policy. -/
theorem eff_error (entries es : List (ENode × ENode)) (h : effEntries .error entries = some es) :
    (keyFps (ownEntries entries)).Nodup ∧ (∃ merged, es = ownEntries entries ++ merged) ∧ (keyFps es).Nodup ∧
      ∀ dup', effEntries dup' es = some es := by
  obtain ⟨ownKept, src, h1, -, rfl⟩ := C03.eff_some h
  obtain ⟨rfl, hd⟩ := (C04.applyPolicy_error_eq_some_iff _ [] _).1 h1
  exact ⟨((C04.dropSeen_eq_self_iff _ []).1 hd).1, ⟨_, rfl⟩, C03T.eff_nodup .error entries _ h (by decide),
    Props.C03.merge_eq_explicit .error entries _ h (by decide)⟩

/-- (T) … and a repeated own key is an error under `Error` (whatever the merge entries are). -/
theorem eff_error_repeated_own_key (entries : List (ENode × ENode)) (h : ¬ (keyFps (ownEntries entries)).Nodup) :
    effEntries .error entries = none := by
  cases he : effEntries .error entries with
  | none => rfl
  | some es => exact absurd (eff_error entries es he).1 h

/-- (T) repeated own keys, `FirstWins`: never an error; of the own entries the FIRST of every key is kept
(`dropSeen`), followed by merged ones; no key occurs twice, so the result is its own effective entry list
under every policy. -/
theorem eff_firstWins (entries es : List (ENode × ENode)) (h : effEntries .firstWins entries = some es) :
    (∃ merged, es = dropSeen (ownEntries entries) [] ++ merged) ∧ (keyFps es).Nodup ∧
      ∀ dup', effEntries dup' es = some es := by
  obtain ⟨ownKept, src, h1, -, rfl⟩ := C03.eff_some h
  rw [C04.applyPolicy_firstWins_eq] at h1
  cases h1
  exact ⟨⟨_, rfl⟩, C03T.eff_nodup .firstWins entries _ h (by decide),
    Props.C03.merge_eq_explicit .firstWins entries _ h (by decide)⟩

/-- (T) `FirstWins` fails only for an invalid merge value. -/
theorem eff_firstWins_none_iff (entries : List (ENode × ENode)) :
    effEntries .firstWins entries = none ↔ seqSourceEntries (splitEntries entries).2 = none := by
  rw [eff_none_iff, C04.applyPolicy_firstWins_eq]
  simp

/-- (T) repeated own keys, `LastWins`: never an error; ALL own entries are delivered in document order,
repeated keys included (the later value overwrites the earlier one only in the user's map type), followed by
merged ones.  The result is its own effective entry list under `LastWins`; it is free of repeated keys
exactly when the own keys are, and otherwise it is NOT an admissible mapping under `Error`. -/
theorem eff_lastWins (entries es : List (ENode × ENode)) (h : effEntries .lastWins entries = some es) :
    (∃ merged, es = ownEntries entries ++ merged) ∧ effEntries .lastWins es = some es ∧
      ((keyFps es).Nodup ↔ (keyFps (ownEntries entries)).Nodup) ∧
      (¬ (keyFps (ownEntries entries)).Nodup → effEntries .error es = none) := by
  obtain ⟨ownKept, src, h1, -, rfl⟩ := C03.eff_some h
  rw [C04.applyPolicy_lastWins] at h1
  cases h1
  have hiff := C03.keys_eff_nodup src (ownEntries entries)
  refine ⟨⟨_, rfl⟩, C03T.eff_idem .lastWins entries _ h, hiff, fun hnd => ?_⟩
  apply eff_error_repeated_own_key
  intro hc
  apply hnd
  rw [← hiff]
  have hsplit := C03.splitEntries_of_no_merge _ (C03T.eff_no_merge .lastWins entries _ h)
  simp only [ownEntries] at hc
  rw [hsplit] at hc
  exact hc

/-- (T) `LastWins` fails only for an invalid merge value. -/
theorem eff_lastWins_none_iff (entries : List (ENode × ENode)) :
    effEntries .lastWins entries = none ↔ seqSourceEntries (splitEntries entries).2 = none := by
  rw [eff_none_iff, C04.applyPolicy_lastWins]
  simp

/-- (T) a merge source is never checked against the policy: as a merge value a mapping delivers, under
EVERY policy, the first entry of each of its keys (own fields first, then its own merge values from last to
first) — its effective entries under first-wins; a repeated key inside a merge source is not an error, not
even under `Error`. -/
theorem merge_source_is_first_wins (entries : List (ENode × ENode)) :
    effEntries .firstWins entries = (mapSourceEntries entries).map (dropSeen · []) :=
  C03T.eff_firstWins_eq entries

/-- "merge form = explicit form" at one node, for ALL types -/
def interp_merge_eq_explicit_Full : Prop :=
  ∀ (cfg : Cfg) (ty : Ty) (a : Nat) (l el : Loc) (entries es : List (ENode × ENode)),
    effEntries cfg.dup entries = some es → interp cfg ty (.map a l el entries) = interp cfg ty (.map a l el es)

def sc (s : String) (l : Loc) : ENode := .scalar s.toList 0 none .plain 0 l
def mk (es : List (ENode × ENode)) : ENode := .map 0 0 0 es

theorem eflatten_mk_injective : Function.Injective (eflatten ∘ mk) :=
  eflatten_injective.comp fun _ _ h => by injection h

/-- `enum E { A(i32) }` and `enum F { <<(i32) }` (a variant may be renamed to any string) -/
def enumA : Ty := .enum "E" [("A", .newtype (.int true 32))]
def enumM : Ty := .enum "F" [("<<", .newtype (.map .string (.int true 32)))]

/-- (F) interp_merge_eq_explicit is FALSE at an enum position: the externally tagged form `{Variant: payload}`
takes the variant name from the first RAW entry of the mapping (`deserialize_enum` reads the key that follows
`MapStart`; there is no merge processing).  `{<<: {A: 1}}` into `enum E { A(i32) }` is an error (no variant
`<<`) although the explicit mapping `{A: 1}` is `E::A(1)`; `{A: 1, <<: {A: 2}}` (two entries) is an error
although its explicit form `{A: 1}` is accepted; and with a variant named `<<` the merge form is accepted
while the explicit form `{A: 1}` is rejected. -/
theorem interp_merge_eq_explicit_counterexample :
    effEntries .error [(sc "<<" 1, mk [(sc "A" 2, sc "1" 3)])] = some [(sc "A" 2, sc "1" 3)] ∧
    interp {} enumA (mk [(sc "<<" 1, mk [(sc "A" 2, sc "1" 3)])]) = none ∧
    interp {} enumA (mk [(sc "A" 2, sc "1" 3)]) = some (.variant "A" (.int 1)) ∧
    effEntries .error [(sc "A" 4, sc "1" 5), (sc "<<" 1, mk [(sc "A" 2, sc "2" 3)])] = some [(sc "A" 4, sc "1" 5)] ∧
    interp {} enumA (mk [(sc "A" 4, sc "1" 5), (sc "<<" 1, mk [(sc "A" 2, sc "2" 3)])]) = none ∧
    interp {} enumA (mk [(sc "A" 4, sc "1" 5)]) = some (.variant "A" (.int 1)) ∧
    interp {} enumM (mk [(sc "<<" 1, mk [(sc "A" 2, sc "1" 3)])]) =
      some (.variant "<<" (.map [(.str ['A'], .int 1)])) ∧
    interp {} enumM (mk [(sc "A" 2, sc "1" 3)]) = none := by
  refine ⟨Option.map_injective eflatten_mk_injective ?_, ?_, ?_, Option.map_injective eflatten_mk_injective ?_,
    ?_, ?_, ?_, ?_⟩ <;> decide +kernel

theorem interp_merge_eq_explicit_Full_false : ¬ interp_merge_eq_explicit_Full := by
  intro h
  have h1 := h {} enumA 0 0 0 _ _ interp_merge_eq_explicit_counterexample.1
  have h2 := interp_merge_eq_explicit_counterexample.2.1
  have h3 := interp_merge_eq_explicit_counterexample.2.2.1
  simp only [mk] at h1 h2 h3
  rw [h2, h3] at h1
  cases h1

/-- (T) interp_merge_eq_explicit (strongest true version, one node): for every configuration and every type
that does not put an enum on the node (`enumHead ty = false`: maps, structs, the untyped target, `Option`s and
newtypes of those — and trivially all scalar / sequence / tuple types) — or for EVERY type when the mapping
keeps its "one entry with an ordinary key / not one entry" shape — a mapping with merge entries has the same
typed meaning as the ordinary mapping of its effective entries. -/
theorem interp_merge_eq_explicit_partial (cfg : Cfg) (ty : Ty) (a : Nat) (l el : Loc) (entries es : List (ENode × ENode))
    (h : effEntries cfg.dup entries = some es)
    (hty : enumHead ty = false ∨ shapeStable cfg.dup entries = true) :
    interp cfg ty (.map a l el entries) = interp cfg ty (.map a l el es) :=
  C03T.node_agree cfg a l el entries es h ty hty

/-- (T) … and when the mapping has no effective entry list — a merge value that is not a mapping / a
(nested) sequence of mappings / null (`Props.C03.merge_value_kind_check`), or a repeated own key under the
`Error` policy — the mapping is an error at every position that is not an enum position: in particular for
every map-like type (`HashMap`, struct, untyped value, `Option` / newtype of those). -/
theorem interp_merge_none (cfg : Cfg) (ty : Ty) (a : Nat) (l el : Loc) (entries : List (ENode × ENode))
    (h : effEntries cfg.dup entries = none) (hty : enumHead ty = false) :
    interp cfg ty (.map a l el entries) = none :=
  C03T.node_none cfg a l el entries h ty hty

/-- the nested statement for ALL types -/
def interp_explicitTree_Full : Prop :=
  ∀ (cfg : Cfg) (ty : Ty) (t t' : ENode), explicitTree cfg.dup t = some t' → interp cfg ty t = interp cfg ty t'

/-- (F) false for the same reason, at an enum position anywhere below the root: `[{<<: {A: 1}}]` into
`Vec<E>`. -/
theorem interp_explicitTree_counterexample :
    explicitTree .error (.seq 0 0 none 0 0 [mk [(sc "<<" 1, mk [(sc "A" 2, sc "1" 3)])]]) =
      some (.seq 0 0 none 0 0 [mk [(sc "A" 2, sc "1" 3)]]) ∧
    interp {} (.seq enumA) (.seq 0 0 none 0 0 [mk [(sc "<<" 1, mk [(sc "A" 2, sc "1" 3)])]]) = none ∧
    interp {} (.seq enumA) (.seq 0 0 none 0 0 [mk [(sc "A" 2, sc "1" 3)]]) = some (.seq [.variant "A" (.int 1)]) := by
  refine ⟨Option.map_injective eflatten_injective ?_, ?_, ?_⟩ <;> decide +kernel

theorem interp_explicitTree_Full_false : ¬ interp_explicitTree_Full := by
  intro h
  obtain ⟨h0, h2, h3⟩ := interp_explicitTree_counterexample
  have h1 := h {} (.seq enumA) _ _ h0
  rw [h2, h3] at h1
  cases h1

/-- (T) interp_merge_eq_explicit, nested, total form (strongest true version): for every configuration,
EVERY tree `t` and every type — provided that no enum stands at a value position of the type (`enumFree`; this
covers all map / struct / untyped / sequence / tuple / `Option` targets built from non-enum leaves) OR every
mapping of the tree keeps its one-entry shape (`enumStable`, any type) — `t` and its written-out form
`writeOut cfg.dup t` have the same typed meaning.  `writeOut` replaces every mapping at a value position by
the ordinary mapping of its effective entries and every merge source by its first-wins entries, recursively
(`Spec/Explicit.lean`); a mapping without effective entries stays as written (an error in both forms). -/
theorem interp_writeOut_partial (cfg : Cfg) (ty : Ty) (t : ENode)
    (hty : enumFree ty = true ∨ enumStable cfg.dup t = true) : interp cfg ty t = interp cfg ty (writeOut cfg.dup t) :=
  C03T.writeOut_interp cfg ty t hty

/-- (T) interp_merge_eq_explicit, nested, strict form: when the strict explicit tree
`explicitTree cfg.dup t = some t'` exists (every mapping of `t` has effective entries), `t` and `t'` have the
same typed meaning (same side condition). -/
theorem interp_explicitTree_partial (cfg : Cfg) (ty : Ty) (t t' : ENode) (hx : explicitTree cfg.dup t = some t')
    (hty : enumFree ty = true ∨ enumStable cfg.dup t = true) : interp cfg ty t = interp cfg ty t' :=
  C03T.explicit_interp cfg ty t t' hx hty

/-- (T) where the strict form exists it is the written-out form -/
theorem explicitTree_eq_writeOut (dup : DupPolicy) (t t' : ENode) (hx : explicitTree dup t = some t') :
    writeOut dup t = t' :=
  C03T.writeOut_of_explicitTree dup t t' hx

/-- (T) the explicit tree is explicit: no mapping at a value position of `t'` has a merge entry any more
(so the theorems above are not about the identity function). -/
theorem explicitTree_mergeFree (dup : DupPolicy) (t t' : ENode) (hx : explicitTree dup t = some t') :
    mergeFree t' = true :=
  C03T.explicitTree_mergeFree dup t t' hx

/-- (T) writing out commutes with merging: the written-out form of a mapping is the ordinary mapping of the
effective entries of the ORIGINAL mapping with their values written out (same keys, same order); a mapping
without effective entries is left as written. -/
theorem writeOut_map_eq (dup : DupPolicy) (a : Nat) (l el : Loc) (entries : List (ENode × ENode)) :
    writeOut dup (.map a l el entries) =
      match effEntries dup entries with
      | some es => .map a l el (es.map fun e => (e.1, writeOut dup e.2))
      | none => .map a l el entries := by
  have hmap : ∀ {x y : List (ENode × ENode)}, C03T.VRel dup x y → y = x.map fun e => (e.1, writeOut dup e.2) := by
    intro x y hv
    induction hv with
    | nil => rfl
    | cons hvv _ ih => simp [ih, hvv]
  have hrel := C03T.effEntries_writeOut dup entries
  rw [C03T.writeOut_map]
  cases hf : effEntries dup (writeOutE dup entries) with
  | none =>
    rw [hf] at hrel
    rw [(hrel.none_iff).2 rfl]
  | some es' =>
    rw [hf] at hrel
    obtain ⟨es, hes, hv⟩ := hrel.of_some_right
    rw [hes, hmap hv]

/-- (T) the written-out mapping is its own effective entry list: `writeOut` produces explicit mappings -/
theorem writeOut_map_explicit (dup : DupPolicy) (a : Nat) (l el : Loc) (entries es : List (ENode × ENode))
    (h : effEntries dup entries = some es) :
    ∃ es', writeOut dup (.map a l el entries) = .map a l el es' ∧ effEntries dup es' = some es' ∧
      (∀ e ∈ es', isMergeKeyNode e.1 = false) := by
  have hrel := C03T.effEntries_writeOut dup entries
  rw [h] at hrel
  obtain ⟨es', hf, -⟩ := hrel.of_some_left
  refine ⟨es', by rw [C03T.writeOut_map, hf], C03T.eff_idem dup _ es' hf, C03T.eff_no_merge dup _ es' hf⟩

/-- (F, by design) keys must NOT be written out: the identity of a key is its structure as written.  The
two keys `{<<: {a: 1}}` and `{a: 1}` are different keys (no duplicate under `Error`, both delivered — both
with the value `{a: 1}` at a `HashMap<String, i32>` key position), whereas writing the first key out would make
them collide and turn the document into an error. -/
theorem explicit_keys_would_be_unsound :
    interp {} (.map (.map .string (.int true 32)) .string)
      (mk [(mk [(sc "<<" 1, mk [(sc "a" 2, sc "1" 3)])], sc "x" 4), (mk [(sc "a" 5, sc "1" 6)], sc "y" 7)]) =
      some (.map [(.map [(.str ['a'], .int 1)], .str ['x']), (.map [(.str ['a'], .int 1)], .str ['y'])]) ∧
    interp {} (.map (.map .string (.int true 32)) .string)
      (mk [(mk [(sc "a" 2, sc "1" 3)], sc "x" 4), (mk [(sc "a" 5, sc "1" 6)], sc "y" 7)]) = none ∧
    explicitTree .error
      (mk [(mk [(sc "<<" 1, mk [(sc "a" 2, sc "1" 3)])], sc "x" 4), (mk [(sc "a" 5, sc "1" 6)], sc "y" 7)]) =
      some (mk [(mk [(sc "<<" 1, mk [(sc "a" 2, sc "1" 3)])], sc "x" 4), (mk [(sc "a" 5, sc "1" 6)], sc "y" 7)]) := by
  refine ⟨?_, ?_, Option.map_injective eflatten_injective ?_⟩ <;> decide +kernel

/-- (T) merge_explicit_end_to_end as one equation, EVERY type (tuples included): for all large enough fuel the
live run over the document IS the specification on the written-out tree of the expansion — the same value, or
both reject.  `merge_explicit_end_to_end_total`, `merge_explicit_end_to_end` and `merge_doc_eq_explicit_doc` are
readings of it; their hypothesis `tupleFree ty` is not needed. -/
theorem merge_explicit_eq_interp (L : AliasLimits) (t : LNode) (l0 l1 l2 l3 : Loc) (r : Exp) (n : ENode)
    (hnf : noFoldedIndent t = true) (hexp : expand [] [] t = .ok r)
    (hL1 : 1 ≤ L.maxReplayStackDepth) (hL2 : r.replayed ≤ L.maxTotalReplayedEvents)
    (hL3 : ∀ id, aliasCount id t ≤ L.maxAliasExpansionsPerAnchor)
    (hn : treeOf r.evs = some n) (hk : noKemnKeys n = true)
    (cfg : Cfg) (ty : Ty) (he : enumFree ty = true ∨ enumStable cfg.dup n = true) :
    ∃ N, ∀ fuel, N ≤ fuel →
      deserTopLive fuel cfg ty (initPump L) (docStream t l0 l1 l2 l3) = interp cfg ty (writeOut cfg.dup n) := by
  rw [← interp_writeOut_partial cfg ty n he]
  exact Props.E2E.typed_alias_transparent_eq_interp L t l0 l1 l2 l3 r n hnf hexp hL1 hL2 hL3 hn hk cfg ty

/-- (T) merge_explicit_end_to_end, total form: for every document tree `t` (anchors, aliases; in particular
merge values that are aliases, `<<: *base`, `<<: [*a, *b]`) whose expansion `r` exists and stays within the
alias limits (the hypotheses of `Props.E2E.typed_alias_transparent_interp`), with `n` the tree of the expansion
(every alias replaced by a copy of its anchored node): for all large enough fuel the typed deserializer on the
LIVE cursor over the document yields `v` iff the specification assigns `v` to the written-out tree
`writeOut cfg.dup n` — what the user gets is the typed value of the explicitly merged mapping.
(`noKemnKeys`: as in `Props.C05`; `tupleFree ty` is not needed; the enum side condition: see
`interp_writeOut_partial`.) -/
theorem merge_explicit_end_to_end_total (L : AliasLimits) (t : LNode) (l0 l1 l2 l3 : Loc) (r : Exp) (n : ENode)
    (hnf : noFoldedIndent t = true) (hexp : expand [] [] t = .ok r)
    (hL1 : 1 ≤ L.maxReplayStackDepth) (hL2 : r.replayed ≤ L.maxTotalReplayedEvents)
    (hL3 : ∀ id, aliasCount id t ≤ L.maxAliasExpansionsPerAnchor)
    (hn : treeOf r.evs = some n) (hk : noKemnKeys n = true)
    (cfg : Cfg) (ty : Ty) (hty : tupleFree ty = true)
    (he : enumFree ty = true ∨ enumStable cfg.dup n = true) :
    ∃ N, ∀ fuel, N ≤ fuel → ∀ v,
      (deserTopLive fuel cfg ty (initPump L) (docStream t l0 l1 l2 l3) = some v ↔
        interp cfg ty (writeOut cfg.dup n) = some v) := by
  obtain ⟨N, hN⟩ := merge_explicit_eq_interp L t l0 l1 l2 l3 r n hnf hexp hL1 hL2 hL3 hn hk cfg ty he
  exact ⟨N, fun fuel hf v => by rw [hN fuel hf]⟩

/-- (T) merge_explicit_end_to_end, strict form: … iff `interp` of the explicit tree
`explicitTree cfg.dup n = some n'` of the document's alias-free expansion yields `v`. -/
theorem merge_explicit_end_to_end (L : AliasLimits) (t : LNode) (l0 l1 l2 l3 : Loc) (r : Exp) (n n' : ENode)
    (hnf : noFoldedIndent t = true) (hexp : expand [] [] t = .ok r)
    (hL1 : 1 ≤ L.maxReplayStackDepth) (hL2 : r.replayed ≤ L.maxTotalReplayedEvents)
    (hL3 : ∀ id, aliasCount id t ≤ L.maxAliasExpansionsPerAnchor)
    (hn : treeOf r.evs = some n) (hk : noKemnKeys n = true)
    (cfg : Cfg) (ty : Ty) (hty : tupleFree ty = true)
    (hx : explicitTree cfg.dup n = some n') (he : enumFree ty = true ∨ enumStable cfg.dup n = true) :
    ∃ N, ∀ fuel, N ≤ fuel → ∀ v,
      (deserTopLive fuel cfg ty (initPump L) (docStream t l0 l1 l2 l3) = some v ↔ interp cfg ty n' = some v) := by
  rw [← explicitTree_eq_writeOut cfg.dup n n' hx]
  exact merge_explicit_end_to_end_total L t l0 l1 l2 l3 r n hnf hexp hL1 hL2 hL3 hn hk cfg ty hty he

/-- (T) soundness half for ALL types (tuples included) and EVERY fuel value: whatever the live run over the
document accepts is the typed value of the written-out tree. -/
theorem merge_explicit_end_to_end_sound (L : AliasLimits) (t : LNode) (l0 l1 l2 l3 : Loc) (r : Exp) (n : ENode)
    (hnf : noFoldedIndent t = true) (hexp : expand [] [] t = .ok r)
    (hL1 : 1 ≤ L.maxReplayStackDepth) (hL2 : r.replayed ≤ L.maxTotalReplayedEvents)
    (hL3 : ∀ id, aliasCount id t ≤ L.maxAliasExpansionsPerAnchor)
    (hn : treeOf r.evs = some n) (hk : noKemnKeys n = true)
    (cfg : Cfg) (ty : Ty) (he : enumFree ty = true ∨ enumStable cfg.dup n = true)
    (fuel : Nat) (v : Val)
    (h : deserTopLive fuel cfg ty (initPump L) (docStream t l0 l1 l2 l3) = some v) :
    interp cfg ty (writeOut cfg.dup n) = some v := by
  rw [← interp_writeOut_partial cfg ty n he]
  exact Props.E2E.typed_alias_transparent_sound L t l0 l1 l2 l3 r n hnf hexp hL1 hL2 hL3 hn hk cfg ty fuel v h

/-- (T) the same for the entry-point protocol `from_str` / `from_reader` (`Model/Entry.lean: fromSingle`, with
its own fuel): an accepted document has the typed value of its written-out tree. -/
theorem merge_explicit_fromSingle_sound (L : AliasLimits) (t : LNode) (l0 l1 l2 l3 : Loc) (r : Exp) (n : ENode)
    (hnf : noFoldedIndent t = true) (hexp : expand [] [] t = .ok r)
    (hL1 : 1 ≤ L.maxReplayStackDepth) (hL2 : r.replayed ≤ L.maxTotalReplayedEvents)
    (hL3 : ∀ id, aliasCount id t ≤ L.maxAliasExpansionsPerAnchor)
    (hn : treeOf r.evs = some n) (hk : noKemnKeys n = true)
    (cfg : Cfg) (ty : Ty) (he : enumFree ty = true ∨ enumStable cfg.dup n = true) (v : Val)
    (h : (Entry.fromSingle cfg ty (initPump L) (docStream t l0 l1 l2 l3)).toOption = some v) :
    interp cfg ty (writeOut cfg.dup n) = some v := by
  rw [Props.E2E.fromSingle_alias_transparent L t l0 l1 l2 l3 r hnf hexp hL1 hL2 hL3,
    Props.E2E.evs_of_treeOf hexp hn] at h
  rw [← interp_writeOut_partial cfg ty n he]
  exact Props.C05.deser_top_sound cfg ty n hk _ v h

/-- (T) an invalid merge value (or a repeated own key under `Error`) at the root mapping of the expansion
makes the live run fail, for every fuel and every type that does not put an enum on the root. -/
theorem merge_invalid_end_to_end (L : AliasLimits) (t : LNode) (l0 l1 l2 l3 : Loc) (r : Exp)
    (a : Nat) (l el : Loc) (entries : List (ENode × ENode))
    (hnf : noFoldedIndent t = true) (hexp : expand [] [] t = .ok r)
    (hL1 : 1 ≤ L.maxReplayStackDepth) (hL2 : r.replayed ≤ L.maxTotalReplayedEvents)
    (hL3 : ∀ id, aliasCount id t ≤ L.maxAliasExpansionsPerAnchor)
    (hn : treeOf r.evs = some (.map a l el entries)) (hk : noKemnKeys (.map a l el entries) = true)
    (cfg : Cfg) (ty : Ty) (hty : enumHead ty = false) (hnone : effEntries cfg.dup entries = none) (fuel : Nat) :
    deserTopLive fuel cfg ty (initPump L) (docStream t l0 l1 l2 l3) = none := by
  cases h : deserTopLive fuel cfg ty (initPump L) (docStream t l0 l1 l2 l3) with
  | none => rfl
  | some v =>
    have := Props.E2E.typed_alias_transparent_sound L t l0 l1 l2 l3 r _ hnf hexp hL1 hL2 hL3 hn hk cfg ty fuel v h
    rw [interp_merge_none cfg ty a l el entries hnone hty] at this
    cases this

/-- (T) merge document = explicit document: a document `t` with (aliased) merges and ANY document `t2` whose
expansion is the written-out tree of the expansion of `t` — for instance the same data written out by hand
without `<<` — deserialize, on their live cursors, to the same result for all large enough fuel. -/
theorem merge_doc_eq_explicit_doc (L L2 : AliasLimits) (t t2 : LNode) (l0 l1 l2 l3 m0 m1 m2 m3 : Loc) (r r2 : Exp)
    (n : ENode)
    (hnf : noFoldedIndent t = true) (hexp : expand [] [] t = .ok r)
    (hL1 : 1 ≤ L.maxReplayStackDepth) (hL2 : r.replayed ≤ L.maxTotalReplayedEvents)
    (hL3 : ∀ id, aliasCount id t ≤ L.maxAliasExpansionsPerAnchor)
    (hn : treeOf r.evs = some n) (hk : noKemnKeys n = true)
    (cfg : Cfg)
    (hnf2 : noFoldedIndent t2 = true) (hexp2 : expand [] [] t2 = .ok r2)
    (hM1 : 1 ≤ L2.maxReplayStackDepth) (hM2 : r2.replayed ≤ L2.maxTotalReplayedEvents)
    (hM3 : ∀ id, aliasCount id t2 ≤ L2.maxAliasExpansionsPerAnchor)
    (hn2 : treeOf r2.evs = some (writeOut cfg.dup n)) (hk2 : noKemnKeys (writeOut cfg.dup n) = true)
    (ty : Ty) (hty : tupleFree ty = true)
    (he : enumFree ty = true ∨ enumStable cfg.dup n = true) :
    ∃ N, ∀ fuel, N ≤ fuel →
      deserTopLive fuel cfg ty (initPump L) (docStream t l0 l1 l2 l3) =
        deserTopLive fuel cfg ty (initPump L2) (docStream t2 m0 m1 m2 m3) := by
  obtain ⟨N1, h1⟩ := merge_explicit_eq_interp L t l0 l1 l2 l3 r n hnf hexp hL1 hL2 hL3 hn hk cfg ty he
  obtain ⟨N2, h2⟩ := Props.E2E.typed_alias_transparent_eq_interp L2 t2 m0 m1 m2 m3 r2 _ hnf2 hexp2 hM1 hM2 hM3 hn2 hk2
    cfg ty
  exact ⟨max N1 N2, fun fuel hf => by rw [h1 fuel (by omega), h2 fuel (by omega)]⟩

/-! ## (E) non-vacuity -/

-- `{a: 1, a: 2, <<: {a: 3, b: 4, b: 5}}` under the three policies
def dupDemo : List (ENode × ENode) :=
  [(sc "a" 1, sc "1" 2), (sc "a" 3, sc "2" 4), (sc "<<" 5, mk [(sc "a" 6, sc "3" 7), (sc "b" 8, sc "4" 9), (sc "b" 10, sc "5" 11)])]
example : effEntries .error dupDemo = none := by decide +kernel
example : (effEntries .firstWins dupDemo).map (·.map fun p => (p.1.loc, p.2.loc)) = some [(1, 2), (8, 9)] := by
  decide +kernel
example : (effEntries .lastWins dupDemo).map (·.map fun p => (p.1.loc, p.2.loc)) = some [(1, 2), (3, 4), (8, 9)] := by
  decide +kernel
/-- the hypotheses of `eff_idempotent` / `eff_lastWins` hold on it, with a repeated own key -/
example : ∃ es, effEntries .lastWins dupDemo = some es ∧ effEntries .lastWins es = some es ∧ effEntries .error es = none := by
  cases h : effEntries .lastWins dupDemo with
  | none => exact absurd h (by decide +kernel)
  | some es =>
    obtain ⟨-, h2, -, h4⟩ := eff_lastWins dupDemo es h
    refine ⟨es, rfl, h2, h4 (fun hnd => ?_)⟩
    have hnone : applyPolicy .error (ownEntries dupDemo) [] = none := by decide +kernel
    exact (C04.applyPolicy_error_none_iff _ []).1 hnone ⟨hnd, by simp⟩
/-- a repeated key inside the merge SOURCE is not an error under `Error`: the first one wins -/
example : (effEntries .error [(sc "<<" 5, mk [(sc "b" 8, sc "4" 9), (sc "b" 10, sc "5" 11)])]).map
    (·.map fun p => (p.1.loc, p.2.loc)) = some [(8, 9)] := by decide +kernel

-- one node, struct target, merge sequence with a nested merge in a source
def nodeDemo : List (ENode × ENode) :=
  [(sc "b" 1, sc "9" 2),
   (sc "<<" 3, .seq 0 0 none 4 4 [mk [(sc "<<" 5, mk [(sc "a" 6, sc "1" 7), (sc "b" 8, sc "2" 9)]), (sc "c" 10, sc "3" 11)],
                                   mk [(sc "c" 12, sc "30" 13), (sc "d" 14, sc "4" 15)]])]
def nodeTy : Ty := .struct [("a", .int true 32), ("b", .int true 32), ("c", .int true 32), ("d", .option (.int true 32))] true
example : (effEntries .error nodeDemo).map (·.map fun p => (p.1.loc, p.2.loc)) =
    some [(1, 2), (12, 13), (14, 15), (6, 7)] := by decide +kernel
example : interp {} nodeTy (mk nodeDemo) =
    some (.struct [("a", .int 1), ("b", .int 9), ("c", .int 30), ("d", .some (.int 4))]) := by decide +kernel
example : ∃ es, effEntries .error nodeDemo = some es ∧ interp {} nodeTy (mk nodeDemo) = interp {} nodeTy (mk es) := by
  cases h : effEntries .error nodeDemo with
  | none => exact absurd h (by decide +kernel)
  | some es => exact ⟨es, rfl, interp_merge_eq_explicit_partial {} nodeTy 0 0 0 nodeDemo es h (Or.inl (by decide))⟩
/-- an invalid merge value: `{<<: x}` -/
example : interp {} nodeTy (mk [(sc "<<" 1, sc "x" 2)]) = none :=
  interp_merge_none {} nodeTy 0 0 0 _ (by decide +kernel) (by decide)

/-! ### the end-to-end example

```yaml
x: &1 {a: 1, b: 2}
y: &2 {<<: *1, c: 3}          # a merge inside a (later) merge source
z: &3 {c: 30, d: 4}
r: {b: 9, <<: [*2, *3]}       # two merge sources, the own key `b` overrides, `*3` overrides `*2` on `c`
```
-/

def lsc (s : String) (l : Loc) : LNode := .scalar s.toList .plain 0 none l

def demo : LNode :=
  .map 0 none 10 99 [
    (lsc "x" 11, .map 1 none 12 19 [(lsc "a" 13, lsc "1" 14), (lsc "b" 15, lsc "2" 16)]),
    (lsc "y" 20, .map 2 none 21 29 [(lsc "<<" 22, .alias 1 23), (lsc "c" 24, lsc "3" 25)]),
    (lsc "z" 30, .map 3 none 31 39 [(lsc "c" 32, lsc "30" 33), (lsc "d" 34, lsc "4" 35)]),
    (lsc "r" 40, .map 0 none 41 49 [(lsc "b" 42, lsc "9" 43),
      (lsc "<<" 44, .seq 0 none 45 48 [.alias 2 46, .alias 3 47])])]

/-- the same data written out by hand: no aliases, no `<<` (the anchors are still there, unused) -/
def demoFlat : LNode :=
  .map 0 none 10 99 [
    (lsc "x" 11, .map 1 none 12 19 [(lsc "a" 13, lsc "1" 14), (lsc "b" 15, lsc "2" 16)]),
    (lsc "y" 20, .map 2 none 21 29 [(lsc "c" 24, lsc "3" 25), (lsc "a" 13, lsc "1" 14), (lsc "b" 15, lsc "2" 16)]),
    (lsc "z" 30, .map 3 none 31 39 [(lsc "c" 32, lsc "30" 33), (lsc "d" 34, lsc "4" 35)]),
    (lsc "r" 40, .map 0 none 41 49 [(lsc "b" 42, lsc "9" 43), (lsc "c" 32, lsc "30" 33), (lsc "d" 34, lsc "4" 35),
      (lsc "a" 13, lsc "1" 14)])]

def demoL : AliasLimits := { maxTotalReplayedEvents := 40, maxReplayStackDepth := 1, maxAliasExpansionsPerAnchor := 1 }

def demoR : Exp := match expand [] [] demo with
  | .ok r => r
  | .error _ => ⟨[], [], 0⟩
def demoFlatR : Exp := match expand [] [] demoFlat with
  | .ok r => r
  | .error _ => ⟨[], [], 0⟩

/-- the tree of the expansion: every alias replaced by a copy of its anchored node (merge keys still there) -/
def demoTree : ENode := (treeOf demoR.evs).getD default
def demoExplicit : ENode := (explicitTree .error demoTree).getD default

def demoTy : Ty := .map .string (.map .string (.int true 32))

def demoVal : Val :=
  .map [(.str "x".toList, .map [(.str "a".toList, .int 1), (.str "b".toList, .int 2)]),
        (.str "y".toList, .map [(.str "c".toList, .int 3), (.str "a".toList, .int 1), (.str "b".toList, .int 2)]),
        (.str "z".toList, .map [(.str "c".toList, .int 30), (.str "d".toList, .int 4)]),
        (.str "r".toList, .map [(.str "b".toList, .int 9), (.str "c".toList, .int 30), (.str "d".toList, .int 4),
                                (.str "a".toList, .int 1)])]

theorem demo_expand : expand [] [] demo = .ok demoR := Props.E2E.ok_of_toOption (by decide +kernel)
theorem demoFlat_expand : expand [] [] demoFlat = .ok demoFlatR := Props.E2E.ok_of_toOption (by decide +kernel)
theorem demo_tree : treeOf demoR.evs = some demoTree := by
  obtain ⟨n, hn, -⟩ := Props.E2E.expansion_tree demo demoR demo_expand
  simp [demoTree, hn]
theorem demo_explicit : explicitTree .error demoTree = some demoExplicit := by
  cases h : explicitTree .error demoTree with
  | none => exact absurd h (by decide +kernel)
  | some t' => simp [demoExplicit, h]
theorem demo_writeOut : writeOut ({} : Cfg).dup demoTree = demoExplicit :=
  explicitTree_eq_writeOut _ _ _ demo_explicit
/-- the expansion of the hand-written document IS the explicit tree of the expansion of the merge document -/
theorem demoFlat_tree : treeOf demoFlatR.evs = some demoExplicit := by
  have h : demoFlatR.evs = eflatten demoExplicit := by decide +kernel
  rw [h, Lemmas.CurSim.treeOf_eflatten]
theorem demo_noFolded : noFoldedIndent demo = true := by decide
theorem demoFlat_noFolded : noFoldedIndent demoFlat = true := by decide
theorem demo_replayed : demoR.replayed ≤ demoL.maxTotalReplayedEvents := by decide +kernel
theorem demoFlat_replayed : demoFlatR.replayed ≤ demoL.maxTotalReplayedEvents := by decide +kernel
theorem demo_aliases : ∀ id, aliasCount id demo ≤ demoL.maxAliasExpansionsPerAnchor := by
  intro id
  simp only [demo, lsc, aliasCount, aliasCountE, aliasCountL, demoL, beq_iff_eq]
  repeat' split
  all_goals omega
theorem demoFlat_aliases : ∀ id, aliasCount id demoFlat ≤ demoL.maxAliasExpansionsPerAnchor := by
  intro id
  simp only [demoFlat, lsc, aliasCount, aliasCountE, demoL]
  omega
theorem demo_noKemn : noKemnKeys demoTree = true := by decide +kernel
theorem demoExplicit_noKemn : noKemnKeys demoExplicit = true := by decide +kernel
theorem demo_tupleFree : tupleFree demoTy = true := by decide +kernel
theorem demo_enumFree : enumFree demoTy = true := by decide +kernel

/-- the merge keys are in the expansion tree, and gone from the explicit tree -/
example : mergeFree demoTree = false ∧ mergeFree demoExplicit = true := by constructor <;> decide +kernel
example : enumStable .error demoTree = true := by decide +kernel

/-- the typed value of the explicit tree … -/
theorem demo_interp_explicit : interp {} demoTy demoExplicit = some demoVal := by decide +kernel

/-- … is, by `merge_explicit_end_to_end`, what the live run over the merge document yields -/
example : ∃ N, ∀ fuel, N ≤ fuel → deserTopLive fuel {} demoTy (initPump demoL) (docStream demo 1 2 3 4) = some demoVal := by
  obtain ⟨N, hN⟩ := merge_explicit_end_to_end demoL demo 1 2 3 4 demoR demoTree demoExplicit demo_noFolded demo_expand
    (by decide) demo_replayed demo_aliases demo_tree demo_noKemn {} demoTy demo_tupleFree demo_explicit (Or.inl demo_enumFree)
  exact ⟨N, fun fuel hf => (hN fuel hf demoVal).2 demo_interp_explicit⟩

/-- the live run itself (fuel 300): by alias transparency it is the replay run over the expansion, which is evaluated -/
theorem demo_live : deserTopLive 300 {} demoTy (initPump demoL) (docStream demo 1 2 3 4) = some demoVal := by
  rw [Props.E2E.typed_alias_transparent_top demoL demo 1 2 3 4 demoR demo_noFolded demo_expand (by decide) demo_replayed
    demo_aliases]
  decide +kernel

example : deserTopLive 300 {} demoTy (initPump demoL) (docStream demo 1 2 3 4) = some demoVal := demo_live

/-- the soundness theorem applied to it -/
example : interp {} demoTy (writeOut .error demoTree) = some demoVal :=
  merge_explicit_end_to_end_sound demoL demo 1 2 3 4 demoR demoTree demo_noFolded demo_expand
    (by decide) demo_replayed demo_aliases demo_tree demo_noKemn {} demoTy (Or.inl demo_enumFree) 300 demoVal demo_live

/-- the merge document and the hand-written explicit document deserialize to the same result -/
example : ∃ N, ∀ fuel, N ≤ fuel →
    deserTopLive fuel {} demoTy (initPump demoL) (docStream demo 1 2 3 4) =
      deserTopLive fuel {} demoTy (initPump demoL) (docStream demoFlat 5 6 7 8) :=
  merge_doc_eq_explicit_doc demoL demoL demo demoFlat 1 2 3 4 5 6 7 8 demoR demoFlatR demoTree
    demo_noFolded demo_expand (by decide) demo_replayed demo_aliases demo_tree demo_noKemn {}
    demoFlat_noFolded demoFlat_expand (by decide) demoFlat_replayed demoFlat_aliases
    (by rw [demo_writeOut]; exact demoFlat_tree) (by rw [demo_writeOut]; exact demoExplicit_noKemn)
    demoTy demo_tupleFree (Or.inl demo_enumFree)

/-- a struct target with an enum field: `enumFree` fails, `enumStable` holds — `{k: {<<: *1, m: B}}` with
`&1 {n: 1}` elsewhere is fine because no mapping of the document changes its one-entry shape -/
def enumTy : Ty := .map .string (.struct [("m", .enum "E" [("A", .newtype (.int true 32)), ("B", .unit)]), ("n", .int true 32)] false)
def enumTree : ENode :=
  mk [(sc "k" 1, mk [(sc "<<" 2, mk [(sc "n" 3, sc "1" 4)]), (sc "m" 5, mk [(sc "A" 6, sc "7" 7)])])]
example : enumFree enumTy = false ∧ enumStable .error enumTree = true := by constructor <;> decide +kernel
example : ∃ t', explicitTree .error enumTree = some t' ∧ interp {} enumTy enumTree = interp {} enumTy t' ∧
    interp {} enumTy t' = some (.map [(.str ['k'], .struct [("m", .variant "A" (.int 7)), ("n", .int 1)])]) := by
  cases h : explicitTree .error enumTree with
  | none => exact absurd h (by decide +kernel)
  | some t' =>
    have := interp_explicitTree_partial {} enumTy enumTree t' h (Or.inr (by decide +kernel))
    refine ⟨t', rfl, this, ?_⟩
    rw [← this]
    decide +kernel

/-- `explicitTree` is strict, `writeOut` is not: in `{a: 1, <<: {a: {<<: x}}}` the merged entry `a` is dropped
(own key), so its invalid inner merge is never looked at — the deserializer accepts; `explicitTree` is undefined,
`writeOut` gives `{a: 1}` and the total theorem applies. -/
def strictDemo : ENode := mk [(sc "a" 1, sc "1" 2), (sc "<<" 3, mk [(sc "a" 4, mk [(sc "<<" 5, sc "x" 6)])])]
example : explicitTree .error strictDemo = none := by decide +kernel
example : eflatten (writeOut .error strictDemo) = eflatten (mk [(sc "a" 1, sc "1" 2)]) := by decide +kernel
example : deserTop 100 {} (.map .string (.int true 32)) (eflatten strictDemo) = some (.map [(.str ['a'], .int 1)]) := by
  decide +kernel
example : interp {} (.map .string (.int true 32)) strictDemo = interp {} (.map .string (.int true 32)) (writeOut .error strictDemo) :=
  interp_writeOut_partial {} _ strictDemo (Or.inl (by decide +kernel))

#print axioms eff_idempotent
#print axioms eff_error
#print axioms eff_error_repeated_own_key
#print axioms eff_firstWins
#print axioms eff_firstWins_none_iff
#print axioms eff_lastWins
#print axioms eff_lastWins_none_iff
#print axioms merge_source_is_first_wins
#print axioms interp_merge_eq_explicit_counterexample
#print axioms interp_merge_eq_explicit_Full_false
#print axioms interp_merge_eq_explicit_partial
#print axioms interp_merge_none
#print axioms eff_none_iff
#print axioms interp_explicitTree_counterexample
#print axioms interp_explicitTree_Full_false
#print axioms interp_writeOut_partial
#print axioms interp_explicitTree_partial
#print axioms explicitTree_eq_writeOut
#print axioms explicitTree_mergeFree
#print axioms writeOut_map_eq
#print axioms writeOut_map_explicit
#print axioms explicit_keys_would_be_unsound
#print axioms merge_explicit_eq_interp
#print axioms merge_explicit_end_to_end_total
#print axioms merge_explicit_end_to_end
#print axioms merge_explicit_end_to_end_sound
#print axioms merge_explicit_fromSingle_sound
#print axioms merge_invalid_end_to_end
#print axioms merge_doc_eq_explicit_doc

end SaphyrVerif.Props.C03Typed
