import SaphyrVerif.Props.C15
/-!
# C15 — former findings, now regression theorems

Both defects found by this property were repaired in /repo:
* b68ea91 — `with_document_scope` takes the enclosing call's `AnchorState` out of the thread-local and puts
  it back afterwards (was: `reset()` before and after), oracle id `C15-nested-call-clobbers-anchors`;
* 4aaf328 — `FallbackScopeGuard`: the fallback location is cleared for a document scope and restored
  afterwards (was: never cleared), oracle id `C15-nested-call-inherits-fallback-location`.

The theorems below evaluate the model (which follows the repaired code) on the former witnesses; the
oracle of the `calls` area replays the same witnesses on the implementation under the same ids and reports
a violation if one of them fails again. The general statements are `nested_call_independent`,
`nested_call_is_noop` and `nested_call_transparent` in `Props/C15.lean`.
-/
namespace SaphyrVerif.Tls

/-- former finding `C15-nested-call-clobbers-anchors`: `x: &a {v: 1}` / `n: <N::deserialize calls from_str>` /
`y: *a` with `RcAnchor` fields — `x` and `y` share one pointer again, exactly as without the nested call. -/
theorem nested_call_preserves_outer_anchors :
    (runCall withNestedCall Tls.init).1.out = .ok ∧ (runCall withNestedCall Tls.init).1.ptrs = [0, 0] ∧
    (runCall withoutNestedCall Tls.init).1.out = .ok ∧ (runCall withoutNestedCall Tls.init).1.ptrs = [0, 0] := by
  decide +kernel

/-- second manifestation of the same former finding: the self reference of an `RcRecursive` node survives a
nested call made while the node is being built (`in_progress` is no longer cleared): the cycle is built. -/
theorem nested_call_preserves_recursive_anchor :
    (runCall (recDoc fun k => .nest callNonZero k) Tls.init).1.out = .ok ∧
    (runCall (recDoc fun k => .nest callNonZero k) Tls.init).1.ptrs = [0, 0] ∧
    (runCall (recDoc fun k => k) Tls.init).1.out = .ok ∧
    (runCall (recDoc fun k => k) Tls.init).1.ptrs = [0, 0] := by decide +kernel

/-- former finding `C15-nested-call-inherits-fallback-location`: `from_str::<NonZeroU8>("0")` entered while the
cell holds `line 2, column 1` of an enclosing document fails WITHOUT a location, as on a fresh thread, and
hands the cell back; nested in the witness document its recorded outcome is `err 0` too. -/
theorem nested_call_reports_no_inherited_location :
    runCall callNonZero ⟨.empty, some (loc 2 1)⟩ = (⟨.err 0, [], []⟩, ⟨.empty, some (loc 2 1)⟩) ∧
    (runCall callNonZero Tls.init).1.out = .err 0 ∧
    Item.nestEnd (.err 0) [] ∈ (runCall withNestedCall Tls.init).1.trace := by decide +kernel

end SaphyrVerif.Tls
