import SaphyrVerif.Lemmas.C13_Block
import SaphyrVerif.Lemmas.EmitPVal
/-!
# C13 — every data-model shape round-trips as one well-formed YAML document

Model: `Model/Emitter.lean` (the `YamlSerializer` state machine, `emit` = `to_string_with_options`).
Spec: `Spec/EmitReader.lean` (`erase`: what a Serde value means as YAML data; `readDoc`: reference
reader of the emitted dialect, validated against the real parser on every emitted text of the
differential run).

Full statement: `C13_Full`.  It is still FALSE for the code (model and code agree byte for byte on
every generated case): `empty_as_braces = false` writes an empty collection as nothing (required by the
crate's own tests, see `empty_no_braces_counterexample`).  Proved part: `emit_roundtrip_partial` —
arbitrary nesting of

  null (unit / `None`), booleans, integers, safe strings (`[a-z][a-z0-9]*` minus the reserved words, not
  longer than `folded_wrap_chars`), `Some`, ordinary newtype structs, block sequences, tuples and
  tuple structs, block mappings / structs (known or unknown length) whose keys are safe strings or
  COMPOSITE — sequences, mappings, variants with data of the fragment, written `? key` / `: value` —
  and pairwise different as data, unit, newtype, tuple and struct variants (also without fields);
  string keys and names of variants with data of ANY length: a text longer than 1024 characters (the limit of
  an implicit key, which the reference reader enforces) is written as an explicit key `? key` / `: value`
  (fix of `long-implicit-key`; `fitsImplicit` in the layout, `long_key_roundtrip`, `long_key_any_length`)

under EVERY `indent_step ≥ 1` (since fix 995e25e the layout is right for every step), `compact_list_indent`
on or off (fixes 8740963 fb15f4e), `yaml_12` on or off (the prologue `%YAML 1.2` + `---`, then the same
layout), `quote_all` on or off (string values, unit variants and the names of variants with data in
single quotes; string keys stay plain), `tagged_enums` on or off (a unit variant is `!!Enum variant`),
`empty_as_braces = true` (any `min_fold_chars` / `folded_wrap_chars` / `prefer_block_scalars`), for every
scalar-text function that satisfies the safe-leaf contract — and, for the crate's OWN scalar-text functions
(`implFns`), with the safe strings replaced by ARBITRARY strings (`emit_roundtrip_strings_partial`: C12's
question inside a document; the scalar facts are proved again in `Lemmas/C13_*`, for the transcription
`Model/EmitQuote.lean` and the reader `readDoc`: no theorem of `Props/C12` is used, and of its lemmas only the fold
loop and the line splitting, by the block scalars (`C13_BlockFold`, `C20_Lit`) — every string as key / variant
name, every string leaf that gets no block style;
plain, single- or double-quoted as the crate decides), and with ALL strings as leaves
(`emit_roundtrip_all_strings_partial`: a string leaf that `serialize_str` writes as a `|` literal or `>` folded BLOCK
SCALAR — header with indentation / chomping indicator on the line of the leaf, body lines at the column
`parent + indent_step` — in every position: value of a key, sequence item, explicit key and its value, variant
payload, root; the quoted fall-backs of fixes a252cf9 where a block scalar cannot be used; layout `blkToks` /
`blkStr`, `literal_leaf_layout`, `folded_leaf_layout`, `fallback_leaf_layout`), minus the YAML 1.1 boolean words
`yaml_12` leaves plain (`yaml12_bool_word_counterexample`).  All are instances of the general theorems over
contracts (`emit_roundtrip_contract`: `WriteContract` — what `serialize_str` writes for a string in each position;
`ReadContract` — the reference reader takes it for the string).  Note `implFns_not_safeContract`: the safe-leaf contract itself
does not hold for the crate's functions (`infinity` is quoted since fix 1fdb06b).
Outside the proved fragment: scalar keys other than strings (null / bool / number keys), the
presentation wrappers, `empty_as_braces = false`, anchors.  The defect classes this property
found in tuple structs, tuple / struct variants, composite keys, `compact_list_indent` and
`indent_step` 1 / ≥ 3 (now inside the proved fragment) are repaired (fixes f421f34 beca5d5 8740963 fb15f4e 6b2e131 995e25e): the former
counterexample theorems are regression theorems below (`*_regression`: the repaired model output and
the reader on it).
-/
namespace SaphyrVerif.Emit

/-- C13 at full strength, for the crate's own scalar-text functions: whenever serialization
succeeds under a valid option set (`indent_step ≥ 1`), the text is one well-formed document that
reads back as the value. -/
def C13_Full : Prop :=
  ∀ (o : Opts) (v : SVal) (t : List Char), o.indentStep ≥ 1 → emit o implFns v = .ok t → readDoc t = some (erase v)

section
variable {o : Opts} {f : ScalarFns} {P : LeafPred} {T : Toks}

/-- (T, the emitter invariant, general form) For EVERY option vector with `indent_step ≥ 1` and
`empty_as_braces`, every class `P` of strings and texts `T` for which the scalar-text functions
satisfy the write contract (a string leaf of the class is written as `T.strAt` says for the position it stands
in: one token, or the header and the body lines of a block scalar): the state machine writes exactly the prologue
and the lines of the flag-free layout function over the texts `T`. -/
theorem emit_layout_contract (ho : FragOpts o) (hw : WriteContract o f P T) (v : SVal) (hv : inFragP P v = true) :
    emit o f v = .ok (prologue o ++ renderLines (layRoot T o.indentStep o.compactListIndent v)) :=
  emit_eq_layout ho hw v hv

/-- (T, general form) … and when the texts also satisfy the read contract (the reference reader takes what
is written for a string — token or block scalar — for that string), the text reads back as exactly the value. -/
theorem emit_roundtrip_contract (ho : FragOpts o) (hw : WriteContract o f P T) (hr : ReadContract P T o.indentStep) (v : SVal)
    (hv : inFragP P v = true) : ∃ t, emit o f v = .ok t ∧ readDoc t = some (erase v) :=
  ⟨_, emit_eq_layout ho hw v hv, read_layout_pro hr o ho.indent v hv⟩

/-- (T, general form, all texts — block scalars included) one document: the lines of the text are the prologue
lines followed by the layout lines, and no layout line is a document marker; the first one is neither a
directive nor blank nor a comment (the body lines of a block scalar may be blank or start with `#` / `%`: they are
indented). -/
theorem emit_single_document_lines (ho : FragOpts o) (hw : WriteContract o f P T) (hr : ReadContract P T o.indentStep) (v : SVal)
    (hv : inFragP P v = true) :
    ∃ t, emit o f v = .ok t ∧ toLines t = prologueLines o ++ layRoot T o.indentStep o.compactListIndent v ∧
      (∀ l ∈ layRoot T o.indentStep o.compactListIndent v, isDocMarker l "---".toList = false ∧
        isDocMarker l "...".toList = false) ∧
      (∃ l rest, layRoot T o.indentStep o.compactListIndent v = l :: rest ∧ l.text.head? ≠ some '%' ∧ l.isSkippable = false) := by
  obtain ⟨hg, hfirst, _⟩ := root_lines (cp := o.compactListIndent) hr ho.indent v hv
  refine ⟨_, emit_eq_layout ho hw v hv, ?_, ?_, ?_⟩
  · exact toLines_prologueLines o _ hg
  · intro l hl
    exact layLine_not_marker (hg l hl)
  · obtain ⟨l, rest, e, h1, h2⟩ := hfirst
    exact ⟨l, rest, e, h2, h1⟩

/-- (T, general form, texts that are tokens: `T.IsTok`) one document: the lines of the text are the prologue lines
followed by the layout lines, and no layout line is a document marker, a directive, blank or a comment. -/
theorem emit_single_document_contract (ho : FragOpts o) (hw : WriteContract o f P T) (hr : ReadContract P T o.indentStep)
    (ht : T.IsTok) (v : SVal) (hv : inFragP P v = true) :
    ∃ t, emit o f v = .ok t ∧ toLines t = prologueLines o ++ layRoot T o.indentStep o.compactListIndent v ∧
      ∀ l ∈ layRoot T o.indentStep o.compactListIndent v, isDocMarker l "---".toList = false ∧
        isDocMarker l "...".toList = false ∧ l.text.head? ≠ some '%' ∧ l.isSkippable = false := by
  obtain ⟨t, he, hl, _, _⟩ := emit_single_document_lines ho hw hr v hv
  refine ⟨t, he, hl, ?_⟩
  have hg : AllQ GoodLine (layRoot T o.indentStep o.compactListIndent v) :=
    layRoot_good (fun _ h => h) hr (BodyQ.ofTok ht _) o.compactListIndent v hv
  intro l hl
  have h := hg l hl
  exact ⟨(goodLine_not_marker h).1, (goodLine_not_marker h).2, goodLine_not_pct h, goodLine_notSkippable h⟩

/-- (T, the emitter invariant) On the fragment the state machine — whatever the layout flags do
on the way — writes exactly the prologue (`%YAML 1.2` + `---` under `yaml_12`, nothing otherwise) and
the lines of the flag-free layout function, for every `indent_step = k ≥ 1`:
a collection after `key:` (keys at column `c`) on the following lines at column `c + k` (a sequence
under `compact_list_indent` inside a mapping: at column `c`), the first
entry of a collection after `- ` (dash at column `c`) on the dash line and all its entries at column
`c + 2`, `Variant:` after `key:` on the next line at column `c + k` and its payload under it.  The
tokens (`safeToks o`): a safe string is written as itself, under `quote_all` in single quotes where it is
a value or the name of a variant with data (keys stay plain), a unit variant under `tagged_enums` as
`!!Enum variant`. -/
theorem emit_layout_partial (ho : FragOpts o) (hf : SafeContract f) (v : SVal)
    (hv : inFrag o v = true) :
    emit o f v = .ok (prologue o ++ renderLines (layRoot (safeToks o) o.indentStep o.compactListIndent v)) :=
  emit_eq_layout ho (safe_write hf) v hv

/-- (T) C13 on the fragment: serialization succeeds and the text reads back as exactly the value. -/
theorem emit_roundtrip_partial (ho : FragOpts o) (hf : SafeContract f) (v : SVal)
    (hv : inFrag o v = true) : ∃ t, emit o f v = .ok t ∧ readDoc t = some (erase v) :=
  emit_roundtrip_contract ho (safe_write hf) (safe_read o _) v hv

/-- (T) C13 "one document": on the fragment the lines of the text are exactly the prologue lines
(`%YAML 1.2`, `---` under `yaml_12`: one directive and one document start marker, before everything
else; no prologue at all otherwise) followed by the layout lines, and no layout line is a document
marker (`---` / `...` at column 0), a directive, blank or a comment. -/
theorem emit_single_document (ho : FragOpts o) (hf : SafeContract f) (v : SVal)
    (hv : inFrag o v = true) :
    ∃ t, emit o f v = .ok t ∧ toLines t = prologueLines o ++ layRoot (safeToks o) o.indentStep o.compactListIndent v ∧
      ∀ l ∈ layRoot (safeToks o) o.indentStep o.compactListIndent v, isDocMarker l "---".toList = false ∧
        isDocMarker l "...".toList = false ∧ l.text.head? ≠ some '%' ∧ l.isSkippable = false :=
  emit_single_document_contract ho (safe_write hf) (safe_read o _) (Toks.ofStr_isTok _ _ _ _) v hv

/-- the statements for `quote_all = false`, `yaml_12 = false`, `tagged_enums = false`: the layout over the
plain tokens, no line of the output at all is a document marker or a directive -/
theorem emit_layout_plain (ho : FragOpts o) (hq : o.quoteAll = false) (hy : o.yaml12 = false) (ht : o.taggedEnums = false)
    (hf : SafeContract f) (v : SVal) (hv : inFrag o v = true) :
    emit o f v = .ok (renderLines (layRoot plainToks o.indentStep o.compactListIndent v)) := by
  simpa [prologue, hy, safeToks_plain hq ht] using emit_layout_partial ho hf v hv

theorem emit_single_document_plain (ho : FragOpts o) (hq : o.quoteAll = false) (hy : o.yaml12 = false)
    (ht : o.taggedEnums = false) (hf : SafeContract f) (v : SVal) (hv : inFrag o v = true) :
    ∃ t, emit o f v = .ok t ∧ toLines t = layRoot plainToks o.indentStep o.compactListIndent v ∧
      ∀ l ∈ toLines t, isDocMarker l "---".toList = false ∧ isDocMarker l "...".toList = false ∧
        l.text.head? ≠ some '%' ∧ l.isSkippable = false := by
  obtain ⟨t, he, hl, hm⟩ := emit_single_document ho hf v hv
  rw [safeToks_plain hq ht] at hl hm
  have hl' : toLines t = layRoot plainToks o.indentStep o.compactListIndent v := by simpa [prologueLines, hy] using hl
  exact ⟨t, he, hl', fun l h => hm l (hl' ▸ h)⟩

/-- (T) The contracts hold for the crate's own scalar-text functions (`implFns`: the transcription of
`ser_quoting.rs`, `write_quoted`, the key sink) on the class `implPred o`: EVERY string as a mapping key or
as the name of a variant with data, every string leaf for which `serialize_str` selects no block style
(every string under `quote_all`; otherwise no line break, and not longer than `folded_wrap_chars` if it
would be written plain), every unit variant (under `tagged_enums`: `!!Enum variant`, the enum name an ASCII
identifier) — written plain, single-quoted or double-quoted as the crate decides (`genToks`) — except, under
`yaml_12`, the YAML 1.1 boolean words the option leaves plain. -/
theorem impl_contracts (o : Opts) (ho : FragOpts o) :
    WriteContract o implFns (implPred o) (genToks o implFns) ∧ ReadContract (implPred o) (genToks o implFns) o.indentStep :=
  ⟨impl_write o, impl_read o _⟩

/-- (T) the emitter invariant for arbitrary strings -/
theorem emit_layout_strings_partial (ho : FragOpts o) (v : SVal) (hv : inFragP (implPred o) v = true) :
    emit o implFns v = .ok (prologue o ++ renderLines (layRoot (genToks o implFns) o.indentStep o.compactListIndent v)) :=
  emit_layout_contract ho (impl_write o) v hv

/-- (T) C12 inside C13 (see the module comment: proved for `implFns`, not derived from `Props/C12`): every value of
the fragment over arbitrary strings (`implPred o`), under every option
vector with `indent_step ≥ 1` and `empty_as_braces` (`yaml_12`, `quote_all`, `compact_list_indent`,
`prefer_block_scalars`, the folding thresholds arbitrary), serializes with the crate's own scalar-text
functions to a text that reads back as exactly the value.  Excluded (visible in `implPred`): strings that
get a block style (C12's `literal_roundtrip` / `auto_folded_roundtrip`), enum names that are no ASCII identifiers under
`tagged_enums`, and under `yaml_12` the boolean words left plain (`yaml12_bool_word_counterexample`). -/
theorem emit_roundtrip_strings_partial (ho : FragOpts o) (v : SVal) (hv : inFragP (implPred o) v = true) :
    ∃ t, emit o implFns v = .ok t ∧ readDoc t = some (erase v) :=
  emit_roundtrip_contract ho (impl_write o) (impl_read o _) v hv

/-- (T) the same in the class that is easiest to read (`lineStrPred o`): ANY string without line breaks and
not longer than `folded_wrap_chars` as a leaf or as the name of a unit variant, ANY string at all as a mapping
key or as the name of a variant with data — except the YAML 1.1 boolean words where `yaml_12` leaves them
plain, and enum names that are no ASCII identifiers under `tagged_enums`. -/
theorem emit_roundtrip_line_strings_partial (ho : FragOpts o) (v : SVal) (hv : inFragP (lineStrPred o) v = true) :
    ∃ t, emit o implFns v = .ok t ∧ readDoc t = some (erase v) :=
  emit_roundtrip_strings_partial ho v (lineStr_impl hv)

/-- (T) one document, arbitrary strings -/
theorem emit_single_document_strings_partial (ho : FragOpts o) (v : SVal) (hv : inFragP (implPred o) v = true) :
    ∃ t, emit o implFns v = .ok t ∧
      toLines t = prologueLines o ++ layRoot (genToks o implFns) o.indentStep o.compactListIndent v ∧
      ∀ l ∈ layRoot (genToks o implFns) o.indentStep o.compactListIndent v, isDocMarker l "---".toList = false ∧
        isDocMarker l "...".toList = false ∧ l.text.head? ≠ some '%' ∧ l.isSkippable = false :=
  emit_single_document_contract ho (impl_write o) (impl_read o _) (Toks.ofStr_isTok _ _ _ _) v hv

/-- (T) The contracts hold for the crate's own scalar-text functions on the class `allStrPred o`: EVERY string as a
leaf — whatever `serialize_str` does with it in the position it stands in: plain, single- or double-quoted token,
`|` literal block (strings with line breaks) or `>` folded block (long single-line strings), with indentation
indicator and chomping indicator as the crate chooses them, the quoted fall-back where a block scalar cannot be used
(`blkToks` / `blkStr`) —, every string as a mapping key, as the name of a variant with data or of a unit variant (written
like a string leaf; under `tagged_enums`: `!!Enum variant`, the enum name an ASCII identifier); except, under `yaml_12`,
the YAML 1.1 boolean words the option leaves plain. -/
theorem all_strings_contracts (o : Opts) (ho : FragOpts o) :
    WriteContract o implFns (allStrPred o) (blkToks o implFns) ∧ ReadContract (allStrPred o) (blkToks o implFns) o.indentStep :=
  ⟨blk_write ho, blk_read o _ ho.indent⟩

/-- (T) the emitter invariant for all strings: the text is the prologue and the lines of the layout function over the
texts `blkToks` — for a string leaf written as a block scalar: the header on the line of the leaf (after `key: ` / `- ` /
`? ` / `: `, or alone at the root), then the body lines at the column `parent + indent_step` (`blkStr`, `litLeaf`,
`foldLeaf`). -/
theorem emit_layout_all_strings_partial (ho : FragOpts o) (v : SVal) (hv : inFragP (allStrPred o) v = true) :
    emit o implFns v = .ok (prologue o ++ renderLines (layRoot (blkToks o implFns) o.indentStep o.compactListIndent v)) :=
  emit_layout_contract ho (blk_write ho) v hv

/-- (T) C12 inside C13, with block scalars: every value of the fragment over ALL strings (`allStrPred o`), under every
option vector with `indent_step ≥ 1` and `empty_as_braces` (`yaml_12`, `quote_all`, `compact_list_indent`,
`prefer_block_scalars`, the folding thresholds arbitrary), serializes with the crate's own scalar-text functions to a
text that reads back as exactly the value — string leaves as plain / quoted tokens, literal or folded block scalars
at every nesting position (value of a mapping key, item of a block sequence, explicit key `? ` and its value `: `,
payload of a variant, root); unit variants likewise.  Excluded (visible in `allStrPred`): under `yaml_12` the boolean
words left plain (`yaml12_bool_word_counterexample`); under `tagged_enums` enum names that are no ASCII identifiers. -/
theorem emit_roundtrip_all_strings_partial (ho : FragOpts o) (v : SVal) (hv : inFragP (allStrPred o) v = true) :
    ∃ t, emit o implFns v = .ok t ∧ readDoc t = some (erase v) :=
  emit_roundtrip_contract ho (blk_write ho) (blk_read o _ ho.indent) v hv

/-- … hence whatever text the emitter is known to write for such a value reads back as the value -/
theorem readDoc_of_emit (ho : FragOpts o) {v : SVal} (hv : inFragP (allStrPred o) v = true) {t : List Char}
    (he : emit o implFns v = .ok t) : readDoc t = some (erase v) := by
  obtain ⟨t', he', hr⟩ := emit_roundtrip_all_strings_partial ho v hv
  rw [he] at he'
  cases he'
  exact hr

/-- (T) one document, all strings: the lines of the text are the prologue lines followed by the layout lines; no
layout line is a document marker; the first one is neither a directive nor blank nor a comment (body lines of a
block scalar may be: they are indented) -/
theorem emit_single_document_all_strings_partial (ho : FragOpts o) (v : SVal) (hv : inFragP (allStrPred o) v = true) :
    ∃ t, emit o implFns v = .ok t ∧
      toLines t = prologueLines o ++ layRoot (blkToks o implFns) o.indentStep o.compactListIndent v ∧
      (∀ l ∈ layRoot (blkToks o implFns) o.indentStep o.compactListIndent v, isDocMarker l "---".toList = false ∧
        isDocMarker l "...".toList = false) ∧
      (∃ l rest, layRoot (blkToks o implFns) o.indentStep o.compactListIndent v = l :: rest ∧ l.text.head? ≠ some '%' ∧
        l.isSkippable = false) :=
  emit_single_document_lines ho (blk_write ho) (blk_read o _ ho.indent) v hv

/-- the fragment of `emit_roundtrip_strings_partial` (string leaves without block style) is part of this one -/
example (v : SVal) (hv : inFragP (implPred o) v = true) : inFragP (allStrPred o) v = true := implPred_all hv

/-- without `yaml_12` (or under `quote_all`) the class is: every string, everywhere -/
theorem allStrPred_every (hy : o.yaml12 = false ∨ o.quoteAll = true) (s : List Char) :
    (allStrPred o).str s = true ∧ (allStrPred o).name s = true ∧ (o.yaml12 = false → (allStrPred o).key s = true) ∧
    (∀ e, o.taggedEnums = false ∨ tagNameOk e = true → (allStrPred o).unit e s = true) := by
  refine ⟨?_, ?_, ?_, ?_⟩
  · rcases hy with hy | hy <;> simp [allStrPred, boolRisk, hy]
  · rcases hy with hy | hy <;> simp [allStrPred, implPred, boolRisk, hy]
  · intro h; simp [allStrPred, implPred, h]
  · intro e he
    rcases hy with hy | hy <;> rcases he with he | he <;> simp [allStrPred, boolRisk, hy, he]

/-- (T) what the layout says for a string leaf that is written as a LITERAL block scalar (a string with a line
break of the auto-block class, no fall-back in this position): the header `|` + indentation indicator (the column
of the body, iff the first non-empty line starts with a blank) + chomping indicator, then one body line per content
line — the content line `x` after `N = parent + indent_step` blanks (`bodyLineAt`: rendered `spaces N ++ x`), the
lines beyond the first trailing line break as empty lines -/
theorem literal_leaf_layout (f : ScalarFns) (k : Nat) (pos : StrPos) (s : List Char) (ha : autoBlock o f s = true)
    (hn : s.contains '\n' = true) (hfb : blockFallback k pos s = false) :
    blkStr o f k pos s = ('|' :: (indChars (needsInd s) (bodyCol k pos) ++ chompChars (trailNl s)),
      (litLines s).map (bodyLineAt (bodyCol k pos))) ∧
    renderLines ((litLines s).map (bodyLineAt (bodyCol k pos))) = bodyText (bodyCol k pos) (litLines s) ∧
    ∀ l ∈ (litLines s).map (bodyLineAt (bodyCol k pos)), l.indent ≥ bodyCol k pos := by
  refine ⟨by simp only [blkStr, ha, hfb, hn, if_true, Bool.false_eq_true, if_false, litLeaf, blockHdr], renderLines_body _ _, ?_⟩
  intro l hl
  simp only [List.mem_map] at hl
  obtain ⟨x, _, rfl⟩ := hl
  simp [bodyLineAt]

/-- (T) … and as a FOLDED block scalar (a single-line string of the auto-block class, for the crate's own functions:
it passed the plain-value test and is longer than `folded_wrap_chars`): the header `>-`, then the segments
`write_folded_block` cuts the string into, each at the column `N = parent + indent_step`; joined by single blanks
the segments are the string; none is empty or starts with a blank -/
theorem folded_leaf_layout (k : Nat) (pos : StrPos) (s : List Char) (ha : autoBlock o implFns s = true)
    (hn : s.contains '\n' = false) (hfb : blockFallback k pos s = false) :
    ∃ segs, blkStr o implFns k pos s = (['>', '-'], segs.map fun e => (⟨bodyCol k pos, e⟩ : Line)) ∧
      SaphyrVerif.Lemmas.C12.joinSp segs = s ∧ segs ≠ [] ∧ ∀ e ∈ segs, e ≠ [] ∧ e.head? ≠ some ' ' := by
  have hpv : implFns.isPlainValueSafe s o.yaml12 false = true := by
    unfold autoBlock at ha
    simp only [hn, Bool.false_eq_true, if_false, Bool.and_eq_true] at ha
    exact ha.2.1
  obtain ⟨hne, hhead, hc⟩ := impl_pvs_facts hpv
  have hnl : ∀ c ∈ s, c ≠ '\n' := fun c hcm => (lineChar_of_notControl (hc c hcm)).1
  obtain ⟨segs, hlines, hjoin, hsne, hsegs⟩ := foldedBlock_lines (bodyCol k pos) o.foldedWrapCol s hne hhead hnl
  obtain ⟨hni, htr⟩ := blockHdr_fold hne hhead hnl
  refine ⟨segs, ?_, hjoin, hsne, hsegs⟩
  simp only [blkStr, ha, hfb, hn, if_true, Bool.false_eq_true, if_false, foldLeaf, blockHdr, hni, htr, indChars, chompChars,
    List.nil_append, hlines]

/-- (T) … and where the block style is given up (`blockFallback`: indentation indicator under a parent that is not at
column 0 or deeper than 9 columns, `- - ` under `indent_step 1`, control characters): one token, what
`write_plain_or_quoted_value` writes -/
theorem fallback_leaf_layout (f : ScalarFns) (k : Nat) (pos : StrPos) (s : List Char) (ha : autoBlock o f s = true)
    (hfb : blockFallback k pos s = true) : blkStr o f k pos s = (plainOrQuotedValue o f false s, []) := by
  simp [blkStr, ha, hfb]

/-- (F, about the ASSUMPTION of the theorems on the safe class, not about the code) the safe-leaf contract
`SafeContract` does not hold for the crate's own scalar-text functions: `infinity` is a safe string
(`[a-z][a-z0-9]*`, not a reserved word) but since fix 1fdb06b the crate quotes whatever its own float reader
accepts, `infinity` included.  The theorems over `SafeContract f` therefore say nothing about `implFns`
itself; `emit_roundtrip_strings_partial` does (there `infinity` is simply one more quoted string). -/
theorem implFns_not_safeContract : ¬ SafeContract implFns := by
  intro h
  have h1 := h.plain "infinity".toList (by decide)
  have h2 : implFns.isPlainSafe "infinity".toList = false := by decide +kernel
  rw [h2] at h1
  exact Bool.noConfusion h1

end

/-! ## regression theorems: the defect classes repaired in the code

Each theorem states what the emitter model writes for the witness of a former defect class (identical
to the implementation's output: the witnesses are part of the differential corpus) and that the
reference reader (= the real parser on these texts) reads the value back. -/

/-- `yaml_12 = true` (repaired by fix 832e31b, found by this property: the directive used to be
written without the `---` it requires and every document was rejected): the prologue is followed by
the document start marker and the document reads back (`yaml_12` is an option of the proved fragment:
`prologue`). -/
example : emit { yaml12 := true } implFns (.int 7) = .ok "%YAML 1.2\n---\n7\n".toList ∧
    readDoc "%YAML 1.2\n---\n7\n".toList = some (.int 7) := by
  char_lits
  exact ⟨by decide +kernel, by decide +kernel⟩

/-- (regression, fix 995e25e) `indent_step = 1`: the items of a nested sequence are aligned under its
first dash (the second item used to be indented less than the first: not YAML). -/
theorem indent_step_1_regression :
    emit { indentStep := 1 } implFns (.seq [.seq [.int 1, .int 2]]) = .ok "- - 1\n  - 2\n".toList ∧
    readDoc "- - 1\n  - 2\n".toList = some (erase (.seq [.seq [.int 1, .int 2]])) := by
  char_lits
  exact ⟨by decide +kernel, by decide +kernel⟩

/-- (regression, fix 995e25e) `indent_step = 3`: same (`[[1, 2]]` used to read as `[["1 - 2"]]`); a
mapping under the nested sequence keeps its keys aligned too. -/
theorem indent_step_3_regression :
    emit { indentStep := 3 } implFns (.seq [.seq [.int 1, .int 2]]) = .ok "- - 1\n  - 2\n".toList ∧
    emit { indentStep := 3 } implFns (.seq [.seq [SVal.struct [("k".toList, .int 1), ("m".toList, .seq [.int 2])]]]) =
      .ok "- - k: 1\n    m:\n       - 2\n".toList ∧
    readDoc "- - k: 1\n    m:\n       - 2\n".toList =
      some (erase (.seq [.seq [SVal.struct [("k".toList, .int 1), ("m".toList, .seq [.int 2])]]])) := by
  char_lits
  exact ⟨by decide +kernel, by decide +kernel, by decide +kernel⟩

/-- (regression, fix 8740963) `compact_list_indent = true`: an empty sequence after a block sibling
stays on the line of its key (it used to land at the parent's column on a line of its own). -/
theorem compact_list_indent_regression :
    emit { compactListIndent := true } implFns
      (SVal.struct [("a".toList, .seq [.int 1]), ("b".toList, .seq [])]) = .ok "a:\n- 1\nb: []\n".toList ∧
    readDoc "a:\n- 1\nb: []\n".toList =
      some (erase (SVal.struct [("a".toList, .seq [.int 1]), ("b".toList, .seq [])])) := by
  char_lits
  exact ⟨by decide +kernel, by decide +kernel⟩

/-- (regression, fix fb15f4e) `compact_list_indent = true`: a sequence used as a composite key keeps
its later items under the `? ` (they used to be written at the column of the `?`). -/
theorem compact_list_indent_key_regression :
    emit { compactListIndent := true } implFns (.map true [(.seq [.int 1, .int 2], .int 1)]) =
      .ok "? - 1\n  - 2\n: 1\n".toList ∧
    readDoc "? - 1\n  - 2\n: 1\n".toList = some (erase (.map true [(.seq [.int 1, .int 2], .int 1)])) := by
  char_lits
  exact ⟨by decide +kernel, by decide +kernel⟩

/-- (regression, fix beca5d5) a tuple variant in mapping-value position goes under its key (it used
to be glued to the key: `k:Tv:`). -/
theorem tuple_variant_position_regression :
    emit {} implFns (SVal.struct [("k".toList, .tupleVariant "Tv".toList [.int 1])]) = .ok "k:\n  Tv:\n    - 1\n".toList ∧
    readDoc "k:\n  Tv:\n    - 1\n".toList =
      some (erase (SVal.struct [("k".toList, .tupleVariant "Tv".toList [.int 1])])) := by
  char_lits
  exact ⟨by decide +kernel, by decide +kernel⟩

/-- (regression, fix beca5d5) tuple / struct variants without fields are `Variant: []` / `Variant: {}`
(they used to read as null payloads). -/
theorem empty_variant_regression :
    emit {} implFns (.tupleVariant "Tv".toList []) = .ok "Tv: []\n".toList ∧
    emit {} implFns (.structVariant "Sv".toList []) = .ok "Sv: {}\n".toList ∧
    readDoc "Tv: []\n".toList = some (erase (.tupleVariant "Tv".toList [])) ∧
    readDoc "Sv: {}\n".toList = some (erase (.structVariant "Sv".toList [])) :=
  ⟨by decide +kernel, by decide +kernel, by decide +kernel, by decide +kernel⟩

/-- (regression, fix f421f34) a tuple struct without fields is `[]` (it used to emit nothing: the next
key landed on the same line). -/
theorem tuple_struct_empty_regression :
    emit {} implFns (SVal.struct [("k".toList, .tupleStruct []), ("z".toList, .int 9)]) = .ok "k: []\nz: 9\n".toList ∧
    readDoc "k: []\nz: 9\n".toList =
      some (erase (SVal.struct [("k".toList, .tupleStruct []), ("z".toList, .int 9)])) := by
  char_lits
  exact ⟨by decide +kernel, by decide +kernel⟩

/-- (regression, fix f421f34) nested tuple structs nest (`A(B(1))` used to read as `[null, 1]`). -/
theorem tuple_struct_position_regression :
    emit {} implFns (.tupleStruct [.tupleStruct [.int 1]]) = .ok "- - 1\n".toList ∧
    readDoc "- - 1\n".toList = some (erase (.tupleStruct [.tupleStruct [.int 1]])) := ⟨by decide +kernel, by decide +kernel⟩

/-- (regression, fix 6b2e131) the block-sequence value of a composite key starts after `: ` and
continues under it (it used to continue at the wrong column and read as `["1 - 2"]`). -/
theorem complex_key_regression :
    emit {} implFns (.map true [(.seq [], .seq [.int 1, .int 2])]) = .ok "? []\n: - 1\n  - 2\n".toList ∧
    readDoc "? []\n: - 1\n  - 2\n".toList = some (erase (.map true [(.seq [], .seq [.int 1, .int 2])])) := by
  char_lits
  exact ⟨by decide +kernel, by decide +kernel⟩

/-- (regression, fix b697ff3) the name of an enum variant with data is the key of `Variant: payload`: a
name that is a YAML 1.1 boolean spelling is quoted like every other mapping key (`Y: 1` used to be
written and read back with the key `true`). -/
theorem variant_key_yaml11_bool_regression :
    emit {} implFns (.newtypeVariant "Y".toList (.int 1)) = .ok "\"Y\": 1\n".toList ∧
    readDoc "\"Y\": 1\n".toList = some (erase (.newtypeVariant "Y".toList (.int 1))) ∧
    readDoc "Y: 1\n".toList = some (.map [(.bool true, .int 1)]) ∧
    emit {} implFns (.seq [SVal.structVariantOf "No".toList [("a".toList, .int 1)], .tupleVariant "on".toList [.int 1, .int 2]]) =
      .ok "- \"No\":\n    a: 1\n- \"on\":\n    - 1\n    - 2\n".toList ∧
    readDoc "- \"No\":\n    a: 1\n- \"on\":\n    - 1\n    - 2\n".toList =
      some (erase (.seq [SVal.structVariantOf "No".toList [("a".toList, .int 1)], .tupleVariant "on".toList [.int 1, .int 2]])) := by
  char_lits
  exact ⟨by decide +kernel, by decide +kernel, by decide +kernel, by decide +kernel, by decide +kernel⟩

def rep (c : Char) (n : Nat) : List Char := List.replicate n c

/-- (regression, fix of `long-implicit-key`) YAML limits an implicit key `key: value` to 1024 characters (the reference
reader has the rule now: `maxImplicitKey`, validated against the real parser).  A key of 1024 characters is still written
as an implicit key and reads back; a key of 1025 characters is written as an explicit key `? key` / `: value` and reads
back (it used to be written `key: value`, which no YAML parser accepts: last clause, the text the emitter used to
write is rejected by the reader as by the real parser). -/
theorem long_key_roundtrip :
    emit {} implFns (.map true [(.str (rep 'k' 1024), .int 1)]) = .ok (rep 'k' 1024 ++ ": 1\n".toList) ∧
    readDoc (rep 'k' 1024 ++ ": 1\n".toList) = some (erase (.map true [(.str (rep 'k' 1024), .int 1)])) ∧
    emit {} implFns (.map true [(.str (rep 'k' 1025), .int 1)]) = .ok (['?', ' '] ++ rep 'k' 1025 ++ "\n: 1\n".toList) ∧
    readDoc (['?', ' '] ++ rep 'k' 1025 ++ "\n: 1\n".toList) = some (erase (.map true [(.str (rep 'k' 1025), .int 1)])) ∧
    readDoc (rep 'k' 1025 ++ ": 1\n".toList) = none := by
  have e1 : emit {} implFns (.map true [(.str (rep 'k' 1024), .int 1)]) = .ok (rep 'k' 1024 ++ ": 1\n".toList) := by
    decide +kernel
  have e2 : emit {} implFns (.map true [(.str (rep 'k' 1025), .int 1)]) = .ok (['?', ' '] ++ rep 'k' 1025 ++ "\n: 1\n".toList) := by
    decide +kernel
  exact ⟨e1, readDoc_of_emit ⟨by decide, rfl⟩ (by decide +kernel) e1, e2, readDoc_of_emit ⟨by decide, rfl⟩ (by decide +kernel) e2,
    by decide +kernel⟩

/-- (regression, same fix) the limit counts the text AS WRITTEN (quotes and escapes included): a key of 1022 characters
that has to be quoted (it ends with `:`) makes a text of 1024 characters and stays implicit, one of 1023 characters is
written as an explicit key; as the first key of a mapping inside a sequence the `: ` line goes under the `?` -/
theorem long_key_quoted_regression :
    emit {} implFns (.seq [.map true [(.str (rep 'k' 1021 ++ [':']), .int 1)]]) =
      .ok ("- \"".toList ++ rep 'k' 1021 ++ ":\": 1\n".toList) ∧
    emit {} implFns (.seq [.map true [(.str (rep 'k' 1022 ++ [':']), .int 1), (.str "z".toList, .int 2)]]) =
      .ok ("- ? \"".toList ++ rep 'k' 1022 ++ ":\"\n  : 1\n  z: 2\n".toList) ∧
    readDoc ("- ? \"".toList ++ rep 'k' 1022 ++ ":\"\n  : 1\n  z: 2\n".toList) =
      some (erase (.seq [.map true [(.str (rep 'k' 1022 ++ [':']), .int 1), (.str "z".toList, .int 2)]])) := by
  have e2 : emit {} implFns (.seq [.map true [(.str (rep 'k' 1022 ++ [':']), .int 1), (.str "z".toList, .int 2)]]) =
      .ok ("- ? \"".toList ++ rep 'k' 1022 ++ ":\"\n  : 1\n  z: 2\n".toList) := by
    decide +kernel
  exact ⟨by decide +kernel, e2, readDoc_of_emit ⟨by decide, rfl⟩ (by decide +kernel) e2⟩

/-- the witness of `long_variant_name_regression` -/
def longVariantValue : SVal :=
  SVal.struct [("k".toList, .seq [.tupleVariant (rep 'K' 1025) [.int 1, .int 2]]), ("m".toList, .newtypeVariant (rep 'K' 1025) (.int 3))]

/-- (regression, same fix) the name of an enum variant with data is the key of `Variant: payload`: a name longer than
1024 characters is written as an explicit key too, the payload after `: ` under it — after `- ` and after `key:` -/
theorem long_variant_name_regression :
    emit {} implFns longVariantValue =
      .ok ("k:\n  - ? ".toList ++ rep 'K' 1025 ++ "\n    : - 1\n      - 2\nm:\n  ? ".toList ++ rep 'K' 1025 ++ "\n  : 3\n".toList) ∧
    readDoc ("k:\n  - ? ".toList ++ rep 'K' 1025 ++ "\n    : - 1\n      - 2\nm:\n  ? ".toList ++ rep 'K' 1025 ++ "\n  : 3\n".toList) =
      some (erase longVariantValue) := by
  have e : emit {} implFns longVariantValue =
      .ok ("k:\n  - ? ".toList ++ rep 'K' 1025 ++ "\n    : - 1\n      - 2\nm:\n  ? ".toList ++ rep 'K' 1025 ++ "\n  : 3\n".toList) := by
    decide +kernel
  exact ⟨e, readDoc_of_emit ⟨by decide, rfl⟩ (by decide +kernel) e⟩

/-- (T) every string of the key class round-trips as the key of a one-entry mapping, whatever its length, under every
option vector of the fragment (instance of `emit_roundtrip_all_strings_partial`: the long ones through the explicit-key
layout) -/
theorem string_key_roundtrip {o : Opts} (ho : FragOpts o) {k : List Char} (hk : (allStrPred o).key k = true) (v : SVal)
    (hv : inFragP (allStrPred o) v = true) :
    ∃ t, emit o implFns (.map true [(.str k, v)]) = .ok t ∧ readDoc t = some (.map [(.str k, erase v)]) := by
  have := emit_roundtrip_all_strings_partial ho (.map true [(.str k, v)])
    (by simp [inFragP, inFragEntriesP, keyOk, keyOf, hasDupKey, eraseEntries, hv, hk])
  simpa [erase, eraseEntries] using this

/-- (T) … and so does every name of the class as the name of a variant with data -/
theorem variant_name_roundtrip {o : Opts} (ho : FragOpts o) {n : List Char} (hn : (allStrPred o).name n = true) (v : SVal)
    (hv : inFragP (allStrPred o) v = true) :
    ∃ t, emit o implFns (.newtypeVariant n v) = .ok t ∧ readDoc t = some (.map [(.str n, erase v)]) := by
  have := emit_roundtrip_all_strings_partial ho (.newtypeVariant n v) (by simp [inFragP, hv, hn])
  simpa [erase] using this

/-- (T) a string key of ANY length round-trips (instance of `emit_roundtrip_all_strings_partial`: keys of every length are
inside the proved fragment, the long ones through the explicit-key layout) -/
theorem long_key_any_length (n : Nat) (c : Char) (v : SVal) (hv : inFragP (allStrPred {}) v = true) :
    ∃ t, emit {} implFns (.map true [(.str (rep c n), v)]) = .ok t ∧ readDoc t = some (.map [(.str (rep c n), erase v)]) :=
  string_key_roundtrip ⟨by decide, rfl⟩ (by simp [allStrPred, implPred]) v hv

/-- … and so does the name of a variant with data, of any length -/
theorem long_variant_name_any_length (n : Nat) (c : Char) (v : SVal) (hv : inFragP (allStrPred {}) v = true) :
    ∃ t, emit {} implFns (.newtypeVariant (rep c n) v) = .ok t ∧ readDoc t = some (.map [(.str (rep c n), erase v)]) :=
  variant_name_roundtrip ⟨by decide, rfl⟩ (by simp [allStrPred, implPred, boolRisk]) v hv

/-- the layout function at a long key: `? key`, `: value` (the value laid out like a sequence item after its dash) -/
example : (layRoot (blkToks {} implFns) 2 false (.map true [(.str (rep 'k' 1025), .seq [.int 1, .int 2])])).map (·.indent) = [0, 0, 2] ∧
    ((layRoot (blkToks {} implFns) 2 false (.map true [(.str (rep 'k' 1025), .seq [.int 1, .int 2])])).drop 1).map (·.text) =
      [": - 1".toList, "- 2".toList] := by decide +kernel
example : fitsImplicit (rep 'k' 1024) = true ∧ fitsImplicit (rep 'k' 1025) = false := by decide +kernel
example : inFragP (allStrPred {}) longVariantValue = true := by decide +kernel

/-- (F) `empty_as_braces = false`: an empty sequence is written as nothing and reads as null (the
text is required by the crate's tests/empty_map_braces.rs: the option's legacy layout). -/
theorem empty_no_braces_counterexample :
    emit { emptyAsBraces := false } implFns (SVal.struct [("k".toList, .seq [])]) = .ok "k:\n".toList ∧
    readDoc "k:\n".toList = some (.map [(.str "k".toList, .null)]) := ⟨by decide +kernel, by decide +kernel⟩

/-- (F) `yaml_12 = true` leaves the YAML 1.1 boolean words plain (the option's purpose; C12's residue
`C12-yaml12-bool-word-plain`): a string value `yes` — and, whatever `quote_all` says, a string key `on` —
reads back as a boolean.  This is the hypothesis `boolRisk` / `isBoolWord` in `implPred`. -/
theorem yaml12_bool_word_counterexample :
    emit { yaml12 := true } implFns (.str "yes".toList) = .ok "%YAML 1.2\n---\nyes\n".toList ∧
    readDoc "%YAML 1.2\n---\nyes\n".toList = some (.bool true) ∧
    emit { yaml12 := true, quoteAll := true } implFns (.map true [(.str "on".toList, .int 1)]) =
      .ok "%YAML 1.2\n---\non: 1\n".toList ∧
    readDoc "%YAML 1.2\n---\non: 1\n".toList = some (.map [(.bool true, .int 1)]) := by
  char_lits
  exact ⟨by decide +kernel, by decide +kernel, by decide +kernel, by decide +kernel⟩

/-- the composition at full strength: every string that gets no block style, under every option vector of
the fragment -/
def C13_Strings_Full : Prop :=
  ∀ (o : Opts) (s : List Char), FragOpts o → autoBlock o implFns s = false →
    ∃ t, emit o implFns (.str s) = .ok t ∧ readDoc t = some (.str s)

/-- (F) … is false through the `yaml_12` boolean words only (`emit_roundtrip_strings_partial` has everything else) -/
theorem C13_Strings_Full_false : ¬ C13_Strings_Full := by
  intro h
  obtain ⟨t, he, hr⟩ := h { yaml12 := true } "yes".toList ⟨by decide, rfl⟩ (by decide +kernel)
  rw [yaml12_bool_word_counterexample.1] at he
  cases he
  rw [yaml12_bool_word_counterexample.2.1] at hr
  exact absurd hr (by decide)

/-- every string as a leaf, at full strength: every option vector of the fragment -/
def C13_AllStrings_Full : Prop :=
  ∀ (o : Opts) (s : List Char), FragOpts o → ∃ t, emit o implFns (.str s) = .ok t ∧ readDoc t = some (.str s)

/-- (F) … is false through the `yaml_12` boolean words only (`emit_roundtrip_all_strings_partial` has everything else) -/
theorem C13_AllStrings_Full_false : ¬ C13_AllStrings_Full := by
  intro h
  obtain ⟨t, he, hr⟩ := h { yaml12 := true } "yes".toList ⟨by decide, rfl⟩
  rw [yaml12_bool_word_counterexample.1] at he
  cases he
  rw [yaml12_bool_word_counterexample.2.1] at hr
  exact absurd hr (by decide)

/-- (T) … and true without `yaml_12`: EVERY string, alone at the root (the other positions: the theorem above) -/
theorem emit_roundtrip_every_string_yaml11 {o : Opts} (ho : FragOpts o) (hy : o.yaml12 = false) (s : List Char) :
    ∃ t, emit o implFns (.str s) = .ok t ∧ readDoc t = some (.str s) := by
  have := emit_roundtrip_all_strings_partial ho (.str s) (by simp [inFragP, allStrPred, boolRisk, hy])
  simpa [erase] using this

/-- (F) the full statement does not hold for the code as it is. -/
theorem C13_Full_false : ¬ C13_Full := by
  intro h
  have h1 := h { emptyAsBraces := false } (SVal.struct [("k".toList, .seq [])]) _ (by decide) empty_no_braces_counterexample.1
  rw [empty_no_braces_counterexample.2] at h1
  exact absurd h1 (by decide)

/-! ## the hypotheses are satisfiable (non-vacuity) -/

/-- a value of the fragment that exercises every constructor and the sibling interactions -/
def sampleValue : SVal :=
  SVal.struct [
    ("name".toList, .str "demo".toList),
    ("ports".toList, .seq [.int 8080, .int (-1), .seq [.bool true, .none], .seq []]),
    ("nested".toList, .map false [(.str "a".toList, .newtypeVariant "nv".toList (.seq [SVal.struct [("x".toList, .unit), ("z".toList, .map true [])]])),
                                  (.str "b".toList, .some (.unitVariant "e".toList "va".toList))]),
    ("variants".toList, .tupleStruct [.tupleVariant "tv".toList [.int 1, .tupleStruct []], .tupleVariant "te".toList [],
                                      SVal.structVariantOf "sv".toList [("f".toList, .structVariant "se".toList [])]]),
    ("keys".toList, .map true [(.seq [.int 1, .seq []], .seq [.int 2]),
                               (SVal.struct [("x".toList, .int 1), ("z".toList, .int 2)], SVal.struct [("x".toList, .int 3)]),
                               (.newtypeVariant "nv".toList (.seq [.int 1]), .tupleVariant "tv".toList []),
                               (.str "plain".toList, .seq [.map false [(.map true [], .map true [])]])]),
    ("last".toList, .newtypeStruct (.tuple [.int 1, SVal.struct []]))]

example : inFrag {} sampleValue = true := by decide +kernel
example : inFrag { taggedEnums := true, quoteAll := true, foldedWrapCol := 5 } sampleValue = true := by decide +kernel
example : FragOpts ({} : Opts) := ⟨by decide, rfl⟩
example : FragOpts ({ yaml12 := true, indentStep := 3, compactListIndent := true } : Opts) := ⟨by decide, rfl⟩
/-- `yaml_12` at work (model output; identical to the implementation's): the prologue, then the same layout;
the safe leaf class excludes the YAML 1.1 boolean words, which `yaml_12` leaves plain (C12's residue) -/
example : emit { yaml12 := true } implFns (SVal.struct [("k".toList, .seq [.int 1, .str "yes1".toList])]) =
    .ok "%YAML 1.2\n---\nk:\n  - 1\n  - yes1\n".toList := by
  char_lits
  decide +kernel
example : isSafeStr "yes".toList = false ∧ isSafeStr "y".toList = false ∧ isSafeStr "off".toList = false := by decide +kernel
example : FragOpts ({ quoteAll := true, yaml12 := true, indentStep := 4 } : Opts) := ⟨by decide, rfl⟩
/-- `quote_all` at work (model output; identical to the implementation's): string values, unit variants and the
names of variants with data in single quotes, string keys plain; and the reader on it -/
example : emit { quoteAll := true, yaml12 := true } implFns (SVal.struct [("k".toList, .seq [.str "ab".toList,
      .newtypeVariant "nv".toList (.str "x".toList), .unitVariant "e".toList "uv".toList]),
      ("m".toList, .map true [(.seq [.str "q".toList], .str "yes1".toList)])]) =
    .ok "%YAML 1.2\n---\nk:\n  - 'ab'\n  - 'nv': 'x'\n  - 'uv'\nm:\n  ? - 'q'\n  : 'yes1'\n".toList := by
  char_lits
  decide +kernel
example : readDoc "%YAML 1.2\n---\nk:\n  - 'ab'\n  - 'nv': 'x'\n  - 'uv'\nm:\n  ? - 'q'\n  : 'yes1'\n".toList =
    some (erase (SVal.struct [("k".toList, .seq [.str "ab".toList,
      .newtypeVariant "nv".toList (.str "x".toList), .unitVariant "e".toList "uv".toList]),
      ("m".toList, .map true [(.seq [.str "q".toList], .str "yes1".toList)])])) := by
  char_lits
  decide +kernel
/-- a value over arbitrary strings (the hypotheses of `emit_roundtrip_strings_partial` are satisfiable):
key separators, comment signs, quotes, blanks at either end, empty strings, look-alikes of null / numbers /
booleans / sequence entries, TAB and backslash, as leaves, keys, variant names and inside composite keys -/
def stringsValue : SVal :=
  SVal.struct [("a key".toList, .seq [.str "hello: world".toList, .str "it's # not a comment".toList, .str "".toList,
      .str "- x".toList, .str "123".toList, .str "null".toList, .str "plain text".toList]),
    ("yes".toList, .newtypeVariant "On".toList (.str " lead".toList)),
    ("t\tab".toList, .map true [(.seq [.str "q\"uote".toList], .str "tr\\ail ".toList)])]

example : inFragP (implPred {}) stringsValue = true := by decide +kernel
example : inFragP (lineStrPred {}) stringsValue = true := by decide +kernel
example : inFragP (lineStrPred { yaml12 := true, quoteAll := true, taggedEnums := true, indentStep := 1 })
    (.seq [.str "yes".toList, .unitVariant "En".toList "no".toList, SVal.struct [("k e y".toList, .str "#".toList)]]) = true := by
  decide +kernel
example : inFragP (implPred { quoteAll := true, indentStep := 3 }) stringsValue = true := by decide +kernel
/-- under `quote_all` strings with line breaks are in the class too (they are double-quoted) -/
example : inFragP (implPred { quoteAll := true, yaml12 := true }) (.seq [.str "multi\nline\n".toList]) = true := by
  char_lits
  decide +kernel
set_option maxRecDepth 4000 in
/-- model output (identical to the implementation's) and the reader on it -/
example : emit {} implFns stringsValue =
    .ok "a key:\n  - \"hello: world\"\n  - \"it's # not a comment\"\n  - \"\"\n  - \"- x\"\n  - \"123\"\n  - \"null\"\n  - plain text\n\"yes\":\n  \"On\": \" lead\"\n\"t\\tab\":\n  ? - q\"uote\n  : \"tr\\\\ail \"\n".toList := by
  char_lits
  decide +kernel
set_option maxRecDepth 4000 in
example : readDoc "a key:\n  - \"hello: world\"\n  - \"it's # not a comment\"\n  - \"\"\n  - \"- x\"\n  - \"123\"\n  - \"null\"\n  - plain text\n\"yes\":\n  \"On\": \" lead\"\n\"t\\tab\":\n  ? - q\"uote\n  : \"tr\\\\ail \"\n".toList =
    some (erase stringsValue) := by
  char_lits
  decide +kernel
/-- a value whose string leaves get every treatment `serialize_str` has, in every kind of position: literal blocks
(clip / keep / strip chomping, indentation indicator under a parent at column 0), a folded block, the quoted
fall-backs (indicator under a nested parent, control characters), a quoted and a plain token; as values of keys, as
sequence items, in a nested sequence, as the payload of a variant, inside an explicit key and as its value; body
lines that look like a comment / a document marker -/
def blockValue : SVal :=
  SVal.struct [
    ("text".toList, .str "line one\nline two\n".toList),
    ("items".toList, .seq [.str "a\n  b\n\n".toList, .str "word word  word   word ".toList, .seq [.str "x\ny".toList, .int 1]]),
    ("lead".toList, .str " indented first\nthen not".toList),
    ("nested".toList, SVal.struct [("lead".toList, .str " x\ny".toList), ("v".toList, .newtypeVariant "Nv".toList (.str "p\nq\n\n\n".toList))]),
    ("keys".toList, .map true [(.seq [.str "k\nk".toList], .str "# not a comment\n--- not a marker\n".toList)]),
    ("ctl".toList, .str "a\rb\nc".toList),
    ("plain".toList, .str "yes".toList)]

example : inFragP (allStrPred { foldedWrapCol := 10 }) blockValue = true := by decide +kernel
example : inFragP (allStrPred { foldedWrapCol := 10, indentStep := 1, compactListIndent := true, yaml12 := true, quoteAll := true })
    (.seq [.str " a\nb".toList, .seq [.str "a\nb".toList], blockValue]) = true := by decide +kernel
example : inFragP (implPred { foldedWrapCol := 10 }) blockValue = false := by decide +kernel
set_option maxRecDepth 8000 in
/-- model output (identical to the implementation's) -/
example : emit { foldedWrapCol := 10 } implFns blockValue =
    .ok "text: |\n  line one\n  line two\nitems:\n  - |+\n    a\n      b\n    \n  - >-\n    word\n    word  word  \n    word \n  - - |-\n      x\n      y\n    - 1\nlead: |2-\n   indented first\n  then not\nnested:\n  lead: \" x\\ny\"\n  v:\n    Nv: |+\n      p\n      q\n      \n      \nkeys:\n  ? - |-\n      k\n      k\n  : |\n    # not a comment\n    --- not a marker\nctl: \"a\\rb\\nc\"\nplain: \"yes\"\n".toList := by
  char_lits
  decide +kernel
set_option maxRecDepth 8000 in
/-- … and the reader on it -/
example : readDoc "text: |\n  line one\n  line two\nitems:\n  - |+\n    a\n      b\n    \n  - >-\n    word\n    word  word  \n    word \n  - - |-\n      x\n      y\n    - 1\nlead: |2-\n   indented first\n  then not\nnested:\n  lead: \" x\\ny\"\n  v:\n    Nv: |+\n      p\n      q\n      \n      \nkeys:\n  ? - |-\n      k\n      k\n  : |\n    # not a comment\n    --- not a marker\nctl: \"a\\rb\\nc\"\nplain: \"yes\"\n".toList =
    some (erase blockValue) := by
  char_lits
  decide +kernel
/-- other steps: `indent_step 1` (no block scalar after `- - `: quoted; the body one column under a root dash), 4, 11
(the indentation indicator would exceed 9: quoted) -/
example : emit { foldedWrapCol := 2, indentStep := 1 } implFns (.seq [.str " a\nb".toList, .seq [.str "a\nb".toList], .str "a\nb".toList]) =
    .ok "- |1-\n  a\n b\n- - \"a\\nb\"\n- |-\n a\n b\n".toList := by
  char_lits
  decide +kernel
example : readDoc "- |1-\n  a\n b\n- - \"a\\nb\"\n- |-\n a\n b\n".toList =
    some (erase (.seq [.str " a\nb".toList, .seq [.str "a\nb".toList], .str "a\nb".toList])) := by
  char_lits
  decide +kernel
example : emit { foldedWrapCol := 10, indentStep := 4 } implFns (.newtypeVariant "V".toList (.str "aaaa bbbb cccc dddd".toList)) =
    .ok "V: >-\n    aaaa bbbb\n    cccc dddd\n".toList := by
  char_lits
  decide +kernel
example : emit { foldedWrapCol := 2, indentStep := 11 } implFns (SVal.struct [("k".toList, .str " a\nb".toList), ("j".toList, .str "a\nb".toList)]) =
    .ok "k: \" a\\nb\"\nj: |-\n           a\n           b\n".toList := by
  char_lits
  decide +kernel
/-- unit variants are written like string leaves (block scalars included); under `tagged_enums` as `!!Enum variant` -/
example : inFragP (allStrPred { foldedWrapCol := 2 }) (.seq [.unitVariant "E".toList "a\nb".toList,
    SVal.struct [("k".toList, .unitVariant "E".toList "aa bb  c".toList)]]) = true := by decide +kernel
example : emit { foldedWrapCol := 2 } implFns (.seq [.unitVariant "E".toList "a\nb".toList,
      SVal.struct [("k".toList, .unitVariant "E".toList "aa bb  c".toList)]]) =
    .ok "- |-\n  a\n  b\n- k: >-\n    aa bb  c\n".toList := by
  char_lits
  decide +kernel
example : readDoc "- |-\n  a\n  b\n- k: >-\n    aa bb  c\n".toList =
    some (erase (.seq [.unitVariant "E".toList "a\nb".toList, SVal.struct [("k".toList, .unitVariant "E".toList "aa bb  c".toList)]])) := by
  char_lits
  decide +kernel
example : emit { foldedWrapCol := 2, taggedEnums := true } implFns (.seq [.unitVariant "E".toList "a\nb".toList,
      SVal.struct [("k".toList, .unitVariant "E".toList "aa bb  c".toList)]]) =
    .ok "- !!E \"a\\nb\"\n- k: !!E aa bb  c\n".toList := by
  char_lits
  decide +kernel
/-- the layout function at a block leaf: header on the line of the key, the body lines at column `0 + indent_step`,
the leading blanks of a content line counted as indentation -/
example : layRoot (blkToks { foldedWrapCol := 2 } implFns) 2 false (SVal.struct [("k".toList, .str " a\n\nb\n\n".toList)]) =
    [⟨0, "k: |2+".toList⟩, ⟨3, "a".toList⟩, ⟨2, []⟩, ⟨2, "b".toList⟩, ⟨2, []⟩] := by decide +kernel
/-- the hypotheses of the layout theorems for a single leaf are satisfiable -/
example : autoBlock { foldedWrapCol := 2 } implFns " a\n\nb\n\n".toList = true ∧ blockFallback 2 (.val 0) " a\n\nb\n\n".toList = false ∧
    blockFallback 2 (.val 2) " a\n\nb\n\n".toList = true ∧ blockFallback 1 (.item 2) "a\nb".toList = true ∧
    autoBlock { foldedWrapCol := 4 } implFns "aa bb  cc ".toList = true ∧ blockFallback 2 .root "aa bb  cc ".toList = false := by
  decide +kernel
/-- `tagged_enums` at work (model output; identical to the implementation's): a unit variant is `!!Enum variant`
with the variant name written by the value rule (here quoted by `quote_all` / because it is a YAML 1.1 boolean
word), and the reader on it -/
example : emit { taggedEnums := true, quoteAll := true } implFns (SVal.struct [("k".toList, .seq [.unitVariant "En".toList "uv".toList]),
      ("m".toList, .unitVariant "En".toList "y".toList)]) = .ok "k:\n  - !!En 'uv'\nm: !!En 'y'\n".toList := by
  char_lits
  decide +kernel
example : emit { taggedEnums := true } implFns (.seq [.unitVariant "Axis".toList "x".toList, .unitVariant "Axis".toList "Y".toList]) =
    .ok "- !!Axis x\n- !!Axis \"Y\"\n".toList := by
  char_lits
  decide +kernel
example : readDoc "k:\n  - !!En 'uv'\nm: !!En 'y'\n".toList =
    some (erase (SVal.struct [("k".toList, .seq [.unitVariant "En".toList "uv".toList]),
      ("m".toList, .unitVariant "En".toList "y".toList)])) := by
  char_lits
  decide +kernel
example : inFragP (implPred { taggedEnums := true }) (.seq [.unitVariant "Axis".toList "x".toList, .unitVariant "Axis".toList "Y".toList,
    .newtypeVariant "Nv".toList (.unitVariant "My Enum".toList "a b".toList)]) = false := by decide +kernel
example : inFragP (implPred { taggedEnums := true }) (.seq [.unitVariant "Axis".toList "x".toList, .unitVariant "Axis".toList "Y".toList,
    .newtypeVariant "Nv".toList (.unitVariant "MyEnum".toList "a b".toList)]) = true := by decide +kernel
/-- the token functions of the safe class under `quote_all` -/
example : (safeToks { quoteAll := true }).str "ab".toList = "'ab'".toList ∧ (safeToks { quoteAll := true }).key "ab".toList = "ab".toList ∧
    (safeToks {}).str "ab".toList = "ab".toList := by decide +kernel
example : FragOpts ({ indentStep := 1, minFoldChars := 0, foldedWrapCol := 5, preferBlockScalars := false } : Opts) :=
  ⟨by decide, rfl⟩
/-- composite keys at work (model output; identical to the implementation's), default step and step 4 -/
example : emit {} implFns (.map true [(.seq [.int 1, .seq []], .seq [.int 2]),
      (SVal.struct [("x".toList, .int 1), ("z".toList, .int 2)], SVal.struct [("x".toList, .int 3)]),
      (.newtypeVariant "nv".toList (.seq [.int 1]), .tupleVariant "tv".toList [])]) =
    .ok "? - 1\n  - []\n: - 2\n? x: 1\n  z: 2\n: x: 3\n? nv:\n    - 1\n: tv: []\n".toList := by
  char_lits
  decide +kernel
example : emit { indentStep := 4 } implFns (.seq [.map true [(.seq [.int 1, .seq []], .seq [.int 2]),
      (SVal.struct [("x".toList, .int 1), ("z".toList, .int 2)], SVal.struct [("x".toList, .int 3)])]]) =
    .ok "- ? - 1\n    - []\n  : - 2\n  ? x: 1\n    z: 2\n  : x: 3\n".toList := by
  char_lits
  decide +kernel
example : FragOpts ({ indentStep := 3, compactListIndent := true } : Opts) := ⟨by decide, rfl⟩
/-- `compact_list_indent` at work (model output; identical to the implementation's) -/
example : emit { compactListIndent := true } implFns (SVal.struct [("a".toList, .seq [.int 1, SVal.struct [("b".toList, .seq [.int 2])]]),
      ("c".toList, .seq []), ("d".toList, .tupleVariant "tv".toList [.int 3])]) =
    .ok "a:\n- 1\n- b:\n  - 2\nc: []\nd:\n  tv:\n  - 3\n".toList := by
  char_lits
  decide +kernel
example : FragOpts ({ indentStep := 7 } : Opts) := ⟨by decide, rfl⟩
/-- the theorem at work for `indent_step = 3` and `1` (model output; identical to the implementation's) -/
example : emit { indentStep := 3 } implFns (SVal.struct [("k".toList, .seq [.int 1, .seq [.none, SVal.struct [("a".toList, .int 1), ("b".toList, .tupleVariant "tv".toList [.int 2])]]])]) =
    .ok "k:\n   - 1\n   - - null\n     - a: 1\n       b:\n          tv:\n             - 2\n".toList := by
  char_lits
  decide +kernel
example : emit { indentStep := 1 } implFns (SVal.struct [("k".toList, .seq [.int 1, .seq [.none, SVal.struct [("a".toList, .int 1), ("b".toList, .tupleVariant "tv".toList [.int 2])]]])]) =
    .ok "k:\n - 1\n - - null\n   - a: 1\n     b:\n      tv:\n       - 2\n".toList := by
  char_lits
  decide +kernel
/-- the safe-leaf contract is satisfiable: the crate's functions, made to accept the whole safe class (they
accept all of it except `infinity`, see `implFns_not_safeContract`) -/
def safeFns : ScalarFns :=
  { implFns with
    isPlainSafe := fun s => isSafeStr s || implFns.isPlainSafe s
    isPlainValueSafe := fun s y fl => isSafeStr s || implFns.isPlainValueSafe s y fl
    isUnsafePlainShape := fun s => !isSafeStr s && implFns.isUnsafePlainShape s }
example : SafeContract safeFns :=
  ⟨fun s h => by simp [safeFns, h], fun s y fl h => by simp [safeFns, h], fun s h => by simp [safeFns, h]⟩
/-- the contracts of the general theorems are satisfiable (by the crate's own functions, `impl_contracts`; by
any functions with the safe-leaf contract, `safe_write` / `safe_read`) on non-trivial values -/
example : ∃ (P : LeafPred) (T : Toks), WriteContract { quoteAll := true } implFns P T ∧ ReadContract P T 2 ∧
    inFragP P stringsValue = true :=
  ⟨_, _, (impl_contracts _ ⟨by decide, rfl⟩).1, (impl_contracts { quoteAll := true } ⟨by decide, rfl⟩).2, by decide +kernel⟩
example : WriteContract { taggedEnums := true } safeFns (safePred { taggedEnums := true }) (safeToks { taggedEnums := true }) ∧
    ReadContract (safePred { taggedEnums := true }) (safeToks { taggedEnums := true }) 2 ∧
    inFragP (safePred { taggedEnums := true }) sampleValue = true :=
  ⟨safe_write ⟨fun s h => by simp [safeFns, h], fun s y fl h => by simp [safeFns, h], fun s h => by simp [safeFns, h]⟩,
   safe_read _ _, by decide +kernel⟩
/-- the crate's scalar functions on sample safe strings -/
example : implFns.isPlainSafe "demo".toList = true ∧ implFns.isPlainValueSafe "demo".toList false true = true ∧
    implFns.isPlainValueSafe "x1".toList true false = true := by decide +kernel
/-- the model output for a small member of the fragment, and the reader on it -/
example : emit {} implFns (SVal.struct [("k".toList, .seq [.int 1, .seq [.none]])]) = .ok "k:\n  - 1\n  - - null\n".toList := by
  char_lits
  decide +kernel
example : readDoc "k:\n  - 1\n  - - null\n".toList = some (erase (SVal.struct [("k".toList, .seq [.int 1, .seq [.none]])])) := by
  char_lits
  decide +kernel

end SaphyrVerif.Emit
