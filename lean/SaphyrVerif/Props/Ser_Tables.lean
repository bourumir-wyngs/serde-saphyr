import SaphyrVerif.Gen.Tables
import SaphyrVerif.Spec.EmitReader
import SaphyrVerif.Lemmas.C12Quoted
/-!
Pins that tie the hand-written serializer model to the tables regenerated from the Rust source
(`Gen/Tables.lean`, written by `tools/extract_tables.py` on every run from `src/serializer_options.rs`,
`src/ser_quoting.rs`, `src/ser.rs`):

* the defaults of the model's `Opts` are `SerializerOptions::default()`;
* the first-byte indicator sets of `is_plain_safe` / `is_plain_value_safe` are the model's `startIndicators`
  (+ `,`) and the "alone or followed by a blank" set is `{-, ?}`, and both predicates use the same sets;
* `dqEscape` (one arm of `write_quoted`) IS a lookup in the regenerated table of named escapes, followed by
  the two generic `\xNN` / `\uNNNN` arms — for every character (`dqEscape_eq_table`);
* likewise `keyEscape` for `KeyScalarSink::serialize_str`.

A change of one of these tables in the source therefore breaks an obligation here (C12, C13, C20 list this
module) even when no generated case of the differential run happens to hit the changed entry.
-/
namespace SaphyrVerif.Props.Ser_Tables
open SaphyrVerif.SerScalar

/-- the model's default option vector is `SerializerOptions::default()` -/
theorem opts_default_pinned :
    ({} : Emit.Opts) =
      { indentStep := Gen.serOptDefault_indentStep, minFoldChars := Gen.serOptDefault_minFoldChars,
        foldedWrapCol := Gen.serOptDefault_foldedWrapChars, taggedEnums := Gen.serOptDefault_taggedEnums,
        emptyAsBraces := Gen.serOptDefault_emptyAsBraces, compactListIndent := Gen.serOptDefault_compactListIndent,
        preferBlockScalars := Gen.serOptDefault_preferBlockScalars, quoteAll := Gen.serOptDefault_quoteAll,
        yaml12 := Gen.serOptDefault_yaml12 } := by decide

/-- a valid default: `indent_step ≥ 1` (C13's standing hypothesis holds for the default options) -/
theorem default_indent_step_valid : 1 ≤ Gen.serOptDefault_indentStep := by decide

/-- the emitter model switches to an explicit key at the source's `MAX_IMPLICIT_KEY_CHARS`, and that threshold does
not exceed what the reference reader accepts as an implicit key (the direction the round trip needs) -/
theorem implicit_key_limit_pinned :
    Emit.maxImplicitKeyChars = Gen.serMaxImplicitKeyChars ∧ Gen.serMaxImplicitKeyChars ≤ Emit.maxImplicitKey := by decide

/-- both predicates use the same first-byte tables -/
theorem plain_predicates_share_tables :
    Gen.serPlainSafe_loneOrBlankIndicators = Gen.serPlainValueSafe_loneOrBlankIndicators ∧
    Gen.serPlainSafe_firstByteIndicators = Gen.serPlainValueSafe_firstByteIndicators := by decide

/-- the model's `headRejects` tables are the source's -/
theorem head_tables_pinned :
    Gen.serPlainSafe_loneOrBlankIndicators.map Char.ofNat = ['-', '?'] ∧
    Gen.serPlainSafe_firstByteIndicators.map Char.ofNat = ',' :: startIndicators := by decide

/-- what the properties need from the set itself: every YAML indicator that cannot start a plain scalar
(c-indicator minus `-`, `?`, `:` handled separately) is rejected as a first character -/
theorem indicators_cover_yaml_spec :
    ∀ c ∈ [',', '[', ']', '{', '}', '#', '&', '*', '!', '|', '>', '\'', '"', '%', '@', '`', ':'],
      c.toNat ∈ Gen.serPlainValueSafe_firstByteIndicators := by decide

/-- the generic arms of `write_quoted` after the named ones -/
def dqGeneric (c : Char) : List Char :=
  if c.toNat ≤ 0xFF && (isControl c || (0x7F ≤ c.toNat && c.toNat ≤ 0x9F)) then '\\' :: 'x' :: hex2 c.toNat
  else if c.toNat ≤ 0xFFFF && (isControl c || (0x7F ≤ c.toNat && c.toNat ≤ 0x9F)) then '\\' :: 'u' :: hex4 c.toNat
  else [c]

/-- the generic arms of the key sink after the named ones -/
def keyGeneric (c : Char) : List Char :=
  if isControl c then '\\' :: 'u' :: hex4 c.toNat else [c]

/-- (T) `dqEscape` is: look the character up in the regenerated table of named escapes of `write_quoted`;
if absent, the generic arms. For EVERY character. -/
theorem dqEscape_eq_table (c : Char) :
    dqEscape c = match Gen.serWriteQuotedEscapes.lookup c.toNat with
      | some t => t.map Char.ofNat
      | none => dqGeneric c := by
  by_cases hk : c.toNat ∈ Lemmas.C12.dqNamed
  · have hn : ∀ k ∈ Lemmas.C12.dqNamed, dqEscape (Char.ofNat k) =
        match Gen.serWriteQuotedEscapes.lookup (Char.ofNat k).toNat with
        | some t => t.map Char.ofNat
        | none => dqGeneric (Char.ofNat k) := by decide +kernel
    have := hn _ hk
    rwa [Char.ofNat_toNat] at this
  · have hkeys : ∀ p ∈ Gen.serWriteQuotedEscapes, p.1 ∈ Lemmas.C12.dqNamed := by decide
    have hl : Gen.serWriteQuotedEscapes.lookup c.toNat = none :=
      List.lookup_eq_none_iff.mpr fun p hp => bne_iff_ne.mpr fun e => hk (e ▸ hkeys p hp)
    rw [hl, Lemmas.C12.dqEscape_generic hk]
    rfl

/-- (T) same for the key sink. -/
theorem keyEscape_eq_table (c : Char) :
    keyEscape c = match Gen.serKeySinkEscapes.lookup c.toNat with
      | some t => t.map Char.ofNat
      | none => keyGeneric c := by
  by_cases hk : c.toNat ∈ Lemmas.C12.keyNamed
  · have hn : ∀ k ∈ Lemmas.C12.keyNamed, keyEscape (Char.ofNat k) =
        match Gen.serKeySinkEscapes.lookup (Char.ofNat k).toNat with
        | some t => t.map Char.ofNat
        | none => keyGeneric (Char.ofNat k) := by decide +kernel
    have := hn _ hk
    rwa [Char.ofNat_toNat] at this
  · have hkeys : ∀ p ∈ Gen.serKeySinkEscapes, p.1 ∈ Lemmas.C12.keyNamed := by decide
    have hl : Gen.serKeySinkEscapes.lookup c.toNat = none :=
      List.lookup_eq_none_iff.mpr fun p hp => bne_iff_ne.mpr fun e => hk (e ▸ hkeys p hp)
    rw [hl, Lemmas.C12.keyEscape_generic hk]
    rfl

/-- what C12 needs from the table itself: every named escape starts with a backslash and is 2 or 6
characters long (so the double-quoted reader can undo it), and backslash and quote are in the table -/
theorem named_escapes_wellformed :
    (∀ p ∈ Gen.serWriteQuotedEscapes, p.2.head? = some 92 ∧ (p.2.length = 2 ∨ p.2.length = 6)) ∧
    Gen.serWriteQuotedEscapes.lookup 92 = some [92, 92] ∧ Gen.serWriteQuotedEscapes.lookup 34 = some [92, 34] ∧
    (∀ p ∈ Gen.serKeySinkEscapes, p.2.head? = some 92 ∧ p.2.length = 2) ∧
    Gen.serKeySinkEscapes.lookup 92 = some [92, 92] ∧ Gen.serKeySinkEscapes.lookup 34 = some [92, 34] := by decide

/-- (E) non-vacuity: a character from each class -/
example : dqEscape 'a' = ['a'] ∧ dqEscape '\n' = ['\\', 'n'] ∧ dqEscape (Char.ofNat 0x7F) = "\\x7F".toList ∧
    dqEscape (Char.ofNat 0x200B) = [Char.ofNat 0x200B] := by decide

end SaphyrVerif.Props.Ser_Tables
