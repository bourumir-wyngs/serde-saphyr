import SaphyrVerif.Lemmas.C07_PerDoc
/-!
# C07 — budget limits are enforced exactly and the usage report is accurate

Theorems about the model of `BudgetEnforcer` (Model/Budget.lean) against the independent counts of
Spec/BudgetSpec.lean, for every stream of document trees (the parser contract: events are the
flattening of trees).  The hypothesis `length < 2^64` is physical (`usize` counters cannot overflow on
an input that fits in memory); it is what makes the saturating `depth + 1` exact.
-/
namespace SaphyrVerif.Props.C07
open SaphyrVerif.Budget SaphyrVerif.Spec
open SaphyrVerif.Lemmas.C07

/-- "On trees the enforcer never reports an unbalanced structure", with no bound on the input.  It does NOT
hold (`no_unbalanced_on_trees_Full_false`): the `usize` depth counter saturates on a sequence nested `2^64`
deep, and the last `SequenceEnd` then finds `depth == 0`.  The two versions that hold follow. -/
def no_unbalanced_on_trees_Full : Prop :=
  ∀ (lim : Limits) (pd : Bool) (ds : List Node) (i : Nat),
    run lim pd (flattenStream ds) ≠ .error (i, .unbalanced)

/-- The counterexample (it has `2^65 + 5` events, so it cannot be checked by evaluation; it is proved):
one document, a sequence nested `2^64` deep, with all limits at `2^70`. -/
theorem no_unbalanced_on_trees_counterexample :
    ∃ i, run bigLim false (flattenStream [nest (USIZE_MAX + 1)]) = .error (i, .unbalanced) :=
  counter_unbalanced USIZE_MAX rfl

theorem no_unbalanced_on_trees_Full_false : ¬ no_unbalanced_on_trees_Full := by
  intro h
  obtain ⟨i, hi⟩ := no_unbalanced_on_trees_counterexample
  exact h _ _ _ i hi

/-- (T) On trees that fit in memory (the physical hypothesis of the other theorems) the enforcer never
reports an unbalanced structure, under either policy. -/
theorem no_unbalanced_on_trees_partial (lim : Limits) (pd : Bool) (ds : List Node) (i : Nat)
    (hlen : (flattenStream ds).length < 2 ^ 64) :
    run lim pd (flattenStream ds) ≠ .error (i, .unbalanced) := by
  intro h
  have := unbalanced_wfAll_false (e := Enf.new lim pd) rfl (by simpa [Enf.new] using hlen) h
  have hw : wfAll pd [] (flattenStream ds) = true := congrArg (·.2.2) (G_stream pd ds)
  simp only [Enf.new] at this
  rw [hw] at this; cases this

/-- (T) The same without any bound on the input, for every configuration whose depth limit is below
`usize::MAX` (the breach `depth` fires before the counter can saturate). -/
theorem no_unbalanced_on_trees_partial_maxDepth (lim : Limits) (pd : Bool) (ds : List Node) (i : Nat)
    (hlim : lim.maxDepth < USIZE_MAX) :
    run lim pd (flattenStream ds) ≠ .error (i, .unbalanced) := by
  intro h
  have := unbalanced_wfAll_false' (e := Enf.new lim pd) hlim (depthInv_new lim pd) h
  have hw : wfAll pd [] (flattenStream ds) = true := congrArg (·.2.2) (G_stream pd ds)
  simp only [Enf.new] at this
  rw [hw] at this; cases this

/-- (T; `report_eq_counts` in the plan of DESIGN.md section 5) when the stream is accepted, the report handed to the callback equals the
independent count — including merge keys, which the enforcer tracks with its container-state stack
while the specification counts them on the tree. -/
theorem report_eq_usage (lim : Limits) (ds : List Node) (e : Enf)
    (hlen : (flattenStream ds).length < 2 ^ 64)
    (h : run lim false (flattenStream ds) = .ok e) :
    e.finalize.1 = usage ds := by
  obtain ⟨rfl, -⟩ := runFrom_ok h
  exact fresh_usage lim ds hlen

/-- (T; `observe_accepts_iff` in the plan of DESIGN.md section 5) the stream is accepted by `observe` ⇔ every counted quantity is within its
limit.  (Counters are monotone, so "every prefix" and "the whole stream" coincide.) -/
theorem accepts_iff (lim : Limits) (ds : List Node) (hlen : (flattenStream ds).length < 2 ^ 64) :
    (∃ e, run lim false (flattenStream ds) = .ok e) ↔ within lim (usage ds) = true := by
  rw [run_ok_iff lim _ hlen, ← within_finalize, fresh_lim, fresh_usage lim ds hlen]
  exact and_iff_left (congrArg (·.2.2) (G_stream false ds))

/-- (T) the ratio heuristic applied by `finalize` is the mathematical one (the product saturates
instead of overflowing, which cannot change the comparison). -/
theorem ratio_exact (lim : Limits) (ds : List Node) (e : Enf)
    (hlen : (flattenStream ds).length < 2 ^ 64)
    (h : run lim false (flattenStream ds) = .ok e) :
    (e.finalize.2 = none ↔ ratioOk lim (usage ds) = true) ∧
    (∀ b, e.finalize.2 = some b → b = .ratio (usage ds).aliases (usage ds).anchors) := by
  have hu := report_eq_usage lim ds e hlen h
  have hl : e.lim = lim := by
    obtain ⟨rfl, -⟩ := runFrom_ok h; exact fresh_lim _ _
  have hpd : e.perDocument = false := by
    obtain ⟨rfl, -⟩ := runFrom_ok h; exact nextAll_pd ..
  have ha : e.report.aliases ≤ USIZE_MAX := by
    have := nAliases_le_length (flattenStream ds)
    rw [show e.report.aliases = (usage ds).aliases by rw [← hu, finalize_fst]]; simp only [usage, USIZE_MAX]; omega
  rw [finalize_snd_ratioBreach e hpd, ratioBreach_eq e ha, hu, hl]
  cases ratioOk lim (usage ds) <;> simp

/-- limits set exactly to the measured usage -/
def limitsOf (r : Report) (lim : Limits) : Limits :=
  { lim with maxEvents := r.events, maxAliases := r.aliases, maxAnchors := r.anchors, maxDepth := r.maxDepth,
             maxDocuments := r.documents, maxNodes := r.nodes, maxTotalScalarBytes := r.totalScalarBytes,
             maxMergeKeys := r.mergeKeys }

/-- (T; upper half of `threshold_exact` in the plan of DESIGN.md section 5) limit = measured usage accepts -/
theorem exact_limits_accept (lim : Limits) (ds : List Node) (hlen : (flattenStream ds).length < 2 ^ 64) :
    ∃ e, run (limitsOf (usage ds) lim) false (flattenStream ds) = .ok e := by
  rw [accepts_iff _ ds hlen, within_iff]
  simp [limitsOf]

/-- (T; lower half of `threshold_exact`) any limit below the measured usage rejects, with some breach at some index
(which breach: `first_breach_kind`) -/
theorem below_usage_rejects (lim : Limits) (ds : List Node) (hlen : (flattenStream ds).length < 2 ^ 64)
    (h : within lim (usage ds) = false) :
    ∃ i b, run lim false (flattenStream ds) = .error (i, b) := by
  cases hr : run lim false (flattenStream ds) with
  | ok e =>
    have := (accepts_iff lim ds hlen).1 ⟨e, hr⟩
    rw [h] at this; cases this
  | error p => exact ⟨p.1, p.2, rfl⟩

/-- (T) first_breach_kind: everything before the offending event was accepted, and the breach names a counter
that is over its limit after that event.  For events, nodes, aliases, anchors, documents and scalar bytes the
value it carries is the independent count of the events up to and including the offending one; for depth and
merge keys only "over the limit" is stated; the ratio breach does not occur under the whole-input policy. -/
theorem first_breach_kind (lim : Limits) (evs : List Raw) (i : Nat) (b : Breach)
    (h : run lim false evs = .error (i, b)) :
    (∃ e, run lim false (evs.take i) = .ok e) ∧ i < evs.length ∧
    match b with
    | .events n => n = i + 1 ∧ n > lim.maxEvents
    | .nodes n => n = nNodes (evs.take (i + 1)) ∧ n > lim.maxNodes
    | .aliases n => n = nAliases (evs.take (i + 1)) ∧ n > lim.maxAliases
    | .anchors n => n = nAnchors (evs.take (i + 1)) ∧ n > lim.maxAnchors
    | .documents n => n = nDocuments (evs.take (i + 1)) ∧ n > lim.maxDocuments
    | .scalarBytes n => n = min (scalarBytes (evs.take (i + 1))) USIZE_MAX ∧ n > lim.maxTotalScalarBytes
    | .depth n => n > lim.maxDepth
    | .mergeKeys n => n > lim.maxMergeKeys
    | .ratio _ _ => False
    | .unbalanced => True := by
  unfold run at h ⊢
  obtain ⟨pre, ev, post, rfl, rfl, hok, herr⟩ := runFrom_err h
  have hb := observe_err herr
  rw [pro_of_not_pd ev (by simp [Enf.new])] at hb
  have ht : (pre ++ ev :: post).take (0 + pre.length) = pre := by simp
  have ht1 : (pre ++ ev :: post).take (0 + pre.length + 1) = pre ++ [ev] := by
    rw [show pre ++ ev :: post = (pre ++ [ev]) ++ post by simp]; exact List.take_left' (by simp)
  -- the value a breach carries is a counter of the counted successor, which is the check-free run over the events
  -- up to and including the offending one
  have hS : counted (nextAll (Enf.new lim false) pre) ev = nextAll (Enf.new lim false) (pre ++ [ev]) := by
    rw [nextAll_append]; exact (next_counted (countedEv_of_not_pd (nextAll_pd ..) ev)).symm
  refine ⟨⟨_, by rw [ht]; exact hok⟩, by simp, ?_⟩
  rw [ht1]
  cases b <;> simp only [BreachSpec, fresh_lim, hS] at hb ⊢
  case events n => rw [(fresh_counts lim _).1] at hb; simpa using hb
  case nodes n => rw [(fresh_counts lim _).2.1] at hb; exact hb.2
  case aliases n => rw [(fresh_counts lim _).2.2.1] at hb; exact hb.2
  case documents n => rw [(fresh_counts lim _).2.2.2.1] at hb; exact hb.2.2
  case anchors n => rw [(fresh_counts lim _).2.2.2.2.1] at hb; rw [nAnchors_eq]; exact hb
  case scalarBytes n => rw [(fresh_counts lim _).2.2.2.2.2] at hb; exact hb
  case depth n => exact hb.2.2
  case mergeKeys n => exact hb.2.2
  case ratio a n => simp [Enf.new] at hb

/-! ## per-document policy (`EnforcingPolicy::PerDocument`, the `read*` iterators)

A document is charged from its own `DocumentStart` through its `DocumentEnd`: `observe` forgets the previous
document BEFORE it counts a `DocumentStart`, and does not count `StreamStart` / `StreamEnd`.  (Before the
repair the `DocumentStart` of the NEXT document was counted and limit-checked against the counters of the
document already read, and `StreamEnd` was charged to the last document: see the regression examples and
`observeOld` below.) -/

def perDocAccepts (lim : Limits) (ds : List Node) : Bool :=
  match run lim true (flattenStream ds) with
  | .ok _ => true
  | .error _ => false

theorem perDocAccepts_eq (lim : Limits) (ds : List Node) :
    perDocAccepts lim ds = acc (run lim true (flattenStream ds)) := by
  unfold perDocAccepts acc; rfl

theorem perDocAccepts_single (lim : Limits) (d : Node) : perDocAccepts lim [d] = acc (docRun lim d) := by
  rw [perDocAccepts_eq, perDoc_single, acc_shiftErr]

/-- everything the enforcer sees before a document that is preceded by the documents `pre` -/
def beforeDoc (pre : List Node) : List Raw := .streamStart :: flattenDocs pre

/-- (T) perdoc_independent: under per-document enforcement a stream is accepted exactly when each of
its documents is accepted as a stream of its own — the documents already read never matter.
For ALL streams (the old code needed `ds ≠ []` and satisfied it only because a one-document stream was charged
the same two framing events as the first document of a longer one). -/
theorem perdoc_independent (lim : Limits) (ds : List Node) :
    perDocAccepts lim ds = ds.all (fun d => perDocAccepts lim [d]) := by
  simp only [perDocAccepts_single]
  rw [perDocAccepts_eq, perDoc_run_eq, acc_perDocSpec]

/-- (T) the per-document enforcer state right after a DocumentStart does not depend on the history: everything is
reset, and the DocumentStart itself is the one event charged so far. -/
theorem perdoc_state_reset (e e' : Enf) (x : Bool) (hpd : e.perDocument = true)
    (h : e.observe (.docStart x) = .ok e') :
    e'.report = { events := 1, documents := e.report.documents } ∧ e'.defined = [] ∧ e'.depth = 0 ∧
      e'.containers = [] := by
  obtain ⟨rfl, -⟩ := observe_ok h
  rw [next_docStart_pd hpd]
  exact ⟨rfl, rfl, rfl, rfl⟩

/-- (T) perdoc_position_independent, event level, at full generality: under the per-document policy the run over ANY
event list that begins with a `DocumentStart` (a document, or a document and everything after it) is the same —
final state (report, defined anchors, depth, containers) and every breach with its index — from any two enforcer
states with the same limits and documents counter.  The states are arbitrary: whatever was counted before, whatever
anchors / depth / containers an earlier (also an abandoned, half-read) document left behind, is irrelevant. -/
theorem perdoc_position_independent_raw (e e' : Enf) (hpd : e.perDocument = true) (hpd' : e'.perDocument = true)
    (hl : e.lim = e'.lim) (hdoc : e.report.documents = e'.report.documents) (x : Bool) (evs : List Raw) (i : Nat) :
    runFrom e i (.docStart x :: evs) = runFrom e' i (.docStart x :: evs) :=
  runFrom_docStart_pd hpd hpd' hl hdoc x evs i

/-- (T) perdoc_position_independent: in a stream `pre ++ [d] ++ post` the run over `d`'s events
(`DocumentStart … DocumentEnd`) from the state `e` reached after `pre` EQUALS the run from the fresh state: the same
enforcer state at `d`'s `DocumentEnd` (report, defined anchors, depth, containers — the whole `Enf`) and the same
breach at the same event.  (`post` cannot occur in the statement: the run over `d` is over before `post` is seen;
that nothing in `post` is charged to `d` is `perdoc_stream_decomp` / `perdoc_followers_independent` /
`perdoc_breach_in_doc`.) -/
theorem perdoc_position_independent (lim : Limits) (pre : List Node) (d : Node) (e : Enf) (k : Nat)
    (hpre : run lim true (beforeDoc pre) = .ok e) :
    runFrom e k (flattenDoc d) = runFrom (Enf.new lim true) k (flattenDoc d) :=
  have hs : PdState lim e := pdState_run (pdState_new lim) hpre
  runFrom_docStart_pd hs.1 rfl hs.2.1 hs.2.2 _ _ _

/-- (T) the whole stream, decomposed at a document: once the documents before `d` are accepted, what happens from `d`
on does not depend on the state they left (`.ok _`); `d` is run from the fresh state; and what follows `d` is run
from the state `d` ended in — which `perdoc_followers_independent` shows to be irrelevant as well. -/
theorem perdoc_stream_decomp (lim : Limits) (pre : List Node) (d : Node) (post : List Node) :
    run lim true (flattenStream (pre ++ d :: post)) =
      match run lim true (beforeDoc pre) with
      | .error x => .error x
      | .ok _ =>
        match runFrom (Enf.new lim true) (beforeDoc pre).length (flattenDoc d) with
        | .error x => .error x
        | .ok e1 =>
          runFrom e1 ((beforeDoc pre).length + (flattenDoc d).length) (flattenDocs post ++ [.streamEnd]) := by
  rw [perDoc_run_split lim pre d post (before := beforeDoc pre) rfl, runFrom_flattenDoc_pd (pdState_new lim)]
  cases run lim true (beforeDoc pre) with
  | error x => rfl
  | ok e => cases docRun lim d <;> rfl

/-- (T) nothing that FOLLOWS a document is charged to it, part 1: `StreamEnd` is not observed — the state at the
last `DocumentEnd` is the final state, and no breach can be raised there. -/
theorem perdoc_streamEnd_free (e : Enf) (k : Nat) (hpd : e.perDocument = true) :
    runFrom e k [.streamEnd] = .ok e := by
  simp only [runFrom, observe_frame_pd hpd (ev := .streamEnd) rfl]

/-- (T) nothing that FOLLOWS a document is charged to it, part 2: the run over the following documents (beginning
with the `DocumentStart` of the next one — the event the old code charged to the document already read) is the
same from the state `d` ended in as from the fresh state. -/
theorem perdoc_followers_independent (lim : Limits) (e1 : Enf) (k : Nat) (d2 : Node) (post : List Node)
    (hpd : e1.perDocument = true) (hl : e1.lim = lim) (hdoc : e1.report.documents = 0) :
    runFrom e1 k (flattenDocs (d2 :: post) ++ [.streamEnd]) =
      runFrom (Enf.new lim true) k (flattenDocs (d2 :: post) ++ [.streamEnd]) := by
  simp only [flattenDocs, flattenDoc, List.cons_append]
  exact runFrom_docStart_pd hpd rfl hl hdoc _ _ _

/-- (T) every breach raised inside a document is that document's own: if the stream `pre ++ [d] ++ post` is rejected
at an event of `d` (index within `d`'s `DocumentStart … DocumentEnd`), then `d` read on its own from the fresh
state is rejected at the same event with the same breach. -/
theorem perdoc_breach_in_doc (lim : Limits) (pre : List Node) (d : Node) (post : List Node) (j : Nat) (b : Breach)
    (h : run lim true (flattenStream (pre ++ d :: post)) = .error ((beforeDoc pre).length + j, b))
    (hj : j < (flattenDoc d).length) :
    runFrom (Enf.new lim true) 0 (flattenDoc d) = .error (j, b) := by
  rw [perDoc_run_split lim pre d post (before := beforeDoc pre) rfl] at h
  split at h
  · rename_i x hx
    cases h
    have := (runFrom_err_index hx).2
    omega
  · split at h
    · rename_i i b' hd
      injection h with h; injection h with h1 h2
      rw [show j = i from (Nat.add_left_cancel h1).symm, ← h2]
      exact hd
    · have := (runFrom_err_index h).1
      omega

theorem prefix_ok_of_accepts {lim : Limits} {pre : List Node} (hpre : perDocAccepts lim pre = true) :
    ∃ e, run lim true (beforeDoc pre) = .ok e := by
  unfold perDocAccepts at hpre
  rw [perDoc_run_eq] at hpre
  unfold beforeDoc
  rw [perDoc_prefix_eq]
  cases h0 : perDocSpec lim 1 (Enf.new lim true) pre with
  | ok e => exact ⟨e, rfl⟩
  | error p => rw [h0] at hpre; cases hpre

/-- (T) … and conversely: when the documents before `d` are accepted, a breach of `d` on its own surfaces in the
stream at the same event of `d`, whatever follows. -/
theorem perdoc_doc_breach_surfaces (lim : Limits) (pre : List Node) (d : Node) (post : List Node) (j : Nat) (b : Breach)
    (hpre : perDocAccepts lim pre = true)
    (h : runFrom (Enf.new lim true) 0 (flattenDoc d) = .error (j, b)) :
    run lim true (flattenStream (pre ++ d :: post)) = .error ((beforeDoc pre).length + j, b) := by
  obtain ⟨e, he⟩ := prefix_ok_of_accepts hpre
  rw [perDoc_run_split lim pre d post (before := beforeDoc pre) rfl, he, show docRun lim d = .error (j, b) from h]

/-- the usage charged to document `d` when it is read after the documents `pre`: the report (`finalize` /
`into_report`) taken at its `DocumentEnd`; `none` if the run is rejected before -/
def chargedTo (lim : Limits) (pre : List Node) (d : Node) : Option Report :=
  okReport (run lim true (beforeDoc pre ++ flattenDoc d))

/-- the usage report of the one-document stream `[d]` (`StreamStart`, `d`, `StreamEnd`) -/
def usageOfSingle (lim : Limits) (d : Node) : Option Report :=
  okReport (run lim true (flattenStream [d]))

/-- (T) perdoc_usage_eq_single, states: the enforcer state at `d`'s `DocumentEnd` after ANY accepted documents `pre`
is the final state of the one-document stream `[d]` — and so is the final state of a stream that ends with `d`. -/
theorem perdoc_state_eq_single (lim : Limits) (pre : List Node) (d : Node) (hpre : perDocAccepts lim pre = true) :
    run lim true (beforeDoc pre ++ flattenDoc d) = shiftErr (beforeDoc pre).length (docRun lim d) ∧
    run lim true (flattenStream (pre ++ [d])) = shiftErr (beforeDoc pre).length (docRun lim d) ∧
    run lim true (flattenStream [d]) = shiftErr 1 (docRun lim d) := by
  obtain ⟨e, he⟩ := prefix_ok_of_accepts hpre
  have hs : PdState lim e := pdState_run (pdState_new lim) he
  have h1 : run lim true (beforeDoc pre ++ flattenDoc d) = shiftErr (beforeDoc pre).length (docRun lim d) := by
    unfold run at he ⊢
    rw [runFrom_append, he]
    simp only [Nat.zero_add]
    exact runFrom_flattenDoc_pd hs _ d
  refine ⟨h1, ?_, perDoc_single lim d⟩
  rw [perDoc_run_split lim pre d [] (before := beforeDoc pre) rfl, he]
  cases h0 : docRun lim d with
  | error p => rfl
  | ok e1 => exact perdoc_streamEnd_free e1 _ (pdState_run (pdState_new lim) h0).1

/-- (T) perdoc_usage_eq_single: the usage charged to `d` — events, aliases, anchors, nodes, depth, scalar bytes, merge
keys — is the usage of the one-document stream `[d]`, whatever accepted documents were read before it.
First position is `pre = []`, a middle position is any `pre` with something following (what follows is not part of
`chargedTo`: see `perdoc_followers_independent`), the last position is `perdoc_usage_last`. -/
theorem perdoc_usage_eq_single (lim : Limits) (pre : List Node) (d : Node) (hpre : perDocAccepts lim pre = true) :
    chargedTo lim pre d = usageOfSingle lim d := by
  obtain ⟨h1, -, h3⟩ := perdoc_state_eq_single lim pre d hpre
  unfold chargedTo usageOfSingle
  rw [h1, h3, okReport_shiftErr, okReport_shiftErr]

/-- (T) perdoc_usage_eq_single, last position: the report `finalize` returns at the end of a stream is the usage of
its LAST document on its own (`StreamEnd` is charged to nobody). -/
theorem perdoc_usage_last (lim : Limits) (pre : List Node) (d : Node) (hpre : perDocAccepts lim pre = true) :
    okReport (run lim true (flattenStream (pre ++ [d]))) = usageOfSingle lim d := by
  obtain ⟨-, h2, h3⟩ := perdoc_state_eq_single lim pre d hpre
  unfold usageOfSingle
  rw [h2, h3, okReport_shiftErr, okReport_shiftErr]

/-- (T) the usage charged to a document is the independent count of ITS OWN events (`DocumentStart … DocumentEnd`,
Spec `usageDoc`): when document `d` is accepted from the fresh per-document state, the report equals `usageDoc d`.
With `perdoc_usage_eq_single` / `perdoc_usage_last`: the same numbers at the first, a middle and the last position. -/
theorem perdoc_report_eq_usageDoc (lim : Limits) (d : Node) (e : Enf)
    (hlen : (flattenDoc d).length < 2 ^ 64)
    (h : runFrom (Enf.new lim true) 0 (flattenDoc d) = .ok e) :
    e.finalize.1 = usageDoc d := by
  have h' : docRun lim d = .ok e := h
  rcases docRun_cases lim d hlen with ⟨e', he, -, -, hu⟩ | ⟨j, b, he, -⟩ | ⟨he, -⟩ <;> rw [h'] at he <;> cases he
  exact hu

/-! ### the alias/anchor ratio is a per-document quantity

Under the per-document policy the ratio heuristic is judged by `observe` at every `DocumentEnd`, on the counters of the
document that ends there; `finalize` is silent.  (Before this repair only `finalize` judged it, at the end of the
stream, on the counters of the LAST document: `a: &x 1` / `b: [*x, *x, *x]` with `min_aliases = 1`, `multiplier = 1`
passed as a non-last document and was rejected as the last one or alone.) -/

/-- (T) a document accepted from the fresh per-document state: every count within its limit, the ratio check silent,
the report is the independent count -/
theorem perdoc_ok_spec (lim : Limits) (d : Node) (e : Enf) (hlen : (flattenDoc d).length < 2 ^ 64)
    (h : docRun lim d = .ok e) :
    within lim (usageDoc d) = true ∧ ratioOk lim (usageDoc d) = true ∧ e.finalize.1 = usageDoc d := by
  rcases docRun_cases lim d hlen with ⟨e', he, hw, hr, hu⟩ | ⟨j, b, he, -⟩ | ⟨he, -⟩ <;> rw [h] at he <;> cases he
  exact ⟨hw, hr, hu⟩

/-- (T) within the limits the only breach a document can raise is the ratio breach -/
theorem perdoc_no_other_breach (lim : Limits) (d : Node) (hlen : (flattenDoc d).length < 2 ^ 64)
    (hwi : within lim (usageDoc d) = true) (j : Nat) (b : Breach) (h : docRun lim d = .error (j, b)) :
    ∃ a n, b = .ratio a n := by
  rcases docRun_cases lim d hlen with ⟨e', he, -⟩ | ⟨j', b', he, -, hw⟩ | ⟨he, -⟩ <;> rw [h] at he <;> cases he
  · rw [hwi] at hw; cases hw
  · exact ⟨_, _, rfl⟩

/-- (T) a ratio breach is raised at the document's own `DocumentEnd` (its last event), after every count — this event
included — passed its limit, carries the alias and anchor counts of the document, and means that the Spec ratio check
fails on them -/
theorem perdoc_ratio_breach_spec (lim : Limits) (d : Node) (hlen : (flattenDoc d).length < 2 ^ 64) (j a n : Nat)
    (h : docRun lim d = .error (j, .ratio a n)) :
    j = (flattenDoc d).length - 1 ∧ a = (usageDoc d).aliases ∧ n = (usageDoc d).anchors ∧
      within lim (usageDoc d) = true ∧ ratioOk lim (usageDoc d) = false := by
  rcases docRun_cases lim d hlen with ⟨e', he, -⟩ | ⟨j', b', he, hn, -⟩ | ⟨he, hw, hr⟩ <;> rw [h] at he <;> cases he
  · exact absurd rfl (hn a n)
  · exact ⟨rfl, rfl, rfl, hw, hr⟩

/-- (T) per-document `accepts_iff`, ratio included: a document is accepted under the per-document policy ⇔ every count of
its own events is within its limit AND the alias/anchor ratio check passes on its own alias and anchor counts
(`max_documents` plays no role: the documents counter stays 0). -/
theorem perdoc_accepts_iff (lim : Limits) (d : Node) (hlen : (flattenDoc d).length < 2 ^ 64) :
    perDocAccepts lim [d] = true ↔ (within lim (usageDoc d) = true ∧ ratioOk lim (usageDoc d) = true) := by
  rw [perDocAccepts_single]
  rcases docRun_cases lim d hlen with ⟨e, he, hw, hr, -⟩ | ⟨j, b, he, -, hw⟩ | ⟨he, hw, hr⟩ <;> rw [he]
  · simp [acc, hw, hr]
  · simp [acc, hw]
  · simp [acc, hw, hr]

/-- (T) ratio_exact, per document: the document read on its own raises the ratio breach — at its own `DocumentEnd`, with its
own alias and anchor counts — exactly when its counts are within the limits and the Spec ratio check fails on them. -/
theorem perdoc_ratio_exact (lim : Limits) (d : Node) (hlen : (flattenDoc d).length < 2 ^ 64) (j a n : Nat) :
    runFrom (Enf.new lim true) 0 (flattenDoc d) = .error (j, .ratio a n) ↔
      (j = (flattenDoc d).length - 1 ∧ a = (usageDoc d).aliases ∧ n = (usageDoc d).anchors ∧
        within lim (usageDoc d) = true ∧ ratioOk lim (usageDoc d) = false) := by
  refine ⟨perdoc_ratio_breach_spec lim d hlen j a n, ?_⟩
  rintro ⟨rfl, rfl, rfl, hwi, hro⟩
  rcases docRun_cases lim d hlen with ⟨e, -, -, hr, -⟩ | ⟨j, b, -, -, hw⟩ | ⟨he, -⟩
  · rw [hro] at hr; cases hr
  · rw [hwi] at hw; cases hw
  · exact he

/-- (T) perdoc_ratio_position_independent: in a stream `pre ++ [d] ++ post` whose documents before `d` are accepted, the
ratio breach is raised at `d`'s own `DocumentEnd` ⇔ the one-document stream `[d]` raises it at its `DocumentEnd` ⇔ the
Spec verdict on `d`'s own counts — whatever precedes, whatever follows.  (Index of `d`'s `DocumentEnd`: everything before
`d` plus `d`'s events but one.) -/
theorem perdoc_ratio_position_independent (lim : Limits) (pre : List Node) (d : Node) (post : List Node) (a n : Nat)
    (hlen : (flattenDoc d).length < 2 ^ 64) (hpre : perDocAccepts lim pre = true) :
    (run lim true (flattenStream (pre ++ d :: post)) =
        .error ((beforeDoc pre).length + ((flattenDoc d).length - 1), .ratio a n) ↔
      run lim true (flattenStream [d]) = .error (1 + ((flattenDoc d).length - 1), .ratio a n)) ∧
    (run lim true (flattenStream [d]) = .error (1 + ((flattenDoc d).length - 1), .ratio a n) ↔
      (a = (usageDoc d).aliases ∧ n = (usageDoc d).anchors ∧
        within lim (usageDoc d) = true ∧ ratioOk lim (usageDoc d) = false)) := by
  have hpos : 0 < (flattenDoc d).length := by rw [flattenDoc_eq]; simp
  have hsingle : run lim true (flattenStream [d]) = .error (1 + ((flattenDoc d).length - 1), .ratio a n) ↔
      docRun lim d = .error ((flattenDoc d).length - 1, .ratio a n) := by
    rw [perDoc_single]
    cases h : docRun lim d with
    | ok e => simp [shiftErr]
    | error p =>
      obtain ⟨j, b⟩ := p
      simp only [shiftErr, Except.error.injEq, Prod.mk.injEq]
      constructor
      · rintro ⟨h1, h2⟩; exact ⟨by omega, h2⟩
      · rintro ⟨h1, h2⟩; exact ⟨by omega, h2⟩
  refine ⟨?_, ?_⟩
  · rw [hsingle]
    constructor
    · intro h
      exact perdoc_breach_in_doc lim pre d post _ _ h (by omega)
    · intro h
      exact perdoc_doc_breach_surfaces lim pre d post _ _ hpre h
  · rw [hsingle]
    have := perdoc_ratio_exact lim d hlen ((flattenDoc d).length - 1) a n
    constructor
    · intro h
      exact (this.1 h).2
    · intro h
      exact this.2 ⟨rfl, h⟩

/-- (T) under the per-document policy `finalize` never reports a breach: the ratio of every document was judged at its
`DocumentEnd` (and the counters left at the end of a stream may belong to a document that was abandoned half-way) -/
theorem perdoc_finalize_silent (e : Enf) (hpd : e.perDocument = true) : e.finalize.2 = none :=
  finalize_snd_pd e hpd

/-- the complete verdict on a stream under the per-document policy: `observe` accepts every event AND `finalize` reports
nothing -/
def perDocAcceptsFull (lim : Limits) (ds : List Node) : Bool :=
  match run lim true (flattenStream ds) with
  | .ok e => e.finalize.2.isNone
  | .error _ => false

/-- (T) perdoc_independent, ratio included: the complete verdict (all counters, the ratio heuristic, `finalize`) on a
stream is the conjunction of the complete verdicts on its documents, each as a stream of its own. -/
theorem perdoc_independent_full (lim : Limits) (ds : List Node) :
    perDocAcceptsFull lim ds = ds.all (fun d => perDocAcceptsFull lim [d]) := by
  have hfull : ∀ ds, perDocAcceptsFull lim ds = perDocAccepts lim ds := by
    intro ds
    unfold perDocAcceptsFull perDocAccepts
    cases h : run lim true (flattenStream ds) with
    | error p => rfl
    | ok e =>
      have hpd : e.perDocument = true := by
        obtain ⟨rfl, -⟩ := runFrom_ok h; rw [nextAll_pd]; rfl
      simp only [finalize_snd_pd e hpd]; rfl
  simp only [hfull]
  exact perdoc_independent lim ds

-- a concrete document: the hypotheses above are satisfiable, and the thresholds are exact on it
def demoLim : Limits :=
  { maxEvents := 100, maxAliases := 10, maxAnchors := 10, maxDepth := 10, maxDocuments := 10, maxNodes := 100,
    maxTotalScalarBytes := 1000, maxMergeKeys := 10, enforceRatio := true, minAliases := 100, multiplier := 10 }

/-- `{<<: *a, k: [&a x, *a]}` -/
def demoDoc : Node :=
  .map 0 none [(.scalar ['<', '<'] .plain 0 none, .alias 1),
               (.scalar ['k'] .plain 0 none, .seq 0 none [.scalar ['x'] .plain 1 none, .alias 1])]

example : (usage [demoDoc]).mergeKeys = 1 ∧ (usage [demoDoc]).maxDepth = 2 ∧ (usage [demoDoc]).events = 13 := by decide +kernel
example : ∃ e, run demoLim false (flattenStream [demoDoc]) = .ok e := ⟨_, rfl⟩
example : run { demoLim with maxDepth := 1 } false (flattenStream [demoDoc]) = .error (6, .depth 2) := by rfl
example : run { demoLim with maxMergeKeys := 0 } false (flattenStream [demoDoc]) = .error (3, .mergeKeys 1) := by rfl
example : perDocAccepts { demoLim with maxAnchors := 1 } [demoDoc, demoDoc, demoDoc] = true := by decide +kernel

/-! ### regression: the witness of the repaired defect — the stream `[a]` / `b` / `c` with `max_events = 4`

Before the repair `observe` charged 4 events to `[a]` (its `DocumentStart` was reset away, `StreamStart` too), accepted
it, and then counted the `DocumentStart` of `b` as event 5 of `[a]`: the iterator yielded `[Ok, Err(Events{5})]` —
document 2 (three events of its own) was rejected because of document 1.
Now every document is charged exactly its own events: `[a]` has 5 (`DocumentStart`, `SequenceStart`, scalar,
`SequenceEnd`, `DocumentEnd`) and is over `max_events = 4` ITSELF, at its own `DocumentEnd`; `b` and `c` have 3 and are
accepted wherever they stand. -/

/-- `[a]` -/
def regA : Node := .seq 0 none [.scalar ['a'] .plain 0 none]
/-- `b` -/
def regB : Node := .scalar ['b'] .plain 0 none
/-- `c` -/
def regC : Node := .scalar ['c'] .plain 0 none
def lim4 : Limits := { demoLim with maxEvents := 4 }
def lim5 : Limits := { demoLim with maxEvents := 5 }

/-- each document on its own under `max_events = 4`: `[Err(Events{5}), Ok, Ok]` -/
example : [regA, regB, regC].map (fun d => perDocAccepts lim4 [d]) = [false, true, true] := by decide +kernel
/-- the breach of `[a]` is its own: raised at its own `DocumentEnd` (index 4 of the document), `events 5` -/
example : runFrom (Enf.new lim4 true) 0 (flattenDoc regA) = .error (4, .events 5) := by rfl
/-- the enforcer run over the whole witness stops in document 1, at ITS `DocumentEnd` (event index 5 of the stream),
no longer at the `DocumentStart` of document 2 (index 6) -/
example : run lim4 true (flattenStream [regA, regB, regC]) = .error (5, .events 5) := by rfl
/-- `b` and `c` are accepted behind any accepted documents, e.g. behind each other (the old code rejected the second
of two three-event documents under `max_events = 3`: 1 + 3 framing-shifted events) -/
example : perDocAccepts { demoLim with maxEvents := 3 } [regB, regC, regB, regC] = true := by decide +kernel
/-- with `max_events = 5` (the true size of `[a]`) all three are accepted, in every order -/
example : perDocAccepts lim5 [regA, regB, regC] = true ∧ perDocAccepts lim5 [regC, regB, regA] = true ∧
    perDocAccepts lim5 [regB, regA, regC] = true := by decide +kernel
/-- identical documents are charged identically at the first, a middle and the last position: `[a]` is 5 events,
1 + 1 nodes, depth 1, one scalar byte — `perdoc_usage_eq_single` / `perdoc_usage_last` on an instance
(the old code said 4 events at the first and middle position and 5 at the last) -/
example :
    chargedTo lim5 [] regA = some (usageDoc regA) ∧ chargedTo lim5 [regB] regA = some (usageDoc regA) ∧
    chargedTo lim5 [regB, regA, regC] regA = some (usageDoc regA) ∧
    okReport (run lim5 true (flattenStream [regB, regC, regA])) = some (usageDoc regA) ∧
    usageOfSingle lim5 regA = some (usageDoc regA) ∧
    usageDoc regA = { events := 5, nodes := 2, maxDepth := 1, totalScalarBytes := 1 } := by decide +kernel
/-- exact threshold per document: `max_events` = its own event count accepts, one less rejects (`perdoc_accepts_iff`) -/
example : within lim5 (usageDoc regA) = true ∧ within lim4 (usageDoc regA) = false := by decide +kernel

/-- FOR THE RECORD ONLY — `observe` as it was before the repair (not part of the model): every event was counted and
limit-checked first, and only then did a `DocumentStart` reset the per-document state. -/
def observeOld (e : Enf) (ev : Raw) : Except Breach Enf :=
  match e.observeCounted ev with
  | .error b => .error b
  | .ok e1 =>
    match ev with
    | .docStart _ => .ok e1.beginDocument
    | _ => .ok e1

def runFromOld (e : Enf) (i : Nat) : List Raw → Except (Nat × Breach) Enf
  | [] => .ok e
  | ev :: rest =>
    match observeOld e ev with
    | .error b => .error (i, b)
    | .ok e' => runFromOld e' (i + 1) rest

/-- the old code on the witness: document 1 (`[a]`, indices 1–5) passes, the breach is raised at index 6 — the
`DocumentStart` of document 2 — with the count of document 1 (`events 5`); and the same document `b` was accepted
in first position but rejected behind `[a]`: position dependence, now excluded by `perdoc_position_independent`. -/
example : runFromOld (Enf.new lim4 true) 0 (flattenStream [regA, regB, regC]) = .error (6, .events 5) := by rfl
example :
    (∃ e, runFromOld (Enf.new lim4 true) 0 (beforeDoc [] ++ flattenDoc regB) = .ok e) ∧
    runFromOld (Enf.new lim4 true) 0 (beforeDoc [regA] ++ flattenDoc regB) = .error (6, .events 5) ∧
    (∃ e, run lim4 true (beforeDoc [] ++ flattenDoc regB) = .ok e) ∧
    (∃ e, run lim5 true (beforeDoc [regA] ++ flattenDoc regB) = .ok e ∧ e.report.events = 3) :=
  ⟨⟨_, rfl⟩, rfl, ⟨_, rfl⟩, ⟨_, rfl, rfl⟩⟩
/-- the old code charged `StreamEnd` to the last document: `[a]` in last position was rejected at the `StreamEnd`
(index 9), and the same document was charged 4 events at its `DocumentEnd` when something followed but 5 when it was
the last one -/
example : runFromOld (Enf.new lim4 true) 0 (flattenStream [regB, regA]) = .error (9, .events 5) := by rfl
example :
    (∃ e, runFromOld (Enf.new lim5 true) 0 (beforeDoc [regA]) = .ok e ∧ e.report.events = 4) ∧
    (∃ e, runFromOld (Enf.new lim5 true) 0 (flattenStream [regA]) = .ok e ∧ e.report.events = 5) :=
  ⟨⟨_, rfl, rfl⟩, ⟨_, rfl, rfl⟩⟩

/-! ### regression: the alias/anchor ratio was judged for the LAST document only

`{a: &x 1, b: [*x, *x, *x]}` (3 aliases, 1 anchor) under `alias_anchor_min_aliases = 1`, `alias_anchor_ratio_multiplier = 1`.
Before the repair `observe` never judged the ratio and `finalize` judged it once, on the counters left at the end of the
stream: the document passed as a non-last document and was rejected as the last one or alone. -/

/-- `{a: &x 1, b: [*x, *x, *x]}` -/
def ratioDoc : Node :=
  .map 0 none [(.scalar ['a'] .plain 0 none, .scalar ['1'] .plain 1 none),
               (.scalar ['b'] .plain 0 none, .seq 0 none [.alias 1, .alias 1, .alias 1])]
def ratioLim : Limits := { demoLim with minAliases := 1, multiplier := 1 }

/-- FOR THE RECORD — the verdict of the code before this repair on the ratio: the events pass `observe` without any
ratio check (expressed with the current model by switching the heuristic off), then `finalize` judges the counters the
stream ended with -/
def ratioAtEndOnly (lim : Limits) (ds : List Node) : Option Breach :=
  match run { lim with enforceRatio := false } true (flattenStream ds) with
  | .ok e => ({ e with lim := lim }).ratioBreach
  | .error _ => none

/-- the old code: accepted in first position, rejected in last position and alone -/
example : ratioAtEndOnly ratioLim [ratioDoc, regB] = none ∧ ratioAtEndOnly ratioLim [regB, ratioDoc] = some (.ratio 3 1) ∧
    ratioAtEndOnly ratioLim [ratioDoc] = some (.ratio 3 1) := by decide +kernel

/-- now: rejected wherever it stands, at its own `DocumentEnd` (its 12th event), with its own counts -/
example : run ratioLim true (flattenStream [ratioDoc]) = .error (12, .ratio 3 1) ∧
    run ratioLim true (flattenStream [ratioDoc, regB]) = .error (12, .ratio 3 1) ∧
    run ratioLim true (flattenStream [regB, ratioDoc]) = .error (15, .ratio 3 1) ∧
    run ratioLim true (flattenStream [regB, ratioDoc, regC]) = .error (15, .ratio 3 1) ∧
    (beforeDoc [regB]).length + ((flattenDoc ratioDoc).length - 1) = 15 := ⟨rfl, rfl, rfl, rfl, rfl⟩
example : [[ratioDoc, regB], [regB, ratioDoc], [ratioDoc], [regB, regC]].map (perDocAcceptsFull ratioLim) =
    [false, false, false, true] := by decide +kernel
/-- the Spec verdict on the document's own counts (`perdoc_accepts_iff`, `perdoc_ratio_exact`) -/
example : within ratioLim (usageDoc ratioDoc) = true ∧ ratioOk ratioLim (usageDoc ratioDoc) = false ∧
    (usageDoc ratioDoc).aliases = 3 ∧ (usageDoc ratioDoc).anchors = 1 ∧
    ratioOk { ratioLim with multiplier := 3 } (usageDoc ratioDoc) = true := by decide +kernel
/-- with a multiplier the document satisfies it is accepted at every position, and `finalize` stays silent -/
example : [[ratioDoc, regB], [regB, ratioDoc], [ratioDoc]].map (perDocAcceptsFull { ratioLim with multiplier := 3 }) =
    [true, true, true] := by decide +kernel
/-- the whole-input policy is unchanged: the ratio is judged by `finalize` over the whole stream -/
example : (∃ e, run ratioLim false (flattenStream [ratioDoc, regB]) = .ok e ∧ e.finalize.2 = some (.ratio 3 1)) :=
  ⟨_, rfl, rfl⟩

/-! ### the iterator's recovery path (`LiveEvents::skip_to_next_document`)

After a deserialization error the iterator skips to the next `DocumentStart`, pulling raw events WITHOUT `observe`.
The first version of the repair left `begin_document()` at that `DocumentStart`: the event itself was not observed, so
a document read right after an abandoned one was charged ONE EVENT LESS than the same document anywhere else
(on that code, target `Vec<i64>`, `max_events = 4`: `[x]` / `[1]` / `[2]` gave
`[Err(InvalidScalar), Ok([1]), Ok([2]), Err(Events{5})]` while `[1]` / `[2]` gave `[Ok([1]), Err(Events{5})]`).
The completed repair calls `begin_document_at(&raw)` = `observe(&raw)` under the per-document policy (model:
`Enf.beginDocumentAt`, `Pump.skipBudget`): the recovery path starts a document with exactly the state the normal
path starts it with. -/

/-- the enforcer state in which document `[x]` is abandoned (type error at the scalar), `max_events = 4` -/
def eAbandoned : Enf :=
  { lim := lim4, perDocument := true, report := { events := 3, nodes := 2, maxDepth := 1, totalScalarBytes := 1 },
    depth := 1, containers := [.seq false] }

example : runFrom (Enf.new lim4 true) 0 [.streamStart, .docStart false, .seqStart 0 none, .scalar ['x'] .plain 0 none] =
    .ok eAbandoned := by rfl

/-- (T) perdoc_recovery_position_independent: when `skip_to_next_document` finds a document, the enforcer state with
which the pump starts that document is the state with which the NORMAL path (`observe(DocumentStart)` in the parser
loop) starts the same document — from the abandoned state itself and from any other per-document state with the same
limits (the fresh one, the one after any accepted documents): report `{events := 1}` (the `DocumentStart` is charged),
no anchors, depth 0, no containers.  Hence a document is charged identically after an abandoned document and anywhere
else (`perdoc_position_independent_raw` applies to the run that follows). -/
theorem perdoc_recovery_position_independent (p p' : Pump.Pump) (inp rest : List Pump.RawItem) (enf : Enf)
    (hb : p.budget = some enf) (hpd : enf.perDocument = true)
    (h : Pump.skipToNextDocument p inp = (true, p', rest)) :
    ∃ e', p'.budget = some e' ∧
      e' = docStartState enf.lim enf.report.documents ∧
      (∀ (e0 : Enf) (x : Bool), e0.perDocument = true → e0.lim = enf.lim → e0.report.documents = enf.report.documents →
        e0.observe (.docStart x) = .ok e') ∧
      e'.report = { events := 1, documents := enf.report.documents } ∧ e'.defined = [] ∧ e'.depth = 0 ∧
      e'.containers = [] := by
  unfold Pump.skipToNextDocument at h
  obtain ⟨b, hsb⟩ := skipLoop_budget _ p' inp rest h
  simp only [hb] at hsb
  cases hp' : p'.budget with
  | none =>
    rw [hp'] at hsb
    simp only [Pump.skipBudget] at hsb
    split at hsb <;> cases hsb
  | some e' =>
    rw [hp'] at hsb
    have hobs := skipBudget_some_pd hpd hsb
    rw [observe_docStart_pd b hpd] at hobs
    split at hobs
    · cases hobs
    · rename_i hle
      injection hobs with hobs
      subst hobs
      refine ⟨_, rfl, rfl, ?_, rfl, rfl, rfl, rfl⟩
      intro e0 x h0 h1 h2
      rw [observe_docStart_pd x h0, h1, h2, if_neg hle]

/-- (T) the recovery finds no document only for a reason that would stop the normal path as well: if the skip reaches
a `DocumentStart` under the per-document policy and gives up there, then `max_events = 0` — no document at all can be
read under that budget. -/
theorem perdoc_recovery_breach_only_zero (enf : Enf) (b : Bool) (hpd : enf.perDocument = true)
    (h : Pump.skipBudget (some enf) (.docStart b) = none) : enf.lim.maxEvents = 0 := by
  simp only [Pump.skipBudget, Enf.beginDocumentAt, hpd, if_true, observe_docStart_pd b hpd] at h
  split at h
  · rename_i h1
    split at h1
    · omega
    · cases h1
  · cases h

/-- regression of the recovery-path defect described above: after `skip_to_next_document` from the
state in which `[x]` was abandoned, the document `[a]` is charged its 5 events and rejected under `max_events = 4` at its
own `DocumentEnd` — exactly as on the normal path from the very same state, and as on its own (`docRun`); under
`max_events = 5` it is accepted on both paths with the report `usageDoc regA`. -/
theorem perdoc_recovery_path_regression :
    ∃ p' e',
      Pump.skipToNextDocument { limits := ⟨1000, 10, 100⟩, budget := some eAbandoned }
          [.ev .seqEnd 0, .ev .docEnd 0, .ev (.docStart true) 0] = (true, p', []) ∧
      p'.budget = some e' ∧
      runFrom e' 1 (docBody regA) = .error (4, .events 5) ∧
      runFrom eAbandoned 0 (flattenDoc regA) = .error (4, .events 5) ∧
      docRun lim4 regA = .error (4, .events 5) :=
  ⟨_, _, rfl, rfl, rfl, rfl, rfl⟩

example :
    ∃ p' e' e2,
      Pump.skipToNextDocument { limits := ⟨1000, 10, 100⟩, budget := some { eAbandoned with lim := lim5 } }
          [.ev .seqEnd 0, .ev .docEnd 0, .ev (.docStart true) 0] = (true, p', []) ∧
      p'.budget = some e' ∧ runFrom e' 1 (docBody regA) = .ok e2 ∧ e2.finalize.1 = usageDoc regA ∧
      docRun lim5 regA = .ok e2 :=
  ⟨_, _, _, rfl, rfl, rfl, by decide, rfl⟩

/-- for the record: what `begin_document()` alone (the recovery path before the completed repair) left behind differs
from what `observe(DocumentStart)` leaves in exactly one event — `events = 0` instead of `events = 1` -/
theorem perdoc_recovery_path_diff (e e1 : Enf) (x : Bool) (hpd : e.perDocument = true)
    (h : e.observe (.docStart x) = .ok e1) :
    e.beginDocument = { e1 with report := { e1.report with events := 0 } } := by
  obtain ⟨rfl, -⟩ := observe_ok h
  simp [next, hpd, isDocStart, Enf.beginDocument, Report.reset]

/-- the whole-input policy is untouched by the recovery hook: skipped events are not counted -/
theorem recovery_allcontent_noop (e : Enf) (ev : Raw) (hpd : e.perDocument = false) : e.beginDocumentAt ev = .ok e := by
  simp [Enf.beginDocumentAt, hpd]

-- satisfiability of the hypotheses of the per-document theorems on non-trivial instances
example : ∃ e, run demoLim true (beforeDoc [demoDoc, regA]) = .ok e ∧ e.report.events = 5 ∧ e.perDocument = true :=
  ⟨_, rfl, rfl, rfl⟩
example : perDocAccepts demoLim [demoDoc, regA] = true := by decide +kernel
example : ∃ e, runFrom (Enf.new demoLim true) 0 (flattenDoc demoDoc) = .ok e ∧ e.finalize.1 = usageDoc demoDoc :=
  ⟨_, rfl, by decide⟩
/-- `perdoc_breach_in_doc` / `perdoc_doc_breach_surfaces`: a middle document over the limit -/
example : run { demoLim with maxDepth := 1 } true (flattenStream ([regA, regB] ++ demoDoc :: [regC])) =
      .error ((beforeDoc [regA, regB]).length + 5, .depth 2) ∧
    runFrom (Enf.new { demoLim with maxDepth := 1 } true) 0 (flattenDoc demoDoc) = .error (5, .depth 2) ∧
    5 < (flattenDoc demoDoc).length := ⟨rfl, rfl, by decide⟩
/-- `perdoc_position_independent_raw` on a state left behind by an abandoned, half-read document (open containers,
anchors, depth 2): the next document runs as from the fresh state -/
example :
    ∃ e, runFrom (Enf.new demoLim true) 0 [.docStart false, .mapStart 7 none, .scalar ['k'] .plain 0 none, .seqStart 8 none] = .ok e ∧
      e.depth = 2 ∧ e.defined = [8, 7] ∧
      runFrom e 0 (flattenDoc demoDoc) = runFrom (Enf.new demoLim true) 0 (flattenDoc demoDoc) :=
  ⟨_, rfl, rfl, rfl, rfl⟩

#print axioms no_unbalanced_on_trees_counterexample
#print axioms no_unbalanced_on_trees_Full_false
#print axioms no_unbalanced_on_trees_partial
#print axioms no_unbalanced_on_trees_partial_maxDepth
#print axioms report_eq_usage
#print axioms accepts_iff
#print axioms ratio_exact
#print axioms exact_limits_accept
#print axioms below_usage_rejects
#print axioms first_breach_kind
#print axioms perdoc_independent
#print axioms perdoc_state_reset
#print axioms perdoc_position_independent_raw
#print axioms perdoc_position_independent
#print axioms perdoc_stream_decomp
#print axioms perdoc_streamEnd_free
#print axioms perdoc_followers_independent
#print axioms perdoc_breach_in_doc
#print axioms perdoc_doc_breach_surfaces
#print axioms perdoc_state_eq_single
#print axioms perdoc_usage_eq_single
#print axioms perdoc_usage_last
#print axioms perdoc_report_eq_usageDoc
#print axioms perdoc_accepts_iff
#print axioms perdoc_ok_spec
#print axioms perdoc_no_other_breach
#print axioms perdoc_ratio_breach_spec
#print axioms perdoc_ratio_exact
#print axioms perdoc_ratio_position_independent
#print axioms perdoc_finalize_silent
#print axioms perdoc_independent_full
#print axioms perdoc_recovery_position_independent
#print axioms perdoc_recovery_breach_only_zero
#print axioms perdoc_recovery_path_regression
#print axioms recovery_allcontent_noop
#print axioms perdoc_recovery_path_diff

end SaphyrVerif.Props.C07
