import SaphyrVerif.Lemmas.Lits
import SaphyrVerif.Props.C19
import SaphyrVerif.Lemmas.C19StepsBound
import SaphyrVerif.Lemmas.C19Sexa
/-!
# C19 — further clauses: bounded work, bounded recursion, tag handling for both widths

* "no unbounded work / no unbounded recursion" as COUNTED quantities of an instrumented copy of the
  evaluator model (`Lemmas/C19Steps.lean`; `eval_instrumented_is_model` ties the copy to the model).
* what `parse_yaml12_float` returns on every scalar of the grammar, for `f64` and `f32`, for every tag
  (`!degrees`, `!radians`, others).
-/
namespace SaphyrVerif.Props.C19
open SaphyrVerif SaphyrVerif.F64 SaphyrVerif.Robotics SaphyrVerif.Spec.Robotics
open SaphyrVerif.Lemmas.C19S (evalExprT)

/-- (T) the instrumented evaluator computes exactly what the model computes (every byte string, every tag). -/
theorem eval_instrumented_is_model (tag : Nat) (s : List Nat) : (evalExprT tag s).val = evalExpr tag s :=
  (Lemmas.C19S.evalExprT_cost tag s).1

/-- (T) `work_linear` — "no super-linear work": for EVERY byte string (accepted or not, UTF-8 or not) and
every tag, the evaluation takes at most `48 · length + 48` steps, where a step is a function call or one
iteration of any loop of `robotics.rs` (white-space skip, sign loop, the three digit loops, identifier
scan, sexagesimal look-ahead, the field readers, the `loop`s of `expr` and `term`), `starts_ci` counts 4,
the keyword comparisons 6, and the final `f64::from_str(buf)` counts the length of `buf`. -/
theorem work_linear (tag : Nat) (s : List Nat) :
    (evalExprT tag s).val = evalExpr tag s ∧ (evalExprT tag s).steps ≤ 48 * s.length + 48 :=
  ⟨(Lemmas.C19S.evalExprT_cost tag s).1, (Lemmas.C19S.evalExprT_cost tag s).2.1⟩

/-- (T) `recursion_bounded`: for EVERY byte string and every tag the call tree of the evaluation is at most
`5 · (MAX_EXPR_DEPTH + 1) + 4` frames deep (`MAX_EXPR_DEPTH` = `Gen.roboticsMaxExprDepth`, regenerated
from the source): per nesting level `expr → term → unary → primary → parse_ident_or_special`; at the deepest
level `parse_number_or_special → try_parse_sexagesimal → read_uint_unders_to_u32 → …_to_f64` (four frames in
the place of `parse_ident_or_special`: three more), and one frame for the entry function. -/
theorem recursion_bounded (tag : Nat) (s : List Nat) :
    (evalExprT tag s).frames ≤ 5 * (Gen.roboticsMaxExprDepth + 1) + 4 :=
  (Lemmas.C19S.evalExprT_cost tag s).2.2

/-- (E) the instrumented run of `1 + 2*(3 - 4/5)` (15 bytes): 153 steps, 11 frames, value 5.4. -/
example : (evalExprT 0 (bytes "1 + 2*(3 - 4/5)")).steps = 153 ∧ (evalExprT 0 (bytes "1 + 2*(3 - 4/5)")).frames = 11 ∧
    (evalExprT 0 (bytes "1 + 2*(3 - 4/5)")).val = .ok (ofBits binary64 0x401599999999999A) := by decide +kernel

/-- (E) five frames per nesting level are really used by `deg(`: three nested calls around a sexagesimal
form reach 24 = 5·4 + 4 frames; parentheses use four per level. -/
example : (evalExprT 0 (bytes "deg(deg(deg(1:30:20.5)))")).frames = 24 := by decide +kernel
example : (evalExprT 0 (bytes "(((1:30:20.5)))")).frames = 21 := by decide +kernel

/-- every tag other than `!degrees` neither converts nor rejects -/
theorem topValue_other (tag : Nat) (htag : tag ≠ TAG_DEGREES) (ev : Eval) : topValue tag ev = some ev.1 := by
  cases hu : ev.2.1 with
  | false => rw [topValue_unitfree hu, if_neg htag]
  | true => exact topValue_unit hu fun h => htag h.1

/-- (T) `float_of_tree`, both widths, every tag: on a scalar of the grammar that is not an ordinary float
literal (or under `!degrees`, where the evaluator always runs), `parse_yaml12_float` with the option on
returns the reference evaluation of the tree, finished by the tag rule — as it is for `f64`, narrowed
ONCE (`v as f32`) for `f32` — or the `ambiguous mix` error. -/
theorem float_of_tree (f32 : Bool) (s : List Char) (tag : Nat) (e : Expr) (hp : Parses tag (utf8 s) e)
    (hplain : parsePlain (fmtOf f32) s = .invalid ∨ tag = TAG_DEGREES) :
    parseYaml12Float f32 s tag true =
      match topValue tag e.eval with
      | some v => .ok (fromF64 f32 v)
      | none => .hook .ambiguousMix := by
  rw [float_eval f32 s tag hplain, eval_complete tag (utf8 s) e hp]
  cases topValue tag e.eval <;> rfl

/-- (T) `!radians`, both widths: an accepted expression keeps the value of its tree (no conversion, no
rejection); an ordinary literal is returned as parsed. -/
theorem radians_tag (f32 : Bool) (s : List Char) (e : Expr) (hp : Parses TAG_RADIANS (utf8 s) e) :
    parseYaml12Float f32 s TAG_RADIANS true =
      match parsePlain (fmtOf f32) s with
      | .ok v => .ok v
      | _ => .ok (fromF64 f32 e.eval.1) := by
  rcases Lemmas.C19.parsePlain_cases (fmtOf f32) s with ⟨v, hpl⟩ | hpl
  · rw [hpl]
    exact float_plain f32 s TAG_RADIANS (by decide) true v hpl
  · have := float_of_tree f32 s TAG_RADIANS e hp (Or.inl hpl)
    rw [topValue_other TAG_RADIANS (by decide)] at this
    rw [hpl]
    exact this

/-- (T) `!degrees`, both widths: the evaluator always runs; a unit-free tree is converted by one
multiplication (in binary64, then narrowed once for `f32`), a unitized tree without bare terms is left
alone, the mix is rejected. -/
theorem degrees_tag (f32 : Bool) (s : List Char) (e : Expr) (hp : Parses TAG_DEGREES (utf8 s) e) :
    parseYaml12Float f32 s TAG_DEGREES true =
      if e.usesUnit = false then .ok (fromF64 f32 (mul F e.value DEG2RAD))
      else if e.hasBare = true then .hook .ambiguousMix
      else .ok (fromF64 f32 e.value) := by
  rw [float_of_tree f32 s TAG_DEGREES e hp (Or.inr rfl)]
  by_cases hu : e.usesUnit = false
  · rw [topValue_unitfree hu, if_pos hu, if_pos rfl]
    rfl
  · rw [if_neg hu]
    have hu : e.usesUnit = true := by simpa using hu
    by_cases hb : e.hasBare = true
    · rw [(topValue_eq_none _ e.eval).mpr ⟨rfl, hu, hb⟩, if_pos hb]
    · rw [topValue_unit hu fun h => hb h.2, if_neg hb]
      rfl

/-- (T) an ordinary literal under `!degrees` as `f32`: the binary64 value in degrees times `DEG2RAD`,
narrowed once. -/
theorem degrees_tag_literal_f32 (l : PlainLit) (hwf : l.WF) (hcap : l.digitCount ≤ MAX_NUM_DIGITS) :
    parseYaml12Float true (l.render.map Char.ofNat) TAG_DEGREES true =
      .ok (convert binary32 (mul F (l.value binary64) DEG2RAD)) :=
  degrees_literal true l hwf hcap

/-- (E) `deg(90) + 90` (a scalar of the grammar, not a plain literal): `π/2 + 90` without a tag and under
`!radians`, rejected under `!degrees`; as `f32` the same value narrowed once. -/
example : parseYaml12Float false "deg(90) + 90".toList TAG_RADIANS true = .ok (fromF64 false exMixed.eval.1) := by
  have := radians_tag false "deg(90) + 90".toList exMixed (by
    have : utf8 "deg(90) + 90".toList = bytes "deg(90) + 90" := by decide +kernel
    rw [this]; exact exMixed_parses _)
  have hpl : parsePlain (fmtOf false) "deg(90) + 90".toList = .invalid := by decide +kernel
  rw [hpl] at this
  exact this
example : parseYaml12Float true "deg(90) + 90".toList TAG_DEGREES true = .hook .ambiguousMix := by
  char_lits
  decide +kernel

open SaphyrVerif.Lemmas.C19X (SexaTok hornerF fracF)

/-- (T) `sexagesimal_token_value`: a token `D:M`, `D:M:S` or `D:M:S.frac` (every field digit groups with
single underscores strictly between digits, minutes and seconds at most 59, at most `MAX_NUM_DIGITS`
digits), followed by bytes that do not continue it, is scanned as exactly that token, in both
sexagesimal modes and under every tag, and denotes `SexaTok.value`: the fields evaluated by Horner's rule
in binary64 and combined as `D + M/60 + S/3600` degrees or `D·3600 + M·60 + S` seconds — radians
(`· DEG2RAD`, ONCE: the value is flagged as unitized, so `topValue` does not convert again) at top level
under `!degrees`/`!radians`, seconds at top level otherwise, degrees inside `deg(..)`/`rad(..)` (seconds
under `!timestamp`).  This discharges `TokenOk` for the sexagesimal leaves of `eval_eq_ast` /
`eval_complete`. -/
theorem sexagesimal_token_value (tag : Nat) (tm : Bool) (t : SexaTok) (hwf : t.WF) (k : List Nat) (hk : t.Ends k) :
    TokenOk tag tm t.render k (t.value tag tm, true, false) := by
  obtain ⟨c, r, h, hc⟩ := Lemmas.C19X.sexa_head t hwf k
  refine ⟨⟨c, r, h, Or.inl hc⟩, [], 0, ?_⟩
  exact Lemmas.C19X.sexa_token tag tm t hwf k hk [] 0

/-- the token `12:30` -/
def tok1230 : SexaTok := ⟨[[49, 50]], [[51, 48]], none⟩

theorem tok1230_wf : tok1230.WF := by
  refine ⟨⟨by simp [tok1230, Groups.WF, isDigit], by simp [tok1230]⟩,
    ⟨by simp [tok1230, Groups.WF, isDigit], by simp [tok1230], by decide +kernel, by decide +kernel⟩, ?_, by decide⟩
  intro s fr h
  simp [tok1230] at h

/-- (E) `12:30` is such a token; it denotes 45000 s at top level without an angle tag, 12.5° = 12.5·DEG2RAD
radians under `!degrees` and `!radians`, and 12.5 inside `deg(..)` (which then converts once). -/
example : tok1230.render = bytes "12:30" := by decide +kernel
example : tok1230.value 0 true = ofNat F 45000 := by decide +kernel
example : tok1230.value TAG_DEGREES true = mul F (ofBits binary64 0x4029000000000000) DEG2RAD := by decide +kernel
example : tok1230.value TAG_RADIANS true = mul F (ofBits binary64 0x4029000000000000) DEG2RAD := by decide +kernel
example : tok1230.value 0 false = ofBits binary64 0x4029000000000000 := by decide +kernel
example : TokenOk TAG_DEGREES true (bytes "12:30") [] (tok1230.value TAG_DEGREES true, true, false) :=
  sexagesimal_token_value TAG_DEGREES true tok1230 tok1230_wf [] (by intro c r h; cases h)
/-- (E) … converted exactly once: the evaluator returns the same radians under `!degrees`, with or without
`deg(..)` around it. -/
example : evalExpr TAG_DEGREES (bytes "12:30") = .ok (tok1230.value TAG_DEGREES true) := by decide +kernel
example : evalExpr TAG_DEGREES (bytes "deg(12:30)") = .ok (tok1230.value TAG_DEGREES true) := by decide +kernel
example : evalExpr 0 (bytes "deg(12:30)") = .ok (tok1230.value TAG_DEGREES true) := by decide +kernel

/-- (T) `deg_call_once`: a scalar that is one call `deg( e )` / `rad( e )` (any accepted argument `e`, with
or without units of its own, any white space) evaluates under EVERY tag — `!degrees` included — to
`e · DEG2RAD` (one multiplication) resp. to `e` itself: the function converts, the tag does not convert
again, and nothing is rejected. -/
theorem deg_call_once (tag : Nat) (s : List Nat) (wsu ws : List Nat) (isDeg : Bool) (name ws1 : List Nat)
    (e : Expr) (ws' : List Nat)
    (hp : Parses tag s (.term (.un (.mk wsu [] (.fn ws isDeg name ws1 e ws'))))) :
    evalExpr tag s = .ok (if isDeg then mul F e.value DEG2RAD else e.value) := by
  -- the node is unitized and not bare, so no tag touches it; its empty sign chain is exact
  rw [eval_complete tag s _ hp, topValue_unit (ev := Expr.eval _) rfl fun h => Bool.noConfusion h.2]
  obtain ⟨wsL, wsR, _, _, _, hlex, _⟩ := hp
  exact congrArg Res.ok ((unary_minus_is_negation tag true wsu [] _ _ hlex).trans (by cases isDeg <;> rfl))

/-- the tree of `deg(90)` -/
def exDeg : Expr := .term (.un (.mk [] [] (.fn [] true [100, 101, 103] [] (.term (.un (.mk [] [] (n90 [])))) [])))

theorem exDeg_parses (tag : Nat) : Parses tag (bytes "deg(90)") exDeg := by
  refine ⟨[], [], by decide, by decide, by decide, ?_, by decide⟩
  simp only [exDeg, n90, Expr.lexOk, Term.lexOk, Unary.lexOk, Primary.lexOk]
  exact ⟨by decide, by decide, by decide, by decide, by decide, by decide, by decide,
    tok90 _ _ _ (by simp [StopsToken, isDigit])⟩

/-- (E) `deg(90)` under `!degrees`: 90 · DEG2RAD, once (by the theorem). -/
example : evalExpr TAG_DEGREES (bytes "deg(90)") =
    .ok (mul F (Expr.term (.un (.mk [] [] (n90 [])))).value DEG2RAD) := by
  simpa using deg_call_once TAG_DEGREES _ [] [] true _ [] _ [] (exDeg_parses _)
example : (Expr.term (.un (.mk [] [] (n90 [])))).value = ofNat F 90 := by decide +kernel

/-- (T) the YAML forms `.nan`, `.inf` with optional sign, in any letter case, surrounded by any (Unicode)
white space: the same value with the option off and on, either width, every tag but `!degrees`. -/
theorem dot_specials_unchanged (f32 : Bool) (s : List Char) (tag : Nat) (htag : tag ≠ TAG_DEGREES) (angle : Bool) :
    ((lowerAscii (trim s) = ".nan".toList ∨ lowerAscii (trim s) = "+.nan".toList ∨
        lowerAscii (trim s) = "-.nan".toList) → parseYaml12Float f32 s tag angle = .ok .nan) ∧
    ((lowerAscii (trim s) = ".inf".toList ∨ lowerAscii (trim s) = "+.inf".toList) →
        parseYaml12Float f32 s tag angle = .ok (.inf false)) ∧
    (lowerAscii (trim s) = "-.inf".toList → parseYaml12Float f32 s tag angle = .ok (.inf true)) := by
  have key := float_plain f32 s tag htag angle
  refine ⟨?_, ?_, ?_⟩
  · intro h
    apply key
    unfold parsePlain
    simp only []
    rcases h with h | h | h <;> simp [h]
  · intro h
    apply key
    unfold parsePlain
    simp only []
    rcases h with h | h <;> rw [h] <;> rw [if_neg (by decide), if_pos (by decide)]
  · intro h
    apply key
    unfold parsePlain
    simp only []
    rw [h]
    rw [if_neg (by decide), if_neg (by decide), if_pos (by decide)]

/-- (E) signs, exponents, the special forms, Unicode white space: option on = option off. -/
example : parseYaml12Float false " -.INF ".toList 0 true = .ok (.inf true) ∧
    parseYaml12Float false " -.INF ".toList 0 false = .ok (.inf true) ∧
    parseYaml12Float true "+.NaN".toList TAG_RADIANS true = .ok .nan ∧
    parseYaml12Float false "-1.5e-3".toList 0 true = parseYaml12Float false "-1.5e-3".toList 0 false ∧
    parseYaml12Float true "+12E+3".toList TAG_RADIANS true = parseYaml12Float true "+12E+3".toList 0 false ∧
    parseYaml12Float false "-0".toList 0 true = .ok (zero binary64 true) := by decide +kernel

/-- (E) 256 nested `deg(` around a sexagesimal form reach exactly `5 · (MAX_EXPR_DEPTH + 1) + 4` frames:
`recursion_bounded` is tight (in particular `4 · MAX_EXPR_DEPTH + c` holds only for `c ≥ 265`). -/
theorem recursion_bound_attained :
    (evalExprT 0 ((List.replicate 256 (bytes "deg(")).flatten ++ bytes "1:30" ++ List.replicate 256 41)).frames =
      5 * (Gen.roboticsMaxExprDepth + 1) + 4 := by decide +kernel

end SaphyrVerif.Props.C19
