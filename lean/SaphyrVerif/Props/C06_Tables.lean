import SaphyrVerif.Gen.Tables
import SaphyrVerif.Model.Scalars
/-!
The constants regenerated from `/repo/src` (Gen/Tables.lean) compared with the boolean and null literals as
they are written out here — the same spellings the scalar model (`Model/Scalars.lean`) has inline.  If the
source changes a literal table, these obligations break.
-/
namespace SaphyrVerif.Props.C06_Tables
open SaphyrVerif

theorem bool_lits_match_source :
    Gen.boolTrueLits = ["true", "yes", "y", "on"] ∧ Gen.boolFalseLits = ["false", "no", "n", "off"] := by
  decide +kernel

theorem null_lits_match_source : Gen.nullTilde = "~" ∧ Gen.nullWord = "null" := by decide +kernel

end SaphyrVerif.Props.C06_Tables
