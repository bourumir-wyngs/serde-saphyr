import SaphyrVerif.Lemmas.Lits
import SaphyrVerif.Model.Robotics
import SaphyrVerif.Lemmas.C19Total
import SaphyrVerif.Lemmas.C19Float
import SaphyrVerif.Lemmas.C19Ast
import SaphyrVerif.Lemmas.C19Literal
import SaphyrVerif.Lemmas.C19Wf
import SaphyrVerif.Lemmas.C19Token
import SaphyrVerif.Lemmas.C19Complete
import SaphyrVerif.Lemmas.C19LiteralEval
/-!
# C19 — robotics expressions evaluate totally and exactly; plain numbers are unchanged

Property theorems about the model of `src/robotics.rs` / `parse_scalars.rs::parse_yaml12_float`
(`Model/Robotics.lean`) over the IEEE-754 model `Model/F64.lean`.
Helper lemmas: `Lemmas/C19*.lean` (`C19Ast`: every outcome of the parser functions, a success with its syntax
tree; `C19Pre` + `C19Complete`: the converse).  Further clauses (step count, frame count, tags for both widths, sexagesimal tokens):
`Props/C19_More.lean`.  The model is the code AFTER the repairs bebcb49 (`starts_ci` compares
bytes) and 78f916b (plain literals are returned as parsed); `Props/C19_Findings.lean` keeps the former
counter-example witnesses as regression examples of the repaired behaviour.
-/
namespace SaphyrVerif.Props.C19
open SaphyrVerif SaphyrVerif.F64 SaphyrVerif.Robotics SaphyrVerif.Spec.Robotics

/-- A value or an error — not a panic, not "out of fuel". -/
def Res.total {α} : Res α → Prop
  | .ok _ => True
  | .err _ _ => True
  | .panic _ => False
  | .fuel => False

/-- (T) `eval_total`, byte level: for every byte string in which continuation bytes occur only directly
behind non-ASCII bytes (every suffix of the bytes of a `str` is such), every tag: a value or an error —
no panic (no `str` slice off a char boundary, no `b[i-1]` out of range, no `depth` under/overflow) and
no fuel exhaustion. -/
theorem eval_total_bytes (tag : Nat) (s : List Nat) (h : Lemmas.C19.AdjOk s) :
    Res.total (evalExpr tag s) := by
  have := Lemmas.C19.evalExpr_run tag s
  revert this
  cases evalExpr tag s <;> simp [Lemmas.C19.Run, Res.total, h]

/-- (T) `eval_total`: EVERY scalar text (any Unicode string), every tag, is evaluated
to a value or an error — never a panic, never unbounded recursion or work.  (Before bebcb49 this was
false: `&self.s[i..i+4]` in `starts_ci` could end inside a multi-byte character.) -/
theorem eval_total (tag : Nat) (s : List Char) : Res.total (evalExpr tag (utf8 s)) :=
  eval_total_bytes tag (utf8 s) (Lemmas.C19.utf8_ok s).1

/-- (T) nothing changes unless the option is switched on: with `angle_conversions = false` the result
is the plain YAML 1.2 float reading (`.nan`/`.inf` forms, else `str::parse`) — the evaluator is not
entered, the tag is ignored.  (The plain path is the same text as the function compiled without the
`robotics` feature.) -/
theorem option_off_unchanged (f32 : Bool) (s : List Char) (tag : Nat) :
    parseYaml12Float f32 s tag false = parsePlain (fmtOf f32) s := by
  simp [parseYaml12Float]

theorem option_off_ignores_tag (f32 : Bool) (s : List Char) (t1 t2 : Nat) :
    parseYaml12Float f32 s t1 false = parseYaml12Float f32 s t2 false := by
  simp [parseYaml12Float]

/-- what the call site makes of the evaluator's result (the local `viaEvaluator` of `parseYaml12Float`): the `T::from_f64` at the
end of `parse_yaml12_float_angle_converting::<T>`, an evaluator error as the deserializer's error -/
def viaEvaluator (f32 : Bool) : Res Fl → FRes
  | .ok v => .ok (fromF64 f32 v)
  | .err e _ => .hook e
  | .panic p => .panic p
  | .fuel => .fuel

/-- The call site in two equations.  A plain reading is returned as parsed unless the tag is `!degrees`,
option on or off … -/
theorem float_plain (f32 : Bool) (s : List Char) (tag : Nat) (htag : tag ≠ TAG_DEGREES) (angle : Bool) (v : Fl)
    (h : parsePlain (fmtOf f32) s = .ok v) : parseYaml12Float f32 s tag angle = .ok v := by
  have ht : (tag != TAG_DEGREES) = true := by simpa using htag
  cases angle <;> simp only [parseYaml12Float, Bool.false_eq_true, ↓reduceIte, h, ht]

/-- … and with the option on the evaluator runs in every other case. -/
theorem float_eval (f32 : Bool) (s : List Char) (tag : Nat)
    (h : parsePlain (fmtOf f32) s = .invalid ∨ tag = TAG_DEGREES) :
    parseYaml12Float f32 s tag true = viaEvaluator f32 (evalExpr tag (utf8 s)) := by
  unfold parseYaml12Float
  simp only [↓reduceIte]
  rcases h with h | rfl
  · rw [h]
    cases evalExpr tag (utf8 s) <;> rfl
  · simp only [bne_self_eq_false, Bool.false_eq_true, ↓reduceIte]
    cases parsePlain (fmtOf f32) s <;> cases evalExpr TAG_DEGREES (utf8 s) <;> rfl

/-- (T) the call site is total as well: `parse_yaml12_float` with the option on or off, either width. -/
theorem parse_float_total (f32 : Bool) (s : List Char) (tag : Nat) (angle : Bool) :
    (∃ v, parseYaml12Float f32 s tag angle = .ok v) ∨ parseYaml12Float f32 s tag angle = .invalid ∨
    (∃ e, parseYaml12Float f32 s tag angle = .hook e) := by
  cases angle with
  | false =>
    rw [option_off_unchanged]
    rcases Lemmas.C19.parsePlain_cases (fmtOf f32) s with ⟨v, hv⟩ | hi
    · exact Or.inl ⟨v, hv⟩
    · exact Or.inr (Or.inl hi)
  | true =>
    by_cases h : parsePlain (fmtOf f32) s = .invalid ∨ tag = TAG_DEGREES
    · -- the evaluator runs, and its totality is the call site's
      rw [float_eval f32 s tag h]
      have ht := eval_total tag s
      revert ht
      cases evalExpr tag (utf8 s) <;> simp [Res.total, viaEvaluator]
    · rcases Lemmas.C19.parsePlain_cases (fmtOf f32) s with ⟨v, hv⟩ | hi
      · exact Or.inl ⟨v, float_plain f32 s tag (fun ht => h (Or.inr ht)) true v hv⟩
      · exact absurd (Or.inl hi) h

theorem eval_total_ascii (tag : Nat) (s : List Nat) (h : ∀ c ∈ s, c < 128) : Res.total (evalExpr tag s) :=
  eval_total_bytes tag s (Lemmas.C19.AdjOk.of_noCont (Lemmas.C19.NoCont.of_ascii h))

/-- (T) neither fuel of the model is ever exhausted, for EVERY byte string (valid UTF-8 or not): the model
runs `expr` with recursion fuel `MAX_EXPR_DEPTH + 1` — one unit per nesting level
`expr → term → unary → primary → expr` — and gives every `loop` of `expr`/`term` `length + 1` iterations.
All other loops are structural recursions over the remaining bytes.  (The counted bounds on steps and
frames are `work_linear` and `recursion_bounded` in `Props/C19_More.lean`.) -/
theorem eval_fuel_suffices (tag : Nat) (s : List Nat) : evalExpr tag s ≠ .fuel := by
  have := Lemmas.C19.evalExpr_run tag s
  intro h
  rw [h] at this
  exact this

/-- (T) the recursion fuel of `eval_fuel_suffices`, spelled out: with `depth + n ≥ MAX_EXPR_DEPTH`,
`n + 1` nested `expr` activations suffice from any parser state, whatever the input length. -/
theorem expr_depth_bounded (tag lf n : Nat) (st : St) (hd : MAX_EXPR_DEPTH ≤ st.depth + n)
    (hl : st.rest.length < lf) : expr tag lf (n + 1) st ≠ .fuel := by
  have := Lemmas.C19.expr_does (ap := true) tag lf n st hd ⟨Or.inl rfl, hl⟩
  intro h
  rw [h] at this
  exact this

/-- (T) every successful parser step only moves the cursor forward and restores `depth` and the
sexagesimal mode (the invariant behind "work linear in the input": each loop iteration and each nesting
level consumes at least one byte; the look-aheads over a run of digits and the final `from_str` read a byte again,
a bounded number of times). -/
theorem expr_cursor_monotone (tag lf n : Nat) (st st' : St) (ev : Eval)
    (hd : MAX_EXPR_DEPTH ≤ st.depth + n) (hl : st.rest.length < lf)
    (h : expr tag lf (n + 1) st = .ok (ev, st')) :
    (∃ consumed, st.rest = consumed ++ st'.rest) ∧ st'.depth = st.depth ∧ st'.sexTime = st.sexTime := by
  have := Lemmas.C19.expr_does (ap := true) tag lf n st hd ⟨Or.inl rfl, hl⟩
  rw [h] at this
  exact ⟨Lemmas.C19.Read.suf this, this.1, this.2.1⟩

/-- (T) the rounding function always returns a canonical value of the format. -/
theorem round_wellformed64 (neg : Bool) (num den : Nat) (hd : den ≠ 0) : WF binary64 (round binary64 neg num den) :=
  Lemmas.C19F.round_wf Lemmas.C19F.ok64 neg num den hd

theorem round_wellformed32 (neg : Bool) (num den : Nat) (hd : den ≠ 0) : WF binary32 (round binary32 neg num den) :=
  Lemmas.C19F.round_wf Lemmas.C19F.ok32 neg num den hd

/-- (T) the exponent `round` works at comes from `ilog2 num den = ⌊log2 (num/den)⌋`:
`2^k ≤ num/den < 2^(k+1)` (comparisons through `scale`, i.e. cross-multiplied integers). -/
theorem ilog2_is_floor_log2 (num den : Nat) (hn : num ≠ 0) (hd : den ≠ 0) :
    Lemmas.C19F.P num den (ilog2 num den) ∧ ¬ Lemmas.C19F.P num den (ilog2 num den + 1) :=
  Lemmas.C19F.ilog2_spec num den hn hd

/-- (T) the significand `round` returns is the quotient rounded to NEAREST, ties to EVEN:
`roundEven q r d` (value `q + r/d`) is `q` below the half, `q + 1` above it, the even one on a tie. -/
theorem round_nearest_even (q r d : Nat) :
    (roundEven q r d = q ∧ 2 * r ≤ d ∧ (2 * r = d → q % 2 = 0)) ∨
    (roundEven q r d = q + 1 ∧ d ≤ 2 * r ∧ (2 * r = d → (q + 1) % 2 = 0)) :=
  Lemmas.C19F.roundEven_nearest q r d

/-- (T) every result of `+ - * /` and of narrowing is a canonical value (whatever the operands); for `u32 → f64`:
`Lemmas.C19F.ofNat_wf`. -/
theorem ops_wellformed (a b : Fl) :
    WF binary64 (add F a b) ∧ WF binary64 (sub F a b) ∧ WF binary64 (mul F a b) ∧ WF binary64 (div F a b) ∧
    WF binary32 (convert binary32 a) :=
  ⟨Lemmas.C19F.add_wf Lemmas.C19F.ok64 a b, Lemmas.C19F.sub_wf Lemmas.C19F.ok64 a b,
   Lemmas.C19F.mul_wf Lemmas.C19F.ok64 a b, Lemmas.C19F.div_wf Lemmas.C19F.ok64 a b,
   Lemmas.C19F.convert_wf Lemmas.C19F.ok32 a⟩

/-- (T) rounding is exact on representable values (`num/den = m · 2^e`, `(m, e)` canonical). -/
theorem round_exact (f : Fmt) (neg : Bool) (m a b : Nat) (e : Int) (hm : m ≠ 0) (hwf : WF f (.fin neg m e))
    (he : (a : Int) - b = e) : round f neg (m * 2 ^ a) (2 ^ b) = .fin neg m e :=
  Lemmas.C19F.round_exact f neg hm hwf ⟨a, b, rfl, rfl, he⟩

/-- (T) the `sign * v` of `unary`: multiplying by `1.0` / `-1.0` is the identity / IEEE negation. -/
theorem unary_sign_exact (x : Fl) (hx : WF binary64 x) :
    mul F ONE x = x ∧ mul F (neg ONE) x = neg x :=
  ⟨Lemmas.C19F.mul_one x hx, Lemmas.C19F.mul_neg_one x hx⟩

/-- (E) `0.1 + 0.2 = 0.30000000000000004`, `1/3`, subnormal underflow, overflow, signed zero, `inf − inf`. -/
example : toBits F (add F (ofBits F 0x3FB999999999999A) (ofBits F 0x3FC999999999999A)) = 0x3FD3333333333334 := by decide +kernel
example : toBits F (div F ONE (ofNat F 3)) = 0x3FD5555555555555 := by decide +kernel
example : toBits F (mul F (ofBits F 1) (ofBits F 0x3FE0000000000000)) = 0 := by decide +kernel
example : mul F (ofBits F 0x7FEFFFFFFFFFFFFF) TWO = .inf false := by decide +kernel
example : toBits F (sub F (zero F true) (zero F false)) = 0x8000000000000000 := by decide +kernel
example : add F (.inf false) (.inf true) = .nan := by decide +kernel

/-- (E) `DEG2RAD = PI / 180.0` in the model is the constant rustc computes. -/
example : DEG2RAD = ofBits binary64 0x3F91DF46A2529D39 := by decide +kernel
example : toBits binary64 PI = 0x400921FB54442D18 := by decide +kernel
example : toBits binary64 (mul F TWO PI) = 0x401921FB54442D18 := by decide +kernel

/-- (T) Rust's `str::parse` (as modelled: the contract "correctly rounded exact decimal") on an ordinary
decimal literal `[+-] digits [. digits] [(e|E) [+-] digits]` yields `PlainLit.value`: the exact decimal
value rounded once to the target format. -/
theorem plain_literal_value (f : Fmt) (l : PlainLit) (hwf : l.WF) : fromStr f l.render = some (l.value f) :=
  Lemmas.C19L.fromStr_lit f l hwf

/-- (T) `plain_literal_unchanged` (both widths): whatever text the plain reading
accepts — decimal literals of any length, `inf`/`infinity`/`nan` in any case, the `.inf`/`.nan` forms,
Unicode white space around them — keeps EXACTLY that value when the option is switched on, for every
tag class except `!degrees` (which converts by design). -/
theorem plain_literal_unchanged (f32 : Bool) (s : List Char) (tag : Nat) (htag : tag ≠ TAG_DEGREES) (v : Fl)
    (h : parseYaml12Float f32 s tag false = .ok v) : parseYaml12Float f32 s tag true = .ok v :=
  float_plain f32 s tag htag true v (by rwa [option_off_unchanged] at h)

/-- (T) f64 instance -/
theorem plain_literal_unchanged_f64 (s : List Char) (tag : Nat) (htag : tag ≠ TAG_DEGREES) (v : Fl)
    (h : parseYaml12Float false s tag false = .ok v) : parseYaml12Float false s tag true = .ok v :=
  plain_literal_unchanged false s tag htag v h

/-- (T) f32 instance: no double rounding any more (the former counter-example
`1.00000005960464477540` is a regression example in `C19_Findings`). -/
theorem plain_literal_unchanged_f32 (s : List Char) (tag : Nat) (htag : tag ≠ TAG_DEGREES) (v : Fl)
    (h : parseYaml12Float true s tag false = .ok v) : parseYaml12Float true s tag true = .ok v :=
  plain_literal_unchanged true s tag htag v h

/-- (T) the value itself, for ordinary decimal literals `[+-] digits [. digits] [(e|E) [+-] digits]`
(any number of digits), either width, option on or off, tag ≠ `!degrees`: the exact decimal value
rounded ONCE into the target format. -/
theorem plain_literal_exact (f32 : Bool) (l : PlainLit) (hwf : l.WF) (tag : Nat) (htag : tag ≠ TAG_DEGREES)
    (angle : Bool) :
    parseYaml12Float f32 (l.render.map Char.ofNat) tag angle = .ok (l.value (fmtOf f32)) :=
  float_plain f32 _ tag htag angle _ (Lemmas.C19L.parsePlain_lit (fmtOf f32) l hwf)

/-- (T) what the EVALUATOR makes of an ordinary literal (≤ `MAX_NUM_DIGITS` digits) — the path taken
under `!degrees`, and for literals inside larger expressions: the same correctly rounded value (the
`sign * v` of `unary` is exact), converted to radians by ONE multiplication under `!degrees`. -/
theorem evaluator_on_literal (l : PlainLit) (hwf : l.WF) (hcap : l.digitCount ≤ MAX_NUM_DIGITS) (tag : Nat) :
    evalExpr tag l.render =
      .ok (if tag == TAG_DEGREES then mul F (l.value binary64) DEG2RAD else l.value binary64) :=
  Lemmas.C19L.evalExpr_lit_any tag l hwf hcap

/-- an ordinary literal under the `!degrees` tag, either width: the evaluator runs; the binary64 value in
degrees times `DEG2RAD`, narrowed once for `f32` -/
theorem degrees_literal (f32 : Bool) (l : PlainLit) (hwf : l.WF) (hcap : l.digitCount ≤ MAX_NUM_DIGITS) :
    parseYaml12Float f32 (l.render.map Char.ofNat) TAG_DEGREES true =
      .ok (fromF64 f32 (mul F (l.value binary64) DEG2RAD)) := by
  rw [float_eval f32 _ TAG_DEGREES (Or.inr rfl), Lemmas.C19L.utf8_chars _ (Lemmas.C19L.allowed_render l hwf),
    evaluator_on_literal l hwf hcap]
  rfl

/-- (T) an ordinary literal under the `!degrees` tag, f64: the value in degrees times `DEG2RAD`, once. -/
theorem degrees_tag_literal (l : PlainLit) (hwf : l.WF) (hcap : l.digitCount ≤ MAX_NUM_DIGITS) :
    parseYaml12Float false (l.render.map Char.ofNat) TAG_DEGREES true =
      .ok (mul F (l.value binary64) DEG2RAD) :=
  degrees_literal false l hwf hcap

/-- (E) the hypotheses are satisfiable: `-12.5e+3` is an ordinary literal; its value is −12500. -/
example : (⟨some true, [49, 50], some [53], some (false, some false, [51])⟩ : PlainLit).render =
    "-12.5e+3".toList.map Char.toNat := by decide +kernel
example : (⟨some true, [49, 50], some [53], some (false, some false, [51])⟩ : PlainLit).value binary64 =
    neg (ofNat binary64 12500) := by decide +kernel

/-- (T) numbers with digit separators and exponents: a token `groups [. groups] [(e|E) [+-] groups]`
(underscores strictly between digits, at least one mantissa digit, at most `MAX_NUM_DIGITS` digits),
followed by bytes `k` that do not continue it, is scanned as exactly that token and denotes the
correctly rounded exact decimal value of the same number written WITHOUT the separators
(`t.plain.value`).  This discharges `TokenOk` for decimal number leaves of `eval_eq_ast`. -/
theorem number_token_value (tag : Nat) (tm : Bool) (t : NumTok) (hwf : t.WF)
    (hcap : t.plain.digitCount ≤ MAX_NUM_DIGITS) (k : List Nat) (hk : StopsToken k) :
    TokenOk tag tm t.render k (t.plain.value binary64, false, true) := by
  refine ⟨?_, [], 0, ?_⟩
  · obtain ⟨c, r, h, hc⟩ := Lemmas.C19L.tok_head t hwf k
    refine ⟨c, r, h, ?_⟩
    rcases hc with h | ⟨h, _⟩
    · exact Or.inl h
    · exact Or.inr h
  · exact Lemmas.C19L.parseNumberOrSpecial_tok tag t hwf hcap k hk [] 0 tm

/-- (T) the YAML forms `.inf` / `.nan` in any letter case denote +∞ / NaN (a bare value); a leading sign
is a unary sign of the grammar. -/
theorem dot_special_token_value (tag : Nat) (tm : Bool) (a b c d : Nat) (k : List Nat) :
    ([a, b, c, d].map lowerByte = [46, 105, 110, 102] → TokenOk tag tm [a, b, c, d] k (.inf false, false, true)) ∧
    ([a, b, c, d].map lowerByte = [46, 110, 97, 110] → TokenOk tag tm [a, b, c, d] k (.nan, false, true)) := by
  have key : ∀ ev, (∀ pre dp, parseNumberOrSpecial tag ⟨pre, a :: b :: c :: d :: k, dp, tm⟩ =
      .ok (ev, ⟨d :: c :: b :: a :: pre, k, dp, tm⟩)) → lowerByte a = 46 → TokenOk tag tm [a, b, c, d] k ev := by
    intro ev h ha
    refine ⟨⟨a, b :: c :: d :: k, rfl, ?_⟩, [], 0, _, h [] 0⟩
    right
    unfold lowerByte at ha
    split at ha
    · rename_i hc
      simp only [Bool.and_eq_true, decide_eq_true_eq] at hc
      omega
    · exact ha
  constructor
  · intro hl
    exact key _ (fun pre dp => Lemmas.C19L.dotInf_tok tag a b c d hl k pre dp tm) (by simp at hl; exact hl.1)
  · intro hl
    exact key _ (fun pre dp => Lemmas.C19L.dotNan_tok tag a b c d hl k pre dp tm) (by simp at hl; exact hl.1)

/-- (E) `1_000.2_5e1_0` is such a token; without separators it is `1000.25e10`. -/
example : (⟨[[49], [48, 48, 48]], some [[50], [53]], some (false, none, [[49], [48]])⟩ : NumTok).render =
    "1_000.2_5e1_0".toList.map Char.toNat := by
  char_lits
  decide +kernel
example : (⟨[[49], [48, 48, 48]], some [[50], [53]], some (false, none, [[49], [48]])⟩ : NumTok).plain.render =
    "1000.25e10".toList.map Char.toNat := by decide +kernel

/-- The scalar `s` is white space, the rendering of the tree `e`, white space; all leaves are lexically
well-formed (sexagesimal forms in time mode outside unit functions, angle mode inside); nesting within
`MAX_EXPR_DEPTH`. -/
def Parses (tag : Nat) (s : List Nat) (e : Expr) : Prop := Lemmas.C19.Parses tag s e

/-- (T) `eval_eq_ast`: every scalar the evaluator accepts (any byte string, any tag) is the rendering of a
syntax tree of the grammar `expr := term (('+'|'-') term)*`, `term := unary (('*'|'/') unary)*`,
`unary := ('+'|'-')* primary`, `primary := number-like | pi|tau|inf|nan | '(' expr ')' | deg|rad '(' expr ')'`
— binary operators grouped to the LEFT at two precedence levels, sign chains applied to the primary —
and the returned value is the reference evaluation of that tree with the IEEE operations of
`Model/F64.lean`, finished by `topValue` (tag handling).  Number-like leaves (decimal numbers with
separators, `.inf`/`.nan`, sexagesimal) denote what the token scanner yields on exactly that token
(`TokenOk`); `plain_literal_unchanged_f64` pins that down for ordinary decimal literals. -/
theorem eval_eq_ast (tag : Nat) (s : List Nat) (v : Fl) (h : evalExpr tag s = .ok v) :
    ∃ e : Expr, Parses tag s e ∧ topValue tag e.eval = some v :=
  Lemmas.C19.evalExpr_sound tag s v h

/-- (T) a chain of unary signs multiplies by `1.0` flipped once per '-' … -/
theorem sign_chain_value (signs : List Bool) :
    signValue signs = if (signs.count true) % 2 = 1 then neg ONE else ONE :=
  Lemmas.C19.signFold signs ONE

/-- … (T) which on every well-formed value is IEEE negation applied (number of '-') times: `--x = x`,
`-x` flips the sign bit (also of zero and infinity). -/
theorem sign_chain_is_negation (signs : List Bool) (x : Fl) (hx : WF binary64 x) :
    mul F (signValue signs) x = if (signs.count true) % 2 = 1 then neg x else x := by
  rw [sign_chain_value]
  split
  · exact (unary_sign_exact x hx).2
  · exact (unary_sign_exact x hx).1

/-- (T) in the tree of an accepted expression every unary node is IEEE negation applied once per '-'
to the value of its primary (all values the evaluator computes are canonical, so `±1.0 * v` is exact):
`--x = x`, `-x` flips the sign bit. -/
theorem unary_minus_is_negation (tag : Nat) (tm : Bool) (ws : List Nat) (signs : List Bool) (p : Primary)
    (k : List Nat) (h : (Unary.mk ws signs p).lexOk tag tm k) :
    (Unary.mk ws signs p).eval.1 = if (signs.count true) % 2 = 1 then neg p.eval.1 else p.eval.1 :=
  Lemmas.C19.unary_value tag tm ws signs p k h

/-- (T) every value in the tree of an accepted expression is a canonical binary64 value. -/
theorem values_wellformed (tag : Nat) (tm : Bool) (e : Expr) (k : List Nat) (h : e.lexOk tag tm k) :
    WF binary64 e.eval.1 :=
  Lemmas.C19.Expr.eval_wf tag tm e k h

/-- The tag rule `topValue`, branch by branch.  A value without unit constructs is converted under `!degrees`
and only there … -/
theorem topValue_unitfree {ev : Eval} (hu : ev.2.1 = false) (tag : Nat) :
    topValue tag ev = some (if tag = TAG_DEGREES then mul F ev.1 DEG2RAD else ev.1) := by
  unfold topValue
  by_cases htag : tag = TAG_DEGREES <;> simp [hu, htag]

/-- … a unitized value beside a bare term is rejected under `!degrees`, and nothing else is … -/
theorem topValue_eq_none (tag : Nat) (ev : Eval) :
    topValue tag ev = none ↔ tag = TAG_DEGREES ∧ ev.2.1 = true ∧ ev.2.2 = true := by
  unfold topValue
  cases ev.2.1 <;> cases ev.2.2 <;> simp

/-- … and every other unitized value is left as it is. -/
theorem topValue_unit {ev : Eval} (hu : ev.2.1 = true) {tag : Nat} (h : ¬ (tag = TAG_DEGREES ∧ ev.2.2 = true)) :
    topValue tag ev = some ev.1 := by
  unfold topValue
  by_cases htag : tag = TAG_DEGREES <;> cases hb : ev.2.2 <;> simp [hu, htag, hb] at h ⊢

/-- (T) `deg_once`: in the reference evaluation `deg(e)` is `e · DEG2RAD` (one multiplication) whatever the
tag and the inner units, `rad(e)` is `e`; and for an accepted scalar the tag converts exactly when the
tree uses no unit construct at all — so a degree quantity is converted to radians exactly once:
by its `deg(..)`, or by the `!degrees` tag, never by both. -/
theorem deg_once (tag : Nat) (s : List Nat) (v : Fl) (h : evalExpr tag s = .ok v) :
    ∃ e : Expr, Parses tag s e ∧
      (e.usesUnit = false → v = if tag = TAG_DEGREES then mul F e.value DEG2RAD else e.value) ∧
      (e.usesUnit = true → v = e.value) := by
  obtain ⟨e, hp, ht⟩ := eval_eq_ast tag s v h
  refine ⟨e, hp, fun hu => ?_, fun hu => ?_⟩
  · rw [topValue_unitfree hu] at ht
    exact (Option.some.inj ht).symm
  · by_cases hm : tag = TAG_DEGREES ∧ e.eval.2.2 = true
    · rw [(topValue_eq_none tag e.eval).mpr ⟨hm.1, hu, hm.2⟩] at ht
      cases ht
    · rw [topValue_unit hu hm] at ht
      exact (Option.some.inj ht).symm

theorem deg_fn_value (ws name ws1 ws' : List Nat) (e : Expr) :
    (Primary.fn ws true name ws1 e ws').eval = (mul F e.eval.1 DEG2RAD, true, false) ∧
    (Primary.fn ws false name ws1 e ws').eval = (e.eval.1, true, false) := ⟨rfl, rfl⟩

/-- (T) `eval_complete`, the converse of `eval_eq_ast`: EVERY tree of the grammar — any nesting of the
four binary operators, sign chains, parentheses, `deg(..)`/`rad(..)`, constants and number-like tokens,
with arbitrary white space, lexically well-formed, nested no deeper than `MAX_EXPR_DEPTH` — is accepted:
on its rendering (between white space) the evaluator returns the reference IEEE evaluation of the tree,
finished by the tag rule `topValue`; the only rejection is the `ambiguous mix` error, raised exactly when
`topValue` is `none`.  Together with `eval_eq_ast`: the evaluator IS the reference evaluator on the
language of the grammar, and rejects everything outside it. -/
theorem eval_complete (tag : Nat) (s : List Nat) (e : Expr) (h : Parses tag s e) :
    evalExpr tag s = match topValue tag e.eval with
      | some v => .ok v
      | none => .err .ambiguousMix 0 :=
  Lemmas.C19.evalExpr_complete tag s e h

/-- (T) `eval_iff_ast`: the evaluator accepts a scalar with value `v` EXACTLY when the scalar is the rendering
of a tree of the grammar whose reference evaluation, finished by the tag rule, is `v` (soundness
`eval_eq_ast` + completeness `eval_complete`). -/
theorem eval_iff_ast (tag : Nat) (s : List Nat) (v : Fl) :
    evalExpr tag s = .ok v ↔ ∃ e : Expr, Parses tag s e ∧ topValue tag e.eval = some v := by
  constructor
  · exact eval_eq_ast tag s v
  · rintro ⟨e, hp, ht⟩
    have := eval_complete tag s e hp
    rw [ht] at this
    exact this

/-- (T) a scalar has only one reading: two trees of the same scalar (there can be several: white space may be
attached at different nodes, see the example below) have the same reference evaluation — the value and both
unit flags. -/
theorem parse_eval_unique (tag : Nat) (s : List Nat) (e e' : Expr) (h : Parses tag s e) (h' : Parses tag s e') :
    e.eval = e'.eval :=
  Lemmas.C19.parses_eval_unique tag s e e' h h'

/-- (T) what acceptance under `!degrees` implies: a scalar accepted under `!degrees` never mixes unit
constructs with bare terms outside them — its tree either uses no unit construct (then the tag converts)
or has no bare term outside `deg(..)`/`rad(..)`. -/
theorem mixed_units_rejected_accepted (s : List Nat) (v : Fl) (h : evalExpr TAG_DEGREES s = .ok v) :
    ∃ e : Expr, Parses TAG_DEGREES s e ∧ ¬ (e.usesUnit = true ∧ e.hasBare = true) := by
  obtain ⟨e, hp, ht⟩ := eval_eq_ast TAG_DEGREES s v h
  refine ⟨e, hp, fun ⟨hu, hb⟩ => ?_⟩
  rw [(topValue_eq_none _ e.eval).mpr ⟨rfl, hu, hb⟩] at ht
  cases ht

/-- `mixed_units_rejected`: EVERY tree under `!degrees` that uses a unit construct
(`deg(..)`, `rad(..)`, a sexagesimal form) and also has a bare number / constant outside the unit
functions is rejected, whatever the rest of the expression. -/
def mixed_units_rejected_Full : Prop :=
  ∀ (s : List Nat) (e : Expr), Parses TAG_DEGREES s e → e.usesUnit = true → e.hasBare = true →
    ∀ v, evalExpr TAG_DEGREES s ≠ .ok v

/-- (T) `mixed_units_rejected` (full): through `eval_complete` — the scalar has only the one reading. -/
theorem mixed_units_rejected : mixed_units_rejected_Full := by
  intro s e hp hu hb v hv
  rw [eval_complete TAG_DEGREES s e hp, (topValue_eq_none _ e.eval).mpr ⟨rfl, hu, hb⟩] at hv
  cases hv

/-- (T) … and the error is the dedicated one: `ambiguous mix of unitized values and Degrees tag`. -/
theorem mixed_units_error (s : List Nat) (e : Expr) (hp : Parses TAG_DEGREES s e) (hu : e.usesUnit = true)
    (hb : e.hasBare = true) : evalExpr TAG_DEGREES s = .err .ambiguousMix 0 := by
  rw [eval_complete TAG_DEGREES s e hp, (topValue_eq_none _ e.eval).mpr ⟨rfl, hu, hb⟩]

/-- (T) conversely the `ambiguous mix` rejection happens ONLY for such trees, and only under `!degrees`:
every other tree of the grammar is accepted. -/
theorem accepted_unless_mixed (tag : Nat) (s : List Nat) (e : Expr) (hp : Parses tag s e)
    (h : ¬ (tag = TAG_DEGREES ∧ e.usesUnit = true ∧ e.hasBare = true)) :
    ∃ v, evalExpr tag s = .ok v ∧ topValue tag e.eval = some v := by
  have hc := eval_complete tag s e hp
  cases ht : topValue tag e.eval with
  | some v => rw [ht] at hc; exact ⟨v, hc, rfl⟩
  | none => exact absurd ((topValue_eq_none tag e.eval).mp ht) h

/-- ASCII bytes of a string literal (for the examples) -/
def bytes (s : String) : List Nat := s.toList.map Char.toNat

instance (l : List Nat) : Decidable (IsWs l) := by unfold IsWs; infer_instance

/-- the token `90` denotes 90.0 in every context that ends it -/
theorem tok90 (tag : Nat) (tm : Bool) (k : List Nat) (hk : StopsToken k) :
    TokenOk tag tm [57, 48] k (ofNat F 90, false, true) := by
  have := number_token_value tag tm ⟨[[57, 48]], none, none⟩
    ⟨by simp [Groups.WF, isDigit], by simp, by simp,
      ⟨by simp [NumTok.plain, Groups.digits, isDigit], by simp [NumTok.plain, PlainLit.fracDigits],
       by simp [NumTok.plain, PlainLit.expDigits], by simp [NumTok.plain, Groups.digits], by simp [NumTok.plain]⟩⟩
    (by decide) k hk
  have hv : (NumTok.plain ⟨[[57, 48]], none, none⟩).value binary64 = ofNat F 90 := by decide +kernel
  rw [hv] at this
  exact this

def n90 (ws : List Nat) : Primary := .atom ws [57, 48] (ofNat F 90, false, true)
/-- the tree of `deg(90) + 90` -/
def exMixed : Expr :=
  .add (.term (.un (.mk [] [] (.fn [] true [100, 101, 103] [] (.term (.un (.mk [] [] (n90 [])))) []))))
    [32] (.un (.mk [32] [] (n90 [])))

/-- (E) the hypotheses of `eval_complete` / `mixed_units_rejected` are satisfiable: `deg(90) + 90` is a
scalar of the grammar, its tree uses a unit function and has a bare term … -/
theorem exMixed_parses (tag : Nat) : Parses tag (bytes "deg(90) + 90") exMixed := by
  refine ⟨[], [], by decide, by decide, by decide, ?_, by decide⟩
  simp only [exMixed, n90, Expr.lexOk, Term.lexOk, Unary.lexOk, Primary.lexOk, Term.render, Unary.render,
    Primary.render]
  exact ⟨⟨by decide, by decide, by decide, by decide, by decide, by decide, by decide,
    tok90 _ _ _ (by simp [StopsToken, isDigit])⟩, by decide, by decide, by decide, tok90 _ _ _ (by simp [StopsToken])⟩

example : exMixed.usesUnit = true ∧ exMixed.hasBare = true := by decide +kernel
/-- … (E) so it is rejected under `!degrees` (by the theorem, not by evaluation) and accepted otherwise. -/
example : evalExpr TAG_DEGREES (bytes "deg(90) + 90") = .err .ambiguousMix 0 :=
  mixed_units_error _ exMixed (exMixed_parses _) (by decide) (by decide)
example : ∃ v, evalExpr TAG_RADIANS (bytes "deg(90) + 90") = .ok v ∧ topValue TAG_RADIANS exMixed.eval = some v :=
  accepted_unless_mixed TAG_RADIANS _ exMixed (exMixed_parses _) (by decide)

/-- (E) a scalar can have two different trees (the blank of ` 90` belongs to the unary or to the primary);
`parse_eval_unique` says they evaluate alike. -/
example :
    Parses 0 (bytes " 90") (.term (.un (.mk [32] [] (n90 [])))) ∧
    Parses 0 (bytes " 90") (.term (.un (.mk [] [] (n90 [32])))) ∧
    Expr.term (.un (.mk [32] [] (n90 []))) ≠ Expr.term (.un (.mk [] [] (n90 [32]))) := by
  refine ⟨⟨[], [], by decide, by decide, by decide, ?_, by decide⟩,
    ⟨[], [], by decide, by decide, by decide, ?_, by decide⟩, by simp [n90]⟩
  · simp only [n90, Expr.lexOk, Term.lexOk, Unary.lexOk, Primary.lexOk]
    exact ⟨by decide, by decide, tok90 _ _ _ (by simp [StopsToken])⟩
  · simp only [n90, Expr.lexOk, Term.lexOk, Unary.lexOk, Primary.lexOk]
    exact ⟨by decide, by decide, tok90 _ _ _ (by simp [StopsToken])⟩

/-- (E) `1 + 2*(3 - 4/5)` is accepted and evaluates to 5.4 (bits of `5.4f64`). -/
example : evalExpr 0 (bytes "1 + 2*(3 - 4/5)") = .ok (ofBits binary64 0x401599999999999A) := by decide +kernel

/-- (E) `deg(180)` is π, also under the `!degrees` tag (converted exactly once). -/
example : evalExpr TAG_DEGREES (bytes "deg(180)") = .ok PI := by decide +kernel
example : evalExpr 0 (bytes "deg(180)") = .ok PI := by decide +kernel
/-- (E) mixed units under `!degrees` are rejected. -/
example : evalExpr TAG_DEGREES (bytes "deg(90) + 90") = .err .ambiguousMix 0 := by decide +kernel
set_option maxRecDepth 100000 in
/-- (E) 257 nested parentheses are rejected by the depth guard, 256 are accepted. -/
example : evalExpr 0 (List.replicate 257 40 ++ [49] ++ List.replicate 257 41) = .err .tooDeep 0 := by decide +kernel
set_option maxRecDepth 100000 in
example : evalExpr 0 (List.replicate 256 40 ++ [49] ++ List.replicate 256 41) = .ok ONE := by decide +kernel

end SaphyrVerif.Props.C19
