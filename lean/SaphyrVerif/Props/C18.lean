import SaphyrVerif.Lemmas.Lits
import SaphyrVerif.Lemmas.C18Rec
import SaphyrVerif.Lemmas.C18Tok
/-!
# C18 — validating entry points agree with plain ones and locate every failed field

Proved here, for ALL maps / paths / traversals / streams, about the model in `Model/PathMap.lean`
(tied to `src/path_map.rs`, the recorder blocks of `src/de.rs` and the loops of `src/lib.rs` by the
`pathmap` differential run): the lookup `PathMap::search`, the path recorder, the batch and iterator loops of the
validating entry points, and the isolation of the documents of a stream from each other.

Only validated at run time (oracle stream `pathmap.oracle.jsonl`), not proved: that the value returned
with a recorder equals the value returned without one (`recorder_transparent_Full`), that the locations
handed to the recorder are the use-site / definition-site of the node (`recorded_path_locations_Full`,
the C16 meaning), and everything the validation crates do (path formats of `garde` / `validator`).
-/
namespace SaphyrVerif.PathMap

variable {α : Type}

/-- **search_exact_first** (clause "every reported field path is mapped to the position …": an exact
    hit always wins).  If the queried path is a key of the map, `search` answers with that entry —
    whatever else is in the map, however many other keys would match a fuzzy pass — together with the
    path's own last segment as resolved leaf. (For the empty path the implementation returns `None`
    even on a hit — `path.leaf_string()?` — which is what `leafString p = none` gives here.) -/
theorem search_exact_first {m : Map α} (hm : KeysNodup m) {p : Path} {loc : α} (h : (p, loc) ∈ m) :
    search m p = (leafString p).map (fun leaf => (loc, leaf)) :=
  search_of_get_some ((get_eq_some_iff hm).mpr h)

/-- `search_exact_first` for a non-empty path: the answer is `some`. -/
theorem search_exact_first_nonempty {m : Map α} (hm : KeysNodup m) {p : Path} {loc : α}
    (h : (p, loc) ∈ m) (hp : p ≠ []) :
    search m p = some (loc, (p.getLast hp).name) := by
  rw [search_exact_first hm h]
  simp [leafString, List.getLast?_eq_some_getLast hp]

/-- **search_unique_or_none**, per pass: `find_unique_by` answers iff the target is non-empty and
    EXACTLY ONE entry of the map matches the comparison (and that entry has a leaf); the answer is that
    entry.  So an answer is never an arbitrary one of several candidates. -/
theorem search_unique_or_none (m : Map α) (t : Path) (f : Path → Path → Bool) (loc : α) (leaf : List Char) :
    findUniqueBy m t f = some (loc, leaf) ↔
      t ≠ [] ∧ ∃ c, candidates m t f = [(c, loc)] ∧ leafString c = some leaf := by
  rw [findUniqueBy_eq_spec]
  unfold findUniqueSpec
  by_cases ht : t = []
  · simp [ht]
  · simp only [ht, if_false, ne_eq, not_false_eq_true, true_and]
    exact uniqueOf_eq_some

/-- **search_unique_or_none**, ambiguity half: with two or more candidates a pass yields nothing. -/
theorem search_unique_or_none_ambiguous (m : Map α) (t : Path) (f : Path → Path → Bool)
    (h : 2 ≤ (candidates m t f).length) : findUniqueBy m t f = none := by
  rw [findUniqueBy_eq_spec]
  unfold findUniqueSpec
  split
  · rfl
  · exact uniqueOf_of_length_ne_one _ (by omega)

/-- the loop of `find_unique_by` computes the loop-free specification -/
theorem find_unique_eq_spec (m : Map α) (t : Path) (f : Path → Path → Bool) :
    findUniqueBy m t f = findUniqueSpec m t f := findUniqueBy_eq_spec m t f

/-- what `search` answers, exactly: the exact entry with the path's own leaf, or — when the exact key is
    absent — the unique candidate of the first pass that has exactly one -/
theorem search_eq_some_iff {m : Map α} {p : Path} {loc : α} {leaf : List Char} :
    search m p = some (loc, leaf) ↔
    (get m p = some loc ∧ leafString p = some leaf) ∨
    (get m p = none ∧ p ≠ [] ∧ ∃ pre f post c, passes = pre ++ f :: post ∧
        (∀ g ∈ pre, findUniqueBy m p g = none) ∧
        candidates m p f = [(c, loc)] ∧ leafString c = some leaf) := by
  cases hg : get m p with
  | some l =>
    rw [search_of_get_some hg, Option.map_eq_some_iff]
    simp only [Prod.mk.injEq, Option.some.injEq, reduceCtorEq, false_and, or_false]
    constructor
    · rintro ⟨a, h, rfl, rfl⟩
      exact ⟨rfl, h⟩
    · rintro ⟨rfl, h⟩
      exact ⟨leaf, h, rfl, rfl⟩
  | none =>
    rw [search_of_get_none hg, firstPass_eq_findSome, List.findSome?_eq_some_iff]
    simp only [search_unique_or_none, reduceCtorEq, false_and, false_or, true_and]
    constructor
    · rintro ⟨pre, f, post, h1, ⟨hne, c, hc⟩, h2⟩
      exact ⟨hne, pre, f, post, c, h1, h2, hc⟩
    · rintro ⟨hne, pre, f, post, c, h1, h2, hc⟩
      exact ⟨pre, f, post, h1, ⟨hne, c, hc⟩, h2⟩

/-- **search_unique_or_none**, whole `search`: every answer is justified.  Either it is the exact
    entry, or the exact key is absent and the answer is the UNIQUE candidate of the first pass (in the
    order case-insensitive, token sequence, collapsed, key-to-index) that has exactly one candidate;
    all earlier passes yielded nothing. -/
theorem search_answer_is_justified {m : Map α} {p : Path} {loc : α} {leaf : List Char}
    (h : search m p = some (loc, leaf)) :
    (get m p = some loc ∧ leafString p = some leaf) ∨
    (get m p = none ∧ p ≠ [] ∧ ∃ pre f post c, passes = pre ++ f :: post ∧
        (∀ g ∈ pre, findUniqueBy m p g = none) ∧
        candidates m p f = [(c, loc)] ∧ leafString c = some leaf) :=
  search_eq_some_iff.mp h

/-- every answer of `search` is an entry of the map (no invented locations) -/
theorem search_answer_mem {m : Map α} {p : Path} {loc : α} {leaf : List Char}
    (hm : KeysNodup m) (h : search m p = some (loc, leaf)) :
    ∃ c, (c, loc) ∈ m ∧ leafString c = some leaf := by
  rcases search_answer_is_justified h with ⟨h1, h2⟩ | ⟨_, _, pre, f, post, c, _, _, h3, h4⟩
  · exact ⟨p, (get_eq_some_iff hm).mp h1, h2⟩
  · refine ⟨c, ?_, h4⟩
    have : (c, loc) ∈ candidates m p f := by rw [h3]; simp
    exact (List.mem_filter.mp this).1

/-- **find_unique_order_independent**: the result of a fuzzy pass is invariant under ANY permutation of
    the map's entries — the hash iteration order (`self.map.iter()`) is unobservable. -/
theorem find_unique_order_independent {m m' : Map α} (h : m.Perm m') (t : Path) (f : Path → Path → Bool) :
    findUniqueBy m t f = findUniqueBy m' t f := findUniqueBy_perm h t f

/-- **search_order_independent**: the whole `search` is invariant under permutation of the entries
    (for the direct lookup this needs what a `HashMap` guarantees: distinct keys). -/
theorem search_order_independent {m m' : Map α} (h : m.Perm m') (hm : KeysNodup m) (p : Path) :
    search m p = search m' p := by
  unfold search
  rw [get_perm h hm p, firstPass_perm h p passes]

/-- **search_total**: the outcomes of `search` are "nothing" or the location of an entry of the map with the
    leaf of that entry's key (`search_answer_mem` as a case distinction). That `search` always returns and
    has no panic outcome is not part of this statement: it is the type of the model function (the loop and
    the tokenizer are structural recursions); the index expressions of the tokenizer (`chars[i-1]`,
    `chars[i]`, `chars[start..i]`) are the subject of `tokenize_no_index_panic`. -/
theorem search_total (m : Map α) (hm : KeysNodup m) (p : Path) :
    search m p = none ∨ ∃ c loc leaf, search m p = some (loc, leaf) ∧ (c, loc) ∈ m ∧ leafString c = some leaf := by
  cases h : search m p with
  | none => exact Or.inl rfl
  | some r =>
    obtain ⟨loc, leaf⟩ := r
    obtain ⟨c, h1, h2⟩ := search_answer_mem hm h
    exact Or.inr ⟨c, loc, leaf, rfl, h1, h2⟩

/-- **search_total**, indexing half: the index-faithful transcription of the inner loop of
    `tokenize_segment` (`chars[i - 1]`, `chars[i]`, `chars.get(i + 1)`, `chars[start..i]`,
    `chars[start..]` as explicit bounds-checked operations, `none` = panic) never hits an out-of-range
    index and returns exactly what the structural `tokenizePiece` used by `search` returns. -/
theorem tokenize_no_index_panic (cs : List Char) : tokenizePieceIdx cs = some (tokenizePiece cs) := by
  unfold tokenizePieceIdx
  cases cs with
  | nil => rfl
  | cons c rest =>
    rw [List.isEmpty_cons, if_neg Bool.false_ne_true, List.length_cons, Nat.add_sub_cancel,
      loop_inv (c :: rest) rest.length 0 0 [] (Nat.add_comm 1 _) (Nat.le_refl 0)]
    rfl

/-- maps built by `insert` from the empty map (all the code ever does) satisfy the `HashMap` invariant -/
theorem insert_keeps_invariant {m : Map α} (hm : KeysNodup m) (p : Path) (v : α) : KeysNodup (insert m p v) :=
  insert_keysNodup hm p v

theorem searchAncestors_eq_some {m : Map α} :
    ∀ (n : Nat) (p : Path) (loc : α), searchAncestors m n p = some loc →
      ∃ q leaf, q <+: p ∧ search m q = some (loc, leaf)
  | 0, p, loc, h => by
    rw [searchAncestors, Option.map_eq_some_iff] at h
    obtain ⟨⟨_, leaf⟩, hs, rfl⟩ := h
    exact ⟨p, leaf, List.prefix_refl p, hs⟩
  | n + 1, p, loc, h => by
    rw [searchAncestors] at h
    cases hs : search m p with
    | some r =>
      rw [hs] at h
      cases h
      exact ⟨p, r.2, List.prefix_refl p, hs⟩
    | none =>
      rw [hs] at h
      cases p with
      | nil => cases h
      | cons s p =>
        obtain ⟨q, leaf, hq, hs⟩ := searchAncestors_eq_some n _ loc h
        exact ⟨q, leaf, hq.trans (List.dropLast_prefix _), hs⟩

/-- the ancestor fallback of `Error::locations()` only ever returns entries of the map -/
theorem ancestor_fallback_mem {m : Map α} (hm : KeysNodup m) :
    ∀ (n : Nat) (p : Path) (loc : α), searchAncestors m n p = some loc → ∃ c, (c, loc) ∈ m
  | n, p, loc, h => by
    obtain ⟨_, _, _, hs⟩ := searchAncestors_eq_some n p loc h
    obtain ⟨c, hc, _⟩ := search_answer_mem hm hs
    exact ⟨c, hc⟩

/-- `recorder_balanced` for the element loop and the entry loop -/
theorem recorder_balanced_items (items : List (α × Visit α)) (idx : Nat) (r : Recorder α) :
    (recordItems items idx r).2.current = r.current :=
  (recordItems_post items idx r).current

theorem recorder_balanced_entries (es : List (Option (List Char) × α × Visit α)) (r : Recorder α) :
    (recordEntries es r).2.current = r.current :=
  (recordEntries_post es r).current

/-- **recorder_balanced**: after a sub-deserialization (element, mapping value, whole node) the current
    path is what it was before — also when the sub-deserialization failed (`recorder.current = prev`
    is executed before `return res`). -/
theorem recorder_balanced (v : Visit α) (r : Recorder α) : (record v r).2.current = r.current :=
  (record_post v r).current

/-- **recorded_paths_are_tree_paths**: every entry the recorder adds is `(current ++ q, locs)` where
    `q` is the tree path of a position of the traversal and `locs` are the locations handed over at
    that position — never a stale or shifted path (success or failure of the traversal). -/
theorem recorded_paths_are_tree_paths (v : Visit α) (r : Recorder α) :
    ∀ e ∈ (record v r).2.map, e ∈ r.map ∨ ∃ q, e.1 = r.current ++ q ∧ (q, e.2) ∈ positions v :=
  (record_post v r).added

/-- a whole document (`PathRecorder::new()`): every recorded entry is a position of the tree -/
theorem recorded_paths_are_tree_paths_doc (v : Visit α) :
    ∀ e ∈ (record v { current := [], map := [] }).2.map, e ∈ positions v := by
  intro e he
  rcases (record_post v _).added e he with h | ⟨q, h1, h2⟩
  · simp at h
  · simp only [List.nil_append] at h1
    rw [← h1] at h2
    exact h2

/-- **recorded_paths_complete**: when the traversal succeeds, every position the target type consumes
    (and the recorder can see) has its path in the map, so an exact lookup of a validation path that
    spells the YAML keys cannot miss. `Consistent v` — no tree path is both consumed and handed to
    `IgnoredAny` — is what Serde guarantees (it decides by the key text); without it a later ignored
    value could forget the entry of an earlier consumed one with the same path. The location stored is
    that of the LAST position with this path (merges), see `recorded_paths_are_tree_paths`. -/
theorem recorded_paths_complete (v : Visit α) (r : Recorder α) (hok : (record v r).1 = true)
    (hcons : Consistent v) :
    ∀ q ∈ (positions v).map (·.1), r.current ++ q ∈ (record v r).2.map.map (·.1) :=
  fun q hq => (record_post v r).complete hok q hq (hcons q hq)

/-- **ignored_values_leave_no_entry**: right after a value was handed to `IgnoredAny`, the map has no
    entry under its path — whatever was inserted for it by the enclosing mapping / sequence access (or
    was there before) is forgotten, and nothing below it is recorded. -/
theorem ignored_values_leave_no_entry (w : Visit α) (r : Recorder α) :
    r.current ∉ (record (.ignored w) r).2.map.map (·.1) ∧
    ∀ e ∈ (record (.ignored w) r).2.map, e ∈ r.map := by
  constructor
  · intro h
    obtain ⟨e, he, hcur⟩ := List.mem_map.mp h
    exact ignored_removes (v := .ignored w) rfl r e he hcur
  · intro e he
    rcases (record_post (.ignored w) r).added e he with h | ⟨q, _, h2⟩
    · exact h
    · simp [positions] at h2

/-- **search_answers_consumed_position** (repaired behaviour behind the former decoy-key findings): on
    the map recorded for a whole document, every answer of `search` — exact or fuzzy — is the location
    of a position the target type CONSUMED. A key Serde ignored (unknown field, however it is spelt)
    can neither win the exact pass nor be the unique candidate of a fuzzy pass, because it is not in
    the map (`recorded_paths_are_tree_paths_doc`: `positions` excludes ignored values). -/
theorem search_answers_consumed_position (v : Visit α) (p : Path) (loc : α) (leaf : List Char)
    (h : search (record v { current := [], map := [] }).2.map p = some (loc, leaf)) :
    ∃ c, (c, loc) ∈ positions v ∧ leafString c = some leaf := by
  have hm : KeysNodup (record v { current := [], map := ([] : Map α) }).2.map :=
    (record_post v _).nodup (by simp [KeysNodup])
  obtain ⟨c, hc, hl⟩ := search_answer_mem hm h
  exact ⟨c, recorded_paths_are_tree_paths_doc v (c, loc) hc, hl⟩

/-- the recorder keeps the `HashMap` invariant, so the lookup theorems apply to what it produces -/
theorem recorder_keeps_map_invariant (v : Visit α) (r : Recorder α) (h : KeysNodup r.map) :
    KeysNodup (record v r).2.map := (record_post v r).nodup h

/-- **recorder_transparent** (partial): whether the traversal succeeds does not depend on the recorder
    state. MISSING for the full statement: the model does not carry the deserialized value, so
    "the value with a recorder equals the value without" is validated by the oracle stream only. -/
theorem recorder_transparent_partial (v : Visit α) (r : Recorder α) : (record v r).1 = v.succeeds :=
  (record_post v r).fst

/-- full statement, about the implementation's two deserializers (parameters here: the model does not
    carry values, so this is not provable on it; validated by the oracle stream): deserializing with a
    recorder returns what deserializing without one returns. -/
def recorder_transparent_Full (Val : Type) (deserPlain : Visit α → Option Val)
    (deserRecording : Visit α → Recorder α → Option Val × Recorder α) : Prop :=
  ∀ (v : Visit α) (r : Recorder α), (deserRecording v r).1 = deserPlain v

/-- full statement of DESIGN's `recorded_path_locations` (needs the C16 location model of the pump, which
    is a parameter here; validated by the oracle stream): the locations stored for a path are the
    use-site and the definition-site of the node at that path. -/
def recorded_path_locations_Full (useSite defSite : Visit (Nat × Nat) → Path → Option Nat) : Prop :=
  ∀ (v : Visit (Nat × Nat)), ∀ e ∈ (record v { current := [], map := [] }).2.map,
    useSite v e.1 = some e.2.1 ∧ defSite v e.1 = some e.2.2

variable {V E R : Type}

theorem multiValid_char (ds : List (Doc V E R)) :
    ∀ (vs : List V) (es : List R), (∀ d ∈ ds, d.isDeErr = false) →
      multiValid ds vs es =
        if (es ++ reports ds).isEmpty then .ok (vs ++ passing ds) else .invalid (es ++ reports ds) := by
  induction ds with
  | nil =>
    intro vs es _
    rw [multiValid, reports, passing, List.append_nil, List.append_nil]
  | cons d ds ih =>
    intro vs es h
    have ih := fun vs es => ih vs es (fun d hd => h d (List.mem_cons_of_mem _ hd))
    cases d with
    | skip => exact ih vs es
    | deErr e => cases h (.deErr e) List.mem_cons_self
    | value v rep =>
      cases rep with
      | none =>
        rw [multiValid, ih, List.append_assoc]
        rfl
      | some r =>
        rw [multiValid, ih, List.append_assoc]
        rfl

/-- **multi_reports_every_failing_doc**: when every document of the stream deserializes, the batch
    function returns `Ok` with all values iff no validation failed, and otherwise an aggregate error
    with one entry per failing document, in document order — every one of them, not only the first. -/
theorem multi_reports_every_failing_doc (ds : List (Doc V E R)) (h : ∀ d ∈ ds, d.isDeErr = false) :
    multiValid ds [] [] = if (reports ds).isEmpty then .ok (passing ds) else .invalid (reports ds) := by
  simpa using multiValid_char ds [] [] h

/-- the aggregate has exactly as many entries as there are failing documents -/
theorem reports_length (ds : List (Doc V E R)) : (reports ds).length = failingCount ds := by
  induction ds with
  | nil => rfl
  | cons d ds ih =>
    -- both sides compute on the head document
    cases d with
    | skip => exact ih
    | deErr e => exact ih
    | value v rep =>
      cases rep with
      | none => exact ih
      | some r => exact congrArg (· + 1) ih

theorem multiValid_eq_plain_acc :
    ∀ (ds : List (Doc V E R)) (vs : List V), (∀ d ∈ ds, d.passes = true) →
      multiValid ds vs [] = multiPlain ds vs
  | [], vs, _ => rfl
  | .skip :: ds, vs, h => multiValid_eq_plain_acc ds vs (fun d hd => h d (List.mem_cons_of_mem _ hd))
  | .deErr e :: ds, vs, _ => rfl
  | .value v none :: ds, vs, h => multiValid_eq_plain_acc ds _ (fun d hd => h d (List.mem_cons_of_mem _ hd))
  | .value v (some r) :: ds, vs, h => by cases h (.value v (some r)) List.mem_cons_self

/-- **valid_eq_plain_when_passing** (stream form): if no document fails validation, the validated batch
    function returns exactly what the plain one returns — values and deserialization errors alike. -/
theorem valid_eq_plain_when_passing (ds : List (Doc V E R)) (h : ∀ d ∈ ds, d.passes = true) :
    multiValid ds [] [] = multiPlain ds [] := multiValid_eq_plain_acc ds [] h

/-- **valid_eq_plain_when_passing** (iterator form) -/
theorem iter_valid_eq_plain_when_passing :
    ∀ (ds : List (Doc V E R × Bool)), (∀ d ∈ ds, d.1.passes = true) → iterValid ds = iterPlain ds
  | [], _ => rfl
  | (.skip, b) :: ds, h => iter_valid_eq_plain_when_passing ds (fun d hd => h d (List.mem_cons_of_mem _ hd))
  | (.deErr e, b) :: ds, h =>
    congrArg (fun t => Item.err e :: if b then t else [])
      (iter_valid_eq_plain_when_passing ds (fun d hd => h d (List.mem_cons_of_mem _ hd)))
  | (.value v none, b) :: ds, h =>
    congrArg (Item.ok v :: ·) (iter_valid_eq_plain_when_passing ds (fun d hd => h d (List.mem_cons_of_mem _ hd)))
  | (.value v (some r), b) :: ds, h => by cases h (.value v (some r), b) List.mem_cons_self

/-- the item a document contributes to the validated iterator -/
def itemOf : Doc V E R → Option (Item V E R)
  | .skip => none
  | .deErr e => some (.err e)
  | .value v none => some (.ok v)
  | .value _ (some r) => some (.invalid r)

/-- **multi_reports_every_failing_doc** (iterator form): as long as the iterator can recover after
    deserialization errors, it yields one item per non-null document, and a validation failure never
    ends or skips the iteration: every failing document is reported. -/
theorem iter_reports_every_failing_doc :
    ∀ (ds : List (Doc V E R × Bool)), (∀ d ∈ ds, d.1.isDeErr = true → d.2 = true) →
      iterValid ds = ds.filterMap (fun d => itemOf d.1)
  | [], _ => rfl
  | (.skip, b) :: ds, h => iter_reports_every_failing_doc ds (fun d hd => h d (List.mem_cons_of_mem _ hd))
  | (.deErr e, b) :: ds, h => by
    have hb : b = true := h (.deErr e, b) List.mem_cons_self rfl
    subst hb
    exact congrArg (Item.err e :: ·) (iter_reports_every_failing_doc ds (fun d hd => h d (List.mem_cons_of_mem _ hd)))
  | (.value v none, b) :: ds, h =>
    congrArg (Item.ok v :: ·) (iter_reports_every_failing_doc ds (fun d hd => h d (List.mem_cons_of_mem _ hd)))
  | (.value v (some r), b) :: ds, h =>
    congrArg (Item.invalid r :: ·) (iter_reports_every_failing_doc ds (fun d hd => h d (List.mem_cons_of_mem _ hd)))

/-- what the batch loop does when a LATER document fails to deserialize: the validation reports
    collected so far are dropped and only the deserialization error is returned (`return Err(..)` inside
    the loop).  Stated so that the limit of `multi_reports_every_failing_doc`'s hypothesis is explicit. -/
theorem multi_deser_error_drops_reports (v : V) (r : R) (e : E) :
    multiValid [Doc.value v (some r), Doc.deErr e] [] [] = (Batch.err e : Batch V E R) := rfl

/-- **multi_document_isolation** (batch loop): whatever recorder object is left over from earlier
    iterations (`stale`, arbitrary), the validating batch function computes exactly the abstract loop
    over `DocR.alone` — each document's contribution (its value, or its report together with the
    location map) is a function of that document alone. In particular the map handed to the error of
    document i is `docMap` of document i's traversal: a fresh recorder, nothing from documents < i. -/
theorem multi_document_isolation {P : Type} :
    ∀ (ds : List (DocR α V E P)) (stale : Recorder α) (vs : List V) (es : List (P × Map α)),
      multiValidRec ds stale vs es = multiValid (ds.map DocR.alone) vs es
  | [], _, _, _ => rfl
  | .skip :: ds, stale, vs, es => multi_document_isolation ds stale vs es
  | .deErr _ :: _, _, _, _ => rfl
  | .value _ _ none :: ds, _, _, _ => multi_document_isolation ds _ _ _
  | .value _ _ (some _) :: ds, _, _, _ => multi_document_isolation ds _ _ _

/-- the result does not depend on the recorder state the loop is entered with -/
theorem multi_independent_of_stale_recorder {P : Type} (ds : List (DocR α V E P)) (r r' : Recorder α) :
    multiValidRec ds r [] [] = multiValidRec ds r' [] [] := by
  rw [multi_document_isolation, multi_document_isolation]

/-- **multi_document_isolation** (iterator loop) -/
theorem iter_document_isolation {P : Type} :
    ∀ (ds : List (DocR α V E P × Bool)) (stale : Recorder α),
      iterValidRec ds stale = iterValid (ds.map fun d => (d.1.alone, d.2))
  | [], _ => rfl
  | (.skip, _) :: ds, stale => iter_document_isolation ds stale
  | (.deErr e, b) :: ds, stale =>
    congrArg (fun t => Item.err e :: if b then t else []) (iter_document_isolation ds stale)
  | (.value v _ none, _) :: ds, _ => congrArg (Item.ok v :: ·) (iter_document_isolation ds _)
  | (.value _ visit (some p), _) :: ds, _ =>
    congrArg (Item.invalid (p, docMap visit) :: ·) (iter_document_isolation ds _)

theorem mem_reports {r : R} : ∀ {ds : List (Doc V E R)}, r ∈ reports ds ↔ ∃ v, Doc.value v (some r) ∈ ds
  | [] => by simp [reports]
  | .skip :: ds => by simp [reports, mem_reports (ds := ds)]
  | .deErr _ :: ds => by simp [reports, mem_reports (ds := ds)]
  | .value _ none :: ds => by simp [reports, mem_reports (ds := ds)]
  | .value _ (some _) :: ds => by simp [reports, mem_reports (ds := ds), exists_or]

/-- every `(report, locations)` entry of the aggregate belongs to ONE document of the stream, and its
    map contains only positions of that document's own traversal -/
theorem multi_report_map_within_document {P : Type} :
    ∀ (ds : List (DocR α V E P)) (p : P) (m : Map α), (p, m) ∈ reports (ds.map DocR.alone) →
      ∃ v visit, DocR.value v visit (some p) ∈ ds ∧ m = docMap visit ∧ ∀ e ∈ m, e ∈ positions visit
  | ds, p, m, h => by
    obtain ⟨v, hv⟩ := mem_reports.mp h
    obtain ⟨d, hd, he⟩ := List.mem_map.mp hv
    -- `alone` gives a failing document only for a failing document, and then with that document's own map
    cases d with
    | skip => cases he
    | deErr e => cases he
    | value v' visit rep =>
      cases rep with
      | none => cases he
      | some q =>
        cases he
        exact ⟨v, visit, hd, rfl, recorded_paths_are_tree_paths_doc visit⟩

/-- batch form used by the oracle: when every document deserializes, the aggregate lists, for each
    failing document in order, its report with the map of that document alone -/
theorem multi_reports_with_own_maps {P : Type} (ds : List (DocR α V E P)) (stale : Recorder α)
    (h : ∀ d ∈ ds, d.alone.isDeErr = false) :
    multiValidRec ds stale [] [] =
      if (reports (ds.map DocR.alone)).isEmpty then .ok (passing (ds.map DocR.alone))
      else .invalid (reports (ds.map DocR.alone)) := by
  rw [multi_document_isolation]
  apply multi_reports_every_failing_doc
  intro d hd
  obtain ⟨d', hd', rfl⟩ := List.mem_map.mp hd
  exact h d' hd'

/-- what the isolation theorems exclude: the same loop with ONE recorder created before the loop whose
    map is swapped out only when a document fails. -/
private def multiValidShared {P : Type} :
    List (DocR α V E P) → Recorder α → List V → List (P × Map α) → Batch V E (P × Map α)
  | [], _, values, errs => if errs.isEmpty then .ok values else .invalid errs
  | .skip :: ds, rec, values, errs => multiValidShared ds rec values errs
  | .deErr e :: _, _, _, _ => .err e
  | .value v visit report :: ds, rec, values, errs =>
    let recorder := (record visit rec).2
    match report with
    | none => multiValidShared ds recorder (values ++ [v]) errs
    | some p => multiValidShared ds { recorder with map := [] } values (errs ++ [(p, recorder.map)])

section Examples

private def K (s : String) : Seg := ⟨.key, s.toList⟩
private def I (s : String) : Seg := ⟨.index, s.toList⟩

/-- exact hit wins although two other keys match the case-insensitive pass -/
example : search [([K "AB"], 1), ([K "ab"], 2), ([K "Ab"], 3)] [K "ab"] = some (2, "ab".toList) := by
  char_lits
  decide +kernel
/-- case-insensitive pass, unique -/
example : search [([K "opwKinematics", K "a1"], 7)] [K "OPWKINEMATICS", K "A1"] = some (7, "a1".toList) := by
  char_lits
  decide +kernel
/-- case-insensitive pass ambiguous → falls through every pass → none -/
example : search [([K "FOO"], 1), ([K "foo"], 2)] [K "Foo"] = none := by decide +kernel
/-- token pass bridges snake_case and camelCase; the resolved leaf is the YAML spelling -/
example : search [([K "userId"], 5)] [K "user_id"] = some (5, "userId".toList) := by
  char_lits
  decide +kernel
example : tokenizeSegment "HTTPServer2Go".toList = ["http".toList, "server".toList, "2".toList, "go".toList] := by
  char_lits
  decide +kernel
/-- token pass separates what the collapsed pass would confuse -/
example : search [([K "ab_c"], 1), ([K "a_bc"], 2)] [K "abC"] = some (1, "ab_c".toList) := by
  char_lits
  decide +kernel
/-- collapsed pass ambiguous → none (never an arbitrary one of the two) -/
example : search [([K "ab_c"], 1), ([K "a_bc"], 2)] [K "abc"] = none := by decide +kernel
/-- the same with the entries swapped: same answer -/
example : search [([K "a_bc"], 2), ([K "ab_c"], 1)] [K "abc"] = none := by decide +kernel
example : tokenizePieceIdx "HTTPServer2Go".toList = some ["http".toList, "server".toList, "2".toList, "go".toList] := by
  char_lits
  decide +kernel
/-- raw identifier prefix -/
example : search [([K "type"], 9)] [K "r#type"] = some (9, "type".toList) := by
  char_lits
  decide +kernel
/-- key-to-index fallback (last pass) -/
example : search [([K "items", I "2", K "name"], 4)] [K "items", K "k", K "name"] = some (4, "name".toList) := by
  char_lits
  decide +kernel
/-- the root container is recorded under the empty path, but a lookup of the empty path answers none -/
example : search [(([] : Path), 1)] [] = none := by decide +kernel
/-- hypotheses of `search_exact_first` are satisfiable on a map with fuzzy competitors -/
example : KeysNodup [([K "AB"], 1), ([K "ab"], 2)] ∧ ([K "ab"], 2) ∈ [([K "AB"], 1), ([K "ab"], 2)] := by
  unfold KeysNodup; decide +kernel
/-- a pass with two candidates (hypothesis of `search_unique_or_none_ambiguous`) -/
example : (candidates [([K "FOO"], 1), ([K "foo"], 2)] [K "Foo"] (pathMatch segEqCI)).length = 2 := by decide +kernel

/-- recorder on `{a: [x, y], b: {c: z}}` where `y` fails: map entries and restored path -/
private def demo : Visit Nat :=
  .map 100 [(some "a".toList, 1, .seq [(2, .leaf true), (3, .leaf false)]),
            (some "b".toList, 4, .map 5 [(some "c".toList, 6, .leaf true)])]

example : (record demo { current := [], map := [] }).1 = false := by decide +kernel
example : (record demo { current := [], map := [] }).2.current = [] := by decide +kernel
example : (record demo { current := [], map := [] }).2.map =
    [([], 100), ([K "a"], 1), ([K "a", I "0"], 2), ([K "a", I "1"], 3)] := by decide +kernel
example : positions demo =
    [([], 100), ([K "a"], 1), ([K "a", I "0"], 2), ([K "a", I "1"], 3), ([K "b"], 4), ([K "b"], 5), ([K "b", K "c"], 6)] := by
  decide +kernel

/-- `{defs: {x: 1}, a: 2}` where `defs` is not a field: neither `defs` nor `defs.x` is recorded -/
private def demoIgnored : Visit Nat :=
  .map 100 [(some "defs".toList, 1, .ignored (.map 1 [(some "x".toList, 2, .leaf true)])),
            (some "a".toList, 3, .leaf true)]

example : (record demoIgnored { current := [], map := [] }).2.map = [([], 100), ([K "a"], 3)] := by decide +kernel
example : positions demoIgnored = [([], 100), ([K "a"], 3)] := by decide +kernel
example : ignoredAt demoIgnored = [[K "defs"]] := by decide +kernel
/-- hypothesis of `recorded_paths_complete` is satisfiable on a traversal with an ignored value -/
example : Consistent demoIgnored := by unfold Consistent; decide +kernel

/-- document isolation on `display_name: fine` / `---` / `displayName: x`: the second document's map has
    only its own key; with a shared recorder it would also hold the first document's `display_name` -/
private def isoStream : List (DocR Nat Nat Unit String) :=
  [.value 1 (.map 10 [(some "display_name".toList, 11, .leaf true)]) none,
   .value 2 (.map 30 [(some "displayName".toList, 31, .leaf true)]) (some "display_name too short")]

example : multiValidRec isoStream Recorder.new [] [] =
    .invalid [("display_name too short", [([], 30), ([K "displayName"], 31)])] := rfl
example : multiValidShared isoStream Recorder.new [] [] =
    .invalid [("display_name too short", [([], 30), ([K "display_name"], 11), ([K "displayName"], 31)])] := rfl
/-- … and the stale entry would win the exact pass for the reported path `display_name` -/
example : search [(([] : Path), 30), ([K "display_name"], 11), ([K "displayName"], 31)] [K "display_name"]
    = some (11, "display_name".toList) := by
  decide +kernel
example : search [(([] : Path), 30), ([K "displayName"], 31)] [K "display_name"]
    = some (31, "displayName".toList) := by
  char_lits
  decide +kernel

/-- a stream with two failing documents out of four: both are reported, in order -/
example : multiValid [Doc.value 1 none, .value 2 (some "r2"), .skip, .value 3 (some "r3"), .value 4 none] [] []
    = (Batch.invalid ["r2", "r3"] : Batch Nat Unit String) := rfl
example : multiValid [Doc.value 1 none, .skip, .value 4 none] [] []
    = (multiPlain [Doc.value 1 none, .skip, .value 4 none] [] : Batch Nat Unit String) := rfl

end Examples

end SaphyrVerif.PathMap
