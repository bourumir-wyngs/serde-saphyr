import SaphyrVerif.Lemmas.Lits
import SaphyrVerif.Spec.Snippet
import SaphyrVerif.Lemmas.C17Sanitize
import SaphyrVerif.Lemmas.C17Source
import SaphyrVerif.Lemmas.C17Ring
import SaphyrVerif.Lemmas.C17Prepare
import SaphyrVerif.Lemmas.C17Render
import SaphyrVerif.Lemmas.C17Aligned
import SaphyrVerif.Lemmas.C17Breaks
import SaphyrVerif.Lemmas.C17Yaml
import SaphyrVerif.Lemmas.C17Compose
/-!
# C17 — rendered error reports are terminal-safe, cropped and show the right line

Property theorems for the models of `src/de/snippet.rs`, the region bookkeeping of `src/de_error.rs`
and the recent-bytes trimming of `src/ring_reader.rs` (Model/Snippet.lean).
Helper lemmas live in `SaphyrVerif/Lemmas/C17*.lean`.
-/
namespace SaphyrVerif.Props.C17
open SaphyrVerif SaphyrVerif.Snippet
open SaphyrVerif.Spec.Snippet (isControl sanitizeChar clean takeRows dropRows row shownLines visibleLine
  yamlLines yamlLine IsYamlPosition endsLineAt linesEndedBefore)

/-- (T) `sanitize_utf8`: the byte-level sanitiser (two loops over the raw bytes, then
`String::from_utf8`) never produces invalid UTF-8 — the lossy fallback is unreachable — and is exactly
the character-level specification: C0 (except `\n`, `\t`) and DEL become a space, C1 becomes NBSP,
every other character is kept. For ALL texts. -/
theorem sanitize_utf8 (s : List Char) : sanitize s = .ok (Spec.Snippet.sanitize s) :=
  Lemmas.C17.sanitize_eq s

/-- (T) `sanitize_clean`: the sanitised text contains no C0 (other than `\n`, `\t`), DEL or C1
character, whatever the input contained. -/
theorem sanitize_clean (s r : List Char) (h : sanitize s = .ok r) : clean r = true := by
  rw [sanitize_utf8] at h
  cases h
  exact Lemmas.C17.sanitize_spec_clean s

/-- (T) `sanitize_len`: sanitising never lengthens (or shortens) the text: every character keeps
its UTF-8 length, so every byte offset / character boundary of the input is one of the output
(this is what keeps annotation spans valid). -/
theorem sanitize_len (s r : List Char) (h : sanitize s = .ok r) :
    r.map utf8LenChar = s.map utf8LenChar ∧ r.length = s.length ∧ utf8Len r = utf8Len s := by
  rw [sanitize_utf8] at h
  cases h
  exact ⟨Lemmas.C17.sanitize_map_len s, by simp [Spec.Snippet.sanitize], Lemmas.C17.sanitize_blen s⟩

/-- (T) `clean_iff`: the byte-level scan `is_terminal_snippet_clean` decides exactly "no C0 (other than
`\n`, `\t`), DEL, C1 character". -/
theorem clean_iff (s : List Char) : isClean s = true ↔ ∀ c ∈ s, isControl c = false := by
  rw [Lemmas.C17.isClean_eq]
  exact Lemmas.C17.clean_iff_forall s

/-- (T) a clean text is left untouched (so the fast path of `crop_window_text` is sound). -/
theorem sanitize_id_of_clean (s : List Char) (h : isClean s = true) : sanitize s = .ok s := by
  rw [sanitize_utf8, Lemmas.C17.sanitize_of_clean s (by rw [← Lemmas.C17.isClean_eq]; exact h)]

/-- (E) non-vacuity: a text with ESC, DEL, a C1 CSI, CR, a tab and a 4-byte character -/
example : sanitize "a\x1b[31m\x7f\u009b\r\tz😀\n".toList = .ok "a [31m   \tz😀\n".toList := by
  rw [sanitize_utf8]
  char_lits
  decide +kernel

example : isClean "a\x1b".toList = false ∧ isClean "ok\n\t é".toList = true := by
  char_lits
  decide +kernel

/-! Hypotheses `… ≤ usizeMax` say that a length / column is a `usize` value at all (they hold for every
Rust value; lengths are in fact bounded by `isize::MAX`). -/

/-- (T) `crop_line_by_cols_safe` (also the snippet part of C01): for every line and every column
window with `left ≤ right + 1` (saturating) the slice `&line[start_byte..end_byte]` is in range and on
character boundaries — the model never reaches the panic outcome. -/
theorem crop_line_by_cols_safe (line : List Char) (left right : Nat) (hn : line.length + 1 ≤ usizeMax)
    (hlr : left ≤ satAdd right 1) : ∃ r, cropLineByCols line left right = .ok r :=
  Lemmas.C17.cropLine_safe line left right hn hlr

/-- (T) the column window every caller builds (`left = max(col − r, 1)`, `right = col ⊕ r`) satisfies
that precondition, for ALL columns and radii (0, 1, …, `usize::MAX`). -/
theorem caller_window_ok (col r : Nat) (hc : col ≤ usizeMax) : max (col - r) 1 ≤ satAdd (satAdd col r) 1 :=
  Lemmas.C17.caller_window_ok col r hc

/-- (T) `crop_width`: a line cropped around column `col` with radius `r` is an optional ellipsis, a
contiguous piece of the line of at most `2·r + 1` characters, and an optional ellipsis; the only other
outcome is a (context) line kept whole because it ends left of the window. -/
theorem crop_width (line : List Char) (col r : Nat) (hn : line.length + 1 ≤ usizeMax) (hc : col ≤ usizeMax) :
    ∃ out crop le mid re, cropLineByCols line (max (col - r) 1) (satAdd col r) = .ok (out, crop) ∧
      out = le ++ mid ++ re ∧ mid <:+: line ∧ (le = [] ∨ le = [ellipsis]) ∧ (re = [] ∨ re = [ellipsis]) ∧
      (mid.length ≤ 2 * r + 1 ∨ (out = line ∧ line.length < max (col - r) 1)) := by
  obtain ⟨le, mid, re, h1, h2, h3, h4, h5⟩ := Lemmas.C17.cropLinePure_width line col r
  exact ⟨(Lemmas.C17.cropLinePure line (max (col - r) 1) (satAdd col r)).1,
    (Lemmas.C17.cropLinePure line (max (col - r) 1) (satAdd col r)).2, le, mid, re,
    Lemmas.C17.cropLine_eq line _ _ hn (Lemmas.C17.caller_window_ok col r hc), h1, h2, h3, h4, h5⟩

/-- (T) `caret_column` (one line): after cropping, the span start rebased exactly as `crop_window_text`
does (`prefix_bytes + (off − start_byte)`, clamped to the rendered line) is a character boundary of the
rendered line; what precedes it is an optional ellipsis followed by a tail of the characters before
column `col`; and the character at it is the character in the reported column `col` (nothing — end of
line — for `col = len + 1`). For ALL lines, columns `1 ≤ col ≤ len+1`, radii. -/
theorem caret_column (line : List Char) (col r : Nat) (hn : line.length + 1 ≤ usizeMax) (hc : col ≤ usizeMax)
    (h1 : 1 ≤ col) (h2 : col ≤ line.length + 1) :
    ∃ out crop, cropLineByCols line (max (col - r) 1) (satAdd col r) = .ok (out, crop) ∧
      colToByte line col = some (blen (line.take (col - 1))) ∧
      ∃ le k rest, (le = [] ∨ le = [ellipsis]) ∧
        out = (le ++ (line.take (col - 1)).drop k) ++ rest ∧
        blen (le ++ (line.take (col - 1)).drop k) =
          min (crop.prefixBytes + (blen (line.take (col - 1)) - crop.startByte)) (blen out) ∧
        rest.head? = Spec.Snippet.charAtCol line col := by
  refine ⟨(Lemmas.C17.cropLinePure line (max (col - r) 1) (satAdd col r)).1,
    (Lemmas.C17.cropLinePure line (max (col - r) 1) (satAdd col r)).2,
    Lemmas.C17.cropLine_eq line _ _ hn (Lemmas.C17.caller_window_ok col r hc), ?_, ?_⟩
  · rw [Lemmas.C17.colToByte_eq, if_pos ⟨h1, by omega⟩]
  · have := Lemmas.C17.caret_line line col r hn hc h1 h2
    have hc0 : ¬ col = 0 := by omega
    simp only [Spec.Snippet.charAtCol, hc0, if_false]
    exact this

/-- (T) `crop_window_text_safe` (snippet part of C01) and cleanliness of its text: for ALL window
texts, rows, columns, radii and spans, `crop_window_text` never panics (no slice out of range or off a
character boundary, the loop terminates), its text contains no C0 (except `\n`, `\t`), DEL or C1
character, and a span that was ordered and inside the window text stays ordered and inside the new text. -/
theorem crop_window_text_safe (w : List Char) (wsr erow ecol r ls le : Nat)
    (hw : w.length + 1 ≤ usizeMax) (hc : ecol ≤ usizeMax) :
    ∃ out ns ne, cropWindowText w wsr erow ecol r ls le = .ok (out, ns, ne) ∧ clean out = true ∧
      ((ls ≤ le ∧ le ≤ blen w) → (ns ≤ ne ∧ ne ≤ blen out)) :=
  Lemmas.C17.cropWindowText_safe w wsr erow ecol r ls le hw hc

/-- (T) `crop_source_window_safe` (snippet part of C01): never a panic, for ALL texts, locations,
line mappings and radii. -/
theorem crop_source_window_safe (text : List Char) (loc : Snippet.Loc) (m : Mapping) (r : Nat)
    (hlen : text.length + 1 ≤ usizeMax) (hb : blen text ≤ usizeMax) (hcol : loc.column ≤ usizeMax) :
    ∃ res, cropSourceWindow text loc m r = .ok res := by
  obtain ⟨out, sl, h, _⟩ := Lemmas.C17.cropSourceWindow_spec text loc m r hlen hb hcol
  exact ⟨_, h⟩

/-- (T) `window_le_5_lines`: the stored window shows at most `2·2 + 1 = 5` lines (two lines of
context either side), for ALL inputs — verbatim window and storage-cropped window alike. -/
theorem window_le_5_lines (text : List Char) (loc : Snippet.Loc) (m : Mapping) (r : Nat)
    (hlen : text.length + 1 ≤ usizeMax) (hb : blen text ≤ usizeMax) (hcol : loc.column ≤ usizeMax) :
    ∃ out sl, cropSourceWindow text loc m r = .ok (out, sl) ∧ shownLines out ≤ 2 * ctxLines + 1 ∧
      ctxLines = 2 := by
  obtain ⟨out, sl, h, hs⟩ := Lemmas.C17.cropSourceWindow_spec text loc m r hlen hb hcol
  refine ⟨out, sl, h, ?_, rfl⟩
  rcases hs with hs | ⟨rel, ws, we, -, ⟨h1, h2, h3, -, h5, -, -⟩, -, hs⟩
  · rw [hs]; simp [shownLines]
  · exact Nat.le_trans (hs.shownLines_le (by omega)) (by omega)

/-- (T) `window_contains_error_line`: when a window is stored, it consists of the rows `ws..=we` of the
(BOM-stripped) text — with its line breaks normalised (`normalize_line_breaks`: a lone CR has become LF, so
the rows are the lines of the text under the YAML rule, see `window_contains_error_line_yaml`) — with
`ws ≤ rel ≤ we`, where `rel` is the row the location refers to, and its
reported first line number is that of row `ws` (so row `rel` is shown under the location's own line
number). Verbatim windows contain row `rel` literally, preceded by exactly `rel − ws` complete rows;
of a storage-cropped window (lines over 4 KiB / windows over 16 KiB: each row cropped horizontally, then
sanitised) the statement says that it is terminal-clean and has at least the `rel − ws` line breaks in front
of the error row (that it keeps the number of rows is `Lemmas.C17.cropSourceWindow_spec`). -/
theorem window_contains_error_line (text : List Char) (loc : Snippet.Loc) (m : Mapping) (r : Nat)
    (hlen : text.length + 1 ≤ usizeMax) (hb : blen text ≤ usizeMax) (hcol : loc.column ≤ usizeMax) :
    ∃ out sl, cropSourceWindow text loc m r = .ok (out, sl) ∧
      (out = [] ∨
       ∃ rel ws, relativeRow m loc.line = some rel ∧ 1 ≤ ws ∧ ws ≤ rel ∧ sl = absoluteRow m ws ∧
         rel - ws ≤ out.count '\n' ∧
         ((∃ pre post, out = pre ++ row (normBreaks (stripBom text)) rel ++ post ∧ pre.count '\n' = rel - ws ∧
              (pre = [] ∨ pre.getLast? = some '\n')) ∨
          clean out = true)) := by
  obtain ⟨out, sl, h, hs⟩ := Lemmas.C17.cropSourceWindow_spec text loc m r hlen hb hcol
  refine ⟨out, sl, h, ?_⟩
  rcases hs with hs | ⟨rel, ws, we, hrel, W, hsl, hs⟩
  · exact .inl hs
  · right
    obtain ⟨R, hsplit, hcnt, hlast, -⟩ := Lemmas.C17.window_rows (normBreaks (stripBom text)) ws we rel W
    refine ⟨rel, ws, hrel, W.ws_pos, W.ws_le, hsl, ?_, hs.text.imp (fun hs => ?_) id⟩
    · rw [hs.count, hsplit, List.count_append, List.count_append, hcnt]; omega
    · exact ⟨_, _, by rw [hs, hsplit], hcnt, hlast⟩

/-- (T) the reported first line plus the row offset is the location's line (no saturation when the
line number leaves room for `+ 1`). -/
theorem window_row_number (m : Mapping) (line rel ws : Nat) (hrel : relativeRow m line = some rel)
    (h1 : 1 ≤ ws) (h2 : ws ≤ rel) (hl : line + 1 ≤ usizeMax) :
    absoluteRow m ws + (rel - ws) = line := by
  have e := Lemmas.C17.relativeRow_eq m line rel hrel hl
  rw [Lemmas.C17.absoluteRow_eq m ws (by omega)]
  omega

/-- (E) non-vacuity: a 7-line text, location on line 4: rows 2..6 are stored, starting at line 2 -/
example : cropSourceWindow "l1\nl2\nl3\nl4\nl5\nl6\nl7\n".toList ⟨4, 2⟩ none 64 =
    .ok ("l2\nl3\nl4\nl5\nl6\n".toList, 2) := by
  char_lits
  decide +kernel

/-- (E) the same through a reader-style fragment that starts at absolute line 10 -/
example : cropSourceWindow "l1\nl2\nl3\nl4\nl5\nl6\nl7\n".toList ⟨13, 2⟩ (some 10) 64 =
    .ok ("l2\nl3\nl4\nl5\nl6\n".toList, 11) := by
  char_lits
  decide +kernel

/-- (E) cropping a line around column 9 with radius 2, and the rebased caret -/
example : cropLineByCols "abcdefghijklmnop".toList 7 11 = .ok ("…ghijk…".toList, ⟨6, 3⟩) := by
  char_lits
  decide +kernel

/-- (T) `line_col_to_byte_boundary` (snippet part of C01): with `starts = line_starts(text)`,
`line_col_to_byte_offset_with_starts` never panics for any existing row and any column; it answers
`Some` exactly for `1 ≤ col ≤ len+1` of the visible line (CR / CRLF stripped), and the offset is the
byte length of everything before the row plus the first `col−1` characters of the visible line — a
character boundary of the text. -/
theorem line_col_to_byte_boundary (text : List Char) (ht : text ≠ []) (rw_ col : Nat) (h1 : 1 ≤ rw_)
    (h2 : rw_ ≤ text.count '\n' + 1) :
    lineColToByte text (lineStarts text) rw_ col =
      .ok (if 1 ≤ col ∧ col - 1 ≤ (visibleLine text rw_).length
           then some (blen (takeRows (rw_ - 1) text ++ (visibleLine text rw_).take (col - 1))) else none) ∧
    ∃ rest, text = (takeRows (rw_ - 1) text ++ (visibleLine text rw_).take (col - 1)) ++ rest := by
  refine ⟨?_, Lemmas.C17.lineColToByte_boundary text rw_ col h1⟩
  rw [Lemmas.C17.lineColToByte_spec text ht rw_ col h1 h2, Lemmas.C17.colToByte_eq]
  split
  · simp [Lemmas.C17.blen_append]
  · rfl

/-- (T) `fmt_prepare_safe` (snippet part of C01; the `fmt_window_safe` obligations up to the renderer
call): the computation shared by `Snippet::fmt_or_fallback` and the crate's own window renderer — row
mapping, `line_col_to_byte…`, minimal span, vertical window, `crop_window_text` — never panics, for ALL
texts, locations, mappings and radii. When it produces a window (otherwise the plain-message fallback
is taken): the window text is terminal-clean, the primary span is ordered and inside the window text
(the span given to annotate-snippets is in bounds), the window is at most `2·2+1` rows high, starts at
or before and ends at or after the row of the location, and is numbered from the absolute line of its
first row. -/
theorem fmt_prepare_safe (text : List Char) (loc : Snippet.Loc) (m : Mapping) (r : Nat)
    (hlen : text.length + 1 ≤ usizeMax) (hcol : loc.column ≤ usizeMax) :
    ∃ res, prepare text loc m r = .ok res ∧
      ∀ p, res = some p →
        clean p.windowText = true ∧ p.localStart ≤ p.localEnd ∧ p.localEnd ≤ blen p.windowText ∧
        relativeRow m loc.line = some p.row ∧ 1 ≤ p.windowStartRow ∧ p.windowStartRow ≤ p.row ∧
        p.row ≤ p.windowEndRow ∧ p.windowEndRow - p.windowStartRow ≤ 2 * ctxLines ∧
        p.displayStartRow = absoluteRow m p.windowStartRow := by
  obtain ⟨res, h, hp⟩ := Lemmas.C17.prepare_safe text loc m r hlen hcol
  refine ⟨res, h, fun p hres => ?_⟩
  have := hp p hres
  exact ⟨this.clean, this.span_ordered, this.span_inside, this.row_rel, this.ws_pos, this.ws_le,
    this.row_le, this.height, this.display⟩

/-- (T) `window_output_clean` (holds for every message since the fix of finding `C17-message-control-chars`):
everything `Snippet::fmt_or_fallback` hands to the external renderer — title, window source, label — is
terminal-clean for ANY formatted message (reflected keys / values included): the message is sanitised
before it is used, the title as a whole, and the label and title are the character-level sanitisation of what
the formatter produced. The span is ordered and inside the source. For ALL texts, locations, mappings, radii,
messages. -/
theorem window_output_clean (text : List Char) (loc : Snippet.Loc) (m : Mapping) (r : Nat)
    (msg : List Char) (hlen : text.length + 1 ≤ usizeMax) (hcol : loc.column ≤ usizeMax) :
    ∃ res, snippetRequest text loc m r msg = .ok res ∧
      ∀ q, res = some q → clean q.source = true ∧ clean q.label = true ∧ clean q.title = true ∧
        q.label = Spec.Snippet.sanitize msg ∧
        q.title = locPrefix loc ++ ": ".toList ++ Spec.Snippet.sanitize msg ∧
        q.spanStart ≤ q.spanEnd ∧ q.spanEnd ≤ blen q.source := by
  obtain ⟨res, h, hp⟩ := Lemmas.C17.prepare_safe text loc m r hlen hcol
  refine ⟨_, Lemmas.C17.snippetRequest_eq h msg, fun q hq => ?_⟩
  cases res with
  | none => cases hq
  | some p =>
    cases hq
    have ok := hp p rfl
    have hmsg := Lemmas.C17.sanitize_spec_clean msg
    have hpre : clean (locPrefix loc ++ ": ".toList ++ Spec.Snippet.sanitize msg) = true := by
      unfold locPrefix
      simp only [Lemmas.C17.clean_append, Lemmas.C17.toDigits_clean, hmsg, Bool.and_true]
      decide
    refine ⟨?_, hmsg, Lemmas.C17.sanitize_spec_clean _, rfl, Lemmas.C17.sanitize_of_clean _ hpre, ok.span_ordered, ?_⟩
    · show clean (if _ then p.windowText ++ ['\n'] else p.windowText) = true
      split
      · rw [Lemmas.C17.clean_append, ok.clean]; decide
      · exact ok.clean
    · show p.localEnd ≤ blen (if _ then p.windowText ++ ['\n'] else p.windowText)
      have := ok.span_inside
      split
      · rw [Lemmas.C17.blen_append]; omega
      · exact this

/-- (T) `eof_line_terminated` (fix of finding `C17-location-on-empty-last-line`): when the location is
on the empty line after the input's final line break, the source handed to the external renderer has
that line terminated (it ends with two line breaks and the span starts right after the first of
them), so the line exists for the renderer; in every other case the source is the window text. -/
theorem eof_line_terminated (text : List Char) (loc : Snippet.Loc) (m : Mapping) (r : Nat) (msg : List Char)
    (p : Prepared) (q : RenderRequest) (hp : prepare text loc m r = .ok (some p))
    (hq : snippetRequest text loc m r msg = .ok (some q)) :
    (p.row = p.totalLines ∧ p.localStart = blen p.windowText ∧ p.windowText.getLast? = some '\n' →
        q.source = p.windowText ++ ['\n'] ∧ q.spanStart = blen p.windowText) ∧
    (¬ (p.row = p.totalLines ∧ p.localStart = blen p.windowText ∧ p.windowText.getLast? = some '\n') →
        q.source = p.windowText) := by
  rw [Lemmas.C17.snippetRequest_eq hp msg] at hq
  cases hq
  exact ⟨fun hc => ⟨if_pos hc, hc.2.1⟩, fun hc => if_neg hc⟩

/-- (T) `caret_column_window`: `crop_window_text` on ANY window text that consists of `k` complete rows
`R`, then the row of the error `body` (without line break), then `T` (nothing, or the line break and
further rows), with the incoming span start at column `col` of that row (`1 ≤ col ≤ len+1` of the
visible line, CR stripped): it never panics and the rebased span start `ns` is a character boundary of
the new text, located after exactly `k` line breaks (in the rendered error row), preceded in that row
by an optional ellipsis and a tail of the (sanitised) characters before column `col`, and followed by
the sanitised character of column `col` — or by the end of the row when `col = len+1`. For ALL radii
(including 0 and `usize::MAX`) and ALL window texts (CRLF, lone CR, control characters, multi-byte
characters, very long lines). -/
theorem caret_column_window (w : List Char) (wsr col rad le k : Nat) (R body T : List Char)
    (hw : w.length + 1 ≤ usizeMax) (hc : col ≤ usizeMax)
    (hwp : w = R ++ (body ++ T)) (hcnt : R.count '\n' = k) (hR : R = [] ∨ R.getLast? = some '\n')
    (hnb : '\n' ∉ body) (hT : T = [] ∨ ∃ post, T = '\n' :: post) (hne : body ++ T ≠ [])
    (h1 : 1 ≤ col) (h2 : col ≤ (stripCR body).length + 1) :
    ∃ out ns ne,
      cropWindowText w wsr (wsr + k) col rad (blen R + blen ((stripCR body).take (col - 1))) le = .ok (out, ns, ne) ∧
      ∃ Q lead j rest', out = (Q ++ (lead ++ Spec.Snippet.sanitize (((stripCR body).take (col - 1)).drop j))) ++ rest' ∧
        ns = blen (Q ++ (lead ++ Spec.Snippet.sanitize (((stripCR body).take (col - 1)).drop j))) ∧
        Q.count '\n' = k ∧ (Q = [] ∨ Q.getLast? = some '\n') ∧ (lead = [] ∨ lead = [ellipsis]) ∧
        (rest'.head? = ((stripCR body)[col - 1]?).map sanitizeChar ∨
          ((stripCR body)[col - 1]? = none ∧ (rest' = [] ∨ rest'.head? = some '\n'))) := by
  obtain ⟨out, ns, ne, h, hcar⟩ := Lemmas.C17.cropWindowText_caret w wsr col rad
    (blen R + blen ((stripCR body).take (col - 1))) le k R body T hw hc hwp hcnt hR hnb hT
    (fun h0 => hne (List.append_eq_nil_iff.mp (hwp ▸ h0)).2) h1 h2 rfl
  exact ⟨out, ns, ne, h, hcar.ex⟩

/-- (T) `marker_at_reported_column` (the full `caret_column` claim for both renderers): whenever the
window / span computation shared by `Snippet::fmt_or_fallback` (annotate-snippets) and the crate's own
window renderer yields a window for (text, location, mapping, radius), the primary span start is a
character boundary of the window text; it lies in the row of the location — after exactly
`row − window_start_row` line breaks, and the window is numbered so that this row carries the
location's line number (`fmt_prepare_safe`, `window_row_number`); in that row it is preceded by an
optional ellipsis and a tail of the sanitised characters before the reported column; and the character
at it is the (sanitised) character in the reported column of the visible line (CR / CRLF stripped) of
the text with its line breaks normalised — i.e. of the line of the text under the YAML rule (LF, CRLF,
lone CR; `window_contains_error_line_yaml`) —, or the end of the row for `column = len + 1`. For ALL texts,
locations, mappings, radii. -/
theorem marker_at_reported_column (text : List Char) (loc : Snippet.Loc) (m : Mapping) (r : Nat)
    (hlen : text.length + 1 ≤ usizeMax) (hcol : loc.column ≤ usizeMax) (p : Prepared)
    (h : prepare text loc m r = .ok (some p)) :
    ∃ pre rest, p.windowText = pre ++ rest ∧ blen pre = p.localStart ∧
      pre.count '\n' = p.row - p.windowStartRow ∧
      (rest.head? = ((visibleLine (normBreaks text) p.row)[loc.column - 1]?).map sanitizeChar ∨
        ((visibleLine (normBreaks text) p.row)[loc.column - 1]? = none ∧ (rest = [] ∨ rest.head? = some '\n'))) ∧
      (∃ Q lead j, pre = Q ++ (lead ++ Spec.Snippet.sanitize (((visibleLine (normBreaks text) p.row).take (loc.column - 1)).drop j)) ∧
        (Q = [] ∨ Q.getLast? = some '\n') ∧ (lead = [] ∨ lead = [ellipsis])) :=
  Lemmas.C17.prepare_caret text loc m r hlen hcol p h

/-! The shown line is the line YAML means (fix of finding `C17-lone-cr-line-break`). A reported `Location` counts
lines as the YAML parser does: a line ends at LF, at CRLF (one break) and at a lone CR (`Spec.Snippet.yamlLines`).
Before the fix the snippet code split lines at LF only, so a text with a lone CR was rendered with the wrong line
under the location's line number. Every entry point now rewrites the text with `normalize_line_breaks` first. -/

/-- (T) the key fact of the repair: line `k` of a text under the YAML rule is exactly what the `\n`-based
helpers see as row `k` (without its `\n` / `\r\n`) of the text rewritten by `normalize_line_breaks`, and
both have the same number of lines. For ALL texts. -/
theorem normalized_rows_are_yaml_lines (text : List Char) :
    (yamlLines text).length = (normBreaks text).count '\n' + 1 ∧
    ∀ k, 1 ≤ k → k ≤ (yamlLines text).length → yamlLine text k = some (visibleLine (normBreaks text) k) := by
  refine ⟨Lemmas.C17.yamlLines_length text, fun k h1 h2 => ?_⟩
  rw [Lemmas.C17.yamlLines_length] at h2
  exact Lemmas.C17.yamlLine_eq_visible text k h1 h2

/-- (T) `normalize_line_breaks` keeps every byte offset, length and character column (a lone CR and the
LF that replaces it are one byte each), changes nothing in a text whose line breaks are LF / CRLF only
(it is idempotent), and commutes with stripping the byte-order mark. -/
theorem normalize_line_breaks_preserves (text : List Char) :
    (normBreaks text).length = text.length ∧ blen (normBreaks text) = blen text ∧
    normBreaks (normBreaks text) = normBreaks text ∧ normBreaks (stripBom text) = stripBom (normBreaks text) :=
  ⟨Lemmas.C17.normBreaks_length text, Lemmas.C17.normBreaks_blen text, Lemmas.C17.normBreaks_idem text,
    Lemmas.C17.normBreaks_stripBom text⟩

/-- (T) `fragment_lines_are_text_lines`: cut ANY text after a complete line break (`P` is empty, ends with
LF, or ends with a CR that is not followed by LF): the lines of the whole under the YAML rule are the
complete lines of `P` followed by the lines of the rest `R`, so line `j` of `R` is line
`(lines of P) − 1 + j` of the text. (This is why a fragment with a line offset — reader snapshots, stored
windows — can be rendered like a whole text.) -/
theorem fragment_lines_are_text_lines (P R : List Char)
    (h : P = [] ∨ P.getLast? = some '\n' ∨ (P.getLast? = some '\r' ∧ R.head? ≠ some '\n')) :
    yamlLines (P ++ R) = (yamlLines P).dropLast ++ yamlLines R ∧
    ∀ j, 1 ≤ j → yamlLine (P ++ R) ((yamlLines P).length - 1 + j) = yamlLine R j :=
  ⟨Lemmas.C17.yamlLines_append P R h, fun j hj => Lemmas.C17.yamlLine_append P R h j hj⟩

/-- (E) cutting `a⏎b⏎␊c` after the lone CR and after the CRLF pair -/
example : yamlLines ("a\r".toList ++ "b\r\nc".toList) = ["a".toList, "b".toList, "c".toList] ∧
    yamlLine ("a\rb\r\n".toList ++ "c".toList) (3 - 1 + 1) = yamlLine "c".toList 1 := by
  char_lits
  decide +kernel

/-- (T) `window_contains_error_line_yaml_partial` — the statement the code violated before the fix, for
every NON-EMPTY text (see `window_contains_error_line_yaml` for the statement over all texts and
`window_contains_error_line_yaml_empty_counterexample` for the excluded case): take ANY non-empty text,
ANY line mapping, radius, and ANY location whose line (mapped to row `rel` of the text) exists under the
YAML line-break rule (LF, CRLF, lone CR) with content `line`, and whose column is a position on that line
(`1 ≤ column ≤ len + 1`). Then the window / span computation shared by `Snippet::fmt_or_fallback`
(annotate-snippets) and the crate's own window renderer DOES yield a window (never the plain-message
fallback, never a panic), and in it:
* the row of the location is `rel`, the window starts at a row `ws` with `1 ≤ ws ≤ rel ≤ we`,
  `we − ws ≤ 4`, and is numbered from `absoluteRow m ws` — so the row carrying the location's own line
  number (`window_row_number`) is row `rel`;
* the primary span start is a character boundary of the (terminal-clean) window text, after exactly
  `rel − ws` line breaks — i.e. in the shown row with the location's line number;
* in that row it is preceded by an optional ellipsis and a tail of the (sanitised) characters of the YAML
  line `line` before the reported column, and the character at it is the (sanitised) character of `line` in
  the reported column — or the end of the row for `column = len + 1`.
So the row shown under the location's line number is YAML line `line`, with the marker under the
reported column. -/
theorem window_contains_error_line_yaml_partial (text : List Char) (loc : Snippet.Loc) (m : Mapping)
    (r rel : Nat) (line : List Char)
    (hlen : text.length + 1 ≤ usizeMax) (hcol : loc.column ≤ usizeMax)
    (hne : text ≠ [])
    (hrel : relativeRow m loc.line = some rel) (hline : yamlLine text rel = some line)
    (hc1 : 1 ≤ loc.column) (hc2 : loc.column ≤ line.length + 1) :
    ∃ p, prepare text loc m r = .ok (some p) ∧
      p.row = rel ∧ 1 ≤ p.windowStartRow ∧ p.windowStartRow ≤ rel ∧ rel ≤ p.windowEndRow ∧
      p.windowEndRow - p.windowStartRow ≤ 2 * ctxLines ∧
      p.displayStartRow = absoluteRow m p.windowStartRow ∧ clean p.windowText = true ∧
      ∃ pre rest, p.windowText = pre ++ rest ∧ blen pre = p.localStart ∧
        pre.count '\n' = rel - p.windowStartRow ∧
        (rest.head? = (line[loc.column - 1]?).map sanitizeChar ∨
          (line[loc.column - 1]? = none ∧ (rest = [] ∨ rest.head? = some '\n'))) ∧
        (∃ Q lead j, pre = Q ++ (lead ++ Spec.Snippet.sanitize ((line.take (loc.column - 1)).drop j)) ∧
          (Q = [] ∨ Q.getLast? = some '\n') ∧ (lead = [] ∨ lead = [ellipsis])) := by
  obtain ⟨p, hp, ok⟩ := Lemmas.C17.prepare_yaml text loc m r rel line hlen hcol hne hrel hline hc1 hc2
  exact ⟨p, hp, ok.row_eq, ok.ws_pos, ok.ws_le, ok.row_le, ok.height, ok.display, ok.clean, ok.marker⟩

/-- (F) `window_contains_error_line_yaml_empty_counterexample`: the statement "for EVERY text and every
YAML position a window with the line is rendered" is false for the empty text: `(1, 1)` is a position of
the empty text under the YAML rule (its single, empty line), but no window is rendered for it — the
renderers fall back to the plain message (`line_starts` of an empty text is empty). There is no line
to show; this is the only excluded case (`window_contains_error_line_yaml`). -/
theorem window_contains_error_line_yaml_empty_counterexample :
    IsYamlPosition [] 1 1 ∧ ∀ (m : Mapping) (r : Nat), prepare [] ⟨1, 1⟩ m r = .ok none :=
  ⟨⟨[], rfl, Nat.le_refl _, Nat.le_refl _⟩, fun m r => Lemmas.C17.prepare_nil ⟨1, 1⟩ m r⟩

/-- (T) `window_contains_error_line_yaml` — over ALL texts: for every text, line mapping, radius and every
location that is a position of the text under the YAML line-break rule (its line, mapped to row `rel`,
exists under LF / CRLF / lone-CR splitting; `1 ≤ column ≤ len + 1`): either the text is empty and the
plain-message fallback is taken (nothing to show), or a window is rendered whose row numbered with the
location's line is that YAML line, with the marker under the character in the reported column (all the
conclusions of `window_contains_error_line_yaml_partial`). -/
theorem window_contains_error_line_yaml (text : List Char) (loc : Snippet.Loc) (m : Mapping) (r rel : Nat)
    (hlen : text.length + 1 ≤ usizeMax) (hcol : loc.column ≤ usizeMax)
    (hrel : relativeRow m loc.line = some rel) (hpos : IsYamlPosition text rel loc.column) :
    (text = [] ∧ prepare text loc m r = .ok none) ∨
    ∃ line p, yamlLine text rel = some line ∧ prepare text loc m r = .ok (some p) ∧
      p.row = rel ∧ 1 ≤ p.windowStartRow ∧ p.windowStartRow ≤ rel ∧ rel ≤ p.windowEndRow ∧
      p.windowEndRow - p.windowStartRow ≤ 2 * ctxLines ∧
      p.displayStartRow = absoluteRow m p.windowStartRow ∧ clean p.windowText = true ∧
      ∃ pre rest, p.windowText = pre ++ rest ∧ blen pre = p.localStart ∧
        pre.count '\n' = rel - p.windowStartRow ∧
        (rest.head? = (line[loc.column - 1]?).map sanitizeChar ∨
          (line[loc.column - 1]? = none ∧ (rest = [] ∨ rest.head? = some '\n'))) ∧
        (∃ Q lead j, pre = Q ++ (lead ++ Spec.Snippet.sanitize ((line.take (loc.column - 1)).drop j)) ∧
          (Q = [] ∨ Q.getLast? = some '\n') ∧ (lead = [] ∨ lead = [ellipsis])) := by
  by_cases hne : text = []
  · left
    subst hne
    exact ⟨rfl, Lemmas.C17.prepare_nil loc m r⟩
  · right
    obtain ⟨line, hline, hc1, hc2⟩ := hpos
    obtain ⟨p, h⟩ := window_contains_error_line_yaml_partial text loc m r rel line hlen hcol hne hrel hline hc1 hc2
    exact ⟨line, p, hline, h⟩

/-- (T) `stored_window_row_is_yaml_line`: the same for what `with_snippet` stores
(`crop_source_window`): when a window is stored verbatim for a location whose (mapped) row `rel` is a
line of the BOM-stripped text under the YAML rule, the window contains — after exactly `rel − ws` complete
rows, `ws` being the row its first line number stands for — a row whose content (without its line break)
is that YAML line; a lone CR that ended the line in the input has become LF in the stored text. (For storage-cropped
windows, lines over 4 KiB, `window_contains_error_line` gives only the number of line breaks in front of the row and that
the text is clean; that they keep the rows is `Lemmas.C17.cropSourceWindow_spec`.) -/
theorem stored_window_row_is_yaml_line (text : List Char) (loc : Snippet.Loc) (m : Mapping) (r : Nat)
    (hlen : text.length + 1 ≤ usizeMax) (hb : blen text ≤ usizeMax) (hcol : loc.column ≤ usizeMax) :
    ∃ out sl, cropSourceWindow text loc m r = .ok (out, sl) ∧
      (out = [] ∨
       ∃ rel ws, relativeRow m loc.line = some rel ∧ 1 ≤ ws ∧ ws ≤ rel ∧ sl = absoluteRow m ws ∧
         ((∃ pre body post, out = pre ++ body ++ post ∧ pre.count '\n' = rel - ws ∧
              (pre = [] ∨ pre.getLast? = some '\n') ∧
              ∀ line, yamlLine (stripBom text) rel = some line →
                Spec.Snippet.stripCr (Spec.Snippet.stripNl body) = line) ∨
          clean out = true)) := by
  obtain ⟨out, sl, h, hs⟩ := window_contains_error_line text loc m r hlen hb hcol
  refine ⟨out, sl, h, ?_⟩
  rcases hs with hs | ⟨rel, ws, h1, h2, h3, h4, _, hs⟩
  · exact .inl hs
  · right
    refine ⟨rel, ws, h1, h2, h3, h4, ?_⟩
    rcases hs with ⟨pre, post, e1, e2, e3⟩ | hs
    · left
      refine ⟨pre, _, post, e1, e2, e3, fun line hline => ?_⟩
      obtain ⟨_, _, hl⟩ := (Lemmas.C17.yamlLine_some_iff (stripBom text) rel line).mp hline
      rw [hl]; rfl
    · exact .inr hs

/-- (T) `stored_region_renders_yaml_line` — the string entry points' whole path (`with_snippet` stores a
region, the error is rendered from it later), for texts of at most 4 KiB (no line reaches the storage-crop
threshold; longer lines are cropped and sanitised at storage time, `window_contains_error_line`): take
ANY such text with a non-empty body, ANY mapping and radius `≠ 0`, and ANY location that is a position of
the BOM-stripped text under the YAML rule (row `rel`, content `line`, `1 ≤ column ≤ len + 1`). Then a
region IS stored, rendering from the stored regions DOES yield a window for the location, the window row
that carries the location's own line number is the row of the marker, and the marker stands right before
the (sanitised) character of YAML line `line` in the reported column (end of row for `column = len + 1`),
preceded in its row by an optional ellipsis and a tail of the sanitised characters of `line` before that
column. -/
theorem stored_region_renders_yaml_line (text : List Char) (loc : Snippet.Loc) (m : Mapping) (r rel : Nat)
    (line : List Char)
    (hlen : text.length + 1 ≤ usizeMax) (hcol : loc.column ≤ usizeMax) (hl : loc.line + 1 ≤ usizeMax)
    (hsmall : blen text ≤ storageCropLine) (hr : r ≠ 0) (hne : stripBom text ≠ [])
    (hrel : relativeRow m loc.line = some rel) (hline : yamlLine (stripBom text) rel = some line)
    (hc1 : 1 ≤ loc.column) (hc2 : loc.column ≤ line.length + 1) :
    ∃ reg p, regionFor text loc m r = .ok (some reg) ∧ renderPrepare [reg] loc r = .ok (some p) ∧
      p.windowStartRow ≤ p.row ∧ p.displayStartRow + (p.row - p.windowStartRow) = loc.line ∧
      clean p.windowText = true ∧
      ∃ pre rest, p.windowText = pre ++ rest ∧ blen pre = p.localStart ∧
        pre.count '\n' = p.row - p.windowStartRow ∧
        (rest.head? = (line[loc.column - 1]?).map sanitizeChar ∨
          (line[loc.column - 1]? = none ∧ (rest = [] ∨ rest.head? = some '\n'))) ∧
        (∃ Q lead j, pre = Q ++ (lead ++ Spec.Snippet.sanitize ((line.take (loc.column - 1)).drop j)) ∧
          (Q = [] ∨ Q.getLast? = some '\n') ∧ (lead = [] ∨ lead = [ellipsis])) := by
  have hu := Lemmas.C17.isUnknown_false_of_col loc hc1
  obtain ⟨hr1, hr2, hlv⟩ := (Lemmas.C17.yamlLine_some_iff (stripBom text) rel line).mp hline
  obtain ⟨ws, we, W, hwne, hcsw⟩ :=
    Lemmas.C17.cropSourceWindow_small text loc m r rel hlen hsmall hu hrel hne hr1 hr2
  have f1 := W.ws_pos
  have f2 := W.ws_le
  generalize hw : takeRows (we - (ws - 1)) (dropRows (ws - 1) (normBreaks (stripBom text))) = w at hwne hcsw
  have hreg : regionFor text loc m r = .ok (some ⟨w, absoluteRow m ws, regionEndLine text m loc⟩) := by
    rw [Lemmas.C17.regionFor_eq hcsw, if_neg (by rw [hu]; simp [hr, hwne])]
  have hrender := Lemmas.C17.renderPrepare_single ⟨w, absoluteRow m ws, regionEndLine text m loc⟩ loc r hr hu
  have hnum := window_row_number m loc.line rel ws hrel f1 f2 hl
  have hrel' : relativeRow (some (absoluteRow m ws)) loc.line = some (rel - ws + 1) := by
    simp only [relativeRow]
    rw [if_neg (by omega)]
    have e : loc.line - absoluteRow m ws = rel - ws := by omega
    have hctx : ctxLines = 2 := rfl
    rw [e, Lemmas.C17.satAdd_eq _ _ (by omega)]
  have hline' : yamlLine w (rel - ws + 1) = some line := by
    rw [← hw, hlv]
    exact Lemmas.C17.window_yaml_line (normBreaks (stripBom text)) (Lemmas.C17.normBreaks_idem _) ws we rel W
  have hwlen : w.length + 1 ≤ usizeMax := by
    have := Lemmas.C17.window_length_le (we - (ws - 1)) (ws - 1) text
    rw [hw] at this
    omega
  obtain ⟨p, hp, ok⟩ := Lemmas.C17.prepare_yaml w loc (some (absoluteRow m ws)) r (rel - ws + 1) line hwlen hcol
    hwne hrel' hline' hc1 hc2
  refine ⟨_, p, hreg, by rw [hrender]; exact hp, by rw [ok.row_eq]; exact ok.ws_le, ?_, ok.clean, ?_⟩
  · rw [ok.display, ok.row_eq]
    exact window_row_number (some (absoluteRow m ws)) loc.line (rel - ws + 1) p.windowStartRow hrel' ok.ws_pos ok.ws_le hl
  · obtain ⟨pre, rest, c1, c2, c3, c4, c5⟩ := ok.marker
    exact ⟨pre, rest, c1, c2, by rw [ok.row_eq]; exact c3, c4, c5⟩

/-- (E) the hypotheses of `stored_region_renders_yaml_line` on the witness of the finding (with a byte-order
mark in front), location line 2 column 8 -/
example : blen "\uFEFFname: x\rcount: zz\nflag: true".toList ≤ storageCropLine ∧
    stripBom "\uFEFFname: x\rcount: zz\nflag: true".toList ≠ [] ∧ relativeRow none 2 = some 2 ∧
    yamlLine (stripBom "\uFEFFname: x\rcount: zz\nflag: true".toList) 2 = some "count: zz".toList ∧
    8 ≤ "count: zz".toList.length + 1 := by
  char_lits
  decide +kernel

/-- (E) the witness of the finding: `name: x⏎count: zz␊flag: true` (⏎ = lone CR), location line 2
column 8. Line 2 under the YAML rule is `count: zz`; the window shows it as its second row and the span
starts at byte 15 = 7 bytes into that row, on the first `z` (before the fix row 2 was `flag: true`). -/
example : yamlLine "name: x\rcount: zz\nflag: true".toList 2 = some "count: zz".toList ∧
    (prepare "name: x\rcount: zz\nflag: true".toList ⟨2, 8⟩ none 64).isOk = true ∧
    (match prepare "name: x\rcount: zz\nflag: true".toList ⟨2, 8⟩ none 64 with
     | .ok (some p) => p.windowText == "name: x\ncount: zz\nflag: true".toList && p.localStart == 15 &&
         p.windowStartRow == 1 && p.displayStartRow == 1
     | _ => false) = true := by
  char_lits
  decide +kernel

/-- (E) the hypotheses of `window_contains_error_line_yaml_partial` on a mixed-break text
(`a⏎bc⏎␊d␊⏎e`: lone CR, CRLF, LF, lone CR): the five YAML lines, and location (3, 1) on line `d`,
(5, 2) at the end of the last line -/
example : yamlLines "a\rbc\r\nd\n\re".toList = ["a".toList, "bc".toList, "d".toList, [], "e".toList] ∧
    IsYamlPosition "a\rbc\r\nd\n\re".toList 3 1 ∧ IsYamlPosition "a\rbc\r\nd\n\re".toList 5 2 ∧
    relativeRow none 3 = some 3 ∧
    (match prepare "a\rbc\r\nd\n\re".toList ⟨3, 1⟩ none 64 with
     | .ok (some p) => p.windowText == "a\nbc\nd\n\ne".toList && p.localStart == 5 && p.row == 3
     | _ => false) = true := by
  char_lits
  exact ⟨by decide +kernel, ⟨['d'], by decide +kernel⟩, ⟨['e'], by decide +kernel⟩, rfl, by decide +kernel⟩

/-- (E) the crate's own window renderer on the witness of the finding, reader-style fragment starting at
line 1: line 2 is `count: zz` and the caret is under column 8 -/
example : fmtWindow "name: x\rcount: zz\nflag: true".toList ⟨2, 8⟩ (some 1) "invalid".toList 64 =
    .ok "  |\n1 | name: x\n2 | count: zz\n  |        ^ invalid\n3 | flag: true\n  |\n".toList := by
  char_lits
  decide +kernel

/-- (T) `fmt_window_safe` (snippet part of C01) and cleanliness of its output: the crate's own window
renderer `fmt_snippet_window_with_mapping_or_fallback` never panics — in particular
`window_text[..local_start]` and `window_text[line_byte_start..local_start]` are in range and on
character boundaries — for ALL texts, locations, start lines, labels and radii; and what it writes
contains no C0 (except `\n`, `\t`), DEL or C1 character whatever the label contains (the label is
sanitised first; no hypothesis on it since the fix of `C17-message-control-chars`). -/
theorem fmt_window_safe (text : List Char) (loc : Snippet.Loc) (m : Mapping) (msg : List Char) (r : Nat)
    (hlen : text.length + 1 ≤ usizeMax) (hcol : loc.column ≤ usizeMax) :
    ∃ out, fmtWindow text loc m msg r = .ok out ∧ clean out = true :=
  Lemmas.C17.fmtWindow_spec text loc m msg r hlen hcol

/-- (E) the crate's own renderer on a CRLF text with a multi-byte character before the column -/
example : fmtWindow "a: 1\r\nké: [\r\nz: 2\r\n".toList ⟨2, 5⟩ (some 1) "defined here".toList 64 =
    .ok "  |\n1 | a: 1\n2 | ké: [\n  |     ^ defined here\n3 | z: 2\n4 |\n  |\n".toList := by
  char_lits
  decide +kernel

/-- (T) `region_lines_exact` (fix of finding `C17-region-end-line-overcount`): the region stored by
`with_snippet` / `with_snippet_offset` for a location records exactly the lines of its window: it
starts at the absolute line of the window's first row `ws` and ends at the absolute line of its last
row `we = min(rel + 2, number of rows of the text)` — rows under the YAML rule (LF, CRLF, lone CR: the
line feeds of the normalised text), the empty line after a final line break of the text being a row of
the text, the empty line after the window's own final line break not. -/
theorem region_lines_exact (text : List Char) (loc : Snippet.Loc) (m : Mapping) (r : Nat)
    (hlen : text.length + 1 ≤ usizeMax) (hb : blen text ≤ usizeMax) (hcol : loc.column ≤ usizeMax)
    (hline : loc.line + text.length + ctxLines + 2 ≤ usizeMax) :
    ∃ res, regionFor text loc m r = .ok res ∧
      ∀ reg, res = some reg →
        ∃ rel ws we, relativeRow m loc.line = some rel ∧ 1 ≤ ws ∧ ws ≤ rel ∧ rel ≤ we ∧
          we = min (rel + ctxLines) ((normBreaks (stripBom text)).count '\n' + 1) ∧
          reg.startLine = absoluteRow m ws ∧ reg.endLine = absoluteRow m we ∧
          absoluteRow m ws + (rel - ws) = loc.line ∧ absoluteRow m we = absoluteRow m ws + (we - ws) := by
  obtain ⟨out, sl, h, hs⟩ := Lemmas.C17.cropSourceWindow_spec text loc m r hlen hb hcol
  refine ⟨_, Lemmas.C17.regionFor_eq h, fun reg hreg => ?_⟩
  split at hreg
  · cases hreg
  · rename_i hc
    cases hreg
    have hne : out ≠ [] := fun h0 => hc (.inr (.inr h0))
    rcases hs with hs | ⟨rel, ws, we, hrel, W, hsl, _⟩
    · exact absurd hs hne
    · have htne : text ≠ [] := by
        intro ht
        rw [ht, Lemmas.C17.cropSourceWindow_nil] at h
        cases h
        exact hne rfl
      have hcnt := Lemmas.C17.normBreaks_stripBom_count_nl text
      have hlc := Lemmas.C17.lineCount_eq text htne
      have hcl : (normBreaks text).count '\n' ≤ text.length := by
        have := List.count_le_length (a := '\n') (l := normBreaks text)
        rw [Lemmas.C17.normBreaks_length] at this; exact this
      rw [hcnt] at W
      obtain ⟨e1, e2, e3, e4⟩ := Lemmas.C17.window_line_numbers m loc.line rel ws we _ text.length hrel W hcl hline
      refine ⟨rel, ws, we, hrel, W.ws_pos, W.ws_le, W.le_we, by rw [hcnt]; exact e1, hsl, ?_, e2, e3⟩
      show regionEndLine text m loc = absoluteRow m we
      rw [Lemmas.C17.regionEndLine_eq, hlc, Nat.add_sub_cancel]
      exact e4

/-- (T) `regions_cover_location`, an equivalence: the stored region `covers` a line exactly when
the line is one of the lines of its window; in particular it covers the location it was stored for. -/
theorem regions_cover_location (text : List Char) (loc : Snippet.Loc) (m : Mapping) (r : Nat)
    (hlen : text.length + 1 ≤ usizeMax) (hb : blen text ≤ usizeMax) (hcol : loc.column ≤ usizeMax)
    (hline : loc.line + text.length + ctxLines + 2 ≤ usizeMax) :
    ∃ res, regionFor text loc m r = .ok res ∧
      ∀ reg, res = some reg → reg.covers loc = true ∧
        ∃ ws we, reg.startLine = absoluteRow m ws ∧ reg.endLine = absoluteRow m ws + (we - ws) ∧
          ∀ other : Snippet.Loc, other.isUnknown = false →
            (reg.covers other = true ↔ absoluteRow m ws ≤ other.line ∧ other.line ≤ absoluteRow m ws + (we - ws)) := by
  obtain ⟨res, h, hp⟩ := region_lines_exact text loc m r hlen hb hcol hline
  refine ⟨res, h, fun reg hreg => ?_⟩
  obtain ⟨rel, ws, we, hrel, h1, h2, h3, hwe, hs, he, hnum, hadd⟩ := hp reg hreg
  have hu : loc.isUnknown = false := by
    cases hq : loc.isUnknown with
    | false => rfl
    | true =>
      exfalso
      unfold regionFor at h
      rw [if_pos (.inr hq)] at h
      cases h; cases hreg
  constructor
  · simp only [Region.covers, hu, hs, he, hadd, Bool.not_false, Bool.true_and, Bool.and_eq_true, decide_eq_true_eq]
    omega
  · refine ⟨ws, we, hs, by rw [he, hadd], fun other ho => ?_⟩
    simp only [Region.covers, ho, hs, he, hadd, Bool.not_false, Bool.true_and, Bool.and_eq_true, decide_eq_true_eq]

/-- (T) `ring_trim_utf8`: take ANY byte window `[a, b)` of a valid UTF-8 stream (the ring reader's
snapshot is such a window: reads stop at arbitrary byte positions and eviction is byte-wise).
`trim_to_utf8_boundaries_with_line` never panics, returns valid UTF-8 — exactly the encoding of a
contiguous piece `mid` of the stream's characters (so `String::from_utf8_lossy` in `line_aligned_text`,
`ring_reader.rs`, changes nothing) — advances the start offset by the `k` continuation bytes it dropped, and keeps
the start line, which is right because none of the dropped bytes is, or is part of, a line break (no LF among
them, and no line of the stream — YAML rule: LF, CRLF, lone CR — ends within them). -/
theorem ring_trim_utf8 (cs : List Char) (a b sl : Nat) (hab : a ≤ b) (hb : b ≤ (encode cs).length)
    (hsl : sl ≤ usizeMax) :
    ∃ k mid, ringTrim (((encode cs).take b).drop a) a sl = .ok (a + k, sl, encode mid) ∧ mid <:+: cs ∧
      decode (encode mid) = some mid ∧
      ((encode cs).take (a + k)).count 0x0A = ((encode cs).take a).count 0x0A ∧
      linesEndedBefore (encode cs) (a + k) = linesEndedBefore (encode cs) a := by
  obtain ⟨k, mid, P0, S0, ht, hnl, hl, hpos⟩ := Lemmas.C17.ringTrim_window cs a b sl hab hb hsl
  refine ⟨k, mid, ht, ?_, Lemmas.C17.decode_encode mid, hnl, hl⟩
  by_cases hm : mid = []
  · rw [hm]; exact List.nil_infix
  · exact ⟨P0, S0, (hpos hm).1.symm⟩

/-- (T) `ring_window` (follows the fix of finding `C17-lone-cr-line-break`): after the bytes `bs` went
through `push_ring_bytes` (capacity `cap ≥ 1`) the ring holds exactly the last `cap` bytes, knows their
absolute offset, and its start line is 1 + the number of lines that ended within the evicted bytes under
the YAML rule: an evicted LF, and an evicted CR that is not followed by LF (the byte after it may still be
in the ring, or be the byte that caused the eviction); the CR of a CRLF pair split by the eviction is not
counted — the pair's LF, still in the ring, ends that line. -/
theorem ring_window (cap : Nat) (hcap : 1 ≤ cap) (bs : List Nat) (hlen : bs.length + 2 ≤ usizeMax) :
    (ringPush cap ⟨[], 0, 1, true⟩ 0 bs).buf = bs.drop (bs.length - cap) ∧
    (bs ≠ [] → (ringPush cap ⟨[], 0, 1, true⟩ 0 bs).startOffset = bs.length - cap) ∧
    (ringPush cap ⟨[], 0, 1, true⟩ 0 bs).startLine = 1 + linesEndedBefore bs (bs.length - cap) :=
  let ⟨hbuf, hoff, hline, _⟩ := Lemmas.C17.ringPush_prefix cap hcap bs hlen bs (List.prefix_refl bs)
  ⟨by rw [hbuf, List.take_length], fun _ => hoff, hline⟩

/-- (E) a ring of 4 bytes over `a⏎b⏎␊c␊⏎d` (⏎ = CR, ␊ = LF): the evicted bytes `a⏎b⏎␊` hold two line ends
(the lone CR and the CRLF pair); one byte less evicted splits the CRLF pair and only the lone CR counts -/
example : (ringPush 4 ⟨[], 0, 1, true⟩ 0 [0x61, 0x0D, 0x62, 0x0D, 0x0A, 0x63, 0x0A, 0x0D, 0x64]).startLine = 3 ∧
    (ringPush 5 ⟨[], 0, 1, true⟩ 0 [0x61, 0x0D, 0x62, 0x0D, 0x0A, 0x63, 0x0A, 0x0D, 0x64]).startLine = 2 ∧
    (ringPush 5 ⟨[], 0, 1, true⟩ 0 [0x61, 0x0D, 0x62, 0x0D, 0x0A, 0x63, 0x0A, 0x0D, 0x64]).startsLine = false := by
  decide +kernel

/-- (T) `ring_snapshot_utf8`: `get_recent()` on a valid UTF-8 stream, after any amount consumed and
with any read-ahead allowance: the snapshot is valid UTF-8 (the encoding of a contiguous piece of the
stream), `end_offset − start_offset` is its length, and `start_line` is 1 + the number of lines of the
stream (YAML rule: LF, CRLF, lone CR) that end before `start_offset`. -/
theorem ring_snapshot_utf8 (cap ahead : Nat) (hcap : 1 ≤ cap) (cs : List Char) (consumed : Nat)
    (hlen : (encode cs).length + 2 ≤ usizeMax) :
    ∃ so sl mid, ringRun cap ahead (encode cs) consumed = .ok (so, so + (encode mid).length, sl, encode mid) ∧
      mid <:+: cs ∧ sl = 1 + linesEndedBefore (encode cs) so := by
  unfold ringRun
  simp only []
  rcases Lemmas.C17.ringPush_take cap (min consumed (encode cs).length + ahead) hcap (encode cs) hlen with
    hnil | ⟨b, hbpos, hble, hr⟩
  · -- nothing was seen
    rw [hnil]
    have h3 := congrArg List.length hnil
    rw [List.length_take] at h3
    simp only [List.length_nil] at h3
    have h0 : min consumed (encode cs).length = 0 := by omega
    rw [h0]
    exact ⟨0, 1, [], rfl, List.nil_infix, by simp⟩
  · -- the ring content is the window [b − cap, b) of the stream
    generalize ringPush cap ⟨[], 0, 1, true⟩ 0 ((encode cs).take (min consumed (encode cs).length + ahead)) = r at hr
    have hemp := hr.buf_ne_nil hcap hbpos hble
    obtain ⟨hbuf, hoff, hline, _⟩ := hr
    rw [if_neg hemp, hbuf, hoff, hline]
    obtain ⟨k, mid, ht, hin, _, _, hl⟩ := ring_trim_utf8 cs (b - cap) b (1 + linesEndedBefore (encode cs) (b - cap))
      (by omega) hble (by
        have h1 := Lemmas.C17.linesEndedBefore_le (encode cs) (b - cap)
        omega)
    rw [ht]
    simp only [Lemmas.C17.res_bind_ok, Lemmas.C17.res_pure]
    exact ⟨_, _, mid, rfl, hin, by rw [hl]⟩

/-- (T) `reader_snippet_line_aligned` (fix of finding `C17-reader-window-starts-mid-line`; line breaks
under the YAML rule since the fix of `C17-lone-cr-line-break`): what `from_reader` attaches as snippet text
— `get_recent()` followed by `line_aligned_text()` — on a valid UTF-8 stream, after any amount consumed:
never a panic, and a non-empty text `T` is a contiguous piece of the stream (`cs = P ++ T ++ S`) that
begins at the beginning of a line: `P` is empty, or ends with LF, or ends with a CR that is not followed by
LF (a CRLF pair is never split between `P` and `T`); and it carries that line's number: `L` is the number
of lines of `P` under the YAML rule (`P` ends with a line break, so its last line is the empty line on
which `T` starts) — line `j` of the fragment (followed by the rest of the stream) under the YAML rule is
line `L − 1 + j` of the stream. So a column of a location on any line of `T` counts from the real beginning of that
line, and `marker_at_reported_column` / `window_contains_error_line_yaml` apply to the fragment exactly as
to a whole text; a line whose beginning has been evicted is not in `T`. -/
theorem reader_snippet_line_aligned (cap ahead : Nat) (hcap : 1 ≤ cap) (cs : List Char) (consumed : Nat)
    (hlen : (encode cs).length + 2 ≤ usizeMax) :
    ∃ starts T L, ringRunAligned cap ahead (encode cs) consumed = .ok (starts, T, L) ∧
      (T ≠ [] → ∃ P S, cs = P ++ T ++ S ∧
        (P = [] ∨ P.getLast? = some '\n' ∨ (P.getLast? = some '\r' ∧ T.head? ≠ some '\n')) ∧
        L = (yamlLines P).length ∧
        ∀ j, 1 ≤ j → yamlLine cs (L - 1 + j) = yamlLine (T ++ S) j) := by
  obtain ⟨starts, T, L, h, hT⟩ := Lemmas.C17.ringRunAligned_spec cap ahead hcap cs consumed hlen
  refine ⟨starts, T, L, h, fun hne => ?_⟩
  obtain ⟨P, S, hcs, hends, hL⟩ := hT hne
  refine ⟨P, S, hcs, hends, hL, fun j hj => ?_⟩
  rw [hcs, List.append_assoc, hL]
  exact Lemmas.C17.yamlLine_append P (T ++ S) (Lemmas.C17.EndsLine.append_right hends S hne) j hj

/-- (E) a ring of capacity 6 over `aé\nb漢\nxyz` consumed to the end: the window starts inside `漢`
(two continuation bytes are dropped) on line 2 -/
example : ringRun 6 0 (encode "aé\nb漢\nxyz".toList) 100 = .ok (8, 12, 2, encode "\nxyz".toList) := by
  char_lits
  decide +kernel

end SaphyrVerif.Props.C17
