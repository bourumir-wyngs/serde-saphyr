import SaphyrVerif.Gen.Tables
import SaphyrVerif.Model.Budget
/-!
Default budget regenerated from `/repo/src/budget.rs` (Gen/Tables.lean) as a model `Limits` value, with the depth bound
C01's recursion argument relies on.  `default_limits_fit_usize` has no user: it records that the defaults meet the
hypothesis `maxDepth < usize::MAX` of `Props.C07.no_unbalanced_on_trees_partial_maxDepth`.
-/
namespace SaphyrVerif.Props.C07_Tables
open SaphyrVerif.Budget

/-- `Budget::default()` as model limits -/
def defaultLimits : Limits :=
  { maxEvents := Gen.budgetDefault_maxEvents, maxAliases := Gen.budgetDefault_maxAliases,
    maxAnchors := Gen.budgetDefault_maxAnchors, maxDepth := Gen.budgetDefault_maxDepth,
    maxDocuments := Gen.budgetDefault_maxDocuments, maxNodes := Gen.budgetDefault_maxNodes,
    maxTotalScalarBytes := Gen.budgetDefault_maxTotalScalarBytes, maxMergeKeys := Gen.budgetDefault_maxMergeKeys,
    enforceRatio := Gen.budgetDefault_enforceAliasAnchorRatio, minAliases := Gen.budgetDefault_aliasAnchorMinAliases,
    multiplier := Gen.budgetDefault_aliasAnchorRatioMultiplier }

/-- the default nesting limit is what the 8 MiB-stack argument of C01 uses -/
theorem default_depth_le_2000 : defaultLimits.maxDepth ≤ 2000 := by decide

theorem default_limits_fit_usize :
    defaultLimits.maxDepth < USIZE_MAX ∧ defaultLimits.maxEvents < USIZE_MAX ∧ defaultLimits.maxNodes ≤ defaultLimits.maxEvents := by
  decide

end SaphyrVerif.Props.C07_Tables
