import SaphyrVerif.Lemmas.Lits
import SaphyrVerif.Props.C19
/-!
# C19 — former counter-examples, now regression examples

The witnesses on which the code violated the property before the repairs
* bebcb49 (`Parser::starts_ci` compares bytes instead of slicing the `str`) and
* 78f916b (`parse_yaml12_float`: with the option on, a text the plain reading accepts is returned as
  parsed — directly into the target width — unless the tag is `!degrees`)
evaluated on the model of the repaired code.  The general statements are theorems of `Props/C19.lean`
(`eval_total`, `plain_literal_unchanged`, `plain_literal_unchanged_f32`).  Every witness is replayed on the
implementation by the `robotics` harness on every check run (oracle ids `C19-panic-*`,
`C19-f32-double-rounding`, `C19-f(32|64)-*-when-on`: any hit is a violation again).
-/
namespace SaphyrVerif.Props.C19_Findings
open SaphyrVerif SaphyrVerif.F64 SaphyrVerif.Robotics

/-- (E, was F `eval_panics_on_multibyte`) `123é` (bytes 31 32 33 C3 A9): `starts_ci(".inf")` used to slice
`&self.s[0..4]` inside `é` and panic; now it is an ordinary error, as for `12é`. -/
example : evalExpr 0 (utf8 "123é".toList) = .err .trailing 0 := by decide +kernel
example : evalExpr 0 (utf8 ".abé".toList) = .err .invalidFloat 0 := by decide +kernel
example : evalExpr 0 (utf8 "12€".toList) = .err .trailing 0 := by decide +kernel
example : evalExpr 0 (utf8 "1😀".toList) = .err .trailing 0 := by decide +kernel
example : parseYaml12Float false "123é".toList 0 true = .hook .trailing := by decide +kernel

/-- (E, was F `f32_double_rounding`) `1.00000005960464477540` as `f32`: `0x3F800001` with the option off
AND on (it used to be `0x3F800000` with the option on: rounded to f64, then narrowed). -/
example :
    parseYaml12Float true "1.00000005960464477540".toList 0 false = .ok (ofBits binary32 1065353217) ∧
    parseYaml12Float true "1.00000005960464477540".toList 0 true = .ok (ofBits binary32 1065353217) := by
  char_lits
  decide +kernel

/-- (E) the double rounding is still what `v as f32` of the evaluator does — it is only no longer applied
to plain literals: narrowing the f64 reading gives the other neighbour. -/
example : convert binary32 (ofBits binary64 0x3FF0000010000000) = ofBits binary32 1065353216 := by decide +kernel

/-- (E, was F `infinity_word_rejected_when_on`) the spelled-out `infinity` keeps its value. -/
example :
    parseYaml12Float false "infinity".toList 0 true = .ok (.inf false) ∧
    parseYaml12Float false "-Infinity".toList 0 true = .ok (.inf true) ∧
    parseYaml12Float true "INFINITY".toList 12 true = .ok (.inf false) := by decide +kernel

example :
    parseYaml12Float false "inf".toList 0 true = .ok (.inf false) ∧
    parseYaml12Float false "-inf".toList 0 true = .ok (.inf true) ∧
    parseYaml12Float false "nan".toList 0 true = .ok .nan := by decide +kernel

/-- (E) the extension still extends: a literal with `_` separators is accepted only with the option on. -/
example :
    parseYaml12Float false "1_000".toList 0 false = .invalid ∧
    parseYaml12Float false "1_000".toList 0 true = .ok (ofNat binary64 1000) := by decide +kernel

/-- (E, was F `unicode_whitespace_rejected_when_on`) U+00A0 `1.5` is 1.5 with the option off and on. -/
example :
    parseYaml12Float false [Char.ofNat 0xA0, '1', '.', '5'] 0 false = .ok (ofBits binary64 0x3FF8000000000000) ∧
    parseYaml12Float false [Char.ofNat 0xA0, '1', '.', '5'] 0 true = .ok (ofBits binary64 0x3FF8000000000000) := by
  decide +kernel

/-- (E, out of scope of the property) under an explicit `!degrees` tag the evaluator still runs, so its
lexical rules apply there: `infinity` is an unknown identifier, `180` is converted once. -/
example :
    parseYaml12Float false "infinity".toList TAG_DEGREES true = .hook .unknownIdent ∧
    parseYaml12Float false "180".toList TAG_DEGREES true = .ok PI ∧
    parseYaml12Float false "180".toList TAG_DEGREES false = .ok (ofNat binary64 180) := by decide +kernel

end SaphyrVerif.Props.C19_Findings
