import SaphyrVerif.Props.C13
import SaphyrVerif.Lemmas.C20_FlowRead
/-!
# C20 — presentation wrappers and serializer options change layout only, never data

Same model (`Model/Emitter.lean`) and reader (`Spec/EmitReader.lean`) as C13.  The full statement
`C20_Full` is still FALSE for the code: `FoldStr` turns single line breaks into blanks (text required by
the crate's own tests, `foldstr_alters_data`), `SpaceAfter` around a `|+` literal adds a line break to
the string (documented caveat, `space_after_block_string_counterexample`).  Proved parts:

* comments (FULL for the wrapper's own duty): what `Commented` stages contains no YAML line break
  (LF, CR, NEL, LS, PS), no NUL, no other control character but TAB, and has the length of the
  comment (`comment_single_line`); the former defects are regression theorems
  (`comment_cr_regression`, `comment_nul_regression`: fix 8388868); comments are suppressed in flow
  context and dropped by block sequences
* `SpaceAfter`: exactly one extra line break after the value, nothing else
* options: on the C13 fragment the emitted text does not depend on `min_fold_chars`,
  `folded_wrap_chars` (beyond the string-length bound), `prefer_block_scalars`, nor on the scalar-text
  functions, and for EVERY `indent_step ≥ 1`, both settings of `compact_list_indent`, of `yaml_12` (the
  prologue), of `quote_all` and of `tagged_enums` (the scalar tokens) it reads back as the value: the data
  never depends on these options (`options_layout_only_partial`)
* flow wrappers: `FlowSeq` / `FlowMap` around a sequence / mapping of the flow fragment (leaves, `Some`,
  newtype structs, nested sequences / tuples / tuple structs / mappings with distinct safe string keys,
  and — since fix 1fd2d48 — enum variants with data, written `{Variant: payload}`) write one line of
  flow text (after the `yaml_12` prologue, if any; `quote_all` / `tagged_enums` off: `PlainOpts`) that reads
  back as the same tree (`flow_wrapper_roundtrip_partial`), hence as the same tree
  as the unwrapped value where that is in the C13 fragment too (`flow_wrapper_same_tree_partial`)
* `tagged_enums` and variant names: the name of a unit variant is written by the VALUE rule in value
  positions (bare or after the tag `!!Enum `) and by the KEY rule in key positions; a safe name is
  written as itself by every rule and `!!Enum name`, `name`, `name:` read back as the string `name`
  (`unit_variant_name_roundtrip`); a name that is a YAML 1.1 boolean spelling is quoted in every one of
  these positions (`unit_variant_yaml11_bool_name_regression`: seed C20/3, fix b697ff3)
* explicit literal strings: `LitStr(s)` at the root, under `indent_step = 2` without the `yaml_12` prologue,
  round-trips exactly when `s` has no control character but LF / TAB, some content, and needs no indentation
  indicator (`explicit_literal_roundtrip_partial`); with CR / NUL / other controls, inside flow collections and for
  two or more line breaks only the repaired code falls back to a quoted scalar / writes every empty
  line (`litstr_cr_regression`, `litstr_nul_regression`, `block_string_in_flow_regression`,
  `litstr_only_newlines_regression`: fixes 5c1f2f6 54858b9 4b402ce)

The flow-wrapper, option and variant-name theorems quantify over the scalar-text functions `f` under `SafeContract f`
(safe strings are written plain).  The crate's own functions are no such `f` (`implFns_not_safeContract` in
`Props/C13`: `infinity`), so these theorems are about the emitter's state machine, not about `implFns`; the comment,
`SpaceAfter` and `LitStr` theorems hold for every `f`, `implFns` included.
-/
namespace SaphyrVerif.Emit

/-- the value without presentation wrappers (`LitStr` / `FoldStr` become plain strings).  No statement below uses
it: they compare with `erase`, which drops the wrappers itself. -/
def stripWrappers : SVal → SVal
  | .flowSeq v => stripWrappers v
  | .flowMap v => stripWrappers v
  | .commented v _ => stripWrappers v
  | .spaceAfter v => stripWrappers v
  | .litStr s => .str s
  | .foldStr s => .str s
  | .some v => .some (stripWrappers v)
  | .newtypeStruct v => .newtypeStruct (stripWrappers v)
  | .newtypeVariant n v => .newtypeVariant n (stripWrappers v)
  | v => v

/-- C20 at full strength (untyped form): whenever the wrapped value serializes under a valid
option vector, the text reads back as the data of the value (`erase` drops the wrappers). -/
def C20_Full : Prop :=
  ∀ (o : Opts) (v : SVal) (t : List Char), o.indentStep ≥ 1 → emit o implFns v = .ok t →
    readDoc t = some (erase v)

section
variable {o : Opts} {f : ScalarFns}

/-- YAML line breaks (1.1 and 1.2), NUL and the other control characters except TAB -/
def isBreakOrControl (c : Char) : Bool :=
  c == '\n' || c == '\r' || c.toNat == 0x85 || c.toNat == 0x2028 || c.toNat == 0x2029 || c.toNat == 0 ||
  (isControl c && c != '\t')

/-- (T, full for the wrapper's duty) what `Commented` stages is one line: no character of it is a
line break of any YAML version, a NUL or another control character (TAB excepted), and only such
characters were replaced (the length is kept, every other character is unchanged). -/
theorem comment_single_line (c : List Char) :
    (∀ x ∈ sanitizeComment c, isBreakOrControl x = false) ∧ (sanitizeComment c).length = c.length ∧
    (∀ i (h : i < c.length), isBreakOrControl c[i] = false →
      (sanitizeComment c)[i]'(by simpa [sanitizeComment] using h) = c[i]) := by
  refine ⟨?_, by simp [sanitizeComment], ?_⟩
  · intro x hx
    simp only [sanitizeComment, List.mem_map] at hx
    obtain ⟨y, _, rfl⟩ := hx
    by_cases hy : ((isControl y && y != '\t') || y.toNat == 0x2028 || y.toNat == 0x2029) = true
    · rw [if_pos hy]; decide
    · rw [if_neg hy]
      simp only [Bool.or_eq_true, not_or, Bool.not_eq_true] at hy
      obtain ⟨⟨h1, h2⟩, h3⟩ := hy
      have hn : ∀ k : Nat, k ≤ 0x1F ∨ (0x7F ≤ k ∧ k ≤ 0x9F) → y.toNat = k → y ≠ '\t' → False := by
        intro k hk he hne
        have : isControl y = true := by simp [isControl, he]; omega
        simp [this, hne] at h1
      have hnl : y ≠ '\n' := fun e => hn 10 (by omega) (by rw [e]; rfl) (by rw [e]; decide)
      have hcr : y ≠ '\r' := fun e => hn 13 (by omega) (by rw [e]; rfl) (by rw [e]; decide)
      have h85 : y.toNat ≠ 0x85 := fun e => hn 0x85 (by omega) e (by rintro rfl; simp at e)
      have h0 : y.toNat ≠ 0 := fun e => hn 0 (by omega) e (by rintro rfl; simp at e)
      simp [isBreakOrControl, hnl, hcr, h85, h0, h1, h2, h3]
  · intro i h hb
    simp only [sanitizeComment, List.getElem_map]
    have : ((isControl c[i] && c[i] != '\t') || c[i].toNat == 0x2028 || c[i].toNat == 0x2029) = false := by
      simp only [isBreakOrControl, Bool.or_eq_false_iff] at hb
      obtain ⟨⟨⟨⟨⟨⟨_, _⟩, _⟩, h28⟩, h29⟩, _⟩, hc⟩ := hb
      simp only [beq_eq_false_iff_ne, ne_eq] at h28 h29
      simp [h28, h29, hc]
    simp [this]

/-- (T) in particular no line feed -/
theorem comment_single_line_partial (c : List Char) : '\n' ∉ sanitizeComment c := by
  intro h
  have := (comment_single_line c).1 _ h
  exact absurd this (by decide)

/-- … and is exactly what the wrapper stages in block context: the comment text with every line break and
every control character but TAB replaced by a blank (`sanitizeComment`), cleared again after the value. -/
theorem commented_stages_sanitized (v : SVal) (c : List Char) (s : St) (hs : s.inFlow = 0) (hc : c ≠ []) :
    ser o f (.commented v c) s =
      (match ser o f v { s with pendingInlineComment := some (sanitizeComment c) } with
       | .error e => .error e
       | .ok s' => .ok { s' with pendingInlineComment := none }) := by
  have hce : c.isEmpty = false := by cases c <;> simp_all
  rw [ser]
  simp only [hs, hce, beq_self_eq_true, if_true, Bool.not_false]
  rfl

/-- (T) a staged comment goes after the scalar token on the same line: ` # ` + text + line feed,
and is consumed. -/
theorem comment_follows_scalar (tok c : List Char) (s : St) (hs : s.inFlow = 0)
    (hc : s.pendingInlineComment = some c) (hals : s.atLineStart = false) :
    (serToken o tok s).out = (writeSpaceIfPending s).out ++ tok ++ " # ".toList ++ c ++ ['\n'] ∧
    (serToken o tok s).pendingInlineComment = none := by
  constructor
  · by_cases hp : s.pendingSpaceAfterColon = true <;>
      simp [serToken, writeSpaceIfPending, indentIfLineStart, writeEndOfScalar, newline, St.write, hs, hc, hals, hp]
  · by_cases hp : s.pendingSpaceAfterColon = true <;>
      simp [serToken, writeSpaceIfPending, indentIfLineStart, writeEndOfScalar, newline, St.write, hs, hc, hals, hp]

/-- (regression, fix 8388868) a CR in a comment is replaced like LF: `S { xn: Commented(1,
"c\rinjected: 2") }` reads back as itself (the CR used to start a new line: a second key `injected`). -/
theorem comment_cr_regression :
    emit {} implFns (SVal.struct [("xn".toList, .commented (.int 1) "c\rinjected: 2".toList)]) =
      .ok "xn: 1 # c injected: 2\n".toList ∧
    readDoc "xn: 1 # c injected: 2\n".toList =
      some (erase (SVal.struct [("xn".toList, .commented (.int 1) "c\rinjected: 2".toList)])) := by
  char_lits
  exact ⟨by decide +kernel, by decide +kernel⟩

/-- (regression, fix 8388868) a NUL character in a comment is replaced by a blank (it used to end the
input for the scanner: `(Commented(true, "\0"), 45)` read back as `[true]`). -/
theorem comment_nul_regression :
    emit {} implFns (.tuple [.commented (.bool true) [Char.ofNat 0], .int 45]) = .ok "- true #  \n- 45\n".toList ∧
    readDoc "- true #  \n- 45\n".toList = some (erase (.tuple [.commented (.bool true) [Char.ofNat 0], .int 45])) := by
  char_lits
  exact ⟨by decide +kernel, by decide +kernel⟩

/-- (T) comments are suppressed in flow context: the wrapper is transparent there. -/
theorem comment_suppressed_in_flow (v : SVal) (c : List Char) (s : St) (hs : s.inFlow > 0) :
    ser o f (.commented v c) s = ser o f v s := by
  have : (s.inFlow == 0) = false := by simp; omega
  rw [ser]; simp [this]

/-- (T) a block sequence drops a staged comment (it is never written inside the sequence). -/
theorem comment_dropped_for_block_seq (s : St) (hs : s.inFlow = 0) (hf : s.pendingFlow ≠ some .anySeq) :
    (serializeSeq o s).1.flow = false ∧ (serializeSeq o s).2.pendingInlineComment = none := by
  have h1 : (s.pendingFlow == some PendingFlow.anySeq) = false := by simpa using hf
  constructor <;>
    (cases ha : s.atLineStart <;> cases hd : s.afterDashDepth <;> cases hp : s.pendingSpaceAfterColon <;>
      cases hl : s.lastValueWasBlock <;>
      simp [serializeSeq, takeFlow, hs, h1, ha, hd, hp, hl, shiftForInlineNode])

/-- (T) `SpaceAfter` in block context = the value, then exactly one more line break
(`at_line_start` set); in flow context = the value. -/
theorem space_after_blank_line_only (v : SVal) (s s' : St) (h : ser o f v s = .ok s') :
    ser o f (.spaceAfter v) s = .ok (if s'.inFlow == 0 then newline s' else s') ∧
    (newline s').out = s'.out ++ ['\n'] := by
  constructor
  · rw [ser, h]
  · rfl

/-- (T) `FlowSeq(seq)` / `FlowMap(map)` at the root, contents in the flow fragment: serialization
succeeds, the output is the one-line flow text, and it reads back as exactly the value. -/
theorem flow_wrapper_roundtrip_partial (ho : PlainOpts o) (hf : SafeContract f) :
    (∀ xs, inFlowFragList xs = true →
      emit o f (.flowSeq (.seq xs)) = .ok (prologue o ++ flowTxt (.seq xs) ++ ['\n']) ∧
      readDoc (prologue o ++ flowTxt (.seq xs) ++ ['\n']) = some (erase (.flowSeq (.seq xs)))) ∧
    (∀ known es, inFlowFragEntries es = true → (keysOf es).Nodup →
      emit o f (.flowMap (.map known es)) = .ok (prologue o ++ flowTxt (.map known es) ++ ['\n']) ∧
      readDoc (prologue o ++ flowTxt (.map known es) ++ ['\n']) = some (erase (.flowMap (.map known es)))) := by
  refine ⟨fun xs hv => ⟨emit_flowSeq ho hf xs hv, ?_⟩, fun known es hv hn => ⟨emit_flowMap ho hf known es hv, ?_⟩⟩
  · have := read_flow_doc_pro o (.seq xs) (by simpa [inFlowFrag] using hv) ⟨_, Or.inl rfl⟩
    simpa [erase] using this
  · have := read_flow_doc_pro o (.map known es) (by simp [inFlowFrag, hv, hn]) ⟨_, Or.inr rfl⟩
    simpa [erase] using this

/-- (T) the flow wrapper does not change the tree: for a sequence in both fragments, the wrapped and
the bare value serialize to texts that read back as the same tree. -/
theorem flow_wrapper_same_tree_partial (ho : PlainOpts o) (hf : SafeContract f) (xs : List SVal)
    (h1 : inFlowFragList xs = true) (h2 : inFrag o (.seq xs) = true) :
    ∃ t1 t2, emit o f (.flowSeq (.seq xs)) = .ok t1 ∧ emit o f (.seq xs) = .ok t2 ∧ readDoc t1 = readDoc t2 := by
  obtain ⟨t2, he2, hr2⟩ := emit_roundtrip_partial ho.toFragOpts hf (.seq xs) h2
  have h := (flow_wrapper_roundtrip_partial ho hf).1 xs h1
  exact ⟨_, t2, h.1, he2, by rw [h.2, hr2]; simp [erase]⟩

/-- (T) `LitStr(s)` at the root, under `indent_step = 2` and without the `yaml_12` prologue (only this statement fixes
them: the layout `litLeaf k` and its reader lemma `litLeaf_ok` are for every step), round-trips exactly — the chomping indicator is chosen from the
number of trailing line feeds (`|-`, `|`, `|+`), every content line is indented by two blanks, one
empty line is added per trailing line feed beyond the first — provided `s` contains no control
character but LF / TAB, has some content before its trailing line feeds, and its first non-empty line
does not start with a blank (no indentation indicator).  Outside: controls (quoted fallback:
`litstr_cr_regression`), an indicator below a nested parent (quoted fallback, fix a252cf9), line breaks
only (`litstr_only_newlines_regression`; a single one is still altered: oracle class
`block-scalar-only-newlines`, text required by the crate's tests). -/
theorem explicit_literal_roundtrip_partial (hy : o.yaml12 = false) (hi : o.indentStep = 2) (s : List Char) (hs : LitOk s) :
    emit o f (.litStr s) = .ok (litText s) ∧ readDoc (litText s) = some (erase (.litStr s)) :=
  ⟨emit_litStr hy hi s hs, by simpa [erase] using read_litText s hs⟩

/-- (T) on the C13 fragment neither `min_fold_chars`, `folded_wrap_chars` (above the length of the
strings), `prefer_block_scalars` nor the choice of scalar-text functions changes a single byte of the
output; `indent_step` (any value ≥ 1) and `compact_list_indent` change the indentation only, `yaml_12`
adds the prologue only, `quote_all` and `tagged_enums` change the scalar tokens only: under two option
vectors of the fragment, whatever their steps, list styles, `yaml_12`, `quote_all` and `tagged_enums`, both
texts read back as the value. -/
theorem options_layout_only_partial {o1 o2 : Opts} {f1 f2 : ScalarFns} (h1 : FragOpts o1) (h2 : FragOpts o2)
    (hf1 : SafeContract f1) (hf2 : SafeContract f2) (v : SVal)
    (hv1 : inFrag o1 v = true) (hv2 : inFrag o2 v = true) :
    (o1.indentStep = o2.indentStep → o1.compactListIndent = o2.compactListIndent → o1.yaml12 = o2.yaml12 →
      o1.quoteAll = o2.quoteAll → o1.taggedEnums = o2.taggedEnums → emit o1 f1 v = emit o2 f2 v) ∧
    (∃ t1 t2, emit o1 f1 v = .ok t1 ∧ emit o2 f2 v = .ok t2 ∧ readDoc t1 = some (erase v) ∧ readDoc t2 = some (erase v)) := by
  obtain ⟨t1, he1, hr1⟩ := emit_roundtrip_partial h1 hf1 v hv1
  obtain ⟨t2, he2, hr2⟩ := emit_roundtrip_partial h2 hf2 v hv2
  refine ⟨fun hk hcp hy hq ht => ?_, t1, t2, he1, he2, hr1, hr2⟩
  rw [emit_layout_partial h1 hf1 v hv1, emit_layout_partial h2 hf2 v hv2, hk, hcp, prologue, prologue, hy,
    safeToks, safeToks, hq, ht]

end

/-- (regression, fix 5c1f2f6) `LitStr("a\rb")` is written as a quoted scalar (the CR used to be written
raw into the literal block, where it is a line break: the document was rejected). -/
theorem litstr_cr_regression :
    emit {} implFns (.litStr "a\rb".toList) = .ok "\"a\\rb\"\n".toList ∧
    readDoc "\"a\\rb\"\n".toList = some (erase (.litStr "a\rb".toList)) := ⟨by decide +kernel, by decide +kernel⟩

/-- (regression, fix 5c1f2f6) same for NUL (it used to cut the document). -/
theorem litstr_nul_regression :
    emit {} implFns (.litStr ['a', Char.ofNat 0, 'b']) = .ok "\"a\\0b\"\n".toList ∧
    readDoc "\"a\\0b\"\n".toList = some (erase (.litStr ['a', Char.ofNat 0, 'b'])) := ⟨by decide +kernel, by decide +kernel⟩

/-- (regression, fix 4b402ce) `LitStr("\n\n")`: one empty line per line break under `|+` (a single
empty line used to be written: the string read back as `"\n"`). -/
theorem litstr_only_newlines_regression :
    emit {} implFns (.litStr "\n\n".toList) = .ok "|+\n  \n  \n".toList ∧
    readDoc "|+\n  \n  \n".toList = some (erase (.litStr "\n\n".toList)) := by
  char_lits
  exact ⟨by decide +kernel, by decide +kernel⟩

/-- (regression, fix 54858b9) `FlowSeq(vec![LitStr("l")])`: an ordinary flow scalar (the block scalar
header and body used to be written inside the brackets). -/
theorem block_string_in_flow_regression :
    emit {} implFns (.flowSeq (.seq [.litStr "l".toList])) = .ok "[l]\n".toList ∧
    readDoc "[l]\n".toList = some (erase (.flowSeq (.seq [.litStr "l".toList]))) := ⟨by decide +kernel, by decide +kernel⟩

/-- (regression, fix 1fd2d48) enum variants with data inside flow collections get braces of their own
(`{k: Nv: 1}` used to be written: not YAML). -/
theorem variant_in_flow_regression :
    emit {} implFns (.flowMap (SVal.struct [("k".toList, .newtypeVariant "Nv".toList (.int 1))])) = .ok "{k: {Nv: 1}}\n".toList ∧
    readDoc "{k: {Nv: 1}}\n".toList =
      some (erase (.flowMap (SVal.struct [("k".toList, .newtypeVariant "Nv".toList (.int 1))]))) ∧
    emit {} implFns (.flowSeq (.seq [.tupleVariant "Tv".toList [.int 1, .int 2],
      SVal.structVariantOf "Sv".toList [("a".toList, .tupleStruct [])]])) = .ok "[{Tv: [1, 2]}, {Sv: {a: []}}]\n".toList := by
  char_lits
  exact ⟨by decide +kernel, by decide +kernel, by decide +kernel⟩

/-- (regression, fix a561293) a long unit variant name in mapping-value position, folded
automatically, has its body indented under its key (it used to be indented from depth 0). -/
theorem unit_variant_auto_folded_regression :
    emit { foldedWrapCol := 10 } implFns
      (.seq [SVal.struct [("k".toList, .unitVariant "E".toList "lorem ipsum dolor".toList)]]) =
      .ok "- k: >-\n    lorem\n    ipsum dolor\n".toList ∧
    readDoc "- k: >-\n    lorem\n    ipsum dolor\n".toList =
      some (erase (.seq [SVal.struct [("k".toList, .unitVariant "E".toList "lorem ipsum dolor".toList)]])) := by
  char_lits
  exact ⟨by decide +kernel, by decide +kernel⟩

/-- (regression, fixes f421f34 beca5d5) a literal block string as a field of a tuple struct / tuple
variant is indented under its dash (the body used to be indented from depth 0). -/
theorem block_scalar_after_tuple_dash_regression :
    emit {} implFns (SVal.struct [("k".toList, .tupleStruct [.litStr "a\nb".toList, .int 1])]) =
      .ok "k:\n  - |-\n    a\n    b\n  - 1\n".toList ∧
    readDoc "k:\n  - |-\n    a\n    b\n  - 1\n".toList =
      some (erase (SVal.struct [("k".toList, .tupleStruct [.litStr "a\nb".toList, .int 1])])) := by
  char_lits
  exact ⟨by decide +kernel, by decide +kernel⟩

section
variable {o : Opts} {f : ScalarFns}

/-- (T) the NAME of a unit variant is data (an untyped target reads the string of the name): it is written
by the VALUE rule in value positions — bare, or after the tag `!!Enum ` of `tagged_enums` — and by the
KEY rule in key positions (`KeyScalarSink` for a unit variant used as a mapping key,
`write_plain_or_quoted` for the key of `Variant: payload`); for a safe name every rule writes the name
itself, whatever `yaml_12` / `tagged_enums` / block or flow context, and the reader takes `!!Enum name`,
`name` and `name:` for the string `name`.  Without `tagged_enums` a unit variant is written exactly like
the string of its name (any name). -/
theorem unit_variant_name_roundtrip (hq : o.quoteAll = false) (hf : SafeContract f) {n : List Char}
    (hn : isSafeStr n = true) :
    (∀ fl, plainOrQuotedValue o f fl n = n) ∧
    (∀ e s, o.taggedEnums = true → ser o f (.unitVariant e n) s =
      .ok (writeEndOfScalar ((indentIfLineStart o (writeSpaceIfPending s)).write ("!!".toList ++ e ++ ' ' :: n)))) ∧
    (∀ e m s, o.taggedEnums = false → ser o f (.unitVariant e m) s = ser o f (.str m) s) ∧
    (∀ e, keyText o f (.unitVariant e n) = some n) ∧ plainOrQuoted o f n = n ∧
    (∀ e fuel m sa inl i rest, (∀ c ∈ e, c ≠ ' ') → m ≤ i → DedLt m rest →
      blockNode (fuel + 1) m sa inl (⟨i, '!' :: '!' :: e ++ ' ' :: n⟩ :: rest) = some (.str n, rest)) ∧
    (∀ fuel m sa inl i rest, m ≤ i → DedLt m rest →
      blockNode (fuel + 1) m sa inl (⟨i, n⟩ :: rest) = some (.str n, rest)) ∧
    (∀ after, colonEndsKey after = true → implicitKey (n ++ ':' :: after) = some (.str n, after)) := by
  have hval : ∀ fl, plainOrQuotedValue o f fl n = n := fun fl => by
    simp [plainOrQuotedValue, hq, hf.value n o.yaml12 fl hn, hf.shape n hn]
  have hkey : plainOrQuoted o f n = n := by
    simp [plainOrQuoted, hq, hf.plain n hn, hf.value n o.yaml12 true hn, hf.shape n hn]
  refine ⟨hval, ?_, ?_, ?_, hkey, ?_, ?_, (safe_keyTok hn).ik⟩
  · intro e s ht
    simp [ser, ht, serTaggedScalar, hval]
  · intro e m s ht
    simp [ser, ht]
  · intro e
    simp [keyText, keyStrText, hf.plain n hn, hf.value n o.yaml12 true hn, hf.shape n hn]
  · intro e fuel m sa inl i rest he hi hd
    rw [blockNode_tagged_eq fuel m sa inl i rest he (safe_coreTok hn) hi]
    exact (safe_coreTok hn).read fuel m sa inl _ rest (by omega) hd
  · intro fuel m sa inl i rest hi hd
    exact (safe_coreTok hn).read fuel m sa inl i rest hi hd

end

/-- (regression, seed C20/3 and fix b697ff3) a variant named like a YAML 1.1 boolean: after the tag of
`tagged_enums` the VALUE rule quotes it (the key rule of the time did not know these spellings: `!!Axis Y`
reads as `true`), in key position the KEY rule quotes it, both for a unit variant used as a mapping key
and — since fix b697ff3 — for the key of `Variant: payload` (`Y: 1` used to be written and read back with
the key `true`); all of them read back as the string "Y". -/
theorem unit_variant_yaml11_bool_name_regression :
    emit { taggedEnums := true } implFns (.seq [.unitVariant "Axis".toList "x".toList, .unitVariant "Axis".toList "Y".toList]) =
      .ok "- !!Axis x\n- !!Axis \"Y\"\n".toList ∧
    readDoc "- !!Axis x\n- !!Axis \"Y\"\n".toList = some (.seq [.str "x".toList, .str "Y".toList]) ∧
    readDoc "- !!Axis x\n- !!Axis Y\n".toList = some (.seq [.str "x".toList, .bool true]) ∧
    emit { taggedEnums := true } implFns (.flowSeq (.seq [.unitVariant "Axis".toList "Off".toList])) = .ok "[!!Axis \"Off\"]\n".toList ∧
    readDoc "[!!Axis \"Off\"]\n".toList = some (.seq [.str "Off".toList]) ∧
    emit {} implFns (.map true [(.unitVariant "Axis".toList "Y".toList, .int 1)]) = .ok "\"Y\": 1\n".toList ∧
    emit {} implFns (.newtypeVariant "Y".toList (.int 1)) = .ok "\"Y\": 1\n".toList ∧
    readDoc "\"Y\": 1\n".toList = some (.map [(.str "Y".toList, .int 1)]) ∧
    readDoc "Y: 1\n".toList = some (.map [(.bool true, .int 1)]) := by
  char_lits
  exact ⟨by decide +kernel, by decide +kernel, by decide +kernel, by decide +kernel, by decide +kernel, by decide +kernel, by decide +kernel, by decide +kernel, by decide +kernel⟩


/-- (F) `FoldStr("a\nb")`: every source line becomes one folded line, so the single line break
reads back as a blank — different data even modulo trailing line breaks (the text is required by the
crate's tests/test_block_str.rs and the unit test of wrapping.rs). -/
theorem foldstr_alters_data :
    emit {} implFns (.foldStr "a\nb".toList) = .ok ">\n  a\n  b\n".toList ∧
    readDoc ">\n  a\n  b\n".toList = some (.str "a b\n".toList) ∧
    trimEndNl "a b\n".toList ≠ trimEndNl "a\nb".toList := by
  char_lits
  exact ⟨by decide +kernel, by decide +kernel, by decide⟩

/-- (F) `SpaceAfter` around a literal string that ends in two line breaks (keep chomping): the
blank line becomes part of the string (documented caveat of the wrapper). -/
theorem space_after_block_string_counterexample :
    emit {} implFns (.spaceAfter (.litStr "l\n\n".toList)) = .ok "|+\n  l\n  \n\n".toList ∧
    readDoc "|+\n  l\n  \n\n".toList = some (.str "l\n\n\n".toList) := by
  char_lits
  exact ⟨by decide +kernel, by decide +kernel⟩

/-- the indentation indicator (repaired by fix a252cf9; found as oracle class
`block-scalar-indent-indicator`: the indicator was the absolute body column although YAML counts it
from the parent node, `[{a: LitStr(" ")}]` was written `- a: |4-` and read back as the empty string):
below a nested parent a block string that needs an indicator is now quoted. -/
example : emit {} implFns (.seq [SVal.struct [("a".toList, .litStr " ".toList)]]) = .ok "- a: \" \"\n".toList := by
  char_lits
  decide +kernel

/-- (F) the full statement does not hold for the code as it is. -/
theorem C20_Full_false : ¬ C20_Full := by
  intro h
  have h1 := h {} _ _ (by decide) foldstr_alters_data.1
  rw [foldstr_alters_data.2.1] at h1
  exact absurd h1 (by decide)

/-- the documented example: flow sequence, literal string, comment, blank line -/
example :
    emit {} implFns (SVal.struct [("ports".toList, .flowSeq (.seq [.int 8080, .int 8081])),
      ("note".toList, .litStr "line 1\nline 2".toList), ("num".toList, .commented (.spaceAfter (.int 5)) "five".toList),
      ("z".toList, .int 1)]) =
      .ok "ports: [8080, 8081]\nnote: |-\n  line 1\n  line 2\nnum: 5 # five\n\nz: 1\n".toList := by
  char_lits
  decide +kernel
example :
    readDoc "ports: [8080, 8081]\nnote: |-\n  line 1\n  line 2\nnum: 5 # five\n\nz: 1\n".toList =
      some (.map [(.str "ports".toList, .seq [.int 8080, .int 8081]), (.str "note".toList, .str "line 1\nline 2".toList),
                  (.str "num".toList, .int 5), (.str "z".toList, .int 1)]) := by
  char_lits
  decide +kernel
/-- the literal-string hypotheses are satisfiable: content with `#`, `:`, quotes, inner blank lines, trailing line feeds -/
example : LitOk "line 1\n\n  - indented # not a comment\nkey: 'v'\n\n".toList := by
  char_lits
  exact ⟨by decide, by decide, by decide⟩
/-- the flow fragment is inhabited -/
example : inFlowFragList [.int 1, .seq [.str "a".toList, .none], SVal.struct [("k".toList, .bool true), ("m".toList, .seq [])],
    .newtypeVariant "nv".toList (.tupleVariant "tv".toList [.int 1, .tupleStruct []]), .structVariant "sv".toList []] = true := by decide +kernel
example : emit {} implFns (.flowSeq (.seq [.int 1, .seq [.str "a".toList, .none], SVal.struct [("k".toList, .bool true), ("m".toList, .seq [])]])) =
    .ok "[1, [a, null], {k: true, m: []}]\n".toList := by
  char_lits
  decide +kernel
/-- comments are suppressed inside flow collections -/
example : emit {} implFns (.flowSeq (.seq [.commented (.int 1) "note".toList, .int 2])) = .ok "[1, 2]\n".toList := by decide +kernel
/-- a comment staged before a block mapping is attached to its first scalar (data unchanged) -/
example : emit {} implFns (.commented (SVal.struct [("a".toList, .int 1), ("b".toList, .int 2)]) "c".toList) =
    .ok "a: 1 # c\nb: 2\n".toList := by
  char_lits
  decide +kernel
/-- the line feed of a comment is sanitised -/
example : emit {} implFns (SVal.struct [("xn".toList, .commented (.int 1) "c\ninjected: 2".toList)]) =
    .ok "xn: 1 # c injected: 2\n".toList := by
  char_lits
  decide +kernel

end SaphyrVerif.Emit
