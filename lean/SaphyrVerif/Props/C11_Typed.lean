import SaphyrVerif.Props.C11
import SaphyrVerif.Lemmas.C11_Typed2Stream
import SaphyrVerif.Lemmas.C11_TypedMulti
import SaphyrVerif.Lemmas.C11_TypedEnds
import SaphyrVerif.Props.C05
/-!
# C11 at the level of typed values — a multi-document stream is the list of its documents, each on its own

`Props/C11.lean` shows at the PUMP level that the events of a stream of documents are the concatenation of
the per-document expansions, each from an empty anchor table.  Here the same is shown for the TYPED entry
points `from_multiple*` (`Entry.fromMultiple`) and the streaming iterator `read*` (`Entry.readIter`):

* `perDoc cfg ty evs` is the specification of ONE document on its own: the typed deserializer on a replay
  cursor over the (expansion) events `evs` of that document and nothing else.
* (1) `from_multiple_eq_map` / `from_multiple_error`: the batch entry point returns the values of the
  documents that `perDoc` reads completely, in order (null-like root scalars are skipped), and is an error as
  soon as `perDoc` of some document fails — or succeeds WITHOUT consuming the whole document
  (`from_multiple_leftover_is_error`: the left-over events are met by the loop as if a document started
  there; strictly inside a document this can only end in an error; a case of `from_multiple_error`);
  `from_multiple_ok_iff` puts both together — these three read off `fromMultiple_outcome` (what the batch loop
  returns over good documents `DocsOk`, decided by `allFine`); `perDoc_clean_interp`: the values are the interpretations `Spec.interp` of the expansion trees (C05).
* (2) `iter_eq_spec_partial` / `iter_isolated_partial`: the iterator yields, document by document, what
  `perDoc` says (a failing document: exactly one error item, then the iterator resumes — through
  `skip_to_next_document` — with the next document); hence the items contributed by a document inside a
  stream are those of the one-document stream of that document; `iter_prefix_unaffected`: the items of a
  good prefix do not depend on the later documents, whatever these are.
* (3) anchors are not visible across documents at the typed level: for documents that have an expansion this
  is contained in (1) and (2), because `perDoc` only sees the expansion from the EMPTY anchor table.  A document
  that aliases an anchor defined only in an earlier document has no expansion: `from_multiple` then is an error
  for every type (`anchors_not_visible_across_docs_batch`, via `from_multiple_ok_pump_ends`: a successful batch
  run has pulled the pump to the end of the input without an error); for the iterator see
  `anchors_not_visible_across_docs_typed_partial` (the alias is the root of the document) and the
  counter-example to the statement as given (`…_counterexample`: the later documents are lost).

The key lemma (`Lemmas/C11_Typed*.lean`, `Lemmas.Frame.frA`) is a *frame* property of the typed
deserializer: run on the replay cursor over the events of one document it never touches its cursor outside
these events (the nesting-depth invariant of `Lemmas/C05_Weak*`), so it cannot tell that cursor from the live
cursor in the middle of a stream, whatever follows the document.  Results are compared as in
`Props/E2E.lean`: same value, or both fail (error payloads may differ in their locations).
-/
namespace SaphyrVerif.Props.C11
open SaphyrVerif SaphyrVerif.Scalars SaphyrVerif.Pump SaphyrVerif.Spec SaphyrVerif.De SaphyrVerif.Entry
open SaphyrVerif.Lemmas.C11T (DocRes DocOk DocsOk sameItem sameItems allFine)
open SaphyrVerif.Lemmas.C11B (Rounds pumpOf BoundaryB DocsIter RoundsFit mixItems allGo)

theorem perDoc_def (cfg : Cfg) (ty : Ty) (evs : List Ev) :
    perDoc cfg ty evs =
      (let run : DocRes :=
        match deser (fuelFor 100000) cfg ty false false (.replay evs 0 none) with
        | .err _ _ => .failed
        | .ok v c =>
          match c.peek with
          | .ok none _ => .clean v
          | _ => .leftover v
      match evs.head? with
      | some (.scalar v _ _ st _ _) => if scalarIsNullish v st then .skipped else run
      | _ => run) := rfl

/-- the (expansion) events of each document, each from the EMPTY anchor table -/
def expandEach : List (LNode × Bool × Loc × Loc) → Except ExpErr (List (List Ev))
  | [] => .ok []
  | (t, _, _, _) :: ds =>
    match expand [] [] t with
    | .error e => .error e
    | .ok r =>
      match expandEach ds with
      | .error e => .error e
      | .ok rest => .ok (r.evs :: rest)

theorem expandEach_cons_ok {d : LNode × Bool × Loc × Loc} {ds : List (LNode × Bool × Loc × Loc)} {evss : List (List Ev)} :
    expandEach (d :: ds) = .ok evss ↔
      ∃ r rest, expand [] [] d.1 = .ok r ∧ expandEach ds = .ok rest ∧ evss = r.evs :: rest := by
  obtain ⟨t, ex, ls, le⟩ := d
  simp only [expandEach]
  cases expand [] [] t with
  | error e => simp
  | ok r =>
    cases expandEach ds with
    | error e => simp
    | ok rest => simp [eq_comm]

theorem expandDocs_of_expandEach (ds : List (LNode × Bool × Loc × Loc)) (evss : List (List Ev))
    (h : expandEach ds = .ok evss) : expandDocs ds = .ok evss.flatten := by
  induction ds generalizing evss with
  | nil => cases h; rfl
  | cons d ds ih =>
    obtain ⟨r, rest, h1, h2, rfl⟩ := expandEach_cons_ok.mp h
    obtain ⟨t, ex, ls, le⟩ := d
    simp [expandDocs, h1, ih rest h2]

/-- the items of the iterator, document by document: nothing for a skipped document, the value of a document
read completely, ONE error item for a document whose deserialization fails (its payload is not specified
here: `default`).  No relation to `Spec.itemsOf` (the parser items of a tree). -/
def itemsOf' (cfg : Cfg) (ty : Ty) (evss : List (List Ev)) : List (Except DErr Val) :=
  Lemmas.C11T.specItems cfg ty evss

theorem isLeftover_false {cfg : Cfg} {ty : Ty} {evs : List Ev} (h : ∀ v, perDoc cfg ty evs ≠ .leftover v) :
    (perDoc cfg ty evs).isLeftover = false := by
  cases hp : perDoc cfg ty evs with
  | leftover v => exact absurd hp (h v)
  | _ => rfl

/-- the hypotheses of `docs_pump_eq_concat`, per document -/
theorem docsOk_of_hyps (L : AliasLimits) (ds : List (LNode × Bool × Loc × Loc)) (evss : List (List Ev))
    (hL : Unlimited L ds) (hnf : ∀ d ∈ ds, Lemmas.C02.noFoldedIndent d.1 = true)
    (hexp : expandEach ds = .ok evss) : DocsOk L ds evss := by
  induction ds generalizing evss with
  | nil => cases hexp; trivial
  | cons d ds ih =>
    obtain ⟨r, rest, h1, h2, rfl⟩ := expandEach_cons_ok.mp hexp
    obtain ⟨hw1, hw2⟩ := hL.2 d (List.mem_cons_self ..)
    exact ⟨⟨hnf d (List.mem_cons_self ..), hL.1, ⟨r, h1, rfl, hw1 r h1⟩, hw2⟩,
      ih rest ⟨hL.1, fun d hd => hL.2 d (List.mem_cons_of_mem _ hd)⟩ (fun d hd => hnf d (List.mem_cons_of_mem _ hd)) h2⟩

theorem docsStream_length (ds : List (LNode × Bool × Loc × Loc)) : 2 * ds.length ≤ (docsStream ds).length := by
  induction ds with
  | nil => simp
  | cons d ds ih =>
    obtain ⟨t, ex, ls, le⟩ := d
    simp only [docsStream, List.length_append, List.length_cons, List.length_nil]
    omega

theorem streamOf_eq (ds : List (LNode × Bool × Loc × Loc)) (l0 l1 : Loc) :
    streamOf ds l0 l1 = .ev .streamStart l0 :: (docsStream ds ++ [.ev .streamEnd l1]) := by
  simp [streamOf]

theorem streamOf_length (ds : List (LNode × Bool × Loc × Loc)) (l0 l1 : Loc) :
    (streamOf ds l0 l1).length = (docsStream ds).length + 2 := by
  simp [streamOf]

/-- the batch loop on a stream: behind the stream-start marker it stands at a document boundary `q`, with the fuel of
the entry point (which covers one round per document and the end of the stream) -/
theorem entry_streamOf (L : AliasLimits) (ds : List (LNode × Bool × Loc × Loc)) (l0 l1 : Loc) (cfg : Cfg) (ty : Ty) :
    ∃ q fuel, Lemmas.C11.Boundary L q ∧ q.look = none ∧ ds.length + 1 ≤ fuel ∧
      fromMultiple cfg ty (initPump L) (streamOf ds l0 l1) =
        multiLoop cfg ty fuel (.live q (docsStream ds ++ [.ev .streamEnd l1])) [] := by
  obtain ⟨q, hq, hl, hpk⟩ :=
    Lemmas.C11B.start_boundaryB L none (fun _ h => by cases h) l0 (docsStream ds ++ [.ev .streamEnd l1])
  refine ⟨q, (streamOf ds l0 l1).length + 10, Lemmas.C11B.boundaryB_none.mp hq, hl, ?_, ?_⟩
  · have := docsStream_length ds
    simp only [streamOf, List.length_append, List.length_cons, List.length_nil]
    omega
  · unfold fromMultiple
    rw [streamOf_eq]
    exact Lemmas.C11T.multiLoop_congr cfg ty hpk _ _

/-! ### the iterator over a stream of documents each of which satisfies its contract

`Lemmas.C11B.BlockIter` is the contract of a block of documents (from every document boundary, whatever follows),
`DocIter` that of one document up to error payloads, `DocsIter` its list form; the statements of (2), of
`Props/C11_Typed2.lean` (rounds, per-document budget, failing documents, mixed streams) are the theorems of this
section for the instances of the contract. -/

theorem readIter_streamOf (L : AliasLimits) (ob : Option Budget.Limits) (hmax : ∀ lim, ob = some lim → 1 ≤ lim.maxEvents)
    (ds : List (LNode × Bool × Loc × Loc)) (l0 l1 : Loc) (cfg : Cfg) (ty : Ty) :
    ∃ q, BoundaryB L ob q ∧ q.look = none ∧
      readIter cfg ty (pumpOf L ob) (streamOf ds l0 l1) =
        iterLoop cfg ty ((docsStream ds).length + 12) q
          (docsStream ds ++ [.ev .streamEnd l1]) [] := by
  obtain ⟨q, hq, hl, hpk⟩ := Lemmas.C11B.start_boundaryB L ob hmax l0 (docsStream ds ++ [.ev .streamEnd l1])
  refine ⟨q, hq, hl, ?_⟩
  unfold readIter
  rw [streamOf_length, streamOf_eq]
  exact Lemmas.C11T.iterLoop_congr cfg ty hpk _ _

/-- (T, most general form) what a contract of the whole stream as ONE block (`Lemmas.C11B.BlockIter`) says of its
items holds of the items of the iterator, provided the loop fuel of the model covers the rounds -/
theorem readIter_block (L : AliasLimits) (ob : Option Budget.Limits) (ds : List (LNode × Bool × Loc × Loc)) (l0 l1 : Loc)
    (cfg : Cfg) (ty : Ty) {P : List Lemmas.C11T.Item → Prop} {go : Bool} {k : Nat}
    (hmax : ∀ lim, ob = some lim → 1 ≤ lim.maxEvents) (hne : ds ≠ [])
    (h : Lemmas.C11B.BlockIter L ob cfg ty ds P go k) (hfuel : k ≤ (streamOf ds l0 l1).length + 10) :
    P (readIter cfg ty (pumpOf L ob) (streamOf ds l0 l1)) := by
  obtain ⟨q, hq, hl, hi⟩ := readIter_streamOf L ob hmax ds l0 l1 cfg ty
  obtain ⟨its, hP, hleft⟩ := h q [.ev .streamEnd l1] hq hl (fun h => absurd h hne)
  rw [streamOf_length] at hfuel
  obtain ⟨m, hm⟩ : ∃ m, (docsStream ds).length + 12 = m + k := ⟨_, (Nat.sub_add_cancel (by omega)).symm⟩
  rw [hi, hm, hleft.at_end]
  exact hP

/-- (T, general form) over a stream of documents with contracts the iterator yields the items of the documents, in
order, up to and including the first one that finishes it (`mixItems`), provided the loop fuel of the model covers
the rounds -/
theorem readIter_contract (L : AliasLimits) (ob : Option Budget.Limits) (ds : List (LNode × Bool × Loc × Loc)) (l0 l1 : Loc)
    (rs : List Rounds) (cfg : Cfg) (ty : Ty)
    (hmax : ∀ lim, ob = some lim → 1 ≤ lim.maxEvents) (hne : ds ≠ [])
    (h : DocsIter L ob cfg ty ds rs) (hfuel : (mixItems rs).2 ≤ (streamOf ds l0 l1).length + 10) :
    sameItems (readIter cfg ty (pumpOf L ob) (streamOf ds l0 l1)) (mixItems rs).1 :=
  readIter_block L ob ds l0 l1 cfg ty hmax hne (Lemmas.C11B.iter_stream h) hfuel

/-- (T, general form) "each on its own": when every document satisfies its contract within (number of its parser
items) + 2 rounds and only the last one may finish the iterator, the items of the stream are the concatenation of
the items of the ONE-document streams (same pump, same limits) -/
theorem readIter_isolated (L : AliasLimits) (ob : Option Budget.Limits) (ds : List (LNode × Bool × Loc × Loc)) (l0 l1 : Loc)
    (rs : List Rounds) (cfg : Cfg) (ty : Ty)
    (hmax : ∀ lim, ob = some lim → 1 ≤ lim.maxEvents) (hne : ds ≠ [])
    (h : DocsIter L ob cfg ty ds rs) (hfit : RoundsFit ds rs) (hgo : ∀ r ∈ rs.dropLast, r.2.1 = true) :
    sameItems (readIter cfg ty (pumpOf L ob) (streamOf ds l0 l1))
      (ds.map fun d => readIter cfg ty (pumpOf L ob) (streamOf [d] l0 l1)).flatten := by
  refine (readIter_contract L ob ds l0 l1 rs cfg ty hmax hne h (by
    have := h.rounds_le hfit
    rw [streamOf_length]; omega)).trans ?_
  rw [Lemmas.C11B.mixItems_all rs hgo]
  clear hgo hne
  induction h with
  | nil => exact .nil
  | @cons d r ds rs hd _ ih =>
    have hone := readIter_block L ob [d] l0 l1 cfg ty hmax (by simp) hd.block (by
      have h1 := hfit.1
      have h2 := Lemmas.C11B.docsStream_length_cons d []
      rw [streamOf_length]; omega)
    simp only [List.map_cons, List.flatten_cons]
    exact Lemmas.C11T.sameItems.append hone.symm (ih hfit.2)

theorem contract_of_hyps (L : AliasLimits) (ds : List (LNode × Bool × Loc × Loc)) (evss : List (List Ev))
    (cfg : Cfg) (ty : Ty) (hL : Unlimited L ds) (hnf : ∀ d ∈ ds, Lemmas.C02.noFoldedIndent d.1 = true)
    (hexp : expandEach ds = .ok evss) (hnl : ∀ evs ∈ evss, ∀ v, perDoc cfg ty evs ≠ .leftover v) :
    ∃ rs, DocsIter L none cfg ty ds rs ∧ (mixItems rs).2 = ds.length ∧ allGo rs = true ∧
      sameItems (mixItems rs).1 (itemsOf' cfg ty evss) :=
  Lemmas.C11B.notLeftover_contract cfg ty (docsOk_of_hyps L ds evss hL hnf hexp)
    (fun evs he => isLeftover_false (hnl evs he))

/-! ### (1) the batch entry point -/

/-- (T, general form) the batch entry point on a stream of good documents (`DocsOk`: each expands, from the EMPTY
anchor table, within the alias limits; no budget) is decided by what the documents are ON THEIR OWN: the values of
the documents read completely, in order, if every document is skipped or read completely (`allFine`); an error
otherwise -/
theorem fromMultiple_outcome (L : AliasLimits) (ds : List (LNode × Bool × Loc × Loc)) (l0 l1 : Loc)
    (evss : List (List Ev)) (cfg : Cfg) (ty : Ty) (hok : DocsOk L ds evss) :
    (allFine cfg ty evss = true →
      fromMultiple cfg ty (initPump L) (streamOf ds l0 l1) = .ok (valuesOf cfg ty evss)) ∧
    (allFine cfg ty evss = false →
      ∃ e, fromMultiple cfg ty (initPump L) (streamOf ds l0 l1) = .error e) := by
  obtain ⟨q, fuel, hq, hl, hlen, hm⟩ := entry_streamOf L ds l0 l1 cfg ty
  refine ⟨fun hT => ?_, fun hF => hm ▸ (Lemmas.C11T.multi_stream cfg ty _ ds evss q hok hq hl).2 hF fuel []⟩
  by_cases hne : ds = []
  · -- the empty stream: the pump synthesizes a null document, which is skipped
    subst hne
    cases evss with
    | nil => rfl
    | cons _ _ => exact hok.elim
  · rw [hm]
    simpa using Lemmas.C11T.multi_docs_ok l1 cfg ty ds evss q fuel [] hok hq hl (fun h => absurd h hne) hT hlen

/-- (T) from_multiple_eq_map: for a stream of documents under the hypotheses of `docs_pump_eq_concat`
(generous per-document alias limits, no misplaced folded scalar, every document expands — from the EMPTY
anchor table) and no budget: if every document, ON ITS OWN (`perDoc`), is skipped (null-like root scalar) or
read completely, `from_multiple` returns exactly the values of the documents read completely, in order. -/
theorem from_multiple_eq_map (L : AliasLimits) (ds : List (LNode × Bool × Loc × Loc)) (l0 l1 : Loc)
    (evss : List (List Ev)) (cfg : Cfg) (ty : Ty)
    (hL : Unlimited L ds) (hnf : ∀ d ∈ ds, Lemmas.C02.noFoldedIndent d.1 = true)
    (hexp : expandEach ds = .ok evss)
    (hfine : ∀ evs ∈ evss, perDoc cfg ty evs = .skipped ∨ ∃ v, perDoc cfg ty evs = .clean v) :
    fromMultiple cfg ty (initPump L) (streamOf ds l0 l1) = .ok (valuesOf cfg ty evss) :=
  (fromMultiple_outcome L ds l0 l1 evss cfg ty (docsOk_of_hyps L ds evss hL hnf hexp)).1
    (Lemmas.C11T.allFine_iff.mpr hfine)

/-- (T) from_multiple is an error as soon as some document, on its own, fails or is not consumed completely
(same hypotheses; whatever the other documents are).  Which error is not said.  A document left over has been entered
(`Lemmas.C11T.deser_moves`: at an opening event a successful deserialization consumes something), and every later
round strictly inside it fails or stays strictly inside (`Lemmas.C11T.multi_inside`). -/
theorem from_multiple_error (L : AliasLimits) (ds : List (LNode × Bool × Loc × Loc)) (l0 l1 : Loc)
    (evss : List (List Ev)) (cfg : Cfg) (ty : Ty)
    (hL : Unlimited L ds) (hnf : ∀ d ∈ ds, Lemmas.C02.noFoldedIndent d.1 = true)
    (hexp : expandEach ds = .ok evss)
    (hbad : ∃ evs ∈ evss, perDoc cfg ty evs = .failed ∨ ∃ v, perDoc cfg ty evs = .leftover v) :
    ∃ e, fromMultiple cfg ty (initPump L) (streamOf ds l0 l1) = .error e :=
  (fromMultiple_outcome L ds l0 l1 evss cfg ty (docsOk_of_hyps L ds evss hL hnf hexp)).2
    (Lemmas.C11T.allFine_eq_false_iff.mpr hbad)

/-- (T) what happens when the deserialization of a document succeeds WITHOUT consuming the whole document
(a tuple target on a longer sequence, …): the left-over events are met by the loop as if a document started
there, and the result of `from_multiple` is an error — never the list with the truncated value. -/
theorem from_multiple_leftover_is_error (L : AliasLimits) (ds : List (LNode × Bool × Loc × Loc)) (l0 l1 : Loc)
    (evss : List (List Ev)) (cfg : Cfg) (ty : Ty)
    (hL : Unlimited L ds) (hnf : ∀ d ∈ ds, Lemmas.C02.noFoldedIndent d.1 = true)
    (hexp : expandEach ds = .ok evss) (evs : List Ev) (v : Val) (he : evs ∈ evss)
    (hleft : perDoc cfg ty evs = .leftover v) :
    ∃ e, fromMultiple cfg ty (initPump L) (streamOf ds l0 l1) = .error e :=
  from_multiple_error L ds l0 l1 evss cfg ty hL hnf hexp ⟨evs, he, .inr ⟨v, hleft⟩⟩

/-- (T) under the hypotheses of `from_multiple_eq_map`, `from_multiple` succeeds exactly when every document,
on its own, is skipped or read completely. -/
theorem from_multiple_ok_iff (L : AliasLimits) (ds : List (LNode × Bool × Loc × Loc)) (l0 l1 : Loc)
    (evss : List (List Ev)) (cfg : Cfg) (ty : Ty)
    (hL : Unlimited L ds) (hnf : ∀ d ∈ ds, Lemmas.C02.noFoldedIndent d.1 = true)
    (hexp : expandEach ds = .ok evss) :
    (∃ vs, fromMultiple cfg ty (initPump L) (streamOf ds l0 l1) = .ok vs) ↔
      ∀ evs ∈ evss, perDoc cfg ty evs = .skipped ∨ ∃ v, perDoc cfg ty evs = .clean v := by
  obtain ⟨hT, hF⟩ := fromMultiple_outcome L ds l0 l1 evss cfg ty (docsOk_of_hyps L ds evss hL hnf hexp)
  refine Iff.trans ?_ Lemmas.C11T.allFine_iff
  cases hf : allFine cfg ty evss with
  | true => exact iff_of_true ⟨_, hT hf⟩ rfl
  | false =>
    obtain ⟨e, he⟩ := hF hf
    exact iff_of_false (fun ⟨vs, hvs⟩ => by rw [he] at hvs; cases hvs) Bool.false_ne_true

/-- a document read completely is accepted by the single-document check of `Props/C05.lean` on its events -/
theorem perDoc_clean_deserTop (cfg : Cfg) (ty : Ty) (evs : List Ev) (v : Val) (h : perDoc cfg ty evs = .clean v) :
    Props.C05.deserTop (fuelFor 100000) cfg ty evs = some v := by
  have hrun : (match deser (fuelFor 100000) cfg ty false false (.replay evs 0 none) with
      | .err _ _ => DocRes.failed
      | .ok v c => match c.peek with
        | .ok none _ => DocRes.clean v
        | _ => DocRes.leftover v) = .clean v := by
    simp only [perDoc, Lemmas.C11T.perDoc] at h
    split at h
    · split at h
      · cases h
      · exact h
    · exact h
  unfold Props.C05.deserTop
  cases hd : deser (fuelFor 100000) cfg ty false false (.replay evs 0 none) with
  | err e c => rw [hd] at hrun; cases hrun
  | ok w c =>
    rw [hd] at hrun
    simp only at hrun ⊢
    split at hrun
    · rename_i c2 hc2
      cases hrun
      simp [hc2]
    · cases hrun

/-- (T) the values `from_multiple` / the iterator return are the position-faithful interpretations
(`Spec.interp`, `Props.C05.deser_top_sound`) of the trees of the per-document expansions: a document read
completely with value `v`, whose expansion is the flattening of the tree `n` (`Props.E2E.expansion_tree`), has
`interp cfg ty n = some v` (under the hypothesis `noKemnKeys` of the C05 theorems). -/
theorem perDoc_clean_interp (cfg : Cfg) (ty : Ty) (n : ENode) (v : Val)
    (hk : Props.C05.noKemnKeys n = true) (h : perDoc cfg ty (eflatten n) = .clean v) :
    interp cfg ty n = some v :=
  Props.C05.deser_top_sound cfg ty n hk _ v (perDoc_clean_deserTop cfg ty _ v h)

/-! ### (2) the streaming iterator -/

/-- the full statement of `iter_isolated`: also for documents whose deserialization stops before the end of
the document.  Such a document contributes several items (its left-over events are read as further "documents"
until an error item is produced and the rest is skipped — `from_multiple_leftover_is_error` is the batch
counterpart).  Proved in `Props/C11_Typed2.lean` (`iter_isolated_rounds_partial`) under the hypothesis `Fits`: the
rounds of the iterator inside each document are covered by the model's loop fuel (number of parser items + 10; a
document delivers more events than it has parser items as soon as it contains aliases).  Without `Fits`: open. -/
def iter_isolated_Full : Prop :=
  ∀ (L : AliasLimits) (ds : List (LNode × Bool × Loc × Loc)) (l0 l1 : Loc) (evss : List (List Ev)) (cfg : Cfg) (ty : Ty),
    Unlimited L ds → (∀ d ∈ ds, Lemmas.C02.noFoldedIndent d.1 = true) → expandEach ds = .ok evss →
    sameItems (readIter cfg ty (initPump L) (streamOf ds l0 l1))
      (ds.map fun d => readIter cfg ty (initPump L) (streamOf [d] l0 l1)).flatten

/-- (T, partial: no document is left over) the iterator yields, document by document and in order, what each
document contributes ON ITS OWN (`perDoc`): nothing for a null-like root scalar, the value of a document read
completely, exactly ONE error item for a document whose deserialization fails — after which the iterator
resumes with the next document.  Items are compared by `sameItems`: equal values; of an error item only
the fact that it is an error (the payload of the error of a failing document is produced on the live cursor:
its kind / location can depend on `last_location` / `reference_location` of the pump, which the replay cursor of
`perDoc` does not reproduce — exactly as in `Props.E2E.typed_alias_transparent`). -/
theorem iter_eq_spec_partial (L : AliasLimits) (ds : List (LNode × Bool × Loc × Loc)) (l0 l1 : Loc)
    (evss : List (List Ev)) (cfg : Cfg) (ty : Ty)
    (hL : Unlimited L ds) (hnf : ∀ d ∈ ds, Lemmas.C02.noFoldedIndent d.1 = true)
    (hexp : expandEach ds = .ok evss)
    (hnl : ∀ evs ∈ evss, ∀ v, perDoc cfg ty evs ≠ .leftover v) :
    sameItems (readIter cfg ty (initPump L) (streamOf ds l0 l1)) (itemsOf' cfg ty evss) := by
  by_cases hne : ds = []
  · subst hne
    simp only [expandEach, Except.ok.injEq] at hexp
    subst hexp
    have : readIter cfg ty (initPump L) (streamOf [] l0 l1) = [] := by rfl
    rw [this]
    exact .nil
  obtain ⟨rs, hrs, hk, -, hsame⟩ := contract_of_hyps L ds evss cfg ty hL hnf hexp hnl
  exact (readIter_contract L none ds l0 l1 rs cfg ty (fun _ h => by cases h) hne hrs (by
    have := docsStream_length ds
    rw [hk, streamOf_length]; omega)).trans hsame

/-- (T, partial: no document is left over) iter_isolated — "each on its own", including recovery after
errors: the items of a stream are the concatenation, over its documents in order, of the items of the
ONE-document streams (so for `ds = pre ++ [d] ++ post` the items contributed by `d` are those of the stream
`[d]`, whatever `pre` and `post` are); compared by `sameItems` (see `iter_eq_spec_partial`). -/
theorem iter_isolated_partial (L : AliasLimits) (ds : List (LNode × Bool × Loc × Loc)) (l0 l1 : Loc)
    (evss : List (List Ev)) (cfg : Cfg) (ty : Ty)
    (hL : Unlimited L ds) (hnf : ∀ d ∈ ds, Lemmas.C02.noFoldedIndent d.1 = true)
    (hexp : expandEach ds = .ok evss)
    (hnl : ∀ evs ∈ evss, ∀ v, perDoc cfg ty evs ≠ .leftover v) :
    sameItems (readIter cfg ty (initPump L) (streamOf ds l0 l1))
      (ds.map fun d => readIter cfg ty (initPump L) (streamOf [d] l0 l1)).flatten := by
  by_cases hne : ds = []
  · subst hne
    exact .nil
  have hok := docsOk_of_hyps L ds evss hL hnf hexp
  obtain ⟨rs, h1, h2, h3⟩ := Lemmas.C11B.fits_contract
    (Lemmas.C11B.fits_of_not_leftover cfg ty ds evss hok (fun evs he => isLeftover_false (hnl evs he)))
  exact readIter_isolated L none ds l0 l1 rs cfg ty (fun _ h => by cases h) hne
    (h3 L none (Lemmas.C11B.docsServe_none hok)) h1 (fun r hr => h2 r (List.dropLast_subset _ hr))

theorem readIter_prefix (L : AliasLimits) (pre : List (LNode × Bool × Loc × Loc))
    (d : LNode × Bool × Loc × Loc) (post : List (LNode × Bool × Loc × Loc)) (l0 l1 : Loc)
    (evssPre : List (List Ev)) (cfg : Cfg) (ty : Ty)
    (hL : Unlimited L pre) (hnf : ∀ d ∈ pre, Lemmas.C02.noFoldedIndent d.1 = true)
    (hexp : expandEach pre = .ok evssPre)
    (hnl : ∀ evs ∈ evssPre, ∀ v, perDoc cfg ty evs ≠ .leftover v) :
    ∃ items q2 m, (BoundaryB L none q2 ∧ q2.look = none ∧
      readIter cfg ty (initPump L) (streamOf (pre ++ d :: post) l0 l1) =
        iterLoop cfg ty (m + 1) q2 (.ev (.docStart d.2.1) d.2.2.1 :: (itemsOf d.1 ++ .ev .docEnd d.2.2.2 ::
          (docsStream post ++ [.ev .streamEnd l1]))) items) ∧
      sameItems items (itemsOf' cfg ty evssPre) := by
  obtain ⟨t, ex, ls, le⟩ := d
  obtain ⟨rs, hrs, hk, hgo, hsame⟩ := contract_of_hyps L pre evssPre cfg ty hL hnf hexp hnl
  obtain ⟨q, hq, hl, hi0⟩ := readIter_streamOf L none (fun _ h => by cases h) (pre ++ (t, ex, ls, le) :: post) l0 l1 cfg ty
  obtain ⟨m, hm⟩ : ∃ m, (docsStream (pre ++ (t, ex, ls, le) :: post)).length + 12 =
      (m + 1) + (mixItems rs).2 := by
    have := docsStream_length (pre ++ (t, ex, ls, le) :: post)
    rw [List.length_append, List.length_cons] at this
    exact ⟨(docsStream (pre ++ (t, ex, ls, le) :: post)).length + 11 - (mixItems rs).2, by omega⟩
  rw [hm, Lemmas.C11T.docsStream_mid] at hi0
  obtain ⟨items, hs, hleft⟩ := Lemmas.C11B.iter_stream hrs q (.ev (.docStart ex) ls :: (itemsOf t ++ .ev .docEnd le ::
    (docsStream post ++ [.ev .streamEnd l1]))) hq hl (fun _ _ h => by cases h)
  rw [hgo] at hleft
  obtain ⟨q2, hq2, hl2, heq⟩ := hleft.2 ex ls _ rfl
  exact ⟨items, q2, m, ⟨hq2, hl2, hi0.trans ((heq _ _).trans (by rw [List.nil_append]))⟩, hs.trans hsame⟩

/-- (T) what the documents of a good prefix contribute does not depend on what FOLLOWS them — at all: for
ANY further documents `d :: post` (arbitrary trees: they need not have an expansion, may exceed the limits, …)
the iterator first yields the items of the prefix `pre`, document by document as `perDoc` says, and only then
whatever the rest of the stream gives. -/
theorem iter_prefix_unaffected (L : AliasLimits) (pre : List (LNode × Bool × Loc × Loc))
    (d : LNode × Bool × Loc × Loc) (post : List (LNode × Bool × Loc × Loc)) (l0 l1 : Loc)
    (evssPre : List (List Ev)) (cfg : Cfg) (ty : Ty)
    (hL : Unlimited L pre) (hnf : ∀ d ∈ pre, Lemmas.C02.noFoldedIndent d.1 = true)
    (hexp : expandEach pre = .ok evssPre)
    (hnl : ∀ evs ∈ evssPre, ∀ v, perDoc cfg ty evs ≠ .leftover v) :
    ∃ items tail, readIter cfg ty (initPump L) (streamOf (pre ++ d :: post) l0 l1) = items ++ tail ∧
      sameItems items (itemsOf' cfg ty evssPre) := by
  obtain ⟨t, ex, ls, le⟩ := d
  obtain ⟨items, q2, m, hi, hsame⟩ := readIter_prefix L pre (t, ex, ls, le) post l0 l1 evssPre cfg ty hL hnf hexp hnl
  obtain ⟨tail, htail⟩ := Lemmas.C11T.iterLoop_extends cfg ty (m + 1) q2
    (.ev (.docStart ex) ls :: (itemsOf t ++ .ev .docEnd le :: (docsStream post ++ [.ev .streamEnd l1]))) items
  exact ⟨items, tail, by rw [hi.2.2, htail], hsame⟩

/-! ### (3) anchors are not visible across documents, at the level of typed values

For documents whose expansion exists the statement is contained in (1) and (2): `perDoc` is computed from the
expansion of the document from the EMPTY anchor table, so what a document contributes cannot depend on the
anchors of other documents.  A document that aliases an anchor defined only in an EARLIER document has no
expansion (`expand [] [] t = .error (.unknown _)`); at the pump level `alias_to_earlier_document_is_error`
shows that the pump fails there.  At the typed level the corollary as given is FALSE of the iterator
(`anchors_not_visible_across_docs_typed_counterexample`): when the alias is the ROOT of document `k`, the
error is met by the iterator's own `peek` (not inside `T::deserialize`), and `ReadIter::next` then sets
`finished = true` — the error item is yielded, but every LATER document is lost.  What holds
(`anchors_not_visible_across_docs_typed_partial`): the earlier documents contribute exactly what they
contribute on their own, document `k` is the error item `UnknownAnchor` at the alias — never a value built
from the stale anchor —, and the iterator is finished. -/

/-- the corollary as given: document `k` (whose expansion from the empty table fails with an unknown anchor
— the anchor may well be defined in an earlier document) is one error item, every other document's items
are unchanged -/
def anchors_not_visible_across_docs_typed_Full : Prop :=
  ∀ (L : AliasLimits) (pre post : List (LNode × Bool × Loc × Loc)) (dk : LNode × Bool × Loc × Loc) (l0 l1 aloc : Loc)
    (evssPre evssPost : List (List Ev)) (cfg : Cfg) (ty : Ty),
    Unlimited L (pre ++ dk :: post) → (∀ d ∈ pre ++ dk :: post, Lemmas.C02.noFoldedIndent d.1 = true) →
    expandEach pre = .ok evssPre → expandEach post = .ok evssPost →
    expand [] [] dk.1 = .error (.unknown aloc) →
    (∀ evs ∈ evssPre ++ evssPost, ∀ v, perDoc cfg ty evs ≠ .leftover v) →
    ∃ e, sameItems (readIter cfg ty (initPump L) (streamOf (pre ++ dk :: post) l0 l1))
      (itemsOf' cfg ty evssPre ++ [.error e] ++ itemsOf' cfg ty evssPost)

/-- (T, partial: the alias is the root of document `k`) the documents before `k` contribute what they
contribute on their own (`iter_eq_spec_partial`), document `k` is exactly the error item `UnknownAnchor`
located at the alias — whatever the earlier documents defined —, and the iterator is finished. -/
theorem anchors_not_visible_across_docs_typed_partial (L : AliasLimits) (pre post : List (LNode × Bool × Loc × Loc))
    (ex : Bool) (ls le l0 l1 : Loc) (id : Nat) (aloc : Loc) (evssPre : List (List Ev)) (cfg : Cfg) (ty : Ty)
    (hL : Unlimited L pre) (hL1 : 1 ≤ L.maxAliasExpansionsPerAnchor)
    (hnf : ∀ d ∈ pre, Lemmas.C02.noFoldedIndent d.1 = true)
    (hexp : expandEach pre = .ok evssPre)
    (hnl : ∀ evs ∈ evssPre, ∀ v, perDoc cfg ty evs ≠ .leftover v) :
    ∃ items, readIter cfg ty (initPump L) (streamOf (pre ++ (.alias id aloc, ex, ls, le) :: post) l0 l1) =
        items ++ [.error ⟨"UnknownAnchor", aloc, 0⟩] ∧
      sameItems items (itemsOf' cfg ty evssPre) := by
  obtain ⟨items, q2, m, ⟨hq2, hl2, hi⟩, hsame⟩ :=
    readIter_prefix L pre (.alias id aloc, ex, ls, le) post l0 l1 evssPre cfg ty hL hnf hexp hnl
  refine ⟨items, ?_, hsame⟩
  rw [hi]
  exact Lemmas.C11T.iter_alias_root (Lemmas.C11B.boundaryB_none.mp hq2) hl2 hL1 hL.1 ex ls id aloc _ cfg ty m items

/-- (T) `from_multiple` can only succeed when the event source has been pulled to its end without an error:
for EVERY type, configuration, pump state (empty look-ahead slot) and parser input. -/
theorem from_multiple_ok_pump_ends (cfg : Cfg) (ty : Ty) (p : Pump) (items : List RawItem) (vs : List Val)
    (hl : p.look = none) (h : fromMultiple cfg ty p items = .ok vs) :
    ∃ es pf, Lemmas.C02.Ends p items es pf := by
  unfold fromMultiple at h
  obtain ⟨p', inp', hc, es, pf, he⟩ := Lemmas.C11T.multi_ok_ends cfg ty _ _ _ _ _ h
  cases hc
  rw [Lemmas.C11T.under_of_look_none hl] at he
  exact ⟨es, pf, he⟩

/-- (T) anchors_not_visible_across_docs for the batch entry point, in full generality: if some document of
the stream has no expansion from the EMPTY anchor table — in particular when it aliases an anchor that is
defined in an earlier document only — `from_multiple` is an error: never a list of values, for every type,
configuration and alias limits, whatever the other documents are. -/
theorem anchors_not_visible_across_docs_batch (L : AliasLimits) (ds : List (LNode × Bool × Loc × Loc)) (l0 l1 : Loc)
    (cfg : Cfg) (ty : Ty) (err : ExpErr) (hexp : expandDocs ds = .error err) :
    ∃ e, fromMultiple cfg ty (initPump L) (streamOf ds l0 l1) = .error e := by
  cases hr : fromMultiple cfg ty (initPump L) (streamOf ds l0 l1) with
  | error e => exact ⟨e, rfl⟩
  | ok vs =>
    exfalso
    obtain ⟨es, pf, hends⟩ := from_multiple_ok_pump_ends cfg ty (initPump L) _ vs rfl hr
    have hne : ds ≠ [] := by
      intro h0
      subst h0
      cases hexp
    have hok := docs_pump_sound L ds l0 l1 _ es pf hne (Lemmas.C02.pumpAll_ends hends)
    rw [hexp] at hok
    cases hok

theorem expandDocs_error_of_mem (ds : List (LNode × Bool × Loc × Loc)) (d : LNode × Bool × Loc × Loc) (hd : d ∈ ds)
    (err : ExpErr) (h : expand [] [] d.1 = .error err) : ∃ err', expandDocs ds = .error err' := by
  induction ds with
  | nil => cases hd
  | cons d0 ds ih =>
    obtain ⟨t, ex, ls, le⟩ := d0
    simp only [expandDocs]
    cases h1 : expand [] [] t with
    | error e => exact ⟨e, rfl⟩
    | ok r =>
      rcases List.mem_cons.mp hd with rfl | hd'
      · rw [h1] at h; cases h
      · obtain ⟨e', he'⟩ := ih hd'
        rw [he']
        exact ⟨e', rfl⟩

/-- the batch counterpart of `anchors_not_visible_across_docs_typed_partial` (the alias is the root of document `k`):
`from_multiple` is an error.  A case of `anchors_not_visible_across_docs_batch`, which has none of the hypotheses
`hL`, `hL1`, `hnf`, `hexp` (on the limits and on the earlier documents): the proof does not use them. -/
theorem anchors_not_visible_across_docs_batch_partial (L : AliasLimits) (pre post : List (LNode × Bool × Loc × Loc))
    (ex : Bool) (ls le l0 l1 : Loc) (id : Nat) (aloc : Loc) (evssPre : List (List Ev)) (cfg : Cfg) (ty : Ty)
    (hL : Unlimited L pre) (hL1 : 1 ≤ L.maxAliasExpansionsPerAnchor)
    (hnf : ∀ d ∈ pre, Lemmas.C02.noFoldedIndent d.1 = true)
    (hexp : expandEach pre = .ok evssPre) :
    ∃ e, fromMultiple cfg ty (initPump L) (streamOf (pre ++ (.alias id aloc, ex, ls, le) :: post) l0 l1) = .error e := by
  obtain ⟨err, he⟩ := expandDocs_error_of_mem (pre ++ (.alias id aloc, ex, ls, le) :: post) (.alias id aloc, ex, ls, le)
    (by simp) (.unknown aloc) rfl
  exact anchors_not_visible_across_docs_batch L _ l0 l1 cfg ty err he

/-- `&1 x` -/
def cxD1 : LNode × Bool × Loc × Loc := (.scalar ['x'] .plain 1 none 11, false, 2, 3)
/-- `*1` — the anchor is defined in the previous document only -/
def cxD2 : LNode × Bool × Loc × Loc := (.alias 1 21, true, 4, 5)
/-- `y` -/
def cxD3 : LNode × Bool × Loc × Loc := (.scalar ['y'] .plain 0 none 31, true, 6, 7)

/-- the stream `&1 x` / `*1` / `y` read as strings: the second document is the error item `UnknownAnchor`
(not the stale `x`), and the THIRD document is never yielded -/
theorem cx_readIter : readIter {} .string (initPump lim) (streamOf [cxD1, cxD2, cxD3] 1 9) =
    [.ok (.str ['x']), .error ⟨"UnknownAnchor", 21, 0⟩] := by rfl

/-- without the second document both values are yielded -/
theorem cx_readIter_without : readIter {} .string (initPump lim) (streamOf [cxD1, cxD3] 1 9) =
    [.ok (.str ['x']), .ok (.str ['y'])] := by rfl

/-- (F) anchors_not_visible_across_docs_typed as given is false: "leaves every other document's item
unchanged" fails for the documents AFTER a document whose root is an alias to an earlier document's anchor —
the iterator stops there (`ReadIter::next`: `Err(e)` from `peek` ⇒ `finished = true`). -/
theorem anchors_not_visible_across_docs_typed_counterexample : ¬ anchors_not_visible_across_docs_typed_Full := by
  intro h
  have hU : Unlimited lim ([cxD1] ++ cxD2 :: [cxD3]) := by
    refine ⟨by decide, ?_⟩
    intro d hd
    simp only [List.cons_append, List.nil_append, List.mem_cons, List.mem_nil_iff, or_false] at hd
    rcases hd with rfl | rfl | rfl
    · refine ⟨fun r hr => ?_, fun id => by simp [cxD1, aliasCount]⟩
      simp only [cxD1, expand, Except.ok.injEq] at hr
      subst hr
      decide
    · refine ⟨fun r hr => by simp [cxD2, expand, lookupAnchor] at hr, fun id => ?_⟩
      simp only [cxD2, aliasCount, lim]
      split <;> omega
    · refine ⟨fun r hr => ?_, fun id => by simp [cxD3, aliasCount]⟩
      simp only [cxD3, expand, Except.ok.injEq] at hr
      subst hr
      decide
  obtain ⟨e, he⟩ := h lim [cxD1] [cxD3] cxD2 1 9 21
    [[.scalar ['x'] 0 none .plain 1 11]] [[.scalar ['y'] 0 none .plain 0 31]] {} .string hU
    (by
      intro d hd
      simp only [List.cons_append, List.nil_append, List.mem_cons, List.mem_nil_iff, or_false] at hd
      rcases hd with rfl | rfl | rfl <;> rfl)
    (by rfl) (by rfl) (by rfl)
    (by
      intro evs hevs v
      simp only [List.cons_append, List.nil_append, List.mem_cons, List.mem_nil_iff, or_false] at hevs
      rcases hevs with rfl | rfl
      · have : perDoc {} .string [.scalar ['x'] 0 none .plain 1 11] = .clean (.str ['x']) := by rfl
        rw [this]; intro hc; cases hc
      · have : perDoc {} .string [.scalar ['y'] 0 none .plain 0 31] = .clean (.str ['y']) := by rfl
        rw [this]; intro hc; cases hc)
  have hr : readIter {} .string (initPump lim) (streamOf ([cxD1] ++ cxD2 :: [cxD3]) 1 9) =
      [.ok (.str ['x']), .error ⟨"UnknownAnchor", 21, 0⟩] := cx_readIter
  rw [hr] at he
  have h1 : itemsOf' {} .string [[.scalar ['x'] 0 none .plain 1 11]] = [.ok (.str ['x'])] := by rfl
  have h3 : itemsOf' {} .string [[.scalar ['y'] 0 none .plain 0 31]] = [.ok (.str ['y'])] := by rfl
  rw [h1, h3] at he
  have := he.length
  simp at this


/-! #### (E) a stream with an anchor and an alias, a null document, a document of the wrong shape -/

theorem unlimited_nil (L : AliasLimits) (h : 1 ≤ L.maxReplayStackDepth) : Unlimited L [] :=
  ⟨h, fun d hd => by cases hd⟩

theorem unlimited_cons {L : AliasLimits} {d : LNode × Bool × Loc × Loc} {ds : List (LNode × Bool × Loc × Loc)}
    (h : Unlimited L ds) (h1 : ∀ r, expand [] [] d.1 = .ok r → r.replayed ≤ L.maxTotalReplayedEvents)
    (h2 : ∀ id, aliasCount id d.1 ≤ L.maxAliasExpansionsPerAnchor) : Unlimited L (d :: ds) := by
  refine ⟨h.1, fun d' hd => ?_⟩
  rcases List.mem_cons.mp hd with rfl | hd
  · exact ⟨h1, h2⟩
  · exact h.2 d' hd

/-- `[&1 x, *1]` -/
def exA : LNode × Bool × Loc × Loc := (docA, false, 2, 3)
/-- `~` -/
def exNull : LNode × Bool × Loc × Loc := (.scalar ['~'] .plain 0 none 41, true, 4, 5)
/-- `y` (not a sequence) -/
def exBad : LNode × Bool × Loc × Loc := (.scalar ['y'] .plain 0 none 51, true, 6, 7)
/-- `[z]` -/
def exC : LNode × Bool × Loc × Loc := (.seq 0 none 60 69 [.scalar ['z'] .plain 0 none 61], true, 8, 9)

def evsA : List Ev :=
  [.seqStart 0 0 none 10, .scalar ['x'] 0 none .plain 1 11, .scalar ['x'] 0 none .plain 1 11, .seqEnd 19]
def evsNull : List Ev := [.scalar ['~'] 0 none .plain 0 41]
def evsBad : List Ev := [.scalar ['y'] 0 none .plain 0 51]
def evsC : List Ev := [.seqStart 0 0 none 60, .scalar ['z'] 0 none .plain 0 61, .seqEnd 69]

theorem exA_expand : expand [] [] exA.1 = .ok ⟨evsA, [(1, [.scalar ['x'] 0 none .plain 1 11])], 1⟩ := by rfl
theorem exC_expand : expand [] [] exC.1 = .ok ⟨evsC, [], 0⟩ := by rfl

theorem ex_unlimited : Unlimited lim [exA, exBad, exNull, exC] := by
  refine unlimited_cons (unlimited_cons (unlimited_cons (unlimited_cons (unlimited_nil lim (by decide)) ?_ ?_) ?_ ?_) ?_ ?_) ?_ ?_
  · intro r hr; rw [exC_expand] at hr; cases hr; decide
  · intro id; simp [exC, aliasCount, aliasCountL]
  · intro r hr; simp only [exNull, expand, Except.ok.injEq] at hr; subst hr; decide
  · intro id; simp [exNull, aliasCount]
  · intro r hr; simp only [exBad, expand, Except.ok.injEq] at hr; subst hr; decide
  · intro id; simp [exBad, aliasCount]
  · intro r hr; rw [exA_expand] at hr; cases hr; decide
  · intro id
    simp only [exA, docA, aliasCount, aliasCountL, lim]
    split <;> omega

theorem ex_nofolded : ∀ d ∈ [exA, exBad, exNull, exC], Lemmas.C02.noFoldedIndent d.1 = true := by
  intro d hd
  simp only [List.mem_cons, List.mem_nil_iff, or_false] at hd
  rcases hd with rfl | rfl | rfl | rfl <;> rfl

theorem ex_expandEach : expandEach [exA, exBad, exNull, exC] = .ok [evsA, evsBad, evsNull, evsC] := by rfl

theorem ex_perDocA : perDoc {} (.seq .string) evsA = .clean (.seq [.str ['x'], .str ['x']]) := by rfl
theorem ex_perDocBad : perDoc {} (.seq .string) evsBad = .failed := by rfl
theorem ex_perDocNull : perDoc {} (.seq .string) evsNull = .skipped := by rfl
theorem ex_perDocC : perDoc {} (.seq .string) evsC = .clean (.seq [.str ['z']]) := by rfl

theorem ex_notLeftover : ∀ evs ∈ [evsA, evsBad, evsNull, evsC], ∀ v, perDoc {} (.seq .string) evs ≠ .leftover v := by
  intro evs he v
  simp only [List.mem_cons, List.mem_nil_iff, or_false] at he
  rcases he with rfl | rfl | rfl | rfl
  · rw [ex_perDocA]; intro hc; cases hc
  · rw [ex_perDocBad]; intro hc; cases hc
  · rw [ex_perDocNull]; intro hc; cases hc
  · rw [ex_perDocC]; intro hc; cases hc

/-- (E) the iterator on `[&1 x, *1]` / `y` / `~` / `[z]` read as `Vec<String>`: the value with the alias
expanded, ONE error item for the scalar document, nothing for the null document, and the last value — the
iterator has resumed after the error -/
example : sameItems (readIter {} (.seq .string) (initPump lim) (streamOf [exA, exBad, exNull, exC] 1 99))
    [.ok (.seq [.str ['x'], .str ['x']]), .error default, .ok (.seq [.str ['z']])] := by
  have h := iter_eq_spec_partial lim [exA, exBad, exNull, exC] 1 99 [evsA, evsBad, evsNull, evsC] {} (.seq .string) ex_unlimited ex_nofolded
    ex_expandEach ex_notLeftover
  have hspec : itemsOf' {} (.seq .string) [evsA, evsBad, evsNull, evsC] =
      [.ok (.seq [.str ['x'], .str ['x']]), .error default, .ok (.seq [.str ['z']])] := by
    simp only [itemsOf', Lemmas.C11T.specItems]
    have h1 := ex_perDocA; have h2 := ex_perDocBad; have h3 := ex_perDocNull; have h4 := ex_perDocC
    simp only [perDoc] at h1 h2 h3 h4
    rw [h1, h2, h3, h4]
    rfl
  rw [hspec] at h
  exact h

/-- (E) … and these are the items of the four one-document streams -/
example : sameItems (readIter {} (.seq .string) (initPump lim) (streamOf [exA, exBad, exNull, exC] 1 99))
    ([exA, exBad, exNull, exC].map fun d => readIter {} (.seq .string) (initPump lim) (streamOf [d] 1 99)).flatten :=
  iter_isolated_partial lim [exA, exBad, exNull, exC] 1 99 [evsA, evsBad, evsNull, evsC] {} (.seq .string) ex_unlimited ex_nofolded
    ex_expandEach ex_notLeftover

/-- (E) the batch entry point on that stream is an error (the scalar document) … -/
example : ∃ e, fromMultiple {} (.seq .string) (initPump lim) (streamOf [exA, exBad, exNull, exC] 1 99) = .error e :=
  from_multiple_error lim [exA, exBad, exNull, exC] 1 99 [evsA, evsBad, evsNull, evsC] {} (.seq .string) ex_unlimited ex_nofolded ex_expandEach
    ⟨evsBad, by simp, .inl ex_perDocBad⟩

theorem ex_unlimited' : Unlimited lim [exA, exNull, exC] :=
  ⟨ex_unlimited.1, fun d hd => ex_unlimited.2 d (by
    simp only [List.mem_cons, List.mem_nil_iff, or_false] at hd ⊢
    rcases hd with rfl | rfl | rfl <;> simp)⟩

/-- (E) … and without it the list of the values, in order, the null document skipped -/
example : fromMultiple {} (.seq .string) (initPump lim) (streamOf [exA, exNull, exC] 1 99) =
    .ok [.seq [.str ['x'], .str ['x']], .seq [.str ['z']]] := by
  have h := from_multiple_eq_map lim [exA, exNull, exC] 1 99 [evsA, evsNull, evsC] {} (.seq .string) ex_unlimited'
    (fun d hd => ex_nofolded d (by
      simp only [List.mem_cons, List.mem_nil_iff, or_false] at hd ⊢
      rcases hd with rfl | rfl | rfl <;> simp))
    (by rfl) (by
      intro evs he
      simp only [List.mem_cons, List.mem_nil_iff, or_false] at he
      rcases he with rfl | rfl | rfl
      · exact .inr ⟨_, ex_perDocA⟩
      · exact .inl ex_perDocNull
      · exact .inr ⟨_, ex_perDocC⟩)
  rw [h]
  have h1 := ex_perDocA; have h3 := ex_perDocNull; have h4 := ex_perDocC
  simp only [perDoc] at h1 h3 h4
  simp only [valuesOf, perDoc, List.filterMap_cons, List.filterMap_nil, h1, h3, h4]

/-- (E) left over: `[&1 x, *1]` read as the 1-tuple `(String,)` stops after `x`; the batch result is an error -/
theorem ex_perDocA_tuple : perDoc {} (.tuple [.string]) evsA = .leftover (.seq [.str ['x']]) := by rfl
example : ∃ e, fromMultiple {} (.tuple [.string]) (initPump lim) (streamOf [exA, exNull, exC] 1 99) = .error e :=
  from_multiple_leftover_is_error lim [exA, exNull, exC] 1 99 [evsA, evsNull, evsC] {} (.tuple [.string]) ex_unlimited'
    (fun d hd => ex_nofolded d (by
      simp only [List.mem_cons, List.mem_nil_iff, or_false] at hd ⊢
      rcases hd with rfl | rfl | rfl <;> simp))
    (by rfl) evsA _ (by simp) ex_perDocA_tuple

/-- (E) `[&1 x, *1]` / `*1` / `[z]`: the first document's value, then `UnknownAnchor` at the alias -/
example : ∃ items, readIter {} (.seq .string) (initPump lim)
      (streamOf ([exA] ++ (.alias 1 21, true, 4, 5) :: [exC]) 1 99) = items ++ [.error ⟨"UnknownAnchor", 21, 0⟩] ∧
    sameItems items [.ok (.seq [.str ['x'], .str ['x']])] := by
  have h := anchors_not_visible_across_docs_typed_partial lim [exA] [exC] true 4 5 1 99 1 21 [evsA] {} (.seq .string)
    ⟨ex_unlimited.1, fun d hd => ex_unlimited.2 d (by simp only [List.mem_singleton] at hd; subst hd; simp)⟩
    (by decide)
    (fun d hd => ex_nofolded d (by simp only [List.mem_singleton] at hd; subst hd; simp))
    (by rfl) (by
      intro evs he v
      simp only [List.mem_singleton] at he
      subst he
      rw [ex_perDocA]; intro hc; cases hc)
  have hspec : itemsOf' {} (.seq .string) [evsA] = [.ok (.seq [.str ['x'], .str ['x']])] := by
    have h1 := ex_perDocA
    simp only [perDoc] at h1
    simp only [itemsOf', Lemmas.C11T.specItems, h1]
    rfl
  rw [hspec] at h
  exact h

/-- `[a, *1]` — the anchor is defined in the FIRST document only -/
def exNested : LNode × Bool × Loc × Loc := (.seq 0 none 20 29 [.scalar ['a'] .plain 0 none 21, .alias 1 22], true, 4, 5)

/-- (E) `[&1 x, *1]` / `[a, *1]` / `[z]`: the batch entry point is an error -/
example : ∃ e, fromMultiple {} (.seq .string) (initPump lim) (streamOf [exA, exNested, exC] 1 99) = .error e :=
  anchors_not_visible_across_docs_batch lim [exA, exNested, exC] 1 99 {} (.seq .string) (.unknown 22) (by rfl)

#print axioms from_multiple_eq_map
#print axioms from_multiple_error
#print axioms from_multiple_leftover_is_error
#print axioms from_multiple_ok_iff
#print axioms perDoc_clean_interp
#print axioms readIter_contract
#print axioms readIter_isolated
#print axioms iter_eq_spec_partial
#print axioms iter_isolated_partial
#print axioms iter_prefix_unaffected
#print axioms anchors_not_visible_across_docs_typed_partial
#print axioms anchors_not_visible_across_docs_batch_partial
#print axioms from_multiple_ok_pump_ends
#print axioms anchors_not_visible_across_docs_batch
#print axioms anchors_not_visible_across_docs_typed_counterexample
#print axioms cx_readIter

end SaphyrVerif.Props.C11
