import SaphyrVerif.Lemmas.C12Quoted
import SaphyrVerif.Lemmas.C12Plain
import SaphyrVerif.Lemmas.C12Doc
import SaphyrVerif.Lemmas.C12Float
import SaphyrVerif.Lemmas.C12Int
import SaphyrVerif.Lemmas.C12LiteralDoc
import SaphyrVerif.Lemmas.C12FoldDoc
import SaphyrVerif.Lemmas.C12String
import SaphyrVerif.Props.C06
import SaphyrVerif.Lemmas.Lits
/-!
# C12 — every scalar value survives serialization and deserialization unchanged

Writer model: `Model/SerScalar.lean` (ser_quoting.rs, ser.rs scalar helpers, wrapping.rs, zmij_format.rs).
Reader specification: `Spec/ScalarRead.lean` — my formalisation of how the YAML scanner used by the crate
reads one scalar; it is *validated* against the real parser by the differential run, not verified.
All theorems are therefore "relative to the reader formalisation".

The model follows /repo at 995e25e (with the fixes b4ece9d, 1fdb06b, 832e31b, a252cf9). `string_roundtrip`:
EVERY string, in each of the eleven modelled positions, under every option vector, is written as a document
that reads back as that string; `plain_roundtrip`, `plain_meaning`, `literal_roundtrip`,
`auto_folded_roundtrip` say which style is read and that plain text still means a string. What does not
hold: with `yaml_12: true` the YAML 1.1 boolean words are written plain and the crate's default (non-strict)
reader takes them for booleans (`yaml12_bool_word_counterexample`).
-/
namespace SaphyrVerif.Props.C12
open SaphyrVerif SaphyrVerif.SerScalar SaphyrVerif.Spec.Read SaphyrVerif.Scalars SaphyrVerif.Lemmas.C12

/-- write, then read, in one position: `from_str(to_string_with_options(v))` at the level of
(style, scalar text) -/
def roundTrip (o : Opts) (p : SerScalar.Pos) (s : List Char) : Option (Style × List Char) :=
  match emitDoc o p s with
  | .ok t => readDoc (toRead p) t
  | _ => none

/-- (T) `string_roundtrip`, FULL: for EVERY string `s`, EVERY modelled position (root, map value, map key,
seq item, FlowSeq item, FlowMap value, FlowMap key, enum newtype payload, mapping in mapping, sequence in
mapping, sequence in sequence) and EVERY valid option vector (`indent_step ≥ 1`; `quote_all`, `yaml_12`,
`prefer_block_scalars`, `folded_wrap_chars`, `compact_list_indent` arbitrary): the writer produces a
document, and the reader reads exactly `s` back from it, in the style the writer chose (`writerStyle`:
plain, single- or double-quoted, literal, folded — every branch including the fall-backs). -/
theorem string_roundtrip (o : Opts) (p : SerScalar.Pos) (s : List Char) (hstep : 1 ≤ o.indentStep) :
    roundTrip o p s = some (writerStyle o p s, s) := by
  obtain ⟨t, h1, h2⟩ := string_doc o p hstep s
  unfold roundTrip; rw [h1]; exact h2

/-- (T) double-quoted: reading what `write_quoted` wrote gives the string back, for every string
(every escape of the table, `\xHH`, `\uFEFF`, raw non-ASCII). -/
theorem dq_roundtrip (s : List Char) : readDq (writeQuoted s) = some (s, []) :=
  readDq_quoted dqEscape_esc s

/-- (T) the key sink's quoted form (its own, smaller escape table: `\\ \" \n \r \t \uXXXX`) reads back. -/
theorem key_sink_roundtrip (s : List Char) (y : Bool)
    (h : (isPlainSafe s && isPlainValueSafe s y true && !isUnsafePlainShape s) = false) :
    readDq (keySinkStr s y) = some (s, []) := by
  rw [keySinkStr, h]
  exact readDq_quoted keyEscape_esc s

/-- (T) single-quoted: `write_single_quoted` is inverted by the reader for every string without a raw
line break / NUL -/
theorem sq_roundtrip (s : List Char) (h : ∀ c ∈ s, isBreak c = false ∧ isNul c = false) :
    readSq (writeSingleQuoted s) = some (s, []) := by
  unfold writeSingleQuoted readSq
  show sqRun false (List.flatMap sqEsc s ++ ['\'']) [] = some (s, [])
  simpa using sq_body s [] [] h nofun

/-- (T) … in particular under the writer's own guard for choosing single quotes (`quote_all` and
`!needs_double_quotes(s)`) -/
theorem sq_roundtrip_guard (s : List Char) (h : needsDoubleQuotes s = false) :
    readSq (writeSingleQuoted s) = some (s, []) :=
  sq_roundtrip s fun c hc => (needsDq_false h c hc).2

/-- (T) whatever `write_plain_or_quoted_value` does under `quote_all`, it reads back -/
theorem quote_all_roundtrip (s : List Char) (y flow : Bool) :
    (needsDoubleQuotes s = true → readDq (writePlainOrQuotedValue s true y flow) = some (s, [])) ∧
    (needsDoubleQuotes s = false → readSq (writePlainOrQuotedValue s true y flow) = some (s, [])) := by
  constructor
  · intro h; simp only [writePlainOrQuotedValue, h, if_true]; exact dq_roundtrip s
  · intro h; simp only [writePlainOrQuotedValue, h, if_true, Bool.false_eq_true, if_false]; exact sq_roundtrip_guard s h

/-- what a plain scalar means to the crate's reader in a position -/
inductive Meaning where
  | str | null | bool | int | float | mergeKey
deriving DecidableEq, Repr

def plainMeaning (key : Bool) (s : List Char) : Meaning :=
  if key && isMergeKey s then .mergeKey
  else match resolve s with
    | .str => .str | .null => .null | .bool => .bool | .int => .int | .float => .float

/-- (T, scan level, every context) a string accepted by `is_plain_value_safe` and not of an unsafe
plain shape, in front of any terminator (`term`: end of line, `: ` for keys, a flow indicator), starts a
plain scalar and is consumed exactly. (`hmark` is discharged at document level by `plain_roundtrip`.) -/
theorem plain_scan_roundtrip (s term : List Char) (y flow col0 : Bool)
    (h : isPlainValueSafe s y flow = true) (hu : isUnsafePlainShape s = false) (ht : isTerm flow term = true)
    (hmark : col0 = true → isDocMarker (s ++ term) = false) :
    startKind flow col0 (s ++ term) = .plain ∧ readPlain flow (s ++ term) = some (s, term) :=
  plain_scan s term y flow flow col0 h id (unsafe_shape_facts hu).1 ht hmark

theorem writerStyle_plain (o : Opts) (p : SerScalar.Pos) (s : List Char) (hw : writerPlain o p s) :
    writerStyle o p s = .plain := by
  unfold writerPlain at hw
  unfold writerStyle
  by_cases hk : isKeyPos p = true
  · rw [if_pos hk] at hw ⊢
    unfold keyStyle; rw [if_pos hw]
  · rw [if_neg hk] at hw ⊢
    obtain ⟨hq, hauto, hpv, hu, hdot⟩ := hw
    have hflow := posCtx_flow o p (by simpa using hk)
    rw [hflow, hauto]
    simp only
    rw [not_special (pvs_unfold hpv).2.1 hdot]
    simp only [Bool.false_eq_true, if_false, pqvStyle, hq, hpv, hu, Bool.not_false, Bool.and_self, if_true]

/-- (T) `plain_roundtrip`, document level, FULL: in every modelled position, under EVERY option vector
(including `yaml_12`, whose preamble carries `---` since 832e31b): if the writer decides *plain* for `s`, what it
wrote reads back as the same plain scalar. No excluding hypothesis: trailing blanks, document-marker
look-alikes, a leading U+FEFF and `… -` in flow context are quoted by the writer itself
(`is_unsafe_plain_shape`, b4ece9d). -/
theorem plain_roundtrip (o : Opts) (p : SerScalar.Pos) (s : List Char)
    (hstep : 1 ≤ o.indentStep) (hw : writerPlain o p s) :
    roundTrip o p s = some (.plain, s) := by
  rw [string_roundtrip o p s hstep, writerStyle_plain o p s hw]

theorem writerPlain_value {o : Opts} {p : SerScalar.Pos} {s : List Char} (hw : writerPlain o p s) :
    isAmbiguousValue s o.yaml12 = false := by
  unfold writerPlain at hw
  by_cases hk : isKeyPos p = true
  · rw [if_pos hk] at hw
    simp only [Bool.and_eq_true] at hw
    exact (pvs_unfold hw.1.2).1
  · rw [if_neg hk] at hw
    exact (pvs_unfold hw.2.2.1).1

/-- what is not ambiguous for the writer can only be a string or a YAML 1.1 boolean word for the reader -/
theorem plainMeaning_not_ambiguous {s : List Char} (key : Bool) (ha : isAmbiguous s = false) :
    plainMeaning key s = if (parseYaml11Bool s).isSome then .bool else .str := by
  obtain ⟨_, hmk, hnull, hnum⟩ := not_ambiguous_facts ha
  simp only [readsAsNumber, Bool.or_eq_false_iff] at hnum
  have hmerge : isMergeKey s = false := by simpa [isMergeKey] using hmk
  simp only [plainMeaning, hmerge, Bool.and_false, Bool.false_eq_true, if_false, resolve, isYamlFloatText, hnull,
    hnum.1.1, hnum.1.2, hnum.2, Bool.or_self]
  cases (parseYaml11Bool s).isSome <;> rfl

/-- (T) `plain_meaning`, FULL for YAML 1.1 mode: a string the writer leaves plain (any position) still
MEANS a string to the crate's reader: not null, not a boolean, not a number (1fdb06b: whatever the
crate's own integer / float readers accept is quoted), not a merge key. -/
theorem plain_meaning (o : Opts) (p : SerScalar.Pos) (s : List Char) (hy : o.yaml12 = false)
    (hw : writerPlain o p s) : plainMeaning (isKeyPos p) s = .str := by
  obtain ⟨ha, hbool⟩ := not_ambiguous_value_facts (writerPlain_value hw)
  rw [plainMeaning_not_ambiguous _ ha, hbool hy]
  rfl

/-- (T) … and under `yaml_12: true` everything except the boolean clause: never null, a number or a merge
key -/
theorem plain_meaning_yaml12 (o : Opts) (p : SerScalar.Pos) (s : List Char) (hw : writerPlain o p s) :
    plainMeaning (isKeyPos p) s = .str ∨ plainMeaning (isKeyPos p) s = .bool := by
  rw [plainMeaning_not_ambiguous _ (not_ambiguous_value_facts (writerPlain_value hw)).1]
  split
  · exact Or.inr rfl
  · exact Or.inl rfl

/-- the meaning clause over ALL option vectors; it does not hold: `yaml12_bool_word_counterexample` -/
def plain_meaning_Full : Prop :=
  ∀ (o : Opts) (p : SerScalar.Pos) (s : List Char), writerPlain o p s → plainMeaning (isKeyPos p) s = .str

/-- (F) `yaml_12: true` leaves the YAML 1.1 boolean words plain (on purpose: `y` coordinates …), the
document reads back as the same text, but the crate's default (non `strict_booleans`) reader resolves
the word as a boolean: "no string is ever emitted in a form that reads back as … a boolean" fails for
schema-less targets under this option. Oracle id `C12-yaml12-bool-word-plain`. -/
theorem yaml12_bool_word_counterexample :
    writerPlain { yaml12 := true } .root "yes".toList ∧
    roundTrip { yaml12 := true } .root "yes".toList = some (.plain, "yes".toList) ∧
    plainMeaning false "yes".toList = .bool ∧
    writerPlain { yaml12 := true } .mapValue "n".toList ∧ plainMeaning false "n".toList = .bool := by
  char_lits
  decide +kernel

-- trailing blank (regression, fix b4ece9d)
example : roundTrip {} .root "abc ".toList = some (.double, "abc ".toList) ∧
    roundTrip {} .mapKey "abc ".toList = some (.double, "abc ".toList) ∧
    roundTrip {} .flowSeq "abc ".toList = some (.double, "abc ".toList) ∧ ¬ writerPlain {} .root "abc ".toList := by
  char_lits
  decide +kernel
-- document markers at column 0 (regression, fix b4ece9d)
example : roundTrip {} .root "---".toList = some (.double, "---".toList) ∧
    roundTrip {} .root "...".toList = some (.double, "...".toList) ∧
    roundTrip {} .root "--- a".toList = some (.double, "--- a".toList) ∧
    roundTrip {} .mapKey "--- a".toList = some (.double, "--- a".toList) ∧
    roundTrip {} .root "---a".toList = some (.plain, "---a".toList) := by
  char_lits
  decide +kernel
-- merge key (regression, fix b4ece9d)
example : roundTrip {} .mapKey "<<".toList = some (.double, "<<".toList) ∧
    roundTrip {} .flowMapKey "<<".toList = some (.double, "<<".toList) ∧ ¬ writerPlain {} .mapKey "<<".toList := by
  char_lits
  decide +kernel
-- leading U+FEFF (regression, fix b4ece9d)
example : roundTrip {} .root [Char.ofNat 0xFEFF, 'a'] = some (.double, [Char.ofNat 0xFEFF, 'a']) ∧
    roundTrip {} .mapKey [Char.ofNat 0xFEFF, 'a'] = some (.double, [Char.ofNat 0xFEFF, 'a']) ∧
    roundTrip {} .mapValue [Char.ofNat 0xFEFF, 'a'] = some (.double, [Char.ofNat 0xFEFF, 'a']) := by
  char_lits
  decide +kernel
-- blank + `-` at the end in flow context, plain in block context (regression, fix b4ece9d)
example : roundTrip {} .flowSeq "a -".toList = some (.double, "a -".toList) ∧
    roundTrip {} .flowMapValue "a -".toList = some (.double, "a -".toList) ∧
    roundTrip {} .seqItem "a -".toList = some (.plain, "a -".toList) := by
  char_lits
  decide +kernel
-- the `%YAML 1.2` preamble carries the document start marker (regression, fix 832e31b)
example : emitDoc { yaml12 := true } .root "a".toList = .ok "%YAML 1.2\n---\na\n".toList ∧
    roundTrip { yaml12 := true } .root "a".toList = some (.plain, "a".toList) ∧
    roundTrip { yaml12 := true } .mapKey "a b".toList = some (.plain, "a b".toList) ∧
    roundTrip { yaml12 := true, foldedWrap := 1 } .seqItem "x\ny".toList = some (.literal, "x\ny".toList) := by
  char_lits
  decide +kernel
-- number look-alikes are quoted (regression, fix 1fdb06b)
example : roundTrip {} .root "0X1F".toList = some (.double, "0X1F".toList) ∧
    roundTrip {} .root "_1".toList = some (.double, "_1".toList) ∧
    roundTrip {} .root "infinity".toList = some (.double, "infinity".toList) ∧
    roundTrip {} .root "+nan".toList = some (.double, "+nan".toList) ∧
    roundTrip {} .root ['1', Char.ofNat 0x2028] = some (.double, ['1', Char.ofNat 0x2028]) ∧
    isAmbiguous "0X1F".toList = true := by
  char_lits
  decide +kernel
-- CR / NUL / line breaks only are not sent to the literal style (regression, fix a252cf9)
example : roundTrip { foldedWrap := 1 } .root "a\rb\n".toList = some (.double, "a\rb\n".toList) ∧
    roundTrip { foldedWrap := 1 } .mapValue "a\r\nb".toList = some (.double, "a\r\nb".toList) ∧
    roundTrip { foldedWrap := 1 } .root ['a', Char.ofNat 0, '\n', 'b'] = some (.double, ['a', Char.ofNat 0, '\n', 'b']) ∧
    roundTrip { foldedWrap := 1 } .root "\n\n".toList = some (.double, "\n\n".toList) ∧
    roundTrip { foldedWrap := 1 } .seqItem "\n\n\n".toList = some (.double, "\n\n\n".toList) := by
  char_lits
  decide +kernel
-- no indentation indicator below a nested parent, no block scalar after `- - ` with indent_step 1 (regression, fix a252cf9)
example : roundTrip { foldedWrap := 1 } .nestedMapValue " a\nb".toList = some (.double, " a\nb".toList) ∧
    roundTrip { foldedWrap := 1 } .seqInMap " a\nb".toList = some (.double, " a\nb".toList) ∧
    roundTrip { foldedWrap := 1 } .seqInSeq " a\nb".toList = some (.double, " a\nb".toList) ∧
    roundTrip { foldedWrap := 1 } .mapValue " a\nb".toList = some (.literal, " a\nb".toList) ∧
    roundTrip { foldedWrap := 1 } .nestedMapValue "a\nb".toList = some (.literal, "a\nb".toList) ∧
    roundTrip { indentStep := 1, foldedWrap := 1 } .seqInSeq "a\nb".toList = some (.double, "a\nb".toList) ∧
    roundTrip { indentStep := 2, foldedWrap := 1 } .seqInSeq "a\nb".toList = some (.literal, "a\nb".toList) := by
  char_lits
  decide +kernel

/-- (T, partial) reader level, every position: the literal block `serialize_str` writes (header with
optional indentation indicator and chomping indicator, body lines indented `N` columns, extra empty
lines for `keep`) is read back as `v` — PROVIDED the content is not made of line breaks only, the body
is deeper than the parent node, and an indentation indicator (needed iff the first non-empty line starts
with a space) is at most 9 and counted from a parent at column 0 or the root. -/
theorem literal_block_roundtrip (N : Nat) (parent : Int) (v : List Char) (hN : 1 ≤ N)
    (hcontent : trimEndNl v ≠ [])
    (hauto : firstLineLeadingSpaces (trimEndNl v) = 0 → parent + 1 ≤ (N : Int))
    (hexpl : firstLineLeadingSpaces (trimEndNl v) > 0 → N ≤ 9 ∧ parent ≤ 0) :
    readBlock true parent
      (litHeader (if firstLineLeadingSpaces (trimEndNl v) > 0 then some N else none) (v.length - (trimEndNl v).length))
      (litLines N v) = some (v, []) :=
  literal_read N parent v hN hcontent hauto hexpl

/-- (T) `literal_roundtrip`, document level, FULL: whenever the writer really emits the automatic literal
style (the selection `autoStyle … = literal`, and its own fall-back test `blockFallback` is false) at the
root, as a map value, as a sequence item, as an enum newtype payload, in a sequence in a sequence, in a
mapping in a mapping or in a sequence in a mapping, under every option vector, the document reads back as the same string in literal style. (When the fall-back
applies the string is written quoted or plain: covered by `string_roundtrip`.) -/
theorem literal_roundtrip (o : Opts) (p : SerScalar.Pos) (v : List Char) (hp : isBlockPos p = true)
    (hstep : 1 ≤ o.indentStep) (hauto : autoStyle o false v = some .literal)
    (hnf : blockFallback o (posCtx o p) v = false) :
    roundTrip o p v = some (.literal, v) := by
  rw [string_roundtrip o p v hstep, writerStyle_block o p v .literal hp hauto hnf]

/-- (T) `fold_inverse`: for every line that is not empty and does not start with a space (lines that do
are written unwrapped), for every wrap column and indentation: `write_folded_block` emits the line as
indented segments such that joining the segments by single spaces — what unfolding does — gives the line
back; no segment is empty or starts with a space (so none is "more indented"). Wrapping happens only
inside runs of spaces, `n` spaces becoming `n-1` trailing spaces + the folded break. -/
theorem fold_inverse (line indent : List Char) (wrap : Nat) (hne : line ≠ []) (hhead : line.head? ≠ some ' ') :
    ∃ segs, foldLine line indent wrap = .ok (joinLines (segs.map (indent ++ ·))) ∧ joinSp segs = line ∧ segs ≠ [] ∧
      ∀ e ∈ segs, e ≠ [] ∧ e.head? ≠ some ' ' :=
  foldLine_spec line indent wrap hne hhead

/-- (T) the folded reader on such segments: single breaks between non-indented, non-empty lines read
as single spaces -/
theorem folded_read_segments (N : Nat) (hN : 1 ≤ N) (segs : List (List Char)) (hne : segs ≠ [])
    (hsegs : ∀ e ∈ segs, e ≠ [] ∧ headSat isBlank e = false) :
    blockBody false N (segs.map (spaces N ++ ·)) true false 0 [] = (joinSp segs, 0, [], false) := by
  simpa using blockBody_fold N hN segs hsegs true [] hne

/-- (T) document level: whenever the writer selects the automatic folded style (single-line string that
passes the value test and is longer than `folded_wrap_chars`, fall-back test false) in a block value
position (`isBlockPos`), the document reads back as the same string. No excluding hypothesis is
needed: in particular a trailing blank survives in a block scalar. -/
theorem auto_folded_roundtrip (o : Opts) (p : SerScalar.Pos) (v : List Char) (hp : isBlockPos p = true)
    (hstep : 1 ≤ o.indentStep) (hauto : autoStyle o false v = some .folded)
    (hnf : blockFallback o (posCtx o p) v = false) :
    roundTrip o p v = some (.folded, v) := by
  rw [string_roundtrip o p v hstep, writerStyle_block o p v .folded hp hauto hnf]

/-- (T) float text: for EVERY digit string of zmij's documented output shape
`[-]digits[.digits][e[-]digits]`, `push_float_string` produces `[-]digits.digits[e(+|-)digits]`:
a decimal point in the mantissa and a signed exponent. -/
theorem float_text_grammar (p : ZmijParts) (h : p.wf) : normalizeFloatText p.text = p.yaml :=
  normalize_parts p h

/-- (T) float value: the normalised text denotes the same decimal as zmij's digits (`parseDec` gives
sign, mantissa m and exponent e of a decimal text; `sameDecimal`: m·10^e = m'·10^e'). Together with
zmij's contract (its digits parse back to the same bits — external, exercised by the differential on
boundary and random bit patterns) and correct rounding of the reader this is the float round trip. -/
theorem float_text_value (p : ZmijParts) (h : p.wf) :
    ∃ a b, FloatDec.parseDec p.text = some a ∧ FloatDec.parseDec (normalizeFloatText p.text) = some b ∧ sameDecimal a b := by
  rw [float_text_grammar p h]
  exact value_parts p h

/-- the non-finite spellings are the YAML 1.2 core-schema ones -/
theorem float_nonfinite_text :
    pushFloatString 1 [] = ".nan".toList ∧ pushFloatString 2 [] = ".inf".toList ∧ pushFloatString 3 [] = "-.inf".toList := by
  refine ⟨rfl, rfl, rfl⟩

/-- (T) signed integers of every width 1..128: the text `serialize_i64` / `serialize_i128` writes
(Rust `Display`) is read back by `parse_int_signed::<iW>` as the same value (uses C06's exactness). -/
theorem int_roundtrip (w : Nat) (hw1 : 1 ≤ w) (hw : w ≤ 128) (v : Int)
    (hlo : - (2 : Int) ^ (w - 1) ≤ v) (hhi : v < (2 : Int) ^ (w - 1)) :
    parseIntSigned w false (showInt v) = some v :=
  Props.C06.complete_signed w hw1 hw false _ v (intNotation_showInt v) hlo hhi

/-- (T) unsigned integers of every width up to 128 -/
theorem uint_roundtrip (w : Nat) (hw : w ≤ 128) (n : Nat) (h : n < 2 ^ w) :
    parseIntUnsigned w false (natDigits n) = some n :=
  Props.C06.complete_unsigned w hw false _ n (uintNotation_natDigits n) h

/-- (T) booleans: `true` / `false` read back as the boolean, and they are not strings -/
theorem bool_roundtrip (b : Bool) : parseYaml11Bool (showBool b) = some b ∧ parseStrictBool (showBool b) = some b := by
  cases b <;> constructor <;> decide

/-- (T) unit / None are written `null`, which is null-like in plain style for both null tests -/
theorem unit_roundtrip : scalarIsNullish showUnit .plain = true ∧ scalarIsNullishForOption showUnit .plain = true := by
  char_lits
  decide +kernel

example : roundTrip {} .root "hello world".toList = some (.plain, "hello world".toList) := by
  char_lits
  decide +kernel
example : roundTrip {} .mapValue "a: b".toList = some (.double, "a: b".toList) := by
  char_lits
  decide +kernel
example : roundTrip { quoteAll := true } .seqItem "it's".toList = some (.double, "it's".toList) := by
  char_lits
  decide +kernel
example : roundTrip { quoteAll := true } .seqItem "plain".toList = some (.single, "plain".toList) := by
  char_lits
  decide +kernel
example : roundTrip {} .mapKey "yes".toList = some (.double, "yes".toList) := by
  char_lits
  decide +kernel
example : roundTrip { foldedWrap := 4 } .root "aa bb  cc".toList = some (.folded, "aa bb  cc".toList) := by
  char_lits
  decide +kernel
example : roundTrip { foldedWrap := 4 } .mapValue " x\ny\n\n".toList = some (.literal, " x\ny\n\n".toList) := by
  char_lits
  decide +kernel
example : writerPlain {} .flowMapValue "a:b".toList ∧ roundTrip {} .flowMapValue "a:b".toList = some (.plain, "a:b".toList) := by
  char_lits
  decide +kernel
-- a key starting with `?` and containing a blank is left plain by the key sink
example : writerPlain {} .mapKey "?a b".toList ∧ "?a b".toList.getLast? ≠ some ' ' := by
  char_lits
  decide +kernel
example : normalizeFloatText "4e-6".toList = "4.0e-6".toList ∧ normalizeFloatText "1e21".toList = "1.0e+21".toList ∧
    normalizeFloatText "123".toList = "123.0".toList ∧ normalizeFloatText "-1.5e300".toList = "-1.5e+300".toList := by
  char_lits
  decide +kernel
-- nested positions and every indentation step: the style function and the round trip
example : writerStyle { indentStep := 4, foldedWrap := 1 } .seqInSeq "\t\n".toList = .literal ∧
    emitDoc { indentStep := 4, foldedWrap := 1 } .seqInSeq "\t\n".toList = .ok "- - |\n      \t\n".toList ∧
    roundTrip { indentStep := 4, foldedWrap := 1 } .seqInSeq "\t\n".toList = some (.literal, "\t\n".toList) ∧
    roundTrip { indentStep := 3, foldedWrap := 1 } .nestedMapValue "a\nb".toList = some (.literal, "a\nb".toList) ∧
    roundTrip { indentStep := 5, foldedWrap := 1, compactList := true } .seqInMap " a\nb".toList = some (.literal, " a\nb".toList) ∧
    roundTrip { indentStep := 5, foldedWrap := 1 } .seqInMap " a\nb".toList = some (.double, " a\nb".toList) := by
  char_lits
  decide +kernel
example : (⟨true, ['4'], none, some (true, ['6'])⟩ : ZmijParts).text = "-4e-6".toList := by
  char_lits
  decide +kernel
example : autoStyle { foldedWrap := 4 } false "aa bb  cc ".toList = some .folded ∧
    roundTrip { foldedWrap := 4 } .root "aa bb  cc ".toList = some (.folded, "aa bb  cc ".toList) := by
  char_lits
  decide +kernel
example : foldLine "AA  BB".toList [] 4 = .ok "AA \nBB\n".toList := by
  char_lits
  decide +kernel
example : autoStyle { foldedWrap := 2 } false " x\ny\n\n".toList = some .literal ∧ needsInd " x\ny\n\n".toList = true := by
  char_lits
  decide +kernel

end SaphyrVerif.Props.C12
