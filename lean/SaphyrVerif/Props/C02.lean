import SaphyrVerif.Spec.Expand
import SaphyrVerif.Lemmas.C02_Doc
import SaphyrVerif.Lemmas.C02_Misc
/-!
# C02 — anchors and aliases are transparent: an alias equals a copy of its anchor

Theorems about the pump model (Model/Pump.lean = `LiveEvents::next_impl` with recording frames,
inject stack, per-anchor / total / nesting limits) against the tree substitution `expand`
(Spec/Expand.lean).  No budget here (budget rejections are C07/C08).

Finding: `pump_eq_expand` and `pump_errors_classified` as originally stated are FALSE of the model: a
folded block scalar at column 0 with non-blank text is rejected by the parser loop with `foldedIndent`
(a syntax-level error independent of anchors), while `expand` succeeds.  They are kept as
`pump_eq_expand_Full` / `pump_errors_classified_Full : Prop`, refuted by `*_counterexample`, and proved
as `*_partial` with the visible extra hypothesis `noFoldedIndent t = true` (Lemmas/C02_Node.lean).
-/
namespace SaphyrVerif.Props.C02
open SaphyrVerif SaphyrVerif.Scalars SaphyrVerif.Pump SaphyrVerif.Spec
open SaphyrVerif.Lemmas.C02 (noFoldedIndent)

def initPump (L : AliasLimits) : Pump := { limits := L }

/-- the three alias-limit errors -/
def isLimitErr : PErr → Bool
  | .aliasExpansionLimit .. | .replayStackDepth .. | .replayLimit .. => true
  | _ => false

theorem isLimitErr_eq : isLimitErr = Lemmas.C02.isLimit := by
  funext e; cases e <;> rfl

/-- more fuel never changes a finished run -/
theorem pumpAll_fuel_mono (fuel k : Nat) (p : Pump) (inp : List RawItem) (acc : List Ev) (x)
    (h : pumpAll fuel p inp acc = some x) : pumpAll (fuel + k) p inp acc = some x :=
  Lemmas.C02.pumpAll_fuel_mono fuel k p inp acc x h

/-- (F) pump_eq_expand as originally stated (false: see `pump_eq_expand_counterexample`). -/
def pump_eq_expand_Full : Prop :=
  ∀ (L : AliasLimits) (t : LNode) (l0 l1 l2 l3 : Loc) (r : Exp),
    expand [] [] t = .ok r →
    1 ≤ L.maxReplayStackDepth →
    r.replayed ≤ L.maxTotalReplayedEvents →
    (∀ id, aliasCount id t ≤ L.maxAliasExpansionsPerAnchor) →
    ∃ n, ∀ fuel, n ≤ fuel →
      ∃ p', pumpAll fuel (initPump L) (docStream t l0 l1 l2 l3) [] = some (r.evs, none, p')

/-- the witness: a folded scalar `>` at column 0 with text `x`, no anchors, no aliases -/
def foldedCex : LNode := .scalar ['x'] .folded 0 none 1

def foldedCexL : AliasLimits :=
  { maxTotalReplayedEvents := 10, maxReplayStackDepth := 10, maxAliasExpansionsPerAnchor := 10 }

/-- the run on the witness: no event, then `foldedIndent` -/
theorem foldedCex_run :
    (pumpAll 5 (initPump foldedCexL) (docStream foldedCex 1 2 3 4) []).map (fun x => (x.1, x.2.1)) =
      some ([], some (.foldedIndent 1)) := by decide +kernel

theorem foldedCex_expand :
    expand [] [] foldedCex = .ok ⟨[.scalar ['x'] 0 none .folded 0 1], [], 0⟩ := by
  simp [foldedCex, expand, scalarEv, normStyle, tagCode]

theorem foldedCex_run' : ∃ q, pumpAll 5 (initPump foldedCexL) (docStream foldedCex 1 2 3 4) [] =
    some ([], some (.foldedIndent 1), q) := by
  have h := foldedCex_run
  cases hx : pumpAll 5 (initPump foldedCexL) (docStream foldedCex 1 2 3 4) [] with
  | none => rw [hx] at h; cases h
  | some x =>
    obtain ⟨a, b, q⟩ := x
    rw [hx] at h
    simp only [Option.map_some, Option.some.injEq, Prod.mk.injEq] at h
    exact ⟨q, by rw [h.1, h.2]⟩

/-- (F) counterexample to `pump_eq_expand_Full`: the expansion exists, all limits are generous, and
the pump stops with `foldedIndent`. -/
theorem pump_eq_expand_counterexample : ¬ pump_eq_expand_Full := by
  intro h
  obtain ⟨n, hn⟩ := h foldedCexL foldedCex 1 2 3 4 _ foldedCex_expand (by decide) (by decide)
    (by intro id; simp [foldedCex, aliasCount])
  obtain ⟨p', hp⟩ := hn (5 + n) (by omega)
  obtain ⟨q, hq⟩ := foldedCex_run'
  have := pumpAll_fuel_mono 5 n _ _ _ _ hq
  rw [this] at hp
  simp at hp

/-- (T) pump_eq_expand (partial: excludes folded scalars at column 0 with non-blank text): whenever
the expansion exists and stays within the configured alias limits, the pump delivers exactly the
expansion of the document (every alias replaced by a copy of the most recently completed node
anchored under that id), for every document tree. -/
theorem pump_eq_expand_partial (L : AliasLimits) (t : LNode) (l0 l1 l2 l3 : Loc) (r : Exp)
    (hnf : noFoldedIndent t = true)
    (hexp : expand [] [] t = .ok r)
    (hL1 : 1 ≤ L.maxReplayStackDepth)
    (hL2 : r.replayed ≤ L.maxTotalReplayedEvents)
    (hL3 : ∀ id, aliasCount id t ≤ L.maxAliasExpansionsPerAnchor) :
    ∃ n, ∀ fuel, n ≤ fuel →
      ∃ p', pumpAll fuel (initPump L) (docStream t l0 l1 l2 l3) [] = some (r.evs, none, p') := by
  obtain ⟨p1, hs, hpost, hne⟩ :=
    Lemmas.C02.doc_steps L t l1 r [.ev .docEnd l2, .ev .streamEnd l3] hnf hexp hL1 hL2 hL3
  have he : Lemmas.C02.Ends (initPump L) (docStream t l0 l1 l2 l3) r.evs _ :=
    Lemmas.C02.Ends.of_eq (Lemmas.C02.doc_start L l0 l1 _)
      ⟨p1, _, _, hs, Lemmas.C02.doc_end hpost.good (by rw [hpost.sade]; rfl) (hpost.prod (.inr hne)) l2 l3⟩
  refine ⟨r.evs.length + 1, fun fuel hf => ⟨Lemmas.C02.closed p1 l3, ?_⟩⟩
  obtain ⟨k, rfl⟩ := Nat.exists_eq_add_of_le hf
  exact pumpAll_fuel_mono _ k _ _ _ _ (Lemmas.C02.pumpAll_ends he)

/-- (T) soundness for ALL limits (`limits_only_reject` + `alias_unknown_is_error`): a run that ends
without error delivered exactly the expansion — in particular an alias without a completed anchor can
never produce an event sequence that is accepted. -/
theorem pump_sound (L : AliasLimits) (t : LNode) (l0 l1 l2 l3 : Loc) (fuel : Nat) (evs : List Ev) (p' : Pump)
    (h : pumpAll fuel (initPump L) (docStream t l0 l1 l2 l3) [] = some (evs, none, p')) :
    ∃ r, expand [] [] t = .ok r ∧ evs = r.evs := by
  rcases Lemmas.C02.doc_outcome L t l0 l1 l2 l3 with ⟨r, q, hexp, he⟩ | ⟨e, es, q, -, hs⟩ | hb
  · exact ⟨r, hexp, (Prod.mk.inj (Lemmas.C02.run_of_ends he h)).1⟩
  · cases Lemmas.C02.run_of_stops hs h
  · obtain ⟨_, he, _⟩ := hb.run h
    cases he

/-- (T) classification of every error of a run, valid for ALL documents: an alias-limit error (after a
prefix of the expansion), the error the specification assigns to the document, or the syntax-level
`foldedIndent` rejection of a folded scalar at column 0 (only if the document contains one). -/
theorem pump_errors_classified_general (L : AliasLimits) (t : LNode) (l0 l1 l2 l3 : Loc) (fuel : Nat)
    (evs : List Ev) (err : PErr) (p' : Pump)
    (h : pumpAll fuel (initPump L) (docStream t l0 l1 l2 l3) [] = some (evs, some err, p')) :
    (isLimitErr err = true ∧ ∀ r, expand [] [] t = .ok r → evs <+: r.evs) ∨
    (∃ l, expand [] [] t = .error (.unknown l) ∧ err = .unknownAnchor l) ∨
    (∃ l, expand [] [] t = .error (.recursive l) ∧ err = .recursiveRef l) ∨
    (∃ l, err = .foldedIndent l ∧ noFoldedIndent t = false) := by
  rcases Lemmas.C02.doc_outcome L t l0 l1 l2 l3 with ⟨r, q, -, he⟩ | ⟨e, es, q, hexp, hs⟩ | hb
  · cases Lemmas.C02.run_of_ends he h
  · cases Lemmas.C02.run_of_stops hs h
    cases e with
    | unknown l => exact .inr (.inl ⟨l, hexp, rfl⟩)
    | recursive l => exact .inr (.inr (.inl ⟨l, hexp, rfl⟩))
  · obtain ⟨err', he, ⟨hl, hp, -⟩ | ⟨hf, l, rfl⟩⟩ := hb.run h <;> cases he
    · exact .inl ⟨by rw [isLimitErr_eq]; exact hl, hp⟩
    · exact .inr (.inr (.inr ⟨l, rfl, hf⟩))

/-- (F) pump_errors_classified as originally stated (false: see the counterexample below). -/
def pump_errors_classified_Full : Prop :=
  ∀ (L : AliasLimits) (t : LNode) (l0 l1 l2 l3 : Loc) (fuel : Nat) (evs : List Ev) (err : PErr) (p' : Pump),
    pumpAll fuel (initPump L) (docStream t l0 l1 l2 l3) [] = some (evs, some err, p') →
    (isLimitErr err = true ∧ ∀ r, expand [] [] t = .ok r → evs <+: r.evs) ∨
    (∃ l, expand [] [] t = .error (.unknown l) ∧ err = .unknownAnchor l) ∨
    (∃ l, expand [] [] t = .error (.recursive l) ∧ err = .recursiveRef l)

/-- (F) counterexample to `pump_errors_classified_Full`: `foldedIndent` is none of the three kinds. -/
theorem pump_errors_classified_counterexample : ¬ pump_errors_classified_Full := by
  intro h
  obtain ⟨q, hq⟩ := foldedCex_run'
  rcases h foldedCexL foldedCex 1 2 3 4 5 [] _ q hq with ⟨hl, _⟩ | ⟨l, he, _⟩ | ⟨l, he, _⟩
  · cases hl
  · rw [foldedCex_expand] at he; cases he
  · rw [foldedCex_expand] at he; cases he

/-- (T) every error of a run (partial: excludes folded scalars at column 0 with non-blank text) is
either one of the three alias-limit errors, or it is the error the specification assigns to the
document (unknown anchor / recursive reference at that alias); never a scan, budget or internal
error, and the events delivered before it are a prefix of the expansion when the expansion exists. -/
theorem pump_errors_classified_partial (L : AliasLimits) (t : LNode) (l0 l1 l2 l3 : Loc) (fuel : Nat)
    (evs : List Ev) (err : PErr) (p' : Pump)
    (hnf : noFoldedIndent t = true)
    (h : pumpAll fuel (initPump L) (docStream t l0 l1 l2 l3) [] = some (evs, some err, p')) :
    (isLimitErr err = true ∧ ∀ r, expand [] [] t = .ok r → evs <+: r.evs) ∨
    (∃ l, expand [] [] t = .error (.unknown l) ∧ err = .unknownAnchor l) ∨
    (∃ l, expand [] [] t = .error (.recursive l) ∧ err = .recursiveRef l) := by
  rcases pump_errors_classified_general L t l0 l1 l2 l3 fuel evs err p' h with h1 | h2 | h3 | ⟨l, _, hf⟩
  · exact Or.inl h1
  · exact Or.inr (Or.inl h2)
  · exact Or.inr (Or.inr h3)
  · rw [hnf] at hf; cases hf

/-- (T) alias_unknown_is_error, stated directly: if the specification says the document contains an alias
with no completed anchor (or a recursive one), no run of the pump ends without error. -/
theorem alias_unknown_is_error (L : AliasLimits) (t : LNode) (l0 l1 l2 l3 : Loc) (e : ExpErr)
    (hexp : expand [] [] t = .error e) (fuel : Nat) (evs : List Ev) (p' : Pump) :
    pumpAll fuel (initPump L) (docStream t l0 l1 l2 l3) [] ≠ some (evs, none, p') := by
  intro h
  obtain ⟨r, hr, _⟩ := pump_sound L t l0 l1 l2 l3 fuel evs p' h
  rw [hexp] at hr
  cases hr

/-- (T) anchor_mark_transparent: erasing every anchor mark of an alias-free document changes the
events of its expansion (`Spec.expand`; the pump does not occur in the statement, it delivers these events by
`pump_eq_expand_partial`) only by erasing the ids — attaching an anchor never changes a node's own value.
(Full statement; before the repair recorded as C02-anchored-empty-quoted it needed the exclusion
"no anchored empty quoted scalar".) -/
theorem anchor_mark_transparent (t : LNode) (haf : aliasFree t = true)
    (σ σ' : Tab) (opn opn' : List Nat) (r r' : Exp)
    (h1 : expand σ opn t = .ok r) (h2 : expand σ' opn' (eraseAnchors t) = .ok r') :
    r'.evs = r.evs.map Ev.eraseAnchor :=
  Lemmas.C02.erase_node t haf σ σ' opn opn' r r' h1 h2

/-- the former witness of the defect now behaves: `&a ""` and `""` deliver the same scalar modulo the id -/
example :
    ((expand [] [] (.scalar [] .double 1 none 7)).toOption.map (·.evs.map Ev.eraseAnchor)) =
    ((expand [] [] (eraseAnchors (.scalar [] .double 1 none 7))).toOption.map (·.evs)) := by
  decide

/-- (T) inject_len_le_one: the replay stack never holds more than one frame (recorded buffers are
alias-free), so `max_replay_stack_depth` only matters at 0. One-step invariant of `next_impl`. -/
theorem inject_len_le_one (p : Pump) (inp : List RawItem) (h : p.inject.length ≤ 1) :
    (nextImpl p inp).2.1.inject.length ≤ 1 :=
  Lemmas.C02.nextImpl_inject p inp h

/-- (T) events_peek_next_coherent: after `peek` returned an event, `next` returns that same event
(never end of input, never a different event, never an error) and does not touch the parser input. -/
theorem peek_next_coherent (p : Pump) (inp : List RawItem) (e : Ev) (p1 : Pump) (in1 : List RawItem)
    (h : peek p inp = (.event e, p1, in1)) :
    ∃ p2, next p1 in1 = (.event e, p2, in1) ∧ p2.look = none := by
  unfold peek at h
  cases hl : p.look with
  | some ev =>
    rw [hl] at h
    simp only [Prod.mk.injEq, Step.event.injEq] at h
    obtain ⟨rfl, rfl, rfl⟩ := h
    simp [next]
  | none =>
    rw [hl] at h
    rcases hn : nextImpl p inp with ⟨s, p', rest⟩
    rw [hn] at h
    cases s with
    | event ev =>
      simp only [Prod.mk.injEq, Step.event.injEq] at h
      obtain ⟨rfl, rfl, rfl⟩ := h
      simp [next]
    | eof => simp at h
    | error err => simp at h

/-- (T) replayed events are copies of the definition's events: they keep the definition's anchor ids and
locations (used by C14/C16). Stated on the specification: the expansion of an alias IS the stored buffer
(and the table is unchanged). -/
theorem alias_expansion_is_buffer (σ : Tab) (opn : List Nat) (id : Nat) (loc : Loc) (r : Exp)
    (h : expand σ opn (.alias id loc) = .ok r) : lookupAnchor σ id = some r.evs ∧ r.tab = σ :=
  Lemmas.C02.expand_alias_ok h

-- (E) non-vacuity: a document with a re-defined anchor, an alias inside an anchored container and
-- an alias to it; the hypotheses of `pump_eq_expand` are satisfiable and the pump really runs.
def demo : LNode :=
  .seq 0 none 10 19 [.scalar ['x'] .plain 1 none 11, .seq 2 none 12 15 [.alias 1 13, .scalar ['y'] .plain 1 none 14],
                     .alias 2 16, .alias 1 17]

def demoL : AliasLimits := { maxTotalReplayedEvents := 6, maxReplayStackDepth := 1, maxAliasExpansionsPerAnchor := 2 }

example : (expand [] [] demo).toOption.map (·.replayed) = some 6 := by decide +kernel
example : (pumpAll 100 (initPump demoL) (docStream demo 1 2 3 4) []).map (fun x => (x.1.length, x.2.1)) = some (12, none) := by
  decide
example : (pumpAll 100 (initPump { demoL with maxTotalReplayedEvents := 5 }) (docStream demo 1 2 3 4) []).map (·.2.1)
    = some (some (.replayLimit 6 5 14)) := by decide +kernel
example : (pumpAll 100 (initPump demoL) (docStream (.seq 1 none 1 3 [.alias 1 2]) 1 2 3 4) []).map (·.2.1)
    = some (some (.recursiveRef 2)) := by decide +kernel
-- the extra hypothesis of the partial theorems holds for the demo document
example : noFoldedIndent demo = true := by decide +kernel

#print axioms pumpAll_fuel_mono
#print axioms pump_eq_expand_partial
#print axioms pump_eq_expand_counterexample
#print axioms pump_sound
#print axioms pump_errors_classified_general
#print axioms pump_errors_classified_partial
#print axioms pump_errors_classified_counterexample
#print axioms alias_unknown_is_error
#print axioms anchor_mark_transparent
#print axioms inject_len_le_one
#print axioms peek_next_coherent
#print axioms alias_expansion_is_buffer

end SaphyrVerif.Props.C02
