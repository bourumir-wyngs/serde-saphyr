import SaphyrVerif.Props.E2E
import SaphyrVerif.Lemmas.E2EBudgetEntry
import SaphyrVerif.Lemmas.E2EBudgetUsage
/-!
# E2E with the budget enforcer — a budget can only reject, and within the limits it is invisible

`Props/E2E.lean` composes C02 (the pump delivers the expansion) and C05 (the typed deserializer over a replay
cursor computes `Spec.interp`) for a live pump WITHOUT a budget enforcer.  Here the enforcer (`Model/Budget.lean`,
called by the pump once per raw item and once per replayed event) is added.

Technique: a second simulation, between the SAME live cursor with and without its enforcer (`strip`).  Unlike
`Sim` of `Lemmas/CurSim.lean` the two pumps are in literally the same state up to the `budget` field, so
`reference_location` / `last_location` agree and results are compared by EQUALITY (values, errors, map-access
states) — until the first breach, which the typed deserializer (all functions of the mutual block; none of them
catches a cursor error) hands up unchanged except for `attach_alias_locations_if_missing`.  The pass over the
deserializer (`Lemmas/E2EBudgetMain.lean: bA`) is done once, parametrised by an invariant of the budgeted cursor
and by whether a breach may occur:

* `P1` (any pump, breaches allowed) gives `budget_only_rejects_typed`;
* `P2` (a pump whose run is breach-free, `BRun`) gives `budget_within_limits_transparent`.

Finding (statement (1) as first given is false): a breach does NOT always surface as `Error::Budget`.  When the
enforcer rejects a REPLAYED event inside a sequence element / mapping value / enum payload that started at an
alias, `attach_alias_locations_if_missing` (src/de.rs) wraps the error into `Error::AliasError` (the budget error
survives only in its message text): `budget_error_kind_counterexample`.  The kinds are `Budget` and `AliasError`.

"Within the limits" is stated in three ways (each of the first two implies the third):
* by the independent counts of `Spec/BudgetSpec.lean` over raw + replayed events (`usageWithReplay`: `Spec.usage` of
  the stream of the alias-free expansion, plus the alias items, with the anchors of the raw items; `Spec.within`
  and `Spec.ratioOk`) — `budget_within_usage_transparent`, `typed_alias_transparent_budgeted_usage`.  The bridge
  (`pumpAccepts_of_usage`) goes through `Props.C07.accepts_iff` for the expansion's stream and a simulation between
  the enforcer over the pump's observations and `Budget.run` over that stream (`Lemmas/E2EBudgetSim.lean`); it is a
  sufficient condition, exact except that a TAGGED raw `<<` key is counted as a merge key by the specification
  and not by the enforcer;
* through the usage report the enforcer itself measures (`PumpMeasures`, under ANY accepting limits): limits that
  bound this report are invisible (`budget_within_measured_usage_transparent`; this is where the monotonicity of the
  counters along prefixes is used: the typed deserializer may stop early, and a prefix of an accepted run is
  accepted);
* `PumpAccepts`: the pump ALONE, drained over the stream, reports no error and a silent `finish()` — a statement
  about pump + enforcer only, whatever the target type (`budget_within_limits_transparent`, both policies).
-/
namespace SaphyrVerif.Props.E2E_Budget
open SaphyrVerif.Pump SaphyrVerif.Budget SaphyrVerif.De SaphyrVerif.Spec
open SaphyrVerif.Lemmas.E2EBudget
open SaphyrVerif.Lemmas.C02 (noFoldedIndent)
open SaphyrVerif.Props.C02 (initPump)
open SaphyrVerif.Props.C05 (deserTop)


/-- the run ended with an error that a budget breach surfaces as: `Error::Budget`, or the `Error::AliasError`
that `attach_alias_locations_if_missing` makes of it while an alias is replayed -/
def IsBudgetError (r : Except DErr Val) : Prop := ∃ e, r = .error e ∧ (e.kind = "Budget" ∨ e.kind = "AliasError")

/-- the pump of the single-document entry points with a budget enforcer (both enforcing policies) -/
def budgetPump (L : AliasLimits) (lim : Limits) (perDocument : Bool) : Pump :=
  { limits := L, budget := some (Enf.new lim perDocument) }

/-- the pump ALONE accepts the stream under the budget: draining it (every raw item and every replayed event is
shown to the enforcer) reports no error, and the final `finish()` (alias/anchor ratio) is silent -/
def PumpAccepts (p : Pump) (items : List RawItem) : Prop :=
  ∃ fuel evs p', pumpAll fuel p items [] = some (evs, none, p') ∧ (Pump.finish p').1 = none

/-- draining the budgeted pump ALONE over the stream reports no error, and the usage report handed to the budget
callback at the end (`finish()`) is `R` -/
def PumpMeasures (p : Pump) (items : List RawItem) (R : Report) : Prop :=
  ∃ fuel evs p', pumpAll fuel p items [] = some (evs, none, p') ∧ (Pump.finish p').2 = some R

/-- executable form of `PumpAccepts` (for examples) -/
def pumpAcceptsB (fuel : Nat) (p : Pump) (items : List RawItem) : Bool :=
  match pumpAll fuel p items [] with
  | some (_, none, p') => (Pump.finish p').1.isNone
  | _ => false

theorem pumpAccepts_of_B {fuel : Nat} {p : Pump} {items : List RawItem} (h : pumpAcceptsB fuel p items = true) :
    PumpAccepts p items := by
  unfold pumpAcceptsB at h
  split at h
  · rename_i evs p' heq
    exact ⟨fuel, evs, p', heq, by simpa using h⟩
  · cases h

/-- (T) cursor level, `peek` / `next`: a budgeted cursor (any pump state whose synthesized-null flag obeys `J`)
and the same cursor without the enforcer answer alike and stay related — or the enforcer reports a breach. -/
theorem budgeted_cursor_primitives : Closed P1 := closed_P1

/-- (T) cursor level, lifted: for ALL target types, ALL fuel values and key flags the typed deserializer on a
budgeted cursor and on the same cursor without the enforcer return the SAME result (value, error, successor
cursor up to the enforcer) — or the budgeted side fails with a budget error. -/
theorem deser_budgeted_vs_free (fuel : Nat) (cfg : Cfg) (ty : Ty) (inKey kemn : Bool) {c : Cur} (h : P1.Inv c) :
    BR P1 (deser fuel cfg ty inKey kemn c) (deser fuel cfg ty inKey kemn (strip c)) :=
  (bA closed_P1 fuel).deser cfg ty inKey kemn h

/-- (T) … and for every cursor-reading function of the mutual block, for any comparison parameters closed
under the two cursor operations. -/
theorem block_budgeted_vs_free {P : BP} (hcl : Closed P) (fuel : Nat) : BA P fuel := bA hcl fuel

/-! ### (1) a budget can only reject -/

/-- (T) budget_only_rejects_typed (general form: ANY pump state that has not synthesized the null of an empty
stream, with ANY enforcer state — hence both policies —, ANY parser input, configuration, target type): the
entry point `from_str` / `from_reader` with the budget has the same VALUE outcome as without it, or it fails
with a budget error.  A budget never changes a value and never turns an error into a value. -/
theorem budget_only_rejects_typed (cfg : Cfg) (ty : Ty) (p : Pump) (items : List RawItem)
    (hs : p.synthesizedNull = false) :
    (Entry.fromSingle cfg ty p items).toOption = (Entry.fromSingle cfg ty (stripP p) items).toOption ∨
      IsBudgetError (Entry.fromSingle cfg ty p items) :=
  (fromSingle_rejects cfg ty p items hs).imp_left (congrArg Except.toOption)

/-- (T) budget_only_rejects_typed for documents (the setting of `fromSingle_alias_transparent`): for every
document whose expansion exists and stays within the alias limits, every `Budget.Limits`, both policies, every
configuration and target type: the budgeted run yields exactly the value the replay-cursor deserializer
computes over the expansion, or nothing where that one yields nothing — or it fails with a budget error. -/
theorem budget_only_rejects_typed_doc (L : AliasLimits) (t : LNode) (l0 l1 l2 l3 : Loc) (r : Exp)
    (hnf : noFoldedIndent t = true) (hexp : expand [] [] t = .ok r)
    (hL1 : 1 ≤ L.maxReplayStackDepth) (hL2 : r.replayed ≤ L.maxTotalReplayedEvents)
    (hL3 : ∀ id, aliasCount id t ≤ L.maxAliasExpansionsPerAnchor)
    (lim : Limits) (pd : Bool) (cfg : Cfg) (ty : Ty) :
    (Entry.fromSingle cfg ty (budgetPump L lim pd) (docStream t l0 l1 l2 l3)).toOption =
        deserTop (Entry.fuelFor (docStream t l0 l1 l2 l3).length) cfg ty r.evs ∨
      IsBudgetError (Entry.fromSingle cfg ty (budgetPump L lim pd) (docStream t l0 l1 l2 l3)) := by
  rcases budget_only_rejects_typed cfg ty (budgetPump L lim pd) (docStream t l0 l1 l2 l3) rfl with h | h
  · left
    rw [h]
    exact Props.E2E.fromSingle_alias_transparent L t l0 l1 l2 l3 r hnf hexp hL1 hL2 hL3 cfg ty
  · exact .inr h

/-- (1) as first stated: every error a budget adds has kind `Budget`.  FALSE, see the counterexample. -/
def budget_error_kind_Full : Prop :=
  ∀ (cfg : Cfg) (ty : Ty) (p : Pump) (items : List RawItem), p.synthesizedNull = false →
    (Entry.fromSingle cfg ty p items).toOption = (Entry.fromSingle cfg ty (stripP p) items).toOption ∨
      ∃ e, Entry.fromSingle cfg ty p items = .error e ∧ e.kind = "Budget"

/-- `[&1 [x, y], *1]` -/
def cexDoc : LNode :=
  .seq 0 none 10 19 [.seq 1 none 11 14 [.scalar ['x'] .plain 0 none 12, .scalar ['y'] .plain 0 none 13], .alias 1 15]
def cexL : AliasLimits := { maxTotalReplayedEvents := 10, maxReplayStackDepth := 1, maxAliasExpansionsPerAnchor := 10 }
/-- everything generous except `max_events = 9`: the 10th observation is the replayed `x` -/
def cexLim : Limits :=
  { maxEvents := 9, maxAliases := 100, maxAnchors := 100, maxDepth := 100, maxDocuments := 100, maxNodes := 100,
    maxTotalScalarBytes := 1000, maxMergeKeys := 100, enforceRatio := false, minAliases := 0, multiplier := 0 }

/-- the kind of the error of a run (`""` for a value) -/
def errKind (r : Except DErr Val) : String :=
  match r with
  | .error e => e.kind
  | .ok _ => ""

/-- (F) the counterexample: `[&1 [x, y], *1]` into `Vec<Vec<String>>` with `max_events = 9`.  The enforcer
rejects the second replayed event (`x`, observation number 10) while the second element of the outer sequence —
the alias — is being deserialized; the element access pairs the alias site (15) with the anchored node (11) and
the breach leaves `from_str` as `AliasError`.  Without the budget the document has a value.  (Confirmed on the
real code: `from_str_with_options::<Vec<Vec<String>>>("[&a [x, y], *a]", max_events = 9)` returns
`AliasError { msg: "budget breached: Events { events: 10 } …", locations: { reference 1:13, defined 1:5 } }`, while
`max_events = 5` — a breach on a raw event — returns `Error::Budget`.) -/
theorem budget_error_kind_counterexample :
    errKind (Entry.fromSingle {} (.seq (.seq .string)) (budgetPump cexL cexLim false) (docStream cexDoc 1 2 3 4)) =
        "AliasError" ∧
      (Entry.fromSingle {} (.seq (.seq .string)) (initPump cexL) (docStream cexDoc 1 2 3 4)).toOption.isSome = true := by
  decide +kernel

theorem errKind_of_isSome {x : Except DErr Val} (h : x.toOption.isSome = true) : errKind x = "" := by
  cases x with
  | error e => cases h
  | ok v => rfl

theorem budget_error_kind_Full_false : ¬ budget_error_kind_Full := by
  intro H
  have hc := budget_error_kind_counterexample
  rcases H {} (.seq (.seq .string)) (budgetPump cexL cexLim false) (docStream cexDoc 1 2 3 4) rfl with h | ⟨e, he, hk⟩
  · have h2 : stripP (budgetPump cexL cexLim false) = initPump cexL := rfl
    rw [errKind_of_isSome (by rw [h, h2]; exact hc.2)] at hc
    exact absurd hc.1 (by decide)
  · rw [he] at hc
    simp only [errKind] at hc
    rw [hk] at hc
    exact absurd hc.1 (by decide)

/-! ### (2) within the limits the budget is invisible -/

/-- (T) budget_within_limits_transparent (general form): if the budgeted pump runs without a breach over the
parser input and its `finish()` is silent (`BRun`), the entry point with the budget returns EXACTLY what it
returns without (same value, or the same error). -/
theorem budget_transparent_of_brun (cfg : Cfg) (ty : Ty) (p : Pump) (items : List RawItem) (es : List Ev)
    (hl : p.look = none) (hr : BRun p items es) :
    Entry.fromSingle cfg ty p items = Entry.fromSingle cfg ty (stripP p) items :=
  fromSingle_transparent_of_brun cfg ty p items es hl hr

/-- on an input the pump without enforcer runs through, "the pump alone accepts" IS a breach-free run with a silent
`finish()`: the statements speak of the former (a drain, no typed deserializer in sight), the proofs of the latter -/
theorem pumpAccepts_iff_brun {p : Pump} {items : List RawItem} {es : List Ev}
    (hrun : Lemmas.CurSim.Run (stripP p) items es) : PumpAccepts p items ↔ BRun p items es :=
  ⟨fun ⟨fuel, evs, p', hpa, hfin⟩ => (brunTo_of_pumpAll hrun p rfl fuel [] evs p' hpa).toBRun hfin,
    fun h => let ⟨_, hto, hfin⟩ := h.to; ⟨_, _, _, hto.pumpAll, hfin⟩⟩

/-- (T) budget_within_limits_transparent (documents): if the pump ALONE accepts the document under the budget
— no breach on any raw or replayed event of the whole stream, final ratio check passed —, then for every
configuration and target type `from_str` with the budget equals `from_str` without it.  (The typed
deserializer may stop early and then shows the enforcer only a prefix of what the pump alone shows it.) -/
theorem budget_within_limits_transparent (L : AliasLimits) (t : LNode) (l0 l1 l2 l3 : Loc) (r : Exp)
    (hnf : noFoldedIndent t = true) (hexp : expand [] [] t = .ok r)
    (hL1 : 1 ≤ L.maxReplayStackDepth) (hL2 : r.replayed ≤ L.maxTotalReplayedEvents)
    (hL3 : ∀ id, aliasCount id t ≤ L.maxAliasExpansionsPerAnchor)
    (lim : Limits) (pd : Bool) (hacc : PumpAccepts (budgetPump L lim pd) (docStream t l0 l1 l2 l3))
    (cfg : Cfg) (ty : Ty) :
    Entry.fromSingle cfg ty (budgetPump L lim pd) (docStream t l0 l1 l2 l3) =
      Entry.fromSingle cfg ty (initPump L) (docStream t l0 l1 l2 l3) := by
  have hrun := Lemmas.CurSim.run_docStream L t l0 l1 l2 l3 r hnf hexp hL1 hL2 hL3
  exact budget_transparent_of_brun cfg ty _ _ _ rfl ((pumpAccepts_iff_brun (p := budgetPump L lim pd) hrun).1 hacc)

/-- (T) what the enforcer is shown: one `next_impl` call of a budgeted pump makes the step of the pump without
enforcer and folds the enforcer over `obsCall` (the raw items consumed, and the replayed event stripped of anchor
and tag) — or reports the breach the fold ends with. -/
theorem enforcer_sees_raw_and_replayed (q : Pump) (inp : List RawItem) (hq : q.budget = none) (b : Enf)
    {s : Step} {q' : Pump} {rest : List RawItem} (h : nextImpl q inp = (s, q', rest)) :
    match feedObs b (obsCall q inp) with
    | .ok b' => nextImpl (withBud q b) inp = (s, withBud q' b', rest)
    | .error br => ∃ l p' r', nextImpl (withBud q b) inp = (.error (.budget br l), p', r') :=
  nextImpl_obs q inp hq b h

/-- (T) monotonicity along prefixes: the counters of the enforcer only grow along a list of observations
(all-content policy), and an accepted list is accepted — with the same final state — under any limits that
bound the counters of the FINAL state. -/
theorem counters_monotone {e e' : Enf} {os : List Obs} (lim : Limits) (ho : EnfOk e) (h : feedObs e os = .ok e') :
    LeC e e' ∧ (Lemmas.C07.Within (withLim e' lim) → feedObs (withLim e lim) os = .ok (withLim e' lim)) :=
  ⟨(feedObs_mono ho h).1, (feedObs_mono ho h).2.2 lim⟩

/-- (T) acceptance by the measured usage, for ANY input on which the pump without enforcer runs to its end (`Run`; for
a document within the alias limits: `run_docStream`): if the pump alone accepts the input under SOME limits `lim0`
(all-content policy) and reports the usage `R`, it accepts under every `lim` with `R` within `lim` — every counter and
the alias/anchor ratio (`Spec.within`, `Spec.ratioOk`; the limits are `usize` values). -/
theorem pumpAccepts_of_measured_usage {q : Pump} {items : List RawItem} {es : List Ev}
    (hrun : Lemmas.CurSim.Run q items es) (hq : q.budget = none) (lim0 lim : Limits) (R : Report)
    (hm : PumpMeasures (withBud q (Enf.new lim0 false)) items R)
    (hw : within lim R = true) (hr : ratioOk lim R = true) (hlim : lim.maxAliases ≤ USIZE_MAX) :
    PumpAccepts (withBud q (Enf.new lim false)) items := by
  obtain ⟨fuel, evs, p', hpa, hR⟩ := hm
  have hto := brunTo_of_pumpAll hrun _ (withBud_budget_none hq _) fuel [] evs p' hpa
  obtain ⟨qf, bf, rfl, hall⟩ := brunTo_withLim hrun hq ⟨rfl, Nat.zero_le _⟩ hto
  rw [finish_withBud] at hR
  simp only [Option.some.injEq] at hR
  subst hR
  have h2 := hall lim (within_withLim_of_report hw)
  refine ⟨_, _, _, h2.pumpAll, ?_⟩
  rw [finish_withBud, finalize_withLim_none hw hr hlim]
  rfl

/-- (T) budget_within_limits_transparent, by the measured usage: limits that bound the usage the enforcer
measures on the whole stream (raw + replayed events; measured under any accepting limits) are invisible to
`from_str`, for every configuration and target type. -/
theorem budget_within_measured_usage_transparent (L : AliasLimits) (t : LNode) (l0 l1 l2 l3 : Loc) (r : Exp)
    (hnf : noFoldedIndent t = true) (hexp : expand [] [] t = .ok r)
    (hL1 : 1 ≤ L.maxReplayStackDepth) (hL2 : r.replayed ≤ L.maxTotalReplayedEvents)
    (hL3 : ∀ id, aliasCount id t ≤ L.maxAliasExpansionsPerAnchor)
    (lim0 lim : Limits) (R : Report)
    (hm : PumpMeasures (budgetPump L lim0 false) (docStream t l0 l1 l2 l3) R)
    (hw : within lim R = true) (hr : ratioOk lim R = true) (hlim : lim.maxAliases ≤ USIZE_MAX)
    (cfg : Cfg) (ty : Ty) :
    Entry.fromSingle cfg ty (budgetPump L lim false) (docStream t l0 l1 l2 l3) =
      Entry.fromSingle cfg ty (initPump L) (docStream t l0 l1 l2 l3) :=
  budget_within_limits_transparent L t l0 l1 l2 l3 r hnf hexp hL1 hL2 hL3 lim false
    (pumpAccepts_of_measured_usage (Lemmas.CurSim.run_docStream L t l0 l1 l2 l3 r hnf hexp hL1 hL2 hL3) rfl lim0 lim R hm
      hw hr hlim) cfg ty

/-- (T) acceptance by the independent counts (`Spec/BudgetSpec.lean`, as in C07, over raw + replayed events):
if the usage `usageWithReplay` — `Spec.usage` of the stream of the alias-free expansion (every delivered node, raw
or replayed, counts for events, nodes, depth, scalar bytes, merge keys), plus one event and one alias per alias
item, with the anchors of the raw items — is within the limits, ratio included, then the pump alone accepts the
document under the budget (all-content policy; `hlen`, `hlimA` are physical: `usize`).  A sufficient condition:
the merge keys of the expansion are counted without looking at tags, the enforcer looks at the tag of a RAW `<<`
scalar (so `usageWithReplay` may exceed the measured usage by the tagged raw `<<` keys; elsewhere it is exact,
see the example). -/
theorem pumpAccepts_of_usage (L : AliasLimits) (t : LNode) (l0 l1 l2 l3 : Loc) (r : Exp) (n : ENode)
    (hnf : noFoldedIndent t = true) (hexp : expand [] [] t = .ok r)
    (hL1 : 1 ≤ L.maxReplayStackDepth) (hL2 : r.replayed ≤ L.maxTotalReplayedEvents)
    (hL3 : ∀ id, aliasCount id t ≤ L.maxAliasExpansionsPerAnchor)
    (hn : treeOf r.evs = some n)
    (lim : Limits) (hlen : (flattenStream [toNode n]).length < 2 ^ 64)
    (hw : within lim (usageWithReplay t n) = true) (hr : ratioOk lim (usageWithReplay t n) = true)
    (hlimA : lim.maxAliases ≤ USIZE_MAX) :
    PumpAccepts (budgetPump L lim false) (docStream t l0 l1 l2 l3) := by
  have hrun := Lemmas.CurSim.run_docStream L t l0 l1 l2 l3 r hnf hexp hL1 hL2 hL3
  exact (pumpAccepts_iff_brun (p := budgetPump L lim false) hrun).2
    (doc_brun_of_usage L t l0 l1 l2 l3 r n hnf hexp hL1 hL2 hL3 (Props.E2E.evs_of_treeOf hexp hn) lim hlen hw hr hlimA)

/-- (T) budget_within_limits_transparent, as asked: if the usage of the whole stream — the independent counts of
`Spec/BudgetSpec.lean` over raw + replayed events, `usageWithReplay` — is within `lim`, the final alias/anchor
ratio check included, then `from_str` with the budget equals `from_str` without it (same value, or the same
error), for every configuration and target type. -/
theorem budget_within_usage_transparent (L : AliasLimits) (t : LNode) (l0 l1 l2 l3 : Loc) (r : Exp) (n : ENode)
    (hnf : noFoldedIndent t = true) (hexp : expand [] [] t = .ok r)
    (hL1 : 1 ≤ L.maxReplayStackDepth) (hL2 : r.replayed ≤ L.maxTotalReplayedEvents)
    (hL3 : ∀ id, aliasCount id t ≤ L.maxAliasExpansionsPerAnchor)
    (hn : treeOf r.evs = some n)
    (lim : Limits) (hlen : (flattenStream [toNode n]).length < 2 ^ 64)
    (hw : within lim (usageWithReplay t n) = true) (hr : ratioOk lim (usageWithReplay t n) = true)
    (hlimA : lim.maxAliases ≤ USIZE_MAX) (cfg : Cfg) (ty : Ty) :
    Entry.fromSingle cfg ty (budgetPump L lim false) (docStream t l0 l1 l2 l3) =
      Entry.fromSingle cfg ty (initPump L) (docStream t l0 l1 l2 l3) :=
  budget_within_limits_transparent L t l0 l1 l2 l3 r hnf hexp hL1 hL2 hL3 lim false
    (pumpAccepts_of_usage L t l0 l1 l2 l3 r n hnf hexp hL1 hL2 hL3 hn lim hlen hw hr hlimA) cfg ty

/-! ### (3) alias transparency of typed values under a budget -/

/-- (T) typed_alias_transparent_budgeted: within the limits, the value of a document with anchors and aliases
under a budget is the value the replay-cursor deserializer computes over its alias-free expansion (and there is
no value where that one fails). -/
theorem typed_alias_transparent_budgeted (L : AliasLimits) (t : LNode) (l0 l1 l2 l3 : Loc) (r : Exp)
    (hnf : noFoldedIndent t = true) (hexp : expand [] [] t = .ok r)
    (hL1 : 1 ≤ L.maxReplayStackDepth) (hL2 : r.replayed ≤ L.maxTotalReplayedEvents)
    (hL3 : ∀ id, aliasCount id t ≤ L.maxAliasExpansionsPerAnchor)
    (lim : Limits) (pd : Bool) (hacc : PumpAccepts (budgetPump L lim pd) (docStream t l0 l1 l2 l3))
    (cfg : Cfg) (ty : Ty) :
    (Entry.fromSingle cfg ty (budgetPump L lim pd) (docStream t l0 l1 l2 l3)).toOption =
      deserTop (Entry.fuelFor (docStream t l0 l1 l2 l3).length) cfg ty r.evs := by
  rw [budget_within_limits_transparent L t l0 l1 l2 l3 r hnf hexp hL1 hL2 hL3 lim pd hacc cfg ty]
  exact Props.E2E.fromSingle_alias_transparent L t l0 l1 l2 l3 r hnf hexp hL1 hL2 hL3 cfg ty

/-- (T) typed_alias_transparent_budgeted, specification form: within the limits, if `from_str` under the budget
returns `v`, then `v` is the position-faithful interpretation `Spec.interp` of the tree of the expansion. -/
theorem typed_alias_transparent_budgeted_sound (L : AliasLimits) (t : LNode) (l0 l1 l2 l3 : Loc) (r : Exp) (n : ENode)
    (hnf : noFoldedIndent t = true) (hexp : expand [] [] t = .ok r)
    (hL1 : 1 ≤ L.maxReplayStackDepth) (hL2 : r.replayed ≤ L.maxTotalReplayedEvents)
    (hL3 : ∀ id, aliasCount id t ≤ L.maxAliasExpansionsPerAnchor)
    (hn : treeOf r.evs = some n) (hk : Props.C05.noKemnKeys n = true)
    (lim : Limits) (pd : Bool) (hacc : PumpAccepts (budgetPump L lim pd) (docStream t l0 l1 l2 l3))
    (cfg : Cfg) (ty : Ty) (v : Val)
    (h : Entry.fromSingle cfg ty (budgetPump L lim pd) (docStream t l0 l1 l2 l3) = .ok v) :
    interp cfg ty n = some v := by
  have h1 := typed_alias_transparent_budgeted L t l0 l1 l2 l3 r hnf hexp hL1 hL2 hL3 lim pd hacc cfg ty
  rw [h, Props.E2E.evs_of_treeOf hexp hn] at h1
  exact Props.C05.deser_top_sound cfg ty n hk _ v h1.symm

/-- (T) typed_alias_transparent_budgeted, as asked: with the usage over raw + replayed events within the limits,
the value of a document with anchors and aliases under the budget is the value of the replay-cursor deserializer
over its alias-free expansion. -/
theorem typed_alias_transparent_budgeted_usage (L : AliasLimits) (t : LNode) (l0 l1 l2 l3 : Loc) (r : Exp) (n : ENode)
    (hnf : noFoldedIndent t = true) (hexp : expand [] [] t = .ok r)
    (hL1 : 1 ≤ L.maxReplayStackDepth) (hL2 : r.replayed ≤ L.maxTotalReplayedEvents)
    (hL3 : ∀ id, aliasCount id t ≤ L.maxAliasExpansionsPerAnchor)
    (hn : treeOf r.evs = some n)
    (lim : Limits) (hlen : (flattenStream [toNode n]).length < 2 ^ 64)
    (hw : within lim (usageWithReplay t n) = true) (hr : ratioOk lim (usageWithReplay t n) = true)
    (hlimA : lim.maxAliases ≤ USIZE_MAX) (cfg : Cfg) (ty : Ty) :
    (Entry.fromSingle cfg ty (budgetPump L lim false) (docStream t l0 l1 l2 l3)).toOption =
      deserTop (Entry.fuelFor (docStream t l0 l1 l2 l3).length) cfg ty r.evs :=
  typed_alias_transparent_budgeted L t l0 l1 l2 l3 r hnf hexp hL1 hL2 hL3 lim false
    (pumpAccepts_of_usage L t l0 l1 l2 l3 r n hnf hexp hL1 hL2 hL3 hn lim hlen hw hr hlimA) cfg ty

/-! ### (E) non-vacuity: the document of `Props/E2E.lean` (one anchor, two aliases, one under a merge key) -/

open SaphyrVerif.Props.E2E (demo demoL demoR demoTy demoVal demo_expand demo_noFolded demo_replayed demo_aliases)

def demoLim : Limits :=
  { maxEvents := 100, maxAliases := 10, maxAnchors := 10, maxDepth := 10, maxDocuments := 10, maxNodes := 100,
    maxTotalScalarBytes := 1000, maxMergeKeys := 10, enforceRatio := true, minAliases := 2, multiplier := 10 }

theorem demo_accepts : PumpAccepts (budgetPump demoL demoLim false) (docStream demo 1 2 3 4) :=
  pumpAccepts_of_B (fuel := 40) (by decide +kernel)

/-- the usage the enforcer measures on `demo`: 20 raw items + 8 replayed events, 2 aliases, 1 anchor, depth 3,
17 nodes (raw and replayed), 26 scalar bytes, 1 merge key -/
def demoUsage : Report :=
  { events := 28, aliases := 2, anchors := 1, documents := 1, nodes := 17, maxDepth := 3, totalScalarBytes := 26,
    mergeKeys := 1 }

theorem demo_measures : PumpMeasures (budgetPump demoL demoLim false) (docStream demo 1 2 3 4) demoUsage := by
  have h : (pumpAll 40 (budgetPump demoL demoLim false) (docStream demo 1 2 3 4) []).map
      (fun x => (x.2.1, (Pump.finish x.2.2).2)) = some (none, some demoUsage) := by
    decide +kernel
  cases hp : pumpAll 40 (budgetPump demoL demoLim false) (docStream demo 1 2 3 4) [] with
  | none => rw [hp] at h; cases h
  | some x =>
    obtain ⟨evs, err, p'⟩ := x
    rw [hp] at h
    simp only [Option.map_some, Option.some.injEq, Prod.mk.injEq] at h
    obtain ⟨rfl, h3⟩ := h
    exact ⟨40, evs, p', hp, h3⟩

/-- (1) applies with a budget that is too small (`max_nodes = 12` < 17): the run is rejected, with `Budget` -/
example : errKind (Entry.fromSingle {} demoTy (budgetPump demoL { demoLim with maxNodes := 12 } false)
    (docStream demo 1 2 3 4)) = "Budget" := by decide +kernel

example : IsBudgetError (Entry.fromSingle {} demoTy (budgetPump demoL { demoLim with maxNodes := 12 } false)
    (docStream demo 1 2 3 4)) := by
  rcases budget_only_rejects_typed_doc demoL demo 1 2 3 4 demoR demo_noFolded demo_expand (by decide) demo_replayed
    demo_aliases { demoLim with maxNodes := 12 } false {} demoTy with h | h
  · exfalso
    have hk : errKind (Entry.fromSingle {} demoTy (budgetPump demoL { demoLim with maxNodes := 12 } false)
      (docStream demo 1 2 3 4)) = "Budget" := by decide +kernel
    have hv : (deserTop (Entry.fuelFor (docStream demo 1 2 3 4).length) {} demoTy demoR.evs).isSome = true := by
      decide +kernel
    rw [errKind_of_isSome (by rw [h]; exact hv)] at hk
    exact absurd hk (by decide)
  · exact h

/-- (2) applies: the pump alone accepts `demo` under `demoLim`, so `from_str` cannot see the budget … -/
example : Entry.fromSingle {} demoTy (budgetPump demoL demoLim false) (docStream demo 1 2 3 4) =
    Entry.fromSingle {} demoTy (initPump demoL) (docStream demo 1 2 3 4) :=
  budget_within_limits_transparent demoL demo 1 2 3 4 demoR demo_noFolded demo_expand (by decide) demo_replayed
    demo_aliases demoLim false demo_accepts {} demoTy

/-- … nor any budget whose limits are exactly the measured usage (28 events, 17 nodes, 1 merge key, …) -/
example : Entry.fromSingle {} demoTy
      (budgetPump demoL (Props.C07.limitsOf demoUsage demoLim) false) (docStream demo 1 2 3 4) =
    Entry.fromSingle {} demoTy (initPump demoL) (docStream demo 1 2 3 4) :=
  budget_within_measured_usage_transparent demoL demo 1 2 3 4 demoR demo_noFolded demo_expand (by decide)
    demo_replayed demo_aliases demoLim _ demoUsage demo_measures (by decide) (by decide) (by decide) {} demoTy

/-- (3) applies: under the budget the typed value is the one of the expansion (the merged `a: 1` comes from the
alias) -/
example : (Entry.fromSingle {} demoTy (budgetPump demoL demoLim false) (docStream demo 1 2 3 4)).toOption =
    some demoVal := by
  rw [typed_alias_transparent_budgeted demoL demo 1 2 3 4 demoR demo_noFolded demo_expand (by decide) demo_replayed
    demo_aliases demoLim false demo_accepts]
  decide +kernel

/-- the independent counts over raw + replayed events agree with what the enforcer measures on `demo` -/
example : usageWithReplay demo SaphyrVerif.Props.E2E.demoTree = demoUsage := by decide +kernel

/-- … so limits set exactly to these counts are invisible, by the theorem on counts -/
example : Entry.fromSingle {} demoTy
      (budgetPump demoL (Props.C07.limitsOf (usageWithReplay demo SaphyrVerif.Props.E2E.demoTree) demoLim) false)
      (docStream demo 1 2 3 4) =
    Entry.fromSingle {} demoTy (initPump demoL) (docStream demo 1 2 3 4) :=
  budget_within_usage_transparent demoL demo 1 2 3 4 demoR SaphyrVerif.Props.E2E.demoTree demo_noFolded demo_expand
    (by decide) demo_replayed demo_aliases SaphyrVerif.Props.E2E.demo_tree _ (by decide +kernel) (by decide +kernel)
    (by decide +kernel) (by decide) {} demoTy

/-- the one inexactness of the count: `{ !x <<: v }` — the raw key `<<` carries a tag, the enforcer does not count
it as a merge key (measured: 0), the count over the tag-free expansion does (1) -/
def tagDoc : LNode :=
  .map 0 none 10 19 [(.scalar ['<', '<'] .plain 0 (some ['!', 'x']) 11, .scalar ['v'] .plain 0 none 12)]
def tagTree : ENode := match expand [] [] tagDoc with
  | .ok r => (treeOf r.evs).getD default
  | .error _ => default
example : (usageWithReplay tagDoc tagTree).mergeKeys = 1 ∧
    (pumpAll 20 (budgetPump demoL demoLim false) (docStream tagDoc 1 2 3 4) []).map
      (fun x => ((Pump.finish x.2.2).2.map (·.mergeKeys))) = some (some 0) := by decide +kernel

/-- a breach-free run exists (hypothesis of the general form) -/
example : ∃ es, BRun (budgetPump demoL demoLim false) (docStream demo 1 2 3 4) es :=
  ⟨_, (pumpAccepts_iff_brun (p := budgetPump demoL demoLim false)
    (Lemmas.CurSim.run_docStream demoL demo 1 2 3 4 demoR demo_noFolded demo_expand (by decide) demo_replayed
      demo_aliases)).1 demo_accepts⟩

#print axioms budgeted_cursor_primitives
#print axioms deser_budgeted_vs_free
#print axioms block_budgeted_vs_free
#print axioms budget_only_rejects_typed
#print axioms budget_only_rejects_typed_doc
#print axioms budget_error_kind_counterexample
#print axioms budget_error_kind_Full_false
#print axioms budget_transparent_of_brun
#print axioms budget_within_limits_transparent
#print axioms enforcer_sees_raw_and_replayed
#print axioms counters_monotone
#print axioms pumpAccepts_of_measured_usage
#print axioms budget_within_measured_usage_transparent
#print axioms typed_alias_transparent_budgeted
#print axioms typed_alias_transparent_budgeted_sound
#print axioms pumpAccepts_of_usage
#print axioms budget_within_usage_transparent
#print axioms typed_alias_transparent_budgeted_usage

end SaphyrVerif.Props.E2E_Budget
