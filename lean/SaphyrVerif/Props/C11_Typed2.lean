import SaphyrVerif.Props.C11_Typed
import SaphyrVerif.Lemmas.C11_Typed2Stream
import SaphyrVerif.Lemmas.C11_Typed2Check
import SaphyrVerif.Lemmas.C11_Typed2FailStream
import SaphyrVerif.Lemmas.C11_Typed2Dangling
import SaphyrVerif.Lemmas.C11_Typed2Mix
import SaphyrVerif.Lemmas.CurSimVal
/-!
# C11 at the level of typed values, continued — left-over documents, nested dangling aliases, the per-document budget

`Props/C11_Typed.lean` proves "each document on its own" for the streaming iterator `read*` (`Entry.readIter`)
over streams in which no document is LEFT OVER (`T::deserialize` succeeds before the end of the document), and
without a budget.  Here:

* left-over documents.  `roundsOf cfg ty N evs` (`Lemmas.C11B.docRounds`) is the loop `ReadIter::next` makes
  INSIDE one document, on the replay cursor over the events of that document and nothing else: after a value that
  stops early the left-over events are read as if further documents started there (a null-like scalar is
  skipped, a container end is an error item and the rest of the document is skipped, anything else is handed to
  `T::deserialize` again: `roundsOf_leftover`).  `iter_eq_rounds_partial`: the iterator over a stream yields,
  document by document, exactly these items — for every document, left over or not; the hypothesis that is left
  is about the MODEL's loop fuel `items.length + 10` (`hfuel`: it covers the rounds).
  `iter_isolated_rounds_partial`: "each on its own" whenever every document needs at most (number of its parser
  items) + 2 rounds (`Fits`) — which holds for every document that is not left over (`fits_of_not_leftover`), so
  `iter_isolated_partial` is a special case (`iter_isolated_partial_of_rounds`).  Whether `Fits` can fail at all
  is open.
* the iterator WITH a per-document budget (`readPump L (some lim)`, the pump of `read_with_options`).  A
  document is SERVED (`Lemmas.C11B.DocServe`, established by evaluation: `served_of_check`) when the pump with the
  freshly reset enforcer delivers all its events, its `DocumentEnd` marker is within the limits too, and its final
  alias/anchor ratio check is silent; `budget_reset_at_document_start`: the state after the `DocumentStart` marker does
  not depend on the earlier documents (`Props.C07.perdoc_position_independent` at the pump level, also on the recovery
  path).  `iter_isolated_budgeted_partial`: over a stream of served documents the budgeted iterator yields
  the items of the one-document streams under the same limits, also after documents whose deserialization failed
  — and these are the items without any budget (`iter_budget_invisible`).  Without the hypothesis the statement is
  FALSE also of the repaired accounting (fix bc28f13: a document is charged from its own `DocumentStart` through its
  `DocumentEnd`).  `iter_isolated_budgeted_counterexample`: a document that exceeds `max_events` exactly AT its
  `DocumentEnd` yields its value, and the breach — observed lazily, by the iterator's own `peek` for the next
  document — ends the iteration.  `iter_isolated_budgeted_counting_counterexample`: the same happens with the
  alias/anchor ratio, which the per-document policy judges at every `DocumentEnd` (fix: it used to be judged by
  `finish()` only, against the counters of the LAST document — a violating document contributed an extra error item
  on its own but not inside a stream; `ratio_judged_per_document_regression`: now the same two items, value and
  `Budget` at its own `DocumentEnd`, at every position).  Both halves of `TrailOk` are needed.
* documents in which the PUMP fails before the document ends — an alias to an anchor of an earlier
  document NESTED anywhere (`pumpFailsInside_of_no_expansion`: every document without an expansion from the empty
  table), a budget breach inside the document, an alias limit, a scan error.  What such a document contributes on
  its own is computed on the live pump of the one-document stream (`soloOf`).  `iter_failing_doc` /
  `anchors_not_visible_across_docs_typed_nested`: inside ANY stream, from any document boundary, the iterator
  yields EXACTLY these items (lock-step comparison of the two live cursors, `Lemmas.Lock.lA`: equal values and
  equal errors), and then resumes with the next document (the failure was met inside `T::deserialize`: error item
  + recovery, enforcer and anchor table reset) or is finished (the failure was met by its own `peek`).
  `iter_isolated_mixed_partial`: "each on its own" for streams that mix served and failing documents in any order.
-/
namespace SaphyrVerif.Props.C11
open SaphyrVerif SaphyrVerif.Scalars SaphyrVerif.Pump SaphyrVerif.Spec SaphyrVerif.De SaphyrVerif.Entry SaphyrVerif.Budget
open SaphyrVerif.Lemmas.C11T (DocRes DocOk DocsOk sameItem sameItems Item)
open SaphyrVerif.Lemmas.C11B (Rounds docRounds docSpec streamSpec DocServe DocsServe pumpOf freshBud)

/-- the pump of the `read*` iterators: alias limits `L` and, with `ob = some lim`, a budget enforcer with the
limits `lim` under the per-document policy (`EnforcingPolicy::PerDocument`) -/
abbrev readPump (L : AliasLimits) (ob : Option Limits) : Pump := pumpOf L ob

theorem readPump_none (L : AliasLimits) : readPump L none = initPump L := rfl
theorem readPump_some (L : AliasLimits) (lim : Limits) :
    readPump L (some lim) = { limits := L, budget := some (Enf.new lim true) } := rfl

/-- the rounds of the iterator inside ONE document with (expansion) events `evs`, on its own: the items, whether
the document was left through its end (`true`) or through the recovery after an error item (`false`), and the
number of rounds (`none`: more than `N` rounds) -/
abbrev roundsOf (cfg : Cfg) (ty : Ty) (N : Nat) (evs : List Ev) : Option Rounds := docSpec cfg ty N evs

theorem roundsOf_succ (cfg : Cfg) (ty : Ty) (N : Nat) (c : Cur) :
    docRounds cfg ty (N + 1) c =
      (match c.peek with
      | .err _ _ => none
      | .ok none _ => some ([], true, 0)
      | .ok (some (.seqEnd l)) _ => some ([.error ⟨"UnexpectedSequenceEnd", l, 0⟩], false, 1)
      | .ok (some (.mapEnd l)) _ => some ([.error ⟨"UnexpectedMappingEnd", l, 0⟩], false, 1)
      | .ok (some ev) c1 =>
        if Lemmas.C11T.evIsNull ev then
          match c1.next with
          | .ok _ c2 => (docRounds cfg ty N c2).map (Rounds.push [])
          | .err _ _ => none
        else
          match deser (fuelFor 100000) cfg ty false false c1 with
          | .err e _ => some ([.error e], false, 1)
          | .ok v c2 => (docRounds cfg ty N c2).map (Rounds.push [.ok v])) := by
  rw [docRounds]
  cases c.peek with
  | err e c' => rfl
  | ok o c' =>
    cases o with
    | none => rfl
    | some ev => cases ev <;> rfl

/-- every document is served by the pump with the optional enforcer `ob` (for `ob = none`: `docsServe_none`) -/
abbrev Served (L : AliasLimits) (ob : Option Limits) (ds : List (LNode × Bool × Loc × Loc)) (evss : List (List Ev)) :
    Prop := DocsServe L ob ds evss

/-- without an enforcer the hypotheses of `docs_pump_eq_concat` suffice -/
theorem docsServe_none (L : AliasLimits) (ds : List (LNode × Bool × Loc × Loc)) (evss : List (List Ev))
    (hL : Unlimited L ds) (hnf : ∀ d ∈ ds, Lemmas.C02.noFoldedIndent d.1 = true)
    (hexp : expandEach ds = .ok evss) : Served L none ds evss :=
  Lemmas.C11B.docsServe_none (docsOk_of_hyps L ds evss hL hnf hexp)

theorem served_ok {L : AliasLimits} {ob : Option Limits} : ∀ {ds : List (LNode × Bool × Loc × Loc)}
    {evss : List (List Ev)}, Served L ob ds evss → DocsOk L ds evss
  | [], [], _ => trivial
  | _ :: _, _ :: _, h => ⟨h.1.ok, served_ok h.2⟩
  | [], _ :: _, h => h.elim
  | _ :: _, [], h => h.elim

/-- (T, general form: with or without a per-document enforcer) over a stream of served documents the iterator
yields, document by document, the items of the rounds of each document on its own (`streamSpec`: the
concatenation of the items of `roundsOf`), provided the loop fuel of the model covers the rounds (`hfuel`). -/
theorem iter_eq_rounds (L : AliasLimits) (ob : Option Limits) (ds : List (LNode × Bool × Loc × Loc)) (l0 l1 : Loc)
    (evss : List (List Ev)) (cfg : Cfg) (ty : Ty) (N : Nat) (its : List Item) (k : Nat)
    (hmax : ∀ lim, ob = some lim → 1 ≤ lim.maxEvents) (hne : ds ≠ [])
    (hserve : Served L ob ds evss)
    (hspec : streamSpec cfg ty N evss = some (its, k))
    (hfuel : k + 1 ≤ (streamOf ds l0 l1).length + 10) :
    sameItems (readIter cfg ty (readPump L ob) (streamOf ds l0 l1)) its := by
  obtain ⟨rs, hrs, hm, -⟩ := Lemmas.C11B.served_contract hserve hspec
  have := readIter_contract L ob ds l0 l1 rs cfg ty hmax hne hrs (by rw [hm]; omega)
  rwa [hm] at this

/-- (T, partial: the loop fuel of the model covers the rounds) the iterator without a budget yields, document by
document, the items of the rounds of each document on its own — whether or not a document is left over. -/
theorem iter_eq_rounds_partial (L : AliasLimits) (ds : List (LNode × Bool × Loc × Loc)) (l0 l1 : Loc)
    (evss : List (List Ev)) (cfg : Cfg) (ty : Ty) (N : Nat) (its : List Item) (k : Nat)
    (hL : Unlimited L ds) (hnf : ∀ d ∈ ds, Lemmas.C02.noFoldedIndent d.1 = true)
    (hexp : expandEach ds = .ok evss)
    (hspec : streamSpec cfg ty N evss = some (its, k))
    (hfuel : k + 1 ≤ (streamOf ds l0 l1).length + 10) :
    sameItems (readIter cfg ty (initPump L) (streamOf ds l0 l1)) its := by
  by_cases hne : ds = []
  · subst hne
    simp only [expandEach, Except.ok.injEq] at hexp
    subst hexp
    simp only [streamSpec, Option.some.injEq, Prod.mk.injEq] at hspec
    obtain ⟨rfl, rfl⟩ := hspec
    have : readIter cfg ty (initPump L) (streamOf [] l0 l1) = [] := by rfl
    rw [this]
    exact .nil
  exact iter_eq_rounds L none ds l0 l1 evss cfg ty N its k (fun lim h => by cases h) hne
    (docsServe_none L ds evss hL hnf hexp) hspec hfuel

/-- every document needs at most (number of its parser items) + 2 rounds inside it: then the loop fuel of the
model covers the rounds of the stream and of every one-document stream -/
abbrev Fits (cfg : Cfg) (ty : Ty) (ds : List (LNode × Bool × Loc × Loc)) (evss : List (List Ev)) : Prop :=
  Lemmas.C11B.Fits cfg ty ds evss

/-- (T, general form: with or without a per-document enforcer; partial: `Fits`) "each on its own": over a stream
of served documents, each of which needs at most (number of its parser items) + 2 rounds, the items of the
iterator are the concatenation, over the documents in order, of the items of the ONE-document streams (same
pump, same limits) — left-over documents and documents whose deserialization fails included. -/
theorem iter_isolated_rounds (L : AliasLimits) (ob : Option Limits) (ds : List (LNode × Bool × Loc × Loc)) (l0 l1 : Loc)
    (evss : List (List Ev)) (cfg : Cfg) (ty : Ty)
    (hmax : ∀ lim, ob = some lim → 1 ≤ lim.maxEvents) (hne : ds ≠ [])
    (hserve : Served L ob ds evss) (hfit : Fits cfg ty ds evss) :
    sameItems (readIter cfg ty (readPump L ob) (streamOf ds l0 l1))
      (ds.map fun d => readIter cfg ty (readPump L ob) (streamOf [d] l0 l1)).flatten := by
  obtain ⟨rs, h1, h2, h3⟩ := Lemmas.C11B.fits_contract hfit
  exact readIter_isolated L ob ds l0 l1 rs cfg ty hmax hne (h3 L ob hserve) h1
    (fun r hr => h2 r (List.dropLast_subset _ hr))

/-- (T, partial: `Fits`) iter_isolated without a budget, left-over documents included: the items of a stream are
the concatenation of the items of the one-document streams, for every stream (under the hypotheses of
`docs_pump_eq_concat`) each of whose documents needs at most (number of its parser items) + 2 rounds of the
iterator inside it.  (`iter_isolated_Full` drops `Fits`; whether the model's loop fuel `items.length + 10` can
be exceeded on such a stream is not decided here — no document was found that needs more rounds than it has
parser items.) -/
theorem iter_isolated_rounds_partial (L : AliasLimits) (ds : List (LNode × Bool × Loc × Loc)) (l0 l1 : Loc)
    (evss : List (List Ev)) (cfg : Cfg) (ty : Ty)
    (hL : Unlimited L ds) (hnf : ∀ d ∈ ds, Lemmas.C02.noFoldedIndent d.1 = true)
    (hexp : expandEach ds = .ok evss) (hfit : Fits cfg ty ds evss) :
    sameItems (readIter cfg ty (initPump L) (streamOf ds l0 l1))
      (ds.map fun d => readIter cfg ty (initPump L) (streamOf [d] l0 l1)).flatten := by
  by_cases hne : ds = []
  · subst hne
    have : readIter cfg ty (initPump L) (streamOf [] l0 l1) = [] := by rfl
    rw [this]
    exact .nil
  exact iter_isolated_rounds L none ds l0 l1 evss cfg ty (fun lim h => by cases h) hne
    (docsServe_none L ds evss hL hnf hexp) hfit

/-- a stream without left-over documents fits: each of its documents takes ONE round -/
theorem fits_of_not_leftover (L : AliasLimits) (ds : List (LNode × Bool × Loc × Loc)) (evss : List (List Ev))
    (cfg : Cfg) (ty : Ty) (hok : DocsOk L ds evss) (hnl : ∀ evs ∈ evss, ∀ v, perDoc cfg ty evs ≠ .leftover v) :
    Fits cfg ty ds evss :=
  Lemmas.C11B.fits_of_not_leftover cfg ty ds evss hok (fun evs he => isLeftover_false (hnl evs he))

/-- (T) … so `iter_isolated_partial` of `Props/C11_Typed.lean` is the special case "no document is left over"
of `iter_isolated_rounds_partial` -/
theorem iter_isolated_partial_of_rounds (L : AliasLimits) (ds : List (LNode × Bool × Loc × Loc)) (l0 l1 : Loc)
    (evss : List (List Ev)) (cfg : Cfg) (ty : Ty)
    (hL : Unlimited L ds) (hnf : ∀ d ∈ ds, Lemmas.C02.noFoldedIndent d.1 = true)
    (hexp : expandEach ds = .ok evss)
    (hnl : ∀ evs ∈ evss, ∀ v, perDoc cfg ty evs ≠ .leftover v) :
    sameItems (readIter cfg ty (initPump L) (streamOf ds l0 l1))
      (ds.map fun d => readIter cfg ty (initPump L) (streamOf [d] l0 l1)).flatten :=
  iter_isolated_rounds_partial L ds l0 l1 evss cfg ty hL hnf hexp
    (fits_of_not_leftover L ds evss cfg ty (docsOk_of_hyps L ds evss hL hnf hexp) hnl)

/-- (T) what a LEFT-OVER document contributes: first the value `T::deserialize` returned before the end of the
document, then the items of the rounds from the event where it stopped (`c2`), strictly inside the document —
on the replay cursor over the events of that document alone. -/
theorem roundsOf_leftover (L : AliasLimits) (t : LNode) (cfg : Cfg) (ty : Ty) (evs : List Ev) (v : Val) (N : Nat)
    (hok : DocOk L t evs) (h : perDoc cfg ty evs = .leftover v) :
    ∃ c2, deser (fuelFor 100000) cfg ty false false (.replay evs 0 none) = .ok v c2 ∧
      roundsOf cfg ty (N + 1) evs = (docRounds cfg ty N c2).map (Rounds.push [.ok v]) := by
  obtain ⟨e0, tl, hcons, hopen, hsc⟩ := hok.head
  have := Lemmas.C11B.docSpec_of_perDoc cfg ty hcons hopen hsc N
  simp only [perDoc] at h
  rw [h] at this
  exact this

/-! #### (E) a left-over document inside a stream -/

theorem ex2_unlimited : Unlimited lim [exA, exNull, exC] := ex_unlimited'
theorem ex2_nofolded : ∀ d ∈ [exA, exNull, exC], Lemmas.C02.noFoldedIndent d.1 = true := fun d hd =>
  ex_nofolded d (by
    simp only [List.mem_cons, List.mem_nil_iff, or_false] at hd ⊢
    rcases hd with rfl | rfl | rfl <;> simp)
theorem ex2_expandEach : expandEach [exA, exNull, exC] = .ok [evsA, evsNull, evsC] := by rfl

/-- the rounds of `[&1 x, *1]` read as the 1-tuple `(String,)`: the value `("x",)`, then the replayed `x` is
handed to the target type again — an error item, and the rest of the document is skipped: 2 rounds -/
theorem ex2_roundsA : roundsOf {} (.tuple [.string]) 5 evsA =
    some ([.ok (.seq [.str ['x']]), .error ⟨"Unexpected", 11, 0⟩], false, 2) := by rfl

theorem ex2_spec : streamSpec {} (.tuple [.string]) 5 [evsA, evsNull, evsC] =
    some ([.ok (.seq [.str ['x']]), .error ⟨"Unexpected", 11, 0⟩, .ok (.seq [.str ['z']])], 4) := by rfl

/-- (E) `[&1 x, *1]` / `~` / `[z]` read as `(String,)`: the LEFT-OVER first document gives its truncated value and
an error item, the null document nothing, and the iterator resumes with the last document -/
example : sameItems (readIter {} (.tuple [.string]) (initPump lim) (streamOf [exA, exNull, exC] 1 99))
    [.ok (.seq [.str ['x']]), .error ⟨"Unexpected", 11, 0⟩, .ok (.seq [.str ['z']])] :=
  iter_eq_rounds_partial lim [exA, exNull, exC] 1 99 [evsA, evsNull, evsC] {} (.tuple [.string]) 5 _ 4
    ex2_unlimited ex2_nofolded ex2_expandEach ex2_spec (by decide)

theorem ex2_fits : Fits {} (.tuple [.string]) [exA, exNull, exC] [evsA, evsNull, evsC] :=
  ⟨⟨_, by rfl⟩, ⟨_, by rfl⟩, ⟨_, by rfl⟩, trivial⟩

/-- (E) … and these are the items of the three one-document streams -/
example : sameItems (readIter {} (.tuple [.string]) (initPump lim) (streamOf [exA, exNull, exC] 1 99))
    ([exA, exNull, exC].map fun d => readIter {} (.tuple [.string]) (initPump lim) (streamOf [d] 1 99)).flatten :=
  iter_isolated_rounds_partial lim [exA, exNull, exC] 1 99 [evsA, evsNull, evsC] {} (.tuple [.string])
    ex2_unlimited ex2_nofolded ex2_expandEach ex2_fits

/-- (E) `roundsOf_leftover` applies to the first document -/
example : ∃ c2, deser (fuelFor 100000) {} (.tuple [.string]) false false (.replay evsA 0 none) = .ok (.seq [.str ['x']]) c2 ∧
    roundsOf {} (.tuple [.string]) 5 evsA = (docRounds {} (.tuple [.string]) 4 c2).map (Rounds.push [.ok (.seq [.str ['x']])]) :=
  roundsOf_leftover lim exA.1 {} (.tuple [.string]) evsA _ 4
    (docsOk_of_hyps lim [exA, exNull, exC] [evsA, evsNull, evsC] ex2_unlimited ex2_nofolded ex2_expandEach).1
    ex_perDocA_tuple

open SaphyrVerif.Lemmas.C11B (BoundaryB StartB startB serveCheck)

/-- (T) the enforcer is reset at every document start — `Props.C07.perdoc_position_independent` /
`perdoc_recovery_position_independent` at the level of the pump, on BOTH paths: (a) a `DocumentStart` marker met at a
document boundary, whatever the enforcer has counted, leaves the pump in a start state whose enforcer is
`docStartState lim 0` (everything forgotten, the marker counted as the FIRST event of the new document); (b) so does
the recovery `skip_to_next_document` from anywhere inside a document (`begin_document_at`; the skipped events are
not charged).  A start state (`StartB`) fixes every field of the pump that `next_impl` reads before the first event
of the document: what the earlier documents did cannot matter. -/
theorem budget_reset_at_document_start (L : AliasLimits) (lim : Limits) :
    (∀ (q : Pump) (ex : Bool) (ls : Loc) (X : List RawItem), BoundaryB L (some lim) q → q.look = none →
      nextImpl q (.ev (.docStart ex) ls :: X) = nextImpl (startB (some lim) q ls) X ∧
      StartB L (some lim) ls (startB (some lim) q ls) ∧
      (startB (some lim) q ls).budget = some (Lemmas.C07.docStartState lim 0)) ∧
    (∀ (q3 : Pump) (B X : List RawItem) (le : Loc) (ex : Bool) (ls : Loc),
      Lemmas.C11B.StatB L (some lim) q3 → (∀ x ∈ B, Lemmas.C11T.skipNeutral x = true) →
      ∃ q4, skipToNextDocument q3 (B ++ .ev .docEnd le :: .ev (.docStart ex) ls :: X) = (true, q4, X) ∧
        StartB L (some lim) ls q4 ∧ q4.budget = some (Lemmas.C07.docStartState lim 0)) := by
  constructor
  · intro q ex ls X hq hl
    exact ⟨Lemmas.C11B.step_docStartB hq ex ls X, (Lemmas.C11B.startB_start hq hl ls).1, rfl⟩
  · intro q3 B X le ex ls hst hB
    obtain ⟨-, h2⟩ := Lemmas.C11B.skip_from_docB (le := le) (X := .ev (.docStart ex) ls :: X) hst ⟨B, rfl, hB⟩
    obtain ⟨q4, hsk, hs4, -⟩ := h2 ex ls X rfl
    exact ⟨q4, hsk, hs4, hs4.bud⟩

/-- (bridge) every document passes the executable check `serveCheck`: the pump with the freshly reset enforcer
delivers its events, its `DocumentEnd` is within the limits and its ratio check is silent — "every document is within
its limits, its `DocumentEnd` included" -/
theorem served_of_check (L : AliasLimits) (ob : Option Limits) (ds : List (LNode × Bool × Loc × Loc))
    (evss : List (List Ev)) (hL : Unlimited L ds) (hnf : ∀ d ∈ ds, Lemmas.C02.noFoldedIndent d.1 = true)
    (hexp : expandEach ds = .ok evss)
    (hchk : ((ds.zip evss).all fun x => serveCheck L ob x.1 x.2) = true) : Served L ob ds evss := by
  have hok := docsOk_of_hyps L ds evss hL hnf hexp
  clear hL hnf hexp
  induction ds generalizing evss with
  | nil =>
    cases evss with
    | nil => trivial
    | cons _ _ => exact hok.elim
  | cons d ds ih =>
    cases evss with
    | nil => exact hok.elim
    | cons evs evss =>
      simp only [List.zip_cons_cons, List.all_cons, Bool.and_eq_true] at hchk
      exact ⟨Lemmas.C11B.docServe_of_check hok.1 hchk.1, ih evss hchk.2 hok.2⟩

/-- the full statement: whatever the limits are -/
def iter_isolated_budgeted_Full : Prop :=
  ∀ (L : AliasLimits) (lim : Limits) (ds : List (LNode × Bool × Loc × Loc)) (l0 l1 : Loc) (evss : List (List Ev))
    (cfg : Cfg) (ty : Ty),
    Unlimited L ds → (∀ d ∈ ds, Lemmas.C02.noFoldedIndent d.1 = true) → expandEach ds = .ok evss →
    sameItems (readIter cfg ty (readPump L (some lim)) (streamOf ds l0 l1))
      (ds.map fun d => readIter cfg ty (readPump L (some lim)) (streamOf [d] l0 l1)).flatten

/-- (T, partial: every document is served — its own events from `DocumentStart` through `DocumentEnd` are within the
limits and its alias/anchor ratio check is silent —, and `Fits`)
iter_isolated_budgeted — "each on its own" with the per-document budget: for `Entry.readIter` over the pump of
`read_with_options` with a `PerDocument` enforcer, the items of a stream are the concatenation, over its documents
in order, of the items of the ONE-document streams under the same limits — also after a document whose
deserialization failed (the recovery resets the enforcer: `budget_reset_at_document_start`), and for left-over
documents. -/
theorem iter_isolated_budgeted_partial (L : AliasLimits) (lim : Limits) (ds : List (LNode × Bool × Loc × Loc))
    (l0 l1 : Loc) (evss : List (List Ev)) (cfg : Cfg) (ty : Ty)
    (hmax : 1 ≤ lim.maxEvents) (hne : ds ≠ [])
    (hserve : Served L (some lim) ds evss) (hfit : Fits cfg ty ds evss) :
    sameItems (readIter cfg ty (readPump L (some lim)) (streamOf ds l0 l1))
      (ds.map fun d => readIter cfg ty (readPump L (some lim)) (streamOf [d] l0 l1)).flatten :=
  iter_isolated_rounds L (some lim) ds l0 l1 evss cfg ty (fun l h => by cases h; exact hmax) hne hserve hfit

/-- (T) … and these are the items of the iterator WITHOUT a budget: a per-document budget that no document
breaches is invisible to `read*` (values, and where the error items are). -/
theorem iter_budget_invisible (L : AliasLimits) (lim : Limits) (ds : List (LNode × Bool × Loc × Loc))
    (l0 l1 : Loc) (evss : List (List Ev)) (cfg : Cfg) (ty : Ty)
    (hmax : 1 ≤ lim.maxEvents) (hne : ds ≠ [])
    (hserve : Served L (some lim) ds evss) (hfit : Fits cfg ty ds evss) :
    sameItems (readIter cfg ty (readPump L (some lim)) (streamOf ds l0 l1))
      (readIter cfg ty (initPump L) (streamOf ds l0 l1)) := by
  obtain ⟨rs, h1, -, h3⟩ := Lemmas.C11B.fits_contract hfit
  have hsome := h3 L (some lim) hserve
  have hfuel : (Lemmas.C11B.mixItems rs).2 ≤ (streamOf ds l0 l1).length + 10 := by
    have := hsome.rounds_le h1
    rw [streamOf_length]; omega
  exact (readIter_contract L (some lim) ds l0 l1 rs cfg ty (fun l h => by cases h; exact hmax) hne hsome hfuel).trans
    (readIter_contract L none ds l0 l1 rs cfg ty (fun l h => by cases h) hne
      (h3 L none (Lemmas.C11B.docsServe_none (served_ok hserve))) hfuel).symm

/-! #### (E) / (F): a stream under a per-document budget -/

/-- limits that are EXACTLY the usage of the largest document `[&1 x, *1]` (7 events of its own: `DocumentStart`,
5 node / alias / replayed events, `DocumentEnd`; 3 nodes — the replayed `x` counts —, 1 alias, 1 anchor, depth 1,
2 scalar bytes), ratio check on -/
def exLim : Limits :=
  { maxEvents := 7, maxAliases := 1, maxAnchors := 1, maxDepth := 1, maxDocuments := 0, maxNodes := 3,
    maxTotalScalarBytes := 2, maxMergeKeys := 0, enforceRatio := true, minAliases := 1, multiplier := 1 }

theorem ex3_served : Served lim (some exLim) [exA, exBad, exNull, exC] [evsA, evsBad, evsNull, evsC] :=
  served_of_check lim (some exLim) _ _ ex_unlimited ex_nofolded ex_expandEach (by decide +kernel)

theorem ex3_fits : Fits {} (.seq .string) [exA, exBad, exNull, exC] [evsA, evsBad, evsNull, evsC] :=
  ⟨⟨_, by rfl⟩, ⟨_, by rfl⟩, ⟨_, by rfl⟩, ⟨_, by rfl⟩, trivial⟩

/-- (E) `[&1 x, *1]` / `y` / `~` / `[z]` read as `Vec<String>` under the per-document budget `exLim`: every
document is charged on its own (the four documents together have 10 nodes, the limit is 3), the items are those
of the four one-document streams under the same limits … -/
example : sameItems (readIter {} (.seq .string) (readPump lim (some exLim)) (streamOf [exA, exBad, exNull, exC] 1 99))
    ([exA, exBad, exNull, exC].map fun d =>
      readIter {} (.seq .string) (readPump lim (some exLim)) (streamOf [d] 1 99)).flatten :=
  iter_isolated_budgeted_partial lim exLim _ 1 99 _ {} (.seq .string) (by decide) (by simp) ex3_served ex3_fits

/-- (E) … and those of the iterator without a budget -/
example : sameItems (readIter {} (.seq .string) (readPump lim (some exLim)) (streamOf [exA, exBad, exNull, exC] 1 99))
    (readIter {} (.seq .string) (initPump lim) (streamOf [exA, exBad, exNull, exC] 1 99)) :=
  iter_budget_invisible lim exLim _ 1 99 _ {} (.seq .string) (by decide) (by simp) ex3_served ex3_fits

/-- one event less than the first document has of its own: its six events up to its last node event are within the
limit, its `DocumentEnd` is the 7th -/
def exLim6 : Limits := { exLim with maxEvents := 6 }

/-- kind and location of an item (`("", 0)` for a value) -/
def itemKind : Item → String × Loc
  | .ok _ => ("", 0)
  | .error e => (e.kind, e.loc)

/-- (F) the stream under `exLim6`: the value of the first document (`T::deserialize` returns at the last node event),
then `Budget` at the `DocumentEnd` marker of the FIRST document (location 3) — the marker is observed lazily, by the
iterator's own `peek` for the next document, so `ReadIter::next` sets `finished`: the three later documents are
never read -/
theorem cx_budget_stream :
    (readIter {} (.seq .string) (readPump lim (some exLim6)) (streamOf [exA, exBad, exNull, exC] 1 99)).map itemKind =
      [("", 0), ("Budget", 3)] := by decide +kernel

/-- (F) … while on their own the first document yields the same two items, the second one is read and rejected by
its type only, the third one is skipped and the fourth one is read -/
theorem cx_budget_singles :
    ([exA, exBad, exNull, exC].map fun d =>
      (readIter {} (.seq .string) (readPump lim (some exLim6)) (streamOf [d] 1 99)).map itemKind) =
      [[("", 0), ("Budget", 3)], [("Unexpected", 51)], [], [("", 0)]] := by decide +kernel

theorem length_of_kinds {α : Type} {ds : List α} {f : α → List Item} {kss : List (List (String × Loc))}
    (h : (ds.map fun d => (f d).map itemKind) = kss) : (ds.map f).flatten.length = (kss.map List.length).sum := by
  subst h
  simp [List.length_flatten, Function.comp_def]

/-- (F) iter_isolated_budgeted without a hypothesis on the limits is false also of the repaired accounting
(a document is charged from its `DocumentStart` through its `DocumentEnd`): a document that exceeds `max_events`
exactly AT its `DocumentEnd` is read completely and yields its value; the breach surfaces as the NEXT item, met by
the iterator's own `peek`, and ends the iteration — the later documents are lost, although each of them is within
the limits.  The hypothesis that excludes it: every document is within the limits INCLUDING its `DocumentEnd`
(`TrailOk`, part of `Served`). -/
theorem iter_isolated_budgeted_counterexample : ¬ iter_isolated_budgeted_Full := by
  intro h
  have := (h lim exLim6 [exA, exBad, exNull, exC] 1 99 [evsA, evsBad, evsNull, evsC] {} (.seq .string)
    ex_unlimited ex_nofolded ex_expandEach).length
  rw [← List.length_map (f := itemKind), cx_budget_stream, length_of_kinds cx_budget_singles] at this
  exact absurd this (by decide)

/-- `exLim` with a ratio limit that `[&1 x, *1]` violates (1 alias > 0 × 1 anchor); all COUNTING limits are as in
`exLim`, i.e. every document is within them, `DocumentEnd` included -/
def exLimR : Limits := { exLim with multiplier := 0 }

/-- the second half of the hypothesis: the statement for documents that are within all counting limits, their
`DocumentEnd` included (served when the ratio check is switched off) -/
def iter_isolated_budgeted_counting_Full : Prop :=
  ∀ (L : AliasLimits) (lim : Limits) (ds : List (LNode × Bool × Loc × Loc)) (l0 l1 : Loc) (evss : List (List Ev))
    (cfg : Cfg) (ty : Ty),
    1 ≤ lim.maxEvents → ds ≠ [] → Served L (some { lim with enforceRatio := false }) ds evss → Fits cfg ty ds evss →
    sameItems (readIter cfg ty (readPump L (some lim)) (streamOf ds l0 l1))
      (ds.map fun d => readIter cfg ty (readPump L (some lim)) (streamOf [d] l0 l1)).flatten

theorem ex3_served_counting :
    Served lim (some { exLimR with enforceRatio := false }) [exA, exBad, exNull, exC] [evsA, evsBad, evsNull, evsC] :=
  served_of_check lim _ _ _ ex_unlimited ex_nofolded ex_expandEach (by decide +kernel)

/-- the stream under `exLimR`: the alias/anchor ratio is judged at the `DocumentEnd` of the document that violates it
(per-document policy; before the fix it was judged by `finish()` only, at the end of the stream, against the counters
of the LAST document: the stream yielded three items without any `Budget` error, the first document on its own four).
The first document yields its value, then `Budget` at ITS `DocumentEnd` marker (location 3) — observed lazily, by the
iterator's own `peek` for the next document, which ends the iteration; on its own it yields the same two items -/
theorem cx_ratio :
    (readIter {} (.seq .string) (readPump lim (some exLimR)) (streamOf [exA, exBad, exNull, exC] 1 99)).map itemKind =
      [("", 0), ("Budget", 3)] ∧
    ([exA, exBad, exNull, exC].map fun d =>
      (readIter {} (.seq .string) (readPump lim (some exLimR)) (streamOf [d] 1 99)).map itemKind) =
      [[("", 0), ("Budget", 3)], [("Unexpected", 51)], [], [("", 0)]] := by decide +kernel

/-- regression (the ratio used to be applied to the LAST document only): the document that violates the ratio is
rejected at every position — first, middle, last, alone — with the same two items: its value and the `Budget` error at
its own `DocumentEnd` (location 3); the documents before it are delivered as on their own -/
theorem ratio_judged_per_document_regression :
    (readIter {} (.seq .string) (readPump lim (some exLimR)) (streamOf [exA] 1 99)).map itemKind =
      [("", 0), ("Budget", 3)] ∧
    (readIter {} (.seq .string) (readPump lim (some exLimR)) (streamOf [exA, exBad, exNull, exC] 1 99)).map itemKind =
      [("", 0), ("Budget", 3)] ∧
    (readIter {} (.seq .string) (readPump lim (some exLimR)) (streamOf [exBad, exA, exC] 1 99)).map itemKind =
      [("Unexpected", 51), ("", 0), ("Budget", 3)] ∧
    (readIter {} (.seq .string) (readPump lim (some exLimR)) (streamOf [exC, exA] 1 99)).map itemKind =
      [("", 0), ("", 0), ("Budget", 3)] := by decide +kernel

/-- (F) … so "every document within the counting limits, `DocumentEnd` included" is not enough either.  The
alias/anchor ratio heuristic IS applied per document (at the document's own `DocumentEnd`, wherever the document stands:
`ratio_judged_per_document_regression`, `Props.C07.perdoc_ratio_position_independent`), but — like every breach raised
at a `DocumentEnd` (`iter_isolated_budgeted_counterexample`) — it is observed lazily, after the value of the document
has been yielded, by the iterator's own `peek`, and ends the iteration: the later documents, each of which is
accepted on its own, are lost.  The hypothesis that excludes it: the ratio check at the `DocumentEnd` of every document
is silent (the other half of `TrailOk`). -/
theorem iter_isolated_budgeted_counting_counterexample : ¬ iter_isolated_budgeted_counting_Full := by
  intro h
  have := (h lim exLimR [exA, exBad, exNull, exC] 1 99 [evsA, evsBad, evsNull, evsC] {} (.seq .string)
    (by decide) (by simp) ex3_served_counting ex3_fits).length
  rw [← List.length_map (f := itemKind), cx_ratio.1, length_of_kinds cx_ratio.2] at this
  exact absurd this (by decide)

/-! ### a document in which the pump fails — nested dangling alias, budget breach, …

A document may make the pump ITSELF fail before the document ends: an alias whose anchor is defined in an earlier
document only (at the root or NESTED anywhere), an event that the per-document enforcer rejects, an alias limit,
a scan error.  Such a document has no events "on its own" for the replay cursor of `perDoc` / `roundsOf`; what it
contributes on its own is what the iterator yields for the one-document stream.  `soloOf` computes this on the
live pump (canonical start state after the `DocumentStart` marker, the document, `DocumentEnd`, `StreamEnd`):
the items, whether the document was left through the recovery `skip_to_next_document` (`true`) or the iterator
finished (`false`: the failure was met by the iterator's own `peek`), and the number of rounds. -/

open SaphyrVerif.Lemmas.C11B (FailRun soloRounds canonStart failCheck)

/-- the pump (with the optional per-document enforcer `ob`) fails inside the document, before its end marker -/
def PumpFailsInside (L : AliasLimits) (ob : Option Limits) (d : LNode × Bool × Loc × Loc) : Prop :=
  ∃ es, FailRun [.ev .docEnd 0] (canonStart L ob d.2.2.1) (itemsOf d.1 ++ [.ev .docEnd 0]) es

/-- (bridge) established by evaluation -/
theorem pumpFailsInside_of_check {L : AliasLimits} {ob : Option Limits} {d : LNode × Bool × Loc × Loc}
    (h : failCheck L ob d = true) : PumpFailsInside L ob d :=
  Lemmas.C11B.failRun_of_check h

/-- what the document contributes ON ITS OWN (the one-document stream, on the live pump) -/
abbrev soloOf (cfg : Cfg) (ty : Ty) (L : AliasLimits) (ob : Option Limits) (N : Nat) (d : LNode × Bool × Loc × Loc)
    (l1 : Loc) : Option Rounds :=
  soloRounds cfg ty N (canonStart L ob d.2.2.1) (itemsOf d.1 ++ [.ev .docEnd d.2.2.2, .ev .streamEnd l1])

/-- (T, general form: with or without a per-document enforcer) a stream `pre ++ dk :: post` whose document `dk`
makes the pump fail, while the documents of `pre` and `post` are served: the iterator yields the items of `pre`
(each on its own), then EXACTLY the items `r.1` of `dk` on its own (equal values AND equal errors — the lock-step
comparison does not lose the error payloads), and then
* if `dk` was left through the recovery (`r.2.1 = true`: an error item from `T::deserialize` or a container end,
  then `skip_to_next_document`): the items of `post`, each on its own — the failing document does not affect
  the later documents;
* otherwise (`r.2.1 = false`: the failure was met by the iterator's own `peek`, `finished = true`): nothing —
  the later documents are lost. -/
theorem iter_failing_doc (L : AliasLimits) (ob : Option Limits)
    (pre post : List (LNode × Bool × Loc × Loc)) (dk : LNode × Bool × Loc × Loc) (l0 l1 : Loc)
    (evssPre evssPost : List (List Ev)) (cfg : Cfg) (ty : Ty) (N Ns : Nat) (its1 its2 : List Item) (k1 k2 : Nat)
    (r : Rounds)
    (hmax : ∀ lim, ob = some lim → 1 ≤ lim.maxEvents)
    (hpre : Served L ob pre evssPre) (hspec1 : streamSpec cfg ty N evssPre = some (its1, k1))
    (hfail : PumpFailsInside L ob dk) (hsolo : soloOf cfg ty L ob Ns dk l1 = some r)
    (hpost : Served L ob post evssPost) (hspec2 : streamSpec cfg ty N evssPost = some (its2, k2))
    (hfuel : k1 + r.2.2 + k2 + 1 ≤ (streamOf (pre ++ dk :: post) l0 l1).length + 10) :
    ∃ A B, readIter cfg ty (readPump L ob) (streamOf (pre ++ dk :: post) l0 l1) = A ++ r.1 ++ B ∧
      sameItems A its1 ∧ (r.2.1 = true → sameItems B its2) ∧ (r.2.1 = false → B = []) := by
  obtain ⟨es, hes⟩ := hfail
  obtain ⟨go, k, hk, hblock⟩ := Lemmas.C11B.iter_fail_stream (M := [.ev .docEnd 0]) (Y0 := [.ev .streamEnd l1]) (N := N)
    (by simp) hpre hspec1 hes hsolo hpost hspec2
  exact readIter_block L ob _ l0 l1 cfg ty hmax (by simp) hblock (by omega)

/-- (T) … in particular the one-document stream of `dk` yields exactly `r.1`: `soloOf` IS "the document on its
own" -/
theorem iter_failing_doc_alone (L : AliasLimits) (ob : Option Limits) (dk : LNode × Bool × Loc × Loc) (l0 l1 : Loc)
    (cfg : Cfg) (ty : Ty) (Ns : Nat) (r : Rounds)
    (hmax : ∀ lim, ob = some lim → 1 ≤ lim.maxEvents)
    (hfail : PumpFailsInside L ob dk) (hsolo : soloOf cfg ty L ob Ns dk l1 = some r)
    (hfuel : r.2.2 + 1 ≤ (streamOf [dk] l0 l1).length + 10) :
    readIter cfg ty (readPump L ob) (streamOf [dk] l0 l1) = r.1 := by
  obtain ⟨es, hes⟩ := hfail
  exact readIter_block L ob [dk] l0 l1 cfg ty hmax (by simp)
    (Lemmas.C11B.BlockIter.failing (M := [.ev .docEnd 0]) (by simp) hes hsolo) (by omega)

/-- (T) EVERY document that has no expansion from the EMPTY anchor table — in particular a document with an alias,
at its root or NESTED anywhere, to an anchor that is defined in an earlier document only (`.unknown aloc`) — makes
the pump (without a budget) fail inside the document, whatever the alias limits are: at a document boundary the
anchor table is empty (`Props.C11.alias_to_earlier_document_is_error` at the pump level). -/
theorem pumpFailsInside_of_no_expansion (L : AliasLimits) (d : LNode × Bool × Loc × Loc) (e : ExpErr)
    (hexp : expand [] [] d.1 = .error e) : PumpFailsInside L none d :=
  Lemmas.C11B.failRun_of_no_expansion L d.1 d.2.2.1 e hexp

/-- (T) anchors_not_visible_across_docs at the level of typed values, for a dangling alias ANYWHERE in document
`k` (root or nested; `anchors_not_visible_across_docs_typed_partial` in `Props/C11_Typed.lean` covers the root only):
for `pre ++ dk :: post` with `expand [] [] dk.1 = .error _` the iterator yields the items of `pre`, then exactly the
items `r.1` of `dk` on its own (`soloOf`, computed on the one-document stream: they end with an error item,
`solo_ends_with_error`, and contain no value built from an anchor of an earlier document — the pump fails AT the
alias), then
* the items of `post` when `dk` was left through the recovery (`T::deserialize` itself ran into the alias);
* nothing when the alias was met by the iterator's own `peek` (`r.2.1 = false`: possible only after a left-over
  value / skipped null-like scalars, or when the alias is the root of the document).
The batch entry point is an error in every case: `anchors_not_visible_across_docs_batch`. -/
theorem anchors_not_visible_across_docs_typed_nested (L : AliasLimits)
    (pre post : List (LNode × Bool × Loc × Loc)) (dk : LNode × Bool × Loc × Loc) (l0 l1 : Loc) (e : ExpErr)
    (evssPre evssPost : List (List Ev)) (cfg : Cfg) (ty : Ty) (N Ns : Nat) (its1 its2 : List Item) (k1 k2 : Nat)
    (r : Rounds)
    (hLpre : Unlimited L pre) (hnfpre : ∀ d ∈ pre, Lemmas.C02.noFoldedIndent d.1 = true)
    (hexpPre : expandEach pre = .ok evssPre) (hspec1 : streamSpec cfg ty N evssPre = some (its1, k1))
    (hexp : expand [] [] dk.1 = .error e) (hsolo : soloOf cfg ty L none Ns dk l1 = some r)
    (hLpost : Unlimited L post) (hnfpost : ∀ d ∈ post, Lemmas.C02.noFoldedIndent d.1 = true)
    (hexpPost : expandEach post = .ok evssPost) (hspec2 : streamSpec cfg ty N evssPost = some (its2, k2))
    (hfuel : k1 + r.2.2 + k2 + 1 ≤ (streamOf (pre ++ dk :: post) l0 l1).length + 10) :
    (∃ A B, readIter cfg ty (initPump L) (streamOf (pre ++ dk :: post) l0 l1) = A ++ r.1 ++ B ∧
      sameItems A its1 ∧ (r.2.1 = true → sameItems B its2) ∧ (r.2.1 = false → B = [])) ∧
    (∃ err, fromMultiple cfg ty (initPump L) (streamOf (pre ++ dk :: post) l0 l1) = .error err) := by
  constructor
  · exact iter_failing_doc L none pre post dk l0 l1 evssPre evssPost cfg ty N Ns its1 its2 k1 k2 r
      (fun l h => by cases h) (docsServe_none L pre evssPre hLpre hnfpre hexpPre) hspec1
      (pumpFailsInside_of_no_expansion L dk e hexp) hsolo (docsServe_none L post evssPost hLpost hnfpost hexpPost)
      hspec2 hfuel
  · obtain ⟨err', he'⟩ := expandDocs_error_of_mem (pre ++ dk :: post) dk (by simp) e hexp
    exact anchors_not_visible_across_docs_batch L _ l0 l1 cfg ty err' he'

/-- (T) what a failing document contributes always ends with an error item -/
theorem solo_ends_with_error (cfg : Cfg) (ty : Ty) (L : AliasLimits) (ob : Option Limits) (Ns : Nat)
    (d : LNode × Bool × Loc × Loc) (l1 : Loc) (r : Rounds) (h : soloOf cfg ty L ob Ns d l1 = some r) :
    ∃ init e, r.1 = init ++ [.error e] :=
  Lemmas.C11B.soloRounds_last cfg ty Ns _ _ r h

open SaphyrVerif.Lemmas.C11B (Mix DocCase mixItems)

/-- (T, general form) over a stream that mixes, in any order, documents the pump serves (whatever `T::deserialize`
makes of them: value, skipped, error item + recovery, left over) and documents in which the pump fails (dangling
alias, budget breach, …), each with its own result (`Mix`: items, whether the iterator goes on, rounds), the
iterator yields the items of the documents, in order, up to and including the first document that finishes it
(`mixItems`). -/
theorem iter_eq_mix (L : AliasLimits) (ob : Option Limits) (ds : List (LNode × Bool × Loc × Loc)) (l0 l1 : Loc)
    (rs : List Rounds) (cfg : Cfg) (ty : Ty)
    (hmax : ∀ lim, ob = some lim → 1 ≤ lim.maxEvents) (hne : ds ≠ [])
    (hmix : Mix L ob cfg ty l1 ds rs) :
    sameItems (readIter cfg ty (readPump L ob) (streamOf ds l0 l1)) (mixItems rs).1 := by
  refine readIter_contract L ob ds l0 l1 rs cfg ty hmax hne hmix.contract ?_
  have := hmix.contract.rounds_le hmix.fit
  rw [streamOf_length]
  omega

/-- (T, partial: every document is served or fails inside (`Mix`, with its rounds fitting), and no document except
possibly the last one finishes the iterator) iter_isolated with a per-document budget, in its strongest proved
form: the items of the stream are the concatenation, over ALL its documents in order, of the items of the
ONE-document streams under the same limits — also behind documents that failed: by their type (error item +
recovery), by a budget breach or a dangling alias met inside `T::deserialize` (error item + recovery; the
enforcer and the anchor table are reset), or left over. -/
theorem iter_isolated_mixed_partial (L : AliasLimits) (ob : Option Limits) (ds : List (LNode × Bool × Loc × Loc))
    (l0 l1 : Loc) (rs : List Rounds) (cfg : Cfg) (ty : Ty)
    (hmax : ∀ lim, ob = some lim → 1 ≤ lim.maxEvents) (hne : ds ≠ [])
    (hmix : Mix L ob cfg ty l1 ds rs) (hgo : ∀ r ∈ rs.dropLast, r.2.1 = true) :
    sameItems (readIter cfg ty (readPump L ob) (streamOf ds l0 l1))
      (ds.map fun d => readIter cfg ty (readPump L ob) (streamOf [d] l0 l1)).flatten :=
  readIter_isolated L ob ds l0 l1 rs cfg ty hmax hne hmix.contract hmix.fit hgo

/-- items can be compared by evaluation (`Lemmas/CurSimVal.lean`: `DecidableEq Val`) -/
instance instDecidableEqItem : DecidableEq Item := fun a b =>
  match a, b with
  | .ok x, .ok y => if h : x = y then isTrue (by rw [h]) else isFalse (by intro h'; cases h'; exact h rfl)
  | .error x, .error y => if h : x = y then isTrue (by rw [h]) else isFalse (by intro h'; cases h'; exact h rfl)
  | .ok _, .error _ => isFalse (by intro h; cases h)
  | .error _, .ok _ => isFalse (by intro h; cases h)

/-! #### (E) a dangling alias NESTED inside a document -/

theorem ex4_fails : PumpFailsInside lim none exNested :=
  pumpFailsInside_of_no_expansion lim exNested (.unknown 22) (by rfl)

/-- `[a, *1]` on its own, read as `Vec<String>`: `T::deserialize` reaches the alias: ONE error item `UnknownAnchor` at
the alias (22) — whatever an earlier document defined —, and the document is left through the recovery -/
theorem ex4_solo : soloOf {} (.seq .string) lim none 5 exNested 99 = some ([.error ⟨"UnknownAnchor", 22, 0⟩], true, 1) := by
  decide +kernel

theorem ex4_served : Served lim none [exA] [evsA] ∧ Served lim none [exC] [evsC] := by
  have h := docsServe_none lim [exA, exBad, exNull, exC] _ ex_unlimited ex_nofolded ex_expandEach
  exact ⟨⟨h.1, trivial⟩, ⟨h.2.2.2.1, trivial⟩⟩

/-- (E) `[&1 x, *1]` / `[a, *1]` / `[z]` read as `Vec<String>`: the alias NESTED in the second document does not see
the anchor of the first one: the first document's value, ONE error item `UnknownAnchor` at the alias, and the
third document's value — the iterator has recovered -/
example : ∃ A B, readIter {} (.seq .string) (initPump lim) (streamOf ([exA] ++ exNested :: [exC]) 1 99) =
      A ++ [.error ⟨"UnknownAnchor", 22, 0⟩] ++ B ∧
    sameItems A [.ok (.seq [.str ['x'], .str ['x']])] ∧ sameItems B [.ok (.seq [.str ['z']])] := by
  obtain ⟨A, B, h, hA, hB, -⟩ := iter_failing_doc lim none [exA] [exC] exNested 1 99 [evsA] [evsC] {} (.seq .string) 5 5
    _ _ 1 1 _ (fun l h => by cases h) ex4_served.1 (by rfl) ex4_fails ex4_solo ex4_served.2 (by rfl) (by decide)
  exact ⟨A, B, h, hA, hB rfl⟩

/-- `[~, *1]` — the anchor is defined in an earlier document only -/
def exN2 : LNode × Bool × Loc × Loc := (.seq 0 none 20 29 [.scalar ['~'] .plain 0 none 21, .alias 1 22], true, 4, 5)

theorem ex5_fails : PumpFailsInside lim none exN2 := pumpFailsInside_of_check (by rfl)

/-- `[~, *1]` on its own, read as the 0-tuple `()`: the value `()` (the deserializer stops behind `[`), the
null-like `~` is skipped, and then the iterator's OWN `peek` meets the alias: an error item, and the iterator is
finished (3 rounds) -/
theorem ex5_solo : soloOf {} (.tuple []) lim none 5 exN2 99 =
    some ([.ok (.seq []), .error ⟨"UnknownAnchor", 22, 0⟩], false, 3) := by
  decide +kernel

/-- (E) `[&1 x, *1]` / `[~, *1]` / `[z]` read as `()`: when the dangling alias is met by the iterator's own `peek`
(here: after a left-over value and a skipped null), the later documents are LOST — the nested counterpart of
`anchors_not_visible_across_docs_typed_counterexample` -/
example : ∃ A, readIter {} (.tuple []) (initPump lim) (streamOf ([exA] ++ exN2 :: [exC]) 1 99) =
      A ++ [.ok (.seq []), .error ⟨"UnknownAnchor", 22, 0⟩] ∧
    sameItems A [.ok (.seq []), .error ⟨"Unexpected", 11, 0⟩] := by
  obtain ⟨A, B, h, hA, -, hB⟩ := iter_failing_doc lim none [exA] [exC] exN2 1 99 [evsA] [evsC] {} (.tuple []) 5 5
    _ _ 2 2 _ (fun l h => by cases h) ex4_served.1 (by rfl) ex5_fails ex5_solo ex4_served.2 (by rfl) (by decide)
  rw [hB rfl, List.append_nil] at h
  exact ⟨A, h, hA⟩

/-! #### (E) a document that breaches the per-document budget inside `T::deserialize` -/

/-- one node less than `[&1 x, *1]` needs (the replayed `x` is the third node) -/
def exLimN : Limits := { exLim with maxNodes := 2 }

theorem ex6_fails : PumpFailsInside lim (some exLimN) exA := pumpFailsInside_of_check (by decide +kernel)

/-- `[&1 x, *1]` on its own under `exLimN`: `T::deserialize` meets the breach: ONE error item `Budget`, and the
document is left through the recovery -/
theorem ex6_solo : soloOf {} (.seq .string) lim (some exLimN) 5 exA 99 = some ([.error ⟨"Budget", 11, 0⟩], true, 1) := by
  decide +kernel

theorem ex6_served : Served lim (some exLimN) [exC] [evsC] ∧ Served lim (some exLimN) [exBad, exNull, exC] [evsBad, evsNull, evsC] := by
  have hU : Unlimited lim [exBad, exNull, exC] :=
    ⟨ex_unlimited.1, fun d hd => ex_unlimited.2 d (List.mem_cons_of_mem _ hd)⟩
  have hN : ∀ d ∈ [exBad, exNull, exC], Lemmas.C02.noFoldedIndent d.1 = true :=
    fun d hd => ex_nofolded d (List.mem_cons_of_mem _ hd)
  have h := served_of_check lim (some exLimN) [exBad, exNull, exC] [evsBad, evsNull, evsC] hU hN (by rfl) (by decide +kernel)
  exact ⟨⟨h.2.2.1, trivial⟩, h⟩

/-- (E) `[z]` / `[&1 x, *1]` / `y` / `~` / `[z]` read as `Vec<String>` under the per-document budget `exLimN`: the
second document breaches the node limit INSIDE `T::deserialize`: it yields exactly ONE error item (`Budget`, the
item of its one-document stream), and the documents behind it are read as if it had not been there: the enforcer
is reset by the recovery (`budget_reset_at_document_start`) -/
example : ∃ A B, readIter {} (.seq .string) (readPump lim (some exLimN))
      (streamOf ([exC] ++ exA :: [exBad, exNull, exC]) 1 99) = A ++ [.error ⟨"Budget", 11, 0⟩] ++ B ∧
    sameItems A [.ok (.seq [.str ['z']])] ∧ sameItems B [.error ⟨"Unexpected", 51, 0⟩, .ok (.seq [.str ['z']])] := by
  obtain ⟨A, B, h, hA, hB, -⟩ := iter_failing_doc lim (some exLimN) [exC] [exBad, exNull, exC] exA 1 99 [evsC]
    [evsBad, evsNull, evsC] {} (.seq .string) 5 5 _ _ 1 3 _ (fun l h => by cases h; decide) ex6_served.1 (by rfl)
    ex6_fails ex6_solo ex6_served.2 (by rfl) (by decide)
  exact ⟨A, B, h, hA, hB rfl⟩

/-! #### (E) a mixed stream under a per-document budget -/

theorem ex7_fails : PumpFailsInside lim (some exLimN) exNested := pumpFailsInside_of_check (by decide +kernel)

theorem ex7_solo : soloOf {} (.seq .string) lim (some exLimN) 5 exNested 99 =
    some ([.error ⟨"UnknownAnchor", 22, 0⟩], true, 1) := by decide +kernel

/-- `[z]` / `[&1 x, *1]` / `y` / `[a, *1]` / `~` / `[z]` under `exLimN`, each document with its own result: served, BUDGET
BREACH inside `T::deserialize`, served (type error), DANGLING ALIAS nested, served (skipped), served -/
theorem ex7_mix : Mix lim (some exLimN) {} (.seq .string) 99 [exC, exA, exBad, exNested, exNull, exC]
    [([.ok (.seq [.str ['z']])], true, 1), ([.error ⟨"Budget", 11, 0⟩], true, 1), ([.error ⟨"Unexpected", 51, 0⟩], true, 1),
     ([.error ⟨"UnknownAnchor", 22, 0⟩], true, 1), ([], true, 1), ([.ok (.seq [.str ['z']])], true, 1)] := by
  have hC : DocCase lim (some exLimN) {} (.seq .string) 99 exC ([.ok (.seq [.str ['z']])], true, 1) :=
    DocCase.served evsC ([.ok (.seq [.str ['z']])], true, 1) ex6_served.1.1 (by rfl)
  refine ⟨hC, ?_, ?_, ?_, ?_, hC, trivial⟩
  · obtain ⟨es, hes⟩ := ex6_fails
    exact DocCase.failing es 5 _ hes ex6_solo (by decide)
  · exact DocCase.served evsBad ([.error ⟨"Unexpected", 51, 0⟩], false, 1) ex6_served.2.1 (by rfl)
  · obtain ⟨es, hes⟩ := ex7_fails
    exact DocCase.failing es 5 _ hes ex7_solo (by decide)
  · exact DocCase.served evsNull ([], true, 1) ex6_served.2.2.1 (by rfl)

/-- (E) … the items of the stream are those of the six one-document streams: a value, `Budget`, `Unexpected`,
`UnknownAnchor`, nothing, a value — each document on its own, also behind the failed ones -/
example : sameItems (readIter {} (.seq .string) (readPump lim (some exLimN))
      (streamOf [exC, exA, exBad, exNested, exNull, exC] 1 99))
    ([exC, exA, exBad, exNested, exNull, exC].map fun d =>
      readIter {} (.seq .string) (readPump lim (some exLimN)) (streamOf [d] 1 99)).flatten :=
  iter_isolated_mixed_partial lim (some exLimN) _ 1 99 _ {} (.seq .string) (fun l h => by cases h; decide) (by simp)
    ex7_mix (by
      intro r hr
      simp only [List.dropLast, List.mem_cons, List.mem_nil_iff, or_false] at hr
      rcases hr with rfl | rfl | rfl | rfl | rfl <;> rfl)

#print axioms iter_eq_rounds
#print axioms iter_eq_rounds_partial
#print axioms iter_isolated_rounds
#print axioms iter_isolated_rounds_partial
#print axioms fits_of_not_leftover
#print axioms iter_isolated_partial_of_rounds
#print axioms roundsOf_leftover
#print axioms budget_reset_at_document_start
#print axioms served_of_check
#print axioms iter_isolated_budgeted_partial
#print axioms iter_budget_invisible
#print axioms cx_budget_stream
#print axioms cx_budget_singles
#print axioms iter_isolated_budgeted_counterexample
#print axioms iter_isolated_budgeted_counting_counterexample
#print axioms ratio_judged_per_document_regression
#print axioms iter_failing_doc
#print axioms iter_failing_doc_alone
#print axioms pumpFailsInside_of_no_expansion
#print axioms anchors_not_visible_across_docs_typed_nested
#print axioms solo_ends_with_error
#print axioms iter_eq_mix
#print axioms iter_isolated_mixed_partial
#print axioms ex7_mix

end SaphyrVerif.Props.C11
