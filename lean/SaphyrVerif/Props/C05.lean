import SaphyrVerif.Spec.Interp
import SaphyrVerif.Spec.SubPos
import SaphyrVerif.Lemmas.C05_Main
import SaphyrVerif.Lemmas.C05_SubPos
/-!
# C05 — typed deserialization is position-faithful; shape mismatches are errors

Refinement of the typed deserializer model (Model/De.lean: a cursor-based streaming deserializer with key
capture, pending/merge queues, look-ahead) to the structural interpretation of the parsed tree
(`Spec.interp`): every Rust position is filled from the YAML node at the corresponding position, and a
node is never consumed by a neighbouring position.
-/
namespace SaphyrVerif.Props.C05
open SaphyrVerif SaphyrVerif.Scalars SaphyrVerif.Pump SaphyrVerif.De SaphyrVerif.Spec

mutual
/-- types without tuples (tuples read a fixed number of elements, so on surplus elements a successful call
stops strictly inside the sequence; they are covered by `deser_top_sound`, `clean_or_deficit`,
`deser_top_complete_all` and `arity_mismatch_is_error`: only the "no value ⇒ the CALL fails" clause of
`deser_refines_interp` needs this predicate) -/
def tupleFree : Ty → Bool
  | .tuple _ => false
  | .option t | .seq t | .newtype t => tupleFree t
  | .map k v => tupleFree k && tupleFree v
  | .struct fs _ => tupleFreeF fs
  | .enum _ vs => tupleFreeV vs
  | _ => true
def tupleFreeF : List (String × Ty) → Bool
  | [] => true
  | (_, t) :: r => tupleFree t && tupleFreeF r
def tupleFreeV : List (String × VTy) → Bool
  | [] => true
  | (_, .unit) :: r => tupleFreeV r
  | (_, .newtype t) :: r => tupleFree t && tupleFreeV r
  | (_, .tuple _) :: _ => false
  | (_, .struct fs) :: r => tupleFreeF fs && tupleFreeV r
end

mutual
/-- no mapping key is a one-entry mapping whose own key is a null-like scalar: for such keys the code
deliberately delivers `None` as the key and the INNER value as the value (see the finding below) -/
def noKemnKeys : ENode → Bool
  | .scalar .. => true
  | .seq _ _ _ _ _ items => noKemnKeysL items
  | .map _ _ _ entries => noKemnKeysE entries
def noKemnKeysL : List ENode → Bool
  | [] => true
  | n :: ns => noKemnKeys n && noKemnKeysL ns
def noKemnKeysE : List (ENode × ENode) → Bool
  | [] => true
  | (k, v) :: es =>
    (match k with
     | .map _ _ _ [(.scalar sv stag _ _ _ _, _)] => !fpNullish sv stag
     | _ => true) && noKemnKeys k && noKemnKeys v && noKemnKeysE es
end

/-- the replay cursor positioned at the start of `t` inside `pre ++ eflatten t ++ rest` -/
def at_ (pre : List Ev) (t : ENode) (rest : List Ev) (ref : Option Loc) : Cur :=
  .replay (pre ++ eflatten t ++ rest) pre.length ref
/-- … and just after it -/
def after_ (pre : List Ev) (t : ENode) (rest : List Ev) (ref : Option Loc) : Cur :=
  .replay (pre ++ eflatten t ++ rest) (pre.length + (eflatten t).length) ref

open Lemmas.C05 in
mutual
theorem tupleFree_eq : ∀ ty : Ty, tupleFree ty = tfree ty
  | .tuple _ => by rw [tupleFree, tfree]
  | .option t => by rw [tupleFree, tfree]; exact tupleFree_eq t
  | .seq t => by rw [tupleFree, tfree]; exact tupleFree_eq t
  | .newtype t => by rw [tupleFree, tfree]; exact tupleFree_eq t
  | .map k v => by rw [tupleFree, tfree, tupleFree_eq k, tupleFree_eq v]
  | .struct fs _ => by rw [tupleFree, tfree]; exact tupleFreeF_eq fs
  | .enum _ vs => by rw [tupleFree, tfree]; exact tupleFreeV_eq vs
  | .bool | .int _ _ | .float _ | .char | .string | .unit | .bytes | .any => rfl
theorem tupleFreeF_eq : ∀ fs : List (String × Ty), tupleFreeF fs = tfreeF fs
  | [] => by rw [tupleFreeF, tfreeF]
  | (_, t) :: r => by rw [tupleFreeF, tfreeF, tupleFree_eq t, tupleFreeF_eq r]
theorem tupleFreeV_eq : ∀ vs : List (String × VTy), tupleFreeV vs = tfreeV vs
  | [] => by rw [tupleFreeV, tfreeV]
  | (_, .unit) :: r => by rw [tupleFreeV, tfreeV]; exact tupleFreeV_eq r
  | (_, .newtype t) :: r => by rw [tupleFreeV, tfreeV, tupleFree_eq t, tupleFreeV_eq r]
  | (_, .tuple _) :: _ => by rw [tupleFreeV, tfreeV]
  | (_, .struct fs) :: r => by rw [tupleFreeV, tfreeV, tupleFreeF_eq fs, tupleFreeV_eq r]
end

open Lemmas.C05 in
mutual
theorem noKemnKeys_eq : ∀ t : ENode, noKemnKeys t = kfree t
  | .scalar .. => by rw [noKemnKeys, kfree]
  | .seq _ _ _ _ _ items => by rw [noKemnKeys, kfree]; exact noKemnKeysL_eq items
  | .map _ _ _ entries => by rw [noKemnKeys, kfree]; exact noKemnKeysE_eq entries
theorem noKemnKeysL_eq : ∀ ts : List ENode, noKemnKeysL ts = kfreeL ts
  | [] => by rw [noKemnKeysL, kfreeL]
  | n :: ns => by rw [noKemnKeysL, kfreeL, noKemnKeys_eq n, noKemnKeysL_eq ns]
theorem noKemnKeysE_eq : ∀ es : List (ENode × ENode), noKemnKeysE es = kfreeE es
  | [] => by rw [noKemnKeysE, kfreeE]
  | (k, v) :: es => by
    rw [noKemnKeysE.eq_def]
    simp only []
    rw [kfreeE, noKemnKeys_eq k, noKemnKeys_eq v, noKemnKeysE_eq es]
    rfl
end

/-- (T) clean_or_deficit — the refinement for ALL types (tuples and tuple variants included): on any stream that
contains the events of `t` at the cursor, with enough fuel,
* if the specification assigns a value, deserialization returns exactly that value and leaves the cursor exactly
  after `t` (completeness needs NO restriction on the type);
* otherwise it fails, or — possible only for a type that contains a fixed-size position — it returns with the
  cursor strictly inside `t` (a deficit: surplus elements of a tuple are left unread). It never touches `rest`. -/
theorem clean_or_deficit (cfg : Cfg) (ty : Ty) (t : ENode) (pre rest : List Ev) (ref : Option Loc)
    (hk : noKemnKeys t = true) :
    ∃ n, ∀ fuel, n ≤ fuel →
      match interp cfg ty t with
      | some v => deser fuel cfg ty false false (at_ pre t rest ref) = .ok v (after_ pre t rest ref)
      | none =>
        (∃ e c, deser fuel cfg ty false false (at_ pre t rest ref) = .err e c) ∨
        (tupleFree ty = false ∧ ∃ w j, deser fuel cfg ty false false (at_ pre t rest ref) =
            .ok w (.replay (pre ++ eflatten t ++ rest) j ref) ∧ pre.length < j ∧ j < pre.length + (eflatten t).length) := by
  have hk' : Lemmas.C05.kfree t = true := by rw [← noKemnKeys_eq]; exact hk
  have hdrop : (pre ++ eflatten t ++ rest).drop pre.length = eflatten t ++ rest := by
    rw [List.append_assoc, List.drop_left]
  obtain ⟨n, hn⟩ := Lemmas.C05.ref_all cfg ty t hk' (pre ++ eflatten t ++ rest) pre.length ref rest hdrop
  refine ⟨n, fun fuel hf => ?_⟩
  have := hn fuel hf
  simp only [at_, after_]
  cases hi : interp cfg ty t with
  | some v =>
    rw [hi] at this
    exact this
  | none =>
    rw [hi] at this
    rcases this with h | ⟨hd, h⟩
    · exact Or.inl h
    · refine Or.inr ⟨?_, h⟩
      rw [tupleFree_eq]
      cases htf : Lemmas.C05.tfree ty with
      | false => rfl
      | true => rw [htf] at hd; cases hd

/-- (T) clean refinement for tuple-free types: on any stream that contains the events of `t` at the
cursor, with enough fuel, deserialization into `ty` succeeds exactly when the specification assigns a value,
returns exactly that value, and leaves the cursor exactly after `t` — it never touches `rest`
(no neighbouring node is consumed) and never stops inside `t`. -/
theorem deser_refines_interp (cfg : Cfg) (ty : Ty) (t : ENode) (pre rest : List Ev) (ref : Option Loc)
    (hty : tupleFree ty = true) (hk : noKemnKeys t = true) :
    ∃ n, ∀ fuel, n ≤ fuel →
      match interp cfg ty t with
      | some v => deser fuel cfg ty false false (at_ pre t rest ref) = .ok v (after_ pre t rest ref)
      | none => ∃ e c, deser fuel cfg ty false false (at_ pre t rest ref) = .err e c := by
  obtain ⟨n, hn⟩ := clean_or_deficit cfg ty t pre rest ref hk
  refine ⟨n, fun fuel hf => ?_⟩
  have := hn fuel hf
  cases hi : interp cfg ty t with
  | some v => rw [hi] at this; exact this
  | none =>
    rw [hi] at this
    rcases this with h | ⟨hd, -⟩
    · exact h
    · rw [hty] at hd; cases hd

/-- (T) the positive half of `clean_or_deficit` on its own: whenever the specification assigns a value, the call
returns it and stops exactly after the node — for every type. -/
theorem deser_complete_at (cfg : Cfg) (ty : Ty) (t : ENode) (pre rest : List Ev) (ref : Option Loc)
    (hk : noKemnKeys t = true) (v : Val) (h : interp cfg ty t = some v) :
    ∃ n, ∀ fuel, n ≤ fuel → deser fuel cfg ty false false (at_ pre t rest ref) = .ok v (after_ pre t rest ref) := by
  obtain ⟨n, hn⟩ := clean_or_deficit cfg ty t pre rest ref hk
  refine ⟨n, fun fuel hf => ?_⟩
  have := hn fuel hf
  rw [h] at this
  exact this

/-- the document-level check of the single-document entry points, on a replay cursor: the value, then the
cursor must be at the end of the events -/
def deserTop (fuel : Nat) (cfg : Cfg) (ty : Ty) (evs : List Ev) : Option Val :=
  match deser fuel cfg ty false false (.replay evs 0 none) with
  | .ok v c =>
    match c.peek with
    | .ok none _ => some v
    | _ => none
  | .err _ _ => none

/-- (T) deser_top_sound: for ALL types (tuples, enums with tuple variants, … included): if the
single-document protocol accepts the events of a tree, the value is the position-faithful one. In
particular surplus or missing tuple elements, unknown variants and kind mismatches are errors: a
deficit left by an inner call is never repaired by an enclosing call. -/
theorem deser_top_sound (cfg : Cfg) (ty : Ty) (t : ENode) (hk : noKemnKeys t = true) (fuel : Nat) (v : Val)
    (h : deserTop fuel cfg ty (eflatten t) = some v) : interp cfg ty t = some v := by
  have hk' : Lemmas.C05.kfree t = true := by rw [← noKemnKeys_eq]; exact hk
  obtain ⟨n, hn⟩ := Lemmas.C05.ref_all cfg ty t hk' (eflatten t) 0 none [] (by simp)
  -- the successful run, with more fuel
  simp only [deserTop] at h
  cases hd : deser fuel cfg ty false false (.replay (eflatten t) 0 none) with
  | err e c => rw [hd] at h; cases h
  | ok v' c =>
    rw [hd] at h
    have hbig := Lemmas.C05.deser_mono_le (Nat.le_max_left fuel n) hd
    have := hn (max fuel n) (Nat.le_max_right fuel n)
    rw [hbig] at this
    cases hi : interp cfg ty t with
    | some w =>
      rw [hi] at this
      simp only [Lemmas.C05.NodeOut] at this
      injection this with h1 h2
      subst h1 h2
      simp only [Nat.zero_add, Lemmas.Cursor.peek_replay_end] at h
      exact h
    | none =>
      rw [hi] at this
      rcases this with ⟨e, c', he⟩ | ⟨-, w, j, he, hj1, hj2⟩
      · cases he
      · injection he with h1 h2
        subst h1 h2
        obtain ⟨ev, hev⟩ := Lemmas.C05.peek_inside (eflatten t) none (j := j) (by omega)
        simp [hev] at h

/-- `deser_top_sound` read backwards: where the specification assigns no value the protocol rejects, at every fuel -/
theorem deserTop_none_of_interp_none (cfg : Cfg) (ty : Ty) (t : ENode) (hk : noKemnKeys t = true)
    (hi : interp cfg ty t = none) (fuel : Nat) : deserTop fuel cfg ty (eflatten t) = none := by
  cases hd : deserTop fuel cfg ty (eflatten t) with
  | none => rfl
  | some w => rw [deser_top_sound cfg ty t hk fuel w hd] at hi; cases hi

/-- (T) completeness at document level for ALL types: whenever the specification assigns a value to the tree, the
single-document protocol returns exactly that value for all large enough fuel. -/
theorem deser_top_complete_all (cfg : Cfg) (ty : Ty) (t : ENode) (hk : noKemnKeys t = true)
    (v : Val) (h : interp cfg ty t = some v) : ∃ n, ∀ fuel, n ≤ fuel → deserTop fuel cfg ty (eflatten t) = some v := by
  obtain ⟨n, hn⟩ := deser_complete_at cfg ty t [] [] none hk v h
  refine ⟨n, fun fuel hf => ?_⟩
  have := hn fuel hf
  simp only [at_, after_, List.nil_append, List.append_nil, List.length_nil, Nat.zero_add] at this
  simp only [deserTop, this, Lemmas.Cursor.peek_replay_end]

/-- (T) completeness at document level for tuple-free types (`deser_top_complete_all`, which does not need the
hypothesis `tupleFree ty`) -/
theorem deser_top_complete (cfg : Cfg) (ty : Ty) (t : ENode) (hty : tupleFree ty = true) (hk : noKemnKeys t = true)
    (v : Val) (h : interp cfg ty t = some v) : ∃ n, ∀ fuel, n ≤ fuel → deserTop fuel cfg ty (eflatten t) = some v :=
  deser_top_complete_all cfg ty t hk v h

/-- (T) soundness and completeness together, for ALL types: for all large enough fuel the single-document
protocol on the events of a tree IS the specification (same value, or both reject). -/
theorem deser_top_eq_interp (cfg : Cfg) (ty : Ty) (t : ENode) (hk : noKemnKeys t = true) :
    ∃ n, ∀ fuel, n ≤ fuel → deserTop fuel cfg ty (eflatten t) = interp cfg ty t := by
  cases hi : interp cfg ty t with
  | some v => exact deser_top_complete_all cfg ty t hk v hi
  | none => exact ⟨0, fun fuel _ => deserTop_none_of_interp_none cfg ty t hk hi fuel⟩

/-- (T) deficit_is_fatal (document level only): the single-document protocol looks at the event under the final cursor
(one `peek`), so a call that returns with the cursor before the end of the events — in particular strictly inside
the root node, the second outcome of `clean_or_deficit` — is rejected. (That an ENCLOSING call never repairs a
deficit is not this theorem but `failing_position_is_error`.) -/
theorem deficit_is_fatal (fuel : Nat) (cfg : Cfg) (ty : Ty) (evs : List Ev) (w : Val) (j : Nat) (ref : Option Loc)
    (h : deser fuel cfg ty false false (.replay evs 0 none) = .ok w (.replay evs j ref)) (hj : j < evs.length) :
    deserTop fuel cfg ty evs = none := by
  obtain ⟨ev, hev⟩ := Lemmas.C05.peek_inside evs ref (j := j) hj
  simp [deserTop, h, hev]

/-- (F — characterisation of `tupleFree`) what the hypothesis `tupleFree` of `deser_refines_interp` excludes is
exactly the second outcome of `clean_or_deficit`, and it does occur: `[1, 2, 3]` at a position of type `(i32, i32)`
has no value, yet the call returns `ok` — with the cursor on the third element, strictly inside the sequence. -/
theorem tuple_surplus_stops_inside :
    interp {} (.tuple [.int true 32, .int true 32])
        (.seq 0 0 none 1 9 [.scalar ['1'] 0 none .plain 0 2, .scalar ['2'] 0 none .plain 0 3, .scalar ['3'] 0 none .plain 0 4])
      = none ∧
    deser 100 {} (.tuple [.int true 32, .int true 32]) false false
        (at_ [] (.seq 0 0 none 1 9 [.scalar ['1'] 0 none .plain 0 2, .scalar ['2'] 0 none .plain 0 3, .scalar ['3'] 0 none .plain 0 4]) [] none)
      = .ok (.seq [.int 1, .int 2])
          (.replay (eflatten (.seq 0 0 none 1 9 [.scalar ['1'] 0 none .plain 0 2, .scalar ['2'] 0 none .plain 0 3, .scalar ['3'] 0 none .plain 0 4])) 3 none) := by
  constructor <;> rfl

/-- (F) hence the conclusion of `deser_refines_interp` ("no value ⇒ the call fails") is false without `tupleFree`:
for the witness above no fuel bound makes the call fail. -/
theorem deser_refines_interp_needs_tupleFree :
    ¬ (∀ (ty : Ty) (t : ENode), noKemnKeys t = true → ∃ n, ∀ fuel, n ≤ fuel →
        match interp {} ty t with
        | some v => deser fuel {} ty false false (at_ [] t [] none) = .ok v (after_ [] t [] none)
        | none => ∃ e c, deser fuel {} ty false false (at_ [] t [] none) = .err e c) := by
  intro hall
  obtain ⟨h1, h2⟩ := tuple_surplus_stops_inside
  obtain ⟨n, hn⟩ := hall _ _ (by rfl : noKemnKeys (.seq 0 0 none 1 9 [.scalar ['1'] 0 none .plain 0 2,
    .scalar ['2'] 0 none .plain 0 3, .scalar ['3'] 0 none .plain 0 4]) = true)
  have := hn (max 100 n) (Nat.le_max_right _ _)
  rw [h1] at this
  obtain ⟨e, c, he⟩ := this
  have hbig := Lemmas.C05.deser_mono_le (Nat.le_max_left 100 n) h2
  rw [hbig] at he
  cases he

/-- (T) arity_mismatch_is_error (specification level): a tuple position accepts exactly as many nodes as it
has components -/
theorem arity_mismatch_is_error_spec (cfg : Cfg) (ts : List Ty) (a tag : Nat) (rt : Option (List Char)) (l el : Loc)
    (items : List ENode) (h : items.length ≠ ts.length) :
    interp cfg (.tuple ts) (.seq a tag rt l el items) = none := by
  rw [interp]
  simp only [tupleNode]
  rw [Lemmas.C05.tupleFrom_length_ne _ _ (by rw [Lemmas.C05.interpFns_length]; exact h)]; rfl

/-- (T) unknown_variant_is_error -/
theorem unknown_variant_is_error (cfg : Cfg) (name : String) (vs : List (String × VTy)) (v : List Char)
    (st : Style) (a : Nat) (l : Loc) (h : ∀ p ∈ vs, p.1.toList ≠ v) :
    interp cfg (.enum name vs) (.scalar v 0 none st a l) = none := by
  rw [interp]
  simp only [enumFrom]
  have hs : simpleTaggedEnumName none 0 = none := by simp [simpleTaggedEnumName, tagOther]
  rw [hs]
  have : variantFrom cfg (variantFns cfg vs) v none false = none := by
    apply Lemmas.C05.variantFrom_unknown
    intro q hq
    obtain ⟨p, hp, e⟩ := Lemmas.C05.variantFns_fst cfg vs q hq
    rw [← e]; exact h p hp
  simp [this]

/-- (T) kind_mismatch_is_error: a scalar position never accepts a container, a sequence position never a
mapping, a mapping position never a sequence -/
theorem kind_mismatch_is_error (cfg : Cfg) (a tag : Nat) (rt : Option (List Char)) (l el : Loc)
    (items : List ENode) (es : List (ENode × ENode)) (k v t : Ty) (s : Bool) (w : Nat) :
    interp cfg .bool (.seq a tag rt l el items) = none ∧ interp cfg (.int s w) (.map a l el es) = none ∧
    interp cfg .string (.seq a tag rt l el items) = none ∧ interp cfg (.seq t) (.map a l el es) = none ∧
    interp cfg (.map k v) (.seq a tag rt l el items) = none := by
  refine ⟨?_, ?_, ?_, ?_, ?_⟩ <;> rw [interp]

/-- (T) failing_position_is_error — a failure is never repaired by an enclosing call: if, while the document
`t` is read at type `ty`, some node `n'` (a sequence, or a non-empty mapping) is read at a Rust position of type
`ty'` (`Spec.SubPos`: through any nesting of `Vec`, tuple, map key / value incl. merged entries, struct field,
enum payload in map and tag notation, `Option`, newtype) and that position has no value, then the
single-document protocol rejects the document — for EVERY fuel. -/
theorem failing_position_is_error (cfg : Cfg) (ty ty' : Ty) (t n' : ENode) (hk : noKemnKeys t = true)
    (hpos : SubPos cfg ty t ty' n') (hs : solid n' = true) (hf : interp cfg ty' n' = none) (fuel : Nat) :
    deserTop fuel cfg ty (eflatten t) = none :=
  deserTop_none_of_interp_none cfg ty t hk (Lemmas.C05.subPos_interp_none hpos hs hf) fuel

/-- (T) arity_mismatch_is_error (model level, top level AND nested): a sequence node with `items.length ≠ ts.length`
items (surplus or missing elements; a sequence node, so not the `!!binary` scalar form) that is read at a tuple
position of type `(ts…)` ANYWHERE in the document — at the root (`SubPos.here`) or below any nesting of container
types (`Spec.SubPos`) — makes the single-document protocol fail, for every fuel: the surplus / deficit is never
repaired by an enclosing call. -/
theorem arity_mismatch_is_error (cfg : Cfg) (ty : Ty) (t : ENode) (hk : noKemnKeys t = true)
    (ts : List Ty) (a tag : Nat) (rt : Option (List Char)) (l el : Loc) (items : List ENode)
    (hpos : SubPos cfg ty t (.tuple ts) (.seq a tag rt l el items)) (h : items.length ≠ ts.length) (fuel : Nat) :
    deserTop fuel cfg ty (eflatten t) = none :=
  failing_position_is_error cfg ty (.tuple ts) t _ hk hpos rfl
    (arity_mismatch_is_error_spec cfg ts a tag rt l el items h) fuel

/-- (T) arity_mismatch_is_error, the top-level instance spelled out: a tuple type on a sequence document of the
wrong length -/
theorem arity_mismatch_is_error_top (cfg : Cfg) (ts : List Ty) (a tag : Nat) (rt : Option (List Char)) (l el : Loc)
    (items : List ENode) (hk : noKemnKeys (.seq a tag rt l el items) = true) (h : items.length ≠ ts.length) (fuel : Nat) :
    deserTop fuel cfg (.tuple ts) (eflatten (.seq a tag rt l el items)) = none :=
  arity_mismatch_is_error cfg (.tuple ts) _ hk ts a tag rt l el items (.here _ _) h fuel

/-- (T) the same for the payload of a tuple VARIANT, in both notations `{V: [ … ]}` and `!V [ … ]` (instances of
`arity_mismatch_is_error` through `SubPos.variantMap` / `SubPos.variantTagged`, spelled out because tuple variants
are the second kind of fixed-size position) -/
theorem variant_arity_mismatch_is_error (cfg : Cfg) (name vn : String) (variants : List (String × VTy)) (ts : List Ty)
    (kv : List Char) (hv : variants.find? (fun p => p.1.toList == kv) = some (vn, .tuple ts))
    (a a' ka ktag tag : Nat) (krt rt : Option (List Char)) (kst : Style) (l el l' el' kl : Loc) (items : List ENode)
    (hk : noKemnKeysL items = true) (h : items.length ≠ ts.length) (fuel : Nat) :
    deserTop fuel cfg (.enum name variants)
        (eflatten (.map a l el [(.scalar kv ktag krt kst ka kl, .seq a' tag rt l' el' items)])) = none ∧
    (simpleTaggedEnumName rt tag = some kv →
      deserTop fuel cfg (.enum name variants) (eflatten (.seq a' tag rt l' el' items)) = none) := by
  refine ⟨?_, fun htn => ?_⟩
  · refine arity_mismatch_is_error cfg _ _ ?_ ts a' tag rt l' el' items (.variantMap hv rfl (.here _ _)) h fuel
    simp only [noKemnKeys, noKemnKeysE, hk, Bool.and_true]
  · refine arity_mismatch_is_error cfg _ _ ?_ ts a' tagNone none l' el' items (.variantTagged htn hv rfl (.here _ _)) h fuel
    simp only [noKemnKeys, hk]

/-- (F) the excluded class is a genuine deviation of model and code (known finding
C05-kemn-one-entry-null-key): for the key `{~: 1}` with value `2` the delivered entry is (None, 1): the
outer value `2` is dropped and the position of the value is filled from a node inside the key. -/
theorem kemn_key_takes_inner_value :
    deserTop 100 {} (.map (.option .string) (.int true 32))
      (eflatten (.map 0 1 9 [(.map 0 2 5 [(.scalar ['~'] 0 none .plain 0 3, .scalar ['1'] 0 none .plain 0 4)],
                              .scalar ['2'] 0 none .plain 0 6)]))
      = some (.map [(.none, .int 1)]) := by
  rfl

-- (E) non-vacuity
def sc (s : String) (l : Loc) : ENode := .scalar s.toList 0 none .plain 0 l

/-- `{ {~: [1, 2]}: [1, 2, 3] }` -/
def kemnArityDoc : ENode :=
  .map 0 1 19 [(.map 0 2 9 [(sc "~" 3, .seq 0 0 none 4 7 [sc "1" 5, sc "2" 6])],
                .seq 0 0 none 10 15 [sc "1" 11, sc "2" 12, sc "3" 13])]

/-- (F) `arity_mismatch_is_error` is FALSE without `noKemnKeys` — the excluded class (finding
C05-kemn-one-entry-null-key) also swallows an arity mismatch: in `{ {~: [1, 2]}: [1, 2, 3] }` read as
`HashMap<Option<String>, (i32, i32)>` the value of the only entry is the 3-element sequence (a sub-position of
type `(i32, i32)`, so the document has no value), but the call delivers `{None: (1, 2)}`: the value position is
filled from INSIDE the key and the outer value, with its surplus element, is dropped.  (`de.rs`, pending-entry
branch of `next_key_seed`: `value_events = events.drain(vs..ve).collect()` overwrites the captured outer value —
model and code agree; `serde_saphyr::from_str::<HashMap<Option<String>, (i32, i32)>>("{ {~: [1, 2]}: [1, 2, 3] }")`
returns `Ok({None: (1, 2)})`.) -/
theorem arity_mismatch_needs_noKemnKeys :
    noKemnKeys kemnArityDoc = false ∧
    SubPos {} (.map (.option .string) (.tuple [.int true 32, .int true 32])) kemnArityDoc
      (.tuple [.int true 32, .int true 32]) (.seq 0 0 none 10 15 [sc "1" 11, sc "2" 12, sc "3" 13]) ∧
    interp {} (.map (.option .string) (.tuple [.int true 32, .int true 32])) kemnArityDoc = none ∧
    deserTop 100 {} (.map (.option .string) (.tuple [.int true 32, .int true 32])) (eflatten kemnArityDoc) =
      some (.map [(.none, .seq [.int 1, .int 2])]) := by
  refine ⟨by rfl, ?_, by rfl, by rfl⟩
  exact .mapValue (es := [(.map 0 2 9 [(sc "~" 3, .seq 0 0 none 4 7 [sc "1" 5, sc "2" 6])],
      .seq 0 0 none 10 15 [sc "1" 11, sc "2" 12, sc "3" 13])]) (by rfl) (List.Mem.head _) (.here _ _)
example : deserTop 100 {} (.tuple [.int true 32, .int true 32]) (eflatten (.seq 0 0 none 1 9 [sc "1" 2, sc "2" 3])) =
    some (.seq [.int 1, .int 2]) := by rfl
example : deserTop 100 {} (.tuple [.int true 32, .int true 32]) (eflatten (.seq 0 0 none 1 9 [sc "1" 2, sc "2" 3, sc "3" 4])) = none := by
  rfl
example : interp {} (.seq (.enum "E" [("A", .newtype (.int true 32)), ("B", .unit)])) (.seq 0 0 none 1 9 [sc "A" 2, sc "5" 3]) = none := by
  rfl
example : deserTop 100 {} (.seq (.enum "E" [("A", .newtype (.int true 32)), ("B", .unit)])) (eflatten (.seq 0 0 none 1 9 [sc "A" 2, sc "5" 3])) = none := by
  rfl

/-! ### (E) non-vacuity of the all-types theorems: types with fixed-size positions -/

def i32 : Ty := .int true 32
/-- `Vec<(i32, i32)>` -/
def pairsTy : Ty := .seq (.tuple [i32, i32])
/-- `[[1, 2], [3, 4]]` -/
def pairsDoc : ENode :=
  .seq 0 0 none 1 9 [.seq 0 0 none 2 5 [sc "1" 3, sc "2" 4], .seq 0 0 none 6 8 [sc "3" 7, sc "4" 77]]
/-- `[[1, 2], [1, 2, 3]]` -/
def pairsBad : ENode :=
  .seq 0 0 none 1 9 [.seq 0 0 none 2 5 [sc "1" 3, sc "2" 4], .seq 0 0 none 6 8 [sc "1" 7, sc "2" 77, sc "3" 78]]
example : tupleFree pairsTy = false := by rfl
example : interp {} pairsTy pairsDoc = some (.seq [.seq [.int 1, .int 2], .seq [.int 3, .int 4]]) := by rfl
/-- completeness applies to a type that is not tuple-free … -/
example : ∃ n, ∀ fuel, n ≤ fuel →
    deserTop fuel {} pairsTy (eflatten pairsDoc) = some (.seq [.seq [.int 1, .int 2], .seq [.int 3, .int 4]]) :=
  deser_top_complete_all {} pairsTy pairsDoc (by rfl) _ (by rfl)
example : ∃ n, ∀ fuel, n ≤ fuel →
    deser fuel {} pairsTy false false (at_ [.mapStart 0 0] pairsDoc [.mapEnd 0] none) =
      .ok (.seq [.seq [.int 1, .int 2], .seq [.int 3, .int 4]]) (after_ [.mapStart 0 0] pairsDoc [.mapEnd 0] none) :=
  deser_complete_at {} pairsTy pairsDoc _ _ none (by rfl) _ (by rfl)
/-- … and so does the negative clause, one level down: the second element has a surplus item -/
example (fuel : Nat) : deserTop fuel {} pairsTy (eflatten pairsBad) = none :=
  arity_mismatch_is_error {} pairsTy pairsBad (by rfl) [i32, i32] 0 0 none 6 8 [sc "1" 7, sc "2" 77, sc "3" 78]
    (.seqItem (List.Mem.tail _ (List.Mem.head _)) (.here _ _)) (by decide) fuel
/-- inner surplus = outer shortage: `[[1, 2, 3]]` into `((i32, i32), i32)` (the seeded defect C05-1) -/
example (fuel : Nat) : deserTop fuel {} (.tuple [.tuple [i32, i32], i32])
    (eflatten (.seq 0 0 none 1 9 [.seq 0 0 none 2 8 [sc "1" 3, sc "2" 4, sc "3" 5]])) = none :=
  arity_mismatch_is_error {} _ _ (by rfl) [i32, i32] 0 0 none 2 8 [sc "1" 3, sc "2" 4, sc "3" 5]
    (.tupleItem (List.Mem.head _) (.here _ _)) (by decide) fuel
/-- a missing element, below `Option` and a newtype struct, at the root -/
example (fuel : Nat) : deserTop fuel {} (.option (.newtype (.tuple [i32, .option i32])))
    (eflatten (.seq 0 0 none 1 9 [sc "1" 3])) = none :=
  arity_mismatch_is_error {} _ _ (by rfl) [i32, .option i32] 0 0 none 1 9 [sc "1" 3]
    (.option (.newtype (.here _ _))) (by decide) fuel
/-- a surplus element in a MERGED entry read as a struct field (`{<<: {a: [1, 2, 3]}}`) -/
example (fuel : Nat) : deserTop fuel {} (.struct [("a", .tuple [i32, i32])] false)
    (eflatten (.map 0 1 19 [(sc "<<" 2, .map 0 3 9 [(sc "a" 4, .seq 0 0 none 5 8 [sc "1" 6, sc "2" 7, sc "3" 77])])])) = none :=
  arity_mismatch_is_error {} _ _ (by rfl) [i32, i32] 0 0 none 5 8 [sc "1" 6, sc "2" 7, sc "3" 77]
    (.field (es := [(sc "a" 4, .seq 0 0 none 5 8 [sc "1" 6, sc "2" 7, sc "3" 77])]) (k := sc "a" 4) (name := ['a'])
      (fname := "a") (by rfl) (List.Mem.head _) (by rfl) (by rfl) (.here _ _)) (by decide) fuel
/-- a surplus element in a map KEY and in a tuple-variant payload `{V: [1, 2, 3]}` inside a map value -/
example (fuel : Nat) : deserTop fuel {} (.map (.tuple [i32, i32]) i32)
    (eflatten (.map 0 1 9 [(.seq 0 0 none 2 6 [sc "1" 3, sc "2" 4, sc "3" 5], sc "7" 7)])) = none :=
  arity_mismatch_is_error {} _ _ (by rfl) [i32, i32] 0 0 none 2 6 [sc "1" 3, sc "2" 4, sc "3" 5]
    (.mapKey (es := [(.seq 0 0 none 2 6 [sc "1" 3, sc "2" 4, sc "3" 5], sc "7" 7)]) (by rfl) (List.Mem.head _) (.here _ _))
    (by decide) fuel
example (fuel : Nat) : deserTop fuel {} (.map .string (.enum "E" [("U", .unit), ("V", .tuple [i32, i32])]))
    (eflatten (.map 0 1 9 [(sc "k" 2, .map 0 3 8 [(sc "V" 4, .seq 0 0 none 5 7 [sc "1" 6])])])) = none :=
  arity_mismatch_is_error {} _ _ (by rfl) [i32, i32] 0 0 none 5 7 [sc "1" 6]
    (.mapValue (es := [(sc "k" 2, .map 0 3 8 [(sc "V" 4, .seq 0 0 none 5 7 [sc "1" 6])])]) (by rfl) (List.Mem.head _)
      (.variantMap (vn := "V") (vty := .tuple [i32, i32]) (by rfl) rfl (.here _ _)))
    (by decide) fuel
/-- the hypotheses of `variant_arity_mismatch_is_error` are satisfiable (tag notation `!V [1]`) -/
example (fuel : Nat) : deserTop fuel {} (.enum "E" [("U", .unit), ("V", .tuple [i32, i32])])
    (eflatten (.seq 0 tagOther (some "!V".toList) 5 7 [sc "1" 6])) = none :=
  (variant_arity_mismatch_is_error {} "E" "V" [("U", .unit), ("V", .tuple [i32, i32])] [i32, i32] ['V'] (by rfl)
    0 0 0 0 tagOther none (some "!V".toList) .plain 0 0 5 7 0 [sc "1" 6] (by rfl) (by decide) fuel).2 (by rfl)
/-- `failing_position_is_error` on a failure that is not an arity mismatch: a mapping where `Vec<i32>` is expected,
two levels down -/
example (fuel : Nat) : deserTop fuel {} (.seq (.option (.seq i32)))
    (eflatten (.seq 0 0 none 1 9 [.map 0 2 8 [(sc "a" 3, sc "1" 4)]])) = none :=
  failing_position_is_error {} _ (.seq i32) _ (.map 0 2 8 [(sc "a" 3, sc "1" 4)]) (by rfl)
    (.seqItem (List.Mem.head _) (.option (.here _ _))) rfl (by rfl) fuel
/-- `deser_top_eq_interp` on an accepted and on a rejected document -/
example : ∃ n, ∀ fuel, n ≤ fuel → deserTop fuel {} pairsTy (eflatten pairsBad) = interp {} pairsTy pairsBad :=
  deser_top_eq_interp {} pairsTy pairsBad (by rfl)
/-- `deficit_is_fatal` on the witness of `tuple_surplus_stops_inside` -/
example : deserTop 100 {} (.tuple [i32, i32]) (eflatten (.seq 0 0 none 1 9 [sc "1" 2, sc "2" 3, sc "3" 4])) = none :=
  deficit_is_fatal 100 {} _ _ (.seq [.int 1, .int 2]) 3 none (by rfl) (by decide)

/-! ### regression examples: surplus elements are never dropped silently

1. a recorded KEY and a buffered / MERGED VALUE are deserialized from their own replay buffer, which must be used up
   (`deserKey` / `nextValue`; `expect_consumed` in the code): surplus tuple elements there are errors
   (`{[1,2,3]: 7}` into `HashMap<(i32,i32),i32>`, `{<<: {a: [1,2,3]}}` into `HashMap<String,(i32,i32)>`);
2. an EMPTY `!!binary` scalar at a `Vec<T>` position is the empty vector for every `T` (`interp`, `.seq t` on a
   `!!binary` scalar);
3. a TUPLE position on a `!!binary` scalar rejects surplus bytes (`byteSeqVisit`) and accepts exactly one byte per
   integer component (`tupleNode`).  -/

def kSurplus : ENode := .map 0 1 9 [(.seq 0 0 none 2 6 [sc "1" 3, sc "2" 4, sc "3" 5], sc "7" 7)]
example : deserTop 100 {} (.map (.tuple [.int true 32, .int true 32]) (.int true 32)) (eflatten kSurplus) = none := by rfl
def mvSurplus : ENode :=
  .map 0 1 19 [(sc "<<" 2, .map 0 3 9 [(sc "a" 4, .seq 0 0 none 5 8 [sc "1" 6, sc "2" 7, sc "3" 77])])]
-- (by the soundness theorem: the specification rejects the surplus element)
example : deserTop 100 {} (.map .string (.tuple [.int true 32, .int true 32])) (eflatten mvSurplus) = none :=
  deserTop_none_of_interp_none {} _ mvSurplus (by rfl) (by rfl) 100
example : deserTop 100 {} (.struct [("a", .tuple [.int true 32, .int true 32])] false) (eflatten mvSurplus) = none :=
  deserTop_none_of_interp_none {} _ mvSurplus (by rfl) (by rfl) 100
def emptyBinary : ENode := .scalar [] 8 none .double 0 1
example : deserTop 100 {} (.seq .string) (eflatten emptyBinary) = some (.seq []) := by rfl
example : interp {} (.seq .string) emptyBinary = some (.seq []) := by rfl
def threeBytes : ENode := .scalar "AAEC".toList 8 none .plain 0 1
example : deserTop 100 {} (.tuple [.int false 8, .int false 8]) (eflatten threeBytes) = none := by rfl
example : interp {} (.tuple [.int false 8, .int false 8]) threeBytes = none := by rfl
example : deserTop 100 {} (.tuple [.int false 8, .int false 8, .int false 8]) (eflatten threeBytes) =
    some (.seq [.int 0, .int 1, .int 2]) := by rfl
example : interp {} (.tuple [.int false 8, .int false 8, .int false 8]) threeBytes = some (.seq [.int 0, .int 1, .int 2]) := by rfl

/- All of this rests on `Lemmas.C05.ref_all` (induction on the nesting depth of the node and the size of the type): the
outcome at one position is `NodeOut`; the map access delivers `effEntries` (`nextKey_spec`); a stop strictly inside a
node is never repaired by an enclosing call because no call moves the cursor below its starting nesting depth
(`C05_Weak*`); `deser_top_sound` holds for arbitrary fuel by the fuel monotonicity of success (`C05_Mono`). -/
#print axioms deser_refines_interp
#print axioms deser_top_sound
#print axioms deser_top_complete
#print axioms clean_or_deficit
#print axioms deser_complete_at
#print axioms deser_top_complete_all
#print axioms deser_top_eq_interp
#print axioms deficit_is_fatal
#print axioms tuple_surplus_stops_inside
#print axioms deser_refines_interp_needs_tupleFree
#print axioms arity_mismatch_is_error_spec
#print axioms failing_position_is_error
#print axioms arity_mismatch_is_error
#print axioms arity_mismatch_is_error_top
#print axioms variant_arity_mismatch_is_error
#print axioms unknown_variant_is_error
#print axioms kind_mismatch_is_error
#print axioms kemn_key_takes_inner_value
#print axioms arity_mismatch_needs_noKemnKeys

end SaphyrVerif.Props.C05
