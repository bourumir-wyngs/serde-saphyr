import SaphyrVerif.Spec.Expand
import SaphyrVerif.Lemmas.C02_Node
import SaphyrVerif.Model.Entry
import SaphyrVerif.Lemmas.C11_Skip
import SaphyrVerif.Lemmas.C11_Docs
import SaphyrVerif.Lemmas.C11_Iter
import SaphyrVerif.Lemmas.C11_Term
import SaphyrVerif.Lemmas.C11_Cex
/-!
# C11 — a multi-document stream is the list of its documents, each on its own

Pump level: the events delivered for a stream of documents are the concatenation of the expansions of
the documents, each expanded from an EMPTY anchor table (anchors are not visible across documents).
Entry level: batch vs iterator, recovery after errors, termination.

Regression (fix 2d066df of /repo): before it `read_iter_terminates` was FALSE — `deserialize_unit` / `deserialize_option`
accept a container-end event without consuming it, so the iterator (and the batch loop) yielded the same
item for ever once such an event was peeked at a document root: a stray `]` read as `()`, and also the
well-formed document `[[]]` read as `Option<()>`-like (`option (tuple [])`).  Confirmed on the
implementation and repaired: a container end where a document should start is now the error
`UnexpectedSequenceEnd` / `UnexpectedMappingEnd` (the iterator then recovers at the next document).
`read_iter_terminates` is proved as originally stated (every type, stream and pump state); the two former
witnesses are kept as regression `example`s below.
-/
namespace SaphyrVerif.Props.C11
open SaphyrVerif SaphyrVerif.Scalars SaphyrVerif.Pump SaphyrVerif.Spec SaphyrVerif.De SaphyrVerif.Entry

def initPump (L : AliasLimits) : Pump := { limits := L }

def streamOf (ds : List (LNode × Bool × Loc × Loc)) (l0 l1 : Loc) : List RawItem :=
  [.ev .streamStart l0] ++ docsStream ds ++ [.ev .streamEnd l1]

/-- (T) from_multiple_eq_map / anchors_not_visible_across_docs at the pump level: the event stream of a
multi-document input is the concatenation of the per-document expansions, each computed from an empty
anchor table — whatever the earlier documents defined. -/
theorem docs_pump_eq_concat (L : AliasLimits) (ds : List (LNode × Bool × Loc × Loc)) (l0 l1 : Loc) (evs : List Ev)
    (hL : Unlimited L ds) (hnf : ∀ d ∈ ds, Lemmas.C02.noFoldedIndent d.1 = true)
    (hexp : expandDocs ds = .ok evs) (hne : ds ≠ []) :
    ∃ n, ∀ fuel, n ≤ fuel →
      ∃ p', pumpAll fuel (initPump L) (streamOf ds l0 l1) [] = some (evs, none, p') := by
  unfold streamOf initPump
  obtain ⟨q, hq, hstart⟩ := Lemmas.C11.stream_first L l0 l1 ds
  obtain ⟨p', hends⟩ := Lemmas.C11.docs_ends L l1 ds q hq (fun h => absurd h hne) hL hnf evs hexp
  refine ⟨evs.length + 1, fun fuel hf => ⟨p', ?_⟩⟩
  obtain ⟨k, rfl⟩ := Nat.exists_eq_add_of_le hf
  exact Lemmas.C02.pumpAll_fuel_mono _ k _ _ _ _ (Lemmas.C02.pumpAll_ends (Lemmas.C02.Ends.of_eq hstart hends))

/-- soundness for a stream of documents, for ALL limits (the many-document form of `Props.C02.pump_sound`): a run
that ends without error delivered exactly the concatenation of the per-document expansions, each from the empty
anchor table -/
theorem docs_pump_sound (L : AliasLimits) (ds : List (LNode × Bool × Loc × Loc)) (l0 l1 : Loc) (fuel : Nat)
    (evs : List Ev) (p' : Pump) (hne : ds ≠ [])
    (h : pumpAll fuel (initPump L) (streamOf ds l0 l1) [] = some (evs, none, p')) : expandDocs ds = .ok evs := by
  unfold streamOf initPump at h
  obtain ⟨q, hq, hstart⟩ := Lemmas.C11.stream_first L l0 l1 ds
  rcases Lemmas.C11.docs_outcome L l1 ds q hq (fun h => absurd h hne) with
    ⟨evs', q', he, hends⟩ | ⟨es, err, q', hstops⟩
  · rw [he, (Prod.mk.inj (Lemmas.C02.run_of_ends (Lemmas.C02.Ends.of_eq hstart hends) h)).1]
  · cases Lemmas.C02.run_of_stops (Lemmas.C02.Stops.of_eq hstart hstops) h

-- the parameter `id` is bound and occurs nowhere else in the statement
set_option linter.unusedVariables false in
/-- (T) anchors_not_visible_across_docs: a document that aliases an anchor defined only in an EARLIER
document is an error — never a stale value. -/
theorem alias_to_earlier_document_is_error (L : AliasLimits) (d1 d2 : LNode) (l0 l1 a b c d : Loc)
    (id : Nat) (aloc : Loc) (fuel : Nat) (evs : List Ev) (p' : Pump)
    (h2 : expand [] [] d2 = .error (.unknown aloc)) :
    pumpAll fuel (initPump L) (streamOf [(d1, false, a, b), (d2, true, c, d)] l0 l1) [] ≠ some (evs, none, p') := by
  intro hrun
  have he := docs_pump_sound L _ l0 l1 fuel evs p' (by simp) hrun
  simp only [expandDocs, h2] at he
  cases h1 : expand [] [] d1 <;> simp [h1] at he

/-- (T) pump_doc_state_reset: whatever the pump has accumulated, once a document boundary has been
processed the per-document state is the initial one (budget, limits, flags and last location aside). -/
theorem pump_doc_state_reset (p : Pump) :
    let q := p.resetDocumentState
    q.inject = [] ∧ q.recStack = [] ∧ q.anchors = [] ∧ q.perAnchor = [] ∧ q.totalReplayed = 0 ∧
    q.budget = p.budget ∧ q.limits = p.limits := by
  simp [Pump.resetDocumentState]

/-- (T) the recovery path leaves a clean per-document state when it finds the next document, and reports
"no further document" at a scan error or at the end of the stream. -/
theorem skip_to_next_document_resets (p : Pump) (inp : List RawItem) (p' : Pump) (rest : List RawItem)
    (h : skipToNextDocument p inp = (true, p', rest)) :
    p'.look = none ∧ p'.inject = [] ∧ p'.recStack = [] ∧ p'.anchors = [] ∧ p'.perAnchor = [] ∧
    p'.totalReplayed = 0 ∧ p'.producedAny = false ∧
    ∃ pre b l, inp = pre ++ .ev (.docStart b) l :: rest ∧ ∀ x ∈ pre, ∀ b' l', x ≠ .ev (.docStart b') l' := by
  unfold skipToNextDocument at h
  obtain ⟨h1, h2, h3, h4, h5, h6, h7, h8⟩ := Lemmas.C11.skipLoop_found inp _ p' rest h
  exact ⟨h1, h2, h3, h4, h5, h6, h7, h8⟩

theorem skip_stops_at_scan_error (p : Pump) (pre : List RawItem) (ua : Bool) (l : Loc) (rest : List RawItem)
    (hpre : ∀ x ∈ pre, (∀ b' l', x ≠ .ev (.docStart b') l') ∧ (∀ l', x ≠ .ev .streamEnd l') ∧ (∀ u l', x ≠ .err u l')) :
    (skipToNextDocument p (pre ++ .err ua l :: rest)).1 = false := by
  unfold skipToNextDocument
  exact Lemmas.C11.skipLoop_err pre ua l rest hpre _

/-- (T; `single_rejects_second_document` in the plan of DESIGN.md section 5) if, after the value, the pump can
deliver one more event, the single-document entry points return `MultipleDocuments` — never the value. -/
theorem single_rejects_trailing_event (c c' : Cur) (e : Ev) (h : c.peek = .ok (some e) c') :
    ∃ l, enforceSingle c = some ⟨"MultipleDocuments", l, 0⟩ := by
  unfold enforceSingle
  rw [h]
  exact ⟨_, rfl⟩

/-- (T) read_iter_terminates: the iterator's item list stabilises — beyond some number of `next` calls it
only returns `None` (the list no longer grows), for every stream and type. -/
theorem read_iter_terminates (cfg : Cfg) (ty : Ty) (p : Pump) (items : List RawItem) :
    ∃ n, ∀ k, iterLoop cfg ty (n + k) p items [] = iterLoop cfg ty n p items [] := by
  obtain ⟨n, hn⟩ := Lemmas.C11.iter_stabilises cfg ty p items
  exact ⟨n, fun k => hn k []⟩

-- the hypothesis `hb` is part of the statement; the proof does not use it
set_option linter.unusedVariables false in
/-- (T) iter_eq_batch: when the batch function succeeds (no document fails), the iterator — which differs
only in the budget policy — yields exactly the same values, in order (stated without a budget). -/
theorem iter_eq_batch (cfg : Cfg) (ty : Ty) (p : Pump) (items : List RawItem) (vs : List Val)
    (hb : p.budget = none) (h : fromMultiple cfg ty p items = .ok vs) :
    readIter cfg ty p items = vs.map .ok := by
  unfold fromMultiple at h
  unfold readIter
  exact Lemmas.C11.multi_iter cfg ty _ p items [] vs h

-- (E) non-vacuity: two documents re-using the same anchor id space; the second does not see the first's table
def docA : LNode := .seq 0 none 10 19 [.scalar ['x'] .plain 1 none 11, .alias 1 12]
def docB : LNode := .seq 0 none 30 39 [.alias 1 31]
def lim : AliasLimits := { maxTotalReplayedEvents := 5, maxReplayStackDepth := 1, maxAliasExpansionsPerAnchor := 5 }
example : (pumpAll 100 (initPump lim) (streamOf [(docA, false, 2, 3), (docA, true, 4, 5)] 1 9) []).map (fun x => (x.1.length, x.2.1)) = some (8, none) := by
  decide
example : (pumpAll 100 (initPump lim) (streamOf [(docA, false, 2, 3), (docB, true, 4, 5)] 1 9) []).map (·.2.1) = some (some (.unknownAnchor 31)) := by
  decide

-- (E) regression, former witness 1 against termination: a stray `]` at the document root read as `()` — one
-- error item, then the iterator stops (before the repair: `Ok(())` for ever)
example : iterLoop {} .unit 7 (initPump Lemmas.C11.cexLimits) [.ev .seqEnd 1] [] =
    [.error ⟨"UnexpectedSequenceEnd", 1, 0⟩] := Lemmas.C11.cex_now 6
example : readIter {} .unit (initPump Lemmas.C11.cexLimits) [.ev .seqEnd 1] =
    [.error ⟨"UnexpectedSequenceEnd", 1, 0⟩] := Lemmas.C11.cex_now 10

-- (E) regression, former witness 2: the well-formed document `[[]]` read as `Option<()>`-like — two values, then
-- the outer `]` is an error item and the iterator stops (before the repair: `Ok(None)` for ever); the batch
-- entry point returns that error
example : iterLoop {} (.option (.tuple [])) 50 (initPump Lemmas.C11.cexLimits)
      (streamOf [(.seq 0 none 10 19 [.seq 0 none 11 12 []], false, 2, 3)] 1 9) [] =
    [.ok (.some (.seq [])), .ok (.some (.seq [])), .error ⟨"UnexpectedSequenceEnd", 19, 0⟩] :=
  Lemmas.C11.wf_now 47
example : readIter {} (.option (.tuple [])) (initPump Lemmas.C11.cexLimits)
      (streamOf [(.seq 0 none 10 19 [.seq 0 none 11 12 []], false, 2, 3)] 1 9) =
    [.ok (.some (.seq [])), .ok (.some (.seq [])), .error ⟨"UnexpectedSequenceEnd", 19, 0⟩] :=
  Lemmas.C11.wf_now 15
example : fromMultiple {} (.option (.tuple [])) (initPump Lemmas.C11.cexLimits)
      (streamOf [(.seq 0 none 10 19 [.seq 0 none 11 12 []], false, 2, 3)] 1 9) =
    .error ⟨"UnexpectedSequenceEnd", 19, 0⟩ := Lemmas.C11.wf_batch_now

#print axioms docs_pump_eq_concat
#print axioms alias_to_earlier_document_is_error
#print axioms pump_doc_state_reset
#print axioms skip_to_next_document_resets
#print axioms skip_stops_at_scan_error
#print axioms single_rejects_trailing_event
#print axioms read_iter_terminates
#print axioms iter_eq_batch

end SaphyrVerif.Props.C11
