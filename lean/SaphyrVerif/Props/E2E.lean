import SaphyrVerif.Props.C02
import SaphyrVerif.Props.C05
import SaphyrVerif.Lemmas.CurSimMain
import SaphyrVerif.Lemmas.CurSimPump
import SaphyrVerif.Lemmas.CurSimTree
import SaphyrVerif.Lemmas.CurSimVal
/-!
# E2E — the typed deserializer cannot tell a live cursor from a replay cursor

The composition of C02 (the pump delivers the expansion of the document: every
alias replaced by a copy of its anchored node) and C05 (over a REPLAY cursor on the events of a tree the
typed deserializer computes `Spec.interp`): the typed deserializer (`Model/De.lean`: the functions of the mutual
block — compared in `Lemmas.CurSim.SimA`, 23 fields, all but `deserKey`, which is given no cursor and no location —
and the scalar leaves) touches its cursor only through `next` / `peek` / `lastLoc` /
`refLoc` / `atAlias`; two cursors that *serve the same events* (`Sim`) are indistinguishable for it up to locations
in error payloads.  Hence alias transparency holds at the level of typed VALUES, and the C05 theorems
apply to real documents with anchors and aliases.

What is compared, precisely:
* `next` / `peek`: same answer on both sides, related successor cursors (`sim_next`, `sim_peek`).
* `lastLoc`: agrees right after a `next` that delivered an event (`lastLoc_after_next`, for every
  cursor); it does NOT agree after a `peek` (a live pump moves `last_location` to the peeked event, a
  replay cursor does not — `lastLoc_differs_after_peek`), nor at the very beginning.
* `refLoc`: does NOT agree (a live pump reports the alias site while it replays a buffer,
  `refLoc_differs_in_replay`).
* `atAlias`: does NOT agree (a replay cursor always answers `false`); it only selects the location of the
  `DuplicateMappingKey` error in `nextKey`.
* All of them only flow into error payloads, into the `ref` field of pending entries / the buffered value of the
  map access (compared modulo that field: `Lemmas.CurSim.MRel`), and from there again only into error
  payloads (`attach_alias_locations_if_missing`).  Results are therefore compared by `sameVal`: both
  succeed with the SAME value and related cursors, or both fail (the errors may differ in location and,
  through `AliasError`, in kind; never in whether it is an error: `outcome_kind_preserved`).
  `KeyNode`s (fingerprint, recorded events, start location) are EQUAL on both sides.
-/
namespace SaphyrVerif.Props.E2E
open SaphyrVerif SaphyrVerif.Scalars SaphyrVerif.Pump SaphyrVerif.De SaphyrVerif.Spec
open SaphyrVerif.Lemmas.CurSim (Sim Serves sameVal RV)
open SaphyrVerif.Lemmas.C02 (noFoldedIndent)
open SaphyrVerif.Props.C02 (initPump)
open SaphyrVerif.Props.C05 (deserTop noKemnKeys tupleFree)

/-- (T) cursor simulation, `peek`: related cursors answer `peek` with the same event (or end of input),
never with an error, and stay related. -/
theorem sim_peek {c c' : Cur} (h : Sim c c') :
    ∃ o d d', c.peek = .ok o d ∧ c'.peek = .ok o d' ∧ Sim d d' := h.peek

/-- (T) cursor simulation, `next`. -/
theorem sim_next {c c' : Cur} (h : Sim c c') :
    ∃ o d d', c.next = .ok o d ∧ c'.next = .ok o d' ∧ Sim d d' := h.next

/-- (T) a replay cursor is related to every replay cursor over the same buffer at the same index, whatever
the reference locations are (`ReplayEvents::with_reference`). -/
theorem sim_replay (buf : List Ev) (idx : Nat) (ref ref' : Option Loc) :
    Sim (.replay buf idx ref) (.replay buf idx ref') := Sim.replay buf idx ref ref'

/-- (T) live versus replay: a live cursor whose pump (empty look-ahead slot, no budget enforcer) delivers,
without error, exactly the events `evs.drop i` and then end of input for good, is related to the replay
cursor `.replay evs i none`. -/
theorem sim_live_replay_at {p : Pump} {inp : List RawItem} {evs : List Ev} {i : Nat}
    (hl : p.look = none) (hb : p.budget = none) (hr : Lemmas.CurSim.Run p inp (evs.drop i)) :
    Sim (.live p inp) (.replay evs i none) :=
  Sim.of_serves (Lemmas.CurSim.serves_live hl hb hr) none

/-- (T) `lastLoc`: right after a `next` that delivered an event the last location is the location of that
event — for every cursor, live or replay; so related cursors agree on `lastLoc` at these positions. -/
theorem lastLoc_after_next (c d : Cur) (e : Ev) (h : c.next = .ok (some e) d) : d.lastLoc = e.loc := by
  cases c with
  | live p inp =>
    simp only [Cur.next] at h
    rcases hn : Pump.next p inp with ⟨s, p', rest⟩
    rw [hn] at h
    cases s with
    | event e' =>
      simp only [R.ok.injEq, Option.some.injEq] at h
      obtain ⟨rfl, rfl⟩ := h
      simp only [Cur.lastLoc]
      unfold Pump.next at hn
      split at hn
      · simp only [Prod.mk.injEq, Step.event.injEq] at hn
        obtain ⟨rfl, rfl, rfl⟩ := hn
        rfl
      · exact (nextImpl_event hn).1
    | eof => simp at h
    | error e' => simp at h
  | replay buf idx ref =>
    simp only [Cur.next] at h
    cases hg : buf[idx]? with
    | none => rw [hg] at h; simp at h
    | some e' =>
      rw [hg] at h
      simp only [R.ok.injEq, Option.some.injEq] at h
      obtain ⟨rfl, rfl⟩ := h
      simp [Cur.lastLoc, hg]

/-- the document `[&1 x, *1]` with every item at its own location -/
def locDemo : LNode := .seq 0 none 10 19 [.scalar ['x'] .plain 1 none 11, .alias 1 12]
def locDemoL : AliasLimits := { maxTotalReplayedEvents := 10, maxReplayStackDepth := 1, maxAliasExpansionsPerAnchor := 10 }

def rcur {α : Type} : R α → Cur
  | .ok _ c => c
  | .err _ c => c

/-- (F, by design) `lastLoc` after `next` then `peek`: the live pump has already moved to the peeked event
(location 11), the replay cursor is still at the event taken last (location 10). -/
theorem lastLoc_differs_after_peek :
    (rcur (Cur.peek (rcur (Cur.next (.live (initPump locDemoL) (docStream locDemo 1 2 3 4)))))).lastLoc = 11 ∧
    (rcur (Cur.peek (rcur (Cur.next (.replay [.seqStart 0 0 none 10, .scalar ['x'] 0 none .plain 1 11,
        .scalar ['x'] 0 none .plain 1 11, .seqEnd 19] 0 none))))).lastLoc = 10 := by
  decide

/-- (F, by design) `refLoc` while the alias `*1` (at location 12) is replayed: the live pump reports the
alias site 12, the plain replay cursor the location 11 of the (copied) event. -/
theorem refLoc_differs_in_replay :
    (rcur (Cur.peek (rcur (Cur.next (rcur (Cur.next
      (.live (initPump locDemoL) (docStream locDemo 1 2 3 4)))))))).refLoc = 12 ∧
    (rcur (Cur.peek (rcur (Cur.next (rcur (Cur.next
      (.replay [.seqStart 0 0 none 10, .scalar ['x'] 0 none .plain 1 11,
        .scalar ['x'] 0 none .plain 1 11, .seqEnd 19] 0 none))))))).refLoc = 11 := by
  decide

/-- (T) deser_live_eq_replay: the typed deserializer maps related cursors to the same value (and related
cursors), or fails on both — for ALL target types, ALL fuel values, all key flags. -/
theorem deser_live_eq_replay (fuel : Nat) (cfg : Cfg) (ty : Ty) {c c' : Cur} (h : Sim c c') :
    sameVal (deser fuel cfg ty false false c) (deser fuel cfg ty false false c') :=
  (Lemmas.CurSim.simA fuel).deser cfg ty false false h

/-- (T) the same with arbitrary key flags (`in_key`, `key_empty_map_node`) -/
theorem deser_sim (fuel : Nat) (cfg : Cfg) (ty : Ty) (inKey kemn : Bool) {c c' : Cur} (h : Sim c c') :
    sameVal (deser fuel cfg ty inKey kemn c) (deser fuel cfg ty inKey kemn c') :=
  (Lemmas.CurSim.simA fuel).deser cfg ty inKey kemn h

/-- (T) … and for every function of the mutual block (`capture*`, the merge machinery, `skip*`, sequences,
the map access `nextKey` / `nextValue` with states equal up to reference locations, enums). -/
theorem block_sim (fuel : Nat) : Lemmas.CurSim.SimA fuel := Lemmas.CurSim.simA fuel

/-- (T) outcome-kind preservation: whether the call is an error never depends on `refLoc` / `lastLoc`. -/
theorem outcome_kind_preserved (fuel : Nat) (cfg : Cfg) (ty : Ty) {c c' : Cur} (h : Sim c c') :
    (∃ v d, deser fuel cfg ty false false c = .ok v d) ↔ (∃ v d', deser fuel cfg ty false false c' = .ok v d') :=
  (deser_live_eq_replay fuel cfg ty h).isOk_iff

/-- the live cursor at the start of a single-document stream (positioned at the root node: the stream and
document start markers are skipped by the first `next_impl`) is related to the replay cursor over the
expansion of the document -/
theorem doc_sim (L : AliasLimits) (t : LNode) (l0 l1 l2 l3 : Loc) (r : Exp)
    (hnf : noFoldedIndent t = true) (hexp : expand [] [] t = .ok r)
    (hL1 : 1 ≤ L.maxReplayStackDepth) (hL2 : r.replayed ≤ L.maxTotalReplayedEvents)
    (hL3 : ∀ id, aliasCount id t ≤ L.maxAliasExpansionsPerAnchor) :
    Sim (.live (initPump L) (docStream t l0 l1 l2 l3)) (.replay r.evs 0 none) :=
  Lemmas.CurSim.sim_live_replay rfl rfl
    (Lemmas.CurSim.run_docStream L t l0 l1 l2 l3 r hnf hexp hL1 hL2 hL3) none

/-- the document-level check of the single-document entry points on the LIVE cursor (the twin of
`Props.C05.deserTop`): the value, then `peek` must see end of input -/
def deserTopLive (fuel : Nat) (cfg : Cfg) (ty : Ty) (p : Pump) (inp : List RawItem) : Option Val :=
  match deser fuel cfg ty false false (.live p inp) with
  | .ok v c =>
    match c.peek with
    | .ok none _ => some v
    | _ => none
  | .err _ _ => none

/-- (T) typed_alias_transparent (headline, cursor form): for every document tree whose expansion exists
and stays within the alias limits (the hypotheses of `pump_eq_expand_partial`), every configuration, every
target type and EVERY fuel value, the typed deserializer on the live cursor over the document and the
typed deserializer on a replay cursor over the expansion (= the document with every alias replaced by a
copy of its anchored node) agree: same value and related final cursors, or both fail. -/
theorem typed_alias_transparent (L : AliasLimits) (t : LNode) (l0 l1 l2 l3 : Loc) (r : Exp)
    (hnf : noFoldedIndent t = true) (hexp : expand [] [] t = .ok r)
    (hL1 : 1 ≤ L.maxReplayStackDepth) (hL2 : r.replayed ≤ L.maxTotalReplayedEvents)
    (hL3 : ∀ id, aliasCount id t ≤ L.maxAliasExpansionsPerAnchor)
    (cfg : Cfg) (ty : Ty) (fuel : Nat) :
    sameVal (deser fuel cfg ty false false (.live (initPump L) (docStream t l0 l1 l2 l3)))
      (deser fuel cfg ty false false (.replay r.evs 0 none)) :=
  deser_live_eq_replay fuel cfg ty (doc_sim L t l0 l1 l2 l3 r hnf hexp hL1 hL2 hL3)

theorem deserTop_of_sameVal {fuel : Nat} {cfg : Cfg} {ty : Ty} {p : Pump} {inp : List RawItem} {evs : List Ev}
    (h : sameVal (deser fuel cfg ty false false (.live p inp)) (deser fuel cfg ty false false (.replay evs 0 none))) :
    deserTopLive fuel cfg ty p inp = deserTop fuel cfg ty evs := by
  unfold deserTopLive deserTop
  revert h
  generalize deser fuel cfg ty false false (.live p inp) = x
  generalize deser fuel cfg ty false false (.replay evs 0 none) = y
  intro h
  cases h with
  | ok hr hs =>
    cases hr
    obtain ⟨o, d, d', h1, h2, -⟩ := hs.peek
    simp only [h1, h2]
    cases o <;> rfl
  | err => rfl

/-- (T) typed_alias_transparent (document level): with the end-of-document check of the single-document
entry points, live and replay yield the same `Option Val`, for every fuel. -/
theorem typed_alias_transparent_top (L : AliasLimits) (t : LNode) (l0 l1 l2 l3 : Loc) (r : Exp)
    (hnf : noFoldedIndent t = true) (hexp : expand [] [] t = .ok r)
    (hL1 : 1 ≤ L.maxReplayStackDepth) (hL2 : r.replayed ≤ L.maxTotalReplayedEvents)
    (hL3 : ∀ id, aliasCount id t ≤ L.maxAliasExpansionsPerAnchor)
    (cfg : Cfg) (ty : Ty) (fuel : Nat) :
    deserTopLive fuel cfg ty (initPump L) (docStream t l0 l1 l2 l3) = deserTop fuel cfg ty r.evs :=
  deserTop_of_sameVal (typed_alias_transparent L t l0 l1 l2 l3 r hnf hexp hL1 hL2 hL3 cfg ty fuel)

/-- (T) alias transparency of typed values, stated between two documents: documents with the same
expansion (for instance a document with aliases and the same document with every alias written out as a
copy of its anchored node) deserialize to the same typed value — for every type, configuration and fuel. -/
theorem typed_value_depends_only_on_expansion (L L' : AliasLimits) (t t' : LNode) (l0 l1 l2 l3 l0' l1' l2' l3' : Loc)
    (r r' : Exp) (hnf : noFoldedIndent t = true) (hnf' : noFoldedIndent t' = true)
    (hexp : expand [] [] t = .ok r) (hexp' : expand [] [] t' = .ok r') (hsame : r.evs = r'.evs)
    (hL1 : 1 ≤ L.maxReplayStackDepth) (hL2 : r.replayed ≤ L.maxTotalReplayedEvents)
    (hL3 : ∀ id, aliasCount id t ≤ L.maxAliasExpansionsPerAnchor)
    (hL1' : 1 ≤ L'.maxReplayStackDepth) (hL2' : r'.replayed ≤ L'.maxTotalReplayedEvents)
    (hL3' : ∀ id, aliasCount id t' ≤ L'.maxAliasExpansionsPerAnchor)
    (cfg : Cfg) (ty : Ty) (fuel : Nat) :
    deserTopLive fuel cfg ty (initPump L) (docStream t l0 l1 l2 l3) =
      deserTopLive fuel cfg ty (initPump L') (docStream t' l0' l1' l2' l3') := by
  rw [typed_alias_transparent_top L t l0 l1 l2 l3 r hnf hexp hL1 hL2 hL3,
    typed_alias_transparent_top L' t' l0' l1' l2' l3' r' hnf' hexp' hL1' hL2' hL3', hsame]

/-- (T) the bridge between the two specifications: the events of the expansion are the flattening of
exactly one tree of logical events, the one `treeOf` parses back. -/
theorem expansion_tree (t : LNode) (r : Exp) (hexp : expand [] [] t = .ok r) :
    ∃ n : ENode, treeOf r.evs = some n ∧ r.evs = eflatten n :=
  Lemmas.CurSim.expand_treeOf t r hexp

theorem evs_of_treeOf {t : LNode} {r : Exp} {n : ENode} (hexp : expand [] [] t = .ok r)
    (hn : treeOf r.evs = some n) : r.evs = eflatten n := by
  obtain ⟨n', hn', he⟩ := expansion_tree t r hexp
  rw [hn] at hn'
  cases hn'
  exact he

/-- `typed_alias_transparent_top` with the tree of the expansion named: the live run over the document is the replay run
over the flattening of that tree, which is what the theorems of `Props/C05.lean` speak of. -/
theorem deserTopLive_eq_flat (L : AliasLimits) (t : LNode) (l0 l1 l2 l3 : Loc) (r : Exp) (n : ENode)
    (hnf : noFoldedIndent t = true) (hexp : expand [] [] t = .ok r)
    (hL1 : 1 ≤ L.maxReplayStackDepth) (hL2 : r.replayed ≤ L.maxTotalReplayedEvents)
    (hL3 : ∀ id, aliasCount id t ≤ L.maxAliasExpansionsPerAnchor)
    (hn : treeOf r.evs = some n)
    (cfg : Cfg) (ty : Ty) (fuel : Nat) :
    deserTopLive fuel cfg ty (initPump L) (docStream t l0 l1 l2 l3) = deserTop fuel cfg ty (eflatten n) := by
  rw [typed_alias_transparent_top L t l0 l1 l2 l3 r hnf hexp hL1 hL2 hL3, evs_of_treeOf hexp hn]

/-- (T) typed_alias_transparent (specification form, soundness — ALL types, ALL fuel): if the live run over
the document accepts with value `v`, then `v` is the position-faithful interpretation `Spec.interp` of the
tree of the expansion (the tree `treeOf r.evs` of the document with every alias replaced by a copy of its
anchored node). -/
theorem typed_alias_transparent_sound (L : AliasLimits) (t : LNode) (l0 l1 l2 l3 : Loc) (r : Exp) (n : ENode)
    (hnf : noFoldedIndent t = true) (hexp : expand [] [] t = .ok r)
    (hL1 : 1 ≤ L.maxReplayStackDepth) (hL2 : r.replayed ≤ L.maxTotalReplayedEvents)
    (hL3 : ∀ id, aliasCount id t ≤ L.maxAliasExpansionsPerAnchor)
    (hn : treeOf r.evs = some n) (hk : noKemnKeys n = true)
    (cfg : Cfg) (ty : Ty) (fuel : Nat) (v : Val)
    (h : deserTopLive fuel cfg ty (initPump L) (docStream t l0 l1 l2 l3) = some v) :
    interp cfg ty n = some v := by
  rw [deserTopLive_eq_flat L t l0 l1 l2 l3 r n hnf hexp hL1 hL2 hL3 hn] at h
  exact Props.C05.deser_top_sound cfg ty n hk fuel v h

/-- (T) typed_alias_transparent (specification form, as one equation): for all large enough fuel the live run over
the document IS the specification on the tree of the expansion (same value, or both reject) — every type.  The
completeness theorems and the two equivalences of `typed_alias_transparent_interp_all` are read off it. -/
theorem typed_alias_transparent_eq_interp (L : AliasLimits) (t : LNode) (l0 l1 l2 l3 : Loc) (r : Exp) (n : ENode)
    (hnf : noFoldedIndent t = true) (hexp : expand [] [] t = .ok r)
    (hL1 : 1 ≤ L.maxReplayStackDepth) (hL2 : r.replayed ≤ L.maxTotalReplayedEvents)
    (hL3 : ∀ id, aliasCount id t ≤ L.maxAliasExpansionsPerAnchor)
    (hn : treeOf r.evs = some n) (hk : noKemnKeys n = true)
    (cfg : Cfg) (ty : Ty) :
    ∃ N, ∀ fuel, N ≤ fuel → deserTopLive fuel cfg ty (initPump L) (docStream t l0 l1 l2 l3) = interp cfg ty n := by
  simpa only [deserTopLive_eq_flat L t l0 l1 l2 l3 r n hnf hexp hL1 hL2 hL3 hn] using
    Props.C05.deser_top_eq_interp cfg ty n hk

/-- (T) the negative clause on the live run: a sequence of the wrong length at a tuple position anywhere in the
tree of the expansion (`Spec.SubPos`; the sequence may itself come from an alias) makes the live run over the
document reject, for every fuel. -/
theorem typed_alias_transparent_arity_mismatch (L : AliasLimits) (t : LNode) (l0 l1 l2 l3 : Loc) (r : Exp) (n : ENode)
    (hnf : noFoldedIndent t = true) (hexp : expand [] [] t = .ok r)
    (hL1 : 1 ≤ L.maxReplayStackDepth) (hL2 : r.replayed ≤ L.maxTotalReplayedEvents)
    (hL3 : ∀ id, aliasCount id t ≤ L.maxAliasExpansionsPerAnchor)
    (hn : treeOf r.evs = some n) (hk : noKemnKeys n = true)
    (cfg : Cfg) (ty : Ty) (ts : List Ty) (a tag : Nat) (rt : Option (List Char)) (l el : Loc) (items : List ENode)
    (hpos : SubPos cfg ty n (.tuple ts) (.seq a tag rt l el items)) (h : items.length ≠ ts.length) (fuel : Nat) :
    deserTopLive fuel cfg ty (initPump L) (docStream t l0 l1 l2 l3) = none := by
  rw [deserTopLive_eq_flat L t l0 l1 l2 l3 r n hnf hexp hL1 hL2 hL3 hn]
  exact Props.C05.arity_mismatch_is_error cfg ty n hk ts a tag rt l el items hpos h fuel

/-- (T) typed_alias_transparent (specification form, completeness for ALL types — tuples and tuple variants
included; the `tupleFree` hypothesis of `typed_alias_transparent_complete` is not needed): whenever the
specification assigns a value to the tree of the expansion, the live run over the document yields exactly that
value for all large enough fuel. -/
theorem typed_alias_transparent_complete_all (L : AliasLimits) (t : LNode) (l0 l1 l2 l3 : Loc) (r : Exp) (n : ENode)
    (hnf : noFoldedIndent t = true) (hexp : expand [] [] t = .ok r)
    (hL1 : 1 ≤ L.maxReplayStackDepth) (hL2 : r.replayed ≤ L.maxTotalReplayedEvents)
    (hL3 : ∀ id, aliasCount id t ≤ L.maxAliasExpansionsPerAnchor)
    (hn : treeOf r.evs = some n) (hk : noKemnKeys n = true)
    (cfg : Cfg) (ty : Ty) (v : Val) (h : interp cfg ty n = some v) :
    ∃ N, ∀ fuel, N ≤ fuel → deserTopLive fuel cfg ty (initPump L) (docStream t l0 l1 l2 l3) = some v := by
  obtain ⟨N, hN⟩ := typed_alias_transparent_eq_interp L t l0 l1 l2 l3 r n hnf hexp hL1 hL2 hL3 hn hk cfg ty
  exact ⟨N, fun fuel hf => (hN fuel hf).trans h⟩

/-- (T) typed_alias_transparent (specification form, completeness): whenever the
specification assigns a value to the tree of the expansion, the live run over the document yields exactly
that value for all large enough fuel.  The hypothesis `tupleFree` is not needed:
`typed_alias_transparent_complete_all`. -/
theorem typed_alias_transparent_complete (L : AliasLimits) (t : LNode) (l0 l1 l2 l3 : Loc) (r : Exp) (n : ENode)
    (hnf : noFoldedIndent t = true) (hexp : expand [] [] t = .ok r)
    (hL1 : 1 ≤ L.maxReplayStackDepth) (hL2 : r.replayed ≤ L.maxTotalReplayedEvents)
    (hL3 : ∀ id, aliasCount id t ≤ L.maxAliasExpansionsPerAnchor)
    (hn : treeOf r.evs = some n) (hk : noKemnKeys n = true)
    (cfg : Cfg) (ty : Ty) (hty : tupleFree ty = true) (v : Val) (h : interp cfg ty n = some v) :
    ∃ N, ∀ fuel, N ≤ fuel → deserTopLive fuel cfg ty (initPump L) (docStream t l0 l1 l2 l3) = some v :=
  typed_alias_transparent_complete_all L t l0 l1 l2 l3 r n hnf hexp hL1 hL2 hL3 hn hk cfg ty v h

/-- (T) typed_alias_transparent (headline, specification form, ALL types): `typed_alias_transparent_interp`
without the `tupleFree` hypothesis. For all large enough fuel, the typed deserializer on the live cursor over the
document yields `v` iff the replay-cursor deserializer over the expansion yields `v` iff the specification
`Spec.interp` assigns `v` to the tree of the expansion. -/
theorem typed_alias_transparent_interp_all (L : AliasLimits) (t : LNode) (l0 l1 l2 l3 : Loc) (r : Exp) (n : ENode)
    (hnf : noFoldedIndent t = true) (hexp : expand [] [] t = .ok r)
    (hL1 : 1 ≤ L.maxReplayStackDepth) (hL2 : r.replayed ≤ L.maxTotalReplayedEvents)
    (hL3 : ∀ id, aliasCount id t ≤ L.maxAliasExpansionsPerAnchor)
    (hn : treeOf r.evs = some n) (hk : noKemnKeys n = true)
    (cfg : Cfg) (ty : Ty) :
    ∃ N, ∀ fuel, N ≤ fuel → ∀ v,
      (deserTopLive fuel cfg ty (initPump L) (docStream t l0 l1 l2 l3) = some v ↔ deserTop fuel cfg ty r.evs = some v) ∧
      (deserTopLive fuel cfg ty (initPump L) (docStream t l0 l1 l2 l3) = some v ↔ interp cfg ty n = some v) := by
  -- the second equivalence rewrites to `interp cfg ty n = some v ↔ interp cfg ty n = some v`; the first holds for every fuel
  obtain ⟨N, hN⟩ := typed_alias_transparent_eq_interp L t l0 l1 l2 l3 r n hnf hexp hL1 hL2 hL3 hn hk cfg ty
  exact ⟨N, fun fuel hf v =>
    ⟨by rw [typed_alias_transparent_top L t l0 l1 l2 l3 r hnf hexp hL1 hL2 hL3], by rw [hN fuel hf]⟩⟩

/-- (T) typed_alias_transparent (specification form, tuple-free types; the headline is
`typed_alias_transparent_interp_all`, the same without `tupleFree`): for all large enough fuel, the typed
deserializer on the live cursor over the document yields `v` iff the replay-cursor deserializer over the
expansion yields `v` iff the specification `Spec.interp` assigns `v` to the tree of the expansion.
(Hypotheses: those of `pump_eq_expand_partial`; `noKemnKeys` as in the C05 theorems the
last equivalence is taken from — the first equivalence holds without it and for every fuel,
`typed_alias_transparent_top`.) -/
theorem typed_alias_transparent_interp (L : AliasLimits) (t : LNode) (l0 l1 l2 l3 : Loc) (r : Exp) (n : ENode)
    (hnf : noFoldedIndent t = true) (hexp : expand [] [] t = .ok r)
    (hL1 : 1 ≤ L.maxReplayStackDepth) (hL2 : r.replayed ≤ L.maxTotalReplayedEvents)
    (hL3 : ∀ id, aliasCount id t ≤ L.maxAliasExpansionsPerAnchor)
    (hn : treeOf r.evs = some n) (hk : noKemnKeys n = true)
    (cfg : Cfg) (ty : Ty) (hty : tupleFree ty = true) :
    ∃ N, ∀ fuel, N ≤ fuel → ∀ v,
      (deserTopLive fuel cfg ty (initPump L) (docStream t l0 l1 l2 l3) = some v ↔ deserTop fuel cfg ty r.evs = some v) ∧
      (deserTopLive fuel cfg ty (initPump L) (docStream t l0 l1 l2 l3) = some v ↔ interp cfg ty n = some v) :=
  typed_alias_transparent_interp_all L t l0 l1 l2 l3 r n hnf hexp hL1 hL2 hL3 hn hk cfg ty

/-- (T) the entry-point protocol `from_str` / `from_reader` (`Model/Entry.lean: fromSingle`: value, then
`peek` must see end of input, then `finish()`), on the live pump over the document, accepts exactly when
the replay-cursor deserializer over the expansion does, with the same value (fuel = the protocol's own
`fuelFor`). -/
theorem fromSingle_alias_transparent (L : AliasLimits) (t : LNode) (l0 l1 l2 l3 : Loc) (r : Exp)
    (hnf : noFoldedIndent t = true) (hexp : expand [] [] t = .ok r)
    (hL1 : 1 ≤ L.maxReplayStackDepth) (hL2 : r.replayed ≤ L.maxTotalReplayedEvents)
    (hL3 : ∀ id, aliasCount id t ≤ L.maxAliasExpansionsPerAnchor)
    (cfg : Cfg) (ty : Ty) :
    (Entry.fromSingle cfg ty (initPump L) (docStream t l0 l1 l2 l3)).toOption =
      deserTop (Entry.fuelFor (docStream t l0 l1 l2 l3).length) cfg ty r.evs := by
  have h := typed_alias_transparent L t l0 l1 l2 l3 r hnf hexp hL1 hL2 hL3 cfg ty
    (Entry.fuelFor (docStream t l0 l1 l2 l3).length)
  rw [Lemmas.CurSim.fromSingle_eq, deserTop]
  revert h
  generalize deser _ cfg ty false false (.live (initPump L) (docStream t l0 l1 l2 l3)) = x
  generalize deser _ cfg ty false false (.replay r.evs 0 none) = y
  intro h
  cases h with
  | ok hr hs =>
    cases hr
    obtain ⟨o, d, d', h1, h2, hs'⟩ := hs.peek
    simp only [Lemmas.CurSim.fromSingleK, Entry.enforceSingle, h1, h2]
    cases o with
    | none => simp [hs'.finish_left, Except.toOption]
    | some e => simp [Except.toOption]
  | err =>
    simp only [Lemmas.CurSim.fromSingleK]
    repeat' split
    all_goals rfl

/-! ### (E) non-vacuity: a document with one anchor and two aliases, one of them under a merge key

```yaml
base: &1 {a: 1}
derived: {<<: *1, b: 2}
again: *1
```
All hypotheses hold, and the theorems yield the concrete typed value (the merged entry `a: 1` comes from the
alias). -/

def sc (s : String) (l : Loc) : LNode := .scalar s.toList .plain 0 none l

def demo : LNode :=
  .map 0 none 10 99 [
    (sc "base" 11, .map 1 none 12 19 [(sc "a" 13, sc "1" 14)]),
    (sc "derived" 20, .map 0 none 21 29 [(sc "<<" 22, .alias 1 23), (sc "b" 24, sc "2" 25)]),
    (sc "again" 30, .alias 1 31)]

def demoL : AliasLimits := { maxTotalReplayedEvents := 8, maxReplayStackDepth := 1, maxAliasExpansionsPerAnchor := 2 }

/-- the expansion of `demo` -/
def demoR : Exp := match expand [] [] demo with
  | .ok r => r
  | .error _ => ⟨[], [], 0⟩

/-- the tree of the expansion: both aliases replaced by a copy of `{a: 1}` -/
def demoTree : ENode := (treeOf demoR.evs).getD default

def demoTy : Ty := .map .string (.map .string (.int true 32))

def demoVal : Val :=
  .map [(.str "base".toList, .map [(.str "a".toList, .int 1)]),
        (.str "derived".toList, .map [(.str "b".toList, .int 2), (.str "a".toList, .int 1)]),
        (.str "again".toList, .map [(.str "a".toList, .int 1)])]

theorem ok_of_toOption {ε α : Type} {x : Except ε α} {a : α} (h : x.toOption = some a) : x = .ok a := by
  cases x with
  | error e => cases h
  | ok b => cases h; rfl

theorem demo_expand : expand [] [] demo = .ok demoR :=
  ok_of_toOption (by decide +kernel)
theorem demo_tree : treeOf demoR.evs = some demoTree := by
  obtain ⟨n, hn, -⟩ := expansion_tree demo demoR demo_expand
  simp [demoTree, hn]
theorem demo_noFolded : noFoldedIndent demo = true := by decide
theorem demo_replayed : demoR.replayed ≤ demoL.maxTotalReplayedEvents := by decide +kernel
theorem demo_aliases : ∀ id, aliasCount id demo ≤ demoL.maxAliasExpansionsPerAnchor := by
  intro id
  simp only [demo, sc, aliasCount, aliasCountE, demoL]
  split <;> omega
example : demoR.replayed = 8 := by decide +kernel
example : demoR.evs.length = 22 := by decide +kernel
theorem demo_noKemn : noKemnKeys demoTree = true := by decide +kernel
theorem demo_tupleFree : tupleFree demoTy = true := by decide +kernel

/-- the cursor-level theorem applies … -/
example : sameVal (deser 200 {} demoTy false false (.live (initPump demoL) (docStream demo 1 2 3 4)))
    (deser 200 {} demoTy false false (.replay demoR.evs 0 none)) :=
  typed_alias_transparent demoL demo 1 2 3 4 demoR demo_noFolded demo_expand (by decide) demo_replayed demo_aliases
    {} demoTy 200

/-- … and yields the concrete value of the live run from the replay run over the expansion -/
example : deserTopLive 200 {} demoTy (initPump demoL) (docStream demo 1 2 3 4) = some demoVal := by
  rw [typed_alias_transparent_top demoL demo 1 2 3 4 demoR demo_noFolded demo_expand (by decide) demo_replayed
    demo_aliases]
  decide +kernel

/-- the specification assigns the same value to the tree of the expansion, and the completeness theorem
transports it to the live run -/
theorem demo_interp : interp {} demoTy demoTree = some demoVal := by decide +kernel
example : ∃ N, ∀ fuel, N ≤ fuel → deserTopLive fuel {} demoTy (initPump demoL) (docStream demo 1 2 3 4) = some demoVal :=
  typed_alias_transparent_complete demoL demo 1 2 3 4 demoR demoTree demo_noFolded demo_expand (by decide)
    demo_replayed demo_aliases demo_tree demo_noKemn {} demoTy demo_tupleFree demoVal demo_interp

/-- the entry-point protocol accepts the document with that value -/
example : (Entry.fromSingle {} demoTy (initPump demoL) (docStream demo 1 2 3 4)).toOption = some demoVal := by
  rw [fromSingle_alias_transparent demoL demo 1 2 3 4 demoR demo_noFolded demo_expand (by decide) demo_replayed
    demo_aliases]
  decide +kernel

/-- a second witness: `[&1 x, *1, *1]` into `Vec<String>` -/
def demoSeq : LNode := .seq 0 none 10 19 [.scalar ['x'] .plain 1 none 11, .alias 1 12, .alias 1 13]
def demoSeqL : AliasLimits := { maxTotalReplayedEvents := 2, maxReplayStackDepth := 1, maxAliasExpansionsPerAnchor := 2 }
example : deserTopLive 100 {} (.seq .string) (initPump demoSeqL) (docStream demoSeq 1 2 3 4) =
    some (.seq [.str ['x'], .str ['x'], .str ['x']]) := by decide +kernel
/-- the same document with the aliases written out has the same expansion up to … nothing: it is equal -/
def demoSeqFlat : LNode :=
  .seq 0 none 10 19 [.scalar ['x'] .plain 1 none 11, .scalar ['x'] .plain 1 none 11, .scalar ['x'] .plain 1 none 11]
example : (expand [] [] demoSeq).toOption.map (·.evs) = (expand [] [] demoSeqFlat).toOption.map (·.evs) := by decide

/-! ### (E) non-vacuity of the all-types theorems: an aliased pair read at a tuple position

```yaml
[&1 [1, 2], *1]          # into Vec<(i32, i32)>  — accepted
[&1 [1, 2, 3], *1]       # into Vec<(i32, i32)>  — rejected: surplus element, also in the aliased copy
``` -/

def demoPairs : LNode := .seq 0 none 10 19 [.seq 1 none 11 14 [sc "1" 12, sc "2" 13], .alias 1 15]
def demoPairsBad : LNode := .seq 0 none 10 19 [.seq 1 none 11 15 [sc "1" 12, sc "2" 13, sc "3" 14], .alias 1 16]
def demoPairsL : AliasLimits := { maxTotalReplayedEvents := 5, maxReplayStackDepth := 1, maxAliasExpansionsPerAnchor := 1 }
def demoPairsR : Exp := match expand [] [] demoPairs with
  | .ok r => r
  | .error _ => ⟨[], [], 0⟩
def demoPairsBadR : Exp := match expand [] [] demoPairsBad with
  | .ok r => r
  | .error _ => ⟨[], [], 0⟩
def demoPairsTree : ENode := (treeOf demoPairsR.evs).getD default
def demoPairsBadTree : ENode := (treeOf demoPairsBadR.evs).getD default
def demoPairsTy : Ty := .seq (.tuple [.int true 32, .int true 32])

theorem demoPairs_expand : expand [] [] demoPairs = .ok demoPairsR :=
  ok_of_toOption (by decide +kernel)
theorem demoPairsBad_expand : expand [] [] demoPairsBad = .ok demoPairsBadR :=
  ok_of_toOption (by decide +kernel)
theorem demoPairs_tree : treeOf demoPairsR.evs = some demoPairsTree := by
  obtain ⟨n, hn, -⟩ := expansion_tree demoPairs demoPairsR demoPairs_expand
  simp [demoPairsTree, hn]
theorem demoPairsBad_tree : treeOf demoPairsBadR.evs = some demoPairsBadTree := by
  obtain ⟨n, hn, -⟩ := expansion_tree demoPairsBad demoPairsBadR demoPairsBad_expand
  simp [demoPairsBadTree, hn]
theorem demoPairs_aliases (t : LNode) (ht : t = demoPairs ∨ t = demoPairsBad) :
    ∀ id, aliasCount id t ≤ demoPairsL.maxAliasExpansionsPerAnchor := by
  intro id
  rcases ht with rfl | rfl <;>
  · simp only [demoPairs, demoPairsBad, sc, aliasCount, aliasCountL, demoPairsL]
    split <;> omega

example : tupleFree demoPairsTy = false := by decide +kernel
/-- the specification accepts the first document, and the all-types completeness theorem transports the value to
the live run -/
example : ∃ N, ∀ fuel, N ≤ fuel → deserTopLive fuel {} demoPairsTy (initPump demoPairsL) (docStream demoPairs 1 2 3 4) =
    some (.seq [.seq [.int 1, .int 2], .seq [.int 1, .int 2]]) :=
  typed_alias_transparent_complete_all demoPairsL demoPairs 1 2 3 4 demoPairsR demoPairsTree (by decide)
    demoPairs_expand (by decide) (by decide +kernel) (demoPairs_aliases _ (Or.inl rfl)) demoPairs_tree (by decide +kernel)
    {} demoPairsTy _ (by decide +kernel)
/-- the second document is rejected by the live run for every fuel: the sub-position is the ALIASED copy -/
example (fuel : Nat) : deserTopLive fuel {} demoPairsTy (initPump demoPairsL) (docStream demoPairsBad 1 2 3 4) = none := by
  -- the tree is read off the events (`treeOf_eflatten`): evaluating `treeOf` itself is slow
  have hevs : demoPairsBadR.evs = eflatten (.seq 0 0 none 10 19
      [.seq 1 0 none 11 15 [.scalar ['1'] 0 none .plain 0 12, .scalar ['2'] 0 none .plain 0 13, .scalar ['3'] 0 none .plain 0 14],
       .seq 1 0 none 11 15 [.scalar ['1'] 0 none .plain 0 12, .scalar ['2'] 0 none .plain 0 13, .scalar ['3'] 0 none .plain 0 14]]) := by
    decide +kernel
  have htree := demoPairsBad_tree
  rw [hevs, Lemmas.CurSim.treeOf_eflatten] at htree
  refine typed_alias_transparent_arity_mismatch demoPairsL demoPairsBad 1 2 3 4 demoPairsBadR demoPairsBadTree (by decide)
    demoPairsBad_expand (by decide) (by decide +kernel) (demoPairs_aliases _ (Or.inr rfl)) demoPairsBad_tree
    (by decide +kernel) {} demoPairsTy [.int true 32, .int true 32] 1 0 none 11 15
    [.scalar ['1'] 0 none .plain 0 12, .scalar ['2'] 0 none .plain 0 13, .scalar ['3'] 0 none .plain 0 14] ?_ (by decide) fuel
  rw [← Option.some.inj htree]
  exact .seqItem (List.Mem.tail _ (List.Mem.head _)) (.here _ _)

#print axioms sim_peek
#print axioms sim_next
#print axioms sim_replay
#print axioms sim_live_replay_at
#print axioms lastLoc_after_next
#print axioms lastLoc_differs_after_peek
#print axioms refLoc_differs_in_replay
#print axioms deser_live_eq_replay
#print axioms deser_sim
#print axioms block_sim
#print axioms outcome_kind_preserved
#print axioms doc_sim
#print axioms typed_alias_transparent
#print axioms typed_alias_transparent_top
#print axioms typed_value_depends_only_on_expansion
#print axioms expansion_tree
#print axioms typed_alias_transparent_sound
#print axioms typed_alias_transparent_complete
#print axioms typed_alias_transparent_interp
#print axioms typed_alias_transparent_complete_all
#print axioms typed_alias_transparent_interp_all
#print axioms typed_alias_transparent_eq_interp
#print axioms typed_alias_transparent_arity_mismatch
#print axioms fromSingle_alias_transparent

end SaphyrVerif.Props.E2E
