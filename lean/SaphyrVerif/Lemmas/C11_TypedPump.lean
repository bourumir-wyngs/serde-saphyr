import SaphyrVerif.Lemmas.C11_TypedBase
import SaphyrVerif.Lemmas.C11_Docs
import SaphyrVerif.Lemmas.C11_Measure
import SaphyrVerif.Lemmas.CurSimTree
import SaphyrVerif.Lemmas.CurSimPump
/-!
Typed multi-document theorems (C11): runs of the pump inside one document of a stream (`RunP`), and where the parser
is meanwhile: the remaining parser items are node items of the current document followed by the rest `R` of the
stream (`J`) — which is what the recovery `skip_to_next_document` needs (`skipLoop_neutral`).

The run predicates, all "one event per call of `next_impl`", differ only in how the run ends.  `C02.Steps p inp es
p' inp'` ends anywhere and names the state reached; use it for a piece of a run.  `RunP Kp p inp es` (here) ends in
a state described by `Kp`; it is the one to use for a document inside a stream, and the others that reach an end
are instances in spirit: `CurSim.Run` ends with end of input and a quiet pump (single document, no enforcer);
`E2EBudget.BRun` is `Run` for a pump with enforcer and also asks that `finish()` be silent; `E2EBudget.BRunTo` is
`BRun` with the final pump named and `finish()` left open.  `C11B.FailRun X` ends with an error of the pump and
never reads into the items `X`.  `E2EBudget.obsRun n` lists what the enforcer is shown during the first `n` calls.

The invariants of a live cursor all have the same two cases — the look-ahead slot `look` is empty and the pump
is on a run over `l`, or `peek` has put the head of `l` there and the pump is on a run over the tail — and differ
in the run: `CurSim.LiveInv` (`Run`, no enforcer, single document), `E2EBudget.Inv2` (`BRun`), `C11B.LiveInvB L ob`
(`RunP`; `Lemmas/C11_Typed2Pump.lean`), `C11B.FailInv` (`FailRun`).
`CurSim.look_peek`, `look_next`, `live_peek`, `live_next` are the steps of the slot that all of them share.
-/
namespace SaphyrVerif.Lemmas.C11T
open SaphyrVerif SaphyrVerif.Scalars SaphyrVerif.Pump SaphyrVerif.De SaphyrVerif.Spec
open SaphyrVerif.Lemmas.C02 (Steps)

theorem suffix_split {α : Type} {x B R : List α} (h1 : x <:+ B ++ R) (h2 : R <:+ x) :
    ∃ B', x = B' ++ R ∧ B' <:+ B := by
  obtain ⟨P', rfl⟩ := h2
  obtain ⟨P, hP⟩ := h1
  refine ⟨P', rfl, P, ?_⟩
  rw [← List.append_assoc] at hP
  exact List.append_cancel_right hP

/-- a node item: skipped over by `skip_to_next_document` -/
def skipNeutral : RawItem → Bool
  | .ev (.scalar ..) _ | .ev (.seqStart ..) _ | .ev .seqEnd _ | .ev (.mapStart ..) _ | .ev .mapEnd _
  | .ev (.alias _) _ => true
  | _ => false

mutual
theorem itemsOf_neutral : ∀ t : LNode, ∀ x ∈ itemsOf t, skipNeutral x = true
  | .scalar .., x, hx => by simp [itemsOf] at hx; subst hx; rfl
  | .alias .., x, hx => by simp [itemsOf] at hx; subst hx; rfl
  | .seq a tag loc eloc items, x, hx => by
    simp only [itemsOf, List.mem_cons, List.mem_append, List.mem_nil_iff, or_false] at hx
    rcases hx with rfl | hx | rfl
    · rfl
    · exact itemsOfL_neutral items x hx
    · rfl
  | .map a tag loc eloc entries, x, hx => by
    simp only [itemsOf, List.mem_cons, List.mem_append, List.mem_nil_iff, or_false] at hx
    rcases hx with rfl | hx | rfl
    · rfl
    · exact itemsOfE_neutral entries x hx
    · rfl
theorem itemsOfL_neutral : ∀ ts : List LNode, ∀ x ∈ itemsOfL ts, skipNeutral x = true
  | [], x, hx => by simp [itemsOfL] at hx
  | t :: ts, x, hx => by
    simp only [itemsOfL, List.mem_append] at hx
    rcases hx with hx | hx
    · exact itemsOf_neutral t x hx
    · exact itemsOfL_neutral ts x hx
theorem itemsOfE_neutral : ∀ es : List (LNode × LNode), ∀ x ∈ itemsOfE es, skipNeutral x = true
  | [], x, hx => by simp [itemsOfE] at hx
  | (k, v) :: es, x, hx => by
    simp only [itemsOfE, List.mem_append] at hx
    rcases hx with (hx | hx) | hx
    · exact itemsOf_neutral k x hx
    · exact itemsOf_neutral v x hx
    · exact itemsOfE_neutral es x hx
end

theorem skipLoop_neutral (B : List RawItem) (hB : ∀ x ∈ B, skipNeutral x = true) (rest : List RawItem) :
    ∀ p : Pump, ∃ l, skipLoop p (B ++ rest) = skipLoop { p with lastLoc := l } rest := by
  induction B with
  | nil => intro p; exact ⟨p.lastLoc, rfl⟩
  | cons x B ih =>
    intro p
    have hx := hB x (List.mem_cons_self ..)
    have ih' := ih (fun y hy => hB y (List.mem_cons_of_mem _ hy))
    cases x with
    | err ua l => simp [skipNeutral] at hx
    | ev raw loc =>
      cases raw <;> simp only [skipNeutral, Bool.false_eq_true] at hx
      all_goals
        simp only [List.cons_append, skipLoop]
        obtain ⟨l, hl⟩ := ih' { p with lastLoc := loc }
        exact ⟨l, hl⟩

inductive RunP (Kp : Pump → List RawItem → Prop) : Pump → List RawItem → List Ev → Prop
  | done {p : Pump} {inp : List RawItem} : Kp p inp → RunP Kp p inp []
  | ev {p : Pump} {inp : List RawItem} {e : Ev} {p' : Pump} {inp' : List RawItem} {es : List Ev} :
      nextImpl p inp = (.event e, p', inp') → RunP Kp p' inp' es → RunP Kp p inp (e :: es)

theorem RunP.of_steps {Kp p inp es p1 inp1} (h : Steps p inp es p1 inp1) (hk : Kp p1 inp1) : RunP Kp p inp es := by
  induction h with
  | refl => exact RunP.done hk
  | cons hn _ ih => exact RunP.ev hn (ih hk)

theorem RunP.suffix {Kp : Pump → List RawItem → Prop} {R : List RawItem} (hK : ∀ p inp, Kp p inp → inp = R)
    {p inp es} (h : RunP Kp p inp es) : R <:+ inp := by
  induction h with
  | done hk => rw [hK _ _ hk]; exact List.suffix_refl _
  | @ev p inp e p' inp' es hn _ ih =>
    have := nextImpl_suffix p inp
    rw [hn] at this
    exact ih.trans this

/-- the remaining parser items: node items of the current document, then `R` (not `E2EBudget.J`, which is a
statement on the synthesized null) -/
def J (R : List RawItem) (inq : List RawItem) : Prop := ∃ B, inq = B ++ R ∧ ∀ x ∈ B, skipNeutral x = true

theorem J.step {R inq inq' : List RawItem} (h : J R inq) (h1 : inq' <:+ inq) (h2 : R <:+ inq') : J R inq' := by
  obtain ⟨B, rfl, hB⟩ := h
  obtain ⟨B', rfl, hB'⟩ := suffix_split h1 h2
  exact ⟨B', rfl, fun x hx => hB x (hB'.subset hx)⟩

end SaphyrVerif.Lemmas.C11T
