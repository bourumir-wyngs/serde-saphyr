import SaphyrVerif.Lemmas.C05_Deser
import SaphyrVerif.Lemmas.C05_Weak
/-!
C05, sequences: `deserSeqLike` for `Vec<T>` and tuples (element loops `seqElems` / `tupleElems`), null-like and
`!!binary` scalars at a sequence position.  A stop strictly inside an element remains a stop strictly inside the
sequence, by the nesting-depth invariant `Stays` of `C05_Weak`: `NodeOut.andThen`, the rule for a call on one node
followed by a continuation, which the map access uses as well (`nextValue_spec`).
-/
namespace SaphyrVerif.Lemmas.C05
open SaphyrVerif SaphyrVerif.Scalars SaphyrVerif.Pump SaphyrVerif.De SaphyrVerif.Spec

theorem listFrom_cons (f : NodeFn) (x : ENode) (xs : List ENode) :
    listFrom f (x :: xs) = match f x, listFrom f xs with
      | some v, some vs => some (v :: vs)
      | _, _ => none := by
  simp only [listFrom]; rfl

theorem listFrom_map_cons (f : NodeFn) (x : ENode) (xs : List ENode) (acc : List Val) :
    (listFrom f (x :: xs)).map (acc ++ ·) = (f x).bind fun v => (listFrom f xs).map ((acc ++ [v]) ++ ·) := by
  rw [listFrom_cons]
  cases f x <;> cases listFrom f xs <;> simp

/-- a call on the node `x` at `i` (outcome `r`), then a continuation (`y`, the two together), inside a container that
occupies `i0 … i0 + L` and goes on behind `x` with `tail`: a stop strictly inside `x` followed by a continuation that
keeps to the nesting depth (`Stays`) is a stop strictly inside the container.
`y` is the model's `match r with …`; the hypotheses about it are proved by rewriting `r` there (as for `NodeOut.bind_expect`). -/
theorem NodeOut.andThen {α β : Type} {buf : List Ev} {ref : Option Loc} {i0 L i : Nat} {x : ENode} {tail rest : List Ev}
    {k : Int} {df : Bool} {exp : Option α} {r : R α} (hr : NodeOut buf ref i (eflatten x).length df exp r)
    (h : buf.drop i = eflatten x ++ (tail ++ rest)) (hk : bal tail + k ≤ 0)
    (hi : i0 ≤ i) (hL : i + ((eflatten x).length + tail.length) ≤ i0 + L) {g : α → Option β} {y : R β}
    (herr : ∀ e c, r = .err e c → IsErr y)
    (hok : ∀ v, exp = some v → r = .ok v (.replay buf (i + (eflatten x).length) ref) → NodeOut buf ref i0 L df (g v) y)
    (hstay : ∀ v j b c', r = .ok v (.replay buf j ref) → y = .ok b c' → Stays buf ref j k c') :
    NodeOut buf ref i0 L df (exp.bind g) y := by
  rcases hr.cases with ⟨v, hv, hx⟩ | ⟨hv, e, c, hx⟩ | ⟨hv, hd, v, j, hx, h1, h2⟩ <;> subst hv
  · exact hok v rfl hx
  · exact NodeOut.of_err (herr e c hx)
  · cases hy : y with
    | err e c => exact NodeOut.of_err ⟨e, c, rfl⟩
    | ok b c' =>
      -- at `j`, inside `x`, the depth is above that at `i`; behind `tail` it is at most that less `k`, which is lower
      -- than `Stays` lets the continuation get from `j`
      obtain ⟨j', rfl, hjj, hab⟩ := hstay v j b c' hx hy
      have hin := depthAt_inside h h1 h2
      have hnode : depthAt buf (i + (eflatten x ++ tail).length) = depthAt buf i + bal tail := by
        rw [depthAt_add (a := eflatten x ++ tail) (r := rest) (by rw [h]; simp) _ (Nat.le_refl _)]
        rw [List.take_length, bal_append, (eflatten_bal x).1]; simp
      have := hab.lt_of_depth (q := i + (eflatten x ++ tail).length) (by simp; omega) (by omega)
      exact NodeOut.deficit hd (by omega) (by simp at this; omega)

theorem seqElems_step {buf : List Ev} {i : Nat} (ref : Option Loc) {x : ENode} {rest : List Ev} (fuel : Nat) (cfg : Cfg) (t : Ty)
    (acc : List Val) (h : buf.drop i = eflatten x ++ rest) :
    seqElems (fuel + 1) cfg t (.replay buf i ref) acc =
      match deser fuel cfg t false false (.replay buf i ref) with
      | .err er c => .err (attachAlias er (Cur.replay buf i ref).refLoc x.loc) c
      | .ok v c => seqElems fuel cfg t c (acc ++ [v]) := by
  obtain ⟨e, hpk, hopen, hloc⟩ := peek_replay_node ref h
  rw [seqElems, hpk, ← hloc]
  cases e <;> simp [Ev.isOpen] at hopen <;> rfl

/-- the element loop of `Vec<T>`, counted like `tupleElems_spec` from an index `i` in front of the elements (for the
caller the `SeqStart`, `a = 1`), so that the outcome is that of the enclosing sequence -/
theorem seqElems_spec (cfg : Cfg) (df : Bool) (t : Ty) (items : List ENode) (hit : ∀ it ∈ items, Ref df cfg t it) :
    ∀ {buf : List Ev} {i a : Nat} (ref : Option Loc) {el : Loc} {rest : List Ev},
    buf.drop (i + a) = eflattenL items ++ .seqEnd el :: rest →
    Evt fun fuel => ∀ acc,
      NodeOut buf ref i (a + (eflattenL items).length) df ((listFrom (interp cfg t) items).map (acc ++ ·))
        (seqElems fuel cfg t (.replay buf (i + a) ref) acc) := by
  induction items with
  | nil =>
    intro buf i a ref el rest h
    refine Evt.succ (Evt.of_forall fun fuel acc => ?_)
    simp only [eflattenL_nil, List.nil_append] at h
    rw [seqElems]
    simp [Cursor.peek_replay_of_drop ref h, listFrom, NodeOut]
  | cons x xs ih =>
    intro buf i a ref el rest h
    simp only [eflattenL_cons, List.append_assoc] at h
    refine Evt.succ (Evt.mono (Evt.and
      (hit x (List.mem_cons_self ..) buf (i + a) ref _ h)
      (ih (fun it hi => hit it (List.mem_cons_of_mem _ hi)) (buf := buf) (i := i) (a := a + (eflatten x).length) ref
        (by rw [← Nat.add_assoc]; exact Cursor.drop_add_of_drop_eq_append h)))
      fun fuel ⟨h1, h2⟩ acc => ?_)
    rw [seqElems_step ref fuel cfg t acc h, listFrom_map_cons]
    simp only [eflattenL_cons, List.length_append]
    refine h1.andThen (k := 0) h (by simp [(eflattenL_bal xs).1]) (Nat.le_add_right ..) (by omega) ?_ ?_ ?_
    · exact fun e c hx => by rw [hx]; exact ⟨_, _, rfl⟩
    · exact fun v _ hx => by rw [hx]; simpa only [Nat.add_assoc] using h2 (acc ++ [v])
    · exact fun v j vs c' hx hy => by rw [hx] at hy; exact seqElems_weak hy

theorem tupleFrom_cons (f : NodeFn) (fs : List NodeFn) (x : ENode) (xs : List ENode) :
    tupleFrom (f :: fs) (x :: xs) = match f x, tupleFrom fs xs with
      | some v, some vs => some (v :: vs)
      | _, _ => none := by
  simp only [tupleFrom]; rfl

theorem tupleFrom_map_cons (f : NodeFn) (fs : List NodeFn) (x : ENode) (xs : List ENode) (acc : List Val) :
    (tupleFrom (f :: fs) (x :: xs)).map (acc ++ ·) = (f x).bind fun v => (tupleFrom fs xs).map ((acc ++ [v]) ++ ·) := by
  rw [tupleFrom_cons]
  cases f x <;> cases tupleFrom fs xs <;> simp

theorem tupleElems_step {buf : List Ev} {i : Nat} (ref : Option Loc) {x : ENode} {rest : List Ev} (fuel : Nat) (cfg : Cfg) (t : Ty)
    (ts : List Ty) (acc : List Val) (h : buf.drop i = eflatten x ++ rest) :
    tupleElems (fuel + 1) cfg (t :: ts) (.replay buf i ref) acc =
      match deser fuel cfg t false false (.replay buf i ref) with
      | .err er c => .err (attachAlias er (Cur.replay buf i ref).refLoc x.loc) c
      | .ok v c => tupleElems fuel cfg ts c (acc ++ [v]) := by
  obtain ⟨e, hpk, hopen, hloc⟩ := peek_replay_node ref h
  rw [tupleElems, hpk, ← hloc]
  cases e <;> simp [Ev.isOpen] at hopen <;> rfl

/-- the tuple element loop, counted from an index `i` in front of the elements (`0 < a`; for the caller the `SeqStart`):
unlike `seqElems` it may stop in front of the first element left, when the types have run out -/
theorem tupleElems_spec (cfg : Cfg) (ts : List Ty) :
    ∀ (items : List ENode), (∀ it ∈ items, ∀ ty, Ref true cfg ty it) →
    ∀ {buf : List Ev} {i a : Nat} (ref : Option Loc) {el : Loc} {rest : List Ev}, 0 < a →
    buf.drop (i + a) = eflattenL items ++ .seqEnd el :: rest →
    Evt fun fuel => ∀ acc,
      NodeOut buf ref i (a + (eflattenL items).length) true ((tupleFrom (interpFns cfg ts) items).map (acc ++ ·))
        (tupleElems fuel cfg ts (.replay buf (i + a) ref) acc) := by
  induction ts with
  | nil =>
    intro items _ buf i a ref el rest ha h
    refine Evt.succ (Evt.of_forall fun fuel acc => ?_)
    rw [tupleElems, interpFns_nil]
    cases items with
    | nil => simp [tupleFrom, NodeOut]
    | cons x xs =>
      have := eflatten_length_pos x
      exact NodeOut.deficit rfl (by omega) (by simp; omega)
  | cons t ts ih =>
    intro items hit buf i a ref el rest ha h
    cases items with
    | nil =>
      refine Evt.succ (Evt.of_forall fun fuel acc => ?_)
      simp only [eflattenL_nil, List.nil_append] at h
      rw [tupleElems, interpFns_cons]
      simp [Cursor.peek_replay_of_drop ref h, tupleFrom, NodeOut]
    | cons x xs =>
      simp only [eflattenL_cons, List.append_assoc] at h
      refine Evt.succ (Evt.mono (Evt.and
        (hit x (List.mem_cons_self ..) t buf (i + a) ref _ h)
        (ih xs (fun it hi => hit it (List.mem_cons_of_mem _ hi)) (buf := buf) (i := i) (a := a + (eflatten x).length) ref (by omega)
          (by rw [← Nat.add_assoc]; exact Cursor.drop_add_of_drop_eq_append h)))
        fun fuel ⟨h1, h2⟩ acc => ?_)
      rw [tupleElems_step ref fuel cfg t ts acc h, interpFns_cons, tupleFrom_map_cons]
      simp only [eflattenL_cons, List.length_append]
      refine h1.andThen (k := 0) h (by simp [(eflattenL_bal xs).1]) (Nat.le_add_right ..) (by omega) ?_ ?_ ?_
      · exact fun e c hx => by rw [hx]; exact ⟨_, _, rfl⟩
      · exact fun v _ hx => by rw [hx]; simpa only [Nat.add_assoc] using h2 (acc ++ [v])
      · exact fun v j vs c' hx hy => by rw [hx] at hy; exact tupleElems_weak hy

/-- the end of `deserialize_seq`: consume the closing event if it is next -/
def seqFinish (vs : List Val) (c : Cur) : R Val :=
  match c.peek with
  | .err e c => .err e c
  | .ok (some (.seqEnd _)) c =>
    match c.next with
    | .err e c => .err e c
    | .ok _ c => .ok (.seq vs) c
  | .ok _ c => .ok (.seq vs) c

theorem seqFinish_end {buf : List Ev} {j : Nat} (ref : Option Loc) {el : Loc} {tl : List Ev} (vs : List Val)
    (h : buf.drop j = .seqEnd el :: tl) : seqFinish vs (.replay buf j ref) = .ok (.seq vs) (.replay buf (j + 1) ref) := by
  simp [seqFinish, Cursor.peek_replay_of_drop ref h, Cursor.next_replay_of_drop ref h]

theorem seqFinish_any (buf : List Ev) (j : Nat) (ref : Option Loc) (vs : List Val) :
    ∃ j', seqFinish vs (.replay buf j ref) = .ok (.seq vs) (.replay buf j' ref) ∧ j ≤ j' ∧ j' ≤ j + 1 := by
  simp only [seqFinish, Cur.peek]
  cases hb : buf[j]? with
  | none => exact ⟨j, by simp, by omega, by omega⟩
  | some e =>
    cases e with
    | seqEnd l => exact ⟨j + 1, by simp [Cur.next, hb], by omega, by omega⟩
    | scalar => exact ⟨j, by simp, by omega, by omega⟩
    | seqStart => exact ⟨j, by simp, by omega, by omega⟩
    | mapStart => exact ⟨j, by simp, by omega, by omega⟩
    | mapEnd => exact ⟨j, by simp, by omega, by omega⟩

theorem seqFinish_out {buf : List Ev} {ref : Option Loc} {i L : Nat} {df : Bool} {exp : Option (List Val)} {x : R (List Val)}
    {el : Loc} {rest : List Ev} (hend : buf.drop (i + (1 + L)) = .seqEnd el :: rest) (h : NodeOut buf ref i (1 + L) df exp x) :
    NodeOut buf ref i (L + 2) df (exp.map .seq)
      (match x with
        | .err e c => .err e c
        | .ok vs c => seqFinish vs c) := by
  rcases h.cases with ⟨vs, hv, hx⟩ | ⟨hv, e', c, hx⟩ | ⟨hv, hd, vs, j, hx, hj1, hj2⟩ <;> simp only [hv, hx]
  · rw [seqFinish_end ref _ hend]
    simp only [Option.map_some, NodeOut]
    congr 2; omega
  · exact NodeOut.of_err (by simp)
  · obtain ⟨j', hj', h1', h2'⟩ := seqFinish_any buf j ref vs
    rw [hj']
    exact NodeOut.deficit hd (by omega) (by omega)

theorem deserSeqLike_seqStart {buf : List Ev} {i : Nat} (ref : Option Loc) {a tag : Nat} {rt : Option (List Char)} {l : Loc}
    {tl : List Ev} (fuel : Nat) (cfg : Cfg) (shape : Ty ⊕ List Ty) (h : buf.drop i = .seqStart a tag rt l :: tl) :
    deserSeqLike (fuel + 1) cfg shape (.replay buf i ref) =
      match (match shape with
        | .inl t => seqElems fuel cfg t (.replay buf (i + 1) ref) []
        | .inr ts => tupleElems fuel cfg ts (.replay buf (i + 1) ref) []) with
      | .err e c => .err e c
      | .ok vs c => seqFinish vs c := by
  rw [deserSeqLike]
  simp only [Cursor.peek_replay_of_drop ref h, Cursor.next_replay_of_drop ref h]
  rfl

theorem deserSeqLike_mapStart {buf : List Ev} {i : Nat} (ref : Option Loc) {a : Nat} {l : Loc}
    {tl : List Ev} (fuel : Nat) (cfg : Cfg) (shape : Ty ⊕ List Ty) (h : buf.drop i = .mapStart a l :: tl) :
    IsErr (deserSeqLike fuel cfg shape (.replay buf i ref)) := by
  cases fuel with
  | zero => rw [deserSeqLike]; simp
  | succ fuel =>
    rw [deserSeqLike]
    simp [Cursor.peek_replay_of_drop ref h, Cursor.next_replay_of_drop ref h]

theorem mapM_some' {α β : Type} (g : α → β) (l : List α) : l.mapM (fun x => some (g x)) = some (l.map g) := by
  induction l with
  | nil => rfl
  | cons x l ih => simp [List.mapM_cons, ih]

theorem mapM_none' {α β : Type} (l : List α) : l.mapM (fun _ => (none : Option β)) = if l.isEmpty then some [] else none := by
  cases l <;> simp [List.mapM_cons]

/-- `!!binary` scalar at a `Vec<T>` position -/
theorem byteSeqVisit_inl (t : Ty) (data : List Nat) (c : Cur) :
    Expect (byteSeqVisit (.inl t) data c)
      (match t with
       | .int _ _ | .any => some (.seq (data.map fun b => .int (Int.ofNat b)))
       | _ => if data.isEmpty then some (.seq []) else none) c := by
  simp only [byteSeqVisit]
  cases t <;> simp only [mapM_some', mapM_none']
  case int => simp
  case any => simp
  all_goals (cases data <;> simp)

theorem seqLike_inl_scalar {buf : List Ev} {i : Nat} (ref : Option Loc) {v : List Char} {tag : Nat} {rt : Option (List Char)}
    {st : Style} {a : Nat} {l : Loc} {tl : List Ev} (fuel : Nat) (cfg : Cfg) (t : Ty)
    (h : buf.drop i = .scalar v tag rt st a l :: tl) :
    Expect (deserSeqLike (fuel + 1) cfg (.inl t) (.replay buf i ref)) (interp cfg (.seq t) (.scalar v tag rt st a l))
      (.replay buf (i + 1) ref) := by
  rw [deserSeqLike, interp]
  simp only [Cursor.peek_replay_of_drop ref h, Cursor.next_replay_of_drop ref h, isNullScalar]
  by_cases h1 : (tag == tagNull || scalarIsNullish v st) = true
  · simp [h1]
  · simp only [h1, if_false, Bool.false_eq_true]
    by_cases h2 : (tag == tagBinary) = true
    · simp only [h2, if_true]
      cases hd : Base64.decode (utf8Bytes v) with
      | none => cases t <;> simp
      | some data =>
        have := byteSeqVisit_inl t data (.replay buf (i + 1) ref)
        cases t <;> simpa using this
    · simp [h2]

theorem interp_seq_seq (cfg : Cfg) (te : Ty) (a tag : Nat) (rt : Option (List Char)) (l el : Loc) (items : List ENode) :
    interp cfg (.seq te) (.seq a tag rt l el items) = (listFrom (interp cfg te) items).map .seq := by rw [interp]

theorem interp_seq_map (cfg : Cfg) (te : Ty) (a : Nat) (l el : Loc) (es : List (ENode × ENode)) :
    interp cfg (.seq te) (.map a l el es) = none := by rw [interp]

theorem ref_seq {cfg : Cfg} {df : Bool} {te : Ty} {t : ENode}
    (hsub : ∀ a tag rt l el items, t = .seq a tag rt l el items → ∀ it ∈ items, Ref df cfg te it) :
    Ref df cfg (.seq te) t := by
  intro buf i ref rest h
  suffices hs : Evt fun fuel => NodeOut buf ref i (eflatten t).length df (interp cfg (.seq te) t)
      (deserSeqLike fuel cfg (.inl te) (.replay buf i ref)) from
    Evt.succ (hs.mono fun fuel hn => by rw [deser]; exact hn)
  cases t with
  | scalar v tag rt st a l =>
    refine Evt.succ (Evt.of_forall fun fuel => ?_)
    exact NodeOut.of_expect (by simpa using seqLike_inl_scalar ref fuel cfg te (drop_scalar h))
  | map a l el es =>
    refine Evt.of_forall fun fuel => ?_
    rw [interp_seq_map]
    exact NodeOut.of_err (deserSeqLike_mapStart ref fuel cfg _ (drop_map h))
  | seq a tag rt l el items =>
    have h' := drop_seq h
    have h1 := Cursor.drop_succ_of_drop_eq_cons h'
    refine Evt.succ (Evt.mono (seqElems_spec cfg df te items (hsub a tag rt l el items rfl) ref h1) fun fuel hn => ?_)
    rw [deserSeqLike_seqStart ref fuel cfg _ h', interp_seq_seq, C04.eflatten_seq_length]
    have hend := Cursor.drop_add_of_drop_eq_append h1
    simpa using seqFinish_out (by rw [← Nat.add_assoc]; exact hend) (hn [])

theorem zip_mapM_conv (F : Ty × Nat → Option Val)
    (hF : ∀ t b, F (t, b) = if acceptsByte t then some (Val.int (Int.ofNat b)) else none)
    (ts : List Ty) (data : List Nat) (hl : data.length = ts.length) :
    (ts.zip data).mapM F =
      if (ts.map acceptsByte).all id then some (data.map fun b => Val.int (Int.ofNat b)) else none := by
  induction ts generalizing data with
  | nil =>
    cases data with
    | nil => rfl
    | cons d ds => simp at hl
  | cons t ts ih =>
    cases data with
    | nil => simp at hl
    | cons d ds =>
      have := ih ds (by simpa using hl)
      simp only [List.zip_cons_cons, List.mapM_cons, this, hF]
      by_cases ha : acceptsByte t = true <;> by_cases hr : (ts.map acceptsByte).all id = true <;>
        simp [ha, hr]

theorem seqLike_inr_scalar {buf : List Ev} {i : Nat} (ref : Option Loc) {v : List Char} {tag : Nat} {rt : Option (List Char)}
    {st : Style} {a : Nat} {l : Loc} {tl : List Ev} (fuel : Nat) (cfg : Cfg) (ts : List Ty)
    (h : buf.drop i = .scalar v tag rt st a l :: tl) :
    Expect (deserSeqLike (fuel + 1) cfg (.inr ts) (.replay buf i ref))
      (tupleNode (interpFns cfg ts) (ts.map acceptsByte) (.scalar v tag rt st a l)) (.replay buf (i + 1) ref) := by
  have hlen : (interpFns cfg ts).isEmpty = ts.isEmpty := by
    cases ts with
    | nil => rw [interpFns_nil]; rfl
    | cons t ts => rw [interpFns_cons]; rfl
  rw [deserSeqLike]
  simp only [Cursor.peek_replay_of_drop ref h, Cursor.next_replay_of_drop ref h, tupleNode, isNullScalar, hlen]
  by_cases h1 : (tag == tagNull || scalarIsNullish v st) = true
  · simp only [h1, if_true]
    cases ts.isEmpty <;> simp
  · simp only [h1, if_false, Bool.false_eq_true]
    by_cases h2 : (tag == tagBinary) = true
    · simp only [h2, if_true]
      cases hd : Base64.decode (utf8Bytes v) with
      | none => simp
      | some data =>
        simp only [byteSeqVisit, List.length_map]
        by_cases hl : data.length = ts.length
        · simp only [hl, Nat.lt_irrefl, if_false, beq_self_eq_true, Bool.true_and, bne_self_eq_false, Bool.false_eq_true]
          generalize hF : (fun p : Ty × Nat => _) = F
          have hz := zip_mapM_conv F (fun t b => by rw [← hF]; cases t <;> rfl) ts data hl
          rw [hz]
          by_cases hall : (ts.map acceptsByte).all id = true <;> simp [hall]
        · have hne : (data.length == ts.length) = false := by simpa using hl
          simp only [hne, Bool.false_and, Bool.false_eq_true, if_false]
          split
          · simp
          · split
            · have : (data.length != ts.length) = true := by simpa using hl
              simp [this]
            · simp
    · simp [h2]

theorem interp_tuple (cfg : Cfg) (ts : List Ty) (t : ENode) :
    interp cfg (.tuple ts) t = tupleNode (interpFns cfg ts) (ts.map acceptsByte) t := by rw [interp]

theorem ref_tuple {cfg : Cfg} {ts : List Ty} {t : ENode}
    (hsub : ∀ a tag rt l el items, t = .seq a tag rt l el items → ∀ it ∈ items, ∀ ty, Ref true cfg ty it) :
    Ref true cfg (.tuple ts) t := by
  intro buf i ref rest h
  suffices hs : Evt fun fuel => NodeOut buf ref i (eflatten t).length true (tupleNode (interpFns cfg ts) (ts.map acceptsByte) t)
      (deserSeqLike fuel cfg (.inr ts) (.replay buf i ref)) from
    Evt.succ (hs.mono fun fuel hn => by rw [deser, interp_tuple]; exact hn)
  cases t with
  | scalar v tag rt st a l =>
    refine Evt.succ (Evt.of_forall fun fuel => ?_)
    exact NodeOut.of_expect (by simpa using seqLike_inr_scalar ref fuel cfg ts (drop_scalar h))
  | map a l el es =>
    refine Evt.of_forall fun fuel => ?_
    exact NodeOut.of_err (deserSeqLike_mapStart ref fuel cfg _ (drop_map h))
  | seq a tag rt l el items =>
    have h' := drop_seq h
    have h1 := Cursor.drop_succ_of_drop_eq_cons h'
    refine Evt.succ (Evt.mono (tupleElems_spec cfg ts items (hsub a tag rt l el items rfl) ref (Nat.lt_succ_self 0) h1)
      fun fuel hn => ?_)
    rw [deserSeqLike_seqStart ref fuel cfg _ h', C04.eflatten_seq_length]
    have hend := Cursor.drop_add_of_drop_eq_append h1
    simpa [tupleNode] using seqFinish_out (by rw [← Nat.add_assoc]; exact hend) (hn [])

end SaphyrVerif.Lemmas.C05
