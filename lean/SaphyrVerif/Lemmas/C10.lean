import SaphyrVerif.Model.IoCell
import SaphyrVerif.Lemmas.C09
/-! The deferred-error protocol and the byte cap of `ChunkedChars` (C10).  The protocol rests on one invariant, `K`: a
cell that was ever set is still set.  Firing keeps it, and an observation point returns the pending error or keeps it
(`doOp_K` for `next` / `peek`, `finish_none`), so an `Ok` at the end means the cell was never set.  The cap lemmas are
read off `C09.nextChar_frame`; under `CapInv` an input no longer than the cap never reaches the cap branch.  Also the
writer adapter, and `utf8Validate` on an encoded text (used by Props/C09). -/
namespace SaphyrVerif.Lemmas.C10
open SaphyrVerif SaphyrVerif.Pump SaphyrVerif.Reader SaphyrVerif.IoCell SaphyrVerif.Lemmas.C09

theorem fire_fields (s : Src) : s.fire.pump = s.pump ∧ s.fire.input = s.input ∧ s.fire.total = s.total := by
  unfold Src.fire
  simp only []
  split <;> simp

theorem fire_cell (s : Src) :
    (s.cell.isSome = true → s.fire.cell.isSome = true) ∧
    (s.fire.everSet = true → s.everSet = true ∨ s.fire.cell.isSome = true) ∧
    (s.everSet = true → s.fire.everSet = true) := by
  unfold Src.fire
  simp only []
  split
  · simp; exact fun h => Or.inl h
  · simp

/-- `K d s` ("kept"): if the cell was ever set, it is still set (nobody has taken it) — or `d`, an escape for a state
in which an error may already have been handed out; every use in the development has `d = false` -/
def K (d : Bool) (s : Src) : Prop := s.everSet = true → s.cell.isSome = true ∨ d = true

theorem K_fire {d : Bool} {s : Src} (hk : K d s) : K d s.fire := by
  intro hev
  rcases (fire_cell s).2.1 hev with h1 | h1
  · exact (hk h1).imp_left (fire_cell s).1
  · exact Or.inl h1

/-- an observation point returns the pending error and empties the cell, or — the cell being empty — keeps `K`:
a pending error cannot slip by -/
theorem doOp_K {d : Bool} {s s' : Src} {o : COp} {r : R} (hk : K d s) (h : s.doOp o = (r, s')) :
    (∃ k, s.cell = some k ∧ r = .err (.io k) ∧ s' = { s with cell := none }) ∨ (s.cell = none ∧ K d s') := by
  obtain ⟨pump, input, total, fires, cell, everSet⟩ := s
  cases cell with
  | some k =>
    have h' : (R.err (.io k), ({ pump, input, total, fires, everSet } : Src)) = (r, s') := by cases o <;> exact h
    cases h'
    exact Or.inl ⟨k, rfl, rfl, rfl⟩
  | none =>
    refine Or.inr ⟨rfl, ?_⟩
    cases o <;> obtain ⟨-, rfl⟩ := Prod.mk.inj h <;> exact K_fire hk

theorem finish_none {s s' : Src} (hk : K false s) (h : s.finish = (none, s')) : s'.cell = none ∧ s'.everSet = false := by
  obtain ⟨pump, input, total, fires, cell, everSet⟩ := s
  cases cell with
  | some k => cases h
  | none =>
    obtain ⟨-, rfl⟩ := Prod.mk.inj h
    refine ⟨rfl, ?_⟩
    cases everSet with
    | false => rfl
    | true => simpa using hk rfl

theorem finishTail_surfaces {s : Src} (hk : K false s) :
    (finishTail s).2.everSet = true → (finishTail s).1 ≠ .ok := by
  unfold finishTail
  cases hf : s.finish with
  | mk o s' =>
    cases o with
    | some e => simp
    | none => intro h; rw [(finish_none hk hf).2] at h; cases h

theorem runClient_K (c : Client) : ∀ (fuel : Nat) (hist : List Ev) (s s1 : Src) (d : Bool),
    K d s → runClient c fuel hist s = (none, s1) → K d s1 := by
  intro fuel
  induction fuel with
  | zero => intro hist s s1 d _ h; simp [runClient] at h
  | succ fuel ih =>
    intro hist s s1 d hk h
    simp only [runClient] at h
    split at h
    · simp at h; subst h; exact hk
    · simp at h
    · rename_i o _
      cases hop : s.doOp o with
      | mk r s' =>
        rw [hop] at h
        cases r with
        | event e =>
          rcases doOp_K hk hop with ⟨_, _, hr, _⟩ | ⟨_, hk'⟩
          · cases hr
          · exact ih (e :: hist) s' s1 d hk' h
        | none => simp at h
        | err e => simp at h

/-- if the cell was set at any point, before or during the call, the call does not return `Ok` -/
theorem fromReader_surfaces (c : Client) (fuel : Nat) (s : Src) (hk0 : K false s) :
    (fromReader c fuel s).2.everSet = true → (fromReader c fuel s).1 ≠ .ok := by
  unfold fromReader
  cases hrc : runClient c fuel [] s with
  | mk res s1 =>
    cases res with
    | some e =>
      simp only []
      split <;> simp
    | none =>
      simp only []
      have hk := runClient_K c fuel [] s s1 false hk0 hrc
      cases hpk : s1.peek with
      | mk r s2 =>
        rcases doOp_K (o := .peek) hk hpk with ⟨k, _, rfl, _⟩ | ⟨_, hk2⟩
        · simp [Err.isTrailingGarbage]
        · cases r with
          | event e => simp
          | none => exact finishTail_surfaces hk2
          | err e =>
            simp only []
            split
            · exact finishTail_surfaces hk2
            · simp

/-- `Good (item, it')`: what one `ReadIter::next` call guarantees of its result — the item is an `Err`, or no error is
pending unseen in the iterator it leaves (`K false`), which after `None` has an empty cell -/
def Good : Option Item × Iter → Prop
  | (some (.err _), _) => True
  | (some .ok, it') => it'.finished = false ∧ K false it'.src
  | (none, it') => K false it'.src ∧ it'.src.cell = none

theorem iterNext_spec (c : Client) : ∀ (fuel : Nat) (it : Iter), it.finished = false → K false it.src →
    Good (iterNext c fuel it) := by
  intro fuel
  induction fuel with
  | zero => intro it _ _; simp [iterNext, Good]
  | succ fuel ih =>
    intro it hf hk
    simp only [iterNext, hf]
    cases hpk : it.src.peek with
    | mk r s =>
      rcases doOp_K (o := .peek) hk hpk with ⟨k, _, rfl, _⟩ | ⟨_, hk2⟩
      · simp [Good]
      · cases r with
        | event ev =>
          simp only [Bool.false_eq_true, if_false]
          by_cases hnull : isNullishScalar ev = true
          · -- null-like document: consumed with `next`; an error there is returned
            simp only [hnull, if_true]
            cases hn : s.next with
            | mk r2 s' =>
              rcases doOp_K (o := .next) hk2 hn with ⟨k, _, rfl, _⟩ | ⟨_, hk3⟩
              · simp [Good]
              · cases r2 with
                | err e => simp [Good]
                | event e2 => exact ih _ rfl hk3
                | none => exact ih _ rfl hk3
          · simp only [hnull]
            by_cases hend : isContainerEnd ev = true
            · simp [hend, Good]
            · simp only [hend]
              cases hrc : runClient c fuel [] s with
              | mk res s' =>
                cases res with
                | none =>
                  simp only [Good]
                  exact ⟨rfl, runClient_K c fuel [] s s' _ hk2 hrc⟩
                | some e => simp [Good]
        | none =>
          simp only [Bool.false_eq_true, if_false]
          cases hfin : s.finish with
          | mk o s' =>
            cases o with
            | some e => simp [Good]
            | none =>
              obtain ⟨h1, h2⟩ := finish_none hk2 hfin
              exact ⟨fun h => (by rw [h2] at h; cases h), h1⟩
        | err e => simp [Good]

theorem writeAll_spec (fuel : Nat) (buf : List Nat) (w : W) :
    (writeAll fuel buf w).2.lastErr = w.lastErr ∧
    ∃ took rest, buf = took ++ rest ∧ (writeAll fuel buf w).2.written = w.written ++ took ∧
      ((writeAll fuel buf w).1 = none → rest = []) := by
  fun_induction writeAll fuel buf w
  case case1 buf w => exact ⟨rfl, buf, [], by simp, rfl, fun _ => rfl⟩
  case case2 fuel buf w hb =>
    have : buf = [] := by simpa using hb
    exact ⟨rfl, [], [], by simp [this], by simp, fun _ => rfl⟩
  case case3 fuel buf w hb hs => exact ⟨rfl, buf, [], by simp, rfl, fun _ => rfl⟩
  case case4 fuel buf w hb k rest hs hk ih =>
    obtain ⟨h1, took, r, h2, h3, h4⟩ := ih
    exact ⟨h1, took, r, h2, h3, h4⟩
  case case5 fuel buf w hb k rest hs hk =>
    exact ⟨rfl, [], buf, by simp, by simp, fun h => by simp at h⟩
  case case6 fuel buf w hb n rest hs hz =>
    exact ⟨rfl, [], buf, by simp, by simp, fun h => by simp at h⟩
  case case7 fuel buf w hb n rest hs hz ih =>
    obtain ⟨h1, took, r, h2, h3, h4⟩ := ih
    refine ⟨h1, buf.take n ++ took, r, ?_, ?_, h4⟩
    · rw [List.append_assoc, ← h2, List.take_append_drop]
    · rw [h3]; simp

theorem writeStr_spec {chunk : List Nat} {w w' : W} {f : Bool} (h : writeStr chunk w = (f, w')) :
    (f = false → w'.written = w.written ++ chunk ∧ w'.lastErr = w.lastErr) ∧
    (f = true → (∃ took rest, chunk = took ++ rest ∧ w'.written = w.written ++ took) ∧ w'.lastErr.isSome = true) := by
  unfold writeStr at h
  obtain ⟨h1, took, rest, h2, h3, h4⟩ := writeAll_spec (w.sched.length + 1) chunk w
  cases hr : writeAll (w.sched.length + 1) chunk w with
  | mk e w1 =>
    rw [hr] at h h1 h3 h4
    cases e with
    | none =>
      obtain ⟨rfl, rfl⟩ := Prod.mk.inj h
      have := h4 rfl
      subst this
      simp only [List.append_nil] at h2
      subst h2
      exact ⟨fun _ => ⟨h3, h1⟩, fun h => by cases h⟩
    | some k =>
      obtain ⟨rfl, rfl⟩ := Prod.mk.inj h
      exact ⟨fun h => (by cases h), fun _ => ⟨⟨took, rest, h2, h3⟩, rfl⟩⟩

theorem emitChunks_spec : ∀ (chunks : List (List Nat)) (w w' : W) (f : Bool), emitChunks chunks w = (f, w') →
    (f = false → w'.written = w.written ++ chunks.flatten ∧ w'.lastErr = w.lastErr) ∧
    (f = true → (∃ rest, w.written ++ chunks.flatten = w'.written ++ rest) ∧ w'.lastErr.isSome = true) := by
  intro chunks
  induction chunks with
  | nil =>
    intro w w' f h
    simp only [emitChunks, Prod.mk.injEq] at h
    obtain ⟨rfl, rfl⟩ := h
    simp
  | cons c cs ih =>
    intro w w' f h
    simp only [emitChunks] at h
    cases hw : writeStr c w with
    | mk f1 w1 =>
      rw [hw] at h
      cases f1 with
      | true =>
        simp only [Prod.mk.injEq] at h
        obtain ⟨rfl, rfl⟩ := h
        obtain ⟨⟨took, rest, h1, h2⟩, h3⟩ := (writeStr_spec hw).2 rfl
        refine ⟨fun h => by simp at h, fun _ => ⟨⟨rest ++ cs.flatten, ?_⟩, h3⟩⟩
        simp [h2, h1]
      | false =>
        simp only at h
        obtain ⟨h1, h2⟩ := (writeStr_spec hw).1 rfl
        have := ih w1 w' f h
        constructor
        · intro hf
          obtain ⟨a, b⟩ := this.1 hf
          exact ⟨by rw [a, h1]; simp, by rw [b, h2]⟩
        · intro hf
          obtain ⟨⟨rest, a⟩, b⟩ := this.2 hf
          exact ⟨⟨rest, by rw [← a, h1]; simp⟩, b⟩

theorem utf8ValidateF_cons (fuel b : Nat) (t : List Nat) :
    utf8ValidateF (fuel + 1) (b :: t) =
      match flatStep (b :: t) with
      | .char c rest => (utf8ValidateF fuel rest).map (c :: ·)
      | _ => none := by
  simp only [utf8ValidateF, flatStep]
  cases needed b with
  | none => rfl
  | some n =>
    dsimp only
    by_cases h : t.length < n - 1
    · rw [if_pos h, if_pos h]
    · rw [if_neg h, if_neg h]
      cases decode1 (b :: t.take (n - 1)) <;> rfl

theorem utf8Validate_encode (t : List Char) : utf8Validate (Spec.Utf8.encode t) = some t := by
  have key : ∀ (t : List Char) (fuel : Nat), (Spec.Utf8.encode t).length < fuel →
      utf8ValidateF fuel (Spec.Utf8.encode t) = some t := by
    intro t
    induction t with
    | nil => intro fuel h; obtain ⟨f, rfl⟩ : ∃ f, fuel = f + 1 := ⟨fuel - 1, by omega⟩; rfl
    | cons c cs ih =>
      intro fuel h
      obtain ⟨f, rfl⟩ : ∃ f, fuel = f + 1 := ⟨fuel - 1, by omega⟩
      obtain ⟨b, r, he, _⟩ := encodeChar_shape c
      have hs := flatStep_encodeChar c (Spec.Utf8.encode cs)
      simp only [Spec.Utf8.encode, he, List.cons_append, List.length_cons, List.length_append] at h hs ⊢
      rw [utf8ValidateF_cons, hs]
      simp only [ih f (by omega), Option.map_some]
  exact key t _ (Nat.lt_succ_self _)

theorem nextChar_pull (cc : CC) :
    (Reader.nextChar cc).2.maxBytes = cc.maxBytes ∧
    (∀ c, (Reader.nextChar cc).1 = some c →
      ∃ n, n ≤ 4 ∧ (Reader.nextChar cc).2.pulled = cc.pulled + n ∧ (Reader.nextChar cc).2.totalBytes = cc.totalBytes + n ∧
        (∀ cap, cc.maxBytes = some cap → (Reader.nextChar cc).2.totalBytes ≤ cap)) ∧
    ((Reader.nextChar cc).1 = none → (Reader.nextChar cc).2.pulled ≤ cc.pulled + 4) := by
  obtain ⟨r, p, t, c, h, _, hp, ht, _, hch⟩ := nextChar_frame cc
  rw [h]
  refine ⟨rfl, fun ch hc => ?_, fun _ => Nat.add_le_add_left hp _⟩
  obtain ⟨h0, rfl, _⟩ := hch ch hc
  exact ⟨t, hp, rfl, rfl, ht.resolve_left (Nat.ne_of_gt h0) |>.2⟩

def CapInv (L : Nat) (cc : CC) : Prop := cc.totalBytes ≤ cc.pulled ∧ cc.pulled + (flat cc.reader).length = L

theorem nextChar_capInv {L : Nat} {cc : CC} (hi : CapInv L cc) : CapInv L (Reader.nextChar cc).2 := by
  obtain ⟨r, p, t, c, h, hb, _, ht, _, _⟩ := nextChar_frame cc
  obtain ⟨h1, h2⟩ := hi
  rw [h]
  exact ⟨show cc.totalBytes + t ≤ cc.pulled + p by omega, show cc.pulled + p + (flat r).length = L by omega⟩

/-- with at most `cap` bytes in the whole stream the cap branch of `next_char` is never taken -/
theorem nextChar_cap_free {cc : CC} {cap L : Nat} (hi : CapInv L cc) (hL : L ≤ cap) (hm : cc.maxBytes = some cap) :
    Reader.nextChar { cc with maxBytes := none } =
      ((Reader.nextChar cc).1, { (Reader.nextChar cc).2 with maxBytes := none }) := by
  rw [nextChar_eq, nextChar_eq]
  refine deliver_cap_free cc _ fun first n got hs => ?_
  -- the whole sequence was still to come, so it fits
  obtain ⟨hb, _, h3⟩ := pullSeq_spec cc.reader
  have hn := h3 first n got hs
  rw [hs, Pull.size] at hb
  obtain ⟨h1, h2⟩ := hi
  rw [hm, Option.all_some]
  exact decide_eq_true (by omega)

theorem noteChar_with_maxBytes (x : CC) (m : Option Nat) (c : Char) :
    noteChar { x with maxBytes := m } c = { noteChar x c with maxBytes := m } := by
  unfold noteChar
  by_cases h1 : (x.atLineStart && c != Char.ofNat 0xFEFF) = true <;>
    by_cases h2 : (c == '\n' || c == '\r') = true <;> simp [h1, h2]

theorem next_pull' (cc : CC) :
    (Reader.next cc).2.maxBytes = cc.maxBytes ∧ (Reader.next cc).2.pulled ≤ cc.pulled + 4 ∧
    (∀ cap, cc.maxBytes = some cap → cc.totalBytes ≤ cap → (Reader.next cc).2.totalBytes ≤ cap) := by
  obtain ⟨a, d, hn⟩ := next_frame cc
  obtain ⟨r, p, t, c, h, _, hp, ht, _, _⟩ := nextChar_frame cc
  rw [hn, h]
  refine ⟨rfl, Nat.add_le_add_left hp _, fun cap hm hle => ?_⟩
  rcases ht with rfl | ⟨_, hc⟩
  · exact hle
  · exact hc cap hm

/-- how often `next_char` gave up (`None`) during a run of `next` -/
def giveUps : Nat → CC → Nat
  | 0, _ => 0
  | fuel + 1, cc =>
    match nextChar cc with
    | (some c, cc') => giveUps fuel (noteChar cc' c)
    | (none, cc') => if cc'.inDirectiveLine then 1 + giveUps fuel { cc' with inDirectiveLine := false, atLineStart := true } else 1

/-- every byte pulled is accounted in `total_bytes` or belongs to one of the at most 4-byte sequences on which
`next_char` gave up -/
theorem pull_invariant : ∀ (fuel : Nat) (cc : CC),
    (collect fuel cc).2.pulled + cc.totalBytes ≤ cc.pulled + (collect fuel cc).2.totalBytes + 4 * giveUps fuel cc := by
  intro fuel
  induction fuel with
  | zero => intro cc; simp [collect, giveUps]
  | succ fuel ih =>
    intro cc
    obtain ⟨r, p, t, c, h, _, hp, _, _, hch⟩ := nextChar_frame cc
    simp only [collect, giveUps, Reader.next]
    cases hn : nextChar cc with
    | mk o cc' =>
      rw [hn] at h hch
      have hpu : cc'.pulled = cc.pulled + p := congrArg CC.pulled h
      have htb : cc'.totalBytes = cc.totalBytes + t := congrArg CC.totalBytes h
      cases o with
      | some ch =>
        obtain ⟨_, ht, _⟩ := hch ch rfl
        have := ih (noteChar cc' ch)
        simp only [noteChar_pulled, noteChar_totalBytes] at this ⊢
        omega
      | none =>
        by_cases hd : cc'.inDirectiveLine = true
        · simp only [hd, if_true]
          have := ih { cc' with inDirectiveLine := false, atLineStart := true }
          dsimp only at this ⊢
          omega
        · simp only [hd, Bool.false_eq_true, if_false]
          omega

theorem collect_total_le (cap fuel : Nat) (cc : CC) (hm : cc.maxBytes = some cap) (hle : cc.totalBytes ≤ cap) :
    (collect fuel cc).2.totalBytes ≤ cap :=
  (collect_inv (P := fun cc => cc.maxBytes = some cap ∧ cc.totalBytes ≤ cap)
    (fun cc h => ⟨(next_pull' cc).1.trans h.1, (next_pull' cc).2.2 cap h.1 h.2⟩) fuel cc ⟨hm, hle⟩).2

/-- what is pulled beyond the bytes already accounted never exceeds what the cap still allows plus 4 bytes per give-up -/
theorem collect_pull_bound (fuel : Nat) (cc : CC) (cap : Nat) (hm : cc.maxBytes = some cap) (hle : cc.totalBytes ≤ cap) :
    (collect fuel cc).2.pulled + cc.totalBytes ≤ cc.pulled + cap + 4 * giveUps fuel cc := by
  have h := pull_invariant fuel cc
  have := collect_total_le cap fuel cc hm hle
  omega

theorem next_cap_free' {cc : CC} {cap L : Nat} (hi : CapInv L cc) (hL : L ≤ cap) (hm : cc.maxBytes = some cap) :
    Reader.next { cc with maxBytes := none } = ((Reader.next cc).1, { (Reader.next cc).2 with maxBytes := none }) ∧
    CapInv L (Reader.next cc).2 ∧ (Reader.next cc).2.maxBytes = some cap := by
  refine ⟨?_, ?_, (next_pull' cc).1.trans hm⟩
  · unfold Reader.next
    rw [nextChar_cap_free hi hL hm]
    obtain ⟨_ | c, cc'⟩ := nextChar cc
    · dsimp only; split <;> rfl
    · exact congrArg (some c, ·) (noteChar_with_maxBytes cc' none c)
  · obtain ⟨a, d, hn⟩ := next_frame cc
    rw [hn]; exact nextChar_capInv hi

end SaphyrVerif.Lemmas.C10
