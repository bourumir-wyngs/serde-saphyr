import SaphyrVerif.Lemmas.C17Ring
import SaphyrVerif.Lemmas.C17Breaks
/-!
C17: the line-aligned reader snapshot (`RecentSnapshot::line_aligned_text`).  Line ends counted on bytes are line ends
counted on characters (`linesEnded_encode`, `endsLine_of_endsLineAt`), so the ring's invariant reads in characters
(`RingAt.chars`); `lineAligned_spec` is about characters only; `ringRunAligned_spec` puts the two together.
-/
namespace SaphyrVerif.Lemmas.C17
open SaphyrVerif SaphyrVerif.Snippet
open SaphyrVerif.Spec.Snippet (endsLineAt linesEndedBefore yamlLines)

theorem count_encode_nl (P : List Char) : (encode P).count 0x0A = P.count '\n' := by
  induction P with
  | nil => rfl
  | cons c cs ih =>
    have h : (utf8Bytes c).count 0x0A = if c = '\n' then 1 else 0 := utf8Bytes_count_ascii c '\n' (by decide)
    rw [encode, List.count_append, ih, h, count_nl_cons]; omega

theorem toNat_eq_nl (c : Char) : c.toNat = 0x0A ↔ c = '\n' :=
  ⟨fun h => Char.toNat_inj.mp h, fun h => by rw [h]; rfl⟩

theorem toNat_eq_cr (c : Char) : c.toNat = 0x0D ↔ c = '\r' :=
  ⟨fun h => Char.toNat_inj.mp h, fun h => by rw [h]; rfl⟩

theorem encode_first_nl (X : List Char) : (encode X)[0]? = some 0x0A ↔ X.head? = some '\n' := by
  cases X with
  | nil => simp [encode]
  | cons c cs =>
    rw [encode]
    by_cases h : c.toNat < 0x80
    · rw [utf8Bytes_ascii c h]
      simp only [List.cons_append, List.nil_append, List.getElem?_cons_zero, Option.some.injEq, List.head?_cons]
      exact toNat_eq_nl c
    · have hne := utf8Bytes_ne_nil c
      have hge := utf8Bytes_ge c (by omega)
      cases hq : utf8Bytes c with
      | nil => exact absurd hq hne
      | cons b bs =>
        have hb : 0x80 ≤ b := hge b (by rw [hq]; simp)
        simp only [List.cons_append, List.getElem?_cons_zero, Option.some.injEq, List.head?_cons]
        constructor
        · intro h0; omega
        · intro h0; rw [← toNat_eq_nl] at h0; omega

theorem linesEnded_char (c : Char) (s : List Nat) :
    linesEndedBefore (utf8Bytes c ++ s) (utf8Bytes c).length =
      if c = '\n' ∨ (c = '\r' ∧ s[0]? ≠ some 0x0A) then 1 else 0 := by
  by_cases h : c.toNat < 0x80
  · rw [utf8Bytes_ascii c h]
    have e1 : ([c.toNat] : List Nat).length = 0 + 1 := rfl
    rw [e1, linesEndedBefore_succ, linesEndedBefore_zero]
    unfold endsLineAt
    simp only [List.cons_append, List.nil_append, List.getElem?_cons_zero, Nat.zero_add,
      List.getElem?_cons_succ]
    by_cases h1 : c = '\n'
    · simp [h1]
    · have n1 : c.toNat ≠ 0x0A := fun h0 => h1 ((toNat_eq_nl c).mp h0)
      by_cases h2 : c = '\r'
      · by_cases h3 : s[0]? = some 0x0A
        · simp [h2, h3]
        · simp [h2, h3]
      · have n2 : c.toNat ≠ 0x0D := fun h0 => h2 ((toNat_eq_cr c).mp h0)
        simp [h1, h2, n1, n2]
  · have hge := utf8Bytes_ge c (by omega)
    have h1 : c ≠ '\n' := by intro h0; rw [h0] at h; exact h (by decide)
    have h2 : c ≠ '\r' := by intro h0; rw [h0] at h; exact h (by decide)
    rw [if_neg (by intro hc; rcases hc with hc | hc; exact h1 hc; exact h2 hc.1)]
    have := linesEndedBefore_add_of_not_break (utf8Bytes c ++ s) 0 (utf8Bytes c).length (by
      intro i _ hi
      rw [List.getElem?_append_left (by omega), List.getElem?_eq_getElem (by omega)]
      have hb := hge _ (List.getElem_mem (by omega : i < (utf8Bytes c).length))
      constructor
      · intro h0; simp only [Option.some.injEq] at h0; omega
      · intro h0; simp only [Option.some.injEq] at h0; omega)
    rw [Nat.zero_add] at this
    rw [this, linesEndedBefore_zero]

theorem linesEndedBefore_shift (B s : List Nat) (n : Nat) :
    linesEndedBefore (B ++ s) (B.length + n) = linesEndedBefore (B ++ s) B.length + linesEndedBefore s n := by
  induction n with
  | zero => simp
  | succ n ih =>
    rw [← Nat.add_assoc, linesEndedBefore_succ, linesEndedBefore_succ, ih, endsLineAt_append_right]
    omega

theorem linesEnded_encode (P R : List Char) :
    linesEndedBefore (encode (P ++ R)) (encode P).length = breaksCtx P R.head? := by
  induction P with
  | nil => simp [encode, breaksCtx]
  | cons c cs ih =>
    rw [List.cons_append, encode, encode, List.length_append, linesEndedBefore_shift, linesEnded_char, ih,
      breaksCtx_cons]
    have e : (encode (cs ++ R))[0]? ≠ some 0x0A ↔ (cs.head?.or R.head?) ≠ some '\n' := by
      have e0 := encode_first_nl (cs ++ R)
      rw [List.head?_append] at e0
      exact not_congr e0
    by_cases h1 : c = '\n'
    · simp [h1]
    · by_cases h2 : c = '\r'
      · by_cases h3 : (encode (cs ++ R))[0]? ≠ some 0x0A
        · rw [if_pos (.inr ⟨h2, h3⟩), if_pos (.inr ⟨h2, e.mp h3⟩)]
        · rw [if_neg (by intro hc; rcases hc with hc | hc; exact h1 hc; exact h3 hc.2),
            if_neg (by intro hc; rcases hc with hc | hc; exact h1 hc; exact h3 (e.mpr hc.2))]
      · rw [if_neg (by intro hc; rcases hc with hc | hc; exact h1 hc; exact h2 hc.1),
          if_neg (by intro hc; rcases hc with hc | hc; exact h1 hc; exact h2 hc.1)]

theorem endsLine_of_endsLineAt (P X : List Char) (hP : P ≠ [])
    (h : endsLineAt (encode (P ++ X)) ((encode P).length - 1) = true) :
    P.getLast? = some '\n' ∨ (P.getLast? = some '\r' ∧ X.head? ≠ some '\n') := by
  have hpos : 0 < (encode P).length := by rw [encode_length]; exact utf8Len_pos_of_ne_nil _ hP
  have hidx : (encode (P ++ X))[(encode P).length - 1]? = (encode P).getLast? := by
    rw [encode_append, List.getElem?_append_left (by omega), List.getLast?_eq_getElem?]
  have hidx2 : (encode (P ++ X))[(encode P).length - 1 + 1]? = (encode X)[0]? := by
    rw [encode_append, show (encode P).length - 1 + 1 = (encode P).length + 0 by omega,
      List.getElem?_append_right (by omega)]
    simp
  unfold endsLineAt at h
  rw [hidx, hidx2] at h
  simp only [Bool.or_eq_true, beq_iff_eq, Bool.and_eq_true, bne_iff_ne, ne_eq] at h
  rcases h with h1 | ⟨h1, h2⟩
  · exact .inl (encode_getLast_ascii P '\n' (by decide) h1)
  · exact .inr ⟨encode_getLast_ascii P '\r' (by decide) h1, fun hh => h2 ((encode_first_nl X).mpr hh)⟩

/-- what `line_aligned_text` leaves out of a snapshot that starts inside a line: exactly one line `X` with its line
break (LF, CRLF, or a CR that is not followed by LF) -/
theorem lineAligned_false (text : List Char) (sl : Nat) :
    ∃ R, lineAligned false text sl = (R, satAdd sl 1) ∧
      (R ≠ [] → ∃ X, text = X ++ R ∧ X ≠ [] ∧ EndsLine X R ∧ breaksCtx X R.head? = 1) := by
  unfold lineAligned
  simp only [Bool.false_eq_true, if_false]
  refine ⟨_, rfl, fun hR => ?_⟩
  -- `x`, the piece before the first CR / LF, and `d`, the text from there on
  have hx : ∀ c ∈ text.takeWhile (fun c => decide (c ≠ '\n' ∧ c ≠ '\r')), c ≠ '\n' ∧ c ≠ '\r' :=
    fun c hc => of_decide_eq_true (List.all_eq_true.mp List.all_takeWhile c hc)
  have hd := List.head?_dropWhile_not (fun c => decide (c ≠ '\n' ∧ c ≠ '\r')) text
  have ht := (List.takeWhile_append_dropWhile (p := fun c => decide (c ≠ '\n' ∧ c ≠ '\r')) (l := text)).symm
  generalize text.takeWhile _ = x at hx ht
  generalize text.dropWhile _ = d at hd ht hR ⊢
  -- `x` and a complete line break `brk` are one line
  have key : ∀ brk R, d = brk ++ R → brk ≠ [] → EndsLine brk R → breaksCtx brk R.head? = 1 →
      ∃ X, text = X ++ R ∧ X ≠ [] ∧ EndsLine X R ∧ breaksCtx X R.head? = 1 := fun brk R hd' hne hb h1 =>
    ⟨x ++ brk, by rw [ht, hd', List.append_assoc], by simp [hne], hb.append_left x hne,
      by rw [breaksCtx_append, breaksCtx_no_break x _ hx, h1]⟩
  split at hR
  · rename_i t
    exact key ['\r', '\n'] t rfl (by simp) (.inr (.inl rfl)) (by simp [breaksCtx])
  · rename_i c t hnot
    simp only [List.head?_cons, decide_eq_false_iff_not] at hd
    by_cases hc : c = '\n'
    · subst hc
      exact key ['\n'] t rfl (by simp) (.inr (.inl rfl)) (by simp [breaksCtx])
    · have hc' : c = '\r' := Decidable.byContradiction fun h => hd ⟨hc, h⟩
      subst hc'
      have hnl : t.head? ≠ some '\n' := by
        intro hh
        obtain ⟨e, es, rfl⟩ : ∃ e es, t = e :: es := by cases t <;> simp at hh ⊢
        simp only [List.head?_cons, Option.some.injEq] at hh
        exact hnot es rfl (by rw [hh])
      exact key ['\r'] t rfl (by simp) (.inr (.inr ⟨rfl, hnl⟩)) (by simp [breaksCtx, hnl])
  · exact absurd rfl hR

theorem lineAligned_nil (starts : Bool) (sl : Nat) : ∃ L, lineAligned starts [] sl = ([], L) := by
  cases starts
  · exact ⟨_, rfl⟩
  · exact ⟨_, rfl⟩

/-- `line_aligned_text` on a snapshot `mid` that follows `P0` in the stream, when the snapshot carries its line number
(`sl` = 1 + the lines ended within `P0`) and its flag is set only if `P0` ends a line: a non-empty result begins at the
beginning of a line and carries that line's number -/
theorem lineAligned_spec (starts : Bool) (P0 mid : List Char) (sl : Nat) (hsl : sl = 1 + breaksCtx P0 mid.head?)
    (hle : sl + 1 ≤ usizeMax) (hst : starts = true → EndsLine P0 mid) :
    ∃ T L, lineAligned starts mid sl = (T, L) ∧
      (T ≠ [] → ∃ P, P0 ++ mid = P ++ T ∧ EndsLine P T ∧ L = (yamlLines P).length) := by
  cases starts with
  | true =>
    have hends := hst rfl
    refine ⟨mid, sl, by simp [lineAligned], fun _ => ⟨P0, rfl, hends, ?_⟩⟩
    rw [hsl, ← breaksCtx_endsLine P0 mid hends]; omega
  | false =>
    -- the beginning of the first retained line has been evicted: that line `X` is left out
    obtain ⟨R, hR, hRspec⟩ := lineAligned_false mid sl
    refine ⟨R, _, hR, fun hT => ?_⟩
    obtain ⟨X, hx, hXne, hXends, hXone⟩ := hRspec hT
    have hends : EndsLine (P0 ++ X) R := hXends.append_left P0 hXne
    refine ⟨P0 ++ X, by rw [hx, List.append_assoc], hends, ?_⟩
    rw [satAdd_eq _ _ hle, hsl, ← breaksCtx_endsLine (P0 ++ X) R hends, breaksCtx_append, hXone,
      show X.head?.or R.head? = mid.head? by rw [hx, List.head?_append]]
    omega

/-- the ring at position `b` of a valid stream, in characters: when trimming leaves `mid`, which follows `P0` in the
stream and begins `k` bytes after the ring's first byte, no line ending within these, the ring's line number is
1 + the lines ended within `P0`, and its flag together with `k = 0` says that `P0` ends a line -/
theorem RingAt.chars {cap b k : Nat} {cs P0 mid S0 : List Char} {r : Ring} (hr : RingAt cap (encode cs) b r)
    (hl : linesEndedBefore (encode cs) (b - cap + k) = linesEndedBefore (encode cs) (b - cap))
    (hcs : cs = P0 ++ mid ++ S0) (hP0 : (encode P0).length = b - cap + k) (hmid : mid ≠ []) :
    r.startLine = 1 + breaksCtx P0 mid.head? ∧
      ((r.startsLine && decide (b - cap + k = b - cap)) = true → EndsLine P0 mid) := by
  obtain ⟨_, _, hline, hstarts⟩ := hr
  have e : cs = P0 ++ (mid ++ S0) := by rw [hcs, List.append_assoc]
  constructor
  · rw [hline, ← hl, ← hP0]
    conv => lhs; rw [e]
    rw [linesEnded_encode]
    cases mid with
    | nil => exact absurd rfl hmid
    | cons c' cs' => rfl
  · intro hst
    simp only [Bool.and_eq_true, decide_eq_true_eq] at hst
    have hk0 : k = 0 := by omega
    rw [hk0, Nat.add_zero] at hP0
    by_cases h0 : P0 = []
    · exact .inl h0
    · right
      have hb0 : 0 < b - cap := by rw [← hP0, encode_length]; exact utf8Len_pos_of_ne_nil _ h0
      -- the flag: the last evicted byte, the last byte of `P0`, ended a line of the stream
      have hs2 : endsLineAt (encode cs) (b - cap - 1) = true := by
        have hs1 := hst.1
        rw [hstarts] at hs1
        simp only [decide_eq_true_eq] at hs1
        exact hs1.resolve_left (by omega)
      rw [e, ← hP0] at hs2
      refine (endsLine_of_endsLineAt P0 (mid ++ S0) h0 hs2).imp_right fun h => ⟨h.1, ?_⟩
      obtain ⟨c, t, rfl⟩ := List.exists_cons_of_ne_nil hmid
      exact h.2

/-- (reader snippets) what `from_reader` attaches as snippet text — `get_recent()` followed by
`line_aligned_text()` — on a valid UTF-8 stream: never a panic, and a non-empty text is a contiguous
piece of the stream that begins at the beginning of a line under the YAML rule (LF, CRLF, lone CR),
numbered with that line's number -/
theorem ringRunAligned_spec (cap ahead : Nat) (hcap : 1 ≤ cap) (cs : List Char) (consumed : Nat)
    (hlen : (encode cs).length + 2 ≤ usizeMax) :
    ∃ starts T L, ringRunAligned cap ahead (encode cs) consumed = .ok (starts, T, L) ∧
      (T ≠ [] → ∃ P S, cs = P ++ T ++ S ∧ EndsLine P T ∧ L = (yamlLines P).length) := by
  unfold ringRunAligned
  simp only []
  generalize min consumed (encode cs).length + ahead = n
  rcases ringPush_take cap n hcap (encode cs) hlen with hnil | ⟨b, hbpos, hble, hr⟩
  · rw [hnil]
    exact ⟨true, [], 1, rfl, fun h => absurd rfl h⟩
  · generalize ringPush cap ⟨[], 0, 1, true⟩ 0 ((encode cs).take n) = r at hr
    rw [if_neg (hr.buf_ne_nil hcap hbpos hble)]
    have hsl_le : r.startLine + 1 ≤ usizeMax := by
      rw [hr.line]
      have h1 := linesEndedBefore_le (encode cs) (b - cap)
      omega
    obtain ⟨k, mid, P0, S0, ht, _, hl, hpos⟩ :=
      ringTrim_window cs (b - cap) b r.startLine (by omega) hble (Nat.le_of_succ_le hsl_le)
    rw [hr.buf, hr.offset, ht]
    simp only [res_bind_ok, decode_encode]
    by_cases hmid : mid = []
    · obtain ⟨L, hL⟩ := lineAligned_nil (r.startsLine && decide (b - cap + k = b - cap)) r.startLine
      rw [hmid, hL]
      exact ⟨_, [], L, rfl, fun h => absurd rfl h⟩
    · obtain ⟨hcs, hP0⟩ := hpos hmid
      obtain ⟨hsl, hst⟩ := hr.chars hl hcs hP0 hmid
      obtain ⟨T, L, hla, hT⟩ := lineAligned_spec _ P0 mid r.startLine hsl hsl_le hst
      rw [hla]
      refine ⟨_, T, L, rfl, fun hne => ?_⟩
      obtain ⟨P, hP, hends, hL⟩ := hT hne
      exact ⟨P, S0, by rw [hcs, hP], hends, hL⟩

end SaphyrVerif.Lemmas.C17
