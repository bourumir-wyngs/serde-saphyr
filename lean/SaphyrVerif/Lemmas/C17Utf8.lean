import SaphyrVerif.Model.Snippet
import SaphyrVerif.Spec.Snippet
import SaphyrVerif.Lemmas.Utf8
/-!
C17: the UTF-8 byte view of a text: `decode (encode s) = some s`, and what an ASCII byte in an encoded text says
about the characters (used for the line breaks). The sanitiser is in `C17Sanitize`.
-/
namespace SaphyrVerif.Lemmas.C17
open SaphyrVerif SaphyrVerif.Snippet

theorem char_valid (c : Char) : c.toNat < 0xD800 ∨ (0xDFFF < c.toNat ∧ c.toNat < 0x110000) := SaphyrVerif.char_valid c

theorem utf8LenChar_le (c : Char) : utf8LenChar c ≤ 4 := (utf8LenChar_range c).2

theorem utf8Bytes_eq_spec (c : Char) : utf8Bytes c = Spec.Utf8.encodeChar c := rfl

theorem utf8Bytes_length (c : Char) : (utf8Bytes c).length = utf8LenChar c := encodeChar_length c

theorem encode_append (a b : List Char) : encode (a ++ b) = encode a ++ encode b := by
  induction a with
  | nil => rfl
  | cons c cs ih => simp [encode, ih]

theorem encode_length (s : List Char) : (encode s).length = utf8Len s := by
  induction s with
  | nil => rfl
  | cons c cs ih =>
    simp only [encode, List.length_append, utf8Bytes_length, ih, utf8Len, List.map_cons, List.sum_cons]

@[simp] theorem utf8Len_nil : utf8Len [] = 0 := rfl

/-- the case analysis behind every byte-level fact of this file (`EncShape`, Lemmas/Utf8.lean) -/
theorem shape (c : Char) : EncShape (utf8Bytes c) c.toNat := encShape c

/-! ### ASCII bytes in an encoded text

An ASCII character is its own single byte and every byte of another character is `≥ 0x80`: a byte below
`0x80` anywhere in the encoding of a text is that ASCII character. Used for the line breaks `\n`, `\r`. -/

theorem utf8Bytes_ascii (c : Char) (h : c.toNat < 0x80) : utf8Bytes c = [c.toNat] := encodeChar_ascii c h

theorem utf8Bytes_ge (c : Char) (h : 0x80 ≤ c.toNat) : ∀ x ∈ utf8Bytes c, 0x80 ≤ x := encodeChar_ge c h

theorem utf8Bytes_ne_nil (c : Char) : utf8Bytes c ≠ [] := by
  intro h
  have := utf8Bytes_length c
  have := utf8LenChar_pos c
  rw [h] at *
  simp only [List.length_nil] at *
  omega

theorem mem_utf8Bytes_ascii (c a : Char) (ha : a.toNat < 0x80) : a.toNat ∈ utf8Bytes c ↔ c = a :=
  (mem_encodeChar_lt c a.toNat ha).trans Char.toNat_inj

theorem utf8Bytes_getLast_ascii (c a : Char) (ha : a.toNat < 0x80) :
    (utf8Bytes c).getLast? = some a.toNat ↔ c = a := by
  constructor
  · intro h; exact (mem_utf8Bytes_ascii c a ha).mp (List.mem_of_getLast? h)
  · intro h; rw [h, utf8Bytes_ascii a ha]; rfl

theorem utf8Bytes_count_ascii (c a : Char) (ha : a.toNat < 0x80) :
    (utf8Bytes c).count a.toNat = if c = a then 1 else 0 := by
  by_cases h : c = a
  · rw [if_pos h, h, utf8Bytes_ascii a ha]; simp
  · rw [if_neg h]
    exact List.count_eq_zero.mpr fun hm => h ((mem_utf8Bytes_ascii c a ha).mp hm)

theorem encode_getLast_ascii (P : List Char) (a : Char) (ha : a.toNat < 0x80)
    (h : (encode P).getLast? = some a.toNat) : P.getLast? = some a := by
  rcases List.eq_nil_or_concat P with h0 | ⟨init, c, h0⟩
  · subst h0; cases h
  · subst h0
    rw [List.concat_eq_append, encode_append] at h
    have e1 : encode [c] = utf8Bytes c := by simp [encode]
    rw [e1, List.getLast?_append] at h
    cases hq : (utf8Bytes c).getLast? with
    | none => exact absurd (List.getLast?_eq_none_iff.mp hq) (utf8Bytes_ne_nil c)
    | some x =>
      rw [hq, Option.some_or] at h
      rw [h] at hq
      rw [List.concat_eq_append, List.getLast?_concat, (utf8Bytes_getLast_ascii c a ha).mp hq]

theorem decode_1 (n : Nat) (rest : List Nat) (h : n < 0x80) :
    decode (n :: rest) = (decode rest).map (Char.ofNat n :: ·) := by
  rw [decode.eq_def]; simp only [h, if_true]

theorem decode_2 (b0 b1 cp : Nat) (rest : List Nat) (hcp : (b0 - 0xC0) * 64 + (b1 - 0x80) = cp)
    (h0 : 0xC2 ≤ b0 ∧ b0 < 0xE0) (h1 : 0x80 ≤ b1 ∧ b1 < 0xC0) :
    decode (b0 :: b1 :: rest) = (decode rest).map (Char.ofNat cp :: ·) := by
  subst hcp
  have a : ¬ b0 < 0x80 := by omega
  rw [decode.eq_def]; simp only [a, h0, h1, if_false, if_true, and_self]

theorem decode_3 (b0 b1 b2 cp : Nat) (rest : List Nat)
    (hcp : (b0 - 0xE0) * 4096 + (b1 - 0x80) * 64 + (b2 - 0x80) = cp) (h0 : 0xE0 ≤ b0 ∧ b0 < 0xF0)
    (h1 : 0x80 ≤ b1 ∧ b1 < 0xC0 ∧ 0x80 ≤ b2 ∧ b2 < 0xC0 ∧ cp ≥ 0x800 ∧ ¬ (0xD800 ≤ cp ∧ cp < 0xE000)) :
    decode (b0 :: b1 :: b2 :: rest) = (decode rest).map (Char.ofNat cp :: ·) := by
  subst hcp
  have a : ¬ b0 < 0x80 := by omega
  have a2 : ¬ (0xC2 ≤ b0 ∧ b0 < 0xE0) := by omega
  rw [decode.eq_def]; simp only [a, a2, h0, if_false, if_true, and_self]
  rw [if_pos h1]

theorem decode_4 (b0 b1 b2 b3 cp : Nat) (rest : List Nat)
    (hcp : (b0 - 0xF0) * 262144 + (b1 - 0x80) * 4096 + (b2 - 0x80) * 64 + (b3 - 0x80) = cp) (h0 : 0xF0 ≤ b0 ∧ b0 < 0xF5)
    (h1 : 0x80 ≤ b1 ∧ b1 < 0xC0 ∧ 0x80 ≤ b2 ∧ b2 < 0xC0 ∧ 0x80 ≤ b3 ∧ b3 < 0xC0 ∧ cp ≥ 0x10000 ∧ cp ≤ 0x10FFFF) :
    decode (b0 :: b1 :: b2 :: b3 :: rest) = (decode rest).map (Char.ofNat cp :: ·) := by
  subst hcp
  have a : ¬ b0 < 0x80 := by omega
  have a2 : ¬ (0xC2 ≤ b0 ∧ b0 < 0xE0) := by omega
  have a3 : ¬ (0xE0 ≤ b0 ∧ b0 < 0xF0) := by omega
  rw [decode.eq_def]; simp only [a, a2, a3, h0, if_false, if_true, and_self]
  rw [if_pos h1]

theorem decode_encode_cons (c : Char) (rest : List Nat) :
    decode (utf8Bytes c ++ rest) = (decode rest).map (c :: ·) := by
  have hv := char_valid c
  rcases shape c with ⟨h, e⟩ | ⟨h1, h2, e⟩ | ⟨h1, h2, e⟩ | ⟨h1, e⟩
  · rw [e]; simp only [List.cons_append, List.nil_append]
    rw [decode_1 _ _ h, Char.ofNat_toNat]
  · rw [e]; simp only [List.cons_append, List.nil_append]
    rw [decode_2 _ _ c.toNat _ (by simp only [Nat.add_sub_cancel_left]; exact Nat.div_add_mod' c.toNat 64) (by omega) (by omega),
      Char.ofNat_toNat]
  · rw [e]; simp only [List.cons_append, List.nil_append]
    rw [decode_3 _ _ _ c.toNat _ (by simp only [Nat.add_sub_cancel_left]; exact recombine3 c.toNat) (by omega) (by omega),
      Char.ofNat_toNat]
  · rw [e]; simp only [List.cons_append, List.nil_append]
    rw [decode_4 _ _ _ _ c.toNat _ (by simp only [Nat.add_sub_cancel_left]; exact recombine4 c.toNat) (by omega) (by omega),
      Char.ofNat_toNat]

theorem decode_encode (s : List Char) : decode (encode s) = some s := by
  induction s with
  | nil => rfl
  | cons c cs ih => rw [encode, decode_encode_cons, ih]; rfl

end SaphyrVerif.Lemmas.C17
