import SaphyrVerif.Model.SerScalar
import SaphyrVerif.Spec.ScalarRead
import SaphyrVerif.Lemmas.Utf8
import SaphyrVerif.Lemmas.Text
/-!
Helper lemmas for C12, plain style: what `is_plain_value_safe` / `is_plain_safe` guarantee about a string,
and that the plain reader of `Spec/ScalarRead.lean` reads such a string back unchanged when it has no
trailing blank (and, in flow context, does not end in blank + `-`).
-/
namespace SaphyrVerif.Lemmas.C12
open SaphyrVerif SaphyrVerif.SerScalar SaphyrVerif.Spec.Read

/-- characters that may occur anywhere in a string the writer leaves plain -/
def SafeChars (flow : Bool) (u : List Char) : Prop :=
  ∀ c ∈ u, isControl c = false ∧ c ≠ '#' ∧ (flow = true → isFlowInd c = false)

theorem SafeChars.tail {flow c u} (h : SafeChars flow (c :: u)) : SafeChars flow u :=
  fun d hd => h d (List.mem_cons_of_mem _ hd)

theorem SafeChars.of_imp {fl flow u} (h : SafeChars fl u) (hfl : flow = true → fl = true) : SafeChars flow u :=
  fun d hd => ⟨(h d hd).1, (h d hd).2.1, fun hf => (h d hd).2.2 (hfl hf)⟩

theorem SafeChars.weaken {u} (h : SafeChars true u) (flow : Bool) : SafeChars flow u :=
  h.of_imp fun _ => rfl

theorem not_control_facts {c : Char} (h : isControl c = false) :
    c ≠ '\t' ∧ isBreak c = false ∧ isNul c = false := by
  have hlt : 0x1F < c.toNat := by simp [isControl] at h; omega
  have key : ∀ d : Char, d.toNat ≤ 0x1F → c ≠ d := fun d hd e => by subst e; omega
  refine ⟨key _ (by decide), ?_, ?_⟩
  · simp [isBreak, key '\n' (by decide), key '\r' (by decide)]
  · simp [isNul]; omega

theorem SafeChars.noNul {flow u} (h : SafeChars flow u) : u.any isNul = false :=
  List.any_eq_false.mpr fun c hc => by simp [(not_control_facts (h c hc).1).2.2]

/-- what `contains_any_or_is_control(s, vals) == false` means -/
theorem cac_false {s vals : List Char} (h : containsAnyOrIsControl s vals = false) :
    ∀ c ∈ s, ∀ v ∈ vals, c ≠ v ∧ isControl c = false := by
  simpa [containsAnyOrIsControl] using h

theorem containsColonSpace_cons (c d : Char) (r : List Char) :
    containsColonSpace (c :: d :: r) = ((c == ':' && d == ' ') || containsColonSpace (d :: r)) := by
  rw [containsColonSpace]

theorem getLast?_tail_ne {c x : Char} {u : List Char} (h : (c :: u).getLast? ≠ some x) : u.getLast? ≠ some x := by
  cases u with
  | nil => simp
  | cons d r => rwa [List.getLast?_cons_cons] at h

theorem containsColonSpace_tail {c : Char} {u : List Char} (h : containsColonSpace (c :: u) = false) :
    containsColonSpace u = false := by
  cases u with
  | nil => rfl
  | cons d r => rw [containsColonSpace_cons] at h; exact (Bool.or_eq_false_iff.mp h).2

/-- the terminators a plain scalar may be followed by -/
def isTerm (flow : Bool) (term : List Char) : Bool :=
  match term with
  | [] => true
  | c :: t => isBreak c || isNul c || plainStops flow c t.head?

theorem isTerm_scan {flow : Bool} {term : List Char} (ht : isTerm flow term = true) (acc : List Char) :
    plainScan flow term acc [] = some (acc.reverse, term) := by
  cases term with
  | nil => rfl
  | cons c t =>
    have hb : isBlank c = false := by
      cases hb : isBlank c with
      | false => rfl
      | true =>
        simp only [isBlank, Bool.or_eq_true, beq_iff_eq] at hb
        rcases hb with rfl | rfl <;> simp [isTerm, isBreak, isNul, plainStops, isFlowInd] at ht
    simp only [isTerm, Bool.or_eq_true] at ht
    rcases ht with (h | h) | h <;> simp [plainScan, hb, h]

/-- Main scan lemma: a run `u` of safe characters in front of a terminator is consumed entirely;
pending blanks `ws` are kept because content follows. -/
theorem plain_scan_run (flow : Bool) (term : List Char) (ht : isTerm flow term = true) :
    ∀ (u acc ws : List Char), SafeChars flow u → containsColonSpace u = false → u.getLast? ≠ some ':' →
      (flow = true → ¬ [' ', '-'] <:+ u) → (flow = true → ws ≠ [] → u ≠ ['-']) →
      (u = [] → ws = []) → u.getLast? ≠ some ' ' →
      plainScan flow (u ++ term) acc ws = some (acc.reverse ++ ws.reverse ++ u, term) := by
  intro u
  induction u with
  | nil =>
    intro acc ws _ _ _ _ _ hws _
    rw [hws rfl]
    simpa using isTerm_scan ht acc
  | cons c u ih =>
    intro acc ws hs hc hlc hd hd2 _ hl
    have hcs := hs c (by simp)
    obtain ⟨hnt, hnb, hnn⟩ := not_control_facts hcs.1
    have hsuf : flow = true → ¬ [' ', '-'] <:+ u := fun hf h => hd hf (h.trans (List.suffix_cons _ _))
    by_cases hsp : c = ' '
    · -- a blank: becomes pending
      subst hsp
      have hune : u ≠ [] := by intro e; subst e; simp at hl
      have hstep : plainScan flow ((' ' :: u) ++ term) acc ws = plainScan flow (u ++ term) acc (' ' :: ws) := by
        simp [plainScan, isBlank]
      rw [hstep, ih acc (' ' :: ws) hs.tail (containsColonSpace_tail hc) (getLast?_tail_ne hlc) hsuf
        (fun hf _ hu => hd hf (hu ▸ List.suffix_refl _)) (fun e => absurd e hune) (getLast?_tail_ne hl)]
      simp
    · -- a content character
      have hblank : isBlank c = false := by simp [isBlank, hsp, hnt]
      have hdash : (flow && c == '-' && !ws.isEmpty && headSat isFlowInd (u ++ term)) = false := by
        cases hf : flow with
        | false => rfl
        | true =>
          by_cases hcd : c = '-'
          · subst hcd
            cases hw : ws with
            | nil => simp
            | cons w ws' =>
              cases u with
              | nil => exact absurd rfl (hd2 hf (by simp [hw]))
              | cons d r => simp [headSat, (hs d (by simp)).2.2 hf]
          · simp [hcd]
      have hstop : plainStops flow c (u ++ term).head? = false := by
        have hfi : (flow && isFlowInd c) = false := by
          cases hf : flow with
          | false => rfl
          | true => exact hcs.2.2 hf
        simp only [plainStops, hfi, Bool.or_false]
        by_cases hcc : c = ':'
        · subst hcc
          cases u with
          | nil => exact absurd rfl hlc
          | cons d r =>
            have hds := hs d (by simp)
            obtain ⟨hdt, hdb, hdn⟩ := not_control_facts hds.1
            have hdsp : d ≠ ' ' := by rw [containsColonSpace_cons] at hc; simpa using (Bool.or_eq_false_iff.mp hc).1
            have hfd : (flow && isFlowInd d) = false := by
              cases hf : flow with
              | false => rfl
              | true => exact hds.2.2 hf
            simp [isBlankOrBreakZ, isBlank, hdsp, hdt, hdb, hdn, hfd]
        · simp [hcc]
      have hstep : plainScan flow ((c :: u) ++ term) acc ws = plainScan flow (u ++ term) (c :: (ws ++ acc)) [] := by
        rw [List.cons_append, plainScan, if_neg (by simp [hblank]), if_neg (by simp [hnb, hnn]),
          if_neg (by simp [hcs.2.1]), if_neg (Bool.eq_false_iff.mp hdash), if_neg (Bool.eq_false_iff.mp hstop)]
      rw [hstep, ih (c :: (ws ++ acc)) [] hs.tail (containsColonSpace_tail hc) (getLast?_tail_ne hlc) hsuf
        (fun _ h => absurd rfl h) (fun _ => rfl) (getLast?_tail_ne hl)]
      simp

theorem pvs_unfold {s : List Char} {y flow : Bool} (h : isPlainValueSafe s y flow = true) :
    isAmbiguousValue s y = false ∧ headRejects s = false ∧ containsColonSpace s = false ∧
      endsWithColon (trim s) = false ∧ SafeChars flow s ∧ (flow = true → endsWithBlankDash s = false) := by
  -- the chain of early `return false`s is a conjunction
  simp only [isPlainValueSafe, Bool.if_false_left, Bool.decide_eq_true] at h
  simp only [Bool.and_eq_true, Bool.not_eq_true', Bool.and_eq_false_imp, Bool.or_eq_false_iff] at h
  obtain ⟨h1, h0, h2, h3, h⟩ := h
  refine ⟨h1, h2, h3.1, h3.2, fun c hc => ?_, h0⟩
  cases flow with
  | true =>
    have hv := cac_false (by simpa using h) c hc
    exact ⟨(hv '#' (by simp)).2, (hv '#' (by simp)).1, fun _ => by simp [isFlowInd, hv]⟩
  | false =>
    have hv := cac_false (by simpa using h) c hc '#' (by simp)
    exact ⟨hv.2, hv.1, nofun⟩

/-- `s.ends_with(" -")` false ⇒ not a suffix -/
theorem not_suffix_of_endsWithBlankDash {s : List Char} (h : endsWithBlankDash s = false) : ¬ [' ', '-'] <:+ s :=
  fun hs => by simp [endsWithBlankDash, List.isSuffixOf_iff_suffix.mpr hs] at h

/-- what `is_unsafe_plain_shape(s) == false` gives -/
theorem unsafe_shape_facts {s : List Char} (h : isUnsafePlainShape s = false) :
    s.getLast? ≠ some ' ' ∧ s.head? ≠ some (Char.ofNat 0xFEFF) ∧ docMarkerLike s = false := by
  unfold isUnsafePlainShape at h
  simp only [Bool.or_eq_false_iff] at h
  refine ⟨by simpa using h.1.1, ?_, h.2⟩
  cases s with
  | nil => simp
  | cons c r =>
    simp only [List.head?_cons, ne_eq, Option.some.injEq]
    intro e; subst e
    have := h.1.2
    simp [startsWithBom] at this

theorem ps_unfold {s : List Char} (h : isPlainSafe s = true) :
    isAmbiguous s = false ∧ headRejects s = false ∧ (∀ c ∈ s, isControl c = false ∧ c ≠ ':' ∧ c ≠ '#') := by
  simp only [isPlainSafe, Bool.if_false_left, Bool.decide_eq_true] at h
  simp only [Bool.and_eq_true, Bool.not_eq_true'] at h
  have hv := cac_false h.2.2
  exact ⟨h.1, h.2.1, fun c hc => ⟨(hv c hc ':' (by simp)).2, (hv c hc ':' (by simp)).1, (hv c hc '#' (by simp)).1⟩⟩

/-- `s.trim().ends_with(':')` is false ⇒ the string itself does not end with `:` -/
theorem last_not_colon {s : List Char} (h : endsWithColon (trim s) = false) : s.getLast? ≠ some ':' := by
  intro hl
  simp [endsWithColon, trim_getLast hl (by decide)] at h

theorem not_asciiws_facts {d : Char} (h : isAsciiWhitespace d = false) : d ≠ ' ' ∧ d ≠ '\t' ∧ d ≠ '\n' ∧ d ≠ '\r' := by
  simp only [isAsciiWhitespace, Bool.or_eq_false_iff] at h
  refine ⟨by simpa using h.1.1.1.1, by simpa using h.1.1.1.2, by simpa using h.1.1.2, by simpa using h.2⟩

theorem not_bbz {d : Char} (h1 : isAsciiWhitespace d = false) (h2 : isControl d = false) : isBlankOrBreakZ d = false := by
  obtain ⟨a, b, _, _⟩ := not_asciiws_facts h1
  obtain ⟨_, hb, hn⟩ := not_control_facts h2
  simp [isBlankOrBreakZ, isBlank, a, b, hb, hn]

theorem headRejects_false {c : Char} {r : List Char} (h : headRejects (c :: r) = false) :
    isAsciiWhitespace c = false ∧
      (if (c == '-' || c == '?') = true then secondRejects r else c == ',' || startIndicators.contains c) = false := by
  simpa only [headRejects, Bool.if_true_left, Bool.decide_eq_true, Bool.or_eq_false_iff] using h

theorem head_facts {c : Char} {r : List Char} (hh : headRejects (c :: r) = false) :
    isBlank c = false ∧ c ≠ '%' := by
  obtain ⟨hws, hh⟩ := headRejects_false hh
  obtain ⟨a, b, _, _⟩ := not_asciiws_facts hws
  refine ⟨by simp [isBlank, a, b], ?_⟩
  intro e; subst e
  rw [if_neg (by decide)] at hh
  revert hh; decide

theorem plain_start (flow col0 : Bool) (s rest : List Char) (hs : SafeChars flow s)
    (hh : headRejects s = false) (hm : col0 = true → isDocMarker (s ++ rest) = false) :
    startKind flow col0 (s ++ rest) = .plain := by
  cases s with
  | nil => simp [headRejects] at hh
  | cons c r =>
    have hcs := hs c (by simp)
    obtain ⟨hws, hh'⟩ := headRejects_false hh
    have hbbz : isBlankOrBreakZ c = false := not_bbz hws hcs.1
    have hm' : (col0 && (c == '%' || isDocMarker (c :: (r ++ rest)))) = false := by
      cases col0 with
      | false => rfl
      | true => simpa [(head_facts hh).2] using hm rfl
    simp only [List.cons_append, startKind, hm', Bool.false_eq_true, if_false]
    by_cases hdq : (c == '-' || c == '?') = true
    · rw [if_pos hdq] at hh'
      cases r with
      | nil => simp [secondRejects] at hh'
      | cons d r2 =>
        have hd := hs d (by simp)
        have hdb : isBlankOrBreakZ d = false := not_bbz hh' hd.1
        have hfl : (flow && isFlowInd d) = false := by
          cases hf : flow with
          | false => rfl
          | true => exact hd.2.2 hf
        simp only [Bool.or_eq_true, beq_iff_eq] at hdq
        rcases hdq with rfl | rfl
        · simp [hdb, hfl, show isFlowInd '-' = false by decide]
        · simp [hdb, show isFlowInd '?' = false by decide]
    · rw [if_neg hdq] at hh'
      simp only [Bool.or_eq_true, not_or, Bool.not_eq_true] at hdq
      simp only [startIndicators, List.contains_cons, List.contains_nil, Bool.or_false, Bool.or_eq_false_iff] at hh'
      obtain ⟨hcomma, h1, h2, h3, h4, h5, h6, h7, h8, h9, h10, h11, h12, h13, h14, h15, h16⟩ := hh'
      simp only [isFlowInd, hcomma, h2, h3, h4, h5, hdq.1, hdq.2, h1, h7, h8, h9, h10, h11, h12, h13, h14, h15, h16, h6,
        hbbz, Bool.false_eq_true, if_false, Bool.or_self]

/-- `fl` is the flow flag `is_plain_value_safe` was evaluated with, at least as strict as the context `flow`. -/
theorem plain_scan (s term : List Char) (y fl flow col0 : Bool) (h : isPlainValueSafe s y fl = true)
    (hfl : flow = true → fl = true) (hb : s.getLast? ≠ some ' ') (ht : isTerm flow term = true)
    (hm : col0 = true → isDocMarker (s ++ term) = false) :
    startKind flow col0 (s ++ term) = .plain ∧ readPlain flow (s ++ term) = some (s, term) := by
  obtain ⟨_, hhead, hcs, hec, hsafe, hdash⟩ := pvs_unfold h
  have hne : s ≠ [] := by intro e; subst e; simp [headRejects] at hhead
  refine ⟨plain_start flow col0 s term (hsafe.of_imp hfl) hhead hm, ?_⟩
  simpa [readPlain] using plain_scan_run flow term ht s [] [] (hsafe.of_imp hfl) hcs (last_not_colon hec)
    (fun hf => not_suffix_of_endsWithBlankDash (hdash (hfl hf))) (fun _ h => absurd rfl h) (fun e => absurd e hne) hb

/-- a string that passes the head test and is not `.` is none of the one-character strings `serialize_str`
writes in single quotes -/
theorem not_special {s : List Char} (hh : headRejects s = false) (hdot : s ≠ ['.']) :
    (s.length == 1 && (s == ['.'] || s == ['#'] || s == ['-'])) = false := by
  have h2 : s ≠ ['#'] := by intro e; subst e; revert hh; decide
  have h3 : s ≠ ['-'] := by intro e; subst e; revert hh; decide
  simp [hdot, h2, h3]

/-- what `is_ambiguous(s) == false` gives (after 1fdb06b / b4ece9d: the merge key and everything the
crate's own readers take for a number are ambiguous) -/
theorem not_ambiguous_facts {s : List Char} (h : isAmbiguous s = false) :
    s ≠ [] ∧ s ≠ ['<', '<'] ∧ Scalars.scalarIsNullish s .plain = false ∧ readsAsNumber s = false := by
  simp only [isAmbiguous, Bool.if_true_left, Bool.decide_eq_true, Bool.or_false, Bool.or_eq_false_iff] at h
  obtain ⟨h1, h0, ⟨⟨⟨h2, h3⟩, _⟩, _⟩, _, _, h5⟩ := h
  refine ⟨by simpa using h1, by simpa using h0, ?_, h5⟩
  simp only [Scalars.scalarIsNullish, h1, h2, h3, Bool.or_self, Bool.and_false]

theorem not_ambiguous_value_facts {s : List Char} {y : Bool} (h : isAmbiguousValue s y = false) :
    isAmbiguous s = false ∧ (y = false → (Scalars.parseYaml11Bool s).isSome = false) := by
  simp only [isAmbiguousValue, Bool.if_true_left, Bool.decide_eq_true, Bool.or_eq_false_iff] at h
  exact ⟨h.1, fun hy => by simpa [hy] using h.2.1⟩

end SaphyrVerif.Lemmas.C12
