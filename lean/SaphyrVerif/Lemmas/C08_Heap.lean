import SaphyrVerif.Lemmas.C08_Step
/-!
C08: `heap`, the number of buffered events (open recording frames + anchor table), over one call of `next_impl`.
-/
namespace SaphyrVerif.Lemmas.C08
open SaphyrVerif.Pump

/-- events held by the open recording frames -/
def fsum (fs : List RecFrame) : Nat := (fs.map (·.buf.length)).sum
/-- events held by the anchor table -/
def asum (as : List (Nat × List Ev)) : Nat := (as.map (·.2.length)).sum

/-- buffered events (= `heapEvents` of Props/C08) -/
def heap (p : Pump) : Nat := fsum p.recStack + asum p.anchors

@[simp] theorem fsum_nil : fsum [] = 0 := rfl
@[simp] theorem asum_nil : asum [] = 0 := rfl
@[simp] theorem fsum_cons (f : RecFrame) (fs : List RecFrame) : fsum (f :: fs) = f.buf.length + fsum fs := by
  simp [fsum]
@[simp] theorem asum_cons (a : Nat × List Ev) (as : List (Nat × List Ev)) : asum (a :: as) = a.2.length + asum as := by
  simp [asum]

@[simp] theorem fsum_recordAll (fs : List RecFrame) (e : Ev) : fsum (recordAll fs e) = fsum fs + fs.length := by
  induction fs with
  | nil => rfl
  | cons f fs ih =>
    simp only [recordAll, List.map_cons, fsum_cons, List.length_cons, List.length_append, List.length_nil] at ih ⊢
    omega

@[simp] theorem length_recordAll (fs : List RecFrame) (e : Ev) : (recordAll fs e).length = fs.length := by
  simp [recordAll]

@[simp] theorem fsum_bumpStart (fs : List RecFrame) : fsum (bumpDepthOnStart fs) = fsum fs := by
  induction fs with
  | nil => rfl
  | cons f fs ih => simp only [bumpDepthOnStart, List.map_cons, fsum_cons] at ih ⊢; omega

@[simp] theorem length_bumpStart (fs : List RecFrame) : (bumpDepthOnStart fs).length = fs.length := by
  simp [bumpDepthOnStart]

theorem fsum_decr (fs : List RecFrame) :
    fsum (fs.map fun f => { f with depth := f.depth - 1 }) = fsum fs := by
  induction fs with
  | nil => rfl
  | cons f fs ih => simp only [List.map_cons, fsum_cons] at ih ⊢; omega

theorem finalizeFrames_sum (as : List (Nat × List Ev)) (fs : List RecFrame) :
    asum (finalizeFrames as fs).1 + fsum (finalizeFrames as fs).2 = asum as + fsum fs ∧
      (finalizeFrames as fs).2.length ≤ fs.length := by
  induction fs generalizing as with
  | nil => simp [finalizeFrames]
  | cons f fs ih =>
    simp only [finalizeFrames]
    split
    · obtain ⟨h1, h2⟩ := ih (setAnchor as f.id f.buf)
      simp only [setAnchor, asum_cons, fsum_cons, List.length_cons] at h1 h2 ⊢
      omega
    · simp

theorem bumpDepthOnEnd_sum {as as' : List (Nat × List Ev)} {fs fs' : List RecFrame}
    (h : bumpDepthOnEnd as fs = some (as', fs')) :
    asum as' + fsum fs' = asum as + fsum fs ∧ fs'.length ≤ fs.length := by
  unfold bumpDepthOnEnd at h
  split at h
  · cases h
  · have := finalizeFrames_sum as (fs.map fun f => { f with depth := f.depth - 1 })
    simp only [Option.some.injEq] at h
    rw [h, fsum_decr, List.length_map] at this
    exact this

theorem startFrames_sum (fs : List RecFrame) (anchor : Nat) (ev : Ev) :
    fsum (startFrames fs anchor ev) + fs.length ≤ fsum fs + fs.length + (startFrames fs anchor ev).length ∧
      fs.length ≤ (startFrames fs anchor ev).length := by
  unfold startFrames
  by_cases ha : (anchor != 0) = true
  · simp [ha, record]; omega
  · simp [ha, record]

theorem Skip1.heap_le {p q : Pump} (h : Skip1 p q) : heap q ≤ heap p ∧ q.recStack.length ≤ p.recStack.length := by
  cases h <;> simp [Pump.resetDocumentState, heap]

theorem Skips.heap_le {p q : Pump} (h : Skips p q) : heap q ≤ heap p ∧ q.recStack.length ≤ p.recStack.length := by
  induction h with
  | refl => exact ⟨Nat.le_refl _, Nat.le_refl _⟩
  | step h1 _ ih =>
    have := h1.heap_le
    omega

theorem Deliver.heap_le {q p' : Pump} {e : Ev} (h : Deliver q e p') :
    heap p' ≤ heap q + max q.recStack.length p'.recStack.length + 1 := by
  cases h with
  | scalar val style anchor tag loc bud hb =>
    by_cases ha : (anchor != 0) = true <;> simp [heap, ha, setAnchor] <;> omega
  | seqStart anchor tag loc bud hb =>
    have := startFrames_sum q.recStack anchor (.seqStart anchor (tagCode tag) tag loc)
    simp only [heap]; omega
  | mapStart anchor tag loc bud hb =>
    have := startFrames_sum q.recStack anchor (.mapStart anchor loc)
    simp only [heap]; omega
  | seqEnd loc bud as fs hb hd =>
    have := bumpDepthOnEnd_sum hd
    simp only [heap, fsum_recordAll, length_recordAll] at this ⊢; omega
  | mapEnd loc bud as fs hb hd =>
    have := bumpDepthOnEnd_sum hd
    simp only [heap, fsum_recordAll, length_recordAll] at this ⊢; omega
  | placeholder => simp [heap]; omega
  | replay => simp [heap]; omega
  | replay0 => simp [heap]; omega

theorem nextImpl_heap (p : Pump) (inp : List RawItem) (e : Ev) (p' : Pump) (rest : List RawItem)
    (h : nextImpl p inp = (.event e, p', rest)) :
    heap p' ≤ heap p + max p.recStack.length p'.recStack.length + 1 := by
  obtain ⟨q, hsk, hfin⟩ := nextImpl_event p inp e p' rest h
  have h1 := hsk.heap_le
  rcases hfin with ⟨⟨_, _, _, rfl⟩, _⟩ | hd
  · simp only [heap] at h1 ⊢; omega
  · have h2 := hd.heap_le
    omega

end SaphyrVerif.Lemmas.C08
