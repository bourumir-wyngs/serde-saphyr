import SaphyrVerif.Lemmas.C02_Replay
import SaphyrVerif.Lemmas.ExpandEqns
/-!
Helper lemmas for C02: what the node lemma is stated in and composed of.  `Outcome` is the complete case analysis
of what iterating `nextImpl` over the items of a node does from a `Good` state; `Outcome.comp` composes two of them, and
`node_scalar`, `node_alias`, `node_container` are the three kinds of node.  The node lemma itself (`pump_node`, the induction
over the tree) is in `Lemmas/C02_Doc.lean`.
-/
namespace SaphyrVerif.Lemmas.C02
open SaphyrVerif SaphyrVerif.Scalars SaphyrVerif.Pump SaphyrVerif.Spec SaphyrVerif.Budget
open SaphyrVerif.Lemmas.C08 (startFrames)

mutual
/-- no folded scalar at column 0 with non-blank text (such a scalar is rejected by the parser loop with
`foldedIndent`, a syntax-level error independent of anchors and aliases) -/
def noFoldedIndent : LNode → Bool
  | .scalar v st _ _ loc => !(st == .folded && locCol0 loc && !(trim v).isEmpty)
  | .alias .. => true
  | .seq _ _ _ _ items => noFoldedIndentL items
  | .map _ _ _ _ entries => noFoldedIndentE entries
def noFoldedIndentL : List LNode → Bool
  | [] => true
  | n :: ns => noFoldedIndent n && noFoldedIndentL ns
def noFoldedIndentE : List (LNode × LNode) → Bool
  | [] => true
  | (k, v) :: es => noFoldedIndent k && noFoldedIndent v && noFoldedIndentE es
end

def errOf : ExpErr → PErr
  | .unknown l => .unknownAnchor l
  | .recursive l => .recursiveRef l

/-- some alias limit is too small for `rep` further replayed events / `ac id` further aliases of `id` -/
def Exceeds (p : Pump) (rep : Nat) (ac : Nat → Nat) : Prop :=
  p.limits.maxReplayStackDepth < 1 ∨ p.limits.maxTotalReplayedEvents < p.totalReplayed + rep ∨
  ∃ id, p.limits.maxAliasExpansionsPerAnchor < lookupCount p.perAnchor id + ac id

/-- the run stops with an alias-limit error (after delivering events `es` with `P es`, and `X` explains
the limit) or with `foldedIndent`.  `fo` is instantiated by `noFoldedIndent` of the node: `true` says that no scalar
inside is rejected so, and it is `fo = false` that admits the second way to stop -/
def Bad (p : Pump) (inp : List RawItem) (P : List Ev → Prop) (X : Prop) (fo : Bool) : Prop :=
  (∃ es err p', Stops p inp es err p' ∧ isLimit err = true ∧ P es ∧ X) ∨
  (fo = false ∧ ∃ es l p', Stops p inp es (.foldedIndent l) p')

theorem Bad.mono {p inp P X fo P' X' fo'} (h : Bad p inp P X fo) (hP : ∀ es, P es → P' es) (hX : X → X')
    (hfo : fo = false → fo' = false) : Bad p inp P' X' fo' := by
  rcases h with ⟨es, err, p', hs, hl, hp, hx⟩ | ⟨hf, es, l, p', hs⟩
  · exact Or.inl ⟨es, err, p', hs, hl, hP es hp, hX hx⟩
  · exact Or.inr ⟨hfo hf, es, l, p', hs⟩

theorem Bad.after {p inp es1 p1 inp1 P X fo P' X' fo'} (hs1 : Steps p inp es1 p1 inp1)
    (h : Bad p1 inp1 P X fo) (hP : ∀ es, P es → P' (es1 ++ es)) (hX : X → X')
    (hfo : fo = false → fo' = false) : Bad p inp P' X' fo' := by
  rcases h with ⟨es, err, p', hs, hl, hp, hx⟩ | ⟨hf, es, l, p', hs⟩
  · exact Or.inl ⟨es1 ++ es, err, p', Stops.after hs1 hs, hl, hP es hp, hX hx⟩
  · exact Or.inr ⟨hfo hf, es1 ++ es, l, p', Stops.after hs1 hs⟩

theorem Bad.of_eq {p inp q inq P X fo} (h : nextImpl p inp = nextImpl q inq) (hb : Bad q inq P X fo) :
    Bad p inp P X fo := by
  rcases hb with ⟨es, err, p', hs, hl, hp, hx⟩ | ⟨hf, es, l, p', hs⟩
  · exact Or.inl ⟨es, err, p', Stops.of_eq h hs, hl, hp, hx⟩
  · exact Or.inr ⟨hf, es, l, p', Stops.of_eq h hs⟩

theorem Bad.stops {p inp P X fo} (h : Bad p inp P X fo) : ∃ es err p', Stops p inp es err p' := by
  rcases h with ⟨es, err, p', hs, -⟩ | ⟨-, es, l, p', hs⟩
  · exact ⟨es, err, p', hs⟩
  · exact ⟨es, _, p', hs⟩

theorem Bad.run {p inp P X fo} (hb : Bad p inp P X fo) {fuel : Nat} {evs : List Ev} {oerr : Option PErr} {p' : Pump}
    (h : pumpAll fuel p inp [] = some (evs, oerr, p')) :
    ∃ err, oerr = some err ∧ ((isLimit err = true ∧ P evs ∧ X) ∨ (fo = false ∧ ∃ l, err = .foldedIndent l)) := by
  rcases hb with ⟨es, err, q, hs, hl, hp, hx⟩ | ⟨hf, es, l, q, hs⟩
  · cases run_of_stops hs h
    exact ⟨err, rfl, .inl ⟨hl, hp, hx⟩⟩
  · cases run_of_stops hs h
    exact ⟨_, rfl, .inr ⟨hf, l, rfl⟩⟩

def Outcome (p : Pump) (inp rest : List RawItem) (ac : Nat → Nat) (fo : Bool) : Except ExpErr Exp → Prop
  | .ok r => (∃ p', Steps p inp r.evs p' rest ∧ Post p p' r ac) ∨
      Bad p inp (· <+: r.evs) (Exceeds p r.replayed ac) fo
  | .error e => (∃ es p', Stops p inp es (errOf e) p') ∨ Bad p inp (fun _ => True) True fo

theorem Outcome.steps_or_stops {p inp rest ac fo res} (h : Outcome p inp rest ac fo res) :
    (∃ r p', res = .ok r ∧ Steps p inp r.evs p' rest ∧ Post p p' r ac) ∨ ∃ es err p', Stops p inp es err p' := by
  cases res with
  | ok r => exact h.elim (fun ⟨p', hs, hp⟩ => .inl ⟨r, p', rfl, hs, hp⟩) (fun hb => .inr hb.stops)
  | error e => exact .inr (h.elim (fun ⟨es, p', hs⟩ => ⟨es, _, p', hs⟩) Bad.stops)

theorem Post.trans {p p1 p2 : Pump} {r1 r2 : Exp} {ac1 ac2 : Nat → Nat} (h1 : Post p p1 r1 ac1)
    (h2 : Post p1 p2 r2 ac2) :
    Post p p2 ⟨r1.evs ++ r2.evs, r2.tab, r1.replayed + r2.replayed⟩ (fun i => ac1 i + ac2 i) where
  good := h2.good
  anchors := h2.anchors
  frames := by rw [h2.frames, h1.frames]; simp
  tot := by rw [h2.tot, h1.tot]; simp; omega
  cnt i := by
    have a := h1.cnt i
    have b := h2.cnt i
    omega
  lim := by rw [h2.lim, h1.lim]
  sade := by rw [h2.sade, h1.sade]
  prod h := by
    by_cases he : r1.evs = []
    · rcases h with h | h
      · exact h2.prod (Or.inl (h1.prod (Or.inl h)))
      · refine h2.prod (Or.inr ?_)
        intro h2e
        exact h (by simp [he, h2e])
    · exact h2.prod (Or.inl (h1.prod (Or.inr he)))

theorem Exceeds.left {p : Pump} {rep1 : Nat} {ac1 : Nat → Nat} (h : Exceeds p rep1 ac1) (rep2 : Nat)
    (ac2 : Nat → Nat) : Exceeds p (rep1 + rep2) (fun i => ac1 i + ac2 i) := by
  rcases h with h | h | ⟨id, h⟩
  · exact Or.inl h
  · exact Or.inr (Or.inl (by omega))
  · exact Or.inr (Or.inr ⟨id, by show _ < _ + (ac1 id + ac2 id); omega⟩)

theorem Exceeds.after {p p1 : Pump} {r1 : Exp} {ac1 : Nat → Nat} (hp : Post p p1 r1 ac1) {rep2 : Nat}
    {ac2 : Nat → Nat} (h : Exceeds p1 rep2 ac2) :
    Exceeds p (r1.replayed + rep2) (fun i => ac1 i + ac2 i) := by
  rcases h with h | h | ⟨id, h⟩
  · exact Or.inl (by rw [← hp.lim]; exact h)
  · refine Or.inr (Or.inl ?_)
    rw [hp.lim, hp.tot] at h
    omega
  · refine Or.inr (Or.inr ⟨id, ?_⟩)
    have := hp.cnt id
    rw [hp.lim] at h
    show _ < _ + (ac1 id + ac2 id)
    omega

theorem Outcome.comp {p : Pump} {A B rest : List RawItem} {ac1 ac2 : Nat → Nat} {fo1 fo2 : Bool}
    {res1 : Except ExpErr Exp}
    (h1 : Outcome p (A ++ (B ++ rest)) (B ++ rest) ac1 fo1 res1)
    (res2 : Tab → Except ExpErr Exp)
    (h2 : ∀ p1 r1, Good p1 → res1 = .ok r1 → p1.anchors = r1.tab →
      p1.recStack = recordL p.recStack r1.evs → Outcome p1 (B ++ rest) rest ac2 fo2 (res2 r1.tab)) :
    Outcome p (A ++ B ++ rest) rest (fun i => ac1 i + ac2 i) (fo1 && fo2) (bind2 res1 res2) := by
  rw [List.append_assoc]
  have hfo1 : fo1 = false → (fo1 && fo2) = false := by intro h; simp [h]
  have hfo2 : fo2 = false → (fo1 && fo2) = false := by intro h; simp [h]
  cases res1 with
  | error e =>
    simp only [bind2, Outcome] at h1 ⊢
    rcases h1 with h | h
    · exact Or.inl h
    · exact Or.inr (h.mono (fun _ h => h) id hfo1)
  | ok r1 =>
    simp only [Outcome] at h1
    rcases h1 with ⟨p1, hs1, hpost1⟩ | hb
    · have h2' := h2 p1 r1 hpost1.good rfl hpost1.anchors hpost1.frames
      simp only [bind2]
      cases hr2 : res2 r1.tab with
      | error e =>
        rw [hr2] at h2'
        simp only [Outcome] at h2' ⊢
        rcases h2' with ⟨es, p', hs⟩ | hb
        · exact Or.inl ⟨_, p', Stops.after hs1 hs⟩
        · exact Or.inr (Bad.after hs1 hb (fun _ h => h) id hfo2)
      | ok r2 =>
        rw [hr2] at h2'
        simp only [Outcome] at h2' ⊢
        rcases h2' with ⟨p2, hs2, hpost2⟩ | hb
        · exact Or.inl ⟨p2, hs1.trans hs2, hpost1.trans hpost2⟩
        · refine Or.inr (Bad.after hs1 hb ?_ (fun hx => Exceeds.after hpost1 hx) hfo2)
          intro es hes
          exact (List.prefix_append_right_inj _).mpr hes
    · simp only [bind2]
      cases hr2 : res2 r1.tab with
      | error e =>
        simp only [Outcome]
        exact Or.inr (hb.mono (fun _ _ => trivial) (fun _ => trivial) hfo1)
      | ok r2 =>
        simp only [Outcome]
        refine Or.inr (hb.mono ?_ (fun hx => hx.left _ _) hfo1)
        intro es hes
        exact hes.trans (List.prefix_append _ _)

theorem Outcome.of_limit {p : Pump} {inp rest : List RawItem} {ac : Nat → Nat} {fo : Bool}
    {res : Except ExpErr Exp} {err : PErr} {p' : Pump} (hs : Stops p inp [] err p')
    (hl : isLimit err = true) (hx : ∀ r, res = .ok r → Exceeds p r.replayed ac) :
    Outcome p inp rest ac fo res := by
  cases res with
  | error e => exact Or.inr (Or.inl ⟨[], err, p', hs, hl, trivial, trivial⟩)
  | ok r => exact Or.inr (Or.inl ⟨[], err, p', hs, hl, List.nil_prefix, hx r rfl⟩)

theorem node_scalar {p : Pump} (hg : Good p) (v : List Char) (st : Style) (a : Nat) (tag : Option (List Char))
    (loc : Loc) (rest : List RawItem) :
    Outcome p (.ev (.scalar v st a tag) loc :: rest) rest (fun _ => 0)
      (!(st == .folded && locCol0 loc && !(trim v).isEmpty))
      (.ok ⟨[scalarEv v st a tag loc],
        if a != 0 then setAnchor p.anchors a [scalarEv v st a tag loc] else p.anchors, 0⟩) := by
  cases hf : (st == .folded && locCol0 loc && !(trim v).isEmpty) with
  | false =>
    refine Or.inl ⟨_, Steps.one (nextImpl_good_ret hg (.scalar v st a tag hf) rest), ?_⟩
    have hne : TabNe (if a != 0 then setAnchor p.anchors a [scalarEv v st a tag loc] else p.anchors) := by
      split
      · exact TabNe_set hg.ne a (by simp)
      · exact hg.ne
    exact {
      good := ⟨hg.bud, hg.rip, List.forall_mem_nil _, DepthPos_recordL _ hg.dep, hne⟩
      anchors := rfl, frames := rfl, tot := rfl, cnt := fun i => Nat.le_refl _, lim := rfl, sade := rfl
      prod := fun _ => rfl }
  | true => exact Or.inr (Or.inr ⟨rfl, [], loc, _, Stops.now (nextImpl_good_ret hg (.folded v st a tag hf) rest)⟩)

/-- an alias: the outcomes of `Pump.Item` on it one by one (no placeholder, as no recursion wrapper is in progress; no
empty buffer to skip, as the table holds none) -/
theorem node_alias {p : Pump} (hg : Good p) (id : Nat) (loc : Loc) (rest : List RawItem) :
    Outcome p (.ev (.alias id) loc :: rest) rest (fun i => if id == i then 1 else 0) true
      (expand p.anchors (p.recStack.map (·.id)) (.alias id loc)) := by
  obtain ⟨o, hi⟩ := item_total (clr p) loc (.alias id)
  have hany := any_id_iff p.recStack id
  cases hi with
  | aliasLimit _ h1 =>
    refine Outcome.of_limit (Stops.now (nextImpl_good_ret hg (.aliasLimit id h1) rest)) rfl
      (fun _ _ => .inr (.inr ⟨id, ?_⟩))
    simp only [beq_self_eq_true, ↓reduceIte]
    exact Nat.lt_of_lt_of_le h1 (Nat.min_le_left _ _)
  | aliasDepth _ h1 h2 =>
    exact Outcome.of_limit (Stops.now (nextImpl_good_ret hg (.aliasDepth id h1 h2) rest)) rfl (fun _ _ => .inl h2)
  | placeholder _ _ _ _ hr => rw [show (clr p).recursiveInProgress = [] from hg.rip] at hr; cases hr
  | recursive _ h1 h2 h3 h4 =>
    simp only [expand, hany.symm.trans h3, if_true]
    exact Or.inl ⟨[], _, Stops.now (nextImpl_good_ret hg (.recursive id h1 h2 h3 h4) rest)⟩
  | unknownAlias _ h1 h2 h3 h5 =>
    simp only [expand, hany.symm.trans h3, show lookupAnchor p.anchors id = none from h5, Bool.false_eq_true, if_false]
    exact Or.inl ⟨[], _, Stops.now (nextImpl_good_ret hg (.unknownAlias id h1 h2 h3 h5) rest)⟩
  | replay _ buf h1 h2 h3 h5 hs =>
    simp only [expand, hany.symm.trans h3, show lookupAnchor p.anchors id = some buf from h5, Bool.false_eq_true, if_false]
    have heq := (nextImpl_good_ret hg (.replay id buf h1 h2 h3 h5 hs) rest).trans (Call.served hs).eq.symm
    rcases alias_replay hg id loc rest h5 heq with ⟨p', hs, hpost⟩ | ⟨hex, es, err, p', hs, hl, hpre⟩
    · exact Or.inl ⟨p', hs, hpost⟩
    · exact Or.inr (Or.inl ⟨es, err, p', hs, hl, hpre, Or.inr (Or.inl hex)⟩)
  | spentAlias _ buf _ _ _ h5 hs =>
    obtain ⟨b, hb, hle⟩ := hs _ (List.mem_cons_self ..)
    cases (show lookupAnchor p.anchors id = some buf from h5).symm.trans hb
    exact absurd (List.eq_nil_of_length_eq_zero (Nat.le_zero.mp hle)) (lookupAnchor_ne hg.ne h5)

theorem DepthPos_startFrames {R : List RecFrame} (a : Nat) (ev : Ev) : DepthPos (startFrames R a ev) := by
  rw [startFrames_eq]
  split
  · exact DepthPos_cons (by simp) (DepthPos_recordL _ (DepthPos_bump R))
  · exact DepthPos_recordL _ (DepthPos_bump R)

theorem ids_startFrames (R : List RecFrame) (a : Nat) (ev : Ev) :
    (startFrames R a ev).map (·.id) = if a != 0 then a :: R.map (·.id) else R.map (·.id) := by
  rw [startFrames_eq]
  split <;> simp

/-- the states in which a container start (`Item.seqStart`, `Item.mapStart`) and a container end whose `bumpDepthOnEnd` gave `x`
(`Item.seqEnd`, `Item.mapEnd`) leave a pump with no replay pending -/
def opened (p : Pump) (a : Nat) (ev : Ev) : Pump :=
  { clr p with recStack := startFrames p.recStack a ev, lastLoc := ev.loc, producedAny := true }

def ended (p : Pump) (x : Tab × List RecFrame) (eend : Ev) : Pump :=
  { clr p with anchors := x.1, recStack := x.2, lastLoc := eend.loc, producedAny := true }

theorem node_container {p : Pump} (hg : Good p) (a : Nat) (ev eend : Ev) (sItem eItem : RawItem)
    (inner rest : List RawItem) (ac : Nat → Nat) (fo : Bool) (res : Except ExpErr Exp)
    (hstart : ∀ rest', nextImpl p (sItem :: rest') = (.event ev, opened p a ev, rest'))
    (hend : ∀ p2, Good p2 → ∀ rest', nextImpl p2 (eItem :: rest') =
      (.event eend, ended p2 (finalizeFrames p2.anchors (decAll (recordL p2.recStack [eend]))) eend, rest'))
    (hin : ∀ p1, Good p1 → p1.anchors = p.anchors → p1.recStack = startFrames p.recStack a ev →
      Outcome p1 (inner ++ eItem :: rest) (eItem :: rest) ac fo res) :
    Outcome p (sItem :: (inner ++ [eItem]) ++ rest) rest ac fo (wrap a ev eend res) := by
  have hinp : sItem :: (inner ++ [eItem]) ++ rest = sItem :: (inner ++ eItem :: rest) := by simp
  rw [hinp]
  have hn1 := hstart (inner ++ eItem :: rest)
  -- `opened` and `ended` are updates of `recStack`, `anchors`, `lastLoc`, `producedAny` (and clear `inject`): every other
  -- field of `Good`, `Exceeds` and `Post` is the one before, by `rfl`
  have hin' := hin (opened p a ev) ⟨hg.bud, hg.rip, List.forall_mem_nil _, DepthPos_startFrames a ev, hg.ne⟩ rfl rfl
  cases res with
  | error e =>
    simp only [wrap, Outcome] at hin' ⊢
    rcases hin' with ⟨es, p', hs⟩ | hb
    · exact Or.inl ⟨_, p', Stops.after (Steps.one hn1) hs⟩
    · exact Or.inr (Bad.after (Steps.one hn1) hb (fun _ h => h) id id)
  | ok r =>
    simp only [wrap, Outcome] at hin' ⊢
    rcases hin' with ⟨p2, hs2, hpost2⟩ | hb
    · left
      have hn3 := hend p2 hpost2.good rest
      have hfr : p2.recStack = recordL (startFrames p.recStack a ev) r.evs := hpost2.frames
      rw [hpost2.anchors, hfr, finalize_container _ _ hg.dep] at hn3
      have hne2 : TabNe r.tab := hpost2.anchors ▸ hpost2.good.ne
      refine ⟨_, Steps.cons hn1 (hs2.snoc hn3), ?_⟩
      exact {
        good := by
          refine ⟨hpost2.good.bud, hpost2.good.rip, List.forall_mem_nil _, DepthPos_recordL _ hg.dep, ?_⟩
          show TabNe (if a != 0 then _ else _)
          split
          · exact TabNe_set hne2 a (by simp)
          · exact hne2
        anchors := rfl, frames := rfl, tot := hpost2.tot, cnt := hpost2.cnt, lim := hpost2.lim, sade := hpost2.sade
        prod := fun _ => rfl }
    · refine Or.inr (Bad.after (Steps.one hn1) hb ?_ id id)
      intro es hes
      show ev :: es <+: ev :: (r.evs ++ [eend])
      exact (List.prefix_cons_inj _).mpr (hes.trans (List.prefix_append _ _))

end SaphyrVerif.Lemmas.C02
