import SaphyrVerif.Lemmas.C13_Emit
import SaphyrVerif.Lemmas.C13_Lines
/-!
Flow wrappers (C20).  The flow fragment (leaves, `Some`, newtype structs, sequences / tuples / tuple structs, mappings
with distinct safe string keys, enum variants with data — written as `{Variant: payload}` inside a flow collection) with
the induction over its shapes (`inFlowFrag.shapes`), its one-line flow text (`flowTxt`), the emitter invariant in flow
context (`ser_flow_shapes`: inside a flow collection a value only appends its text, `FlowEq`), and what `FlowSeq` / `FlowMap`
emit at the root (`emit_flowSeq`, `emit_flowMap`).  A flow collection opens and closes in one way wherever it stands
(`flowOpen`, `flowClose`): the root is the mid-line case after the prologue (`flowStart`).
-/
set_option linter.unusedSectionVars false
namespace SaphyrVerif.Emit

mutual
def inFlowFrag : SVal → Bool
  | .unit => true
  | .none => true
  | .bool _ => true
  | .int _ => true
  | .str s => isSafeStr s
  | .unitVariant _ n => isSafeStr n
  | .some v => inFlowFrag v
  | .newtypeStruct v => inFlowFrag v
  | .seq xs => inFlowFragList xs
  | .tuple xs => inFlowFragList xs
  | .tupleStruct xs => inFlowFragList xs
  | .map _ es => inFlowFragEntries es && (keysOf es).Nodup
  | .newtypeVariant n v => isSafeStr n && inFlowFrag v
  | .tupleVariant n xs => isSafeStr n && inFlowFragList xs
  | .structVariant n fs => isSafeStr n && (inFlowFragEntries fs && (keysOf fs).Nodup)
  | _ => false
def inFlowFragList : List SVal → Bool
  | [] => true
  | v :: vs => inFlowFrag v && inFlowFragList vs
def inFlowFragEntries : List (SVal × SVal) → Bool
  | [] => true
  | (k, v) :: es => (match k with | .str s => isSafeStr s | _ => false) && inFlowFrag v && inFlowFragEntries es
end

theorem inFlowFragEntries_cons {k v : SVal} {es : List (SVal × SVal)} (h : inFlowFragEntries ((k, v) :: es) = true) :
    ∃ kt, k = .str kt ∧ ((isSafeStr kt = true ∧ inFlowFrag v = true) ∧ inFlowFragEntries es = true) := by
  cases k <;> simp only [inFlowFragEntries, Bool.and_eq_true, Bool.false_and, Bool.false_eq_true] at h
  exact ⟨_, rfl, h⟩

/-! Induction over the shapes of the flow fragment: the cases of `inFragP.shapes` without composite keys. -/
section
variable {M : SVal → Prop} {ML : List SVal → Prop} {ME : List (SVal × SVal) → Prop}
  (leaf : ∀ v, isLeaf v = true → M v)
  (str : ∀ s, isSafeStr s = true → M (.str s))
  (unit : ∀ e n, isSafeStr n = true → M (.unitVariant e n))
  (wrap : ∀ v, inFlowFrag v = true → M v → M (.some v) ∧ M (.newtypeStruct v))
  (seq : ∀ xs, inFlowFragList xs = true → ML xs → M (.seq xs) ∧ M (.tuple xs) ∧ M (.tupleStruct xs))
  (map : ∀ b es, inFlowFragEntries es = true → (keysOf es).Nodup → ME es → M (.map b es))
  (nv : ∀ n v, isSafeStr n = true → inFlowFrag v = true → M v → M (.newtypeVariant n v))
  (tv : ∀ n xs, M (.newtypeVariant n (.seq xs)) → M (.tupleVariant n xs))
  (sv : ∀ n fs, M (.newtypeVariant n (.map true fs)) → M (.structVariant n fs))
  (nil : ML [])
  (cons : ∀ x xs, inFlowFrag x = true → inFlowFragList xs = true → M x → ML xs → ML (x :: xs))
  (enil : ME [])
  (ekey : ∀ kt v es, isSafeStr kt = true → inFlowFrag v = true → inFlowFragEntries es = true → M v → ME es →
    ME ((.str kt, v) :: es))
include leaf str unit wrap seq map nv tv sv nil cons enil ekey

mutual
theorem inFlowFrag.shapes : ∀ (v : SVal), inFlowFrag v = true → M v
  | .unit, _ => leaf _ rfl
  | .none, _ => leaf _ rfl
  | .bool _, _ => leaf _ rfl
  | .int _, _ => leaf _ rfl
  | .str s, h => str s (by simpa only [inFlowFrag] using h)
  | .unitVariant e n, h => unit e n (by simpa only [inFlowFrag] using h)
  | .some v, h => by
    simp only [inFlowFrag] at h
    exact (wrap v h (inFlowFrag.shapes v h)).1
  | .newtypeStruct v, h => by
    simp only [inFlowFrag] at h
    exact (wrap v h (inFlowFrag.shapes v h)).2
  | .seq xs, h => by
    simp only [inFlowFrag] at h
    exact (seq xs h (inFlowFragList.shapes xs h)).1
  | .tuple xs, h => by
    simp only [inFlowFrag] at h
    exact (seq xs h (inFlowFragList.shapes xs h)).2.1
  | .tupleStruct xs, h => by
    simp only [inFlowFrag] at h
    exact (seq xs h (inFlowFragList.shapes xs h)).2.2
  | .map b es, h => by
    simp only [inFlowFrag, Bool.and_eq_true, decide_eq_true_eq] at h
    exact map b es h.1 h.2 (inFlowFragEntries.shapes es h.1)
  | .newtypeVariant n v, h => by
    simp only [inFlowFrag, Bool.and_eq_true] at h
    exact nv n v h.1 h.2 (inFlowFrag.shapes v h.2)
  | .tupleVariant n xs, h => by
    simp only [inFlowFrag, Bool.and_eq_true] at h
    exact tv n xs (nv n _ h.1 (by simpa only [inFlowFrag] using h.2) (seq xs h.2 (inFlowFragList.shapes xs h.2)).1)
  | .structVariant n fs, h => by
    simp only [inFlowFrag, Bool.and_eq_true, decide_eq_true_eq] at h
    exact sv n fs (nv n _ h.1 (by simp only [inFlowFrag, h.2.1, h.2.2, decide_true, Bool.and_self])
      (map true fs h.2.1 h.2.2 (inFlowFragEntries.shapes fs h.2.1)))
  | .flowSeq _, h => by simp [inFlowFrag] at h
  | .flowMap _, h => by simp [inFlowFrag] at h
  | .commented _ _, h => by simp [inFlowFrag] at h
  | .spaceAfter _, h => by simp [inFlowFrag] at h
  | .litStr _, h => by simp [inFlowFrag] at h
  | .foldStr _, h => by simp [inFlowFrag] at h
theorem inFlowFragList.shapes : ∀ (xs : List SVal), inFlowFragList xs = true → ML xs
  | [], _ => nil
  | x :: xs, h => by
    simp only [inFlowFragList, Bool.and_eq_true] at h
    exact cons x xs h.1 h.2 (inFlowFrag.shapes x h.1) (inFlowFragList.shapes xs h.2)
theorem inFlowFragEntries.shapes : ∀ (es : List (SVal × SVal)), inFlowFragEntries es = true → ME es
  | [], _ => enil
  | (k, v) :: es, h => by
    obtain ⟨kt, rfl, hkv⟩ := inFlowFragEntries_cons h
    exact ekey kt v es hkv.1.1 hkv.1.2 hkv.2 (inFlowFrag.shapes v hkv.1.2) (inFlowFragEntries.shapes es hkv.2)
end

theorem inFlowFrag.shapes_all :
    (∀ v, inFlowFrag v = true → M v) ∧ (∀ xs, inFlowFragList xs = true → ML xs) ∧
      (∀ es, inFlowFragEntries es = true → ME es) :=
  ⟨inFlowFrag.shapes leaf str unit wrap seq map nv tv sv nil cons enil ekey,
    inFlowFragList.shapes leaf str unit wrap seq map nv tv sv nil cons enil ekey,
    inFlowFragEntries.shapes leaf str unit wrap seq map nv tv sv nil cons enil ekey⟩

end

/-- `{Variant: payload}` -/
def flowVariant (n payload : List Char) : List Char := '{' :: n ++ ':' :: ' ' :: payload ++ ['}']

mutual
/-- the text of a value inside a flow collection -/
def flowTxt : SVal → List Char
  | .unit => "null".toList
  | .none => "null".toList
  | .bool b => if b then "true".toList else "false".toList
  | .int i => intText i
  | .str s => s
  | .unitVariant _ n => n
  | .some v => flowTxt v
  | .newtypeStruct v => flowTxt v
  | .seq xs => '[' :: flowItems xs ++ [']']
  | .tuple xs => '[' :: flowItems xs ++ [']']
  | .tupleStruct xs => '[' :: flowItems xs ++ [']']
  | .map _ es => '{' :: flowEntries es ++ ['}']
  | .newtypeVariant n v => flowVariant n (flowTxt v)
  | .tupleVariant n xs => flowVariant n ('[' :: flowItems xs ++ [']'])
  | .structVariant n fs => flowVariant n ('{' :: flowEntries fs ++ ['}'])
  | _ => []
def flowItems : List SVal → List Char
  | [] => []
  | x :: xs => flowTxt x ++ flowItemsTail xs
def flowItemsTail : List SVal → List Char
  | [] => []
  | x :: xs => ',' :: ' ' :: flowTxt x ++ flowItemsTail xs
def flowEntries : List (SVal × SVal) → List Char
  | [] => []
  | (k, v) :: es => (keyOf k).getD [] ++ ':' :: ' ' :: flowTxt v ++ flowEntriesTail es
def flowEntriesTail : List (SVal × SVal) → List Char
  | [] => []
  | (k, v) :: es => ',' :: ' ' :: (keyOf k).getD [] ++ ':' :: ' ' :: flowTxt v ++ flowEntriesTail es
end

theorem flowTxt_leaf {T : Toks} {v : SVal} {tok : List Char} (h : leafTok T v = some tok) : flowTxt v = tok := by
  cases v <;> simp only [leafTok, Option.some.injEq, reduceCtorEq] at h <;> subst h <;> simp only [flowTxt]

/-- between two tokens of a flow collection: mid-line (a space may be pending after `Variant:`) -/
structure Mid (s : St) : Prop where
  als : s.atLineStart = false
  pss : s.pendingStrStyle = none

/-- the deferred space after a `:` -/
def sp (s : St) : List Char := if s.pendingSpaceAfterColon then [' '] else []

variable {o : Opts} {f : ScalarFns}

/-- a node writes `txt` inside a flow collection (after the deferred space, if any) and leaves nothing pending -/
def FlowOKP (P : St → Except EmitErr St) (txt : List Char) : Prop :=
  ∀ (s : St), Mid s → s.inFlow ≥ 1 →
    ∃ s', P s = .ok s' ∧ s'.out = s.out ++ sp s ++ txt ∧ Mid s' ∧ s'.pendingSpaceAfterColon = false ∧ s'.inFlow = s.inFlow

/-- the state after a node in flow context: its text after the deferred space, nothing pending -/
def wrote (s : St) (txt : List Char) : St :=
  { s with out := s.out ++ sp s ++ txt, pendingSpaceAfterColon := false, lastValueWasBlock := false, atLineStart := false }

/-- inside a flow collection `P` does nothing but write `txt`: the closed form behind `FlowOKP` -/
def FlowEq (P : St → Except EmitErr St) (txt : List Char) : Prop :=
  ∀ (s : St), Mid s → s.inFlow ≥ 1 → P s = .ok (wrote s txt)

theorem FlowEq.ok {P : St → Except EmitErr St} {txt : List Char} (h : FlowEq P txt) : FlowOKP P txt :=
  fun s hm hfl => ⟨_, h s hm hfl, rfl, ⟨rfl, hm.pss⟩, rfl, rfl⟩

/-- between two tokens of a flow collection: mid-line, nothing pending -/
structure Flat (s : St) : Prop extends Mid s where
  psc : s.pendingSpaceAfterColon = false
  lvb : s.lastValueWasBlock = false

theorem Flat.write {s : St} (h : Flat s) (cs : List Char) : Flat (s.write cs) := ⟨⟨h.als, h.pss⟩, h.psc, h.lvb⟩

theorem serToken_flow (tok : List Char) : FlowEq (fun s => .ok (serToken o tok s)) tok := by
  intro s h hf
  have hne : (s.inFlow == 0) = false := by simp; omega
  by_cases hp : s.pendingSpaceAfterColon = true <;>
    simp [serToken, writeSpaceIfPending, indentIfLineStart, writeEndOfScalar, St.write, wrote, sp, hne, hp, h.als]

theorem serStr_flow (ho : PlainOpts o) (hf : SafeContract f) {v : List Char} (hs : isSafeStr v = true) {s : St}
    (h : Mid s) (hfl : s.inFlow ≥ 1) : serStr o f v s = serToken o v s := by
  have hp := isSafeStr_not_punct hs
  have hq := ho.quoteAll
  have hne : (s.inFlow == 0) = false := by simp; omega
  have hgt : decide (s.inFlow > 0) = true := by simp; omega
  have hgt' : decide (0 < s.inFlow) = true := by simp; omega
  unfold serStr
  simp only [h.pss, hne, Option.isNone_none, Bool.true_and, Bool.false_and, Bool.false_eq_true, if_false]
  simp only [hp, Bool.false_eq_true, if_false, plainOrQuotedValue, hq, hf.shape v hs,
    Bool.not_false]
  by_cases hpsc : s.pendingSpaceAfterColon = true <;>
    simp [serToken, writeSpaceIfPending, St.write, indentIfLineStart, h.als, hpsc, hgt', hf.value v o.yaml12 true hs]

/-- the state after the opening bracket `br` of a flow collection that starts mid-line -/
def flowOpen (br : Char) (s : St) : St :=
  { s with pendingFlow := if s.inFlow > 0 then s.pendingFlow else none, out := s.out ++ sp s ++ [br],
           pendingSpaceAfterColon := false, lastValueWasBlock := false, atLineStart := false }

theorem flowOpen_flat {s : St} (h : Mid s) (br : Char) : Flat (flowOpen br s) := ⟨⟨rfl, h.pss⟩, rfl, rfl⟩

/-- `SeqSer::end` / `MapSer::end` in flow style: the closing bracket, and a line break after the outermost collection -/
def flowClose (br : Char) (s : St) : St := if s.inFlow == 0 then newline (s.write [br]) else s.write [br]

theorem flow_brackets (a z : Char) (body : List Char) {s : St} (h : s.inFlow ≥ 1) :
    flowClose z ((flowOpen a s).write body) = wrote s (a :: body ++ [z]) := by
  have h0 : (s.inFlow == 0) = false := by simp; omega
  have hz : s.inFlow > 0 := h
  simp [flowClose, flowOpen, wrote, St.write, h0, hz]

/-- `serialize_seq` in flow style (inside a flow collection, or with the hint pending) -/
theorem serializeSeq_flow {s : St} (h : s.atLineStart = false) (hfl : s.inFlow ≥ 1 ∨ s.pendingFlow = some .anySeq) :
    serializeSeq o s = ({ depth := s.depth, flow := true }, flowOpen '[' s) := by
  by_cases hz : s.inFlow > 0
  · cases hp : s.pendingSpaceAfterColon <;>
      simp [serializeSeq, takeFlow, hz, writeSpaceIfPending, indentIfLineStart, St.write, flowOpen, sp, hp, h]
  · have hpf : s.pendingFlow = some .anySeq := hfl.resolve_left (by omega)
    cases hp : s.pendingSpaceAfterColon <;>
      simp [serializeSeq, takeFlow, hz, hpf, writeSpaceIfPending, indentIfLineStart, St.write, flowOpen, sp, hp, h]

theorem serializeMap_flow {s : St} (len : Option Nat) (h : s.atLineStart = false)
    (hfl : s.inFlow ≥ 1 ∨ s.pendingFlow = some .anyMap) :
    serializeMap o len s = ({ depth := s.depth, flow := true }, flowOpen '{' s) := by
  by_cases hz : s.inFlow > 0
  · cases hp : s.pendingSpaceAfterColon <;>
      simp [serializeMap, takeFlow, hz, writeSpaceIfPending, indentIfLineStart, St.write, flowOpen, sp, hp, h]
  · have hpf : s.pendingFlow = some .anyMap := hfl.resolve_left (by omega)
    cases hp : s.pendingSpaceAfterColon <;>
      simp [serializeMap, takeFlow, hz, hpf, writeSpaceIfPending, indentIfLineStart, St.write, flowOpen, sp, hp, h]

theorem seqEnd_flow {q : SeqSer} (hf : q.flow = true) (hr : q.restoreShift = none) (s : St) :
    seqEnd o q s = flowClose ']' s := by
  simp [seqEnd, hf, hr, flowClose, St.write]

theorem mapEnd_flow {m : MapSer} (hf : m.flow = true) (hr : m.restoreShift = none) (s : St) :
    mapEnd o m s = flowClose '}' s := by
  simp [mapEnd, hf, hr, flowClose, St.write]

def FlowItemsOK (o : Opts) (f : ScalarFns) (xs : List SVal) : Prop :=
  ∀ (s : St) (q : SeqSer), q.flow = true → Flat s →
    ∃ q', serSeqElems o f q xs s = .ok (q', s.write (if q.first then flowItems xs else flowItemsTail xs)) ∧
      q'.flow = true ∧ q'.restoreShift = q.restoreShift

def FlowEntriesOK (o : Opts) (f : ScalarFns) (es : List (SVal × SVal)) : Prop :=
  ∀ (s : St) (m : MapSer), m.flow = true → Flat s →
    ∃ m', serMapEntries o f m es s = .ok (m', s.write (if m.first then flowEntries es else flowEntriesTail es)) ∧
      m'.flow = true ∧ m'.restoreShift = m.restoreShift

/-- a sequence in flow style from mid-line (inside a flow collection, or with the hint pending): `[` after the deferred
space, the items, `SeqSer::end` -/
theorem seq_flow_run {xs : List SVal} (hxs : FlowItemsOK o f xs) {s : St} (h : Mid s)
    (hfl : s.inFlow ≥ 1 ∨ s.pendingFlow = some .anySeq) :
    ser o f (.seq xs) s = .ok (flowClose ']' ((flowOpen '[' s).write (flowItems xs))) := by
  obtain ⟨q', he, hqf, hqr⟩ := hxs (flowOpen '[' s) { depth := s.depth, flow := true } rfl (flowOpen_flat h _)
  rw [ser_seq, serializeSeq_flow h.als hfl, he]
  exact congrArg Except.ok (seqEnd_flow hqf hqr _)

theorem map_flow_run (known : Bool) {es : List (SVal × SVal)} (hes : FlowEntriesOK o f es) {s : St} (h : Mid s)
    (hfl : s.inFlow ≥ 1 ∨ s.pendingFlow = some .anyMap) :
    ser o f (.map known es) s = .ok (flowClose '}' ((flowOpen '{' s).write (flowEntries es))) := by
  obtain ⟨m', he, hmf, hmr⟩ := hes (flowOpen '{' s) { depth := s.depth, flow := true } rfl (flowOpen_flat h _)
  rw [ser_map, serializeMap_flow _ h.als hfl, he]
  exact congrArg Except.ok (mapEnd_flow hmf hmr _)

theorem seq_flow_step {xs : List SVal} (hxs : FlowItemsOK o f xs) :
    FlowEq (ser o f (.seq xs)) ('[' :: flowItems xs ++ [']']) := by
  intro s h hfl
  rw [seq_flow_run hxs h (Or.inl hfl), flow_brackets _ _ _ hfl]

theorem map_flow_step (known : Bool) {es : List (SVal × SVal)} (hes : FlowEntriesOK o f es) :
    FlowEq (ser o f (.map known es)) ('{' :: flowEntries es ++ ['}']) := by
  intro s h hfl
  rw [map_flow_run known hes h (Or.inl hfl), flow_brackets _ _ _ hfl]

theorem variant_flow_step (ho : PlainOpts o) (hf : SafeContract f) {n : List Char} (hn : isSafeStr n = true)
    {P : St → Except EmitErr St} {txt : List Char} (hP : FlowEq P txt) :
    FlowEq (variantRun o f n P) (flowVariant n txt) := by
  intro s h hfl
  have hz : s.inFlow > 0 := hfl
  -- `begin_variant` inside a flow collection: `{Variant:`, and the space after it is owed
  have hbv : beginVariant o f n s =
      ({ flow := true }, { wrote s ('{' :: n ++ [':']) with pendingSpaceAfterColon := true }) := by
    by_cases hp : s.pendingSpaceAfterColon = true <;>
      simp [beginVariant, hz, plainOrQuoted_safe ho.quoteAll hf hn, writeSpaceIfPending, St.write, wrote, sp, hp]
  have hm : Mid ({ wrote s ('{' :: n ++ [':']) with pendingSpaceAfterColon := true } : St) := ⟨rfl, h.pss⟩
  rw [variantRun, hbv]
  simp only [hP _ hm hfl]
  simp [endVariant, St.write, wrote, sp, flowVariant]

theorem flow_items_nil : FlowItemsOK o f [] := by
  intro s q hq _
  exact ⟨q, by rw [serSeqElems]; cases q.first <;> simp [flowItems, flowItemsTail, St.write], hq, rfl⟩

theorem flow_items_cons {x : SVal} {xs : List SVal} (hx : FlowEq (ser o f x) (flowTxt x)) (hxs : FlowItemsOK o f xs) :
    FlowItemsOK o f (x :: xs) := by
  intro s q hq h
  obtain ⟨qd, qf, qfirst, qrs⟩ := q
  simp only at hq
  subst hq
  have hx' : ∀ s : St, Mid s → s.inFlow ≥ 1 → ser o f x s = .ok (wrote s (flowTxt x)) := hx
  obtain ⟨q', he, hqf, hqr⟩ := hxs (s.write ((if qfirst then [] else [',', ' ']) ++ flowTxt x))
    { depth := qd, flow := true, first := false, restoreShift := qrs } rfl (h.write _)
  refine ⟨q', ?_, hqf, hqr⟩
  rw [serSeqElems]
  simp only [if_true]
  rw [hx']
  · refine Eq.trans (congrArg (serSeqElems o f _ xs) ?_) (he.trans ?_)
    · cases qfirst <;> simp [wrote, sp, St.write, h.als, h.psc, h.lvb]
    · cases qfirst <;> simp [St.write, flowItems, flowItemsTail]
  · cases qfirst <;> exact ⟨h.als, h.pss⟩
  · exact Nat.le_add_left 1 _

theorem flow_entries_nil : FlowEntriesOK o f [] := by
  intro s m hm _
  exact ⟨m, by rw [serMapEntries]; cases m.first <;> simp [flowEntries, flowEntriesTail, St.write], hm, rfl⟩

theorem flow_entries_cons (hf : SafeContract f) {kt : List Char} {v : SVal} {es : List (SVal × SVal)}
    (hk : isSafeStr kt = true) (hv : FlowEq (ser o f v) (flowTxt v)) (hes : FlowEntriesOK o f es) :
    FlowEntriesOK o f ((.str kt, v) :: es) := by
  intro s m hm h
  obtain ⟨md, mf, mfirst, mlkc, mrs, mivs⟩ := m
  simp only at hm
  subst hm
  have hv' : ∀ s : St, Mid s → s.inFlow ≥ 1 → ser o f v s = .ok (wrote s (flowTxt v)) := hv
  obtain ⟨m', he, hmf, hmr⟩ := hes (s.write ((if mfirst then [] else [',', ' ']) ++ kt ++ ':' :: ' ' :: flowTxt v))
    { depth := md, flow := true, first := false, lastKeyComplex := false, restoreShift := mrs, inlineValueStart := mivs } rfl
    (h.write _)
  refine ⟨m', ?_, hmf, hmr⟩
  rw [serMapEntries]
  simp only [if_true, keyText_safe hf hk]
  rw [hv']
  · refine Eq.trans (congrArg (serMapEntries o f _ es) ?_) (he.trans ?_)
    · cases mfirst <;> simp [wrote, sp, St.write, h.als, h.psc, h.lvb]
    · cases mfirst <;> simp [St.write, flowEntries, flowEntriesTail, keyOf]
  · cases mfirst <;> exact ⟨rfl, h.pss⟩
  · exact Nat.le_add_left 1 _

section
variable (ho : PlainOpts o) (hf : SafeContract f)
include ho hf

/-- the emitter invariant in flow context, for values, the elements of a flow sequence and the entries of a flow mapping -/
theorem ser_flow_shapes :
    (∀ v, inFlowFrag v = true → FlowEq (ser o f v) (flowTxt v)) ∧ (∀ xs, inFlowFragList xs = true → FlowItemsOK o f xs) ∧
      (∀ es, inFlowFragEntries es = true → FlowEntriesOK o f es) := by
  refine inFlowFrag.shapes_all ?leaf ?str ?unit ?wrap ?seq ?map ?nv ?tv ?sv ?nil ?cons ?enil ?ekey
  case leaf =>
    intro v hl s h hfl
    obtain ⟨tok, ht⟩ := leafTok_of_isLeaf plainToks hl
    rw [ser_leaf ht, flowTxt_leaf ht]
    exact serToken_flow (o := o) tok s h hfl
  case str =>
    intro t ht s h hfl
    rw [ser_str, serStr_flow ho hf ht h hfl]
    simpa [flowTxt] using serToken_flow (o := o) t s h hfl
  case unit =>
    intro e n hn s h hfl
    rw [ser]
    simp only [ho.tagged, Bool.false_eq_true, if_false]
    rw [serStr_flow ho hf hn h hfl]
    simpa [flowTxt] using serToken_flow (o := o) n s h hfl
  case wrap =>
    intro v _ hv
    exact ⟨fun s h hfl => by rw [ser]; simpa [flowTxt] using hv s h hfl, fun s h hfl => by rw [ser]; simpa [flowTxt] using hv s h hfl⟩
  case seq =>
    intro xs _ hxs
    have h := seq_flow_step hxs
    exact ⟨by simpa [flowTxt] using h, fun s hm hfl => by rw [ser_tuple]; simpa [flowTxt] using h s hm hfl,
      fun s hm hfl => by rw [ser_tupleStruct]; simpa [flowTxt] using h s hm hfl⟩
  case map =>
    intro known es _ _ hes
    simpa [flowTxt] using map_flow_step known hes
  case nv =>
    intro n v hn _ hv s h hfl
    rw [ser_newtypeVariant]
    simpa [flowTxt] using variant_flow_step ho hf hn hv s h hfl
  case tv =>
    intro n xs h s hm hfl
    rw [ser_tupleVariant, ← ser_newtypeVariant]
    simpa [flowTxt] using h s hm hfl
  case sv =>
    intro n fs h s hm hfl
    rw [ser_structVariant, ← ser_newtypeVariant]
    simpa [flowTxt] using h s hm hfl
  case nil => exact flow_items_nil
  case cons => exact fun x xs _ _ hx hxs => flow_items_cons hx hxs
  case enil => exact flow_entries_nil
  case ekey => exact fun kt v es hk _ _ hv hes => flow_entries_cons hf hk hv hes

theorem ser_flow : ∀ (v : SVal), inFlowFrag v = true → FlowOKP (ser o f v) (flowTxt v) :=
  fun v hv => ((ser_flow_shapes ho hf).1 v hv).ok
theorem ser_flow_items : ∀ (xs : List SVal), inFlowFragList xs = true → FlowItemsOK o f xs := (ser_flow_shapes ho hf).2.1
theorem ser_flow_entries : ∀ (es : List (SVal × SVal)), inFlowFragEntries es = true → FlowEntriesOK o f es :=
  (ser_flow_shapes ho hf).2.2

end

/-! The wrappers at the root.  The first `write_indent` of the document writes the prologue and no blank: the bracket follows
as it does mid-line (`seq_flow_run`, `map_flow_run` with the hint pending), and the line break after it ends the document. -/

/-- mid-line right after the prologue, a flow hint pending -/
def flowStart (o : Opts) (pf : PendingFlow) : St := { startSt o with atLineStart := false, pendingFlow := some pf }

theorem flowStart_mid (pf : PendingFlow) : Mid (flowStart o pf) := ⟨rfl, rfl⟩

theorem ser_flowSeq_init (xs : List SVal) : ser o f (.flowSeq (.seq xs)) {} = ser o f (.seq xs) (flowStart o .anySeq) := by
  have e : serializeSeq o { pendingFlow := some .anySeq } = serializeSeq o (flowStart o .anySeq) := by
    cases hy : o.yaml12 <;>
      simp [serializeSeq, takeFlow, writeSpaceIfPending, indentIfLineStart, writeIndent, indentCols, St.write, spaces, prologue,
        prologueText_eq, hy, flowStart, startSt]
  rw [ser, ser_seq, ser_seq, ← e]

theorem ser_flowMap_init (known : Bool) (es : List (SVal × SVal)) :
    ser o f (.flowMap (.map known es)) {} = ser o f (.map known es) (flowStart o .anyMap) := by
  have e (len : Option Nat) : serializeMap o len { pendingFlow := some .anyMap } = serializeMap o len (flowStart o .anyMap) := by
    cases hy : o.yaml12 <;>
      simp [serializeMap, takeFlow, writeSpaceIfPending, indentIfLineStart, writeIndent, indentCols, St.write, spaces, prologue,
        prologueText_eq, hy, flowStart, startSt]
  rw [ser, ser_map, ser_map, ← e]

/-- `FlowSeq(seq)` at the root: one line, the flow text -/
theorem emit_flowSeq (ho : PlainOpts o) (hf : SafeContract f) (xs : List SVal) (hv : inFlowFragList xs = true) :
    emit o f (.flowSeq (.seq xs)) = .ok (prologue o ++ flowTxt (.seq xs) ++ ['\n']) := by
  have hne : (o.indentStep == 0) = false := by have := ho.indent; simp; omega
  simp only [emit, hne, Bool.false_eq_true, if_false, ser_flowSeq_init,
    seq_flow_run (ser_flow_items ho hf xs hv) (flowStart_mid .anySeq) (Or.inr rfl)]
  simp [flowClose, newline, flowOpen, St.write, sp, flowStart, startSt, flowTxt]

/-- `FlowMap(map)` at the root -/
theorem emit_flowMap (ho : PlainOpts o) (hf : SafeContract f) (known : Bool) (es : List (SVal × SVal))
    (hv : inFlowFragEntries es = true) :
    emit o f (.flowMap (.map known es)) = .ok (prologue o ++ flowTxt (.map known es) ++ ['\n']) := by
  have hne : (o.indentStep == 0) = false := by have := ho.indent; simp; omega
  simp only [emit, hne, Bool.false_eq_true, if_false, ser_flowMap_init,
    map_flow_run known (ser_flow_entries ho hf es hv) (flowStart_mid .anyMap) (Or.inr rfl)]
  simp [flowClose, newline, flowOpen, St.write, sp, flowStart, startSt, flowTxt]

end SaphyrVerif.Emit
