import SaphyrVerif.Lemmas.C17Utf8
import SaphyrVerif.Lemmas.Lines
/-!
C17: the sanitiser. A character is of one of three kinds (`CharKind`: ASCII, C1 control, anything else), and for each kind
one walk says what its bytes are, what the two byte-level loops of the model do with them and what the specification
(`isControl`, `sanitizeChar`) says of the character. From it: the byte-level sanitiser and cleanliness scan are the
character-level specification (`sanitize_eq`, `isClean_eq`), and the facts about `Spec.Snippet.sanitize` / `clean` on
texts that the window proofs use. The other C17 files use `sanitizeChar`, `isControl` and `clean` through these lemmas
(and by evaluation on literals), never by unfolding.
-/
namespace SaphyrVerif.Lemmas.C17
open SaphyrVerif SaphyrVerif.Snippet
open SaphyrVerif.Spec.Snippet (isControl sanitizeChar clean)

theorem pass1_append (a b : List Nat) : pass1 (a ++ b) = pass1 a ++ pass1 b := by
  simp [pass1]

theorem pass2_cons_ne (b : Nat) (rest : List Nat) (h : b ≠ 0xC2) : pass2 (b :: rest) = b :: pass2 rest := by
  cases rest with
  | nil => simp [pass2]
  | cons b1 r =>
    rw [pass2]
    have : (b == 0xC2) = false := by simp [h]
    simp [this]

theorem pass2_append_noC2 (bs rest : List Nat) (h : ∀ b ∈ bs, b ≠ 0xC2) :
    pass2 (bs ++ rest) = bs ++ pass2 rest := by
  induction bs with
  | nil => rfl
  | cons b bs ih =>
    rw [List.cons_append, pass2_cons_ne _ _ (h b (by simp)), ih (fun x hx => h x (by simp [hx]))]
    rfl

theorem hasC1Pair_cons_ne (b : Nat) (rest : List Nat) (h : b ≠ 0xC2) : hasC1Pair (b :: rest) = hasC1Pair rest := by
  cases rest with
  | nil => simp [hasC1Pair]
  | cons b1 r =>
    rw [hasC1Pair]
    have : (b == 0xC2) = false := by simp [h]
    simp [this]

theorem hasC1Pair_append_noC2 (bs rest : List Nat) (h : ∀ b ∈ bs, b ≠ 0xC2) :
    hasC1Pair (bs ++ rest) = hasC1Pair rest := by
  induction bs with
  | nil => rfl
  | cons b bs ih =>
    rw [List.cons_append, hasC1Pair_cons_ne _ _ (h b (by simp)), ih (fun x hx => h x (by simp [hx]))]

theorem isC0Del_of_ge (b : Nat) (h1 : 0x20 ≤ b) (h2 : b ≠ 0x7F) : isC0Del b = false := by
  unfold isC0Del
  have h1 : ¬ b < 0x20 := by omega
  simp [h1, h2]

theorem isC0Del_ge (b : Nat) (h : 0x80 ≤ b) : isC0Del b = false :=
  isC0Del_of_ge b (by omega) (by omega)

theorem pass1_ge (bs : List Nat) (h : ∀ b ∈ bs, 0x80 ≤ b) : pass1 bs = bs := by
  unfold pass1
  induction bs with
  | nil => rfl
  | cons b bs ih =>
    rw [List.map_cons, isC0Del_ge b (h b (by simp)), ih (fun x hx => h x (by simp [hx]))]
    simp

theorem all_ge_noC0 (bs : List Nat) (h : ∀ b ∈ bs, 0x80 ≤ b) : bs.all (fun b => !isC0Del b) = true := by
  rw [List.all_eq_true]
  intro b hb
  rw [isC0Del_ge b (h b hb)]
  rfl

/-- the three kinds of character. An ASCII character is one byte, and the specification asks of its code what the first
loop of the sanitiser asks of that byte (`isC0Del`); a C1 control is the pair `C2 80..9F`; the bytes of any other
character are `≥ 0x80` and hold no such pair, also across their end: the second loop of the sanitiser copies them and the
scan for C1 pairs passes over them -/
inductive CharKind (c : Char) : Prop where
  | ascii (h : c.toNat < 0x80) (bytes : utf8Bytes c = [c.toNat]) (ctl : isControl c = isC0Del c.toNat)
      (san : sanitizeChar c = if isC0Del c.toNat then ' ' else c)
  | c1 (h1 : 0x80 ≤ c.toNat) (h2 : c.toNat ≤ 0x9F) (bytes : utf8Bytes c = [0xC2, c.toNat])
      (ctl : isControl c = true) (san : sanitizeChar c = Char.ofNat 0xA0)
  | other (ge : ∀ b ∈ utf8Bytes c, 0x80 ≤ b)
      (free : ∀ rest, pass2 (utf8Bytes c ++ rest) = utf8Bytes c ++ pass2 rest ∧
        hasC1Pair (utf8Bytes c ++ rest) = hasC1Pair rest)
      (ctl : isControl c = false) (san : sanitizeChar c = c)

theorem charKind (c : Char) : CharKind c := by
  have hv := char_valid c
  -- the two definitions of the specification ask of the code point what the first loop of the sanitiser asks of a byte
  -- (`isC0Del`), and whether it lies in `80..9F` (`b`)
  have spec : ∀ b, (decide (0x80 ≤ c.toNat) && decide (c.toNat ≤ 0x9F)) = b → isControl c = (isC0Del c.toNat || b) ∧
      sanitizeChar c = if isC0Del c.toNat = true then ' ' else if b = true then Char.ofNat 0xA0 else c :=
    fun b hb => hb ▸ ⟨rfl, rfl⟩
  have other : 0xA0 ≤ c.toNat → (∀ rest, pass2 (utf8Bytes c ++ rest) = utf8Bytes c ++ pass2 rest ∧
      hasC1Pair (utf8Bytes c ++ rest) = hasC1Pair rest) → CharKind c := fun h free => by
    obtain ⟨ctl, san⟩ := spec false (by rw [decide_eq_false (show ¬ c.toNat ≤ 0x9F by omega), Bool.and_false])
    rw [isC0Del_ge c.toNat (by omega)] at ctl san
    exact .other (utf8Bytes_ge c (by omega)) free ctl san
  have noC2 : ∀ bs : List Nat, (∀ b ∈ bs, b ≠ 0xC2) → ∀ rest, pass2 (bs ++ rest) = bs ++ pass2 rest ∧
      hasC1Pair (bs ++ rest) = hasC1Pair rest :=
    fun bs h rest => ⟨pass2_append_noC2 bs rest h, hasC1Pair_append_noC2 bs rest h⟩
  rcases shape c with ⟨h, e⟩ | ⟨h1, h2, e⟩ | ⟨h1, h2, e⟩ | ⟨h1, e⟩
  · obtain ⟨ctl, san⟩ := spec false (by rw [decide_eq_false (show ¬ 0x80 ≤ c.toNat by omega), Bool.false_and])
    exact .ascii h e (by rw [ctl, Bool.or_false]) san
  · by_cases hc1 : c.toNat ≤ 0x9F
    · have b0 : 0xC0 + c.toNat / 64 = 0xC2 := by omega
      have b1 : 0x80 + c.toNat % 64 = c.toNat := by omega
      obtain ⟨ctl, san⟩ := spec true (by rw [decide_eq_true h1, decide_eq_true hc1]; rfl)
      rw [isC0Del_ge c.toNat h1] at ctl san
      exact .c1 h1 hc1 (by rw [e, b0, b1]) ctl san
    · refine other (by omega) fun rest => ?_
      rw [e]
      by_cases hb : 0xC0 + c.toNat / 64 = 0xC2
      · -- lead byte C2, but the second byte is `≥ A0`: no pair here, and the second byte starts none
        have b1 : (decide (0x80 ≤ 0x80 + c.toNat % 64) && decide (0x80 + c.toNat % 64 ≤ 0x9F)) = false := by
          have : ¬ (0x80 + c.toNat % 64 ≤ 0x9F) := by omega
          simp [this]
        have b2 : 0x80 + c.toNat % 64 ≠ 0xC2 := by omega
        simp only [List.cons_append, List.nil_append]
        rw [pass2, hasC1Pair, b1, pass2_cons_ne _ _ b2, hasC1Pair_cons_ne _ _ b2]
        simp
      · exact noC2 _ (by simp; omega) rest
  · exact other (by omega) fun rest => by rw [e]; exact noC2 _ (by simp; omega) rest
  · exact other (by omega) fun rest => by rw [e]; exact noC2 _ (by simp; omega) rest

theorem sanitizeChar_id (c : Char) (h : isControl c = false) : sanitizeChar c = c := by
  rcases charKind c with ⟨_, _, ctl, san⟩ | ⟨_, _, _, ctl, _⟩ | ⟨_, _, _, san⟩
  · rw [san, if_neg (by rw [← ctl, h]; exact Bool.false_ne_true)]
  · rw [ctl] at h; cases h
  · exact san

theorem isControl_of_ge (c : Char) (h : 0xA0 ≤ c.toNat) : isControl c = false := by
  rcases charKind c with ⟨h1, _, _, _⟩ | ⟨_, h2, _, _, _⟩ | ⟨_, _, ctl, _⟩
  · omega
  · omega
  · exact ctl

theorem sanitizeChar_of_ge (c : Char) (h : 0xA0 ≤ c.toNat) : sanitizeChar c = c :=
  sanitizeChar_id c (isControl_of_ge c h)

theorem isControl_of_printable (c : Char) (h1 : 0x20 ≤ c.toNat) (h2 : c.toNat < 0x7F) : isControl c = false := by
  rcases charKind c with ⟨_, _, ctl, _⟩ | ⟨h, _, _, _, _⟩ | ⟨_, _, ctl, _⟩
  · rw [ctl, isC0Del_of_ge _ h1 (by omega)]
  · omega
  · exact ctl

theorem sanitizeChar_clean (c : Char) : isControl (sanitizeChar c) = false := by
  rcases charKind c with ⟨_, _, ctl, san⟩ | ⟨_, _, _, _, san⟩ | ⟨_, _, ctl, san⟩
  · rw [san]
    by_cases h : isC0Del c.toNat = true
    · rw [if_pos h]; decide
    · rw [if_neg h, ctl]; exact (Bool.not_eq_true _).mp h
  · rw [san]; decide
  · rw [san, ctl]

theorem utf8Bytes_space : utf8Bytes ' ' = [0x20] := by decide

theorem utf8Bytes_nbsp : utf8Bytes (Char.ofNat 0xA0) = [0xC2, 0xA0] := by decide

theorem sanitizeChar_len (c : Char) : utf8LenChar (sanitizeChar c) = utf8LenChar c := by
  rw [← utf8Bytes_length, ← utf8Bytes_length]
  rcases charKind c with ⟨_, e, _, san⟩ | ⟨_, _, e, _, san⟩ | ⟨_, _, _, san⟩
  · rw [san]
    split
    · rw [e, utf8Bytes_space]; rfl
    · rfl
  · rw [san, e, utf8Bytes_nbsp]; rfl
  · rw [san]

theorem sanitizeChar_nl (c : Char) : sanitizeChar c = '\n' ↔ c = '\n' := by
  constructor
  · intro h
    rcases charKind c with ⟨_, _, _, san⟩ | ⟨_, _, _, _, san⟩ | ⟨_, _, _, san⟩
    · rw [san] at h
      split at h
      · exact absurd h (by decide)
      · exact h
    · rw [san] at h; exact absurd h (by decide)
    · rw [san] at h; exact h
  · intro h; rw [h]; decide

theorem sanitize_char_bytes (c : Char) (rest : List Nat) :
    pass2 (pass1 (utf8Bytes c) ++ rest) = utf8Bytes (sanitizeChar c) ++ pass2 rest := by
  rcases charKind c with ⟨h, e, _, san⟩ | ⟨h1, h2, e, _, san⟩ | ⟨hge, hfree, _, san⟩
  · -- the byte becomes a space or stays; neither is `C2`
    rw [san, e]
    by_cases hc : isC0Del c.toNat = true
    · have e1 : pass1 [c.toNat] = [0x20] := by simp [pass1, hc]
      rw [if_pos hc, utf8Bytes_space, e1]
      exact pass2_append_noC2 [0x20] rest (by simp)
    · have e1 : pass1 [c.toNat] = [c.toNat] := by simp [pass1, hc]
      rw [if_neg hc, e, e1]
      exact pass2_append_noC2 [c.toNat] rest (by simp; omega)
  · rw [san, utf8Bytes_nbsp, e, pass1_ge _ (by simp; omega)]
    simp only [List.cons_append, List.nil_append]
    rw [pass2]
    simp [h1, h2]
  · rw [pass1_ge _ hge, san]
    exact (hfree rest).1

theorem sanitizeBytes_encode (s : List Char) :
    sanitizeBytes (encode s) = encode (Spec.Snippet.sanitize s) := by
  unfold sanitizeBytes
  induction s with
  | nil => rfl
  | cons c cs ih =>
    rw [encode, pass1_append, sanitize_char_bytes, ih]
    rfl

theorem sanitize_eq (s : List Char) : Snippet.sanitize s = .ok (Spec.Snippet.sanitize s) := by
  unfold Snippet.sanitize
  rw [sanitizeBytes_encode, decode_encode]

theorem clean_char_bytes (c : Char) (rest : List Nat) :
    ((utf8Bytes c ++ rest).all (fun b => !isC0Del b) && !hasC1Pair (utf8Bytes c ++ rest)) =
      (!isControl c && (rest.all (fun b => !isC0Del b) && !hasC1Pair rest)) := by
  rw [List.all_append]
  rcases charKind c with ⟨h, e, ctl, _⟩ | ⟨h1, h2, e, ctl, _⟩ | ⟨hge, hfree, ctl, _⟩
  · rw [e, ctl, hasC1Pair_append_noC2 [c.toNat] rest (by simp; omega)]
    simp only [List.all_cons, List.all_nil, Bool.and_true, Bool.and_assoc]
  · rw [e, ctl]
    simp only [List.cons_append, List.nil_append]
    rw [hasC1Pair]
    simp [h1, h2]
  · rw [all_ge_noC0 _ hge, ctl, (hfree rest).2]
    simp

theorem isClean_eq (s : List Char) : isClean s = Spec.Snippet.clean s := by
  unfold isClean isCleanBytes Spec.Snippet.clean
  induction s with
  | nil => rfl
  | cons c cs ih =>
    rw [encode, clean_char_bytes, ih]
    simp [List.all_cons]

theorem clean_iff_forall (s : List Char) : Spec.Snippet.clean s = true ↔ ∀ c ∈ s, isControl c = false := by
  unfold Spec.Snippet.clean
  simp only [List.all_eq_true, Bool.not_eq_eq_eq_not, Bool.not_true]

theorem clean_append (a b : List Char) : clean (a ++ b) = (clean a && clean b) := by
  unfold clean; rw [List.all_append]

theorem clean_replicate_space (n : Nat) : clean (List.replicate n ' ') = true :=
  (clean_iff_forall _).mpr fun c hc => by rw [List.eq_of_mem_replicate hc]; decide

theorem digit_range (c : Char) (h : c.isDigit = true) : 48 ≤ c.toNat ∧ c.toNat ≤ 57 := by
  unfold Char.isDigit at h
  simp only [Bool.and_eq_true, decide_eq_true_eq] at h
  have h1 : (48 : UInt32).toNat ≤ c.val.toNat := UInt32.le_iff_toNat_le.mp h.1
  have h2 : c.val.toNat ≤ (57 : UInt32).toNat := UInt32.le_iff_toNat_le.mp h.2
  exact ⟨h1, h2⟩

theorem toDigits_clean (n : Nat) : clean (Nat.toDigits 10 n) = true :=
  (clean_iff_forall _).mpr fun c hc => by
    have hd := digit_range c (Nat.isDigit_of_mem_toDigits (by decide) (by decide) hc)
    exact isControl_of_printable c (by omega) (by omega)

theorem clean_sublist (a w : List Char) (hw : clean w = true) (h : ∀ c ∈ a, c ∈ w) : clean a = true :=
  (clean_iff_forall a).mpr fun c hc => (clean_iff_forall w).mp hw c (h c hc)

theorem sanitize_spec_clean (s : List Char) : clean (Spec.Snippet.sanitize s) = true :=
  (clean_iff_forall _).mpr fun c hc => by
    obtain ⟨a, _, rfl⟩ := List.mem_map.mp hc
    exact sanitizeChar_clean a

theorem sanitize_of_clean (s : List Char) (h : clean s = true) : Spec.Snippet.sanitize s = s := by
  unfold Spec.Snippet.sanitize
  conv => rhs; rw [← List.map_id s]
  exact List.map_congr_left fun c hc => sanitizeChar_id c ((clean_iff_forall s).mp h c hc)

theorem sanitize_append (a b : List Char) :
    Spec.Snippet.sanitize (a ++ b) = Spec.Snippet.sanitize a ++ Spec.Snippet.sanitize b := by
  simp [Spec.Snippet.sanitize]

theorem sanitize_head (s : List Char) : (Spec.Snippet.sanitize s).head? = s.head?.map sanitizeChar := by
  cases s <;> rfl

theorem sanitize_getLast (s : List Char) : (Spec.Snippet.sanitize s).getLast? = s.getLast?.map sanitizeChar := by
  unfold Spec.Snippet.sanitize; rw [List.getLast?_map]

theorem sanitize_getLast_nl (s : List Char) (h : s.getLast? = some '\n') :
    (Spec.Snippet.sanitize s).getLast? = some '\n' := by
  rw [sanitize_getLast, h]; rfl

theorem sanitize_count_nl (s : List Char) : (Spec.Snippet.sanitize s).count '\n' = s.count '\n' := by
  unfold Spec.Snippet.sanitize
  induction s with
  | nil => rfl
  | cons c cs ih =>
    rw [List.map_cons, count_nl_cons, count_nl_cons, ih]
    by_cases hc : c = '\n'
    · rw [if_pos hc, if_pos ((sanitizeChar_nl c).mpr hc)]
    · rw [if_neg hc, if_neg (fun h => hc ((sanitizeChar_nl c).mp h))]

theorem sanitize_map_len (s : List Char) : (Spec.Snippet.sanitize s).map utf8LenChar = s.map utf8LenChar := by
  unfold Spec.Snippet.sanitize
  rw [List.map_map]
  exact List.map_congr_left fun c _ => sanitizeChar_len c

theorem sanitize_blen (s : List Char) : blen (Spec.Snippet.sanitize s) = blen s :=
  congrArg List.sum (sanitize_map_len s)

end SaphyrVerif.Lemmas.C17
