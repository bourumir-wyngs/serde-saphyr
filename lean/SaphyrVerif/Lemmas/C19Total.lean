import SaphyrVerif.Lemmas.C19Parts
import SaphyrVerif.Lemmas.C19Float
/-!
C19, below the parser proper: bytes in which continuation bytes occur only directly behind non-ASCII bytes (`AdjOk`, true
of every `str`: `utf8_ok`); what the byte loops `skip_ws`, the sign loop and the identifier scan do (`…_run` on a run of
their class, `…_spec` on any input); and the outcomes of the token scanner (`…_good`): no helper panics on its own, every
helper only moves the cursor forward, `parse_number_or_special` keeps `depth` and `sexagesimal_is_time`.

`Does ap D P r` describes an outcome `r` of a parser function.  The parameter `ap` ("allow panic") lets one induction serve
two statements: with `ap = true` nothing is assumed of the bytes and the outcome may be a panic but never `fuel`; with
`ap = false` the bytes are `AdjOk` (`Fits`) and the outcome is neither.  The walk through the parser functions is in
`Lemmas/C19Ast.lean`.
-/
namespace SaphyrVerif.Lemmas.C19
open SaphyrVerif SaphyrVerif.F64 SaphyrVerif.Robotics

variable {ap : Bool}

/-- `a` is a suffix of `b`. -/
def Suf (a b : List Nat) : Prop := ∃ p, b = p ++ a

theorem Suf.refl (a : List Nat) : Suf a a := ⟨[], rfl⟩
theorem Suf.trans {a b c : List Nat} (h1 : Suf a b) (h2 : Suf b c) : Suf a c := by
  obtain ⟨p, rfl⟩ := h1
  obtain ⟨q, rfl⟩ := h2
  exact ⟨q ++ p, by simp⟩
theorem Suf.cons (c : Nat) (r : List Nat) : Suf r (c :: r) := ⟨[c], rfl⟩
theorem Suf.cons_of {a r : List Nat} (c : Nat) (h : Suf a r) : Suf a (c :: r) := h.trans (Suf.cons c r)
theorem Suf.length_le {a b : List Nat} (h : Suf a b) : a.length ≤ b.length := by
  obtain ⟨p, rfl⟩ := h
  simp
theorem Suf.mem {a b : List Nat} (h : Suf a b) {x : Nat} (hx : x ∈ a) : x ∈ b := by
  obtain ⟨p, rfl⟩ := h
  simp [hx]

/-- the first byte of `l`, if there is one, satisfies `P` -/
def Head (P : Nat → Prop) (l : List Nat) : Prop := ∀ c r, l = c :: r → P c

theorem Head.nil {P : Nat → Prop} : Head P [] := fun _ _ h => nomatch h
theorem Head.cons {P : Nat → Prop} {c : Nat} {r : List Nat} (h : P c) : Head P (c :: r) := fun _ _ e => by cases e; exact h
theorem Head.mono {P Q : Nat → Prop} {l : List Nat} (h : Head P l) (hpq : ∀ c, P c → Q c) : Head Q l :=
  fun c r e => hpq c (h c r e)
theorem Head.append {P : Nat → Prop} {a l : List Nat} (ha : ∀ x ∈ a, P x) (hl : Head P l) : Head P (a ++ l) := by
  cases a with
  | nil => exact hl
  | cons x a => exact Head.cons (ha x List.mem_cons_self)

/-- no UTF-8 continuation byte -/
def NoCont (l : List Nat) : Prop := ∀ c ∈ l, isCont c = false

theorem NoCont.of_ascii {l : List Nat} (h : ∀ c ∈ l, c < 128) : NoCont l := by
  intro c hc
  have := h c hc
  simp [isCont]
  omega

/-- Every continuation byte directly follows a non-ASCII byte (true of the bytes of any `str`, and of
every suffix of them): the fact that keeps `&self.s[start..self.i]` on char boundaries. -/
def AdjOk : List Nat → Prop
  | [] => True
  | [_] => True
  | a :: b :: r => (isCont b = true → 128 ≤ a) ∧ AdjOk (b :: r)

theorem AdjOk.tail {a : Nat} {l : List Nat} (h : AdjOk (a :: l)) : AdjOk l := by
  cases l with
  | nil => trivial
  | cons b r => exact h.2

theorem AdjOk.suf {a b : List Nat} (h : AdjOk b) (hs : Suf a b) : AdjOk a := by
  obtain ⟨p, rfl⟩ := hs
  induction p with
  | nil => exact h
  | cons x p ih => exact ih (AdjOk.tail h)

theorem AdjOk.of_noCont {l : List Nat} (h : NoCont l) : AdjOk l := by
  induction l with
  | nil => trivial
  | cons a l ih =>
    cases l with
    | nil => trivial
    | cons b r =>
      refine ⟨?_, ih (fun c hc => h c (List.mem_cons_of_mem _ hc))⟩
      intro hb
      have := h b (by simp)
      rw [this] at hb
      cases hb

theorem AdjOk.after_ascii (tok : List Nat) (b : Nat) (q : List Nat) (h : AdjOk (tok ++ b :: q)) (hne : tok ≠ [])
    (ha : ∀ x ∈ tok, x < 128) : isCont b = false := by
  induction tok with
  | nil => exact absurd rfl hne
  | cons a t ih =>
    cases t with
    | nil =>
      have h1 := h.1
      have ha' := ha a (by simp)
      cases hb : isCont b with
      | false => rfl
      | true => have := h1 hb; omega
    | cons a' t' =>
      exact ih (AdjOk.tail h) (by simp) (fun x hx => ha x (List.mem_cons_of_mem _ hx))

/-- Bytes the parser may be started on with loop fuel `lf`: fewer than `lf` of them, and adjacent-ok unless panics are
allowed. -/
def Fits (ap : Bool) (lf : Nat) (l : List Nat) : Prop := (ap = true ∨ AdjOk l) ∧ l.length < lf

theorem Fits.suf {lf : Nat} {a b : List Nat} (h : Fits ap lf b) (hs : Suf a b) : Fits ap lf a :=
  ⟨h.1.imp_right (·.suf hs), Nat.lt_of_le_of_lt hs.length_le h.2⟩

theorem boundaryAhead_zero {rest : List Nat} (h : Head (fun c => isCont c = false) rest) :
    boundaryAhead rest 0 = true := by
  unfold boundaryAhead
  cases rest with
  | nil => simp
  | cons c r => simp [h c r rfl]

open SaphyrVerif.Spec.Robotics (IsWs)

theorem IsWs.append {a b : List Nat} (ha : IsWs a) (hb : IsWs b) : IsWs (a ++ b) := by
  intro c hc
  rcases List.mem_append.mp hc with h | h
  · exact ha c h
  · exact hb c h

theorem IsWs.nil : IsWs [] := fun _ h => nomatch h

/-! ## the byte loops

Each loop is walked once, on `tok ++ rest` with `tok` of the loop's class and `rest` not beginning in it (`…_run`).  Every
list is such a concatenation (`span_exists`), which gives what the loop does on any input (`…_spec`). -/

theorem span_exists (p : Nat → Bool) (l : List Nat) :
    ∃ tok rest, l = tok ++ rest ∧ (∀ x ∈ tok, p x = true) ∧ Head (fun c => p c = false) rest := by
  induction l with
  | nil => exact ⟨[], [], rfl, (fun _ h => nomatch h), Head.nil⟩
  | cons c r ih =>
    cases hc : p c with
    | false => exact ⟨[], c :: r, rfl, (fun _ h => nomatch h), Head.cons hc⟩
    | true =>
      obtain ⟨tok, rest, h, ht, hr⟩ := ih
      exact ⟨c :: tok, rest, by rw [h]; rfl, List.forall_mem_cons.mpr ⟨hc, ht⟩, hr⟩

theorem skipWsL_append (ws : List Nat) (hws : IsWs ws) (pre rest : List Nat) :
    skipWsL pre (ws ++ rest) = skipWsL (ws.reverse ++ pre) rest := by
  induction ws generalizing pre with
  | nil => rfl
  | cons c ws ih =>
    have hc : isWs c = true := hws c (by simp)
    simp only [List.cons_append, skipWsL, hc, ↓reduceIte]
    rw [ih (fun x hx => hws x (List.mem_cons_of_mem _ hx))]
    simp

theorem skipWsL_run (ws : List Nat) (hws : IsWs ws) (pre rest : List Nat) (h : Head (fun c => isWs c = false) rest) :
    skipWsL pre (ws ++ rest) = (ws.reverse ++ pre, rest) := by
  rw [skipWsL_append ws hws]
  cases rest with
  | nil => rfl
  | cons c r => simp [skipWsL, h c r rfl]

theorem skipWsL_spec (pre rest : List Nat) :
    ∃ ws, rest = ws ++ (skipWsL pre rest).2 ∧ IsWs ws := by
  obtain ⟨ws, r, rfl, hws, hr⟩ := span_exists isWs rest
  exact ⟨ws, by rw [skipWsL_run ws hws pre r hr], hws⟩

theorem skipWs_spec (st : St) : ∃ ws, st.rest = ws ++ st.skipWs.rest ∧ IsWs ws := skipWsL_spec _ _

theorem skipWs_append (ws : List Nat) (hws : IsWs ws) (pre rest : List Nat) (d : Nat) (tm : Bool) :
    (⟨pre, ws ++ rest, d, tm⟩ : St).skipWs = (⟨ws.reverse ++ pre, rest, d, tm⟩ : St).skipWs := by
  simp only [St.skipWs, skipWsL_append ws hws]

theorem skipWs_ws (ws : List Nat) (hws : IsWs ws) (pre rest : List Nat) (d : Nat) (tm : Bool)
    (h : Head (fun c => isWs c = false) rest) :
    (⟨pre, ws ++ rest, d, tm⟩ : St).skipWs = ⟨ws.reverse ++ pre, rest, d, tm⟩ := by
  simp only [St.skipWs, skipWsL_run ws hws pre rest h]

theorem skipWs_stop (pre rest : List Nat) (d : Nat) (tm : Bool) (h : Head (fun c => isWs c = false) rest) :
    (⟨pre, rest, d, tm⟩ : St).skipWs = ⟨pre, rest, d, tm⟩ :=
  skipWs_ws [] IsWs.nil pre rest d tm h

theorem skipWs_idem (st : St) : st.skipWs.skipWs = st.skipWs := by
  obtain ⟨pre, rest, d, tm⟩ := st
  obtain ⟨ws, r, rfl, hws, hr⟩ := span_exists isWs rest
  rw [skipWs_ws ws hws pre r d tm hr, skipWs_stop _ _ _ _ hr]

theorem signLoop_run (signs : List Bool) (pre rest : List Nat) (s : Fl)
    (h : Head (fun c => c ≠ 43 ∧ c ≠ 45) rest) :
    signLoop pre (signs.map (fun b => if b then 45 else 43) ++ rest) s =
      ((signs.map (fun b => if b then 45 else 43)).reverse ++ pre, rest,
        signs.foldl (fun s b => if b then neg s else s) s) := by
  induction signs generalizing pre s with
  | nil =>
    cases rest with
    | nil => rfl
    | cons c r =>
      obtain ⟨h1, h2⟩ := h c r rfl
      simp [signLoop, h1, h2]
  | cons b signs ih =>
    cases b
    · simpa [signLoop] using ih (43 :: pre) s
    · have e : ((45 : Nat) == 43) = false := rfl
      simpa [signLoop, e] using ih (45 :: pre) (neg s)

theorem signLoop_spec (pre rest : List Nat) (s : Fl) :
    ∃ signs : List Bool, rest = signs.map (fun b => if b then 45 else 43) ++ (signLoop pre rest s).2.1 ∧
      (signLoop pre rest s).2.2 = signs.foldl (fun s b => if b then neg s else s) s := by
  obtain ⟨tok, r, rfl, ht, hr⟩ := span_exists (fun c => c == 43 || c == 45) rest
  -- a run of sign bytes is the spelling of a list of signs
  have htok : tok = (tok.map (· == 45)).map (fun b => if b then 45 else 43) := by
    rw [List.map_map]
    conv => lhs; rw [← List.map_id tok]
    refine List.map_congr_left fun x hx => ?_
    have := ht x hx
    simp only [Bool.or_eq_true, beq_iff_eq] at this
    rcases this with h | h <;> subst h <;> rfl
  rw [htok, signLoop_run _ pre r s (hr.mono fun c hc => by simpa using hc)]
  exact ⟨_, rfl, rfl⟩

theorem identCont_lt (c : Nat) (h : isIdentCont c = true) : c < 128 := by
  simp only [isIdentCont, isAlpha, isDigit, Bool.or_eq_true, Bool.and_eq_true, decide_eq_true_eq, beq_iff_eq] at h
  omega

theorem identLoop_run (tok : List Nat) (pre rest acc : List Nat) (ht : ∀ x ∈ tok, isIdentCont x = true)
    (h : Head (fun c => isIdentCont c = false) rest) :
    identLoop pre (tok ++ rest) acc = (tok.reverse ++ pre, rest, tok.reverse ++ acc) := by
  induction tok generalizing pre acc with
  | nil =>
    cases rest with
    | nil => rfl
    | cons c r => simp [identLoop, h c r rfl]
  | cons x tok ih =>
    have hx : isIdentCont x = true := ht x (by simp)
    simp only [List.cons_append, identLoop, hx, ↓reduceIte]
    rw [ih _ _ (fun y hy => ht y (List.mem_cons_of_mem _ hy))]
    simp

theorem identLoop_spec (pre rest acc : List Nat) :
    ∃ tok rest', rest = tok ++ rest' ∧ (∀ x ∈ tok, isIdentCont x = true) ∧ Head (fun c => isIdentCont c = false) rest' ∧
      identLoop pre rest acc = (tok.reverse ++ pre, rest', tok.reverse ++ acc) := by
  obtain ⟨tok, r, h, ht, hr⟩ := span_exists isIdentCont rest
  exact ⟨tok, r, h, ht, hr, by rw [h, identLoop_run tok pre r acc ht hr]⟩

theorem skipWs_rest (st : St) : Suf st.skipWs.rest st.rest :=
  (skipWsL_spec st.pre st.rest).imp fun _ h => h.1
@[simp] theorem skipWs_depth (st : St) : st.skipWs.depth = st.depth := rfl
@[simp] theorem skipWs_sexTime (st : St) : st.skipWs.sexTime = st.sexTime := rfl

/-- outcome of a byte-level helper: a panic only if `ap` ("allow panic") is set; `P` holds of a
successful result -/
def HGood {α} (ap : Bool) (P : α → Prop) : HRes α → Prop
  | .ok a => P a
  | .err _ => True
  | .panic _ => ap = true

theorem HGood.mono {α} {P Q : α → Prop} {r : HRes α} (h : HGood ap P r) (hpq : ∀ a, P a → Q a) : HGood ap Q r := by
  cases r with
  | ok a => exact hpq a h
  | err e => trivial
  | panic s => exact h

/-- a digit loop only moves the cursor forward and only pushes to `buf`; its look-behind stays inside what it consumed -/
theorem numLoop_good (eU : RErr) (pre rest : List Nat) (k seen : Nat) (bufR : List Nat) (hv : Bool)
    (hk : k ≠ 0 → pre ≠ []) :
    HGood ap (fun ns => Suf ns.rest rest ∧ (∃ x, ns.bufR = x ++ bufR) ∧
      Head (fun c => isDigit c = true → ns.bufR ≠ []) rest) (numLoop eU pre rest k seen bufR hv) := by
  induction rest generalizing pre k seen bufR hv with
  | nil => exact ⟨Suf.refl _, ⟨[], rfl⟩, Head.nil⟩
  | cons c r ih =>
    unfold numLoop
    split
    · split
      · trivial
      · exact (ih (c :: pre) (k + 1) (seen + 1) (c :: bufR) true (by simp)).mono fun _ h =>
          let ⟨x, hx⟩ := h.2.1; ⟨h.1.cons_of c, ⟨x ++ [c], by rw [hx]; simp⟩, Head.cons fun _ => by rw [hx]; simp⟩
    · rename_i hc
      have nd : ∀ ns : NumSt, Head (fun c => isDigit c = true → ns.bufR ≠ []) (c :: r) :=
        fun _ => Head.cons fun hd => absurd hd hc
      split
      · have hp : ∃ b, prevIsDigit pre k = .ok b := by
          unfold prevIsDigit
          split
          · exact ⟨_, rfl⟩
          · rename_i hk0
            cases pre with
            | nil => exact absurd rfl (hk (by simpa using hk0))
            | cons p ps => exact ⟨_, rfl⟩
        obtain ⟨b, hb⟩ := hp
        rw [hb]
        simp only []
        split
        · trivial
        · split
          · trivial
          · exact (ih (c :: pre) (k + 1) seen bufR hv (by simp)).mono fun ns h => ⟨h.1.cons_of c, h.2.1, nd ns⟩
      · exact ⟨Suf.refl _, ⟨[], rfl⟩, nd _⟩

theorem HGood.with_eq {α} {P : α → Prop} {r : HRes α} (h : HGood ap P r) :
    HGood ap (fun a => P a ∧ r = .ok a) r := by
  cases r <;> simp_all [HGood]

theorem numLoop_dot (eU : RErr) (pre r : List Nat) (k seen : Nat) (bufR : List Nat) (hv : Bool) :
    numLoop eU pre (46 :: r) k seen bufR hv = .ok ⟨pre, 46 :: r, seen, bufR, hv⟩ := by
  have h1 : isDigit 46 = false := by decide
  have h2 : ((46 : Nat) == 95) = false := by decide
  simp [numLoop, h1, h2]

theorem expMarker_good (c : Nat) (pre r bufR : List Nat) :
    Suf (expMarker c pre r bufR).2.1 r ∧ ∃ y, (expMarker c pre r bufR).2.2 = y ++ bufR := by
  unfold expMarker
  split
  · split
    · exact ⟨Suf.cons _ _, [_, c], rfl⟩
    · exact ⟨Suf.refl _, [c], rfl⟩
  · exact ⟨Suf.refl _, [c], rfl⟩

theorem numFrac_good (n1 : NumSt) :
    HGood ap (fun n2 : NumSt => Suf n2.rest n1.rest ∧ (∃ x, n2.bufR = x ++ n1.bufR) ∧
      ∀ r, n1.rest = 46 :: r → n2.bufR ≠ []) (numFrac n1) := by
  unfold numFrac
  split
  · rename_i r heq
    rw [heq]
    exact (numLoop_good RErr.underscoreFraction (46 :: n1.pre) r 0 n1.seen (46 :: n1.bufR) false (by simp)).mono
      fun _ h => let ⟨x, hx⟩ := h.2.1; ⟨h.1.cons_of 46, ⟨x ++ [46], by rw [hx]; simp⟩, fun _ _ => by rw [hx]; simp⟩
  · rename_i hne
    exact ⟨Suf.refl _, ⟨[], rfl⟩, fun r hr => absurd hr (hne r)⟩

theorem numExp_good (n2 : NumSt) :
    HGood ap (fun n3 : NumSt => Suf n3.rest n2.rest ∧ ∃ x, n3.bufR = x ++ n2.bufR) (numExp n2) := by
  have stay : HGood ap (fun n3 : NumSt => Suf n3.rest n2.rest ∧ ∃ x, n3.bufR = x ++ n2.bufR) (.ok n2) :=
    ⟨Suf.refl _, [], rfl⟩
  unfold numExp
  split
  · rename_i c r heq
    split
    · obtain ⟨hem, y, hy⟩ := expMarker_good c n2.pre r n2.bufR
      simp only []
      generalize expMarker c n2.pre r n2.bufR = em at hem hy ⊢
      have := numLoop_good (ap := ap) RErr.underscoreExponent em.1 em.2.1 0 n2.seen em.2.2 false (by simp)
      revert this
      cases numLoop RErr.underscoreExponent em.1 em.2.1 0 n2.seen em.2.2 false with
      | ok n3 =>
        simp only [HGood]
        intro h
        by_cases hh : (!n3.hadDigit) = true
        · simp [hh]
        · simp only [hh, Bool.false_eq_true, ↓reduceIte]
          obtain ⟨x, hx⟩ := h.2.1
          rw [heq]
          exact ⟨(h.1.trans hem).cons_of c, x ++ y, by rw [hx, hy]; simp⟩
      | err e => simp [HGood]
      | panic s => simp [HGood]
    · exact stay
  · exact stay

theorem buf_nonempty (pre rest : List Nat) (n1 n2 n3 : NumSt)
    (hc : ∃ c r, rest = c :: r ∧ (isDigit c = true ∨ c = 46))
    (e1 : numLoop .underscoreNumber pre rest 0 0 [] false = .ok n1) (e2 : numFrac n1 = .ok n2)
    (e3 : numExp n2 = .ok n3) : n3.bufR.isEmpty = false := by
  have g2 := numFrac_good (ap := true) n1
  rw [e2] at g2
  have g3 := numExp_good (ap := true) n2
  rw [e3] at g3
  have hb2 : n2.bufR ≠ [] := by
    obtain ⟨c, r, hr, hcd⟩ := hc
    rw [hr] at e1
    rcases hcd with hd | h46
    · have := numLoop_good (ap := true) RErr.underscoreNumber pre (c :: r) 0 0 [] false (by simp)
      rw [e1] at this
      have := this.2.2 c r rfl hd
      obtain ⟨x, hx⟩ := g2.2.1
      rw [hx]; intro hh; exact this (List.append_eq_nil_iff.mp hh).2
    · subst h46
      rw [numLoop_dot] at e1
      simp only [HRes.ok.injEq] at e1
      exact g2.2.2 r (by rw [← e1])
  obtain ⟨x, hx⟩ := g3.2
  cases hn3 : n3.bufR with
  | nil => rw [hn3] at hx; exact absurd (List.append_eq_nil_iff.mp hx.symm).2 hb2
  | cons _ _ => rfl

theorem readUint_good (pre rest : List Nat) (v : Fl) (d : Nat) (p : Bool) :
    HGood ap (fun r => Suf r.2.1 rest) (readUint pre rest v d p) := by
  induction rest generalizing pre v d p with
  | nil => unfold readUint; split <;> simp [HGood, Suf.refl]
  | cons c r ih =>
    unfold readUint
    split
    · split
      · trivial
      · exact (ih (c :: pre) (add F (mul F v TEN) (ofNat F (c - 48))) (d + 1) true).mono fun _ h => h.cons_of c
    · split
      · split
        · trivial
        · split
          · trivial
          · exact (ih (c :: pre) v d false).mono fun _ h => h.cons_of c
      · split <;> simp [HGood, Suf.refl]

theorem readU32_good (pre rest : List Nat) :
    HGood ap (fun r => Suf r.2.1 rest) (readU32 pre rest) := by
  unfold readU32
  have := readUint_good (ap := ap) pre rest (zero F false) 0 false
  revert this
  cases readUint pre rest (zero F false) 0 false with
  | ok a =>
    obtain ⟨p, r, v, d⟩ := a
    simp only [HGood]
    intro h
    by_cases hg : gt v U32MAX = true <;> simp [hg, h]
  | err e => simp [HGood]
  | panic s => simp [HGood]

theorem readFrac_good (pre rest : List Nat) (num sc : Fl) (d : Nat) (p : Bool) :
    HGood ap (fun r => Suf r.2.1 rest) (readFrac pre rest num sc d p) := by
  induction rest generalizing pre num sc d p with
  | nil => unfold readFrac; split <;> simp [HGood, Suf.refl]
  | cons c r ih =>
    unfold readFrac
    split
    · simp only []
      split
      · trivial
      · exact (ih (c :: pre) (if d < MAX_FRAC_DIGITS then add F (mul F num TEN) (ofNat F (c - 48)) else num)
          (if d < MAX_FRAC_DIGITS then mul F sc TEN else sc) (d + 1) true).mono fun _ h => h.cons_of c
    · split
      · split
        · trivial
        · split
          · trivial
          · exact (ih (c :: pre) num sc d false).mono fun _ h => h.cons_of c
      · split <;> simp [HGood, Suf.refl]

theorem startsCi_len {rest kw : List Nat} (h : startsCi rest kw = true) : kw.length ≤ rest.length := by
  unfold startsCi at h
  split at h
  · cases h
  · omega

theorem startsCi_append (tok k kw : List Nat) (h : tok.length = kw.length) :
    startsCi (tok ++ k) kw = (tok.map lowerByte == kw) := by
  rw [startsCi, if_neg (by rw [List.length_append]; omega), List.take_left' h]

theorem advN_good (n : Nat) (pre rest : List Nat) (hn : n ≤ rest.length) :
    HGood ap (fun pr => Suf pr.2 rest) (advN n pre rest) := by
  induction n generalizing pre rest with
  | zero => simp [advN, HGood, Suf.refl]
  | succ n ih =>
    cases rest with
    | nil => simp at hn
    | cons c r =>
      simp only [advN]
      exact (ih (c :: pre) r (by simpa using hn)).mono fun _ h => h.cons_of c

/-- Outcome of a parser function entered at depth `D`: `P` holds of a successful result; an error is raised at a depth
not below `D` (so the `exit()` on the error path does not underflow); a panic only if `ap` is set; never out of fuel. -/
def Does {α} (ap : Bool) (D : Nat) (P : α → Prop) : Res α → Prop
  | .ok a => P a
  | .err _ d => D ≤ d
  | .panic _ => ap = true
  | .fuel => False

theorem Does.lift {α} {P : α → Prop} (D : Nat) {r : HRes α} (h : HGood ap P r) : Does ap D P (HRes.lift D r) := by
  cases r with
  | ok a => exact h
  | err e => exact Nat.le_refl D
  | panic s => exact h

theorem Does.bind {α β} {D : Nat} {P : α → Prop} {Q : β → Prop} {r : Res α} {g : α → Res β}
    (h : Does ap D P r) (hg : ∀ a, P a → Does ap D Q (g a)) : Does ap D Q (r.bind g) := by
  cases r with
  | ok a => exact hg a h
  | err e d => exact h
  | panic s => exact h
  | fuel => exact h

theorem Does.mono {α} {D : Nat} {P Q : α → Prop} {r : Res α} (h : Does ap D P r) (hpq : ∀ a, P a → Q a) :
    Does ap D Q r := by
  cases r with
  | ok a => exact hpq a h
  | err e d => exact h
  | panic s => exact h
  | fuel => exact h

theorem Does.with_eq {α} {D : Nat} {P : α → Prop} {r : Res α} (h : Does ap D P r) :
    Does ap D (fun a => P a ∧ r = .ok a) r := by
  cases r with
  | ok a => exact ⟨h, rfl⟩
  | err e d => exact h
  | panic s => exact h
  | fuel => exact h

theorem sexaSecs_good (st : St) (d12 : Nat) (pre2 rest2 : List Nat) (h2 : Suf rest2 st.rest) :
    Does ap st.depth (fun r => Suf r.2.1 st.rest) (sexaSecs st d12 pre2 rest2) := by
  unfold sexaSecs
  split
  · rename_i rest2'
    refine Does.bind (Does.lift st.depth (readU32_good _ _)) ?_
    rintro ⟨pre3, rest3, secsU, d3⟩ h3
    simp only [] at h3 ⊢
    have h3' : Suf rest3 st.rest := (h3.trans (Suf.cons 58 rest2')).trans h2
    split
    · exact Nat.le_refl _
    · split
      · rename_i rest3'
        refine Does.bind (Does.lift st.depth (readFrac_good _ _ _ _ _ _)) ?_
        intro y h4
        exact (h4.trans (Suf.cons 46 rest3')).trans h3'
      · exact h3'
  · exact h2

/-- a success of the token scanner started in `st` -/
def Scanned (st : St) (p : Eval × St) : Prop :=
  Suf p.2.rest st.rest ∧ p.2.depth = st.depth ∧ p.2.sexTime = st.sexTime ∧ WF F p.1.1

theorem sexaValue_wf (tag : Nat) (tm : Bool) (degWhole : Fl) (minsU : Nat) (secs : Fl) :
    WF F (sexaValue tag tm degWhole minsU secs) := by
  unfold sexaValue
  split
  · split
    · exact C19F.mul_wf C19F.ok64 _ _
    · exact C19F.add_wf C19F.ok64 _ _
  · split <;> exact C19F.add_wf C19F.ok64 _ _

theorem sexaMins_good (tag : Nat) (st : St) (pre1 rest1' : List Nat) (degWhole : Fl) (d1 : Nat)
    (h1 : Suf rest1' st.rest) :
    Does ap st.depth (fun o => ∀ p, o = some p → Scanned st p) (sexaMins tag st pre1 rest1' degWhole d1) := by
  refine Does.bind (Does.lift st.depth (readU32_good _ _)) ?_
  intro x h2
  split
  · exact Nat.le_refl _
  · refine Does.bind (sexaSecs_good st _ _ _ (h2.trans h1)) ?_
    intro y hy
    rw [sexaFinish_eq]
    split
    · exact Nat.le_refl _
    · intro p h
      cases h
      exact ⟨hy, rfl, rfl, sexaValue_wf _ _ _ _ _⟩

theorem trySexagesimal_good (tag : Nat) (st : St) :
    Does ap st.depth (fun o => ∀ p, o = some p → Scanned st p) (trySexagesimal tag st) := by
  have none_ok : ∀ p, (none : Option (Eval × St)) = some p → Scanned st p := fun _ h => nomatch h
  rw [trySexagesimal_eq]
  split
  · exact none_ok
  split
  · exact none_ok
  refine Does.bind (Does.lift st.depth (readUint_good _ _ _ _ _)) ?_
  rintro ⟨pre1, rest1, degWhole, d1⟩ h1
  simp only [] at h1 ⊢
  split
  · rename_i rest1'
    exact sexaMins_good tag st pre1 rest1' degWhole d1 ((Suf.cons 58 rest1').trans h1)
  · exact none_ok

theorem parseNumberOrSpecial_good (tag : Nat) (st : St)
    (hc : ∃ c r, st.rest = c :: r ∧ (isDigit c = true ∨ c = 46)) :
    Does ap st.depth (Scanned st) (parseNumberOrSpecial tag st) := by
  unfold parseNumberOrSpecial
  split
  · rename_i hT
    refine Does.bind (Does.lift st.depth (advN_good 4 _ _ (by simpa using startsCi_len hT))) ?_
    rintro ⟨p, r⟩ hpr
    exact ⟨hpr, rfl, rfl, trivial⟩
  · split
    · rename_i hT
      refine Does.bind (Does.lift st.depth (advN_good 4 _ _ (by simpa using startsCi_len hT))) ?_
      rintro ⟨p, r⟩ hpr
      exact ⟨hpr, rfl, rfl, trivial⟩
    · refine Does.bind (trySexagesimal_good tag st) ?_
      intro sx hsx
      split
      · rename_i res
        exact hsx res rfl
      · refine Does.bind (Does.lift st.depth (numLoop_good _ _ _ 0 0 [] false (by simp)).with_eq) ?_
        intro n1 ⟨h1, e1⟩
        refine Does.bind (Does.lift st.depth (numFrac_good n1).with_eq) ?_
        intro n2 ⟨h2', e2⟩
        have h2 : Suf n2.rest st.rest := h2'.1.trans h1.1
        refine Does.bind (Does.lift st.depth (numExp_good n2).with_eq) ?_
        · intro n3 ⟨h3', e3⟩
          have h3 : Suf n3.rest st.rest := h3'.1.trans h2
          have hb3 := buf_nonempty st.pre st.rest n1 n2 n3 hc e1 e2 e3
          show Does ap st.depth _ _
          simp only [hb3, Bool.false_eq_true, ↓reduceIte]
          split
          · rename_i v hv
            exact ⟨h3, rfl, rfl, C19F.fromStr_wf C19F.ok64 _ _ hv⟩
          · exact Nat.le_refl _

theorem identStart_facts (c : Nat) (h : isIdentStart c = true) :
    isIdentCont c = true ∧ isCont c = false ∧ c < 128 := by
  simp only [isIdentStart, isAlpha, Bool.or_eq_true, Bool.and_eq_true, decide_eq_true_eq, beq_iff_eq] at h
  refine ⟨?_, ?_, by omega⟩
  · simp only [isIdentCont, isAlpha, isDigit, Bool.or_eq_true, Bool.and_eq_true, decide_eq_true_eq, beq_iff_eq]
    omega
  · simp only [isCont, Bool.and_eq_false_iff, decide_eq_false_iff_not]
    omega

theorem AdjOk.append {a b : List Nat} (ha : AdjOk a) (hb : AdjOk b) (hh : Head (fun c => isCont c = false) b) :
    AdjOk (a ++ b) := by
  induction a with
  | nil => exact hb
  | cons x a ih =>
    cases a with
    | nil =>
      cases b with
      | nil => trivial
      | cons y r =>
        refine ⟨?_, hb⟩
        intro hy
        rw [hh y r rfl] at hy
        cases hy
    | cons x' a' => exact ⟨ha.1, ih ha.2⟩

theorem utf8_char_ok (c : Char) :
    AdjOk (utf8 [c]) ∧ Head (fun c => isCont c = false) (utf8 [c]) ∧ utf8 [c] ≠ [] := by
  -- the leading byte of each of the four forms is below 128 or from 192 on; the others follow a byte from 128 on
  have lead : ∀ b : Nat, b < 128 ∨ 192 ≤ b → isCont b = false := fun b h => by
    simp only [isCont, Bool.and_eq_false_iff, decide_eq_false_iff_not]
    omega
  simp only [utf8, List.flatMap_cons, List.flatMap_nil, List.append_nil]
  split
  · exact ⟨trivial, Head.cons (lead _ (by omega)), by simp⟩
  · split
    · exact ⟨⟨by intro _; omega, trivial⟩, Head.cons (lead _ (by omega)), by simp⟩
    · split
      · exact ⟨⟨by intro _; omega, by intro _; omega, trivial⟩, Head.cons (lead _ (by omega)), by simp⟩
      · exact ⟨⟨by intro _; omega, by intro _; omega, by intro _; omega, trivial⟩, Head.cons (lead _ (by omega)), by simp⟩

theorem utf8_cons (c : Char) (cs : List Char) : utf8 (c :: cs) = utf8 [c] ++ utf8 cs := by
  simp [utf8]

theorem utf8_ok (cs : List Char) : AdjOk (utf8 cs) ∧ Head (fun c => isCont c = false) (utf8 cs) := by
  induction cs with
  | nil => exact ⟨trivial, Head.nil⟩
  | cons c cs ih =>
    obtain ⟨h1, h2, h3⟩ := utf8_char_ok c
    rw [utf8_cons]
    refine ⟨h1.append ih.1 ih.2, ?_⟩
    cases hu : utf8 [c] with
    | nil => exact absurd hu h3
    | cons y q => exact Head.cons (h2 y q hu)

end SaphyrVerif.Lemmas.C19
