import SaphyrVerif.Model.Entry
import SaphyrVerif.Lemmas.CurSim
import Lean.Elab.Tactic
/-!
The statement of the lock-step comparison (`LP`, `LR`, `Closed`): two cursors `c` and `σ c` that
answer every `peek` / `next` ALIKE — the same event or the same error —, with an invariant `Inv` of the left
cursor after a successful operation and an invariant `ErrI` after a failed one.  The typed deserializer, run on
such a pair, returns the same value or the same error, and the returned cursors are again a pair `d`, `σ d` with
`Inv d` (value) resp. `ErrI d` (error) — in particular the cursor it returns on an ERROR is described, which is what
the streaming iterator needs for its recovery.  (The pass itself, `Lemmas/C11_Typed2LockMain.lean`, is the pass of
`Lemmas/LockStep.lean` without its one-sided outcome.)

Instance (`Lemmas/C11_Typed2Fail.lean`): `σ` replaces the rest of the stream behind the current document by
another one; `Inv` = "the pump alone will fail before the end of the document".
-/
namespace SaphyrVerif.Lemmas.Lock
open SaphyrVerif SaphyrVerif.Scalars SaphyrVerif.Pump SaphyrVerif.De

structure LP where
  σ : Cur → Cur
  Inv : Cur → Prop
  ErrI : Cur → Prop
  σ_lastLoc : ∀ c, (σ c).lastLoc = c.lastLoc
  σ_refLoc : ∀ c, (σ c).refLoc = c.refLoc
  σ_atAlias : ∀ c, (σ c).atAlias = c.atAlias
  σ_replay : ∀ b i r, σ (.replay b i r) = .replay b i r
  inv_err : ∀ c, Inv c → ErrI c

inductive LR (P : LP) {α : Type} : R α → R α → Prop
  | ok {a : α} {d : Cur} : P.Inv d → LR P (.ok a d) (.ok a (P.σ d))
  | err {e : DErr} {d : Cur} : P.ErrI d → LR P (.err e d) (.err e (P.σ d))

theorem LR.fwd_ok {P : LP} {α : Type} {x y : R α} {a : α} {d : Cur} (heq : x = .ok a d) (h : LR P x y) :
    y = .ok a (P.σ d) ∧ P.Inv d := by
  cases h with
  | ok hi => cases heq; exact ⟨rfl, hi⟩
  | err => cases heq

theorem LR.fwd_err {P : LP} {α : Type} {x y : R α} {e : DErr} {d : Cur} (heq : x = .err e d) (h : LR P x y) :
    y = .err e (P.σ d) ∧ P.ErrI d := by
  cases h with
  | ok hi => cases heq
  | err hi => cases heq; exact ⟨rfl, hi⟩

def Closed (P : LP) : Prop := ∀ c, P.Inv c → LR P c.peek (P.σ c).peek ∧ LR P c.next (P.σ c).next

theorem Closed.peek_cases {P : LP} (hcl : Closed P) {c : Cur} (h : P.Inv c) :
    (∃ o d, c.peek = .ok o d ∧ (P.σ c).peek = .ok o (P.σ d) ∧ P.Inv d) ∨
    (∃ e d, c.peek = .err e d ∧ (P.σ c).peek = .err e (P.σ d) ∧ P.ErrI d) := by
  have hx := (hcl c h).1
  revert hx
  generalize c.peek = x
  generalize (P.σ c).peek = y
  intro hx
  cases hx with
  | ok hi => exact .inl ⟨_, _, rfl, rfl, hi⟩
  | err hi => exact .inr ⟨_, _, rfl, rfl, hi⟩

theorem Closed.next_cases {P : LP} (hcl : Closed P) {c : Cur} (h : P.Inv c) :
    (∃ o d, c.next = .ok o d ∧ (P.σ c).next = .ok o (P.σ d) ∧ P.Inv d) ∨
    (∃ e d, c.next = .err e d ∧ (P.σ c).next = .err e (P.σ d) ∧ P.ErrI d) := by
  have hx := (hcl c h).2
  revert hx
  generalize c.next = x
  generalize (P.σ c).next = y
  intro hx
  cases hx with
  | ok hi => exact .inl ⟨_, _, rfl, rfl, hi⟩
  | err hi => exact .inr ⟨_, _, rfl, rfl, hi⟩

/-! The step tactic for goals stated directly in `LR` (the walk over the deserializer, `Lemmas/GSim*.lean`, has its own: `g_step`). -/

-- Whether the delivered event is case-split: `inspected` = some `match` on this call has an alternative for a particular
-- event (`altNumParams != #[2, 2]` excludes the matches whose only alternatives are `.err e c` and `.ok x c`, two variables
-- each); `direct` = the call is the discriminant of some `match` at all.  A call that no `match` looks at directly
-- (`!direct`) is split as well, to be safe.
open Lean Elab Tactic Meta in
/-- advance the cursor and its twin `σ c`: for a hypothesis `P.Inv c` such that `c.next` (or
`c.peek`) occurs in the goal, distinguish the two outcomes of the primitive (same answer / same error) and rewrite both calls; if some `match` on the call distinguishes the delivered event, distinguish the
event kinds so that both sides take the same branch -/
elab "lk_step" : tactic => withMainContext do
  let tgt ← instantiateMVars (← getMainTarget)
  let env ← getEnv
  for ldecl in (← getLCtx) do
    if ldecl.isImplementationDetail then continue
    let ty ← instantiateMVars ldecl.type
    if ty.isAppOfArity ``LP.Inv 2 then
      let c := ty.getArg! 1
      for (op, lem) in [(``SaphyrVerif.De.Cur.next, ``Closed.next_cases), (``SaphyrVerif.De.Cur.peek, ``Closed.peek_cases)] do
        let t := mkApp (mkConst op) c
        if (tgt.find? (· == t)).isSome then
          let inspected := (tgt.find? fun e =>
            match e.getAppFn with
            | .const n _ =>
              match Lean.Meta.getMatcherInfoCore? env n with
              | some info =>
                let args := e.getAppArgs
                let pos := info.getFirstDiscrPos
                pos < args.size && args[pos]! == t && info.altNumParams != #[2, 2]
              | none => false
            | _ => false).isSome
          let direct := (tgt.find? fun e =>
            match e.getAppFn with
            | .const n _ =>
              match Lean.Meta.getMatcherInfoCore? env n with
              | some info =>
                let args := e.getAppArgs
                let pos := info.getFirstDiscrPos
                pos < args.size && args[pos]! == t
              | none => false
            | _ => false).isSome
          let hstx ← Term.exprToSyntax ldecl.toExpr
          if inspected || !direct then
            evalTactic (← `(tactic| (
              have hx := $(mkIdent lem) ‹Closed _› $hstx
              rcases hx with ⟨o, _, h1, h2, _⟩ | ⟨_, _, h1, h2, _⟩ <;>
                (rw [h1, h2]
                 clear h1 h2
                 try (rcases o with _ | (_ | _ | _ | _ | _))))))
          else
            evalTactic (← `(tactic| (
              have hx := $(mkIdent lem) ‹Closed _› $hstx
              rcases hx with ⟨_, _, h1, h2, _⟩ | ⟨_, _, h1, h2, _⟩ <;>
                (rw [h1, h2]
                 clear h1 h2))))
          return
  throwError "lk_step: no cursor operation to advance"

end SaphyrVerif.Lemmas.Lock

