import SaphyrVerif.Spec.EmitReader
/-!
The proved FRAGMENT of the value grammar (`inFragP P`: over a class `P` of
strings) and a flag-free structural LAYOUT function (`layRoot T`: over texts `T` that give what is
written for a string leaf in a position — a token, or the header and the body lines of a block scalar — / for a
string key / variant name / unit variant) describing the lines the emitter produces for it.  `Lemmas/C13_Emit.lean` proves that the emitter state machine produces exactly this layout
(the emitter invariant) whenever the scalar-text functions satisfy the write contract for `P` and `T`;
`Lemmas/C13_Read.lean` proves that the reference reader maps the lines of the layout back to `erase v` whenever the tokens
satisfy the read contract, `Lemmas/C13_Lines.lean` that the rendered text splits back into those lines (`read_layout_pro`).  Instances: the SAFE class (`Lemmas/C13_Safe.lean`, any scalar-text functions with
`SafeContract`) and arbitrary strings for the crate's own functions (`Lemmas/C13_Compose.lean`).

Fragment: null (unit / none), booleans, integers, strings of the class, options, ordinary newtype structs,
block sequences, tuples and tuple structs, block mappings / structs whose keys are strings of the class or
composite (sequences, mappings, variants with data of the fragment, written `? key` / `: value`) and
pairwise different, unit, newtype, tuple and struct variants, nested arbitrarily; a string key / variant name whose
text is longer than 1024 characters (`fitsImplicit`) is laid out as an explicit key too.  Options: every
`indent_step ≥ 1`, `compact_list_indent` on or off, `empty_as_braces`; `yaml_12` (the prologue), `quote_all`
and `tagged_enums` (the tokens) on or off.
-/
namespace SaphyrVerif.Emit

def isLowerAlpha (c : Char) : Bool := 'a' ≤ c && c ≤ 'z'
def isLowerAlnum (c : Char) : Bool := isLowerAlpha c || ('0' ≤ c && c ≤ '9')

/-- words the untyped reader resolves to null / booleans, and the float words the emitter quotes -/
def reservedWords : List (List Char) :=
  ["null".toList, "true".toList, "false".toList, "y".toList, "n".toList, "yes".toList, "no".toList,
   "on".toList, "off".toList, "nan".toList, "inf".toList]

/-- the SAFE leaf class: `[a-z][a-z0-9]*` minus the reserved words -/
def isSafeStr (s : List Char) : Bool :=
  match s with
  | [] => false
  | c :: cs => isLowerAlpha c && cs.all isLowerAlnum && !reservedWords.contains s

/-- what the theorems over the safe class assume about the scalar-text functions: safe strings are plain-safe in every
position (the crate's own functions miss it for `infinity` alone, `implFns_not_safeContract` in `Props/C13`; their round
trip is the theorem over `implFns` and all strings) -/
structure SafeContract (f : ScalarFns) : Prop where
  plain : ∀ s, isSafeStr s = true → f.isPlainSafe s = true
  value : ∀ s y fl, isSafeStr s = true → f.isPlainValueSafe s y fl = true
  shape : ∀ s, isSafeStr s = true → f.isUnsafePlainShape s = false

/-- the option vectors of the proved fragment: every `indent_step ≥ 1`, `empty_as_braces`; `yaml_12`,
`quote_all`, `tagged_enums`, `compact_list_indent`, `min_fold_chars`, `folded_wrap_chars`,
`prefer_block_scalars` arbitrary -/
structure FragOpts (o : Opts) : Prop where
  indent : o.indentStep ≥ 1
  braces : o.emptyAsBraces = true

/-- the option vectors of the C20 flow / literal fragments: the scalar-style options off -/
structure PlainOpts (o : Opts) : Prop extends FragOpts o where
  quoteAll : o.quoteAll = false
  tagged : o.taggedEnums = false

/-- where a string leaf stands: right after `key:` of a mapping whose keys are at column `c`, right after `- ` /
`? ` / `: ` of an entry whose indicator is at column `c`, or at the root of the document -/
inductive StrPos where
  | val (c : Nat)
  | item (c : Nat)
  | root
deriving Repr, DecidableEq

/-- the least indentation a node in this position may have -/
def StrPos.minIndent : StrPos → Nat
  | .val c => c + 1
  | .item c => c + 1
  | .root => 0

/-- the scalar texts of a layout: what is written for a string leaf — the text on the line of the leaf and
the lines that follow it (none for a plain / quoted token; the body lines of a block scalar), given
`indent_step` and the position —, for a string key, for the name of a variant with data (the key of
`Variant: payload`), for a unit variant in value position (enum name, variant name; like a string leaf: text on
the line, following lines) -/
structure Toks where
  strAt : Nat → StrPos → List Char → List Char × List Line
  key : List Char → List Char
  name : List Char → List Char
  unitAt : Nat → StrPos → List Char → List Char → List Char × List Line

/-- the tokens when every string leaf and every unit variant is ONE token, the same in every position -/
def Toks.ofStr (str key name : List Char → List Char) (unit : List Char → List Char → List Char) : Toks :=
  ⟨fun _ _ s => (str s, []), key, name, fun _ _ e n => (unit e n, [])⟩

/-- the text on the line of a string leaf at the root (for tokens made with `Toks.ofStr`: the token; the step `2` and
the position `.root` stand for any: under `Toks.IsTok` neither matters) -/
def Toks.str (T : Toks) (s : List Char) : List Char := (T.strAt 2 .root s).1

/-- the text on the line of a unit variant at the root (for tokens made with `Toks.ofStr`: the token) -/
def Toks.unit (T : Toks) (e n : List Char) : List Char := (T.unitAt 2 .root e n).1

/-- every string leaf and every unit variant is one token (no block scalars) -/
def Toks.IsTok (T : Toks) : Prop :=
  (∀ k pos s, T.strAt k pos s = (T.str s, [])) ∧ (∀ k pos e n, T.unitAt k pos e n = (T.unit e n, []))

theorem Toks.ofStr_isTok (str key name : List Char → List Char) (unit : List Char → List Char → List Char) :
    (Toks.ofStr str key name unit).IsTok := ⟨fun _ _ _ => rfl, fun _ _ _ _ => rfl⟩

@[simp] theorem Toks.ofStr_str (str key name : List Char → List Char) (unit : List Char → List Char → List Char) (s : List Char) :
    (Toks.ofStr str key name unit).str s = str s := rfl
@[simp] theorem Toks.ofStr_strAt (str key name : List Char → List Char) (unit : List Char → List Char → List Char) (k : Nat)
    (pos : StrPos) (s : List Char) : (Toks.ofStr str key name unit).strAt k pos s = (str s, []) := rfl
@[simp] theorem Toks.ofStr_key (str key name : List Char → List Char) (unit : List Char → List Char → List Char) :
    (Toks.ofStr str key name unit).key = key := rfl
@[simp] theorem Toks.ofStr_name (str key name : List Char → List Char) (unit : List Char → List Char → List Char) :
    (Toks.ofStr str key name unit).name = name := rfl
@[simp] theorem Toks.ofStr_unit (str key name : List Char → List Char) (unit : List Char → List Char → List Char) (e n : List Char) :
    (Toks.ofStr str key name unit).unit e n = unit e n := rfl
@[simp] theorem Toks.ofStr_unitAt (str key name : List Char → List Char) (unit : List Char → List Char → List Char) (k : Nat)
    (pos : StrPos) (e n : List Char) : (Toks.ofStr str key name unit).unitAt k pos e n = (unit e n, []) := rfl

def plainToks : Toks := Toks.ofStr (fun s => s) (fun s => s) (fun s => s) (fun _ n => n)

/-- the classes of strings a fragment admits as string leaves, as string keys, as names of variants
with data, as (enum name, variant name) of unit variants -/
structure LeafPred where
  str : List Char → Bool
  key : List Char → Bool
  name : List Char → Bool
  unit : List Char → List Char → Bool

/-- characters a line of the dialect can carry -/
def lineChar (c : Char) : Bool := c != '\n' && c != '\r' && c != Char.ofNat 0

/-- characters of an (ASCII) Rust identifier -/
def isIdentChar (c : Char) : Bool :=
  ('a' ≤ c && c ≤ 'z') || ('A' ≤ c && c ≤ 'Z') || ('0' ≤ c && c ≤ '9') || c == '_'

/-- an enum name that can stand in a tag (`tagged_enums` writes `!!Enum variant` with the enum name as it
is): a non-empty ASCII identifier -/
def tagNameOk (e : List Char) : Bool := !e.isEmpty && e.all isIdentChar

/-- the SAFE class everywhere (strings longer than `folded_wrap_chars` are auto-folded: not in the class);
under `tagged_enums` the enum name of a unit variant must be able to stand in a tag -/
def safePred (o : Opts) : LeafPred :=
  ⟨fun s => isSafeStr s && s.length ≤ o.foldedWrapCol, isSafeStr, isSafeStr,
   fun e n => isSafeStr n && n.length ≤ o.foldedWrapCol && (!o.taggedEnums || tagNameOk e)⟩

/-- the scalar token of a fragment leaf other than a string / a unit variant -/
def leafTok (T : Toks) : SVal → Option (List Char)
  | .unit => some "null".toList
  | .none => some "null".toList
  | .bool b => some (if b then "true".toList else "false".toList)
  | .int i => some (intText i)
  | _ => none

def keyOf : SVal → Option (List Char)
  | .str k => some k
  | _ => none

def keyOk (P : LeafPred) (k : SVal) : Bool :=
  match keyOf k with
  | some kt => P.key kt
  | none => false

theorem keyOk_str {P : LeafPred} {k : SVal} (h : keyOk P k = true) : ∃ kt, k = .str kt ∧ P.key kt = true := by
  cases k <;> simp [keyOk, keyOf] at h
  exact ⟨_, rfl, h⟩

/-- the non-scalar keys of the fragment (written as explicit keys `? key`) -/
def isComplexKey : SVal → Bool
  | .seq _ => true
  | .tuple _ => true
  | .tupleStruct _ => true
  | .map _ _ => true
  | .newtypeVariant _ _ => true
  | .tupleVariant _ _ => true
  | .structVariant _ _ => true
  | .some v => isComplexKey v
  | .newtypeStruct v => isComplexKey v
  | _ => false

theorem keyOf_complex (k : SVal) (h : isComplexKey k = true) : keyOf k = none := by
  cases k <;> first | rfl | simp [isComplexKey] at h

mutual
def inFragP (P : LeafPred) : SVal → Bool
  | .unit => true
  | .none => true
  | .bool _ => true
  | .int _ => true
  | .str s => P.str s
  | .unitVariant e n => P.unit e n
  | .some v => inFragP P v
  | .newtypeStruct v => inFragP P v
  | .seq xs => inFragListP P xs
  | .tuple xs => inFragListP P xs
  | .tupleStruct xs => inFragListP P xs
  | .map _ es => inFragEntriesP P es && !hasDupKey (eraseEntries es)
  | .newtypeVariant n v => P.name n && inFragP P v
  | .tupleVariant n xs => P.name n && inFragListP P xs
  | .structVariant n fs => P.name n && (inFragEntriesP P fs && !hasDupKey (eraseEntries fs))
  | _ => false
def inFragListP (P : LeafPred) : List SVal → Bool
  | [] => true
  | v :: vs => inFragP P v && inFragListP P vs
def inFragEntriesP (P : LeafPred) : List (SVal × SVal) → Bool
  | [] => true
  | (k, v) :: es => (keyOk P k || (isComplexKey k && inFragP P k)) && inFragP P v && inFragEntriesP P es
end

/-- the fragment with SAFE strings (for the option vector `o`: `folded_wrap_chars`, `tagged_enums`) -/
abbrev inFrag (o : Opts) (v : SVal) : Bool := inFragP (safePred o) v
abbrev inFragList (o : Opts) (xs : List SVal) : Bool := inFragListP (safePred o) xs
abbrev inFragEntries (o : Opts) (es : List (SVal × SVal)) : Bool := inFragEntriesP (safePred o) es

/-- key texts (only meaningful for string keys) -/
def keysOf : List (SVal × SVal) → List (List Char)
  | [] => []
  | (k, _) :: es => (match k with | .str s => s | _ => []) :: keysOf es

/-! ### layout

Positions are COLUMNS: `k` is `indent_step`; the keys of a mapping / the dashes of a sequence stand at a
column `c`; a collection after `key:` goes to the following lines at column `c + k`, the first entry
of a collection after `- ` stays on the dash line, i.e. at column `c + 2`, and so do its other entries. -/

/-- a sequence right after `key:`: empty = ` []` on the line of the key, otherwise the item lines
(given as `items`) -/
def seqValOf (isEmpty : Bool) (items : List Line) : List Char × List Line × Bool :=
  if isEmpty then (" []".toList, [], false) else ([], items, true)

/-- a mapping right after `key:`: empty = ` {}` on the line of the key (on its own line at column `c`
after a block sibling), otherwise the entry lines (given as `entries`) -/
def mapValOf (c : Nat) (lvb : Bool) (isEmpty : Bool) (entries : List Line) : List Char × List Line × Bool :=
  if isEmpty then (if lvb then ([], [⟨c, "{}".toList⟩], false) else (" {}".toList, [], false))
  else ([], entries, true)

/-- is the text of a key short enough for an implicit key `key:` (at most 1024 characters)?  A longer scalar key /
variant name is written as an explicit key: `? key`, and `: value` on the next line. -/
def fitsImplicit (t : List Char) : Bool := decide (t.length ≤ 1024)

/-- `Variant:` right after `key:`: on the next line at column `c`; `r` = the layout of the payload after
`Variant:`.  A name too long for an implicit key: `? Variant` at column `c` and `: payload` under it; `ri` = the
layout of the payload after `: ` (like a sequence item after a dash at column `c`). -/
def variantVal (c : Nat) (n : List Char) (r ri : List Char × List Line × Bool) : List Char × List Line × Bool :=
  if fitsImplicit n then ([], ⟨c, n ++ [':'] ++ r.1⟩ :: r.2.1, r.2.2)
  else ([], ⟨c, ['?', ' '] ++ n⟩ :: ⟨c, [':', ' '] ++ ri.1⟩ :: ri.2.1, ri.2.2)

/-- `Variant:` right after `- ` (dash at column `c`): on the dash line.  A name too long for an implicit key:
`? Variant` on the dash line, `: payload` under the `?` (column `c + 2`); `ri` = the layout of the payload after `: ` -/
def variantItem (c : Nat) (n : List Char) (r ri : List Char × List Line × Bool) : List Char × List Line × Bool :=
  if fitsImplicit n then (n ++ [':'] ++ r.1, r.2.1, r.2.2)
  else (['?', ' '] ++ n, ⟨c + 2, [':', ' '] ++ ri.1⟩ :: ri.2.1, ri.2.2)

def variantRoot (n : List Char) (r ri : List Char × List Line × Bool) : List Line :=
  if fitsImplicit n then ⟨0, n ++ [':'] ++ r.1⟩ :: r.2.1
  else ⟨0, ['?', ' '] ++ n⟩ :: ⟨0, [':', ' '] ++ ri.1⟩ :: ri.2.1

/-- the column of the dashes of a sequence right after `key:` (keys at column `c`): one step deeper,
or — `compact_list_indent` inside a mapping (`current_map_depth` set) — the column of the keys -/
def seqCol (k : Nat) (cp inMap : Bool) (c : Nat) : Nat := if cp && inMap then c else c + k

mutual
/-- value right after `key:` of a mapping whose keys are at column `c`; `cp` = `compact_list_indent`,
`inMap` = `current_map_depth` is set (always, except for the payload of a variant at the root);
`lvb` = the incoming `last_value_was_block`.  Result: rest of the key line, the following lines,
outgoing `lvb`. -/
def layVal (T : Toks) (k : Nat) (cp inMap : Bool) (c : Nat) (lvb : Bool) : SVal → List Char × List Line × Bool
  | .some v => layVal T k cp inMap c lvb v
  | .newtypeStruct v => layVal T k cp inMap c lvb v
  | .seq xs => seqValOf xs.isEmpty (layItems T k cp (seqCol k cp inMap c) false xs).1
  | .tuple xs => seqValOf xs.isEmpty (layItems T k cp (seqCol k cp inMap c) false xs).1
  | .tupleStruct xs => seqValOf xs.isEmpty (layItems T k cp (seqCol k cp inMap c) false xs).1
  | .map _ es => mapValOf (c + k) lvb es.isEmpty (layEntries T k cp (c + k) false es).1
  | .newtypeVariant n v => variantVal (c + k) (T.name n) (layVal T k cp true (c + k) lvb v) (layItem T k cp (c + k) lvb v)
  | .tupleVariant n xs => variantVal (c + k) (T.name n) (seqValOf xs.isEmpty (layItems T k cp (seqCol k cp true (c + k)) false xs).1)
      (laySeqItem T k cp (c + k) lvb xs)
  | .structVariant n fs => variantVal (c + k) (T.name n) (mapValOf (c + k + k) lvb fs.isEmpty (layEntries T k cp (c + k + k) false fs).1)
      (layMapItem T k cp (c + k) lvb fs)
  | .unit => (' ' :: "null".toList, [], false)
  | .none => (' ' :: "null".toList, [], false)
  | .bool b => (' ' :: (if b then "true".toList else "false".toList), [], false)
  | .int i => (' ' :: intText i, [], false)
  | .str s => (' ' :: (T.strAt k (.val c) s).1, (T.strAt k (.val c) s).2, false)
  | .unitVariant e n => (' ' :: (T.unitAt k (.val c) e n).1, (T.unitAt k (.val c) e n).2, false)
  | _ => ([], [], lvb)
/-- value right after `- ` of a sequence whose dashes are at column `c` -/
def layItem (T : Toks) (k : Nat) (cp : Bool) (c : Nat) (lvb : Bool) : SVal → List Char × List Line × Bool
  | .some v => layItem T k cp c lvb v
  | .newtypeStruct v => layItem T k cp c lvb v
  | .seq xs => laySeqItem T k cp c lvb xs
  | .tuple xs => laySeqItem T k cp c lvb xs
  | .tupleStruct xs => laySeqItem T k cp c lvb xs
  | .map _ es => layMapItem T k cp c lvb es
  | .newtypeVariant n v => variantItem c (T.name n) (layVal T k cp true (c + 2) lvb v) (layItem T k cp (c + 2) lvb v)
  | .tupleVariant n xs => variantItem c (T.name n) (seqValOf xs.isEmpty (layItems T k cp (seqCol k cp true (c + 2)) false xs).1)
      (laySeqItem T k cp (c + 2) lvb xs)
  | .structVariant n fs => variantItem c (T.name n) (mapValOf (c + 2 + k) lvb fs.isEmpty (layEntries T k cp (c + 2 + k) false fs).1)
      (layMapItem T k cp (c + 2) lvb fs)
  | .unit => ("null".toList, [], false)
  | .none => ("null".toList, [], false)
  | .bool b => ((if b then "true".toList else "false".toList), [], false)
  | .int i => (intText i, [], false)
  | .str s => ((T.strAt k (.item c) s).1, (T.strAt k (.item c) s).2, false)
  | .unitVariant e n => ((T.unitAt k (.item c) e n).1, (T.unitAt k (.item c) e n).2, false)
  | _ => ([], [], lvb)
/-- a sequence right after `- ` (at column `c`): its first item stays on the line, all its dashes at `c + 2` -/
def laySeqItem (T : Toks) (k : Nat) (cp : Bool) (c : Nat) (lvb : Bool) : List SVal → List Char × List Line × Bool
  | [] => ("[]".toList, [], lvb)
  | x :: xs =>
    let r := layItem T k cp (c + 2) lvb x
    let r2 := layItems T k cp (c + 2) r.2.2 xs
    (['-', ' '] ++ r.1, r.2.1 ++ r2.1, true)
/-- a mapping right after `- ` (at column `c`): first key inline (the key prefix resets `lvb`), all its keys at `c + 2` -/
def layMapItem (T : Toks) (k : Nat) (cp : Bool) (c : Nat) (lvb : Bool) : List (SVal × SVal) → List Char × List Line × Bool
  | [] => ("{}".toList, [], lvb)
  | (key, v) :: rest =>
    match keyOf key with
    | some kt =>
      if fitsImplicit (T.key kt) then
        let r := layVal T k cp true (c + 2) false v
        let r2 := layEntries T k cp (c + 2) r.2.2 rest
        (T.key kt ++ [':'] ++ r.1, r.2.1 ++ r2.1, true)
      else
        -- a first key too long for an implicit key: `- ? key`, then `: value` under the `?`
        let rv := layItem T k cp (c + 2) false v
        let r2 := layEntries T k cp (c + 2) rv.2.2 rest
        (['?', ' '] ++ T.key kt, ⟨c + 2, [':', ' '] ++ rv.1⟩ :: rv.2.1 ++ r2.1, true)
    | none =>
      -- a composite first key: `- ? key`, then `: value` under the `?`
      let rk := layItem T k cp (c + 2) false key
      let rv := layItem T k cp (c + 2) false v
      let r2 := layEntries T k cp (c + 2) rv.2.2 rest
      (['?', ' '] ++ rk.1, rk.2.1 ++ ⟨c + 2, [':', ' '] ++ rv.1⟩ :: rv.2.1 ++ r2.1, true)
/-- the items of a block sequence whose dashes are at column `c`, each starting its own line -/
def layItems (T : Toks) (k : Nat) (cp : Bool) (c : Nat) (lvb : Bool) : List SVal → List Line × Bool
  | [] => ([], lvb)
  | x :: xs =>
    let r := layItem T k cp c lvb x
    let r2 := layItems T k cp c r.2.2 xs
    (⟨c, ['-', ' '] ++ r.1⟩ :: r.2.1 ++ r2.1, r2.2)
/-- the entries of a block mapping whose keys are at column `c`, each starting its own line -/
def layEntries (T : Toks) (k : Nat) (cp : Bool) (c : Nat) (lvb : Bool) : List (SVal × SVal) → List Line × Bool
  | [] => ([], lvb)
  | (key, v) :: es =>
    match keyOf key with
    | some kt =>
      if fitsImplicit (T.key kt) then
        let r := layVal T k cp true c lvb v
        let r2 := layEntries T k cp c r.2.2 es
        (⟨c, T.key kt ++ [':'] ++ r.1⟩ :: r.2.1 ++ r2.1, r2.2)
      else
        -- a key too long for an implicit key: `? key` and `: value`, the value laid out like a sequence item
        let rv := layItem T k cp c false v
        let r2 := layEntries T k cp c rv.2.2 es
        (⟨c, ['?', ' '] ++ T.key kt⟩ :: ⟨c, [':', ' '] ++ rv.1⟩ :: rv.2.1 ++ r2.1, r2.2)
    | none =>
      -- a composite key: `? key` and `: value`, each laid out like a sequence item after its dash
      let rk := layItem T k cp c lvb key
      let rv := layItem T k cp c false v
      let r2 := layEntries T k cp c rv.2.2 es
      (⟨c, ['?', ' '] ++ rk.1⟩ :: rk.2.1 ++ ⟨c, [':', ' '] ++ rv.1⟩ :: rv.2.1 ++ r2.1, r2.2)
end

/-- the document of a root value (`k` = `indent_step`, `cp` = `compact_list_indent`) -/
def layRoot (T : Toks) (k : Nat) (cp : Bool) : SVal → List Line
  | .some v => layRoot T k cp v
  | .newtypeStruct v => layRoot T k cp v
  | .seq xs => if xs.isEmpty then [⟨0, "[]".toList⟩] else (layItems T k cp 0 false xs).1
  | .tuple xs => if xs.isEmpty then [⟨0, "[]".toList⟩] else (layItems T k cp 0 false xs).1
  | .tupleStruct xs => if xs.isEmpty then [⟨0, "[]".toList⟩] else (layItems T k cp 0 false xs).1
  | .map _ es => if es.isEmpty then [⟨0, "{}".toList⟩] else (layEntries T k cp 0 false es).1
  | .newtypeVariant n v => variantRoot (T.name n) (layVal T k cp false 0 false v) (layItem T k cp 0 false v)
  | .tupleVariant n xs =>
    variantRoot (T.name n) (seqValOf xs.isEmpty (layItems T k cp k false xs).1) (laySeqItem T k cp 0 false xs)
  | .structVariant n fs =>
    variantRoot (T.name n) (mapValOf k false fs.isEmpty (layEntries T k cp k false fs).1) (layMapItem T k cp 0 false fs)
  | .str s => ⟨0, (T.strAt k .root s).1⟩ :: (T.strAt k .root s).2
  | .unitVariant e n => ⟨0, (T.unitAt k .root e n).1⟩ :: (T.unitAt k .root e n).2
  | v => match leafTok T v with
    | some tok => [⟨0, tok⟩]
    | none => []

/-- the text `write_indent` puts before the first token of the document under `yaml_12` -/
def prologueText : List Char :=
  ['%', 'Y', 'A', 'M', 'L', ' ', '1', '.', '2', '\n', '-', '-', '-', '\n']

theorem prologueText_eq : "%YAML 1.2\n---\n".toList = prologueText := String.toList_ofList

/-! The characters of the literals the emitter and the layout write.  As rewrite rules they keep `simp` from
decoding the literal (its built-in `String.reduceToList` leaves a definitional equation behind that has to be
checked by evaluating the UTF-8 decoder). -/
@[simp] theorem toList_null : "null".toList = ['n', 'u', 'l', 'l'] := String.toList_ofList
@[simp] theorem toList_true : "true".toList = ['t', 'r', 'u', 'e'] := String.toList_ofList
@[simp] theorem toList_false : "false".toList = ['f', 'a', 'l', 's', 'e'] := String.toList_ofList
@[simp] theorem toList_emptySeq : "[]".toList = ['[', ']'] := String.toList_ofList
@[simp] theorem toList_emptyMap : "{}".toList = ['{', '}'] := String.toList_ofList
@[simp] theorem toList_spEmptySeq : " []".toList = [' ', '[', ']'] := String.toList_ofList
@[simp] theorem toList_spEmptyMap : " {}".toList = [' ', '{', '}'] := String.toList_ofList

def prologue (o : Opts) : List Char := if o.yaml12 then prologueText else []

def directiveLine : Line := ⟨0, ['%', 'Y', 'A', 'M', 'L', ' ', '1', '.', '2']⟩
def startLine : Line := ⟨0, ['-', '-', '-']⟩

def prologueLines (o : Opts) : List Line := if o.yaml12 then [directiveLine, startLine] else []

def renderLines : List Line → List Char
  | [] => []
  | l :: ls => spaces l.indent ++ l.text ++ ['\n'] ++ renderLines ls

end SaphyrVerif.Emit
