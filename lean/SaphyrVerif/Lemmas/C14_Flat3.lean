import SaphyrVerif.Lemmas.C14_Flat2
/-!
C14, records with one level of sharing: the invariant at the end of the simulation gives the same sharing
(the renaming is read off the final pointer table and store), and the round trip of a record either succeeds
with the same sharing or fails on a live weak field written before its owner (`roundtrip_flat`).
-/
namespace SaphyrVerif.Lemmas.C14
open SaphyrVerif.Anchors SaphyrVerif.Spec.Anchors

mutual
theorem relV_plainOf (H : Heap) (ρ : Ptr → Option Ptr) : ∀ (v : Val), plainV v = true → RelV H ρ v (plainOf v)
  | .leaf k, _ => by simp [RelV, plainOf]
  | .node m items, hp => by
    simp only [plainV] at hp
    simp only [RelV, plainOf]
    exact ⟨_, rfl, relVList_plainOf H ρ items hp⟩
  | .strong k t p, hp => by simp [plainV] at hp
  | .weak k t p, hp => by simp [plainV] at hp
theorem relVList_plainOf (H : Heap) (ρ : Ptr → Option Ptr) :
    ∀ (vs : List Val), plainVList vs = true → RelVList H ρ vs (plainOfList vs)
  | [], _ => by simp [RelVList, plainOfList]
  | x :: xs, hp => by
    simp only [plainVList, Bool.and_eq_true] at hp
    simp only [RelVList, plainOfList]
    exact ⟨_, _, rfl, relV_plainOf H ρ x hp.1, relVList_plainOf H ρ xs hp.2⟩
end

/-- the renaming read off the final pointer table and store -/
def ptrMap (kindOf : Ptr → Kind × Nat) (S : SerSt) (D : DeSt) (p : Ptr) : Option Ptr :=
  (S.anchors.lookup p).bind fun id => (D.store.lookup ((kindOf p).1, id)).map (·.1)

theorem ptrMap_of (kindOf : Ptr → Kind × Nat) (S : SerSt) (D : DeSt) (p : Ptr) (k : Kind) (tid id : Nat) (q : Ptr)
    (hk : kindOf p = (k, tid)) (h1 : S.anchors.lookup p = some id) (h2 : D.store.lookup (k, id) = some (q, tid)) :
    ptrMap kindOf S D p = some q := by
  simp [ptrMap, h1, hk, h2]

theorem fields_relV (H : Heap) (kindOf : Ptr → Kind × Nat) (S : SerSt) (D : DeSt) :
    ∀ (items : List Val) (vs : List RVal), (∀ it ∈ items, FlatItem H kindOf it) → FieldsRel H S D items vs →
      RelVList H (ptrMap kindOf S D) items vs
  | [], [], _, _ => by simp [RelVList]
  | [], _ :: _, _, h => by simp [FieldsRel] at h
  | _ :: _, [], _, h => by simp [FieldsRel] at h
  | it :: its, v :: vs, hflat, h => by
    simp only [FieldsRel] at h
    simp only [RelVList]
    refine ⟨v, vs, rfl, ?_, fields_relV H kindOf S D its vs (fun x hx => hflat x (List.mem_cons_of_mem _ hx)) h.2⟩
    have hit := hflat it (List.mem_cons_self ..)
    cases it with
    | leaf lk =>
      have : v = .leaf lk := h.1
      simp [RelV, this]
    | node m items =>
      have hv : v = plainOf (.node m items) := h.1
      rw [hv]
      exact relV_plainOf H _ _ (by simp only [plainV]; exact hit)
    | strong k tid p =>
      obtain ⟨id, q, h1, h2, h3⟩ := h.1
      exact ⟨q, ptrMap_of kindOf S D p k tid id q hit.1 h1 h2, h3⟩
    | weak k tid p =>
      rcases h.1 with ⟨hn, hv⟩ | ⟨hl, id, q, h1, h2, h3⟩
      · simp only [RelV, hn, if_true]
        exact hv
      · simp only [RelV, hl, if_false]
        exact ⟨q, ptrMap_of kindOf S D p k tid id q hit.1 h1 h2, h3⟩

theorem same_sharing_of_inv (H : Heap) (kindOf : Ptr → Kind × Nat) (S : SerSt) (D : DeSt) (inv : Inv H kindOf S D)
    (m : Bool) (items : List Val) (vs : List RVal) (hflat : ∀ it ∈ items, FlatItem H kindOf it)
    (hrel : FieldsRel H S D items vs) : SameSharing H (.node m items) D (.node m vs) := by
  refine ⟨ptrMap kindOf S D, ?_, ?_, ?_⟩
  · simp only [RelV]
    exact ⟨vs, rfl, fields_relV H kindOf S D items vs hflat hrel⟩
  · intro p1 p2 q h1 h2
    simp only [ptrMap, Option.bind_eq_some_iff, Option.map_eq_some_iff] at h1 h2
    obtain ⟨id1, a1, v1, b1, c1⟩ := h1
    obtain ⟨id2, a2, v2, b2, c2⟩ := h2
    have hk := inv.qinj _ _ v1 v2 b1 b2 (by rw [c1, c2])
    have hid : id1 = id2 := by
      have := congrArg Prod.snd hk
      exact this
    subst hid
    exact inv.tinj p1 p2 id1 a1 a2
  · intro p q h
    simp only [ptrMap, Option.bind_eq_some_iff, Option.map_eq_some_iff] at h
    obtain ⟨id, a, v, b, c⟩ := h
    obtain ⟨q0, payload, d1, _, d3, d4, d5, _⟩ := inv.stored p id a
    rw [d4] at b
    simp only [Option.some.injEq] at b
    subst b
    simp only at c
    subst c
    exact ⟨payload, plainOf payload, d1, d5, relV_plainOf H _ payload d3⟩

theorem roundtrip_ok {fuel : Nat} {H : Heap} {v : Val} {rv : RVal} {s : DeSt} :
    roundtrip fuel H v = .ok rv s ↔
      ∃ o S ty e, serialize fuel H v = .ok (o, S) ∧ tyOf fuel H v = some ty ∧
        deserialize ty o = .ok (rv, e, s) := by
  unfold roundtrip
  constructor
  · intro h
    split at h
    · cases h
    · rename_i o S hser
      split at h
      · cases h
      · rename_i ty hty
        split at h
        · cases h
        · rename_i rv' e s' hde
          cases h
          exact ⟨o, S, ty, e, hser, hty, hde⟩
  · rintro ⟨o, S, ty, e, hser, hty, hde⟩
    simp only [hser, hty, hde]

/-- a record with one level of sharing that serializes and has a type: the round trip succeeds and the rebuilt
record has the same sharing — or a live weak field comes before every strong field of its pointer, and reading
the document back is an error -/
theorem roundtrip_flat (H : Heap) (kindOf : Ptr → Kind × Nat) (fuel : Nat) (m : Bool) (items : List Val)
    (hflat : ∀ it ∈ items, FlatItem H kindOf it)
    (o : Out) (S' : SerSt) (hser : serialize fuel H (.node m items) = .ok (o, S'))
    (ty : Ty) (hty : tyOf fuel H (.node m items) = some ty) :
    (∃ rv s, roundtrip fuel H (.node m items) = .ok rv s ∧ SameSharing H (.node m items) s rv) ∨
    (weaksAfterStrong H [] items = false ∧ ∀ rv s, roundtrip fuel H (.node m items) ≠ .ok rv s) := by
  cases fuel with
  | zero => cases hser
  | succ fuel =>
    obtain ⟨outs, hl, rfl⟩ := (serVal_ser H _ _ _ _ _ hser).node_inv
    have hty' := hty
    simp only [tyOf, Option.map_eq_some_iff] at hty'
    obtain ⟨tys, hty1, rfl⟩ := hty'
    rcases flat_list H kindOf fuel items hflat {} {} (inv_init H kindOf) _ _ hl tys hty1 with
      ⟨vs, es, D', hd, inv', _, rel'⟩ | ⟨hno, hfail⟩
    · exact Or.inl ⟨.node m vs, D',
        roundtrip_ok.mpr ⟨_, _, _, _, hser, hty, (deCore_node_ok rfl).mpr ⟨vs, es, hd, rfl, rfl⟩⟩,
        same_sharing_of_inv H kindOf S' D' inv' m items vs hflat rel'⟩
    · refine Or.inr ⟨hno [] nofun, fun rv s h => ?_⟩
      obtain ⟨_, _, _, _, hser', hty', hde⟩ := roundtrip_ok.mp h
      cases hser.symm.trans hser'
      cases hty.symm.trans hty'
      obtain ⟨_, _, hd, _, _⟩ := (deCore_node_ok rfl).mp hde
      exact hfail _ hd

end SaphyrVerif.Lemmas.C14
