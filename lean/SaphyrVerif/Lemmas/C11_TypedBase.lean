import SaphyrVerif.Lemmas.C05_Weak
import SaphyrVerif.Lemmas.CurSim
/-!
Typed multi-document theorems (C11): the *frame* relation `FSim K`, how `peek` / `next` step it, and the relation `RF` between
results.  The comparison itself is not here: it is `frA` (`Lemmas/C11_TypedMain.lean`), the instance `GSim.frame K` of the
guarded simulation (`Lemmas/GSim.lean`).

A replay cursor over the events `buf` of ONE document (a tree flattening) is compared with an arbitrary
cursor `c'` (in the application: the live cursor in the middle of a multi-document stream) that serves the
events of `buf` — and then whatever follows: nothing is assumed about `c'` once `buf` is exhausted.
As long as the typed deserializer, run on the replay cursor, only touches its cursor at positions strictly
inside `buf`, it cannot tell the two cursors apart (up to locations in error payloads, exactly as in
`Lemmas/CurSim.lean`).  That it stays inside is the nesting-depth invariant of `Lemmas/C05_Weak*.lean`
(`Stays`: a call never moves its cursor more than a fixed number of levels below the nesting depth it started at — none
for a call that reads a node), used as a black box on the replay side; the walk transports it by `GSim.At.weak`,
`FSim.weak` / `weak_eq` state the same of the frame.
-/
namespace SaphyrVerif.Lemmas.Frame
open SaphyrVerif SaphyrVerif.Scalars SaphyrVerif.Pump SaphyrVerif.De
open SaphyrVerif.Lemmas.C05 (bal Floor depthAt Stays Ev.delta)

/-- the frame: the events of one document, the reference location of the replay cursor over them, and
the invariant that describes the other cursor (`Inv d l` = "`d` serves `l`, then something") -/
structure Ctx where
  buf : List Ev
  ref : Option Loc
  Inv : Cur → List Ev → Prop

/-- `buf` is balanced, never dips below its start, is strictly deeper inside (= it is the flattening of one
node), and `Inv` is closed under `peek` / `next` while events of `buf` remain -/
structure Ctx.Ok (K : Ctx) : Prop where
  bal0 : bal K.buf = 0
  floor : Floor 0 K.buf
  inner : ∀ q, 0 < q → q < K.buf.length → 1 ≤ depthAt K.buf q
  step : ∀ d e l, K.Inv d (e :: l) →
    (∃ d1, d.peek = .ok (some e) d1 ∧ K.Inv d1 (e :: l)) ∧ (∃ d2, d.next = .ok (some e) d2 ∧ K.Inv d2 l)

def pos : Cur → Nat
  | .replay _ i _ => i
  | .live .. => 0

def dep (K : Ctx) (c : Cur) : Int := depthAt K.buf (pos c)

def FSim (K : Ctx) (c c' : Cur) : Prop :=
  K.Ok ∧ c = .replay K.buf (pos c) K.ref ∧ pos c ≤ K.buf.length ∧ K.Inv c' (K.buf.drop (pos c))

variable {K : Ctx} {c c' d d' : Cur}

theorem FSim.ok (h : FSim K c c') : K.Ok := h.1
theorem FSim.eq (h : FSim K c c') : c = .replay K.buf (pos c) K.ref := h.2.1
theorem FSim.le (h : FSim K c c') : pos c ≤ K.buf.length := h.2.2.1
theorem FSim.inv (h : FSim K c c') : K.Inv c' (K.buf.drop (pos c)) := h.2.2.2

theorem FSim.mk' (hK : K.Ok) {i : Nat} (hi : i ≤ K.buf.length) (hI : K.Inv c' (K.buf.drop i)) :
    FSim K (.replay K.buf i K.ref) c' := ⟨hK, rfl, hi, hI⟩

theorem depthAt_of_length_le {buf : List Ev} {q : Nat} (h : buf.length ≤ q) : depthAt buf q = bal buf := by
  unfold depthAt
  rw [List.take_of_length_le h]

theorem FSim.inside (h : FSim K c c') (hd : 1 ≤ dep K c) : pos c < K.buf.length := by
  rcases Nat.lt_or_ge (pos c) K.buf.length with h1 | h1
  · exact h1
  · have : dep K c = 0 := by
      unfold dep
      rw [depthAt_of_length_le h1, h.ok.bal0]
    omega

theorem FSim.dep_pos (h : FSim K c c') (h0 : 0 < pos c) (h1 : pos c < K.buf.length) : 1 ≤ dep K c :=
  h.ok.inner _ h0 h1

theorem FSim.peek (h : FSim K c c') (hin : pos c < K.buf.length) :
    ∃ e d', K.buf[pos c]? = some e ∧ c.peek = .ok (some e) c ∧ c'.peek = .ok (some e) d' ∧ FSim K c d' := by
  obtain ⟨hK, heq, hle, hI⟩ := h
  have hd : K.buf.drop (pos c) = K.buf[pos c] :: K.buf.drop (pos c + 1) := List.drop_eq_getElem_cons hin
  rw [hd] at hI
  obtain ⟨⟨d1, hp, hI1⟩, -⟩ := hK.step _ _ _ hI
  refine ⟨K.buf[pos c], d1, List.getElem?_eq_getElem hin, ?_, hp, hK, heq, hle, by rw [hd]; exact hI1⟩
  conv => lhs; rw [heq]
  simp only [Cur.peek, List.getElem?_eq_getElem hin]
  rw [← heq]

theorem FSim.next (h : FSim K c c') (hin : pos c < K.buf.length) :
    ∃ e d d', K.buf[pos c]? = some e ∧ c.next = .ok (some e) d ∧ c'.next = .ok (some e) d' ∧ FSim K d d' ∧
      pos d = pos c + 1 ∧ dep K d = dep K c + Ev.delta e := by
  obtain ⟨hK, heq, hle, hI⟩ := h
  have hd : K.buf.drop (pos c) = K.buf[pos c] :: K.buf.drop (pos c + 1) := List.drop_eq_getElem_cons hin
  rw [hd] at hI
  obtain ⟨-, ⟨d2, hn, hI2⟩⟩ := hK.step _ _ _ hI
  have hg : K.buf[pos c]? = some K.buf[pos c] := List.getElem?_eq_getElem hin
  refine ⟨K.buf[pos c], .replay K.buf (pos c + 1) K.ref, d2, hg, ?_, hn, ⟨hK, rfl, (by show pos c + 1 ≤ K.buf.length; omega), hI2⟩,
    rfl, ?_⟩
  · conv => lhs; rw [heq]
    simp only [Cur.next, hg]
  · show depthAt K.buf (pos c + 1) = depthAt K.buf (pos c) + Ev.delta K.buf[pos c]
    exact Lemmas.C05.depthAt_succ' hg

/-- the depth facts of `Lemmas/C05_Weak*` transported to the frame: a call that `Stays` within `k` levels
of its start -/
theorem FSim.weak {k : Int} (h : FSim K c c') (hw : ∀ i, c = .replay K.buf i K.ref → Stays K.buf K.ref i k d) :
    pos c ≤ pos d ∧ dep K c - k ≤ dep K d := by
  obtain ⟨j, hd, hij, ha⟩ := hw (pos c) h.eq
  subst hd
  exact ⟨hij, ha.right hij⟩

/-- the same for the calls that leave the cursor where it is -/
theorem FSim.weak_eq (h : FSim K c c') (hw : ∀ i, c = .replay K.buf i K.ref → d = .replay K.buf i K.ref) :
    pos c ≤ pos d ∧ dep K c - 0 ≤ dep K d := by
  have := hw (pos c) h.eq
  subst this
  simp [dep, pos]

/-- two errors are not compared: their payloads hold locations, which differ between the cursors -/
inductive RF (K : Ctx) {α β : Type} (rel : α → β → Prop) : R α → R β → Prop
  | ok {a : α} {b : β} {c c' : Cur} : rel a b → FSim K c c' → RF K rel (.ok a c) (.ok b c')
  | err {e e' : DErr} {c c' : Cur} : FSim K c c' → RF K rel (.err e c) (.err e' c')

theorem RF.fwd_ok {α β : Type} {rel : α → β → Prop} {x : R α} {x' : R β} {a : α} {c : Cur}
    (heq : x = .ok a c) (h : RF K rel x x') : ∃ a' c', x' = .ok a' c' ∧ rel a a' ∧ FSim K c c' := by
  cases h with
  | ok hr hs => cases heq; exact ⟨_, _, rfl, hr, hs⟩
  | err => cases heq

theorem RF.fwd_err {α β : Type} {rel : α → β → Prop} {x : R α} {x' : R β} {e : DErr} {c : Cur}
    (heq : x = .err e c) (h : RF K rel x x') : ∃ e' c', x' = .err e' c' ∧ FSim K c c' := by
  cases h with
  | ok hr hs => cases heq
  | err hs => cases heq; exact ⟨_, _, rfl, hs⟩

theorem RF.mono {α β : Type} {rel rel' : α → β → Prop} {x : R α} {x' : R β} (h : RF K rel x x')
    (hr : ∀ a b, rel a b → rel' a b) : RF K rel' x x' := by
  cases h with
  | ok h1 hs => exact RF.ok (hr _ _ h1) hs
  | err hs => exact RF.err hs

end SaphyrVerif.Lemmas.Frame
