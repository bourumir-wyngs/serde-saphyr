import SaphyrVerif.Lemmas.PumpEqns
/-!
C08: one call of `next_impl` that delivers an event is a sequence of non-delivering "skip" steps (markers, document
boundaries, an alias whose buffer is empty, the initial clearing of an exhausted replay stack) followed by exactly one
delivering step.  The decomposition is read off the list of what a call can do (`Pump.Loop`, `Lemmas/PumpStep.lean`);
the counting theorems are case analyses on it.
-/
namespace SaphyrVerif.Lemmas.C08
open SaphyrVerif.Scalars SaphyrVerif.Pump SaphyrVerif.Budget
open SaphyrVerif.Lemmas.E2EBudget (obsItem)

/-- budget update of the parser loop on one raw item -/
def obs (b : Option Enf) (raw : Raw) : Except Breach (Option Enf) :=
  match b with
  | none => .ok none
  | some enf =>
    match raw with
    | .alias _ => enf.observeAliasReplayed.map some
    | _ => (enf.observe raw).map some

/-- budget part of a replayed delivery -/
def ReplayBud (b : Option Enf) (e : Ev) (b' : Option Enf) : Prop :=
  match b with
  | none => b' = none
  | some enf => ∃ enf', enf.observe (replayRaw e) = .ok enf' ∧ b' = some enf'

inductive Skip1 : Pump → Pump → Prop
  | clear (p : Pump) : Skip1 p { p with inject := [] }
  | docStart (p : Pump) (x : Bool) (loc : Loc) (bud : Option Enf) (hb : obs p.budget (.docStart x) = .ok bud) :
      Skip1 p { ({ p with budget := bud } : Pump).resetDocumentState with lastLoc := loc }
  | docEnd (p : Pump) (loc : Loc) (bud : Option Enf) (hb : obs p.budget .docEnd = .ok bud) :
      Skip1 p { ({ p with budget := bud } : Pump).resetDocumentState with seenDocEnd := true, lastLoc := loc }
  | marker (p : Pump) (raw : Raw) (loc : Loc) (bud : Option Enf)
      (hraw : raw = .streamStart ∨ raw = .streamEnd ∨ raw = .nothing) (hb : obs p.budget raw = .ok bud) :
      Skip1 p { p with budget := bud, lastLoc := loc }
  | alias (p : Pump) (id : Nat) (bud : Option Enf) (hb : obs p.budget (.alias id) = .ok bud)
      (hc : newCount p id ≤ p.limits.maxAliasExpansionsPerAnchor) :
      Skip1 p { p with budget := bud, perAnchor := (id, newCount p id) :: p.perAnchor, inject := [] }

inductive Skips : Pump → Pump → Prop
  | refl (p : Pump) : Skips p p
  | step {p q r : Pump} : Skip1 p q → Skips q r → Skips p r

/-- the delivering step (other than the synthesized null of an empty stream) -/
inductive Deliver : Pump → Ev → Pump → Prop
  | scalar (q : Pump) (val : List Char) (style : Style) (anchor : Nat) (tag : Option (List Char)) (loc : Loc)
      (bud : Option Enf) (hb : obs q.budget (.scalar val style anchor tag) = .ok bud) :
      Deliver q (.scalar val (tagCode tag) tag style anchor loc)
        { q with budget := bud
                 recStack := recordAll q.recStack (.scalar val (tagCode tag) tag style anchor loc)
                 anchors := if anchor != 0 then
                     setAnchor q.anchors anchor [.scalar val (tagCode tag) tag style anchor loc] else q.anchors
                 lastLoc := loc, producedAny := true }
  | seqStart (q : Pump) (anchor : Nat) (tag : Option (List Char)) (loc : Loc)
      (bud : Option Enf) (hb : obs q.budget (.seqStart anchor tag) = .ok bud) :
      Deliver q (.seqStart anchor (tagCode tag) tag loc)
        { q with budget := bud, recStack := startFrames q.recStack anchor (.seqStart anchor (tagCode tag) tag loc)
                 lastLoc := loc, producedAny := true }
  | mapStart (q : Pump) (anchor : Nat) (tag : Option (List Char)) (loc : Loc)
      (bud : Option Enf) (hb : obs q.budget (.mapStart anchor tag) = .ok bud) :
      Deliver q (.mapStart anchor loc)
        { q with budget := bud, recStack := startFrames q.recStack anchor (.mapStart anchor loc)
                 lastLoc := loc, producedAny := true }
  | seqEnd (q : Pump) (loc : Loc) (bud : Option Enf) (as : List (Nat × List Ev)) (fs : List RecFrame)
      (hb : obs q.budget .seqEnd = .ok bud)
      (hd : bumpDepthOnEnd q.anchors (recordAll q.recStack (.seqEnd loc)) = some (as, fs)) :
      Deliver q (.seqEnd loc) { q with budget := bud, anchors := as, recStack := fs, lastLoc := loc, producedAny := true }
  | mapEnd (q : Pump) (loc : Loc) (bud : Option Enf) (as : List (Nat × List Ev)) (fs : List RecFrame)
      (hb : obs q.budget .mapEnd = .ok bud)
      (hd : bumpDepthOnEnd q.anchors (recordAll q.recStack (.mapEnd loc)) = some (as, fs)) :
      Deliver q (.mapEnd loc) { q with budget := bud, anchors := as, recStack := fs, lastLoc := loc, producedAny := true }
  | placeholder (q : Pump) (id : Nat) (loc : Loc) (bud : Option Enf) (hb : obs q.budget (.alias id) = .ok bud)
      (hc : newCount q id ≤ q.limits.maxAliasExpansionsPerAnchor)
      (hrec : q.recursiveInProgress.contains id = true) :
      Deliver q (.scalar [] 4 none .plain id loc)
        { q with budget := bud.map Enf.aliasOccupiesPosition, perAnchor := (id, newCount q id) :: q.perAnchor
                 recStack := recordAll q.recStack (.scalar [] 4 none .plain id loc), lastLoc := loc, producedAny := true }
  | replay (q : Pump) (id : Nat) (bud bud' : Option Enf) (inj : List InjectFrame) (ev : Ev)
      (hb : obs q.budget (.alias id) = .ok bud)
      (hc : newCount q id ≤ q.limits.maxAliasExpansionsPerAnchor)
      (htot : q.totalReplayed + 1 ≤ q.limits.maxTotalReplayedEvents) (hrb : ReplayBud bud ev bud') :
      Deliver q ev
        { q with budget := bud', perAnchor := (id, newCount q id) :: q.perAnchor, inject := inj
                 totalReplayed := q.totalReplayed + 1, recStack := recordAll q.recStack ev, lastLoc := ev.loc
                 producedAny := true }
  | replay0 (q : Pump) (bud' : Option Enf) (inj : List InjectFrame) (ev : Ev)
      (htot : q.totalReplayed + 1 ≤ q.limits.maxTotalReplayedEvents) (hrb : ReplayBud q.budget ev bud') :
      Deliver q ev
        { q with budget := bud', inject := inj, totalReplayed := q.totalReplayed + 1
                 recStack := recordAll q.recStack ev, lastLoc := ev.loc, producedAny := true }

/-- the synthesized null of an empty stream: delivered without any observation -/
def IsNull (q : Pump) (e : Ev) (p' : Pump) (rest : List RawItem) : Prop :=
  q.producedAny = false ∧ rest = [] ∧ e = .scalar [] 4 none .plain 0 q.lastLoc ∧
    p' = { q with producedAny := true, synthesizedNull := true }

theorem Skips.one {p q : Pump} (h : Skip1 p q) : Skips p q := .step h (.refl q)

theorem obs_eq (b : Option Enf) (raw : Raw) : obs b raw = budgetStep b (obsItem raw) := budgetStep_item b raw

theorem replayBud_of {b bud : Option Enf} {e : Ev} (h : budgetStep b (.raw (replayRaw e)) = .ok bud) : ReplayBud b e bud := by
  cases b with
  | none => cases h; rfl
  | some enf =>
    obtain ⟨enf', ho, rfl⟩ := ok_of_map_some h
    exact ⟨enf', ho, rfl⟩

/-- an item that delivers is a `Deliver` step, an item that is passed over a `Skip1` step -/
theorem loop_event {p : Pump} {inp : List RawItem} {s : Step} {p' : Pump} {rest : List RawItem}
    (h : Loop p inp s p' rest) (e : Ev) (hs : s = .event e) :
    ∃ q, Skips p q ∧ (IsNull q e p' rest ∨ Deliver q e p') := by
  induction h with
  | null p h => cases hs; exact ⟨p, .refl p, .inl ⟨h, rfl, rfl, rfl⟩⟩
  | eof | scan | breach => cases hs
  | @ret p raw loc rest bud s p' hb hi =>
    subst hs
    rw [← obs_eq] at hb
    refine ⟨p, .refl p, .inr ?_⟩
    cases hi with
    | scalar val style anchor tag h => exact Deliver.scalar p val style anchor tag loc bud hb
    | seqStart anchor tag => exact Deliver.seqStart p anchor tag loc bud hb
    | mapStart anchor tag => exact Deliver.mapStart p anchor tag loc bud hb
    | seqEnd as fs h => exact Deliver.seqEnd p loc bud as fs hb h
    | mapEnd as fs h => exact Deliver.mapEnd p loc bud as fs hb h
    | placeholder id hc hd ho hr => exact Deliver.placeholder p id loc bud hb hc hr
    | replay id buf hc hd ho hl hs =>
      cases hs with
      | event dead fr rest buf' bud' e hd' hl' hi hm hb' =>
        exact Deliver.replay p id bud bud' _ _ hb hc hm (replayBud_of hb')
  | stop rest hb hi => revert hs; unfold stopTail; split <;> intro hs <;> cases hs
  | @pass p raw loc rest bud p1 s p' rest' hb hi _ ih =>
    obtain ⟨q, hsk, hfin⟩ := ih hs
    refine ⟨q, .step ?_ hsk, hfin⟩
    rw [← obs_eq] at hb
    cases hi with
    | spentAlias id buf hc hd ho hl hs => exact Skip1.alias p id bud hb hc
    | docStart x => exact Skip1.docStart p x loc bud hb
    | docEnd h => exact Skip1.docEnd p loc bud hb
    | streamStart => exact Skip1.marker p .streamStart loc bud (.inl rfl) hb
    | streamEnd => exact Skip1.marker p .streamEnd loc bud (.inr (.inl rfl)) hb
    -- `.nothing` does not move `last_location`: with `loc := p.lastLoc` the state of `Skip1.marker` is
    -- `{ p with budget := bud }` by eta
    | nothing => exact Skip1.marker p .nothing p.lastLoc bud (.inr (.inr rfl)) hb

theorem Skip1.inject_nil {p q : Pump} (h : Skip1 p q) (hp : p.inject = []) : q.inject = [] := by
  cases h <;> simp [Pump.resetDocumentState, hp]

theorem Skips.inject_nil {p q : Pump} (h : Skips p q) (hp : p.inject = []) : q.inject = [] := by
  induction h with
  | refl => exact hp
  | step h1 _ ih => exact ih (h1.inject_nil hp)

/-- a synthesized null is only delivered with an empty replay stack, and ends the input -/
theorem nextImpl_event (p : Pump) (inp : List RawItem) (e : Ev) (p' : Pump) (rest : List RawItem)
    (h : nextImpl p inp = (.event e, p', rest)) :
    ∃ q, Skips p q ∧ ((IsNull q e p' rest ∧ q.inject = []) ∨ Deliver q e p') := by
  cases call_of h with
  | served hs =>
    cases hs with
    | event dead fr rest buf bud e hd hl hi hm hb =>
      exact ⟨p, .refl p, .inr (Deliver.replay0 p bud _ _ hm (replayBud_of hb))⟩
  | loop _ hl =>
    obtain ⟨q, hsk, hfin⟩ := loop_event hl e rfl
    exact ⟨q, .step (Skip1.clear p) hsk, hfin.imp_left fun hn => ⟨hn, hsk.inject_nil rfl⟩⟩

end SaphyrVerif.Lemmas.C08
