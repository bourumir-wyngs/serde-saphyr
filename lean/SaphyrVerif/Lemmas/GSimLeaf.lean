import SaphyrVerif.Lemmas.GSimTac
import SaphyrVerif.Lemmas.DeEqns
/-!
Guarded simulation (`GSim`, `RG`): the loop for leaf functions and the simulation lemmas for the non-recursive leaves of
the typed deserializer (`deserScalarTyped`, `takeStringScalar`, `deserString`, `deserStr`, `deserAnyScalar`,
`byteSeqVisit`, `structFinish`).
-/
namespace SaphyrVerif.Lemmas
open SaphyrVerif SaphyrVerif.Scalars SaphyrVerif.Pump SaphyrVerif.De

variable {X : GSim} {k : Int} {c c' : Cur}

theorem takeStringScalar_g (cfg : Cfg) (hs : X.At k c c') (hin : X.In c) :
    RG X Eq (takeStringScalar cfg c) (takeStringScalar cfg c') := by
  unfold takeStringScalar
  repeat' (first | g_leaf | g_step | simp only [*] | split)

/-- carry the outcome of the call of `takeStringScalar` that `split` has just named to the other side -/
macro "gleaf_fwd" : tactic =>
  `(tactic| first
    | gfwdk_eq ‹takeStringScalar _ _ = R.ok _ _›, (takeStringScalar_g _ ‹GSim.At _ _ _ _› (by g_inside ‹GSim.At _ _ _ _›))
    | gfwde ‹takeStringScalar _ _ = R.err _ _›, (takeStringScalar_g _ ‹GSim.At _ _ _ _› (by g_inside ‹GSim.At _ _ _ _›)))

/-- The loop for leaf functions.  Order: close a finished goal; take a conditional shared by both sides branch by branch
(before the cursor is stepped, so that only the arm taken is looked at); step a cursor operation; simplify; split a `match`
and carry the outcome of the call it inspects to the other side. -/
macro "gleaf_loop" : tactic =>
  `(tactic| repeat' (first | g_leaf | both_ite | g_step | simp only [*, ↓reduceIte, Bool.false_eq_true] | (split <;> try gleaf_fwd)))

theorem scalarTake_g (cfg : Cfg) (ty : Ty) (hs : X.At k c c') (hin : X.In c) :
    RG X Eq (scalarTake cfg ty c) (scalarTake cfg ty c') := by
  unfold scalarTake
  gleaf_loop

theorem deserScalarTyped_g (cfg : Cfg) (ty : Ty) (hs : X.At k c c') (hin : X.In c) :
    RG X Eq (deserScalarTyped cfg ty c) (deserScalarTyped cfg ty c') := by
  by_cases hty : ty = .char
  · -- `deserialize_char` peeks and then takes the event from the SAME cursor
    subst hty
    rw [deserScalarTyped_char, deserScalarTyped_char]
    gleaf_loop
    all_goals exact scalarTake_g cfg _ hs hin
  · rw [deserScalarTyped_of_ne_char cfg hty, deserScalarTyped_of_ne_char cfg hty]
    exact scalarTake_g cfg _ hs hin

theorem strScalar_g (cfg : Cfg) (v : List Char) (tag : Nat) (st : Style) (l : Loc) (hs : X.At k c c')
    (hin : X.In c) : RG X Eq (strScalar cfg c v tag st l) (strScalar cfg c' v tag st l) := by
  unfold strScalar
  gleaf_loop

theorem deserString_g (cfg : Cfg) (hs : X.At k c c') (hin : X.In c) :
    RG X Eq (deserString cfg c) (deserString cfg c') := by
  rw [deserString_eq, deserString_eq]
  gleaf_loop
  all_goals exact strScalar_g cfg _ _ _ _ (by assumption) (by assumption)

macro "gleaf_fwd2" : tactic =>
  `(tactic| first
    | gfwdk_eq ‹deserString _ _ = R.ok _ _›, (deserString_g _ ‹GSim.At _ _ _ _› (by g_inside ‹GSim.At _ _ _ _›))
    | gfwde ‹deserString _ _ = R.err _ _›, (deserString_g _ ‹GSim.At _ _ _ _› (by g_inside ‹GSim.At _ _ _ _›)))

theorem deserStr_g (cfg : Cfg) (hs : X.At k c c') (hin : X.In c) :
    RG X Eq (deserStr cfg c) (deserStr cfg c') := by
  unfold deserStr
  repeat' (first | g_leaf | g_step | simp only [*] | (split <;> try gleaf_fwd2))

theorem anyPlain_g (cfg : Cfg) (v : List Char) (hs : X.At k c c') :
    RG X Eq (anyPlain cfg v c) (anyPlain cfg v c') := by
  unfold anyPlain
  gleaf_loop

theorem deserAnyScalar_g (cfg : Cfg) (v : List Char) (tag : Nat) (st : Style) (l : Loc) (hs : X.At k c c')
    (hin : X.In c) : RG X Eq (deserAnyScalar cfg c v tag st l) (deserAnyScalar cfg c' v tag st l) := by
  rw [deserAnyScalar_eq, deserAnyScalar_eq]
  gleaf_loop
  all_goals exact anyPlain_g cfg v (by assumption)

theorem byteSeqVisit_g (shape : Ty ⊕ List Ty) (data : List Nat) (hs : X.At k c c') :
    RG X Eq (byteSeqVisit shape data c) (byteSeqVisit shape data c') := by
  unfold byteSeqVisit
  gleaf_loop

theorem structFinish_g (fields : List (String × Ty)) (got : List (String × Val)) (hs : X.At k c c') :
    RG X Eq (structFinish fields got c) (structFinish fields got c') := by
  unfold structFinish
  gleaf_loop

end SaphyrVerif.Lemmas
