import SaphyrVerif.Lemmas.C11_Typed2Doc
import SaphyrVerif.Lemmas.C11_Term
/-!
Typed multi-document theorems (C11): what the batch loop `multiLoop` does with one document (a pump without
enforcer: the frame of the document is `C11B.docCtxB L none`).
-/
namespace SaphyrVerif.Lemmas.C11T
open SaphyrVerif SaphyrVerif.Scalars SaphyrVerif.Pump SaphyrVerif.De SaphyrVerif.Spec SaphyrVerif.Entry
open SaphyrVerif.Lemmas.C11 (Boundary)
open SaphyrVerif.Lemmas.Frame (Ctx FSim pos dep)
open SaphyrVerif.Lemmas.C11B (boundaryB_none doc_startB doc_endB docCtxB docServe_none)
open SaphyrVerif.Props.C11 (valuesOf)

theorem multiLoop_congr (cfg : Cfg) (ty : Ty) {c c' : Cur} (h : c.peek = c'.peek) (fuel : Nat) (acc : List Val) :
    multiLoop cfg ty fuel c acc = multiLoop cfg ty fuel c' acc := by
  cases fuel with
  | zero => rfl
  | succ n => simp only [multiLoop, h]

/-- strictly inside a document (after a deserialization that stopped early) the batch loop can only fail: every
round either fails, or leaves the cursor strictly inside again, until the container end of the root is met -/
theorem multi_inside {K : Ctx} (cfg : Cfg) (ty : Ty) : ∀ (m : Nat) (c d : Cur) (acc : List Val),
    FSim K c d → 1 ≤ dep K c → ∃ e, multiLoop cfg ty m d acc = .error e := by
  intro m
  induction m with
  | zero => intro c d acc _ _; exact ⟨_, rfl⟩
  | succ m ih =>
    intro c d acc hs hd
    have hin := hs.inside hd
    obtain ⟨e, d1, hb, hp, hp', hs1⟩ := hs.peek hin
    by_cases hopen : Lemmas.C05.Ev.isOpen e = true
    · rw [multiLoop_open cfg ty hp' hopen]
      by_cases hnull : evIsNull e = true
      · -- a null-like scalar is skipped: the cursor stays as deep as it was
        rw [if_pos hnull]
        obtain ⟨s, tg, rt, st, a, l, rfl⟩ := evIsNull_scalar hnull
        obtain ⟨e2, c2, d2, hb2, hn2, hn2', hs2, hpos2, hdep2⟩ := hs1.next hin
        obtain rfl : .scalar s tg rt st a l = e2 := Option.some.inj (hb.symm.trans hb2)
        rw [hn2']
        simp only [Lemmas.C05.Ev.delta, Int.add_zero] at hdep2
        exact ih c2 d2 acc hs2 (by omega)
      · rw [if_neg hnull]
        have hr := (Lemmas.Frame.frA K (fuelFor 100000)).deser cfg ty false false hs1 hin
        cases hL : deser (fuelFor 100000) cfg ty false false c with
        | err e1 c1 =>
          obtain ⟨e', d3, hR, -⟩ := hr.fwd_err hL
          rw [hR]
          exact ⟨_, rfl⟩
        | ok v c1 =>
          obtain ⟨v', d3, hR, rfl, hs3⟩ := hr.fwd_ok hL
          rw [hR]
          have hw := hs1.weak (k := 0) (fun i hi => by rw [hi] at hL; exact Lemmas.C05.deser_weak hL)
          exact ih c1 d3 _ hs3 (by omega)
    · cases e with
      | seqEnd l => exact ⟨_, by simp only [multiLoop, hp']; rfl⟩
      | mapEnd l => exact ⟨_, by simp only [multiLoop, hp']; rfl⟩
      | _ => exact absurd rfl hopen

/-- at an opening event the typed deserializer cannot succeed and leave the replay cursor where it is: the frame
lemma would hand the same replay cursor to a live cursor that is strictly smaller (`C11.deser_root`), again and again -/
theorem deser_moves {K : Ctx} (n : Nat) (cfg : Cfg) (ty : Ty) (ik k : Bool) {c : Cur} {v : Val} {e0 : Ev}
    (hb : K.buf[pos c]? = some e0) (hin : pos c < K.buf.length) (hopen : Lemmas.C05.Ev.isOpen e0 = true)
    (hL : deser n cfg ty ik k c = .ok v c) (d : Cur) :
    (∃ p inp, d = .live p inp) → FSim K c d → False := by
  have hend : Lemmas.C11.isEndEv e0 = true → Lemmas.C11.acceptsEnd ty = false := fun h => by
    cases e0 <;> simp [Lemmas.C11.isEndEv] at h <;> simp [Lemmas.C05.Ev.isOpen] at hopen
  induction d using Lemmas.C11.lt_induction with
  | _ d ih =>
    rintro ⟨p, inp, rfl⟩ hs
    obtain ⟨e, d1, hb1, -, hp', hs1⟩ := hs.peek hin
    obtain rfl : e0 = e := Option.some.inj (hb.symm.trans hb1)
    obtain ⟨v', d3, hR, -, hs3⟩ := ((Lemmas.Frame.frA K n).deser cfg ty ik k hs1 hin).fwd_ok hL
    have hlt := Lemmas.C11.deser_root n cfg ty ik k d1 e0 (Lemmas.C11.look_of_peek hp') hend
    rw [hR] at hlt
    have hle := Lemmas.C11.peek_le (.live p inp)
    rw [hp'] at hle
    exact ih d3 (hle.trans_lt hlt) (Lemmas.C11.live_of_le (hle.trans hlt.le)) hs3

def DocRes.fine : DocRes → Bool
  | .skipped | .clean _ => true
  | _ => false

theorem DocRes.fine_iff {r : DocRes} : r.fine = true ↔ r = .skipped ∨ ∃ v, r = .clean v := by
  cases r <;> simp [DocRes.fine]

theorem DocRes.fine_eq_false_iff {r : DocRes} : r.fine = false ↔ r = .failed ∨ ∃ v, r = .leftover v := by
  cases r <;> simp [DocRes.fine]

/-- what the batch loop does with one good document, in terms of `perDoc` -/
theorem multi_doc {L : AliasLimits} {t : LNode} {evs : List Ev} (h : DocOk L t evs) {q : Pump}
    (hq : Boundary L q) (hl : q.look = none) (ex : Bool) (ls le : Loc) (X : List RawItem) (cfg : Cfg) (ty : Ty) :
    ((perDoc cfg ty evs).fine = true → ∃ q2, Boundary L q2 ∧ q2.look = none ∧ q2.producedAny = true ∧ ∀ m acc,
      multiLoop cfg ty m (.live q (.ev (.docStart ex) ls :: (itemsOf t ++ .ev .docEnd le :: X))) acc =
        multiLoop cfg ty (m - 1) (.live q2 X) (acc ++ valuesOf cfg ty [evs])) ∧
    ((perDoc cfg ty evs).fine = false → ∀ m acc, ∃ e,
      multiLoop cfg ty m (.live q (.ev (.docStart ex) ls :: (itemsOf t ++ .ev .docEnd le :: X))) acc = .error e) := by
  -- behind the document-start marker the live cursor serves the document; its first `peek` delivers the first event
  obtain ⟨p0, inp0, hs0, hpk0⟩ := doc_startB (d := (t, ex, ls, le)) (docServe_none h) (boundaryB_none.mpr hq) hl X
  obtain ⟨e0, tl, hcons, hopen, hsc⟩ := h.head
  have hb0 : evs[0]? = some e0 := by rw [hcons]; rfl
  obtain ⟨e, d1, hb, -, hpk1, hs1⟩ := hs0.peek h.ne
  obtain rfl : e0 = e := Option.some.inj (hb0.symm.trans hb)
  have hpk := hpk0.trans hpk1
  have hloop := multiLoop_open cfg ty hpk hopen
  -- a cursor that has served the whole document stands at the next document boundary
  have hend : ∀ {c2 d2 : Cur}, FSim (docCtxB L none (.ev .docEnd le :: X) evs) c2 d2 → pos c2 = evs.length →
      ∃ q2, Boundary L q2 ∧ q2.look = none ∧ q2.producedAny = true ∧
        ∀ m (acc : List Val), multiLoop cfg ty m d2 acc = multiLoop cfg ty m (.live q2 X) acc := by
    intro c2 d2 hs2 hp2
    obtain ⟨q2, hb2, hl2, hpa2, -, hpk2⟩ := doc_endB hs2 hp2
    exact ⟨q2, boundaryB_none.mp hb2, hl2, hpa2, multiLoop_congr cfg ty hpk2⟩
  have hper := perDoc_cons cfg ty e0 tl
  rw [← hcons] at hper
  by_cases hnull : evIsNull e0 = true
  · -- a null-like root scalar is the whole document: skipped
    rw [if_pos hnull] at hper
    simp only [hnull, if_true] at hloop
    refine ⟨fun _ => ?_, fun hf => (by rw [hper] at hf; cases hf)⟩
    obtain ⟨s, tg, rt, st, a, l, rfl⟩ := evIsNull_scalar hnull
    have htl := hsc s tg rt st a l rfl
    subst htl
    obtain ⟨e2, c2, d2, -, -, hn2', hs2, hpos2, -⟩ := hs1.next h.ne
    obtain ⟨q2, hb2, hl2, hp2, heq⟩ := hend hs2 (by rw [hpos2, hcons]; rfl)
    exact ⟨q2, hb2, hl2, hp2, multiLoop_pred fun m acc => by simp only [hloop, hn2', heq]; simp [valuesOf, hper]⟩
  · -- the deserializer at the root
    rw [if_neg hnull] at hper
    simp only [hnull, if_false, Bool.false_eq_true] at hloop
    have hr := (Lemmas.Frame.frA _ (fuelFor 100000)).deser cfg ty false false hs1 h.ne
    cases hL : deser (fuelFor 100000) cfg ty false false (.replay evs 0 none) with
    | err e1 c1 =>
      obtain ⟨e', d3, hR, -⟩ := hr.fwd_err hL
      rw [hL] at hper
      simp only [] at hper
      exact ⟨fun hf => (by rw [hper] at hf; cases hf),
        fun _ => multiLoop_fails fun m acc => ⟨e', by simp only [hloop, hR]⟩⟩
    | ok v c1 =>
      obtain ⟨v', d3, hR, rfl, hs3⟩ := hr.fwd_ok hL
      rw [hL] at hper
      simp only [] at hper
      by_cases hpos : pos c1 = evs.length
      · -- read completely
        obtain ⟨c2, hc2⟩ := (fsim_peek_none hs3).mpr hpos
        simp only [hc2] at hper
        obtain ⟨q2, hb2, hl2, hp2, heq⟩ := hend hs3 hpos
        exact ⟨fun _ => ⟨q2, hb2, hl2, hp2,
            multiLoop_pred fun m acc => by simp only [hloop, hR, heq]; simp [valuesOf, hper]⟩,
          fun hf => by rw [hper] at hf; cases hf⟩
      · -- left over: every later round fails, or succeeds strictly inside the document again
        have hne : ¬ ∃ c2, c1.peek = .ok none c2 := fun hx => hpos ((fsim_peek_none hs3).mp hx)
        have hlt : pos c1 < evs.length := by have := hs3.le; simp only [docCtxB] at this; omega
        have hfine : (perDoc cfg ty evs).fine = false := by
          rw [hper]
          split
          · rename_i c2 hc2
            exact absurd ⟨c2, hc2⟩ hne
          · rfl
        refine ⟨fun hf => (by rw [hfine] at hf; cases hf), fun _ => multiLoop_fails fun m acc => ?_⟩
        simp only [hloop, hR]
        -- the value has consumed the opening event at least, so the cursor is strictly inside the document
        have h0 : 0 < pos c1 := by
          refine Nat.pos_of_ne_zero fun h0 => ?_
          have hc1 : c1 = .replay evs 0 none := by
            have := hs3.eq
            rwa [h0] at this
          rw [hc1] at hL
          exact deser_moves (K := docCtxB L none (.ev .docEnd le :: X) evs) _ cfg ty false false
            (c := .replay evs 0 none) hb0 h.ne hopen hL _ ⟨p0, inp0, rfl⟩ hs0
        exact multi_inside cfg ty m c1 d3 _ hs3 (hs3.dep_pos h0 hlt)

end SaphyrVerif.Lemmas.C11T
