import SaphyrVerif.Lemmas.C02_Doc
/-!
Helper lemmas for C11: the run of the pump over a stream of documents.  At every document
boundary the per-document state is the initial one (`Boundary`), so the node lemma of C02 applies to each
document from the empty anchor table.  At the head: the vocabulary in which `Props/C11*.lean` state the property
(a stream of documents, the expansion of each on its own, generous limits), so that the lemmas speak of the same
definitions.
-/
namespace SaphyrVerif.Props.C11
open SaphyrVerif SaphyrVerif.Scalars SaphyrVerif.Pump SaphyrVerif.Spec

/-- a stream of documents (explicit or implicit starts, with the locations the parser attaches) -/
def docsStream : List (LNode × Bool × Loc × Loc) → List RawItem
  | [] => []
  | (t, explicit, ls, le) :: ds => [.ev (.docStart explicit) ls] ++ itemsOf t ++ [.ev .docEnd le] ++ docsStream ds

/-- expansion of each document on its own: always from the empty table -/
def expandDocs : List (LNode × Bool × Loc × Loc) → Except ExpErr (List Ev)
  | [] => .ok []
  | (t, _, _, _) :: ds =>
    match expand [] [] t with
    | .error e => .error e
    | .ok r =>
      match expandDocs ds with
      | .error e => .error e
      | .ok rest => .ok (r.evs ++ rest)

/-- generous alias limits (the limits are per document: counters are reset at every boundary) -/
def Unlimited (L : AliasLimits) (ds : List (LNode × Bool × Loc × Loc)) : Prop :=
  1 ≤ L.maxReplayStackDepth ∧
  ∀ d ∈ ds, (∀ r, expand [] [] d.1 = .ok r → r.replayed ≤ L.maxTotalReplayedEvents) ∧
            (∀ id, aliasCount id d.1 ≤ L.maxAliasExpansionsPerAnchor)

end SaphyrVerif.Props.C11

namespace SaphyrVerif.Lemmas.C11
open SaphyrVerif SaphyrVerif.Scalars SaphyrVerif.Pump SaphyrVerif.Spec SaphyrVerif.Budget
open SaphyrVerif.Lemmas.C02
open SaphyrVerif.Props.C11 (docsStream expandDocs Unlimited)

abbrev Doc := LNode × Bool × Loc × Loc

structure Boundary (L : AliasLimits) (q : Pump) : Prop where
  bud : q.budget = none
  rip : q.recursiveInProgress = []
  inj : q.inject = []
  rs : q.recStack = []
  anc : q.anchors = []
  per : q.perAnchor = []
  tot : q.totalReplayed = 0
  lim : q.limits = L
  sade : q.stopAtDocEnd = false

theorem Boundary.good {L : AliasLimits} {q : Pump} (h : Boundary L q) : Good q := by
  constructor
  · exact h.bud
  · exact h.rip
  · rw [h.inj]; intro fr hfr; cases hfr
  · rw [h.rs]; intro f hf; cases hf
  · rw [h.anc]; exact TabNe_nil

theorem Ends.after {p inp es1 p1 inp1 es2 p'} (h1 : Steps p inp es1 p1 inp1)
    (h2 : Ends p1 inp1 es2 p') : Ends p inp (es1 ++ es2) p' := by
  obtain ⟨q, inq, inq2, hs, hn⟩ := h2
  exact ⟨q, inq, inq2, h1.trans hs, hn⟩

/-- a `Good` pump (nothing left to replay, no enforcer) passes over an item that `Pump.Item` answers with `.cont`: the
stream and document markers -/
theorem nextImpl_cont {p p1 : Pump} (hg : Good p) {loc : Loc} {raw : Raw} (hi : Item (clr p) loc raw (.cont p1))
    (h1 : p1.inject = []) (X : List RawItem) : nextImpl p (.ev raw loc :: X) = nextImpl p1 X := by
  rw [nextImpl_good hg, nextImpl_of_inject_nil h1]
  exact parserLoop_item (budgetStep_of_none (b := (clr p).budget) hg.bud _) hi X

theorem step_streamEnd {L : AliasLimits} {q : Pump} (h : Boundary L q) (hp : q.producedAny = true) (l1 : Loc) :
    ∃ p' inp2, nextImpl q [.ev .streamEnd l1] = (.eof, p', inp2) :=
  ⟨_, _, (nextImpl_cont h.good .streamEnd rfl []).trans (nextImpl_done rfl hp)⟩

theorem Boundary.not_exceeds {L : AliasLimits} {q : Pump} (hq : Boundary L q) {rep : Nat} {ac : Nat → Nat}
    (h1 : 1 ≤ L.maxReplayStackDepth) (h2 : rep ≤ L.maxTotalReplayedEvents)
    (h3 : ∀ id, ac id ≤ L.maxAliasExpansionsPerAnchor) : ¬ Exceeds q rep ac := by
  rintro (hx | hx | ⟨id, hx⟩)
  · rw [hq.lim] at hx; omega
  · rw [hq.lim, hq.tot] at hx; omega
  · rw [hq.lim, hq.per] at hx
    have := h3 id
    simp only [lookupCount, List.find?_nil] at hx
    omega

theorem doc_first {L : AliasLimits} {q : Pump} (hq : Boundary L q) (t : LNode) (ex : Bool) (ls le : Loc) (ds : List Doc)
    (Y : List RawItem) : ∃ q1, Boundary L q1 ∧
      nextImpl q (docsStream ((t, ex, ls, le) :: ds) ++ Y) =
        nextImpl q1 (itemsOf t ++ .ev .docEnd le :: (docsStream ds ++ Y)) := by
  rw [show docsStream ((t, ex, ls, le) :: ds) ++ Y =
    .ev (.docStart ex) ls :: (itemsOf t ++ .ev .docEnd le :: (docsStream ds ++ Y)) by simp [docsStream]]
  refine ⟨_, ?_, nextImpl_cont hq.good (.docStart ex) rfl _⟩
  exact ⟨hq.bud, hq.rip, rfl, rfl, rfl, rfl, rfl, hq.lim, hq.sade⟩

theorem doc_last {L : AliasLimits} {q1 p1 : Pump} (hq1 : Boundary L q1) {t : LNode} {r : Exp} {ac : Nat → Nat}
    {rest : List RawItem} (hs : Steps q1 (itemsOf t ++ rest) r.evs p1 rest) (hpost : Post q1 p1 r ac) (le : Loc)
    (X : List RawItem) :
    ∃ q2, Boundary L q2 ∧ q2.producedAny = true ∧ nextImpl p1 (.ev .docEnd le :: X) = nextImpl q2 X := by
  have hsade : p1.stopAtDocEnd = false := hpost.sade.trans hq1.sade
  refine ⟨_, ?_, ?_, nextImpl_cont hpost.good (.docEnd hsade) rfl X⟩
  · exact ⟨hpost.good.bud, hpost.good.rip, rfl, rfl, rfl, rfl, rfl, hpost.lim.trans hq1.lim, hsade⟩
  · exact hpost.prod (.inr hs.ne_nil_of_items)

theorem docs_outcome (L : AliasLimits) (l1 : Loc) : ∀ (ds : List Doc) (q : Pump), Boundary L q →
    (ds = [] → q.producedAny = true) →
    (∃ evs p', expandDocs ds = .ok evs ∧ Ends q (docsStream ds ++ [.ev .streamEnd l1]) evs p') ∨
    (∃ es err p', Stops q (docsStream ds ++ [.ev .streamEnd l1]) es err p') := by
  intro ds
  induction ds with
  | nil =>
    intro q hq hp
    obtain ⟨p', inp2, hn⟩ := step_streamEnd hq (hp rfl) l1
    exact .inl ⟨[], p', rfl, q, _, inp2, Steps.refl _ _, hn⟩
  | cons d ds ih =>
    intro q hq _
    obtain ⟨t, ex, ls, le⟩ := d
    obtain ⟨q1, hq1, hstart⟩ := doc_first hq t ex ls le ds [.ev .streamEnd l1]
    have hnode := pump_node t q1 hq1.good (.ev .docEnd le :: (docsStream ds ++ [.ev .streamEnd l1]))
    rw [hq1.anc, hq1.rs] at hnode
    rcases hnode.steps_or_stops with ⟨r, p1, hexp, hs, hpost⟩ | ⟨es, err, p', hs⟩
    · obtain ⟨q2, hq2, hp2, hend⟩ := doc_last hq1 hs hpost le (docsStream ds ++ [.ev .streamEnd l1])
      have hexp : expand [] [] t = .ok r := hexp
      rcases ih q2 hq2 (fun _ => hp2) with ⟨evs2, pf, he2, hends⟩ | ⟨es, err, pf, hstops⟩
      · exact .inl ⟨r.evs ++ evs2, pf, by simp [expandDocs, hexp, he2],
          Ends.of_eq hstart (Ends.after hs (Ends.of_eq hend hends))⟩
      · exact .inr ⟨_, err, pf, Stops.of_eq hstart (Stops.after hs (Stops.of_eq hend hstops))⟩
    · exact .inr ⟨es, err, p', Stops.of_eq hstart hs⟩

theorem docs_ends (L : AliasLimits) (l1 : Loc) : ∀ (ds : List Doc) (q : Pump), Boundary L q →
    (ds = [] → q.producedAny = true) → Unlimited L ds → (∀ d ∈ ds, noFoldedIndent d.1 = true) →
    ∀ evs, expandDocs ds = .ok evs → ∃ p', Ends q (docsStream ds ++ [.ev .streamEnd l1]) evs p' := by
  intro ds
  induction ds with
  | nil =>
    intro q hq hp _ _ evs hev
    cases hev
    obtain ⟨p', inp2, hn⟩ := step_streamEnd hq (hp rfl) l1
    exact ⟨p', q, _, inp2, Steps.refl _ _, hn⟩
  | cons d ds ih =>
    intro q hq _ hgen hnf evs hev
    obtain ⟨t, ex, ls, le⟩ := d
    obtain ⟨hw1, hw2⟩ := hgen.2 _ (List.mem_cons_self ..)
    simp only [expandDocs] at hev
    cases hexp : expand [] [] t with
    | error e => simp [hexp] at hev
    | ok r =>
    cases he2 : expandDocs ds with
    | error e => simp [hexp, he2] at hev
    | ok evs2 =>
    simp only [hexp, he2, Except.ok.injEq] at hev
    subst hev
    obtain ⟨q1, hq1, hstart⟩ := doc_first hq t ex ls le ds [.ev .streamEnd l1]
    obtain ⟨p1, hs, hpost⟩ := node_within hq1.good hq1.anc hq1.rs t _ hexp (hnf _ (List.mem_cons_self ..))
      (hq1.not_exceeds hgen.1 (hw1 r hexp) hw2)
    obtain ⟨q2, hq2, hp2, hend⟩ := doc_last hq1 hs hpost le (docsStream ds ++ [.ev .streamEnd l1])
    obtain ⟨pf, hends⟩ := ih q2 hq2 (fun _ => hp2) ⟨hgen.1, fun d hd => hgen.2 d (List.mem_cons_of_mem _ hd)⟩
      (fun d hd => hnf d (List.mem_cons_of_mem _ hd)) evs2 he2
    exact ⟨pf, Ends.of_eq hstart (Ends.after hs (Ends.of_eq hend hends))⟩

theorem stream_first (L : AliasLimits) (l0 l1 : Loc) (ds : List Doc) : ∃ q, Boundary L q ∧
    nextImpl { limits := L } ([.ev .streamStart l0] ++ docsStream ds ++ [.ev .streamEnd l1]) =
      nextImpl q (docsStream ds ++ [.ev .streamEnd l1]) := by
  have hb : Boundary L { limits := L } := ⟨rfl, rfl, rfl, rfl, rfl, rfl, rfl, rfl, rfl⟩
  exact ⟨_, ⟨rfl, rfl, rfl, rfl, rfl, rfl, rfl, rfl, rfl⟩, nextImpl_cont hb.good .streamStart rfl _⟩

end SaphyrVerif.Lemmas.C11
