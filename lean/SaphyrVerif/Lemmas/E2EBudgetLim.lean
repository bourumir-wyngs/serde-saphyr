import SaphyrVerif.Lemmas.E2EBudgetTrace
import SaphyrVerif.Lemmas.E2EBudgetMono
/-!
End-to-end composition with the budget enforcer (pump level): a breach-free run of the budgeted pump
stays breach-free under any other limits that bound the counters of its FINAL enforcer state (all-content
policy) — the counters are monotone along the run, so "every prefix within the limits" and "the whole stream
within the limits" coincide; and what `finish()` reports of a budgeted pump.
-/
namespace SaphyrVerif.Lemmas.E2EBudget
open SaphyrVerif.Pump SaphyrVerif.Budget SaphyrVerif.Spec
open SaphyrVerif.Lemmas.C07 (Within)

/-- the limits only matter through `feedObs` (`run_withBud`), and there through the final counters (`feedObs_mono`) -/
theorem brunTo_withLim {q : Pump} {inp : List RawItem} {es : List Ev} (hr : CurSim.Run q inp es) (hq : q.budget = none)
    {b : Enf} (ho : EnfOk b) {pf : Pump} (h : BRunTo (withBud q b) inp es pf) :
    ∃ qf bf, pf = withBud qf bf ∧
      ∀ lim, Within (withLim bf lim) → BRunTo (withBud q (withLim b lim)) inp es (withBud qf (withLim bf lim)) := by
  obtain ⟨qf, hiff⟩ := run_withBud hr hq
  obtain ⟨bf, hf, rfl⟩ := (hiff b pf).1 h
  exact ⟨qf, bf, rfl, fun lim hw => (hiff _ _).2 ⟨_, (feedObs_mono ho hf).2.2 lim hw, rfl⟩⟩

theorem finish_withBud (q : Pump) (bf : Enf) :
    Pump.finish (withBud q bf) = (bf.finalize.2.map (fun b => PErr.budget b q.lastLoc), some bf.finalize.1) := rfl

theorem within_withLim_of_report {bf : Enf} {lim : Limits} (h : within lim bf.finalize.1 = true) :
    Within (withLim bf lim) := by
  rw [C07.within_iff, C07.finalize_fst] at h
  simpa [Within, withLim] using h

/-- `hlim`: the limits are `usize` values, so the saturating product of `ratioBreach` cannot change the comparison -/
theorem finalize_withLim_none {bf : Enf} {lim : Limits} (hw : within lim bf.finalize.1 = true)
    (hr : ratioOk lim bf.finalize.1 = true) (hlim : lim.maxAliases ≤ USIZE_MAX) :
    (withLim bf lim).finalize.2 = none := by
  have hfst : (withLim bf lim).finalize.1 = bf.finalize.1 := by
    rw [C07.finalize_fst, C07.finalize_fst]; rfl
  cases hpd : (withLim bf lim).perDocument with
  | true => exact C07.finalize_snd_pd _ hpd
  | false =>
  have ha : (withLim bf lim).report.aliases ≤ USIZE_MAX := by
    rw [C07.within_iff, C07.finalize_fst] at hw
    exact Nat.le_trans hw.2.1 hlim
  rw [C07.finalize_snd_ratioBreach _ hpd, C07.ratioBreach_eq _ ha, hfst, show (withLim bf lim).lim = lim from rfl, hr]
  rfl

end SaphyrVerif.Lemmas.E2EBudget
