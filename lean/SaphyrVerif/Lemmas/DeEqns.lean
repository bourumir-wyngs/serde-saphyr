import SaphyrVerif.Model.De
/-!
The larger functions of the mutual block of `Model/De.lean`, cut into named pieces: each piece is a plain
definition whose body is a part of the model text, and an equation per function (`f_succ`, `f_eq`; for `nextKey` also one
per regime of its state, for `deserScalarTyped` one per case of the type) says how the function is put together from its
pieces.  A proof about such a function is done piece by piece, on terms of a size that
`split` / `simp` handle cheaply.
-/
namespace SaphyrVerif.De
open SaphyrVerif SaphyrVerif.Scalars SaphyrVerif.Pump SaphyrVerif.Budget

/-- A conditional on a condition that both sides share is taken branch by branch.  (`split` on a conditional is much
slower to check: it simplifies the whole goal in both branches.) -/
theorem rel_ite {α β : Sort _} {R : α → β → Prop} {c : Prop} [Decidable c] {a a' : α} {b b' : β}
    (h1 : c → R a b) (h2 : ¬ c → R a' b') : R (if c then a else a') (if c then b else b') := by
  by_cases hc : c
  · rw [if_pos hc, if_pos hc]
    exact h1 hc
  · rw [if_neg hc, if_neg hc]
    exact h2 hc

/-- the goal relates two conditionals on the same condition: one goal per branch -/
macro "both_ite" : tactic => `(tactic| with_reducible refine rel_ite (fun _ => ?_) (fun _ => ?_))

/-- `nextKey` with a pending entry (`De.lean`, the `entry :: rest` arm): the entry is skipped, rejected as a
duplicate or delivered from its recorded events; `m` is the state without that entry.  The cursor is only passed on. -/
def nkPending (fuel : Nat) (cfg : Cfg) (kseed : Ty ⊕ Unit) (c : Cur) (m : MA) (entry : PendingEntry) :
    R (KeyStep × MA) :=
  let fp := entry.key.fp
  let location := entry.key.loc
  let isDup := m.seenContains fp
  let skip : Option (Option DErr) :=
    if m.flushingMerges then (if isDup then some none else none)
    else match cfg.dup with
      | .error => if isDup then some (some ⟨"DuplicateMappingKey", location, 0⟩) else none
      | .firstWins => if isDup then some none else none
      | .lastWins => none
  match skip with
  | some (some e) => .err e c
  | some none => nextKey fuel cfg kseed c m
  | none =>
    let kemnDirect := match fp with | .map [] => true | _ => false
    let special : Option (List Ev × List Ev) :=
      match fp with
      | .map [(.scalar sv stag, _)] =>
        if !kemnDirect && fpNullish sv stag then
          match oneEntryMapSpans entry.key.events with
          | some (_, _, vs, ve) =>
            let inner := (entry.key.events.drop vs).take (ve - vs)
            let remaining := entry.key.events.take vs ++ entry.key.events.drop ve
            match remaining.head?, remaining.getLast? with
            | some s, some e => some ([s, e], inner)
            | _, _ => none
          | none => none
        else none
      | _ => none
    let (keyEvents, valueEvents, kemn) := match special with
      | some (ke, ve) => (ke, ve, true)
      | none => (entry.key.events, entry.value.events, kemnDirect)
    match deserKey fuel cfg kseed keyEvents kemn with
    | .error e => .err e c
    | .ok kv =>
      .ok (.key kv fp, { m with haveKey := true, pendingValue := some (valueEvents, entry.ref), seen := fp :: m.seen }) c

/-- `nextKey`, nothing pending, merged entries being flushed (`De.lean`, `if m.flushingMerges then …`): the next
non-empty merge batch becomes pending, or the access is done.  The cursor is only passed on. -/
def nkFlush (fuel : Nat) (cfg : Cfg) (kseed : Ty ⊕ Unit) (c : Cur) (m : MA) : R (KeyStep × MA) :=
  let (found, m) := enqueueNextMergeBatch m
  if found then nextKey fuel cfg kseed c m
  else .ok (.done, { m with flushingMerges := false }) c

/-- `nextKey`, live, after the `MappingEnd` has been taken (`De.lean`, `if m.mergeStack.isEmpty then …`) -/
def nkEnd (fuel : Nat) (cfg : Cfg) (kseed : Ty ⊕ Unit) (c : Cur) (m : MA) : R (KeyStep × MA) :=
  if m.mergeStack.isEmpty then .ok (.done, m) c
  else nkFlush fuel cfg kseed c { m with flushingMerges := true }

/-- `nextKey`, live, after a merge key `<<` has been captured (`De.lean`, `if isMergeKey keyNode then …`): the merge
value is collected from the cursor -/
def nkMerge (fuel : Nat) (cfg : Cfg) (kseed : Ty ⊕ Unit) (c : Cur) (m : MA) : R (KeyStep × MA) :=
  match c.peek with
  | .err e c => .err e c
  | .ok _ c =>
    let mref := c.refLoc
    match pendingFromLive fuel c mref with
    | .err e c => .err e c
    | .ok entries c =>
      let m := if entries.isEmpty then m else { m with mergeStack := entries :: m.mergeStack }
      nextKey fuel cfg kseed c m

/-- `nextKey`, live, an ordinary key that is not a duplicate to be rejected or skipped (`De.lean`, from
`let kemnDirect := …` of the live arm): a one-entry-null key is buffered with its value, anything else is
deserialized from the captured events -/
def nkDeliver (fuel : Nat) (cfg : Cfg) (kseed : Ty ⊕ Unit) (c : Cur) (m : MA) (keyNode : KeyNode) :
    R (KeyStep × MA) :=
  let fp := keyNode.fp
  let kemnDirect := match fp with | .map [] => true | _ => false
  let oneEntryNullish := match fp with
    | .map [(.scalar sv stag, _)] => fpNullish sv stag
    | _ => false
  if oneEntryNullish then
    match c.peek with
    | .err e c => .err e c
    | .ok _ c =>
      let ref := c.refLoc
      match capture fuel c with
      | .err e c => .err e c
      | .ok valueNode c =>
        nextKey fuel cfg kseed c { m with pending := ⟨keyNode, valueNode, ref⟩ :: m.pending }
  else
    match deserKey fuel cfg kseed keyNode.events kemnDirect with
    | .error e => .err e c
    | .ok kv => .ok (.key kv fp, { m with haveKey := true, pendingValue := none, seen := fp :: m.seen }) c

/-- `nextKey`, live, after an ordinary key node has been captured (`De.lean`, the `else` of `if isMergeKey keyNode`):
the duplicate policy; `keyIsAlias` is `at_alias()` before the capture -/
def nkKey (fuel : Nat) (cfg : Cfg) (kseed : Ty ⊕ Unit) (c : Cur) (m : MA) (keyIsAlias : Bool) (keyNode : KeyNode) :
    R (KeyStep × MA) :=
  let fp := keyNode.fp
  let isDup := m.seenContains fp
  let act : Nat :=
    match cfg.dup with
    | .error => if isDup then 1 else 0
    | .firstWins => if isDup then 2 else 0
    | .lastWins => 0
  if act == 1 then .err ⟨"DuplicateMappingKey", if keyIsAlias then c.refLoc else keyNode.loc, 0⟩ c
  else if act == 2 then
    match skipOneNode fuel c with
    | .err e c => .err e c
    | .ok _ c => nextKey fuel cfg kseed c m
  else nkDeliver fuel cfg kseed c m keyNode

/-! the test of the duplicate policy's code `act` in `nkKey`, as rewrite rules -/
theorem act1_eq1 (p : Prop) [Decidable p] : ((if p then (1 : Nat) else 0) == 1) = decide p := by
  by_cases h : p <;> simp [h]
theorem act1_eq2 (p : Prop) [Decidable p] : ((if p then (1 : Nat) else 0) == 2) = false := by
  by_cases h : p <;> simp [h]
theorem act2_eq1 (p : Prop) [Decidable p] : ((if p then (2 : Nat) else 0) == 1) = false := by
  by_cases h : p <;> simp [h]
theorem act2_eq2 (p : Prop) [Decidable p] : ((if p then (2 : Nat) else 0) == 2) = decide p := by
  by_cases h : p <;> simp [h]
theorem act0_eq1 : ((0 : Nat) == 1) = false := rfl
theorem act0_eq2 : ((0 : Nat) == 2) = false := rfl

/-- `nextKey`, nothing pending and not flushing: the next event of the mapping is looked at -/
def nkLive (fuel : Nat) (cfg : Cfg) (kseed : Ty ⊕ Unit) (c : Cur) (m : MA) : R (KeyStep × MA) :=
  match c.peek with
  | .err e c => .err e c
  | .ok none c => .err (eofErr c) c
  | .ok (some (.mapEnd _)) c =>
    match c.next with
    | .err e c => .err e c
    | .ok _ c => nkEnd fuel cfg kseed c m
  | .ok (some _) c =>
    let keyIsAlias := c.atAlias
    match capture fuel c with
    | .err e c => .err e c
    | .ok keyNode c =>
      if isMergeKey keyNode then nkMerge fuel cfg kseed c m
      else nkKey fuel cfg kseed c m keyIsAlias keyNode

theorem nextKey_succ (fuel : Nat) (cfg : Cfg) (kseed : Ty ⊕ Unit) (c : Cur) (m : MA) :
    nextKey (fuel + 1) cfg kseed c m =
      match m.pending with
      | entry :: rest => nkPending fuel cfg kseed c { m with pending := rest } entry
      | [] => if m.flushingMerges then nkFlush fuel cfg kseed c m else nkLive fuel cfg kseed c m := by
  rw [nextKey]
  rfl

theorem nextKey_pending_eq (fuel : Nat) (cfg : Cfg) (kseed : Ty ⊕ Unit) (c : Cur) (hk : Bool) (seen : List FP)
    (entry : PendingEntry) (rest : List PendingEntry) (ms : List (List PendingEntry)) (fl : Bool)
    (pv : Option (List Ev × Loc)) :
    nextKey (fuel + 1) cfg kseed c ⟨hk, seen, entry :: rest, ms, fl, pv⟩ =
      nkPending fuel cfg kseed c ⟨hk, seen, rest, ms, fl, pv⟩ entry := by
  rw [nextKey_succ]

theorem nextKey_flush_eq (fuel : Nat) (cfg : Cfg) (kseed : Ty ⊕ Unit) (c : Cur) (hk : Bool) (seen : List FP)
    (ms : List (List PendingEntry)) (pv : Option (List Ev × Loc)) :
    nextKey (fuel + 1) cfg kseed c ⟨hk, seen, [], ms, true, pv⟩ =
      nkFlush fuel cfg kseed c ⟨hk, seen, [], ms, true, pv⟩ := by
  rw [nextKey_succ]
  rfl

theorem nextKey_live_eq (fuel : Nat) (cfg : Cfg) (kseed : Ty ⊕ Unit) (c : Cur) (hk : Bool) (seen : List FP)
    (ms : List (List PendingEntry)) (pv : Option (List Ev × Loc)) :
    nextKey (fuel + 1) cfg kseed c ⟨hk, seen, [], ms, false, pv⟩ =
      nkLive fuel cfg kseed c ⟨hk, seen, [], ms, false, pv⟩ := by
  rw [nextKey_succ]
  rfl

/-- `deserSeqLike`, a sequence proper (`De.lean`, the `none` arm of `match special`): the `SequenceStart` is taken, the
elements are read by the visitor's loop, the `SequenceEnd` is taken if it is there -/
def seqProper (fuel : Nat) (cfg : Cfg) (shape : Ty ⊕ List Ty) (c : Cur) : R Val :=
  match c.next with
  | .err e c => .err e c
  | .ok none c => .err (eofErr c) c
  | .ok (some (.seqStart ..)) c =>
    let body : R (List Val) :=
      match shape with
      | .inl t => seqElems fuel cfg t c []
      | .inr ts => tupleElems fuel cfg ts c []
    match body with
    | .err e c => .err e c
    | .ok vs c =>
      match c.peek with
      | .err e c => .err e c
      | .ok (some (.seqEnd _)) c =>
        match c.next with
        | .err e c => .err e c
        | .ok _ c => .ok (.seq vs) c
      | .ok _ c => .ok (.seq vs) c
  | .ok (some other) c => .err ⟨"Unexpected", other.loc, 0⟩ c

/-- `deserSeqLike` after the `peek` (`De.lean`, `let special := …` with the `match special` distributed over it): a
null-like scalar is the empty sequence, a `!!binary` scalar a byte sequence, anything else a sequence proper -/
def seqHead (fuel : Nat) (cfg : Cfg) (shape : Ty ⊕ List Ty) (pk : Option Ev) (c : Cur) : R Val :=
  match pk with
  | some (.scalar v tag _ st _ l) =>
    if tag == tagNull || scalarIsNullish v st then
      match c.next with
      | .err e c => .err e c
      | .ok _ c =>
        match shape with
        | .inl _ => .ok (.seq []) c
        | .inr ts => if ts.isEmpty then .ok (.seq []) c else .err (serdeErr "invalid_length") c
    else if tag == tagBinary then
      match c.next with
      | .err e c => .err e c
      | .ok _ c =>
        match Base64.decode (utf8Bytes v) with
        | none => .err ⟨"InvalidBinaryBase64", l, 0⟩ c
        | some data => byteSeqVisit shape data c
    else seqProper fuel cfg shape c
  | _ => seqProper fuel cfg shape c

theorem deserSeqLike_succ (fuel : Nat) (cfg : Cfg) (shape : Ty ⊕ List Ty) (c : Cur) :
    deserSeqLike (fuel + 1) cfg shape c =
      match c.peek with
      | .err e c => .err e c
      | .ok pk c => seqHead fuel cfg shape pk c := by
  rw [deserSeqLike]
  cases c.peek with
  | err e d => rfl
  | ok pk d =>
    simp only []
    rcases pk with _ | (⟨v, tag, rt, st, a, l⟩ | _ | _ | _ | _)
    case some.scalar =>
      simp only [seqHead]
      by_cases h1 : (tag == tagNull || scalarIsNullish v st) = true
      · simp only [h1, ↓reduceIte]
        cases d.next with
        | err e d2 => rfl
        | ok o d2 =>
          simp only []
          cases shape with
          | inl t => rfl
          | inr ts =>
            simp only []
            cases ts.isEmpty <;> rfl
      · simp only [h1, ↓reduceIte, Bool.false_eq_true]
        by_cases h2 : (tag == tagBinary) = true
        · simp only [h2, ↓reduceIte]
          cases d.next with
          | err e d2 => rfl
          | ok o d2 =>
            simp only []
            cases Base64.decode (utf8Bytes v) <;> rfl
        · simp only [h2, ↓reduceIte, Bool.false_eq_true]
          rfl
    all_goals rfl

/-- `deserAnyScalar`, a plain scalar that may be anything, after its event has been taken (`De.lean`, last arm of
`deserAnyScalar`): a boolean, an integer, a float or the string itself.  The cursor is only returned. -/
def anyPlain (cfg : Cfg) (v : List Char) (c : Cur) : R Val :=
  let b? := if cfg.strictBooleans then parseStrictBool v else parseYaml11Bool v
  match b? with
  | some b => .ok (.bool b) c
  | none =>
    let t := trim v
    let int? : Option Int :=
      if t.head? == some '-' && !leadingZeroDecimal t then parseIntSigned 64 cfg.legacyOctal t
      else match parseIntUnsigned 64 cfg.legacyOctal t with
        | some u => some (Int.ofNat u)
        | none => parseIntSigned 64 cfg.legacyOctal t
    match int? with
    | some i => .ok (.int i) c
    | none =>
      match Float.parseYaml12Float 64 v with
      | some f =>
        if f.isFinite 64 then .ok (.float 64 f) c
        else if f == .nan then .ok (.str ".nan".toList) c
        else if f.isNegative 64 then .ok (.str "-.inf".toList) c
        else .ok (.str ".inf".toList) c
      | none => .ok (.str v) c

/-- `deserAnyScalar` with its pure conditions in front: every arm but the tag error takes exactly one event -/
theorem deserAnyScalar_eq (cfg : Cfg) (c : Cur) (v : List Char) (tag : Nat) (st : Style) (l : Loc) :
    deserAnyScalar cfg c v tag st l =
      if tag == tagNull || scalarIsNullish v st then
        match c.next with
        | .err e c => .err e c
        | .ok _ c => .ok .unit c
      else if !(st == .plain) || !canParseIntoString tag || tag == tagBinary || tag == tagString then
        if tag == tagBinary && !cfg.ignoreBinaryTagForString then
          match takeStringScalar cfg c with
          | .err e c => .err e c
          | .ok s c => .ok (.str s) c
        else if !canParseIntoString tag && tag != tagNonSpecific && !(cfg.ignoreBinaryTagForString && tag == tagBinary) then
          .err ⟨"TaggedScalarCannotDeserializeIntoString", l, 0⟩ c
        else
          match c.next with
          | .err e c => .err e c
          | .ok _ c => .ok (.str v) c
      else
        match c.next with
        | .err e c => .err e c
        | .ok _ c => anyPlain cfg v c := by
  unfold deserAnyScalar
  by_cases h1 : (tag == tagNull) = true
  · simp only [h1, Bool.true_or, ↓reduceIte]
    rfl
  by_cases h2 : scalarIsNullish v st = true
  · simp only [h1, h2, Bool.or_true, ↓reduceIte, Bool.false_eq_true]
    rfl
  simp only [h1, h2, Bool.or_self, ↓reduceIte, Bool.false_eq_true]
  rfl

/-- `variantPayload`, after the payload (`De.lean`, `expectMapEnd`): a replayed tagged payload must be used up
(`expect_payload_consumed`); in the `{ Variant: payload }` form the `MappingEnd` is taken -/
def vpExpectMapEnd (mapMode tagged : Bool) (c : Cur) (v : Val) : R Val :=
  if tagged then
    match c.peek with
    | .err e c => .err e c
    | .ok none c => .ok v c
    | .ok (some ev) c => .err ⟨"Unexpected", ev.loc, 0⟩ c
  else
  if !mapMode then .ok v c else
  match c.next with
  | .err e c => .err e c
  | .ok none c => .err (eofErr c) c
  | .ok (some (.mapEnd _)) c => .ok v c
  | .ok (some other) c => .err ⟨"ExpectedMappingEndAfterEnumVariantValue", other.loc, 0⟩ c

/-- `variantPayload` for the variant `name` of kind `vt` (`De.lean`, `match vt with …`): the `VariantAccess` call the
derived visitor makes -/
def vpKind (fuel : Nat) (cfg : Cfg) (name : String) (mapMode tagged : Bool) (vt : VTy) (c : Cur) : R Val :=
  match vt with
  | .unit =>
    if mapMode then
      match c.peek with
      | .err e c => .err e c
      | .ok none c => .err (eofErr c) c
      | .ok (some (.mapEnd _)) c =>
        match c.next with
        | .err e c => .err e c
        | .ok _ c => .ok (.variant name .unit) c
      | .ok (some (.scalar s _ _ st _ l)) c =>
        if scalarIsNullish s st then
          match c.next with
          | .err e c => .err e c
          | .ok _ c => vpExpectMapEnd mapMode tagged c (.variant name .unit)
        else .err ⟨"UnexpectedValueForUnitEnumVariant", l, 0⟩ c
      | .ok (some other) c => .err ⟨"UnexpectedValueForUnitEnumVariant", other.loc, 0⟩ c
    else .ok (.variant name .unit) c
  | .newtype t =>
    if !mapMode && !tagged then
      match deser fuel cfg t false false (Cur.replay [] 0 none) with
      | .err e _ => .err e c
      | .ok v _ => .ok (.variant name v) c
    else
    match c.peek with
    | .err e c => .err e c
    | .ok pk c =>
      let defined := match pk with
        | some e => e.loc
        | none => c.lastLoc
      let ref := c.refLoc
      match deser fuel cfg t false false c with
      | .err e c => .err (if tagged then e else attachAlias e ref defined) c
      | .ok v c => vpExpectMapEnd mapMode tagged c (.variant name v)
  | .tuple ts =>
    if !mapMode && !tagged then
      match deserSeqLike fuel cfg (.inr ts) (Cur.replay [] 0 none) with
      | .err e _ => .err e c
      | .ok v _ => .ok (.variant name v) c
    else
    match deserSeqLike fuel cfg (.inr ts) c with
    | .err e c => .err e c
    | .ok v c => vpExpectMapEnd mapMode tagged c (.variant name v)
  | .struct fields =>
    if !mapMode && !tagged then
      match deserMapLike fuel cfg (.inr (fields, false)) (Cur.replay [] 0 none) with
      | .err e _ => .err e c
      | .ok v _ => .ok (.variant name v) c
    else
    match deserMapLike fuel cfg (.inr (fields, false)) c with
    | .err e c => .err e c
    | .ok v c => vpExpectMapEnd mapMode tagged c (.variant name v)

theorem variantPayload_succ (fuel : Nat) (cfg : Cfg) (variants : List (String × VTy)) (vname : List Char) (vloc : Loc)
    (mapMode tagged : Bool) (c : Cur) :
    variantPayload (fuel + 1) cfg variants vname vloc mapMode tagged c =
      match lookupField variants vname with
      | none => .err ⟨"SerdeVariantId", vloc, 0⟩ c
      | some (_, vt) => vpKind fuel cfg (String.ofList vname) mapMode tagged vt c := by
  rw [variantPayload]
  rfl

/-- `deserScalarTyped` without the pre-check of `deserialize_char` (`De.lean`, its last `match c.next with`): one
event is taken and, if it is a scalar, parsed for the target type -/
def scalarTake (cfg : Cfg) (ty : Ty) (c : Cur) : R Val :=
  match c.next with
  | .err e c => .err e c
  | .ok none c => .err (eofErr c) c
  | .ok (some (.scalar s _ _ _ _ l)) c =>
    match ty with
    | .bool =>
      if cfg.strictBooleans then
        match parseStrictBool s with
        | some b => .ok (.bool b) c
        | none => .err ⟨"InvalidBooleanStrict", l, 0⟩ c
      else match parseYaml11Bool s with
        | some b => .ok (.bool b) c
        | none => .err ⟨"InvalidScalar", l, 0⟩ c
    | .int true w =>
      match parseIntSigned w cfg.legacyOctal s with
      | some v => .ok (.int v) c
      | none => .err ⟨"InvalidScalar", l, 0⟩ c
    | .int false w =>
      match parseIntUnsigned w cfg.legacyOctal s with
      | some v => .ok (.int (Int.ofNat v)) c
      | none => .err ⟨"InvalidScalar", l, 0⟩ c
    | .float w =>
      match Float.parseYaml12Float w s with
      | some f => .ok (.float w f) c
      | none => .err ⟨"InvalidScalar", l, 0⟩ c
    | .char =>
      match s with
      | [ch] => .ok (.char ch) c
      | _ => .err ⟨"InvalidCharNotSingleScalar", l, 0⟩ c
    | _ => .err ⟨"ModelMisuse", l, 0⟩ c
  | .ok (some other) c => .err ⟨"Unexpected", other.loc, 0⟩ c

theorem deserScalarTyped_of_ne_char (cfg : Cfg) {ty : Ty} (h : ty ≠ .char) (c : Cur) :
    deserScalarTyped cfg ty c = scalarTake cfg ty c := by
  cases ty <;> first | rfl | exact absurd rfl h

/-- `deserialize_char` peeks, rejects a null or (under `no_schema`) an ambiguous plain scalar, and otherwise takes
the event from the cursor it started with -/
theorem deserScalarTyped_char (cfg : Cfg) (c : Cur) :
    deserScalarTyped cfg .char c =
      match c.peek with
      | .err e d => .err e d
      | .ok (some (.scalar v tag _ st _ l)) d =>
        if tag != tagString then
          if tag == tagNull || scalarIsNullish v st then
            match d.next with
            | .err e d => .err e d
            | .ok _ d => .err ⟨"InvalidCharNull", l, 0⟩ d
          else if cfg.noSchema && maybeNotString v st then
            match d.next with
            | .err e d => .err e d
            | .ok _ d => .err ⟨"QuotingRequired", l, 0⟩ d
          else scalarTake cfg .char c
        else scalarTake cfg .char c
      | .ok _ _ => scalarTake cfg .char c := by
  unfold deserScalarTyped
  simp only []
  cases c.peek with
  | err e d => rfl
  | ok o d =>
    rcases o with _ | (⟨v, tag, rt, st, a, l⟩ | _ | _ | _ | _)
    case some.scalar =>
      simp only []
      by_cases h1 : (tag != tagString) = true
      · by_cases h2 : (tag == tagNull || scalarIsNullish v st) = true
        · simp only [h1, h2, ↓reduceIte]
          cases d.next <;> rfl
        · by_cases h3 : (cfg.noSchema && maybeNotString v st) = true
          · simp only [h1, h2, h3, ↓reduceIte, Bool.false_eq_true]
            cases d.next <;> rfl
          · simp only [h1, h2, h3, ↓reduceIte, Bool.false_eq_true]
            rfl
      · simp only [h1, ↓reduceIte, Bool.false_eq_true]
        rfl
    all_goals rfl

/-- `deserString` on a scalar event that has been peeked (`De.lean`, the `if` chain of its scalar arm): a null and,
under `no_schema`, an ambiguous plain scalar are rejected after the event is taken; `!!binary` is decoded; other
tags are rejected where they stand -/
def strScalar (cfg : Cfg) (c : Cur) (v : List Char) (tag : Nat) (st : Style) (l : Loc) : R Val :=
  if (tag == tagNull || scalarIsNullish v st) && tag != tagString then
    match c.next with
    | .err e c => .err e c
    | .ok _ c => .err ⟨"NullIntoString", l, 0⟩ c
  else if cfg.noSchema && maybeNotString v st && tag != tagString then
    match c.next with
    | .err e c => .err e c
    | .ok _ c => .err ⟨"QuotingRequired", l, 0⟩ c
  else if tag == tagBinary && !cfg.ignoreBinaryTagForString then
    match takeStringScalar cfg c with
    | .err e c => .err e c
    | .ok s c => .ok (.str s) c
  else if !canParseIntoString tag && tag != tagNonSpecific && !(cfg.ignoreBinaryTagForString && tag == tagBinary) then
    .err ⟨"TaggedScalarCannotDeserializeIntoString", l, 0⟩ c
  else
    match c.next with
    | .err e c => .err e c
    | .ok _ c => .ok (.str v) c

theorem deserString_eq (cfg : Cfg) (c : Cur) :
    deserString cfg c =
      match c.peek with
      | .err e c => .err e c
      | .ok (some (.scalar v tag _ st _ l)) c => strScalar cfg c v tag st l
      | .ok _ c =>
        match takeStringScalar cfg c with
        | .err e c => .err e c
        | .ok s c => .ok (.str s) c := by
  unfold deserString
  rfl

/-- `collectLoop` after a key node has been captured (`De.lean`, `if isMergeKey key then …`): a nested merge is
collected from the cursor, an own field is completed by its value node -/
def clEntry (fuel : Nat) (c : Cur) (ref : Loc) (fields : List PendingEntry) (merges : List (List PendingEntry))
    (key : KeyNode) : R (List PendingEntry) :=
  if isMergeKey key then
    match c.peek with
    | .err e c => .err e c
    | .ok _ c =>
      let mref := c.refLoc
      match pendingFromLive fuel c mref with
      | .err e c => .err e c
      | .ok es c => collectLoop fuel c ref fields (es :: merges)
  else
    match capture fuel c with
    | .err e c => .err e c
    | .ok value c => collectLoop fuel c ref (fields ++ [⟨key, value, ref⟩]) merges

theorem collectLoop_succ (fuel : Nat) (c : Cur) (ref : Loc) (fields : List PendingEntry)
    (merges : List (List PendingEntry)) :
    collectLoop (fuel + 1) c ref fields merges =
      match c.peek with
      | .err e c => .err e c
      | .ok none c => .err (eofErr c) c
      | .ok (some (.mapEnd _)) c =>
        match c.next with
        | .err e c => .err e c
        | .ok _ c => .ok (fields ++ merges.foldl (fun acc b => acc ++ b) []) c
      | .ok (some _) c =>
        match capture fuel c with
        | .err e c => .err e c
        | .ok key c => clEntry fuel c ref fields merges key := by
  rw [collectLoop]
  rfl

/-- `deserMapLike`, a mapping proper (`De.lean`, the `else` of `if isNull`): the `MappingStart` is taken and the
entries are read by the visitor's loop -/
def mapProper (fuel : Nat) (cfg : Cfg) (shape : (Ty × Ty) ⊕ (List (String × Ty) × Bool)) (c : Cur) : R Val :=
  match c.next with
  | .err e c => .err e c
  | .ok none c => .err (eofErr c) c
  | .ok (some (.mapStart ..)) c =>
    match shape with
    | .inl (k, v) =>
      match mapEntries fuel cfg k v c {} [] with
      | .err e c => .err e c
      | .ok es c => .ok (.map es) c
    | .inr (fields, deny) =>
      match structEntries fuel cfg fields deny c {} [] with
      | .err e c => .err e c
      | .ok got c => structFinish fields got c
  | .ok (some other) c => .err ⟨"Unexpected", other.loc, 0⟩ c

/-- `deserMapLike`, a null-like scalar (`De.lean`, `if isNull then …`): the empty mapping / the struct of defaults -/
def mapNull (shape : (Ty × Ty) ⊕ (List (String × Ty) × Bool)) (c : Cur) : R Val :=
  match c.next with
  | .err e c => .err e c
  | .ok _ c =>
    match shape with
    | .inl _ => .ok (.map []) c
    | .inr (fields, _) => structFinish fields [] c

theorem deserMapLike_succ (fuel : Nat) (cfg : Cfg) (shape : (Ty × Ty) ⊕ (List (String × Ty) × Bool)) (c : Cur) :
    deserMapLike (fuel + 1) cfg shape c =
      match c.peek with
      | .err e c => .err e c
      | .ok pk c =>
        if (match pk with
          | some (.scalar v tag _ st _ _) => tag == tagNull || scalarIsNullish v st
          | _ => false) then mapNull shape c
        else mapProper fuel cfg shape c := by
  rw [deserMapLike]
  rfl

/-- `deserEnum` on a scalar (`De.lean`, the scalar arm): `Variant` or `!Variant payload`; a tag that names a variant
selects it and the scalar is replayed as its payload, otherwise the scalar is the variant name -/
def enumScalar (fuel : Nat) (cfg : Cfg) (name : String) (variants : List (String × VTy)) (c : Cur) (v : List Char)
    (tag : Nat) (rawTag : Option (List Char)) (st : Style) (anchor : Nat) (l : Loc) : R Val :=
  let tagged := simpleTaggedEnumName rawTag tag
  if cfg.noSchema && tag != tagString && maybeNotString v st then
    match c.next with
    | .err e c => .err e c
    | .ok _ c => .err ⟨"QuotingRequired", l, 0⟩ c
  else
    let taggedVariant := match tagged with
      | some tn => if (lookupField variants tn).isSome then some tn else none
      | none => none
    match taggedVariant with
    | some tn =>
      let c0 := c
      match c.next with
      | .err e c => .err e c
      | .ok _ c =>
        let rc := Cur.replay [.scalar v tagString none st anchor l] 0 (tagUseSite c0 l)
        match variantPayload fuel cfg variants tn l false true rc with
        | .err e _ => .err e c
        | .ok val _ => .ok val c
    | none =>
      match c.next with
      | .err e c => .err e c
      | .ok _ c =>
        match tagged with
        | some tn =>
          if String.ofList tn != name then .err ⟨"TaggedEnumMismatch", l, 0⟩ c
          else variantPayload fuel cfg variants v l false false c
        | none => variantPayload fuel cfg variants v l false false c

/-- `deserEnum` on a mapping (`De.lean`, the `mapStart` arm): `{ Variant: payload }`, the key names the variant -/
def enumMap (fuel : Nat) (cfg : Cfg) (variants : List (String × VTy)) (c : Cur) : R Val :=
  match c.next with
  | .err e c => .err e c
  | .ok _ c =>
    match c.next with
    | .err e c => .err e c
    | .ok none c => .err (eofErr c) c
    | .ok (some (.scalar v tag _ st _ l)) c =>
      if cfg.noSchema && tag != tagString && maybeNotString v st then .err ⟨"QuotingRequired", l, 0⟩ c
      else variantPayload fuel cfg variants v l true false c
    | .ok (some other) c => .err ⟨"ExpectedStringKeyForExternallyTaggedEnum", other.loc, 0⟩ c

/-- `deserEnum` on a sequence (`De.lean`, the `seqStart` arm): `!Variant [ … ]`, the tagged sequence is recorded and
replayed without its tag as the payload of the variant -/
def enumSeq (fuel : Nat) (cfg : Cfg) (variants : List (String × VTy)) (c : Cur) (anchor tag : Nat)
    (rawTag : Option (List Char)) (l : Loc) : R Val :=
  match simpleTaggedEnumName rawTag tag with
  | some tn =>
    if (lookupField variants tn).isSome then
      let c0 := c
      match c.next with
      | .err e c => .err e c
      | .ok _ c =>
        match collectTaggedSeq fuel c 1 [.seqStart anchor tagNone none l] with
        | .err e c => .err e c
        | .ok evs c =>
          let rc := Cur.replay evs 0 (tagUseSite c0 l)
          match variantPayload fuel cfg variants tn l false true rc with
          | .err e _ => .err e c
          | .ok val _ => .ok val c
    else .err ⟨"ExternallyTaggedEnumExpectedScalarOrMapping", l, 0⟩ c
  | none => .err ⟨"ExternallyTaggedEnumExpectedScalarOrMapping", l, 0⟩ c

theorem deserEnum_succ (fuel : Nat) (cfg : Cfg) (name : String) (variants : List (String × VTy)) (c : Cur) :
    deserEnum (fuel + 1) cfg name variants c =
      match c.peek with
      | .err e c => .err e c
      | .ok none c => .err (eofErr c) c
      | .ok (some (.scalar v tag rawTag st anchor l)) c => enumScalar fuel cfg name variants c v tag rawTag st anchor l
      | .ok (some (.mapStart ..)) c => enumMap fuel cfg variants c
      | .ok (some (.seqStart anchor tag rawTag l)) c => enumSeq fuel cfg variants c anchor tag rawTag l
      | .ok (some (.seqEnd l)) c => .err ⟨"UnexpectedSequenceEnd", l, 0⟩ c
      | .ok (some (.mapEnd l)) c => .err ⟨"UnexpectedMappingEnd", l, 0⟩ c := by
  rw [deserEnum]
  rfl

end SaphyrVerif.De
