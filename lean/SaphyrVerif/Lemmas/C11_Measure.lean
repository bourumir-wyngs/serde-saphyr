import SaphyrVerif.Model.De
import SaphyrVerif.Lemmas.PumpEqns
/-!
A lexicographic progress measure for the pump under a live cursor (`Lemmas/C11_Cursor.lean` turns it into the order `Le` / `Lt`).

`A` = number of remaining parser items; `B` = number of replay events not yet served by the inject
stack + 1 if the look-ahead is filled + 1 if nothing was produced yet (the pump may still synthesise a
null document).  Every `next` / `peek` is non-increasing in `(A, B)`, and every `next` that delivers an
event is strictly decreasing.
-/
namespace SaphyrVerif.Lemmas.C11
open SaphyrVerif SaphyrVerif.Scalars SaphyrVerif.Pump SaphyrVerif.De

def injRemaining (as : List (Nat × List Ev)) : List InjectFrame → Nat
  | [] => 0
  | fr :: rest => (((lookupAnchor as fr.anchorId).map List.length).getD 0 - fr.idx) + injRemaining as rest

def lookBit (p : Pump) : Nat := if p.look.isSome then 1 else 0
def prodBit (p : Pump) : Nat := if p.producedAny then 0 else 1

def pumpB (p : Pump) : Nat := injRemaining p.anchors p.inject + lookBit p + prodBit p

def evt : Step → Nat
  | .event _ => 1
  | _ => 0

theorem injRemaining_spent {as : List (Nat × List Ev)} (fs : List InjectFrame) :
    ∀ {dead : List InjectFrame}, (∀ fr ∈ dead, C02.Exhausted as fr) → injRemaining as (dead ++ fs) = injRemaining as fs
  | [], _ => rfl
  | fr :: dead, h => by
    obtain ⟨⟨buf, hl, hle⟩, h⟩ := List.forall_mem_cons.mp h
    simp only [List.cons_append, injRemaining, hl, Option.map_some, Option.getD_some, injRemaining_spent fs h]
    omega

theorem served_measure {p : Pump} {fs : List InjectFrame} {r : Option Step} {p' : Pump} (h : Served p fs r p') :
    p'.anchors = p.anchors ∧ prodBit p' ≤ prodBit p ∧
      injRemaining p.anchors p'.inject + evt (r.getD .eof) ≤ injRemaining p.anchors fs := by
  cases h with
  | fall => exact ⟨rfl, Nat.le_refl _, Nat.zero_le _⟩
  | unknown dead fr rest e hd hl => exact ⟨rfl, Nat.le_refl _, by rw [e, injRemaining_spent _ hd]; exact Nat.le_refl _⟩
  | limit dead fr rest buf e hd hl hi hm | breach dead fr rest buf b e hd hl hi hm hb =>
    refine ⟨rfl, Nat.le_refl _, ?_⟩
    rw [e, injRemaining_spent _ hd]
    simp only [injRemaining, hl, Option.map_some, Option.getD_some, Option.getD_some, evt]
    omega
  | event dead fr rest buf bud e hd hl hi hm hb =>
    refine ⟨rfl, by simp [prodBit], ?_⟩
    rw [e, injRemaining_spent _ hd]
    simp only [injRemaining, hl, Option.map_some, Option.getD_some, evt]
    omega

/-- progress of `nextImpl`: a live replay frame answers and the replay debt goes down, or the parser loop consumes an
item — or, at the end of the input, delivers the one synthesized null event -/
theorem nextImpl_measure (p : Pump) (inp : List RawItem) :
    (nextImpl p inp).2.2.length < inp.length ∨
      ((nextImpl p inp).2.2.length = inp.length ∧
        pumpB (nextImpl p inp).2.1 + evt (nextImpl p inp).1 ≤ pumpB p) := by
  have hlook := nextImpl_look p inp
  rcases hn : nextImpl p inp with ⟨s, p', rest⟩
  rw [hn] at hlook
  simp only at hlook ⊢
  cases call_of hn with
  | served hs =>
    obtain ⟨ha, hp, hi⟩ := served_measure hs
    refine .inr ⟨rfl, ?_⟩
    simp only [pumpB, lookBit, ha, hlook, Option.getD_some] at hi ⊢
    omega
  | loop hs hl =>
    have h0 := injRemaining_spent (as := p.anchors) [] hs
    rw [List.append_nil] at h0
    cases inp with
    | cons it tl =>
      have := parserLoop_length_lt { p with inject := [] } (it :: tl) (by simp)
      rw [hl.eq] at this
      exact .inl this
    | nil =>
      refine .inr ?_
      cases hl with
      | null _ h => simp [pumpB, lookBit, prodBit, evt, injRemaining, h0] at h ⊢; simp [h]
      | eof _ h => simp [pumpB, lookBit, prodBit, evt, injRemaining, h0]

end SaphyrVerif.Lemmas.C11
