import SaphyrVerif.Lemmas.C11_TypedLoop
/-!
Typed multi-document theorems (C11): the batch loop over a whole stream of good documents.
-/
namespace SaphyrVerif.Lemmas.C11T
open SaphyrVerif SaphyrVerif.Scalars SaphyrVerif.Pump SaphyrVerif.De SaphyrVerif.Spec SaphyrVerif.Entry
open SaphyrVerif.Lemmas.C11 (Boundary Doc)
open SaphyrVerif.Props.C11 (docsStream valuesOf)

theorem multi_end {L : AliasLimits} {q : Pump} (hq : Boundary L q) (hl : q.look = none) (hp : q.producedAny = true)
    (l1 : Loc) (cfg : Cfg) (ty : Ty) (m : Nat) (acc : List Val) :
    multiLoop cfg ty (m + 1) (.live q [.ev .streamEnd l1]) acc = .ok acc := by
  obtain ⟨p', inp2, hn⟩ := Lemmas.C11.step_streamEnd hq hp l1
  have hb : p'.budget = none := by
    have := nextImpl_budget_none q [.ev .streamEnd l1] hq.bud
    rw [hn] at this
    exact this
  simp [multiLoop, Cur.peek, Pump.peek, hl, hn, finishCur, Pump.finish, hb]

def allFine (cfg : Cfg) (ty : Ty) (evss : List (List Ev)) : Bool := evss.all fun evs => (perDoc cfg ty evs).fine

theorem allFine_iff {cfg : Cfg} {ty : Ty} {evss : List (List Ev)} : allFine cfg ty evss = true ↔
    ∀ evs ∈ evss, perDoc cfg ty evs = .skipped ∨ ∃ v, perDoc cfg ty evs = .clean v := by
  simp only [allFine, List.all_eq_true, DocRes.fine_iff]

theorem allFine_eq_false_iff {cfg : Cfg} {ty : Ty} {evss : List (List Ev)} : allFine cfg ty evss = false ↔
    ∃ evs ∈ evss, perDoc cfg ty evs = .failed ∨ ∃ v, perDoc cfg ty evs = .leftover v := by
  simp only [allFine, List.all_eq_false, Bool.not_eq_true, DocRes.fine_eq_false_iff]

theorem valuesOf_cons (cfg : Cfg) (ty : Ty) (evs : List Ev) (evss : List (List Ev)) :
    valuesOf cfg ty (evs :: evss) = valuesOf cfg ty [evs] ++ valuesOf cfg ty evss :=
  List.filterMap_append (l := [evs])

/-- THE induction for the batch loop: over good documents followed by anything (`Y`).  If every document is fine the
loop arrives at `Y`, at a document boundary, with the values of the documents — for EVERY fuel, because
`multiLoop 0` is `OutOfFuel` whatever cursor and accumulator it is given: out of fuel on the way is out of fuel at
`Y`.  Otherwise it fails, whatever `Y` is. -/
theorem multi_stream {L : AliasLimits} (cfg : Cfg) (ty : Ty) (Y : List RawItem) :
    ∀ (ds : List Doc) (evss : List (List Ev)) (q : Pump), DocsOk L ds evss → Boundary L q → q.look = none →
      (allFine cfg ty evss = true → ∃ q2, Boundary L q2 ∧ q2.look = none ∧
        (q.producedAny = true ∨ ds ≠ [] → q2.producedAny = true) ∧
        ∀ fuel acc, multiLoop cfg ty fuel (.live q (docsStream ds ++ Y)) acc =
          multiLoop cfg ty (fuel - ds.length) (.live q2 Y) (acc ++ valuesOf cfg ty evss)) ∧
      (allFine cfg ty evss = false → ∀ fuel acc, ∃ e,
        multiLoop cfg ty fuel (.live q (docsStream ds ++ Y)) acc = .error e) := by
  intro ds
  induction ds with
  | nil =>
    intro evss q hds hq hl
    cases evss with
    | cons _ _ => exact hds.elim
    | nil =>
      exact ⟨fun _ => ⟨q, hq, hl, fun h => h.elim id (fun h => absurd rfl h),
        fun fuel acc => by simp [docsStream, valuesOf]⟩, fun h => by simp [allFine] at h⟩
  | cons d ds ih =>
    intro evss q hds hq hl
    obtain ⟨t, ex, ls, le⟩ := d
    cases evss with
    | nil => exact hds.elim
    | cons evs evss' =>
      obtain ⟨hd, hrest⟩ := hds
      obtain ⟨hgo, hbad⟩ := multi_doc hd hq hl ex ls le (docsStream ds ++ Y) cfg ty
      rw [docsStream_cons, valuesOf_cons,
        show allFine cfg ty (evs :: evss') = ((perDoc cfg ty evs).fine && allFine cfg ty evss') from List.all_cons]
      cases hfine : (perDoc cfg ty evs).fine with
      | false => exact ⟨fun h => (by simp at h), fun _ => hbad hfine⟩
      | true =>
        obtain ⟨q2, hb2, hl2, hp2, heq⟩ := hgo hfine
        obtain ⟨ihT, ihF⟩ := ih evss' q2 hrest hb2 hl2
        rw [Bool.true_and]
        refine ⟨fun hT => ?_, fun hF fuel acc => ?_⟩
        · obtain ⟨q3, hb3, hl3, h0, heq3⟩ := ihT hT
          refine ⟨q3, hb3, hl3, fun _ => h0 (.inl hp2), fun fuel acc => ?_⟩
          rw [heq, heq3, Nat.sub_sub, Nat.add_comm 1, List.length_cons, List.append_assoc]
        · rw [heq]
          exact ihF hF _ _

theorem multi_docs_ok {L : AliasLimits} (l1 : Loc) (cfg : Cfg) (ty : Ty)
    (ds : List Doc) (evss : List (List Ev)) (q : Pump) (fuel : Nat) (acc : List Val)
    (hds : DocsOk L ds evss) (hq : Boundary L q) (hl : q.look = none) (hp : ds = [] → q.producedAny = true)
    (hfine : allFine cfg ty evss = true) (hf : ds.length + 1 ≤ fuel) :
    multiLoop cfg ty fuel (.live q (docsStream ds ++ [.ev .streamEnd l1])) acc = .ok (acc ++ valuesOf cfg ty evss) := by
  obtain ⟨q2, hb2, hl2, h0, heq⟩ := (multi_stream cfg ty [.ev .streamEnd l1] ds evss q hds hq hl).1 hfine
  obtain ⟨m, hm⟩ : ∃ m, fuel - ds.length = m + 1 := ⟨fuel - ds.length - 1, by omega⟩
  rw [heq, hm]
  refine multi_end hb2 hl2 (h0 ?_) l1 cfg ty m _
  by_cases hds' : ds = []
  · exact .inl (hp hds')
  · exact .inr hds'

end SaphyrVerif.Lemmas.C11T
