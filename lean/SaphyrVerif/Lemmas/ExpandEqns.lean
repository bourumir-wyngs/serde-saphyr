import SaphyrVerif.Spec.Expand
/-!
The specification `expand` as a composition: a list of nodes or entries is the sequential composition (`bind2`) of
its members, a container is its children wrapped in its start and end events (`wrap`).  The four equations, and what
a successful `bind2` / `wrap` consists of, are what every induction over `expand` uses in place of the nested
`match`es of its definition.
-/
namespace SaphyrVerif.Lemmas.C02
open SaphyrVerif SaphyrVerif.Scalars SaphyrVerif.Pump SaphyrVerif.Spec

def bind2 (res1 : Except ExpErr Exp) (res2 : Tab → Except ExpErr Exp) : Except ExpErr Exp :=
  match res1 with
  | .error e => .error e
  | .ok r1 =>
    match res2 r1.tab with
    | .error e => .error e
    | .ok r2 => .ok ⟨r1.evs ++ r2.evs, r2.tab, r1.replayed + r2.replayed⟩

def wrap (a : Nat) (ev eend : Ev) (res : Except ExpErr Exp) : Except ExpErr Exp :=
  match res with
  | .error e => .error e
  | .ok r =>
    .ok ⟨ev :: (r.evs ++ [eend]), if a != 0 then setAnchor r.tab a (ev :: (r.evs ++ [eend])) else r.tab, r.replayed⟩

theorem bind2_ok {res1 : Except ExpErr Exp} {res2 : Tab → Except ExpErr Exp} {r : Exp} (h : bind2 res1 res2 = .ok r) :
    ∃ r1 r2, res1 = .ok r1 ∧ res2 r1.tab = .ok r2 ∧ r = ⟨r1.evs ++ r2.evs, r2.tab, r1.replayed + r2.replayed⟩ := by
  unfold bind2 at h
  split at h
  · cases h
  · rename_i r1
    split at h
    · cases h
    · rename_i r2 h2
      cases h
      exact ⟨r1, r2, rfl, h2, rfl⟩

theorem wrap_ok {a : Nat} {ev eend : Ev} {res : Except ExpErr Exp} {r : Exp} (h : wrap a ev eend res = .ok r) :
    ∃ r1, res = .ok r1 ∧
      r = ⟨ev :: (r1.evs ++ [eend]), if a != 0 then setAnchor r1.tab a (ev :: (r1.evs ++ [eend])) else r1.tab,
        r1.replayed⟩ := by
  unfold wrap at h
  split at h
  · cases h
  · rename_i r1
    cases h
    exact ⟨r1, rfl, rfl⟩

theorem expand_alias_ok {σ : Tab} {opn : List Nat} {id : Nat} {loc : Loc} {r : Exp}
    (h : expand σ opn (.alias id loc) = .ok r) : lookupAnchor σ id = some r.evs ∧ r.tab = σ := by
  simp only [expand] at h
  split at h
  · cases h
  · split at h
    · cases h
    · rename_i buf hb
      cases h
      exact ⟨hb, rfl⟩

theorem expand_seq (σ : Tab) (opn : List Nat) (a : Nat) (tag : Option (List Char)) (loc eloc : Loc) (items : List LNode) :
    expand σ opn (.seq a tag loc eloc items) =
      wrap a (.seqStart a (tagCode tag) tag loc) (.seqEnd eloc) (expandL σ (if a != 0 then a :: opn else opn) items) := by
  rw [expand]
  cases expandL σ (if a != 0 then a :: opn else opn) items <;> rfl

theorem expand_map (σ : Tab) (opn : List Nat) (a : Nat) (tag : Option (List Char)) (loc eloc : Loc)
    (entries : List (LNode × LNode)) :
    expand σ opn (.map a tag loc eloc entries) =
      wrap a (.mapStart a loc) (.mapEnd eloc) (expandE σ (if a != 0 then a :: opn else opn) entries) := by
  rw [expand]
  cases expandE σ (if a != 0 then a :: opn else opn) entries <;> rfl

theorem expandL_cons (σ : Tab) (opn : List Nat) (t : LNode) (ts : List LNode) :
    expandL σ opn (t :: ts) = bind2 (expand σ opn t) (fun σ' => expandL σ' opn ts) := by
  rw [expandL]
  rfl

theorem expandE_cons (σ : Tab) (opn : List Nat) (k v : LNode) (es : List (LNode × LNode)) :
    expandE σ opn ((k, v) :: es) =
      bind2 (bind2 (expand σ opn k) (fun σ' => expand σ' opn v)) (fun σ' => expandE σ' opn es) := by
  rw [expandE]
  simp only [bind2]
  cases expand σ opn k with
  | error e => rfl
  | ok r1 =>
    simp only
    cases expand r1.tab opn v with
    | error e => rfl
    | ok r2 =>
      simp only
      cases expandE r2.tab opn es with
      | error e => rfl
      | ok r3 => rfl

end SaphyrVerif.Lemmas.C02
