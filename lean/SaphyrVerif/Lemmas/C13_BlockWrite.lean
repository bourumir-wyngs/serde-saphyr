import SaphyrVerif.Lemmas.C13_BlockLay
/-!
Block scalars (layout: `C13_BlockLay`), the EMITTER side.  `serialize_str` on a string of the auto-block
class, in each position of the fragment (`ValCtx`: right after `key:`; `ItemCtx`: right after `- ` / `? ` / `: `;
the root), writes exactly the text of the layout `blkStr` and leaves the state of a finished scalar behind.

The arm (`blockArm`) is the way to the header, which depends on the position (`blockArm_mid`, `blockArm_start`),
and then `blockEmit`, which writes the text of `blkStr` whatever the outcome — block style given up, folded,
literal (`blockEmit_eq`); the two writers in closed form are `literalBlock_eq`, `foldedBlockScalar_eq`.
-/
namespace SaphyrVerif.Emit

variable {o : Opts} {f : ScalarFns}

/-- the block-scalar arm of `serialize_str` from the point where the cursor stands at the header (the model's text, with
the layout's names `needsInd`, `hasCtl` for the two tests on the string); `wasMapValue` and `base` are what the arm
computed on its way there -/
def blockEmit (o : Opts) (f : ScalarFns) (v : List Char) (style : StrStyle) (wasMapValue : Bool) (base : Nat) (s : St) : St :=
    let bodyBase := base + 1
    let indentN := indentCols o s bodyBase
    let shallowInlineSeq := o.indentStep < 2 && !wasMapValue && base > 0
    if (needsInd v && (indentN > 9 || base > 0)) || shallowInlineSeq || hasCtl v || s.inFlow > 0 then
      let s := { s with pendingStrStyle := none, pendingStrFromAuto := false }
      let s := s.write (plainOrQuotedValue o f (s.inFlow > 0) v)
      writeEndOfScalar s
    else
      let s := match style with
        | .literal => literalBlock o v (needsInd v) bodyBase s
        | .folded => foldedBlockScalar o v (needsInd v) bodyBase s
      { s with pendingStrFromAuto := false }

/-- the block-scalar arm of `serialize_str`, on the state in which the pending style has been taken: the way to the
header (letter for letter the model's text, as `blockEmit` is: `serStr_of_autoSel_block` closes by `rfl` against `serStr`), then `blockEmit` -/
def blockArm (o : Opts) (f : ScalarFns) (v : List Char) (style : StrStyle) (s : St) : St :=
    let wasMapValue := s.pendingSpaceAfterColon
    let s := writeSpaceIfPending s
    let base := if wasMapValue then s.currentMapDepth.getD s.depth else s.afterDashDepth.getD s.depth
    let s := if s.atLineStart then writeIndent o s base else s
    blockEmit o f v style wasMapValue base s

theorem serStr_of_autoSel_block {v : List Char} {s : St} {style : StrStyle}
    (h : autoSel o f v s = { s with pendingStrStyle := some style, pendingStrFromAuto := true }) :
    serStr o f v s = blockArm o f v style { s with pendingStrStyle := none, pendingStrFromAuto := true } := by
  have h' := h
  simp only [autoSel] at h'
  simp only [serStr, h']
  rfl

theorem autoSel_block {v : List Char} {s : St} (ha : autoBlock o f v = true) (h1 : s.pendingStrStyle = none) (h2 : s.inFlow = 0) :
    autoSel o f v s =
      { s with pendingStrStyle := some (if v.contains '\n' then .literal else .folded), pendingStrFromAuto := true } := by
  simp [autoSel_eq, ha, h1, h2]

def bodyText (N : Nat) (lines : List (List Char)) : List Char := lines.flatMap fun l => spaces N ++ l ++ ['\n']

theorem foldl_writeBodyLine_eq (ind : List Char) : ∀ (lines : List (List Char)) (s : St), lines ≠ [] →
    lines.foldl (fun s l => writeBodyLine ind l s) s =
      { s with out := s.out ++ lines.flatMap (fun l => ind ++ l ++ ['\n']), atLineStart := true }
  | [], _, h => absurd rfl h
  | [l], s, _ => by simp [writeBodyLine, newline, List.append_assoc]
  | l :: l2 :: ls, s, _ => by
    rw [List.foldl_cons, foldl_writeBodyLine_eq ind (l2 :: ls) _ (by simp)]
    simp [writeBodyLine, newline, List.append_assoc]

theorem litLines_ne_nil (v : List Char) : litLines v ≠ [] := by
  unfold litLines
  cases h : splitNl (trimEndNl v) with
  | nil => exact absurd h (splitNl_ne_nil _)
  | cons a as => simp

@[simp] theorem indentCols_write (s : St) (cs : List Char) (d : Nat) : indentCols o (s.write cs) d = indentCols o s d := rfl
@[simp] theorem indentCols_newline (s : St) (d : Nat) : indentCols o (newline s) d = indentCols o s d := rfl

/-- `serialize_str`, literal arm after the header position: the header, a line break, the body lines -/
theorem literalBlock_eq (v : List Char) (ni : Bool) (bb : Nat) (s : St) (hc : (trimEndNl v).isEmpty = false) :
    literalBlock o v ni bb s =
      { s with out := s.out ++ ('|' :: (indChars ni (indentCols o s bb) ++ chompChars (trailNl v))) ++
                 '\n' :: bodyText (indentCols o s bb) (litLines v),
               atLineStart := true } := by
  have hbody : ∀ (ind : List Char) (st : St), (splitNl (trimEndNl v)).foldl (fun s' line => writeBodyLine ind line s') st =
      { st with out := st.out ++ (splitNl (trimEndNl v)).flatMap (fun l => ind ++ l ++ ['\n']), atLineStart := true } :=
    fun ind st => foldl_writeBodyLine_eq _ _ st (splitNl_ne_nil _)
  have hr : ∀ (t : Nat) (ind : List Char) (st : St), (List.range (t + 1)).foldl (fun s' _ => writeBodyLine ind [] s') st =
      { st with out := st.out ++ (List.replicate (t + 1) ([] : List Char)).flatMap (fun l => ind ++ l ++ ['\n']),
                atLineStart := true } := by
    intro t ind st
    rw [foldl_range_eq]
    exact foldl_writeBodyLine_eq _ _ st (by simp)
  unfold literalBlock
  simp only [hc, Bool.false_eq_true, if_false]
  unfold trailNl litLines bodyText
  generalize v.length - (trimEndNl v).length = t
  match t with
  | 0 => cases ni <;> simp [hbody, indChars, chompChars, St.write, newline, indentCols, List.append_assoc]
  | 1 => cases ni <;> simp [hbody, indChars, chompChars, St.write, newline, indentCols, List.append_assoc]
  | t + 2 =>
    cases ni <;>
      simp [hbody, hr, indChars, chompChars, St.write, newline, indentCols, List.append_assoc, List.flatMap_append]

/-- `serialize_str`, folded arm after the header position (automatic selection: the chomping indicator is written) -/
theorem foldedBlockScalar_eq (v : List Char) (ni : Bool) (bb : Nat) (s : St) (ha : s.pendingStrFromAuto = true) :
    foldedBlockScalar o v ni bb s =
      { s with out := s.out ++ ('>' :: (indChars ni (indentCols o s bb) ++ chompChars (trailNl v))) ++
                 '\n' :: foldedBlock v (indentCols o s bb) 1 o.foldedWrapCol,
               atLineStart := true } := by
  unfold foldedBlockScalar trailNl
  dsimp only
  generalize v.length - (trimEndNl v).length = t
  match t with
  | 0 => cases ni <;> simp [ha, indChars, chompChars, St.write, newline, indentCols, List.append_assoc]
  | 1 => cases ni <;> simp [ha, indChars, chompChars, St.write, newline, indentCols, List.append_assoc]
  | t + 2 => cases ni <;> simp [ha, indChars, chompChars, St.write, newline, indentCols, List.append_assoc]

theorem spaces_add (a b : Nat) : spaces (a + b) = spaces a ++ spaces b := by
  induction a with
  | zero => simp [spaces]
  | succ n ih =>
    simp only [spaces] at ih ⊢
    rw [show n + 1 + b = (n + b) + 1 by omega, List.replicate_succ, List.replicate_succ, ih]; rfl

theorem render_bodyLineAt (N : Nat) (x : List Char) :
    spaces (bodyLineAt N x).indent ++ (bodyLineAt N x).text = spaces N ++ x := by
  simp only [bodyLineAt, spaces_add, List.append_assoc]
  congr 1
  have h1 : spaces (x.takeWhile (· == ' ')).length = x.takeWhile (· == ' ') := (takeWhile_space_replicate x).symm
  rw [h1, List.takeWhile_append_dropWhile]

theorem renderLines_body (N : Nat) (lines : List (List Char)) :
    renderLines (lines.map (bodyLineAt N)) = bodyText N lines := by
  induction lines with
  | nil => rfl
  | cons x xs ih =>
    simp only [List.map_cons, renderLines_cons, ih, bodyText, List.flatMap_cons, render_bodyLineAt]

theorem render_mkLine (raw : List Char) : spaces (mkLine raw).indent ++ (mkLine raw).text = raw := by
  simpa [bodyLineAt, mkLine, spaces] using render_bodyLineAt 0 raw

theorem splitNl_snoc_nl : ∀ (t : List Char), splitNl (t ++ ['\n']) = splitNl t ++ [[]]
  | [] => rfl
  | c :: cs => by
    have ih := splitNl_snoc_nl cs
    simp only [List.cons_append]
    rw [splitNl_cons, splitNl_cons, ih]
    cases h : splitNl cs with
    | nil => exact absurd h (splitNl_ne_nil cs)
    | cons l ls => by_cases hc : c = '\n' <;> simp [hc]

theorem flat_nl_eq : ∀ (ls : List (List Char)), ls ≠ [] → ls.flatMap (· ++ ['\n']) = joinNl ls ++ ['\n']
  | [], h => absurd rfl h
  | [l], _ => by simp [joinNl]
  | l :: l2 :: ls, _ => by
    have ih := flat_nl_eq (l2 :: ls) (by simp)
    have e : joinNl (l :: l2 :: ls) = l ++ ['\n'] ++ joinNl (l2 :: ls) := rfl
    rw [List.flatMap_cons, ih, e]
    simp [List.append_assoc]

theorem render_textLines (t : List Char) : renderLines (textLines (t ++ ['\n'])) = t ++ ['\n'] := by
  have h1 : textLines (t ++ ['\n']) = (splitNl t).map mkLine := by
    simp [textLines, splitNl_snoc_nl]
  have h2 : ∀ ls : List (List Char), renderLines (ls.map mkLine) = ls.flatMap (· ++ ['\n']) := by
    intro ls
    induction ls with
    | nil => rfl
    | cons x xs ih => simp only [List.map_cons, renderLines_cons, ih, List.flatMap_cons, render_mkLine]
  rw [h1, h2, flat_nl_eq _ (splitNl_ne_nil t), joinNl_splitNl]

theorem foldedLine_snoc (ind : List Char) (w : Nat) (line : List Char) : ∃ x, foldedLine ind w line = x ++ ['\n'] := by
  unfold foldedLine
  split
  · exact ⟨_, rfl⟩
  · split
    · exact ⟨_, rfl⟩
    · exact ⟨_, rfl⟩

theorem foldedBlock_snoc (s : List Char) (N k w : Nat) : ∃ x, foldedBlock s N k w = x ++ ['\n'] := by
  unfold foldedBlock
  have : ∀ ls : List (List Char), ls ≠ [] → ∃ x, ls.flatMap (foldedLine (spaces (k * N)) w) = x ++ ['\n'] := by
    intro ls
    induction ls with
    | nil => intro h; exact absurd rfl h
    | cons l ls ih =>
      intro _
      cases ls with
      | nil =>
        obtain ⟨x, hx⟩ := foldedLine_snoc (spaces (k * N)) w l
        exact ⟨x, by simp [hx]⟩
      | cons l2 ls2 =>
        obtain ⟨x, hx⟩ := ih (by simp)
        exact ⟨foldedLine (spaces (k * N)) w l ++ x, by rw [List.flatMap_cons, hx, List.append_assoc]⟩
  exact this _ (splitNl_ne_nil s)

theorem render_foldedBlock (s : List Char) (N k w : Nat) :
    renderLines (textLines (foldedBlock s N k w)) = foldedBlock s N k w := by
  obtain ⟨x, hx⟩ := foldedBlock_snoc s N k w
  rw [hx, render_textLines]

theorem needsInd_eq (v : List Char) : decide (firstLineLeadingSpaces (trimEndNl v) > 0) = needsInd v := rfl
theorem hasCtl_eq (v : List Char) : (v.any fun c => isControl c && c != '\n' && c != '\t') = hasCtl v := rfl

/-- what the literal / folded writers need to know about the string: a literal block has content -/
def BlockOk (v : List Char) : Prop := v.contains '\n' = true → (trimEndNl v).isEmpty = false

/-- what the arm writes from the header on for a leaf in position `pos` of the layout: the text of `blkStr`, whichever
the outcome (block style given up, folded, literal).  `hN`, `hpar`, `hsh`: the column, the depth and the flag the
emitter goes by say what `bodyCol`, `parentCol` and `blockFallback` say of the position. -/
theorem blockEmit_eq {v : List Char} (ha : autoBlock o f v = true) (hb : BlockOk v) {s : St} {wmv : Bool} {base : Nat}
    {pos : StrPos} (hif : s.inFlow = 0) (hpic : s.pendingInlineComment = none) (hpss : s.pendingStrStyle = none)
    (hauto : s.pendingStrFromAuto = true)
    (hsh : (decide (o.indentStep < 2) && !wmv && decide (base > 0)) =
      (match pos with
       | .item c => decide (o.indentStep < 2) && decide (c > 0)
       | _ => false))
    (hN : indentCols o s (base + 1) = bodyCol o.indentStep pos) (hpar : decide (base > 0) = decide (parentCol pos > 0)) :
    blockEmit o f v (if v.contains '\n' then .literal else .folded) wmv base s =
      { s with out := s.out ++ (blkStr o f o.indentStep pos v).1 ++ '\n' :: renderLines (blkStr o f o.indentStep pos v).2,
               atLineStart := true, pendingStrFromAuto := false } := by
  have hfb : ((needsInd v && (decide (indentCols o s (base + 1) > 9) || decide (base > 0))) ||
      (decide (o.indentStep < 2) && !wmv && decide (base > 0)) || hasCtl v) = blockFallback o.indentStep pos v := by
    rw [hsh, hN, hpar]; rfl
  have h0 : decide (s.inFlow > 0) = false := by rw [hif]; rfl
  unfold blockEmit
  simp only [h0, Bool.or_false, hfb, blkStr, ha, if_true]
  cases blockFallback o.indentStep pos v
  · cases hn : v.contains '\n'
    · simp [foldedBlockScalar_eq, hauto, hN, foldLeaf, render_foldedBlock, blockHdr, List.append_assoc]
    · simp [literalBlock_eq _ _ _ _ (hb hn), hN, litLeaf, renderLines_body, blockHdr, List.append_assoc]
  · simp [writeEndOfScalar, newline, St.write, hif, hpic, hpss]

/-- `base > 0` is the emitter's test for a parent that is not at column 0 -/
theorem Col.pos {s : St} {d c : Nat} (h : Col o s d c) : decide (d > 0) = decide (c > 0) := by
  have := h.2
  by_cases hd : d = 0
  · simp [hd, this.mp hd]
  · simp [Nat.pos_of_ne_zero hd, Nat.pos_of_ne_zero fun e => hd (this.mpr e)]

/-- the block arm of `serialize_str` in the middle of a line (right after `key:`, `- `, `? ` or `: `), the parent node at
depth `base`, column `c`: the text of `blkStr` for the position, after the deferred blank of `key:` -/
theorem blockArm_mid (ho : FragOpts o) {v : List Char} (ha : autoBlock o f v = true) (hb : BlockOk v) {s : St} {base c : Nat}
    {pos : StrPos} (hals : s.atLineStart = false) (hif : s.inFlow = 0) (hpic : s.pendingInlineComment = none)
    (hpss : s.pendingStrStyle = none) (hauto : s.pendingStrFromAuto = true) (hcol : Col o s base c)
    (hpos : (s.pendingSpaceAfterColon = true ∧ s.currentMapDepth.getD s.depth = base ∧ pos = .val c) ∨
      (s.pendingSpaceAfterColon = false ∧ s.afterDashDepth.getD s.depth = base ∧ pos = .item c)) :
    blockArm o f v (if v.contains '\n' then .literal else .folded) s =
      { s with out := s.out ++ (if s.pendingSpaceAfterColon then [' '] else []) ++ (blkStr o f o.indentStep pos v).1 ++
                 '\n' :: renderLines (blkStr o f o.indentStep pos v).2,
               pendingSpaceAfterColon := false, lastValueWasBlock := false, atLineStart := true, pendingStrFromAuto := false } := by
  have hic := indentCols_col (hcol.succ ho.indent)
  rcases hpos with ⟨hpsc, hbase, rfl⟩ | ⟨hpsc, hbase, rfl⟩
  · have h := blockEmit_eq ha hb (s := { s with out := s.out ++ [' '], pendingSpaceAfterColon := false, lastValueWasBlock := false })
      (wmv := true) (pos := .val c) hif hpic hpss hauto (by simp) (hic _ rfl) hcol.pos
    simpa [blockArm, writeSpaceIfPending, St.write, hals, hpsc, hbase, List.append_assoc] using h
  · have h := blockEmit_eq ha hb (s := { s with lastValueWasBlock := false }) (wmv := false) (pos := .item c) hif hpic hpss hauto
      (by simp [hcol.pos]) (hic _ rfl) hcol.pos
    simpa [blockArm, writeSpaceIfPending, hals, hpsc, hbase] using h

/-- the way to the header at the root, from the initial state as from `startSt o`: `write_indent 0`, which writes the
prologue if it is still due -/
theorem blockArm_start (v : List Char) (style : StrStyle) (auto : Bool) {s : St} (hs : s = {} ∨ s = startSt o) :
    blockArm o f v style { s with pendingStrStyle := none, pendingStrFromAuto := auto } =
      blockEmit o f v style false 0 { startSt o with pendingStrFromAuto := auto, atLineStart := false } := by
  rcases hs with rfl | rfl <;> cases hy : o.yaml12 <;>
    simp [blockArm, writeSpaceIfPending, writeIndent, St.write, startSt, prologue, hy, prologueText_eq, indentCols, spaces]

theorem serStr_block (ho : FragOpts o) {v : List Char} (ha : autoBlock o f v = true) (hb : BlockOk v) :
    LeafWrites o (fun st => .ok (serStr o f v st)) (fun pos => blkStr o f o.indentStep pos v) where
  val := fun s m c h => by
    rw [serStr_of_autoSel_block (autoSel_block ha h.pss h.inFlow),
      blockArm_mid ho ha hb (s := { s with pendingStrStyle := none, pendingStrFromAuto := true }) h.als h.inFlow h.pic rfl rfl h.col
        (Or.inl ⟨h.psc, h.base, rfl⟩)]
    exact ⟨_, rfl, by simp [h.psc], rfl, ⟨h.inFlow, h.pendingFlow, rfl, h.pic, h.doc⟩, rfl, rfl, rfl, rfl⟩
  item := fun s d c h => by
    rw [serStr_of_autoSel_block (autoSel_block ha h.pss h.inFlow),
      blockArm_mid ho ha hb (s := { s with pendingStrStyle := none, pendingStrFromAuto := true }) h.als h.inFlow h.pic rfl rfl h.col
        (Or.inr ⟨h.psc, by rw [h.add]; rfl, rfl⟩)]
    exact ⟨_, rfl, by simp [h.psc], rfl, ⟨h.inFlow, h.pendingFlow, rfl, h.pic, h.doc⟩, rfl, rfl, rfl, rfl⟩
  root := ⟨_, rfl, by
    have h := blockEmit_eq ha hb (s := { startSt o with pendingStrFromAuto := true, atLineStart := false }) (wmv := false) (base := 0)
      (pos := .root) rfl rfl rfl rfl (by simp) (by simp [indentCols, bodyCol]) rfl
    rw [serStr_of_autoSel_block (autoSel_block ha rfl rfl), blockArm_start v _ true (Or.inr rfl), h]
    simp [spaces]⟩
  init := by
    rw [serStr_of_autoSel_block (autoSel_block ha rfl rfl), serStr_of_autoSel_block (autoSel_block ha rfl rfl),
      blockArm_start v _ true (Or.inl rfl), blockArm_start v _ true (Or.inr rfl)]

end SaphyrVerif.Emit
