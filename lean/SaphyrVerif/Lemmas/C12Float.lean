import SaphyrVerif.Model.SerScalar
import SaphyrVerif.Model.FloatDec
/-!
Helper lemmas for C12, floats: `push_float_string`'s normalisation of zmij's digit string.
zmij is external; its documented output shape is `[-]digits[.digits][e[-]digits]`. Strings of that shape
are described by their parts (`ZmijParts`), so "for every string of the shape" is "for all parts".
-/
namespace SaphyrVerif.Lemmas.C12
open SaphyrVerif SaphyrVerif.SerScalar

structure ZmijParts where
  neg : Bool
  ip : List Char                          -- integer digits (non-empty)
  fp : Option (List Char)                 -- fraction digits after `.` (non-empty when present)
  exp : Option (Bool × List Char)         -- exponent: negative?, digits (non-empty)

def allDigits (l : List Char) : Prop := ∀ c ∈ l, FloatDec.isDigit c = true

def ZmijParts.wf (p : ZmijParts) : Prop :=
  p.ip ≠ [] ∧ allDigits p.ip ∧
  (∀ f, p.fp = some f → f ≠ [] ∧ allDigits f) ∧
  (∀ en ed, p.exp = some (en, ed) → ed ≠ [] ∧ allDigits ed)

def signText (neg : Bool) : List Char := if neg then ['-'] else []

def ZmijParts.mant (p : ZmijParts) : List Char :=
  signText p.neg ++ p.ip ++ (match p.fp with | some f => '.' :: f | none => [])

/-- the string zmij prints -/
def ZmijParts.text (p : ZmijParts) : List Char :=
  p.mant ++ (match p.exp with | some (en, ed) => 'e' :: (signText en ++ ed) | none => [])

/-- the YAML float text: always a `.` in the mantissa, always a sign in the exponent -/
def ZmijParts.yaml (p : ZmijParts) : List Char :=
  signText p.neg ++ p.ip ++ ('.' :: (match p.fp with | some f => f | none => ['0'])) ++
    (match p.exp with | some (en, ed) => 'e' :: (if en then '-' else '+') :: ed | none => [])

theorem digit_facts {c : Char} (h : FloatDec.isDigit c = true) : c ≠ 'e' ∧ c ≠ 'E' ∧ c ≠ '.' ∧ c ≠ '-' ∧ c ≠ '+' := by
  simp only [FloatDec.isDigit, Bool.and_eq_true, decide_eq_true_eq] at h
  refine ⟨?_, ?_, ?_, ?_, ?_⟩ <;> (intro e; subst e; revert h; decide)

theorem findIdx_append {p : Char → Bool} (pre : List Char) (x : Char) (post : List Char)
    (h1 : ∀ c ∈ pre, p c = false) (h2 : p x = true) :
    (pre ++ x :: post).findIdx? p = some pre.length := by
  induction pre with
  | nil => simp [List.findIdx?_cons, h2]
  | cons a pre ih =>
    have ha := h1 a (by simp)
    have := ih (fun c hc => h1 c (by simp [hc]))
    simp [List.findIdx?_cons, ha, this]

theorem drop_len_succ (l : List Char) (x : Char) (r : List Char) : (l ++ x :: r).drop (l.length + 1) = r := by
  induction l with
  | nil => rfl
  | cons a l ih => simp [ih]

/-- `push_float_string` on a text without exponent: `.0` is appended when there is no decimal point -/
theorem normalize_mant (m : List Char) (h : ∀ c ∈ m, c ≠ 'e' ∧ c ≠ 'E') :
    normalizeFloatText m = if !m.contains '.' then m ++ ['.', '0'] else m := by
  have h1 : m.findIdx? (fun c => c == 'e') = none :=
    List.findIdx?_eq_none_iff.mpr fun c hc => beq_eq_false_iff_ne.mpr (h c hc).1
  have h2 : m.findIdx? (fun c => c == 'E') = none :=
    List.findIdx?_eq_none_iff.mpr fun c hc => beq_eq_false_iff_ne.mpr (h c hc).2
  simp only [normalizeFloatText, h1, h2]

/-- … and on a mantissa `m` in front of an exponent `e a`: the mantissa likewise, and a `+` is put in when
the exponent has no sign -/
theorem normalize_exp (m a : List Char) (h : ∀ c ∈ m, c ≠ 'e') :
    normalizeFloatText (m ++ 'e' :: a) =
      (if !m.contains '.' then m ++ ['.', '0'] else m) ++ 'e' :: (expSignInsert a ++ a) := by
  have h1 : (m ++ 'e' :: a).findIdx? (fun c => c == 'e') = some m.length :=
    findIdx_append _ _ _ (fun c hc => beq_eq_false_iff_ne.mpr (h c hc)) rfl
  simp only [normalizeFloatText, h1, List.take_left', List.drop_left', List.take_succ_cons, List.take_zero,
    drop_len_succ, List.append_assoc, List.cons_append, List.nil_append]

theorem mant_no_e (p : ZmijParts) (h : p.wf) : ∀ c ∈ p.mant, c ≠ 'e' ∧ c ≠ 'E' := by
  intro c hc
  unfold ZmijParts.mant signText at hc
  simp only [List.mem_append] at hc
  rcases hc with (hc | hc) | hc
  · split at hc
    · simp only [List.mem_singleton] at hc; subst hc; decide
    · cases hc
  · exact ⟨(digit_facts (h.2.1 c hc)).1, (digit_facts (h.2.1 c hc)).2.1⟩
  · cases hf : p.fp with
    | none => rw [hf] at hc; cases hc
    | some f =>
      rw [hf] at hc
      simp only [List.mem_cons] at hc
      rcases hc with hc | hc
      · subst hc; decide
      · have := (h.2.2.1 f hf).2 c hc
        exact ⟨(digit_facts this).1, (digit_facts this).2.1⟩

theorem mant_contains_dot (p : ZmijParts) (h : p.wf) : p.mant.contains '.' = p.fp.isSome := by
  unfold ZmijParts.mant signText
  have hip : '.' ∉ p.ip := fun hm => (digit_facts (h.2.1 _ hm)).2.2.1 rfl
  cases hf : p.fp <;> cases hn : p.neg <;> simp [hip]

/-- `push_float_string` on a finite value: the emitted text, for every string of zmij's shape -/
theorem normalize_parts (p : ZmijParts) (h : p.wf) : normalizeFloatText p.text = p.yaml := by
  have hnoe := mant_no_e p h
  have hdot := mant_contains_dot p h
  unfold ZmijParts.text ZmijParts.yaml
  cases he : p.exp with
  | none =>
    rw [List.append_nil, normalize_mant _ hnoe, hdot]
    unfold ZmijParts.mant
    cases p.fp <;> simp
  | some ee =>
    obtain ⟨en, ed⟩ := ee
    obtain ⟨hed, hdig⟩ := h.2.2.2 en ed he
    obtain ⟨d, ed', rfl⟩ := List.exists_cons_of_ne_nil hed
    obtain ⟨-, -, -, hm, hp⟩ := digit_facts (hdig d (by simp))
    have hsign : expSignInsert (signText en ++ d :: ed') = if en then [] else ['+'] := by
      cases en
      · unfold expSignInsert
        split
        · next heq => exact absurd (List.cons.inj heq).1 hp
        · next heq => exact absurd (List.cons.inj heq).1 hm
        · rfl
      · rfl
    dsimp only
    rw [normalize_exp _ _ fun c hc => (hnoe c hc).1, hdot, hsign]
    unfold ZmijParts.mant
    cases en <;> cases p.fp <;> simp [signText]

theorem tw_append (ds rest : List Char) (hd : allDigits ds)
    (hr : ∀ c r, rest = c :: r → FloatDec.isDigit c = false) :
    (ds ++ rest).takeWhile FloatDec.isDigit = ds ∧ (ds ++ rest).dropWhile FloatDec.isDigit = rest := by
  induction ds with
  | nil =>
    cases rest with
    | nil => exact ⟨rfl, rfl⟩
    | cons c r => simp [hr c r rfl]
  | cons a ds ih =>
    have ha := hd a (by simp)
    have := ih (fun c hc => hd c (by simp [hc]))
    simp [ha, this.1, this.2]

def expTxt (ex : Option (List Char × List Char)) : List Char :=
  match ex with
  | some (sg, ed) => 'e' :: (sg ++ ed)
  | none => []

def expVal (ex : Option (List Char × List Char)) : Int :=
  match ex with
  | some (sg, ed) => if sg = ['-'] then - (Int.ofNat (FloatDec.digitsVal ed)) else Int.ofNat (FloatDec.digitsVal ed)
  | none => 0

def fracTxt (fp : Option (List Char)) : List Char :=
  match fp with
  | some f => '.' :: f
  | none => []

def fracDigits (fp : Option (List Char)) : List Char :=
  match fp with
  | some f => f
  | none => []

theorem stripSign_digits (c : Char) (r : List Char) (h : FloatDec.isDigit c = true) : FloatDec.stripSign (c :: r) = (false, c :: r) := by
  obtain ⟨-, -, -, h1, h2⟩ := digit_facts h
  unfold FloatDec.stripSign
  split
  · rename_i heq; injection heq with e _; exact absurd e h1
  · rename_i heq; injection heq with e _; exact absurd e h2
  · rfl

theorem parseExp_expTxt (ex : Option (List Char × List Char))
    (h : ∀ sg ed, ex = some (sg, ed) → (sg = [] ∨ sg = ['-'] ∨ sg = ['+']) ∧ ed ≠ [] ∧ allDigits ed) :
    FloatDec.parseExp (expTxt ex) = some (expVal ex) := by
  cases ex with
  | none => rfl
  | some se =>
    obtain ⟨sg, ed⟩ := se
    obtain ⟨hsg, hne, hd⟩ := h sg ed rfl
    have hall : ed.all FloatDec.isDigit = true := List.all_eq_true.mpr hd
    have hemp : ed.isEmpty = false := by cases ed with | nil => exact absurd rfl hne | cons a b => rfl
    cases ed with
    | nil => exact absurd rfl hne
    | cons d ed' =>
      have hdd := hd d (by simp)
      rcases hsg with e | e | e <;> subst e
      · simp only [expTxt, List.nil_append, FloatDec.parseExp, beq_self_eq_true, Bool.true_or, if_true, stripSign_digits d ed' hdd]
        simp [hall, expVal]
      · simp only [expTxt, FloatDec.parseExp, beq_self_eq_true, Bool.true_or, if_true]
        show (match FloatDec.stripSign ('-' :: d :: ed') with | (eneg, dd) => _) = _
        simp [FloatDec.stripSign, hall, expVal]
      · simp only [expTxt, FloatDec.parseExp, beq_self_eq_true, Bool.true_or, if_true]
        show (match FloatDec.stripSign ('+' :: d :: ed') with | (eneg, dd) => _) = _
        simp [FloatDec.stripSign, hall, expVal]

theorem expTxt_head (ex : Option (List Char × List Char)) :
    ∀ c r, expTxt ex = c :: r → FloatDec.isDigit c = false ∧ c ≠ '.' := by
  intro c r h
  cases ex with
  | none => cases h
  | some se => obtain ⟨sg, ed⟩ := se; injection h with h1 _; subst h1; exact ⟨by decide, by decide⟩

theorem splitFrac_render (fp : Option (List Char)) (ex : Option (List Char × List Char))
    (hf : ∀ f, fp = some f → allDigits f) :
    FloatDec.splitFrac (fracTxt fp ++ expTxt ex) = (fracDigits fp, expTxt ex) := by
  cases fp with
  | some f =>
    have := tw_append f (expTxt ex) (hf f rfl) (fun c r h => (expTxt_head ex c r h).1)
    simp [fracTxt, fracDigits, FloatDec.splitFrac, this.1, this.2]
  | none =>
    simp only [fracTxt, fracDigits, List.nil_append]
    unfold FloatDec.splitFrac
    split
    · rename_i t heq; exact absurd rfl (expTxt_head ex '.' t heq).2
    · rfl

theorem parseDec_render (neg : Bool) (ip : List Char) (fp : Option (List Char)) (ex : Option (List Char × List Char))
    (hip : ip ≠ []) (hipd : allDigits ip) (hf : ∀ f, fp = some f → allDigits f)
    (hex : ∀ sg ed, ex = some (sg, ed) → (sg = [] ∨ sg = ['-'] ∨ sg = ['+']) ∧ ed ≠ [] ∧ allDigits ed) :
    FloatDec.parseDec (signText neg ++ ip ++ (fracTxt fp ++ expTxt ex)) =
      some (neg, FloatDec.digitsVal (ip ++ fracDigits fp), expVal ex - Int.ofNat (fracDigits fp).length) := by
  have hrest : ∀ c r, fracTxt fp ++ expTxt ex = c :: r → FloatDec.isDigit c = false := by
    intro c r h
    cases fp with
    | some f => simp only [fracTxt, List.cons_append] at h; injection h with h1 _; subst h1; decide
    | none => simp only [fracTxt, List.nil_append] at h; exact (expTxt_head ex c r h).1
  have htw := tw_append ip (fracTxt fp ++ expTxt ex) hipd hrest
  have hstrip : FloatDec.stripSign (signText neg ++ ip ++ (fracTxt fp ++ expTxt ex)) = (neg, ip ++ (fracTxt fp ++ expTxt ex)) := by
    cases neg with
    | true => simp [signText, FloatDec.stripSign]
    | false =>
      cases ip with
      | nil => exact absurd rfl hip
      | cons d ip' => simpa [signText] using stripSign_digits d _ (hipd d (by simp))
  unfold FloatDec.parseDec
  rw [hstrip]
  simp only [htw.1, htw.2, splitFrac_render fp ex hf, parseExp_expTxt ex hex]
  have : ip.isEmpty = false := by cases ip with | nil => exact absurd rfl hip | cons a b => rfl
  simp [this]

/-- the exponent as (sign text, digits), a positive exponent marked by `plus`: `[]` in zmij's text,
`['+']` in the YAML text -/
def ZmijParts.ex (p : ZmijParts) (plus : List Char) : Option (List Char × List Char) :=
  match p.exp with
  | some (en, ed) => some (if en then ['-'] else plus, ed)
  | none => none

theorem text_render (p : ZmijParts) :
    p.text = signText p.neg ++ p.ip ++ (fracTxt p.fp ++ expTxt (p.ex [])) := by
  unfold ZmijParts.text ZmijParts.mant ZmijParts.ex fracTxt expTxt signText
  cases p.fp <;> cases p.exp <;> simp

theorem yaml_render (p : ZmijParts) :
    p.yaml = signText p.neg ++ p.ip ++ (fracTxt (some (match p.fp with | some f => f | none => ['0'])) ++ expTxt (p.ex ['+'])) := by
  unfold ZmijParts.yaml ZmijParts.ex fracTxt expTxt
  cases p.fp <;> cases hx : p.exp <;> simp
  all_goals (rename_i v; obtain ⟨en, ed⟩ := v; cases en <;> simp)

theorem ex_facts (p : ZmijParts) (h : p.wf) (plus : List Char) (hplus : plus = [] ∨ plus = ['+']) :
    (∀ sg ed, p.ex plus = some (sg, ed) → (sg = [] ∨ sg = ['-'] ∨ sg = ['+']) ∧ ed ≠ [] ∧ allDigits ed) ∧
      expVal (p.ex plus) = expVal (p.ex []) := by
  unfold ZmijParts.ex expVal
  cases hx : p.exp with
  | none => exact ⟨nofun, rfl⟩
  | some v =>
    obtain ⟨en, ed⟩ := v
    constructor
    · intro sg ed' he
      simp only [Option.some.injEq, Prod.mk.injEq] at he
      obtain ⟨rfl, rfl⟩ := he
      refine ⟨?_, h.2.2.2 en ed hx⟩
      cases en <;> rcases hplus with rfl | rfl <;> simp
    · cases en <;> rcases hplus with rfl | rfl <;> simp

/-- same decimal value: `m · 10^e = m' · 10^e'` written without division -/
def sameDecimal (a b : Bool × Nat × Int) : Prop :=
  a.1 = b.1 ∧ ∃ k : Nat, (a.2.2 = b.2.2 + k ∧ b.2.1 = a.2.1 * 10 ^ k) ∨ (b.2.2 = a.2.2 + k ∧ a.2.1 = b.2.1 * 10 ^ k)

theorem digitsVal_snoc0 (l : List Char) : FloatDec.digitsVal (l ++ ['0']) = FloatDec.digitsVal l * 10 := by
  simp [FloatDec.digitsVal, List.foldl_append]

theorem value_parts (p : ZmijParts) (h : p.wf) :
    ∃ a b, FloatDec.parseDec p.text = some a ∧ FloatDec.parseDec p.yaml = some b ∧ sameDecimal a b := by
  have ⟨hip, hipd, hfp, _⟩ := h
  obtain ⟨hex1, -⟩ := ex_facts p h [] (Or.inl rfl)
  obtain ⟨hex2, hval⟩ := ex_facts p h ['+'] (Or.inr rfl)
  have h1 := parseDec_render p.neg p.ip p.fp (p.ex []) hip hipd (fun f hf => (hfp f hf).2) hex1
  have hf2 : ∀ f, (some (match p.fp with | some f => f | none => ['0']) : Option (List Char)) = some f → allDigits f := by
    intro f hf
    simp only [Option.some.injEq] at hf
    subst hf
    cases hpf : p.fp with
    | none => intro c hc; simp only [List.mem_singleton] at hc; subst hc; decide
    | some f' => exact (hfp f' hpf).2
  have h2 := parseDec_render p.neg p.ip (some (match p.fp with | some f => f | none => ['0'])) (p.ex ['+']) hip hipd hf2 hex2
  rw [← text_render] at h1
  rw [← yaml_render] at h2
  refine ⟨_, _, h1, h2, rfl, ?_⟩
  cases hpf : p.fp with
  | some f => exact ⟨0, Or.inl ⟨by simp [fracDigits, hval], by simp [fracDigits]⟩⟩
  | none =>
    refine ⟨1, Or.inl ⟨?_, ?_⟩⟩
    · simp only [fracDigits, hval, List.length_nil, List.length_singleton, Int.ofNat_eq_natCast]; omega
    · simp only [fracDigits, List.append_nil, digitsVal_snoc0]

end SaphyrVerif.Lemmas.C12
