import SaphyrVerif.Lemmas.C05_NextKey
/-!
C05, the map access delivers the effective entries: the relation between its state `MA`, the cursor and the
abstract state `ASt` (`Rel`, `RelV`), and `nextKey` follows `nextStep` (`nextKey_spec`).
-/
namespace SaphyrVerif.Lemmas.C05
open SaphyrVerif SaphyrVerif.Scalars SaphyrVerif.Pump SaphyrVerif.De SaphyrVerif.Spec

/-- context of one map access: buffer, reference location, index of the `MapStart`, number of events of the mapping -/
structure MCtx where
  buf : List Ev
  ref : Option Loc
  i0 : Nat
  len : Nat

/-- index after the `MapEnd` -/
def MCtx.iEnd (X : MCtx) : Nat := X.i0 + X.len

/-- the model state while the own entries `rem` are being read at index `i` -/
def LiveRel (X : MCtx) (i : Nat) (rem q : List (ENode × ENode)) (seen : List FP) (m : MA) : Prop :=
  X.i0 < i ∧ (∃ el rest, X.buf.drop i = eflattenE rem ++ .mapEnd el :: rest) ∧
  X.iEnd = i + (eflattenE rem).length + 1 ∧
  m.pending = [] ∧ m.flushingMerges = false ∧ PRel m.mergeStack.flatten q ∧ m.seen = seen

/-- the model state while the merged entries `q` are being flushed -/
def FlushRel (q : List (ENode × ENode)) (seen : List FP) (m : MA) : Prop :=
  m.flushingMerges = true ∧ PRel (m.pending ++ m.mergeStack.flatten) q ∧ m.seen = seen

/-- abstract state versus model state and cursor, before a key -/
def Rel (X : MCtx) : ASt → List FP → MA → Cur → Prop
  | .live rem q, seen, m, c => ∃ i, c = .replay X.buf i X.ref ∧ LiveRel X i rem q seen m
  | .flush q, seen, m, c => c = .replay X.buf X.iEnd X.ref ∧ FlushRel q seen m

/-- … and after the key of the entry with value `v` has been delivered -/
def RelV (X : MCtx) (v : ENode) : ASt → List FP → MA → Cur → Prop
  | .live rem q, seen, m, c =>
    m.haveKey = true ∧ m.pendingValue = none ∧ ∃ i, c = .replay X.buf i X.ref ∧ X.i0 < i ∧
      (∃ el rest, X.buf.drop i = eflatten v ++ (eflattenE rem ++ .mapEnd el :: rest)) ∧
      X.iEnd = i + (eflatten v).length + (eflattenE rem).length + 1 ∧
      m.pending = [] ∧ m.flushingMerges = false ∧ PRel m.mergeStack.flatten q ∧ m.seen = seen
  | .flush q, seen, m, c =>
    m.haveKey = true ∧ (∃ r, m.pendingValue = some (eflatten v, r)) ∧ c = .replay X.buf X.iEnd X.ref ∧
      FlushRel q seen m

/-- the recorded key `k` is deserialized to `kfn k`.  `kemn` is the deserializer's flag `key_empty_map_node` (`Model/De.lean`,
`deser`): the key node is an empty mapping, which an `Option` key reads as `None`; `kemnOf` reads it off the fingerprint. -/
def KeyRef (cfg : Cfg) (kseed : Ty ⊕ Unit) (kfn : ENode → Option Val) (k : ENode) : Prop :=
  Evt fun fuel =>
    match kfn k with
    | some kv => deserKey fuel cfg kseed (eflatten k) (kemnOf (fpOf k)) = .ok kv
    | none => IsErrE (deserKey fuel cfg kseed (eflatten k) (kemnOf (fpOf k)))

/-- what `nextKey` does, by the next step of the specification (the state and cursor it leaves do not depend
on the fuel) -/
def NKOut (X : MCtx) (cfg : Cfg) (kseed : Ty ⊕ Unit) (kfn : ENode → Option Val) (seen : List FP) (m : MA) (c : Cur) :
    Step → Prop
  | .fail => Evt fun fuel => IsErr (nextKey fuel cfg kseed c m)
  | .done => ∃ m', Evt fun fuel => nextKey fuel cfg kseed c m = .ok (.done, m') (.replay X.buf X.iEnd X.ref)
  | .deliver k v st' =>
    match kfn k with
    | none => Evt fun fuel => IsErr (nextKey fuel cfg kseed c m)
    | some kv => ∃ m' c', RelV X v st' (fpOf k :: seen) m' c' ∧
        Evt fun fuel => nextKey fuel cfg kseed c m = .ok (.key kv (fpOf k), m') c'

/-- `NKOut` speaks of the call through properties that hold for all large enough fuel: whatever carries those
from one call to another carries `NKOut` -/
theorem NKOut.transfer {X : MCtx} {cfg : Cfg} {kseed : Ty ⊕ Unit} {kfn : ENode → Option Val} {seen : List FP}
    {m m2 : MA} {c c2 : Cur} {s : Step}
    (T : ∀ P : R (KeyStep × MA) → Prop, (Evt fun fuel => P (nextKey fuel cfg kseed c2 m2)) →
      Evt fun fuel => P (nextKey fuel cfg kseed c m))
    (h : NKOut X cfg kseed kfn seen m2 c2 s) : NKOut X cfg kseed kfn seen m c s := by
  cases s with
  | fail => exact T _ h
  | done =>
    obtain ⟨m', h⟩ := h
    exact ⟨m', T (· = _) h⟩
  | deliver k v st' =>
    simp only [NKOut] at h ⊢
    cases hk : kfn k with
    | none =>
      simp only [hk] at h ⊢
      exact T _ h
    | some kv =>
      simp only [hk] at h ⊢
      obtain ⟨m', c', hr, h⟩ := h
      exact ⟨m', c', hr, T (· = _) h⟩

theorem NKOut.of_step {X : MCtx} {cfg : Cfg} {kseed : Ty ⊕ Unit} {kfn : ENode → Option Val} {seen : List FP}
    {m m2 : MA} {c c2 : Cur} {s : Step}
    (hstep : Evt fun fuel => nextKey (fuel + 1) cfg kseed c m = nextKey fuel cfg kseed c2 m2)
    (h : NKOut X cfg kseed kfn seen m2 c2 s) : NKOut X cfg kseed kfn seen m c s :=
  h.transfer fun _ hP => Evt.succ (Evt.mono (Evt.and hstep hP) fun _ ⟨e, hp⟩ => by rw [e]; exact hp)

theorem NKOut.deliver {X : MCtx} {cfg : Cfg} {kseed : Ty ⊕ Unit} {kfn : ENode → Option Val} {seen : List FP}
    {m m' : MA} {c c' : Cur} {k v : ENode} {st' : ASt} (hkey : KeyRef cfg kseed kfn k)
    (hrel : RelV X v st' (fpOf k :: seen) m' c')
    (hstep : Evt fun fuel => nextKey (fuel + 1) cfg kseed c m =
      match deserKey fuel cfg kseed (eflatten k) (kemnOf (fpOf k)) with
      | .error e => .err e c'
      | .ok kv => .ok (.key kv (fpOf k), m') c') :
    NKOut X cfg kseed kfn seen m c (.deliver k v st') := by
  simp only [NKOut]
  cases hk : kfn k with
  | none =>
    refine Evt.succ (Evt.mono (Evt.and hstep hkey) fun fuel ⟨hs, hn⟩ => ?_)
    simp only [hk] at hn
    obtain ⟨er, he⟩ := hn
    rw [hs, he]
    exact ⟨_, _, rfl⟩
  | some kv =>
    refine ⟨m', c', hrel, Evt.succ (Evt.mono (Evt.and hstep hkey) fun fuel ⟨hs, hn⟩ => ?_)⟩
    simp only [hk] at hn
    rw [hs, hn]

theorem entProj_eq {p : PendingEntry} {e : ENode × ENode} (h : entProj p = nodeProj e) :
    p.key.fp = fpOf e.1 ∧ p.key.events = eflatten e.1 ∧ p.value.fp = fpOf e.2 ∧ p.value.events = eflatten e.2 := by
  simp only [entProj, nodeProj, Prod.mk.injEq] at h
  exact h

theorem nextKey_flush (X : MCtx) (cfg : Cfg) (kseed : Ty ⊕ Unit) (kfn : ENode → Option Val) (d : Nat)
    (hK : ∀ e, EntOK d e → KeyRef cfg kseed kfn e.1) (seen : List FP) :
    ∀ (q : List (ENode × ENode)) (m : MA), AllOK d q → FlushRel q seen m →
      NKOut X cfg kseed kfn seen m (.replay X.buf X.iEnd X.ref) (flushStep q seen) := by
  intro q
  induction q with
  | nil =>
    intro m _ ⟨hfl, hq, hs⟩
    have hnil := hq.nil_right
    have hp : m.pending = [] := (List.append_eq_nil_iff.mp hnil).1
    have hst : m.mergeStack.flatten = [] := (List.append_eq_nil_iff.mp hnil).2
    simp only [flushStep, NKOut]
    rcases enqueue_spec m hp with ⟨-, m2, he⟩ | ⟨m2, -, h2, h3, -, -⟩
    · exact ⟨_, Evt.succ (Evt.of_forall fun fuel => by rw [nextKey_flush_empty fuel cfg kseed m hp hfl, he]; rfl)⟩
    · rw [hst] at h3
      simp at h3
      exact absurd h3.1 h2
  | cons e q ih =>
    obtain ⟨k, v⟩ := e
    intro m hok hrel
    have hne : ∀ m : MA, m.pending ≠ [] → FlushRel ((k, v) :: q) seen m →
        NKOut X cfg kseed kfn seen m (.replay X.buf X.iEnd X.ref) (flushStep ((k, v) :: q) seen) := by
      intro m hpne ⟨hfl, hq, hs⟩
      obtain ⟨p, ps', hpp, hproj, hrest⟩ := hq.cons_right
      cases hmp : m.pending with
      | nil => exact absurd hmp hpne
      | cons p0 ps =>
        rw [hmp] at hpp
        simp only [List.cons_append, List.cons.injEq] at hpp
        obtain ⟨rfl, rfl⟩ := hpp
        obtain ⟨hfp, hev, -, hvev⟩ := entProj_eq hproj
        simp only [flushStep]
        by_cases hd : seen.any (· == fpOf k) = true
        · simp only [hd, if_true]
          refine NKOut.of_step (Evt.of_forall fun fuel => ?_) (ih { m with pending := ps } hok.tail ⟨hfl, hrest, hs⟩)
          exact nextKey_flush_dup fuel cfg kseed m p0 ps hmp hfl (by rw [hs, hfp]; exact hd)
        · simp only [hd, if_false, Bool.false_eq_true]
          have hd' : m.seen.any (· == p0.key.fp) = false := by rw [hs, hfp]; simpa using hd
          have hshape : FPShape p0.key.fp := by rw [hfp]; exact fpShape_of_key hok.head.2.2.2.2
          refine NKOut.deliver (hK (k, v) hok.head)
            (m' := { m with pending := ps, haveKey := true, pendingValue := some (p0.value.events, p0.ref), seen := (fpOf k :: m.seen) })
            ⟨rfl, ⟨p0.ref, by simp [hvev]⟩, rfl, hfl, hrest, by simp [hs]⟩ (Evt.of_forall fun fuel => ?_)
          rw [nextKey_flush_deliver fuel cfg kseed m p0 ps hmp hfl hd' hshape, hev, hfp]
          rfl
    cases hmp : m.pending with
    | cons p0 ps => exact hne m (by simp [hmp]) hrel
    | nil =>
      obtain ⟨hfl, hq, hs⟩ := hrel
      rcases enqueue_spec m hmp with ⟨h1, -⟩ | ⟨m2, he, h3, h4, h5, h6⟩
      · rw [hmp, h1] at hq; simp [PRel] at hq
      · refine NKOut.of_step (Evt.of_forall fun fuel => ?_) (hne m2 h3 ⟨by rw [h5, hfl], ?_, by rw [h6, hs]⟩)
        · rw [nextKey_flush_empty fuel cfg kseed m hmp hfl, he]; rfl
        · rw [h4]; simpa [hmp] using hq

theorem nextKey_live (X : MCtx) (cfg : Cfg) (kseed : Ty ⊕ Unit) (kfn : ENode → Option Val) (d : Nat)
    (hK : ∀ e, EntOK d e → KeyRef cfg kseed kfn e.1) (seen : List FP) :
    ∀ (rem q : List (ENode × ENode)) (m : MA) (i : Nat), AllOK d rem → AllOK d q → LiveRel X i rem q seen m →
      NKOut X cfg kseed kfn seen m (.replay X.buf i X.ref) (liveStep cfg.dup rem q seen) := by
  intro rem
  induction rem with
  | nil =>
    intro q m i _ hq ⟨hi0, ⟨el, rest, hdrop⟩, hend, hp, hfl, hst, hs⟩
    simp only [eflattenE_nil, List.nil_append] at hdrop
    simp only [eflattenE_nil, List.length_nil, Nat.add_zero] at hend
    simp only [liveStep]
    by_cases hms : m.mergeStack = []
    · have hq0 : q = [] := by rw [hms] at hst; exact hst.nil_left
      subst hq0
      simp only [flushStep, NKOut]
      exact ⟨m, Evt.succ (Evt.of_forall fun fuel => by
        rw [nextKey_end_empty X.ref fuel cfg kseed m hdrop hp hfl hms, hend])⟩
    · -- the end of the mapping: the same call, now flushing, behind the `MapEnd`
      refine NKOut.transfer (fun _ hP => Evt.succ (Evt.mono (Evt.shift hP) fun fuel hp' => ?_))
        (nextKey_flush X cfg kseed kfn d hK seen q { m with flushingMerges := true } hq
          ⟨rfl, by simpa [hp] using hst, hs⟩)
      rw [nextKey_end_flush X.ref fuel cfg kseed m hdrop hp hfl hms, ← hend]
      exact hp'
  | cons e rest ih =>
    obtain ⟨k, v⟩ := e
    intro q m i hr hq ⟨hi0, ⟨el, rest', hdrop⟩, hend, hp, hfl, hst, hs⟩
    simp only [eflattenE_cons, List.append_assoc] at hdrop
    simp only [eflattenE_cons, List.length_append] at hend
    -- the look-ahead and the capture of the key, once for every path
    have hkey := Evt.mono (capture_drop X.ref hdrop) fun fuel hc =>
      nextKey_live_key X.ref fuel cfg kseed m k hdrop hp hfl hc
    have hdropv := Cursor.drop_add_of_drop_eq_append hdrop
    have hdropr := Cursor.drop_add_of_drop_eq_append hdropv
    have hent := hr.head
    simp only [liveStep]
    by_cases hm : isMergeKeyNode k = true
    · simp only [hm, if_true] at hkey ⊢
      have hpl := pendingFromLive_spec v X.ref (Cur.replay X.buf (i + (eflatten k).length) X.ref).refLoc hdropv
      cases hb : sourceEntries v with
      | none =>
        simp only [hb] at hpl ⊢
        refine Evt.succ (Evt.mono (Evt.and hkey hpl) fun fuel ⟨hc, he⟩ => ?_)
        rw [hc, nkMerge_replay]
        obtain ⟨er, c, he⟩ := he
        simp [he]
      | some b =>
        simp only [hb] at hpl ⊢
        obtain ⟨ps, hrel, hps'⟩ := hpl
        let m2 : MA := if ps.isEmpty then m else { m with mergeStack := ps :: m.mergeStack }
        obtain ⟨h1, h2, h3, h4⟩ := pushBatch_spec m ps m2 rfl
        have hrel2 : LiveRel X (i + (eflatten k).length + (eflatten v).length) rest (b ++ q) seen m2 :=
          ⟨by omega, ⟨el, rest', hdropr⟩, by omega, h1.trans hp, h2.trans hfl, h4 ▸ PRel.append hrel hst, h3.trans hs⟩
        refine NKOut.of_step (Evt.mono (Evt.and hkey hps') fun fuel ⟨hc, he⟩ => ?_)
          (ih (b ++ q) m2 _ hr.tail (AllOK.append (allOK_source hent hb) hq) hrel2)
        rw [hc, nkMerge_replay, he]
    · have hm' : isMergeKeyNode k = false := by simpa using hm
      simp only [hm', Bool.false_eq_true, if_false] at hkey ⊢
      have hshape : FPShape (fpOf k) := fpShape_of_key hent.2.2.2.2
      have hdeliver : (cfg.dup = .lastWins ∨ m.seen.any (· == fpOf k) = false) →
          NKOut X cfg kseed kfn seen m (.replay X.buf i X.ref) (.deliver k v (.live rest q)) := by
        intro hdel
        refine NKOut.deliver (hK (k, v) hent)
          (m' := { m with haveKey := true, pendingValue := none, seen := (fpOf k :: m.seen) })
          ⟨rfl, rfl, _, rfl, by omega, ⟨el, rest', hdropv⟩, by omega, hp, hfl, hst, by simp [hs]⟩
          (Evt.mono hkey fun fuel hc => hc.trans (nkKey_deliver hdel hshape))
      by_cases hd : seen.any (· == fpOf k) = true
      · have hd' : m.seen.any (· == fpOf k) = true := by rw [hs]; exact hd
        cases hpol : cfg.dup with
        | error =>
          simp only [hd, if_true, NKOut]
          exact Evt.succ (Evt.mono hkey fun fuel hc => by rw [hc]; exact nkKey_dup_error hpol hd')
        | firstWins =>
          simp only [hd, if_true]
          have := ih q m _ hr.tail hq ⟨by omega, ⟨el, rest', hdropr⟩, by omega, hp, hfl, hst, hs⟩
          rw [hpol] at this
          refine NKOut.of_step (Evt.mono (Evt.and hkey (skip_drop X.ref hdropv)) fun fuel ⟨hc, hsk⟩ => ?_) this
          rw [hc, nkKey_dup_first hpol hd', hsk]
        | lastWins =>
          simp only []
          exact hdeliver (Or.inl hpol)
      · have hd' : m.seen.any (· == fpOf k) = false := by rw [hs]; simpa using hd
        have := hdeliver (Or.inr hd')
        cases hpol : cfg.dup <;> simp only [hd, Bool.false_eq_true, if_false] <;> exact this

theorem nextKey_spec (X : MCtx) (cfg : Cfg) (kseed : Ty ⊕ Unit) (kfn : ENode → Option Val) (d : Nat)
    (hK : ∀ e, EntOK d e → KeyRef cfg kseed kfn e.1) (seen : List FP) (st : ASt) (m : MA) (c : Cur)
    (hok : st.OK d) (hrel : Rel X st seen m c) : NKOut X cfg kseed kfn seen m c (nextStep cfg.dup st seen) := by
  cases st with
  | live rem q =>
    obtain ⟨i, rfl, hl⟩ := hrel
    exact nextKey_live X cfg kseed kfn d hK seen rem q m i hok.1 hok.2 hl
  | flush q =>
    obtain ⟨rfl, hf⟩ := hrel
    exact nextKey_flush X cfg kseed kfn d hK seen q m hok hf

end SaphyrVerif.Lemmas.C05
