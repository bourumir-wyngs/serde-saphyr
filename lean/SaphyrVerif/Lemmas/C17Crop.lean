import SaphyrVerif.Lemmas.C17Slice
/-!
C17: `crop_line_by_cols` — safety, explicit form, width, caret rebasing.  It opens with the saturating addition
(`satAdd_*`), which the later C17 files take from here.
-/
namespace SaphyrVerif.Lemmas.C17
open SaphyrVerif SaphyrVerif.Snippet

theorem satAdd_le (a b : Nat) : satAdd a b ≤ a + b := by
  unfold satAdd; exact Nat.min_le_left _ _

theorem satAdd_eq (a b : Nat) (h : a + b ≤ usizeMax) : satAdd a b = a + b := by
  unfold satAdd; exact Nat.min_eq_left h

theorem satAdd_ge_left (a b : Nat) (h : a ≤ usizeMax) : a ≤ satAdd a b := by
  unfold satAdd; exact Nat.le_min.mpr ⟨Nat.le_add_right a b, h⟩

theorem satAdd_one_pos (a : Nat) : 1 ≤ satAdd a 1 := by
  unfold satAdd usizeMax; omega

theorem satAdd_le_max (a b : Nat) : satAdd a b ≤ usizeMax := by
  unfold satAdd; exact Nat.min_le_right _ _

theorem satAdd_one_gt (a : Nat) (h : a < usizeMax) : a < satAdd a 1 := by
  unfold satAdd; omega

theorem colToByte_getD_zero (line : List Char) (c : Nat) (h : c ≤ line.length + 1) :
    (colToByte line c).getD 0 = blen (line.take (c - 1)) := by
  rw [colToByte_eq]
  by_cases h1 : 1 ≤ c
  · rw [if_pos ⟨h1, by omega⟩]; rfl
  · have : c = 0 := by omega
    subst this; simp

theorem colToByte_getD_len (line : List Char) (c : Nat) (h1 : 1 ≤ c) :
    (colToByte line c).getD (blen line) = blen (line.take (c - 1)) := by
  rw [colToByte_eq]
  by_cases h : c - 1 ≤ line.length
  · rw [if_pos ⟨h1, h⟩]; rfl
  · rw [if_neg (by omega)]
    rw [List.take_of_length_le (by omega)]; rfl

/-- the ellipsis put where a line is cut -/
def mark (b : Bool) : List Char := if b then [ellipsis] else []

theorem mark_cases (b : Bool) : mark b = [] ∨ mark b = [ellipsis] := by
  cases b
  · exact .inl rfl
  · exact .inr rfl

theorem blen_mark (b : Bool) : blen (mark b) = if b then utf8LenChar ellipsis else 0 := by
  cases b <;> simp [mark, blen_cons]

theorem nl_not_mem_mark (b : Bool) : '\n' ∉ mark b := by
  cases b <;> decide

/-- which characters `crop_line_by_cols` keeps of a line of `n` characters: those with (0-based) index in `[i, j)`;
all of them when the line ends left of the window or lies inside it -/
def cropCols (n left right : Nat) : Nat × Nat :=
  if n = 0 ∨ n + 1 ≤ left ∨ (left ≤ 1 ∧ n ≤ right) then (0, n)
  else (min left (n + 1) - 1, min (satAdd right 1) (n + 1) - 1)

/-- explicit (slice-free) form of `crop_line_by_cols`: the characters `cropCols` keeps, between the marks of what was cut -/
def cropLinePure (line : List Char) (left right : Nat) : List Char × LineCrop :=
  let ij := cropCols line.length left right
  (mark (decide (0 < ij.1)) ++ (line.take ij.2).drop ij.1 ++ mark (decide (ij.2 < line.length)),
    ⟨blen (line.take ij.1), blen (mark (decide (0 < ij.1)))⟩)

/-- the two clip flags of `crop_line_by_cols`, for a start column `sc` and an end column `ec` of the line: a byte offset
is past the start / before the end of the line exactly when the column is -/
theorem clipLeft_flag (line : List Char) (sc : Nat) (h : sc ≤ line.length + 1) :
    (decide (sc > 1) && decide (blen (line.take (sc - 1)) > 0)) = decide (0 < sc - 1) := by
  by_cases hh : 0 < sc - 1
  · have : 0 < blen (line.take (sc - 1)) := blen_take_lt line (i := 0) hh (by omega)
    simp [hh, this]; omega
  · simp [hh]; omega

theorem clipRight_flag (line : List Char) (ec : Nat) (h : 1 ≤ ec) :
    (decide (ec ≤ line.length) && decide (blen (line.take (ec - 1)) < blen line)) = decide (ec - 1 < line.length) := by
  by_cases hh : ec - 1 < line.length
  · have := blen_take_lt line (i := ec - 1) (j := line.length) hh (Nat.le_refl _)
    rw [List.take_length] at this
    simp [hh, this]; omega
  · simp [hh]; omega

/-- (safety) `crop_line_by_cols` never panics when `left ≤ right + 1` (saturating), and equals its
explicit form -/
theorem cropLine_eq (line : List Char) (left right : Nat) (hn : line.length + 1 ≤ usizeMax)
    (hlr : left ≤ satAdd right 1) :
    cropLineByCols line left right = .ok (cropLinePure line left right) := by
  unfold cropLineByCols cropLinePure cropCols
  simp only []
  by_cases h0 : line.length = 0
  · rw [if_pos h0, if_pos (.inl h0), List.eq_nil_of_length_eq_zero h0]; rfl
  · rw [if_neg h0, satAdd_eq _ _ hn]
    by_cases h1 : left ≥ line.length + 1
    · rw [if_pos h1, if_pos (.inr (.inl h1))]; simp [mark]
    · rw [if_neg h1]
      by_cases h2 : left ≤ 1 ∧ right ≥ line.length
      · rw [if_pos h2, if_pos (.inr (.inr h2))]; simp [mark]
      · have h3 : ¬ (line.length = 0 ∨ line.length + 1 ≤ left ∨ (left ≤ 1 ∧ line.length ≤ right)) := by omega
        rw [if_neg h2, if_neg h3]
        have hsc : min left (line.length + 1) ≤ line.length + 1 := Nat.min_le_right _ _
        have hee1 : 1 ≤ min (satAdd right 1) (line.length + 1) := by
          have := satAdd_one_pos right
          omega
        rw [colToByte_getD_zero line _ hsc, colToByte_getD_len line _ hee1]
        rw [slice_take line _ _ _ (by omega)]
        simp only [res_bind_ok, res_pure]
        rw [clipLeft_flag line _ hsc, clipRight_flag line _ hee1, blen_mark]
        rfl

theorem cropLine_safe (line : List Char) (left right : Nat) (hn : line.length + 1 ≤ usizeMax)
    (hlr : left ≤ satAdd right 1) : ∃ r, cropLineByCols line left right = .ok r :=
  ⟨_, cropLine_eq line left right hn hlr⟩

/-- the column window the callers use always satisfies the safety precondition -/
theorem caller_window_ok (col r : Nat) (hc : col ≤ usizeMax) :
    max (col - r) 1 ≤ satAdd (satAdd col r) 1 := by
  unfold satAdd usizeMax at *
  omega

theorem take_drop_infix (l : List Char) (i j : Nat) : (l.take j).drop i <:+: l :=
  List.IsInfix.trans (List.drop_suffix i _).isInfix (List.take_prefix j l).isInfix

theorem length_take_drop_le (l : List Char) (i j : Nat) : ((l.take j).drop i).length ≤ j - i := by
  rw [List.length_drop, List.length_take]; omega

/-- the kept columns are at most those of the window `left..=right`, or the line ends left of the window and is kept
whole -/
theorem cropCols_width (n left right : Nat) :
    (cropCols n left right).2 - (cropCols n left right).1 ≤ right + 1 - left ∨
      (cropCols n left right = (0, n) ∧ n < left) := by
  have h4 := satAdd_le right 1
  unfold cropCols
  by_cases h : n = 0 ∨ n + 1 ≤ left ∨ (left ≤ 1 ∧ n ≤ right)
  · simp only [if_pos h]
    by_cases hl : n < left
    · exact .inr ⟨trivial, hl⟩
    · exact .inl (by omega)
  · simp only [if_neg h]
    exact .inl (by omega)

/-- structure of a cropped line: optional ellipsis, a contiguous piece of the line of at most
`2·radius+1` characters, optional ellipsis — or the whole line when it ends left of the window -/
theorem cropLinePure_width (line : List Char) (col r : Nat) :
    ∃ le mid re, (cropLinePure line (max (col - r) 1) (satAdd col r)).1 = le ++ mid ++ re ∧
      mid <:+: line ∧ (le = [] ∨ le = [ellipsis]) ∧ (re = [] ∨ re = [ellipsis]) ∧
      (mid.length ≤ 2 * r + 1 ∨
        ((cropLinePure line (max (col - r) 1) (satAdd col r)).1 = line ∧ line.length < max (col - r) 1)) := by
  have hw := cropCols_width line.length (max (col - r) 1) (satAdd col r)
  unfold cropLinePure
  simp only []
  generalize cropCols line.length (max (col - r) 1) (satAdd col r) = ij at hw
  refine ⟨_, _, _, rfl, take_drop_infix _ _ _, mark_cases _, mark_cases _, ?_⟩
  rcases hw with hw | ⟨hw, hlt⟩
  · -- the callers' window `col − r ..= col + r` has `2·r + 1` columns
    have := length_take_drop_le line ij.1 ij.2
    have hsat := satAdd_le col r
    exact .inl (by omega)
  · rw [hw]
    exact .inr ⟨by simp [mark], hlt⟩

theorem take_drop_split (l : List Char) (i k j : Nat) (hik : i ≤ k) (hkj : k ≤ j) (hi : i ≤ l.length) :
    (l.take j).drop i = (l.take k).drop i ++ (l.take j).drop k := by
  conv => lhs; rw [take_eq_take_append_drop l hkj]
  rw [List.drop_append_of_le_length]
  rw [List.length_take]; omega

/-- a window `left..=right` that contains column `col` of a line of `n` characters keeps the characters before the
column from some index on and the character of the column; when it ends right at the column, that is the end of the line
and nothing is cut on the right -/
theorem cropCols_around (n left right col : Nat) (hn : n + 1 ≤ usizeMax) (h1 : 1 ≤ col) (h2 : col ≤ n + 1)
    (hl : left ≤ col) (hr : col ≤ right) :
    (cropCols n left right).1 ≤ col - 1 ∧ col - 1 ≤ (cropCols n left right).2 ∧ (cropCols n left right).2 ≤ n ∧
    ((cropCols n left right).2 = col - 1 → (cropCols n left right).2 = n) := by
  unfold cropCols satAdd
  by_cases h : n = 0 ∨ n + 1 ≤ left ∨ (left ≤ 1 ∧ n ≤ right)
  · simp only [if_pos h]
    exact ⟨Nat.zero_le _, by omega, Nat.le_refl _, fun _ => trivial⟩
  · simp only [if_neg h]
    omega

/-- (caret, one line) After cropping a line around column `col` with radius `r`, the rebased byte
offset `prefix_bytes + (off − start_byte)` (clamped to the rendered length, as `crop_window_text`
does) is a character boundary of the rendered line; what precedes it is an optional ellipsis followed
by a tail of the characters before column `col`, and the character there is the character in column
`col` of the line (nothing, i.e. end of line, when `col = len + 1`). -/
theorem caret_line (line : List Char) (col r : Nat) (hn : line.length + 1 ≤ usizeMax) (hc : col ≤ usizeMax)
    (h1 : 1 ≤ col) (h2 : col ≤ line.length + 1) :
    let res := cropLinePure line (max (col - r) 1) (satAdd col r)
    let off := blen (line.take (col - 1))
    let new := min (res.2.prefixBytes + (off - res.2.startByte)) (blen res.1)
    ∃ le k rest, (le = [] ∨ le = [ellipsis]) ∧
      res.1 = (le ++ (line.take (col - 1)).drop k) ++ rest ∧
      blen (le ++ (line.take (col - 1)).drop k) = new ∧ rest.head? = line[col - 1]? := by
  intro res off new
  obtain ⟨hi, hj, hjn, hend⟩ := cropCols_around line.length (max (col - r) 1) (satAdd col r) col hn h1 h2 (by omega)
    (satAdd_ge_left col r hc)
  have hres : res = cropLinePure line (max (col - r) 1) (satAdd col r) := rfl
  unfold cropLinePure at hres
  simp only [] at hres
  generalize (cropCols line.length (max (col - r) 1) (satAdd col r)).1 = i at hi hres
  generalize (cropCols line.length (max (col - r) 1) (satAdd col r)).2 = j at hj hjn hend hres
  -- the kept characters `[i, j)` split at the column
  have hsplit := take_drop_split line i (col - 1) j hi hj (by omega)
  have hlen1 := blen_take_drop line (i := i) (j := col - 1) hi
  have hmono : blen (line.take i) ≤ blen (line.take (col - 1)) := blen_take_mono line hi
  refine ⟨mark (decide (0 < i)), i, (line.take j).drop (col - 1) ++ mark (decide (j < line.length)),
    mark_cases _, ?_, ?_, ?_⟩
  · rw [hres]; simp only []; rw [hsplit]; simp only [List.append_assoc]
  · show _ = min (res.2.prefixBytes + (off - res.2.startByte)) (blen res.1)
    rw [hres]; simp only []
    rw [blen_append, hlen1, hsplit]
    simp only [blen_append]
    show _ = min (_ + (blen (line.take (col - 1)) - _)) _
    omega
  · by_cases hlt : col - 1 < j
    · rw [List.head?_append, List.head?_drop, List.getElem?_take, if_pos hlt, List.getElem?_eq_getElem (by omega)]
      rfl
    · have hjn' := hend (by omega)
      rw [List.drop_eq_nil_of_le (by rw [List.length_take]; omega), List.nil_append]
      have : decide (j < line.length) = false := by simp; omega
      rw [this, List.getElem?_eq_none (by omega)]; rfl

end SaphyrVerif.Lemmas.C17
