import SaphyrVerif.Lemmas.C02_Frames
/-!
Helper lemmas for C02: serving a replay buffer one event per `nextImpl` call, and the alias
item of the parser loop.
-/
namespace SaphyrVerif.Lemmas.C02
open SaphyrVerif SaphyrVerif.Scalars SaphyrVerif.Pump SaphyrVerif.Spec SaphyrVerif.Budget
open SaphyrVerif.Lemmas.C08 (newCount)

/-- the three alias-limit errors (same as `Props.C02.isLimitErr`) -/
def isLimit : PErr → Bool
  | .aliasExpansionLimit .. | .replayStackDepth .. | .replayLimit .. => true
  | _ => false

def served (p : Pump) (fr : InjectFrame) (rest0 : List InjectFrame) (ev : Ev) : Pump :=
  { p with budget := none, inject := { fr with idx := fr.idx + 1 } :: rest0, totalReplayed := p.totalReplayed + 1,
           recStack := recordAll p.recStack ev, lastLoc := ev.loc, producedAny := true }

theorem nextImpl_live_ok {p : Pump} {fr : InjectFrame} {rest0 : List InjectFrame} {buf : List Ev}
    (hi : p.inject = fr :: rest0) (hl : lookupAnchor p.anchors fr.anchorId = some buf)
    (hlt : fr.idx < buf.length) (hb : p.budget = none)
    (hmax : p.totalReplayed + 1 ≤ p.limits.maxTotalReplayedEvents) (inp : List RawItem) :
    nextImpl p inp = (.event buf[fr.idx], served p fr rest0 buf[fr.idx], inp) :=
  (Call.served (Served.event [] fr rest0 buf none hi (List.forall_mem_nil _) hl hlt hmax (by rw [hb]; rfl))).eq

theorem nextImpl_live_limit {p : Pump} {fr : InjectFrame} {rest0 : List InjectFrame} {buf : List Ev}
    (hi : p.inject = fr :: rest0) (hl : lookupAnchor p.anchors fr.anchorId = some buf)
    (hlt : fr.idx < buf.length)
    (hmax : p.limits.maxTotalReplayedEvents < p.totalReplayed + 1) (inp : List RawItem) :
    ∃ p', nextImpl p inp = (.error (.replayLimit (p.totalReplayed + 1) p.limits.maxTotalReplayedEvents
      buf[fr.idx].loc), p', inp) :=
  ⟨_, (Call.served (Served.limit [] fr rest0 buf hi (List.forall_mem_nil _) hl hlt hmax)).eq⟩

/-- what a replay of `es` (`n` events) changes -/
structure Replayed (p p' : Pump) (es : List Ev) (n : Nat) : Prop where
  bud : p'.budget = none
  rip : p'.recursiveInProgress = p.recursiveInProgress
  lim : p'.limits = p.limits
  sade : p'.stopAtDocEnd = p.stopAtDocEnd
  anchors : p'.anchors = p.anchors
  per : p'.perAnchor = p.perAnchor
  frames : p'.recStack = recordL p.recStack es
  tot : p'.totalReplayed = p.totalReplayed + n
  prod : p.producedAny = true ∨ 0 < n → p'.producedAny = true

theorem replay_steps (n : Nat) : ∀ (p : Pump) (fr : InjectFrame) (rest0 : List InjectFrame) (buf : List Ev)
    (inp : List RawItem), p.inject = fr :: rest0 → lookupAnchor p.anchors fr.anchorId = some buf →
    fr.idx + n = buf.length → p.budget = none →
    (∃ p', Steps p inp (buf.drop fr.idx) p' inp ∧ Replayed p p' (buf.drop fr.idx) n ∧
        p'.inject = { fr with idx := buf.length } :: rest0) ∨
    (p.limits.maxTotalReplayedEvents < p.totalReplayed + n ∧
      ∃ es err p', Stops p inp es err p' ∧ isLimit err = true ∧ es <+: buf.drop fr.idx) := by
  induction n with
  | zero =>
    intro p fr rest0 buf inp hi hl hn hb
    left
    have hd : buf.drop fr.idx = [] := List.drop_eq_nil_of_le (by omega)
    refine ⟨p, ?_, ?_, ?_⟩
    · rw [hd]; exact Steps.refl _ _
    · rw [hd]; constructor <;> simp [hb]
    · rw [hi]; cases fr; simp at hn ⊢; omega
  | succ n ih =>
    intro p fr rest0 buf inp hi hl hn hb
    have hlt : fr.idx < buf.length := by omega
    have hd : buf.drop fr.idx = buf[fr.idx] :: buf.drop (fr.idx + 1) := List.drop_eq_getElem_cons hlt
    by_cases hmax : p.totalReplayed + 1 ≤ p.limits.maxTotalReplayedEvents
    · have hstep := nextImpl_live_ok hi hl hlt hb hmax inp
      have := ih (served p fr rest0 buf[fr.idx]) { fr with idx := fr.idx + 1 } rest0 buf inp rfl hl
        (by simp; omega) rfl
      rcases this with ⟨p', hs, hr, hinj⟩ | ⟨hex, es, err, p', hs, hlim, hpre⟩
      · left
        refine ⟨p', ?_, ?_, hinj⟩
        · rw [hd]; exact Steps.cons hstep hs
        · rw [hd]
          -- `served` touches the frames, the replay counter and `produced_any_in_doc` only
          exact { hr with
            frames := by rw [hr.frames]; simp [served, recordAll_eq]
            tot := by rw [hr.tot]; simp [served]; omega
            prod := fun _ => hr.prod (Or.inl rfl) }
      · right
        refine ⟨?_, buf[fr.idx] :: es, err, p', ?_, hlim, ?_⟩
        · simp [served] at hex; omega
        · exact Stops.after (Steps.one hstep) hs
        · rw [hd]; exact (List.prefix_cons_inj _).mpr hpre
    · right
      obtain ⟨p', hstep⟩ := nextImpl_live_limit hi hl hlt (by omega) inp
      refine ⟨by omega, [], _, p', Stops.now hstep, rfl, List.nil_prefix⟩

/-- the net effect of a node (list of nodes, list of entries) on the state -/
structure Post (p p' : Pump) (r : Exp) (ac : Nat → Nat) : Prop where
  good : Good p'
  anchors : p'.anchors = r.tab
  frames : p'.recStack = recordL p.recStack r.evs
  tot : p'.totalReplayed = p.totalReplayed + r.replayed
  cnt : ∀ id, lookupCount p'.perAnchor id ≤ lookupCount p.perAnchor id + ac id
  lim : p'.limits = p.limits
  sade : p'.stopAtDocEnd = p.stopAtDocEnd
  prod : p.producedAny = true ∨ r.evs ≠ [] → p'.producedAny = true

/-- an alias whose call goes on as a call from the state with its frame pushed (`Item.replay`) -/
theorem alias_replay {p : Pump} (hg : Good p) (id : Nat) (loc : Loc) (rest : List RawItem)
    {buf : List Ev} (h5 : lookupAnchor p.anchors id = some buf)
    (heq : nextImpl p (.ev (.alias id) loc :: rest) = nextImpl (pushed (clr p) id loc) rest) :
    (∃ p', Steps p (.ev (.alias id) loc :: rest) buf p' rest ∧
        Post p p' ⟨buf, p.anchors, buf.length⟩ (fun i => if id == i then 1 else 0)) ∨
    (p.limits.maxTotalReplayedEvents < p.totalReplayed + buf.length ∧
      ∃ es err p', Stops p (.ev (.alias id) loc :: rest) es err p' ∧ isLimit err = true ∧ es <+: buf) := by
  have hne : buf ≠ [] := lookupAnchor_ne hg.ne h5
  have := replay_steps buf.length (pushed (clr p) id loc) { anchorId := id, idx := 0, refLoc := loc } [] buf rest
    rfl h5 (by simp) hg.bud
  simp only [List.drop_zero] at this
  rcases this with ⟨p', hs, hr, hinj⟩ | ⟨hex, es, err, p', hs, hlim, hpre⟩
  · left
    refine ⟨p', Steps.of_eq heq hs hne, ?_⟩
    have hanch : p'.anchors = p.anchors := hr.anchors
    exact {
      good := {
        bud := hr.bud
        rip := hr.rip.trans hg.rip
        inj := fun fr hfr => by
          rw [hinj] at hfr
          cases List.mem_singleton.mp hfr
          exact ⟨buf, hanch ▸ h5, Nat.le_refl _⟩
        dep := hr.frames ▸ DepthPos_recordL _ hg.dep
        ne := hanch ▸ hg.ne }
      anchors := hanch
      frames := hr.frames
      tot := hr.tot
      cnt := fun i => by
        rw [hr.per]
        show lookupCount ((id, newCount p id) :: p.perAnchor) i ≤ _
        rw [lookupCount_cons, newCount]
        by_cases hi : id = i
        · subst hi; simp; omega
        · simp [hi]
      lim := hr.lim
      sade := hr.sade
      prod := fun _ => hr.prod (Or.inr (List.length_pos_iff.mpr hne)) }
  · right
    exact ⟨hex, es, err, p', Stops.of_eq heq hs, hlim, hpre⟩

end SaphyrVerif.Lemmas.C02
