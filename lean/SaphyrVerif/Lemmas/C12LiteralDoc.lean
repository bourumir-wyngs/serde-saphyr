import SaphyrVerif.Lemmas.C12Literal
import SaphyrVerif.Lemmas.C12Frame
/-!
Helper lemmas for C12: block scalars at document level — how `readNode` reads a header line and body
lines (`readNode_block`), the frame for block scalar texts (`block_doc`), the geometry of the block
positions, and the automatic literal block (`literal_doc`).
-/
namespace SaphyrVerif.Lemmas.C12
open SaphyrVerif SaphyrVerif.SerScalar SaphyrVerif.Spec.Read SaphyrVerif.Scalars

theorem joinLines_map (f : List Char → List Char) (ls : List (List Char)) :
    ls.flatMap (fun line => f line ++ ['\n']) = joinLines (ls.map f) := by
  simp [joinLines, List.flatMap_map]

theorem joinLines_append (a b : List (List Char)) : joinLines (a ++ b) = joinLines a ++ joinLines b := by
  simp [joinLines]

theorem joinLines_replicate (k : Nat) (x : List Char) :
    (List.replicate k (x ++ ['\n'])).flatten = joinLines (List.replicate k x) := by
  induction k with
  | zero => rfl
  | succ k ih => simp [List.replicate_succ, joinLines, List.flatMap_cons] at ih ⊢; exact ih

theorem literalBody_eq (N : Nat) (v : List Char) (hcontent : trimEndNl v ≠ []) :
    literalBody N v = joinLines (litLines N v) := by
  have hce : (trimEndNl v).isEmpty = false := by
    cases h : trimEndNl v with
    | nil => exact absurd h hcontent
    | cons a b => rfl
  simp only [literalBody, litLines, hce, Bool.false_eq_true, if_false, joinLines_map, joinLines_append]
  congr 1
  by_cases h2 : v.length - (trimEndNl v).length ≥ 2
  · simp [h2, joinLines_replicate]
  · have : v.length - (trimEndNl v).length - 1 = 0 := by omega
    simp [h2, this, joinLines]

theorem takeWhile_nobreak (hdr rest : List Char) (h : ∀ c ∈ hdr, isBreak c = false) :
    (hdr ++ '\n' :: rest).takeWhile (fun c => !isBreak c) = hdr ∧
    (hdr ++ '\n' :: rest).dropWhile (fun c => !isBreak c) = '\n' :: rest := by
  have hp : ∀ c ∈ hdr, (!isBreak c) = true := fun c hc => by rw [h c hc]; rfl
  rw [List.takeWhile_append_of_pos hp, List.dropWhile_append_of_pos hp]
  exact ⟨List.append_nil hdr, rfl⟩

theorem readNode_block (p : Spec.Read.Pos) (hcl : p.closing = []) (hfl : p.isFlow = false) (literal : Bool)
    (hdr : List Char) (lines : List (List Char)) (col0 : Bool) (parent : Int)
    (hhdr : ∀ c ∈ hdr, isBreak c = false ∧ isNul c = false)
    (hlines : ∀ l ∈ lines, ∀ c ∈ l, c ≠ '\n' ∧ c ≠ '\r') :
    readNode p ((if literal then '|' else '>') :: (hdr ++ '\n' :: joinLines lines)) col0 parent =
      (readBlock literal parent hdr lines).bind
        (fun vr => if onlyTrailers vr.2 then some (if literal then Style.literal else Style.folded, vr.1) else none) := by
  have hsl : splitLines ('\n' :: joinLines lines) [] = some ([] :: lines) := by
    have := splitLines_join ([] :: lines) (by
      intro l hl c hc
      simp only [List.mem_cons] at hl
      rcases hl with e | hl
      · subst e; cases hc
      · exact hlines l hl c hc)
    simpa [joinLines] using this
  have htw := takeWhile_nobreak hdr (joinLines lines) (fun c hc => (hhdr c hc).1)
  have hnul : hdr.any isNul = false := List.any_eq_false.mpr fun c hc => by simp [(hhdr c hc).2]
  have hk : ∀ t, startKind false col0 ('|' :: t) = .literal ∧ startKind false col0 ('>' :: t) = .folded := by
    intro t; cases col0 <;> simp [startKind, isDocMarker_head, isFlowInd]
  cases literal <;>
    simp only [readNode, hfl, hk, Bool.false_eq_true, if_false, if_true, List.drop_succ_cons, List.drop_zero, htw.1,
      htw.2, hnul, hcl, List.isEmpty_nil, Bool.not_true, Bool.or_self, hsl] <;>
    rfl

/-- the block value positions: root, map value, seq item, enum newtype payload, sequence in sequence,
mapping in mapping, sequence in mapping -/
def isBlockPos : SerScalar.Pos → Bool
  | .root | .mapValue | .seqItem | .variant | .seqInSeq | .nestedMapValue | .seqInMap => true
  | _ => false

theorem blockPos_facts (p : SerScalar.Pos) (hp : isBlockPos p = true) :
    isKeyPos p = false ∧ (toRead p).isFlow = false ∧ (toRead p).closing = [] ∧ posPost p = [] := by
  cases p <;> first | (cases hp; done) | exact ⟨rfl, rfl, rfl, rfl⟩

theorem block_doc (o : Opts) (p : SerScalar.Pos) (v : List Char) (hp : isBlockPos p = true)
    (hstep : 1 ≤ o.indentStep) (literal : Bool) (hdr : List Char) (lines : List (List Char))
    (hser : serializeStr o (posCtx o p) v = .ok (spOf (posCtx o p) ++ writeIndent o (posCtx o p) (blockBase (posCtx o p)) ++
      (if literal then '|' else '>') :: (hdr ++ '\n' :: joinLines lines)))
    (hhdr : ∀ c ∈ hdr, isBreak c = false ∧ isNul c = false)
    (hlines : ∀ l ∈ lines, ∀ c ∈ l, c ≠ '\n' ∧ c ≠ '\r' ∧ isNul c = false)
    (hread : readBlock literal (posParentO o (toRead p)) hdr lines = some (v, [])) :
    ∃ t, emitDoc o p v = .ok t ∧ readDoc (toRead p) t = some (if literal then .literal else .folded, v) := by
  obtain ⟨hkey, hflow, hclosing, hpost⟩ := blockPos_facts p hp
  have hemit := emit_of_text o p hkey v _ (blockBase (posCtx o p)) (by intro e; subst e; rfl) hser
  rw [hpost, List.append_nil] at hemit
  have hnul : (hdr ++ '\n' :: joinLines lines).any isNul = false := by
    have h1 : hdr.any isNul = false := List.any_eq_false.mpr fun c hc => by simp [(hhdr c hc).2]
    have h2 : (joinLines lines).any isNul = false := by
      rw [joinLines, List.any_flatMap]
      refine List.any_eq_false.mpr fun l hl => ?_
      have : l.any isNul = false := List.any_eq_false.mpr fun c hc => by simp [(hlines l hl c hc).2.2]
      rw [List.any_append, this]
      decide
    rw [List.any_append, List.any_cons, h1, h2]
    rfl
  refine frame_doc o p hstep v _ _ hemit ⟨_, _, rfl, ?_, ?_, ?_, by rw [List.any_cons, hnul]; cases literal <;> rfl⟩ ?_
  · cases literal <;> rfl
  · cases literal <;> decide
  · cases literal <;> decide
  · rw [readNode_block _ hclosing hflow literal hdr lines _ _ hhdr fun l hl c hc => ⟨(hlines l hl c hc).1, (hlines l hl c hc).2.1⟩,
      hread]
    rfl

theorem trimEndNl_mem (v : List Char) : ∀ c ∈ trimEndNl v, c ∈ v := by
  intro c hc
  rw [(trimEndNl_spec v).1]
  simp [hc]

theorem litLines_mem (N : Nat) (v : List Char) : ∀ l ∈ litLines N v, ∀ c ∈ l, c = ' ' ∨ (c ∈ v ∧ c ≠ '\n') := by
  intro l hl c hc
  unfold litLines at hl
  simp only at hl
  have hsp : ∀ c ∈ spaces N, c = ' ' := by intro c hc; simp [spaces] at hc; exact hc.2
  split at hl
  · split at hl
    · simp only [List.mem_singleton] at hl; subst hl; left; exact hsp c hc
    · cases hl
  · simp only [List.mem_append, List.mem_map, List.mem_replicate] at hl
    rcases hl with ⟨x, hx, e⟩ | ⟨_, e⟩
    · subst e
      simp only [List.mem_append] at hc
      rcases hc with hc | hc
      · left; exact hsp c hc
      · right
        obtain ⟨hm, hn⟩ := splitNl_mem _ x hx c hc
        exact ⟨trimEndNl_mem v c hm, hn⟩
    · subst e; left; exact hsp c hc

theorem litHeader_chars (d : Option Nat) (hd : ∀ n, d = some n → 1 ≤ n ∧ n ≤ 9) (t : Nat) :
    ∀ c ∈ litHeader d t, isBreak c = false ∧ isNul c = false := by
  intro c hc
  unfold litHeader at hc
  simp only [List.mem_append] at hc
  rcases hc with hc | hc
  · cases d with
    | none => cases hc
    | some n =>
      obtain ⟨h1, h2⟩ := hd n rfl
      simp only [List.mem_singleton] at hc
      subst hc
      have key : ∀ n : Fin 10, isBreak (Char.ofNat (48 + n)) = false ∧ isNul (Char.ofNat (48 + n)) = false := by decide
      exact key ⟨n, by omega⟩
  · rw [(chompInd_cap t).1] at hc
    have key : ∀ m : Fin 3, ∀ c ∈ chompInd m, isBreak c = false ∧ isNul c = false := by decide
    exact key ⟨min t 2, by omega⟩ c hc

theorem cols_base0 (o : Opts) (cx : Ctx) (par : Int) (hstep : 1 ≤ o.indentStep) (hs : cx.shift = 0)
    (hb : blockBase cx = 0) (hpar : par ≤ 0) :
    1 ≤ blockCols o cx ∧ par + 1 ≤ (blockCols o cx : Int) ∧ ((blockBase cx = 0 ∧ par ≤ 0) ∨ blockBase cx > 0) := by
  have : blockCols o cx = o.indentStep := by rw [blockCols, hb, indentCols_shift0 o cx _ hs]; omega
  exact ⟨by omega, by omega, Or.inl ⟨hb, hpar⟩⟩

theorem blockPos_cols (o : Opts) (p : SerScalar.Pos) (hp : isBlockPos p = true) (hstep : 1 ≤ o.indentStep) :
    (posCtx o p).inFlow = false ∧ 1 ≤ blockCols o (posCtx o p) ∧
    posParentO o (toRead p) + 1 ≤ (blockCols o (posCtx o p) : Int) ∧
    ((blockBase (posCtx o p) = 0 ∧ posParentO o (toRead p) ≤ 0) ∨ blockBase (posCtx o p) > 0) := by
  cases p with
  | root | mapValue | seqItem | variant =>
    exact ⟨rfl, cols_base0 o _ _ hstep rfl rfl (by simp [toRead, posParentO])⟩
  | seqInSeq =>
    have : blockCols o (posCtx o .seqInSeq) = o.indentStep + 2 := by
      simp [blockCols, blockBase, posCtx, indentCols]
      omega
    refine ⟨rfl, by omega, by simp only [this, toRead, posParentO]; omega, Or.inr (by simp [blockBase, posCtx])⟩
  | nestedMapValue =>
    have : blockCols o (posCtx o .nestedMapValue) = o.indentStep * 2 := indentCols_shift0 o _ 2 rfl
    refine ⟨rfl, by omega, by simp only [this, toRead, posParentO]; omega, Or.inr (by simp [blockBase, posCtx])⟩
  | seqInMap =>
    cases hc : o.compactList with
    | true =>
      exact ⟨rfl, cols_base0 o _ _ hstep rfl (by simp [blockBase, posCtx, hc])
        (by simp [toRead, posParentO, seqInMapDepth, hc])⟩
    | false =>
      have hb : blockBase (posCtx o .seqInMap) = 1 := by simp [blockBase, posCtx, hc]
      have : blockCols o (posCtx o .seqInMap) = o.indentStep * 2 := by
        rw [blockCols, hb, indentCols_shift0 _ _ _ rfl]
      refine ⟨rfl, by omega, by simp only [this, toRead, posParentO, seqInMapDepth, hc]; simp; omega,
        Or.inr (by omega)⟩
  | mapKey | flowSeq | flowMapValue | flowMapKey => cases hp

/-- Geometry of a block scalar that is not sent to the fall-back: the body column is positive and deeper
than the parent node; an indentation indicator is only written where it is a single digit and the parent
is at column 0 or the root; the string has no carriage return and no U+0000. -/
theorem block_geometry (o : Opts) (p : SerScalar.Pos) (hp : isBlockPos p = true) (hstep : 1 ≤ o.indentStep)
    (v : List Char) (hnf : blockFallback o (posCtx o p) v = false) :
    (posCtx o p).inFlow = false ∧ 1 ≤ blockCols o (posCtx o p) ∧
    (needsInd v = false → posParentO o (toRead p) + 1 ≤ (blockCols o (posCtx o p) : Int)) ∧
    (needsInd v = true → blockCols o (posCtx o p) ≤ 9 ∧ posParentO o (toRead p) ≤ 0) ∧
    (∀ c ∈ v, c ≠ '\r' ∧ isNul c = false) := by
  simp only [blockFallback, Bool.or_eq_false_iff] at hnf
  obtain ⟨⟨⟨h1, _⟩, h3⟩, _⟩ := hnf
  have hctl : ∀ c ∈ v, c ≠ '\r' ∧ isNul c = false := by
    intro c hc
    have hcc := List.any_eq_false.mp h3 c hc
    constructor
    · intro e; subst e; revert hcc; decide
    · cases hn : isNul c with
      | false => rfl
      | true => rw [char_eq_of_toNat _ _ (eq_of_beq hn)] at hcc; revert hcc; decide
  obtain ⟨hfl, hpos, hdeep, hcase⟩ := blockPos_cols o p hp hstep
  refine ⟨hfl, hpos, fun _ => hdeep, ?_, hctl⟩
  intro hn
  simp only [hn, Bool.true_and, Bool.or_eq_false_iff, decide_eq_false_iff_not] at h1
  rcases hcase with ⟨_, hpar⟩ | hb
  · exact ⟨by omega, hpar⟩
  · exact absurd hb h1.2

theorem autoStyle_inv {o : Opts} {inFlow : Bool} {v : List Char} {st : StrStyle}
    (h : autoStyle o inFlow v = some st) :
    inFlow = false ∧ o.quoteAll = false ∧
      ((st = .literal ∧ (blockOk v = true ∨
          isPlainValueSafe ((trimEndNl v).map fun c => if c == '\n' then ' ' else c) o.yaml12 false = true)) ∨
       (st = .folded ∧ v.contains '\n' = false ∧ isPlainValueSafe v o.yaml12 false = true)) := by
  unfold autoStyle at h
  by_cases h0 : (!inFlow && !o.quoteAll) = true
  · rw [if_pos h0] at h
    simp only [Bool.and_eq_true, Bool.not_eq_true'] at h0
    refine ⟨h0.1, h0.2, ?_⟩
    by_cases hpb : o.preferBlock = true
    · simp only [hpb, if_true] at h
      by_cases hn : v.contains '\n' = true
      · rw [if_pos hn] at h
        refine Or.inl ?_
        split at h
        · rename_i h1
          exact ⟨(Option.some.inj h).symm, Or.inl (Bool.and_eq_true _ _ ▸ h1).2⟩
        · split at h
          · rename_i h1
            exact ⟨(Option.some.inj h).symm, Or.inr h1⟩
          · cases h
      · rw [if_neg hn] at h
        split at h
        · rename_i h1
          exact Or.inr ⟨(Option.some.inj h).symm, by simpa using hn, (Bool.and_eq_true _ _ ▸ h1).1⟩
        · cases h
    · simp [hpb] at h
  · rw [if_neg h0] at h; cases h

/-- the automatic literal selection refuses contents made of line breaks only (since the repair a252cf9) -/
theorem autoStyle_literal_content {o : Opts} {v : List Char} (h : autoStyle o false v = some .literal) :
    trimEndNl v ≠ [] := by
  intro e
  obtain ⟨_, _, ⟨_, h | h⟩ | ⟨h, _⟩⟩ := autoStyle_inv h
  · simp [blockOk, e] at h
  · rw [e] at h; exact absurd (pvs_unfold h).2.1 (by decide)
  · cases h

theorem blockHeaderTail_eq (o : Opts) (cx : Ctx) (v : List Char) :
    blockHeaderTail o cx v =
      litHeader (if firstLineLeadingSpaces (trimEndNl v) > 0 then some (blockCols o cx) else none)
        (v.length - (trimEndNl v).length) := by
  unfold blockHeaderTail litHeader needsInd
  by_cases h : firstLineLeadingSpaces (trimEndNl v) > 0 <;> simp [h]

/-- The automatic literal block round-trips at document level in every block value position, whenever the
writer really emits it (selection, no fall-back), under every option vector. -/
theorem literal_doc (o : Opts) (p : SerScalar.Pos) (v : List Char) (hp : isBlockPos p = true)
    (hstep : 1 ≤ o.indentStep) (hauto : autoStyle o false v = some .literal)
    (hnf : blockFallback o (posCtx o p) v = false) :
    ∃ t, emitDoc o p v = .ok t ∧ readDoc (toRead p) t = some (.literal, v) := by
  obtain ⟨hinflow, hN, hgeoA, hgeoE, hchars⟩ := block_geometry o p hp hstep v hnf
  have hcontent := autoStyle_literal_content hauto
  refine block_doc o p v hp hstep true (blockHeaderTail o (posCtx o p) v) (litLines (blockCols o (posCtx o p)) v)
    ?_ ?_ ?_ ?_
  · unfold serializeStr
    rw [hinflow, hauto]
    simp only [hnf, Bool.false_eq_true, if_false, if_true, spOf, literalBody_eq _ v hcontent]
  · rw [blockHeaderTail_eq]
    exact litHeader_chars _ (indDigit_range hN fun hf => (hgeoE (by simp [needsInd, hf])).1) _
  · intro l hl c hc
    rcases litLines_mem _ v l hl c hc with e | ⟨hm, hn⟩
    · subst e; decide
    · exact ⟨hn, hchars c hm⟩
  · rw [blockHeaderTail_eq]
    exact literal_read _ _ v hN hcontent (fun h0 => hgeoA (by simp [needsInd, h0])) (fun h0 => hgeoE (by simp [needsInd, h0]))

end SaphyrVerif.Lemmas.C12
