import SaphyrVerif.Lemmas.C13_BlockWrite
import SaphyrVerif.Lemmas.C13_BlockRead
/-!
Block scalars: the CONTRACTS for the texts `blkToks` (plain / quoted token, or
block scalar: header + body lines) of ALL strings, for the crate's own scalar-text functions (`implFns`):

* write (`blk_write`): in every position of the fragment `serialize_str` writes what `blkStr` says;
* read (`blk_read`): the reference reader takes what `blkStr` says for the string.

At the end, for C20: the explicit literal string `LitStr` at the root (`emit_litStr`, `read_litText`).
-/
namespace SaphyrVerif.Emit

variable {o : Opts} {f : ScalarFns}

theorem impl_pvs_nil (y fl : Bool) : implFns.isPlainValueSafe [] y fl = false := by
  cases y <;> cases fl <;> decide

/-- a string the crate's functions send to the literal style has content before its trailing line breaks -/
theorem impl_blockOk (o : Opts) (v : List Char) (ha : autoBlock o implFns v = true) : BlockOk v := by
  intro hn
  unfold autoBlock at ha
  simp only [hn, if_true, Bool.and_eq_true, Bool.or_eq_true, decide_eq_true_eq, Bool.not_eq_true'] at ha
  rcases ha.2 with ⟨_, _, h⟩ | h
  · exact h
  · cases he : (trimEndNl v).isEmpty
    · rfl
    · have : trimEndNl v = [] := List.isEmpty_iff.mp he
      rw [this] at h
      simp only [List.map_nil] at h
      rw [impl_pvs_nil] at h
      exact absurd h (by simp)

theorem impl_pvs_facts {v : List Char} {y : Bool} (h : implFns.isPlainValueSafe v y false = true) :
    v ≠ [] ∧ v.head? ≠ some ' ' ∧ ∀ c ∈ v, isControl c = false := by
  obtain ⟨_, hfc, _, _, hctl⟩ := pvs_unfold (s := v) (y := y) (fl := false) h
  obtain ⟨c, cs, rfl, hps, _⟩ := firstCharOk_start hfc
  refine ⟨by simp, ?_, fun x hx => (noControl_mem hctl x hx).2⟩
  simp only [List.head?_cons, ne_eq, Option.some.injEq]
  exact keyStart_ne (plainStart_key hps) ' ' (by decide)

theorem lineChar_of_notControl {c : Char} (h : isControl c = false) : c ≠ '\n' ∧ c ≠ '\t' ∧ lineChar c = true :=
  ⟨by rintro rfl; exact absurd h (by decide), by rintro rfl; exact absurd h (by decide), not_control_lineChar h⟩

theorem blk_str (ho : FragOpts o) {s : List Char} (hb : autoBlock o f s = true → BlockOk s) :
    LeafWrites o (fun st => .ok (serStr o f s st)) (fun pos => blkStr o f o.indentStep pos s) := by
  cases ha : autoBlock o f s
  · have e : (fun pos => blkStr o f o.indentStep pos s) = fun _ => (strTok o f s, []) := by funext pos; simp [blkStr, ha]
    rw [e]; exact .ofToken fun st h1 h2 => congrArg _ (serStr_token h1 h2 ha)
  · exact serStr_block ho ha (hb ha)

/-- the write contract of `blkToks` for any scalar-text functions whose literal candidates have content -/
theorem blk_write_gen (ho : FragOpts o) {P : LeafPred} (hb : ∀ s, P.str s = true → autoBlock o f s = true → BlockOk s)
    (hu : ∀ e n, P.unit e n = true → o.taggedEnums = false → autoBlock o f n = true → BlockOk n) :
    WriteContract o f P (blkToks o f) :=
  .ofLeaves (fun s h => blk_str ho (hb s h))
    (fun e n h => by
      cases ht : o.taggedEnums
      · simpa [blkToks, blkUnit, ht, funext (ser_unit_untagged (f := f) ht e n)] using blk_str ho (hu e n h ht)
      · simpa [blkToks, blkUnit, ht] using
          LeafWrites.ofToken (o := o) (tok := '!' :: '!' :: e ++ ' ' :: plainOrQuotedValue o f false n)
            fun st _ h2 => ser_unit_tagged ht e n h2)
    (fun _ _ => rfl) (fun _ _ => rfl)

/-- (emitter side) for the crate's own scalar-text functions and EVERY string: in each position `serialize_str`
writes what `blkStr` says -/
theorem blk_write (ho : FragOpts o) : WriteContract o implFns (allStrPred o) (blkToks o implFns) :=
  blk_write_gen ho (fun s _ ha => impl_blockOk o s ha) (fun _ n _ _ ha => impl_blockOk o n ha)

theorem posCols (k : Nat) (hk : k ≥ 1) (pos : StrPos) :
    1 ≤ bodyCol k pos ∧ pos.minIndent ≤ bodyCol k pos ∧ (parentCol pos = 0 → pos.minIndent ≤ 1) := by
  cases pos <;> simp [bodyCol, StrPos.minIndent, parentCol] <;> omega

theorem blkStr_leafOK (o : Opts) (k : Nat) (hk : k ≥ 1) (pos : StrPos) (s : List Char) (hbr : boolRisk o s = false) :
    LeafOK pos.minIndent (blkStr o implFns k pos s) (.str s) := by
  obtain ⟨hN1, hnN, hpar⟩ := posCols k hk pos
  unfold blkStr
  cases ha : autoBlock o implFns s
  · simp only [Bool.false_eq_true, if_false]
    exact (strTok_scalarTok s hbr).leafOK _
  · simp only [if_true]
    cases hfb : blockFallback k pos s
    · simp only [Bool.false_eq_true, if_false]
      have hfb' := hfb
      simp only [blockFallback, Bool.or_eq_false_iff, Bool.and_eq_false_iff] at hfb'
      obtain ⟨⟨hind, _⟩, hctl⟩ := hfb'
      cases hn : s.contains '\n'
      · -- folded: the string passed the plain-value test
        simp only [Bool.false_eq_true, if_false]
        have hpv : implFns.isPlainValueSafe s o.yaml12 false = true := by
          unfold autoBlock at ha
          simp only [hn, Bool.false_eq_true, if_false, Bool.and_eq_true] at ha
          exact ha.2.1
        obtain ⟨hne, hhead, hc⟩ := impl_pvs_facts hpv
        exact foldLeaf_ok _ _ _ s hN1 hne hhead (fun c hcm => lineChar_of_notControl (hc c hcm)) hnN
      · -- literal
        simp only [if_true]
        have hce := impl_blockOk o s ha hn
        have hcontent : trimEndNl s ≠ [] := by
          intro e; rw [e] at hce; exact absurd hce (by simp)
        refine litLeaf_ok _ _ s hN1 hcontent hctl hnN (fun hni => ?_)
        rcases hind with hind | hind
        · rw [hni] at hind; exact absurd hind (by simp)
        · simp only [decide_eq_false_iff_not, Nat.not_lt, Nat.le_zero] at hind
          exact ⟨by omega, hpar (by omega)⟩
    · simp only [if_true]
      exact (pqv_scalarTok s hbr).leafOK _

/-- (reader side) for the crate's own scalar-text functions: what `blkStr` says for a string reads as that string
in every position — except for the YAML 1.1 boolean words `yaml_12` leaves plain -/
theorem blk_read (o : Opts) (k : Nat) (hk : k ≥ 1) : ReadContract (allStrPred o) (blkToks o implFns) k where
  str := fun pos s h => blkStr_leafOK o k hk pos s (by simpa [allStrPred] using h)
  unit := fun pos e n h => by
    simp only [allStrPred, Bool.and_eq_true, Bool.or_eq_true, Bool.not_eq_true'] at h
    show LeafOK pos.minIndent (blkUnit o implFns k pos e n) (.str n)
    cases ht : o.taggedEnums
    · simpa [blkUnit, ht] using blkStr_leafOK o k hk pos n h.2
    · have he : tagNameOk e = true := by simpa [ht] using h.1
      simpa [blkUnit, ht] using (tagged_scalarTok he (pqv_coreTok n h.2)).leafOK pos.minIndent
  key := fun s h => (impl_read o k).key s h
  name := fun n h => (impl_read o k).name n h

/-- the class of `emit_roundtrip_strings_partial` (strings that get no block style) is part of the class of all
strings -/
theorem implPred_all {v : SVal} (h : inFragP (implPred o) v = true) : inFragP (allStrPred o) v = true := by
  refine inFragP_mono (P := implPred o) (Q := allStrPred o) ?_ (fun _ h => h) (fun _ h => h) ?_ v h
  · intro s hs
    simp only [implPred, Bool.and_eq_true, Bool.not_eq_true'] at hs
    simp [allStrPred, hs.2]
  · intro e n hs
    cases ht : o.taggedEnums
    · simp only [implPred, ht, Bool.false_eq_true, if_false, Bool.and_eq_true, Bool.not_eq_true'] at hs
      simp [allStrPred, ht, hs.2]
    · simp only [implPred, ht, if_true, Bool.and_eq_true, Bool.not_eq_true'] at hs
      simp [allStrPred, ht, hs.1, hs.2]

section
variable {f : ScalarFns}

theorem serStr_pending {v : List Char} {s : St} {style : StrStyle} (h : s.pendingStrStyle = some style) :
    serStr o f v s = blockArm o f v style { s with pendingStrStyle := none } := by
  simp only [serStr, h, Option.isNone_some, Bool.false_and, Bool.false_eq_true, if_false]
  rfl

theorem LitOk.noInd {s : List Char} (h : LitOk s) : needsInd s = false := by
  simp [needsInd, h.noIndicator]

theorem litText_eq (s : List Char) (hs : LitOk s) : litText s = renderLines (⟨0, (litLeaf 2 s).1⟩ :: (litLeaf 2 s).2) := by
  simp [litText, litLeaf, blockHdr, hs.noInd, indChars, trailNl, renderLines_body, bodyText, litBody, spaces]

theorem emit_litStr (hy : o.yaml12 = false) (hi : o.indentStep = 2) (s : List Char) (hs : LitOk s) :
    emit o f (.litStr s) = .ok (litText s) := by
  have hce : (trimEndNl s).isEmpty = false := by
    cases h : trimEndNl s with
    | nil => exact absurd h hs.content
    | cons _ _ => rfl
  have hctl : hasCtl s = false := hs.noCtl
  simp only [emit, hi]
  rw [ser, serStr_pending rfl, litText_eq s hs, blockArm_start s _ false (Or.inl rfl)]
  simp [blockEmit, startSt, prologue, hy, literalBlock_eq _ _ _ _ hce, indentCols, hi, hctl, hs.noInd, litLeaf, blockHdr, renderLines_body,
    spaces, indChars]

theorem read_litText (s : List Char) (hs : LitOk s) : readDoc (litText s) = some (.str s) := by
  have hl : LeafOK 0 (litLeaf 2 s) (.str s) :=
    litLeaf_ok 2 0 s (by omega) hs.content hs.noCtl (by omega) (fun h => by rw [hs.noInd] at h; exact absurd h (by decide))
  rw [litText_eq s hs]
  refine readDoc_of_lines _ _ (AllQ.cons (Or.inl (hl.goodLine 0)) (AllGood.ofBody hl.body)) (FirstLine.ofGood (hl.goodLine 0) _) ?_
  intro fuel hf
  obtain ⟨f', rfl⟩ : ∃ f', fuel = f' + 1 := ⟨fuel - 1, by omega⟩
  simpa using hl.read f' none false 0 [] (Nat.le_refl _) (Or.inl rfl)
end

end SaphyrVerif.Emit
