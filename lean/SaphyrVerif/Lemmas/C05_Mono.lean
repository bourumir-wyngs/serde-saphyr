import SaphyrVerif.Lemmas.DeEqns
/-!
Fuel monotonicity of success for the deserializer model (`SaphyrVerif.De`): `MonoA n` says that each of the 24 functions
of the mutual block, when it succeeds with fuel `n`, succeeds with the same result with fuel `n + 1` (`MLe`); `MonoR n` is the
same as conditional rewrite rules (`MonoA.toR`; a single rule gives its `MLe` back by `MLe.of_eq_of_ok`).  `monoA : ∀ n, MonoA n`
by induction; the step (`monoA_succ : MonoR n → MonoA (n + 1)`) runs both sides in lock step (`mono_step`) and uses the
hypothesis only as rewrite rules.  Exported: for every function `X`, `X_mono` (one more unit of fuel) and `X_mono_le` (any larger fuel).
-/
namespace SaphyrVerif.Lemmas.C05
open SaphyrVerif SaphyrVerif.Scalars SaphyrVerif.Pump SaphyrVerif.De

def MLe {α : Type} (x y : R α) : Prop := ∀ a c, x = .ok a c → y = .ok a c
def MLeE {α : Type} (x y : Except DErr α) : Prop := ∀ a, x = .ok a → y = .ok a

def rOk {α : Type} : R α → Bool
  | .ok .. => true
  | .err .. => false
def eOk {α : Type} : Except DErr α → Bool
  | .ok .. => true
  | .error .. => false

theorem rOk_ok {α : Type} (a : α) (c : Cur) : rOk (R.ok a c) = true := rfl
theorem eOk_ok {α : Type} (a : α) : eOk (Except.ok a : Except DErr α) = true := rfl

theorem MLe.err {α : Type} (e : DErr) (c : Cur) (y : R α) : MLe (.err e c) y := by
  intro a c' h; cases h
theorem MLe.refl {α : Type} (x : R α) : MLe x x := fun _ _ h => h
theorem MLeE.err {α : Type} (e : DErr) (y : Except DErr α) : MLeE (.error e) y := by
  intro a h; cases h
theorem MLeE.refl {α : Type} (x : Except DErr α) : MLeE x x := fun _ h => h

theorem MLe.eq_of_ok {α : Type} {x y : R α} (h : MLe x y) (hx : rOk x = true) : y = x := by
  cases x with
  | ok a c => exact h a c rfl
  | err e c => cases hx
theorem MLeE.eq_of_ok {α : Type} {x y : Except DErr α} (h : MLeE x y) (hx : eOk x = true) : y = x := by
  cases x with
  | ok a => exact h a rfl
  | error e => cases hx

theorem MLe.of_eq_of_ok {α : Type} {x y : R α} (h : rOk x = true → y = x) : MLe x y := by
  intro a c hx
  rw [h (by rw [hx]; rfl), hx]
theorem MLeE.of_eq_of_ok {α : Type} {x y : Except DErr α} (h : eOk x = true → y = x) : MLeE x y := by
  intro a hx
  rw [h (by rw [hx]; rfl), hx]

structure MonoA (fuel : Nat) : Prop where
  capture : ∀ a, MLe (De.capture fuel a) (De.capture (fuel + 1) a)
  captureSeq : ∀ a b c, MLe (De.captureSeq fuel a b c) (De.captureSeq (fuel + 1) a b c)
  captureMap : ∀ a b c, MLe (De.captureMap fuel a b c) (De.captureMap (fuel + 1) a b c)
  pendingFromEvents : ∀ a b c, MLeE (De.pendingFromEvents fuel a b c) (De.pendingFromEvents (fuel + 1) a b c)
  mergeSeqBatches : ∀ a b, MLe (De.mergeSeqBatches fuel a b) (De.mergeSeqBatches (fuel + 1) a b)
  pendingFromLive : ∀ a b, MLe (De.pendingFromLive fuel a b) (De.pendingFromLive (fuel + 1) a b)
  collectEntriesFromMap : ∀ a b, MLe (De.collectEntriesFromMap fuel a b) (De.collectEntriesFromMap (fuel + 1) a b)
  collectLoop : ∀ a b c d, MLe (De.collectLoop fuel a b c d) (De.collectLoop (fuel + 1) a b c d)
  skipOneNode : ∀ a, MLe (De.skipOneNode fuel a) (De.skipOneNode (fuel + 1) a)
  skipDepth : ∀ a b, MLe (De.skipDepth fuel a b) (De.skipDepth (fuel + 1) a b)
  deser : ∀ a b c d e, MLe (De.deser fuel a b c d e) (De.deser (fuel + 1) a b c d e)
  bytesLoop : ∀ a b c, MLe (De.bytesLoop fuel a b c) (De.bytesLoop (fuel + 1) a b c)
  deserSeqLike : ∀ a b c, MLe (De.deserSeqLike fuel a b c) (De.deserSeqLike (fuel + 1) a b c)
  seqElems : ∀ a b c d, MLe (De.seqElems fuel a b c d) (De.seqElems (fuel + 1) a b c d)
  tupleElems : ∀ a b c d, MLe (De.tupleElems fuel a b c d) (De.tupleElems (fuel + 1) a b c d)
  deserMapLike : ∀ a b c, MLe (De.deserMapLike fuel a b c) (De.deserMapLike (fuel + 1) a b c)
  mapEntries : ∀ a b c d e f, MLe (De.mapEntries fuel a b c d e f) (De.mapEntries (fuel + 1) a b c d e f)
  structEntries : ∀ a b c d e f, MLe (De.structEntries fuel a b c d e f) (De.structEntries (fuel + 1) a b c d e f)
  nextKey : ∀ a b c d, MLe (De.nextKey fuel a b c d) (De.nextKey (fuel + 1) a b c d)
  deserKey : ∀ a b c d, MLeE (De.deserKey fuel a b c d) (De.deserKey (fuel + 1) a b c d)
  nextValue : ∀ a b c d, MLe (De.nextValue fuel a b c d) (De.nextValue (fuel + 1) a b c d)
  deserEnum : ∀ a b c d, MLe (De.deserEnum fuel a b c d) (De.deserEnum (fuel + 1) a b c d)
  collectTaggedSeq : ∀ a b c, MLe (De.collectTaggedSeq fuel a b c) (De.collectTaggedSeq (fuel + 1) a b c)
  variantPayload : ∀ a b c d e f g, MLe (De.variantPayload fuel a b c d e f g) (De.variantPayload (fuel + 1) a b c d e f g)

structure MonoR (fuel : Nat) : Prop where
  capture : ∀ a, rOk (De.capture fuel a) = true → De.capture (fuel + 1) a = De.capture fuel a
  captureSeq : ∀ a b c, rOk (De.captureSeq fuel a b c) = true → De.captureSeq (fuel + 1) a b c = De.captureSeq fuel a b c
  captureMap : ∀ a b c, rOk (De.captureMap fuel a b c) = true → De.captureMap (fuel + 1) a b c = De.captureMap fuel a b c
  pendingFromEvents : ∀ a b c, eOk (De.pendingFromEvents fuel a b c) = true → De.pendingFromEvents (fuel + 1) a b c = De.pendingFromEvents fuel a b c
  mergeSeqBatches : ∀ a b, rOk (De.mergeSeqBatches fuel a b) = true → De.mergeSeqBatches (fuel + 1) a b = De.mergeSeqBatches fuel a b
  pendingFromLive : ∀ a b, rOk (De.pendingFromLive fuel a b) = true → De.pendingFromLive (fuel + 1) a b = De.pendingFromLive fuel a b
  collectEntriesFromMap : ∀ a b, rOk (De.collectEntriesFromMap fuel a b) = true → De.collectEntriesFromMap (fuel + 1) a b = De.collectEntriesFromMap fuel a b
  collectLoop : ∀ a b c d, rOk (De.collectLoop fuel a b c d) = true → De.collectLoop (fuel + 1) a b c d = De.collectLoop fuel a b c d
  skipOneNode : ∀ a, rOk (De.skipOneNode fuel a) = true → De.skipOneNode (fuel + 1) a = De.skipOneNode fuel a
  skipDepth : ∀ a b, rOk (De.skipDepth fuel a b) = true → De.skipDepth (fuel + 1) a b = De.skipDepth fuel a b
  deser : ∀ a b c d e, rOk (De.deser fuel a b c d e) = true → De.deser (fuel + 1) a b c d e = De.deser fuel a b c d e
  bytesLoop : ∀ a b c, rOk (De.bytesLoop fuel a b c) = true → De.bytesLoop (fuel + 1) a b c = De.bytesLoop fuel a b c
  deserSeqLike : ∀ a b c, rOk (De.deserSeqLike fuel a b c) = true → De.deserSeqLike (fuel + 1) a b c = De.deserSeqLike fuel a b c
  seqElems : ∀ a b c d, rOk (De.seqElems fuel a b c d) = true → De.seqElems (fuel + 1) a b c d = De.seqElems fuel a b c d
  tupleElems : ∀ a b c d, rOk (De.tupleElems fuel a b c d) = true → De.tupleElems (fuel + 1) a b c d = De.tupleElems fuel a b c d
  deserMapLike : ∀ a b c, rOk (De.deserMapLike fuel a b c) = true → De.deserMapLike (fuel + 1) a b c = De.deserMapLike fuel a b c
  mapEntries : ∀ a b c d e f, rOk (De.mapEntries fuel a b c d e f) = true → De.mapEntries (fuel + 1) a b c d e f = De.mapEntries fuel a b c d e f
  structEntries : ∀ a b c d e f, rOk (De.structEntries fuel a b c d e f) = true → De.structEntries (fuel + 1) a b c d e f = De.structEntries fuel a b c d e f
  nextKey : ∀ a b c d, rOk (De.nextKey fuel a b c d) = true → De.nextKey (fuel + 1) a b c d = De.nextKey fuel a b c d
  deserKey : ∀ a b c d, eOk (De.deserKey fuel a b c d) = true → De.deserKey (fuel + 1) a b c d = De.deserKey fuel a b c d
  nextValue : ∀ a b c d, rOk (De.nextValue fuel a b c d) = true → De.nextValue (fuel + 1) a b c d = De.nextValue fuel a b c d
  deserEnum : ∀ a b c d, rOk (De.deserEnum fuel a b c d) = true → De.deserEnum (fuel + 1) a b c d = De.deserEnum fuel a b c d
  collectTaggedSeq : ∀ a b c, rOk (De.collectTaggedSeq fuel a b c) = true → De.collectTaggedSeq (fuel + 1) a b c = De.collectTaggedSeq fuel a b c
  variantPayload : ∀ a b c d e f g, rOk (De.variantPayload fuel a b c d e f g) = true → De.variantPayload (fuel + 1) a b c d e f g = De.variantPayload fuel a b c d e f g

theorem MonoA.toR {fuel : Nat} (h : MonoA fuel) : MonoR fuel where
  capture := fun a => (h.capture a).eq_of_ok
  captureSeq := fun a b c => (h.captureSeq a b c).eq_of_ok
  captureMap := fun a b c => (h.captureMap a b c).eq_of_ok
  pendingFromEvents := fun a b c => (h.pendingFromEvents a b c).eq_of_ok
  mergeSeqBatches := fun a b => (h.mergeSeqBatches a b).eq_of_ok
  pendingFromLive := fun a b => (h.pendingFromLive a b).eq_of_ok
  collectEntriesFromMap := fun a b => (h.collectEntriesFromMap a b).eq_of_ok
  collectLoop := fun a b c d => (h.collectLoop a b c d).eq_of_ok
  skipOneNode := fun a => (h.skipOneNode a).eq_of_ok
  skipDepth := fun a b => (h.skipDepth a b).eq_of_ok
  deser := fun a b c d e => (h.deser a b c d e).eq_of_ok
  bytesLoop := fun a b c => (h.bytesLoop a b c).eq_of_ok
  deserSeqLike := fun a b c => (h.deserSeqLike a b c).eq_of_ok
  seqElems := fun a b c d => (h.seqElems a b c d).eq_of_ok
  tupleElems := fun a b c d => (h.tupleElems a b c d).eq_of_ok
  deserMapLike := fun a b c => (h.deserMapLike a b c).eq_of_ok
  mapEntries := fun a b c d e f => (h.mapEntries a b c d e f).eq_of_ok
  structEntries := fun a b c d e f => (h.structEntries a b c d e f).eq_of_ok
  nextKey := fun a b c d => (h.nextKey a b c d).eq_of_ok
  deserKey := fun a b c d => (h.deserKey a b c d).eq_of_ok
  nextValue := fun a b c d => (h.nextValue a b c d).eq_of_ok
  deserEnum := fun a b c d => (h.deserEnum a b c d).eq_of_ok
  collectTaggedSeq := fun a b c => (h.collectTaggedSeq a b c).eq_of_ok
  variantPayload := fun a b c d e f g => (h.variantPayload a b c d e f g).eq_of_ok

/-- the 24 rules of `MonoR` as hypotheses, where `simp only [*]` finds them -/
macro "mono_setup" hr:ident : tactic => `(tactic| (have h := $hr; cases h))

/-- one step on a goal `MLe L R`, `L` a body at `fuel` and `R` the same body at `fuel + 1`.  If the two agree (nothing in them
depends on the fuel), done.  Else `split` the next `match`/`if` of `L`.  A branch in which `L` has become an error is done.  In
the others `R` has to follow: after a split on a call `g fuel x` the context holds `heq : g fuel x = .ok ..`, and `simp only [*]`
rewrites `R`'s `g (fuel + 1) x` by the `MonoR` rule for `g`, whose side condition `rOk (g fuel x) = true` it discharges with
`heq` and `rOk_ok`; after a split on anything else `R` has the same discriminant and `split` has reduced it already (`skip`).
When nothing splits the goal is a tail call, `MLe (g fuel x) (g (fuel + 1) x)`: by `MLe.of_eq_of_ok` that is the rule for `g`
itself, which `simp` finds by its index (trying the 24 fields one after the other by unification is dear).
`with_reducible`: the closers are meant for goals that have their form as they stand; at default transparency every failing
attempt lets the unifier unfold the functions of the block. -/
macro "mono_step" : tactic =>
  `(tactic| first
      | with_reducible exact MLe.refl _
      | with_reducible exact MLeE.refl _
      | (split <;> first
          | with_reducible exact MLe.err _ _ _
          | with_reducible exact MLeE.err _ _
          | simp only [*, rOk_ok, eOk_ok]
          | skip)
      | (refine MLe.of_eq_of_ok fun _ => ?_; simp only [*])
      | (refine MLeE.of_eq_of_ok fun _ => ?_; simp only [*]))

theorem enumScalar_mono {fuel : Nat} (hr : MonoR fuel) (cfg name vs c v tag rt st a l) :
    MLe (enumScalar fuel cfg name vs c v tag rt st a l) (enumScalar (fuel + 1) cfg name vs c v tag rt st a l) := by
  mono_setup hr
  simp only [enumScalar]
  repeat' (first | both_ite | mono_step)

theorem enumMap_mono {fuel : Nat} (hr : MonoR fuel) (cfg vs c) :
    MLe (enumMap fuel cfg vs c) (enumMap (fuel + 1) cfg vs c) := by
  mono_setup hr
  unfold enumMap
  repeat' (first | both_ite | mono_step)

theorem enumSeq_mono {fuel : Nat} (hr : MonoR fuel) (cfg vs c a tag rt l) :
    MLe (enumSeq fuel cfg vs c a tag rt l) (enumSeq (fuel + 1) cfg vs c a tag rt l) := by
  mono_setup hr
  unfold enumSeq
  repeat' (first | both_ite | mono_step)

theorem clEntry_mono {fuel : Nat} (hr : MonoR fuel) (c ref fs ms k) :
    MLe (clEntry fuel c ref fs ms k) (clEntry (fuel + 1) c ref fs ms k) := by
  mono_setup hr
  unfold clEntry
  repeat' mono_step

theorem seqProper_mono {fuel : Nat} (hr : MonoR fuel) (cfg sh c) :
    MLe (seqProper fuel cfg sh c) (seqProper (fuel + 1) cfg sh c) := by
  mono_setup hr
  cases sh
  all_goals
    simp only [seqProper]
    repeat' mono_step

theorem mapProper_mono {fuel : Nat} (hr : MonoR fuel) (cfg sh c) :
    MLe (mapProper fuel cfg sh c) (mapProper (fuel + 1) cfg sh c) := by
  mono_setup hr
  unfold mapProper
  repeat' mono_step

/-! `nextKey`, piece by piece (`Lemmas/DeEqns.lean`) -/
section nextKey
variable {fuel : Nat} (hr : MonoR fuel)
include hr

theorem nkPending_mono (cfg ks c m e) : MLe (nkPending fuel cfg ks c m e) (nkPending (fuel + 1) cfg ks c m e) := by
  mono_setup hr
  simp only [nkPending]
  repeat' mono_step

theorem nkFlush_mono (cfg ks c m) : MLe (nkFlush fuel cfg ks c m) (nkFlush (fuel + 1) cfg ks c m) := by
  mono_setup hr
  simp only [nkFlush]
  repeat' mono_step

theorem nkEnd_mono (cfg ks c m) : MLe (nkEnd fuel cfg ks c m) (nkEnd (fuel + 1) cfg ks c m) := by
  simp only [nkEnd]
  split
  · exact MLe.refl _
  · exact nkFlush_mono hr _ _ _ _

theorem nkMerge_mono (cfg ks c m) : MLe (nkMerge fuel cfg ks c m) (nkMerge (fuel + 1) cfg ks c m) := by
  mono_setup hr
  simp only [nkMerge]
  repeat' mono_step

theorem nkDeliver_mono (cfg ks c m kn) : MLe (nkDeliver fuel cfg ks c m kn) (nkDeliver (fuel + 1) cfg ks c m kn) := by
  mono_setup hr
  unfold nkDeliver
  extract_lets
  repeat' mono_step

theorem nkKey_mono (cfg ks c m ia kn) : MLe (nkKey fuel cfg ks c m ia kn) (nkKey (fuel + 1) cfg ks c m ia kn) := by
  mono_setup hr
  unfold nkKey
  extract_lets
  repeat' (first | exact nkDeliver_mono hr _ _ _ _ _ | mono_step)

theorem nkLive_mono (cfg ks c m) : MLe (nkLive fuel cfg ks c m) (nkLive (fuel + 1) cfg ks c m) := by
  mono_setup hr
  simp only [nkLive]
  repeat' (first
    | exact nkEnd_mono hr _ _ _ _
    | exact nkMerge_mono hr _ _ _ _
    | exact nkKey_mono hr _ _ _ _ _ _
    | mono_step)

end nextKey

theorem vpKind_mono {fuel : Nat} (hr : MonoR fuel) (cfg name mm tg vt c) :
    MLe (vpKind fuel cfg name mm tg vt c) (vpKind (fuel + 1) cfg name mm tg vt c) := by
  mono_setup hr
  unfold vpKind
  repeat' mono_step

theorem monoA_succ {fuel : Nat} (hr : MonoR fuel) : MonoA (fuel + 1) := by
  mono_setup hr
  exact {
    capture a := by
      rw [De.capture, De.capture]
      repeat' mono_step
    captureSeq a b c := by
      rw [De.captureSeq, De.captureSeq]
      repeat' mono_step
    captureMap a b c := by
      rw [De.captureMap, De.captureMap]
      repeat' mono_step
    pendingFromEvents a b c := by
      rw [De.pendingFromEvents, De.pendingFromEvents]
      repeat' mono_step
    mergeSeqBatches a b := by
      rw [De.mergeSeqBatches, De.mergeSeqBatches]
      repeat' mono_step
    pendingFromLive a b := by
      rw [De.pendingFromLive, De.pendingFromLive]
      repeat' mono_step
    collectEntriesFromMap a b := by
      rw [De.collectEntriesFromMap, De.collectEntriesFromMap]
      repeat' mono_step
    collectLoop a b c d := by
      rw [collectLoop_succ, collectLoop_succ]
      repeat' (first | exact clEntry_mono hr _ _ _ _ _ | mono_step)
    skipOneNode a := by
      rw [De.skipOneNode, De.skipOneNode]
      repeat' mono_step
    skipDepth a b := by
      rw [De.skipDepth, De.skipDepth]
      repeat' mono_step
    deser a b c d e := by
      rw [De.deser.eq_def, De.deser.eq_def]
      dsimp only
      repeat' (first | both_ite | mono_step)
    bytesLoop a b c := by
      rw [De.bytesLoop, De.bytesLoop]
      repeat' mono_step
    deserSeqLike a b c := by
      rw [deserSeqLike_succ, deserSeqLike_succ]
      unfold seqHead
      repeat' (first | exact seqProper_mono hr _ _ _ | mono_step)
    seqElems a b c d := by
      rw [De.seqElems, De.seqElems]
      repeat' mono_step
    tupleElems a b c d := by
      cases b <;> rw [De.tupleElems, De.tupleElems]
      repeat' mono_step
    deserMapLike a b c := by
      rw [deserMapLike_succ, deserMapLike_succ]
      repeat' (first | exact mapProper_mono hr _ _ _ | mono_step)
    mapEntries a b c d e f := by
      rw [De.mapEntries, De.mapEntries]
      repeat' mono_step
    structEntries a b c d e f := by
      rw [De.structEntries, De.structEntries]
      repeat' mono_step
    nextKey a b c d := by
      rw [nextKey_succ, nextKey_succ]
      split
      · exact nkPending_mono hr _ _ _ _ _
      · split
        · exact nkFlush_mono hr _ _ _ _
        · exact nkLive_mono hr _ _ _ _
    deserKey a b c d := by
      rw [De.deserKey.eq_def, De.deserKey.eq_def]
      dsimp only
      repeat' mono_step
    nextValue a b c d := by
      rw [De.nextValue, De.nextValue]
      repeat' mono_step
    deserEnum a b c d := by
      rw [deserEnum_succ, deserEnum_succ]
      repeat' (first
        | exact enumScalar_mono hr _ _ _ _ _ _ _ _ _ _
        | exact enumMap_mono hr _ _ _
        | exact enumSeq_mono hr _ _ _ _ _ _ _
        | mono_step)
    collectTaggedSeq a b c := by
      rw [De.collectTaggedSeq, De.collectTaggedSeq]
      repeat' mono_step
    variantPayload a b c d e f g := by
      rw [variantPayload_succ, variantPayload_succ]
      split
      · exact MLe.err _ _ _
      · exact vpKind_mono hr _ _ _ _ _ _
  }

theorem monoA : ∀ fuel, MonoA fuel
  | 0 => by
    constructor
    · intro a; rw [De.capture]; exact MLe.err _ _ _
    · intro a b c; rw [De.captureSeq]; exact MLe.err _ _ _
    · intro a b c; rw [De.captureMap]; exact MLe.err _ _ _
    · intro a b c; rw [De.pendingFromEvents]; exact MLeE.err _ _
    · intro a b; rw [De.mergeSeqBatches]; exact MLe.err _ _ _
    · intro a b; rw [De.pendingFromLive]; exact MLe.err _ _ _
    · intro a b; rw [De.collectEntriesFromMap]; exact MLe.err _ _ _
    · intro a b c d; rw [De.collectLoop]; exact MLe.err _ _ _
    · intro a; rw [De.skipOneNode]; exact MLe.err _ _ _
    · intro a b; rw [De.skipDepth]; exact MLe.err _ _ _
    · intro a b c d e; rw [De.deser]; exact MLe.err _ _ _
    · intro a b c; rw [De.bytesLoop]; exact MLe.err _ _ _
    · intro a b c; rw [De.deserSeqLike]; exact MLe.err _ _ _
    · intro a b c d; rw [De.seqElems]; exact MLe.err _ _ _
    · intro a b c d; rw [De.tupleElems]; exact MLe.err _ _ _
    · intro a b c; rw [De.deserMapLike]; exact MLe.err _ _ _
    · intro a b c d e f; rw [De.mapEntries]; exact MLe.err _ _ _
    · intro a b c d e f; rw [De.structEntries]; exact MLe.err _ _ _
    · intro a b c d; rw [De.nextKey]; exact MLe.err _ _ _
    · intro a b c d; rw [De.deserKey]; exact MLeE.err _ _
    · intro a b c d; rw [De.nextValue]; exact MLe.err _ _ _
    · intro a b c d; rw [De.deserEnum]; exact MLe.err _ _ _
    · intro a b c; rw [De.collectTaggedSeq]; exact MLe.err _ _ _
    · intro a b c d e f g; rw [De.variantPayload]; exact MLe.err _ _ _
  | fuel + 1 => monoA_succ (monoA fuel).toR

theorem MLe.of_le {α : Type} {f : Nat → R α} (hstep : ∀ n, MLe (f n) (f (n + 1))) {n m : Nat} (hle : n ≤ m)
    {a : α} {c : Cur} (h : f n = .ok a c) : f m = .ok a c := by
  induction hle with
  | refl => exact h
  | step _ ih => exact hstep _ _ _ ih

theorem MLeE.of_le {α : Type} {f : Nat → Except DErr α} (hstep : ∀ n, MLeE (f n) (f (n + 1))) {n m : Nat} (hle : n ≤ m)
    {a : α} (h : f n = .ok a) : f m = .ok a := by
  induction hle with
  | refl => exact h
  | step _ ih => exact hstep _ _ ih

theorem capture_mono {fuel : Nat} {c : Cur} {c' : Cur} {r : KeyNode}
    (h : De.capture fuel c = .ok r c') : De.capture (fuel + 1) c = .ok r c' :=
  (monoA fuel).capture _ _ _ h

theorem capture_mono_le {fuel fuel' : Nat} {c : Cur} {c' : Cur} {r : KeyNode}
    (hle : fuel ≤ fuel') (h : De.capture fuel c = .ok r c') : De.capture fuel' c = .ok r c' :=
  MLe.of_le (f := fun n => De.capture n c) (fun n => (monoA n).capture _) hle h

theorem captureSeq_mono {fuel : Nat} {c : Cur} {fps : List FP} {evs : List Ev} {c' : Cur} {r : List FP × List Ev}
    (h : De.captureSeq fuel c fps evs = .ok r c') : De.captureSeq (fuel + 1) c fps evs = .ok r c' :=
  (monoA fuel).captureSeq _ _ _ _ _ h

theorem captureSeq_mono_le {fuel fuel' : Nat} {c : Cur} {fps : List FP} {evs : List Ev} {c' : Cur} {r : List FP × List Ev}
    (hle : fuel ≤ fuel') (h : De.captureSeq fuel c fps evs = .ok r c') : De.captureSeq fuel' c fps evs = .ok r c' :=
  MLe.of_le (f := fun n => De.captureSeq n c fps evs) (fun n => (monoA n).captureSeq _ _ _) hle h

theorem captureMap_mono {fuel : Nat} {c : Cur} {fps : List (FP × FP)} {evs : List Ev} {c' : Cur} {r : List (FP × FP) × List Ev}
    (h : De.captureMap fuel c fps evs = .ok r c') : De.captureMap (fuel + 1) c fps evs = .ok r c' :=
  (monoA fuel).captureMap _ _ _ _ _ h

theorem captureMap_mono_le {fuel fuel' : Nat} {c : Cur} {fps : List (FP × FP)} {evs : List Ev} {c' : Cur} {r : List (FP × FP) × List Ev}
    (hle : fuel ≤ fuel') (h : De.captureMap fuel c fps evs = .ok r c') : De.captureMap fuel' c fps evs = .ok r c' :=
  MLe.of_le (f := fun n => De.captureMap n c fps evs) (fun n => (monoA n).captureMap _ _ _) hle h

theorem pendingFromEvents_mono {fuel : Nat} {events : List Ev} {location ref : Loc} {r : List PendingEntry}
    (h : De.pendingFromEvents fuel events location ref = .ok r) : De.pendingFromEvents (fuel + 1) events location ref = .ok r :=
  (monoA fuel).pendingFromEvents _ _ _ _ h

theorem pendingFromEvents_mono_le {fuel fuel' : Nat} {events : List Ev} {location ref : Loc} {r : List PendingEntry}
    (hle : fuel ≤ fuel') (h : De.pendingFromEvents fuel events location ref = .ok r) : De.pendingFromEvents fuel' events location ref = .ok r :=
  MLeE.of_le (f := fun n => De.pendingFromEvents n events location ref) (fun n => (monoA n).pendingFromEvents _ _ _) hle h

theorem mergeSeqBatches_mono {fuel : Nat} {c : Cur} {batches : List (List PendingEntry)} {c' : Cur} {r : List (List PendingEntry)}
    (h : De.mergeSeqBatches fuel c batches = .ok r c') : De.mergeSeqBatches (fuel + 1) c batches = .ok r c' :=
  (monoA fuel).mergeSeqBatches _ _ _ _ h

theorem mergeSeqBatches_mono_le {fuel fuel' : Nat} {c : Cur} {batches : List (List PendingEntry)} {c' : Cur} {r : List (List PendingEntry)}
    (hle : fuel ≤ fuel') (h : De.mergeSeqBatches fuel c batches = .ok r c') : De.mergeSeqBatches fuel' c batches = .ok r c' :=
  MLe.of_le (f := fun n => De.mergeSeqBatches n c batches) (fun n => (monoA n).mergeSeqBatches _ _) hle h

theorem pendingFromLive_mono {fuel : Nat} {c : Cur} {mergeRef : Loc} {c' : Cur} {r : List PendingEntry}
    (h : De.pendingFromLive fuel c mergeRef = .ok r c') : De.pendingFromLive (fuel + 1) c mergeRef = .ok r c' :=
  (monoA fuel).pendingFromLive _ _ _ _ h

theorem pendingFromLive_mono_le {fuel fuel' : Nat} {c : Cur} {mergeRef : Loc} {c' : Cur} {r : List PendingEntry}
    (hle : fuel ≤ fuel') (h : De.pendingFromLive fuel c mergeRef = .ok r c') : De.pendingFromLive fuel' c mergeRef = .ok r c' :=
  MLe.of_le (f := fun n => De.pendingFromLive n c mergeRef) (fun n => (monoA n).pendingFromLive _ _) hle h

theorem collectEntriesFromMap_mono {fuel : Nat} {c : Cur} {ref : Loc} {c' : Cur} {r : List PendingEntry}
    (h : De.collectEntriesFromMap fuel c ref = .ok r c') : De.collectEntriesFromMap (fuel + 1) c ref = .ok r c' :=
  (monoA fuel).collectEntriesFromMap _ _ _ _ h

theorem collectEntriesFromMap_mono_le {fuel fuel' : Nat} {c : Cur} {ref : Loc} {c' : Cur} {r : List PendingEntry}
    (hle : fuel ≤ fuel') (h : De.collectEntriesFromMap fuel c ref = .ok r c') : De.collectEntriesFromMap fuel' c ref = .ok r c' :=
  MLe.of_le (f := fun n => De.collectEntriesFromMap n c ref) (fun n => (monoA n).collectEntriesFromMap _ _) hle h

theorem collectLoop_mono {fuel : Nat} {c : Cur} {ref : Loc} {fields : List PendingEntry} {merges : List (List PendingEntry)} {c' : Cur} {r : List PendingEntry}
    (h : De.collectLoop fuel c ref fields merges = .ok r c') : De.collectLoop (fuel + 1) c ref fields merges = .ok r c' :=
  (monoA fuel).collectLoop _ _ _ _ _ _ h

theorem collectLoop_mono_le {fuel fuel' : Nat} {c : Cur} {ref : Loc} {fields : List PendingEntry} {merges : List (List PendingEntry)} {c' : Cur} {r : List PendingEntry}
    (hle : fuel ≤ fuel') (h : De.collectLoop fuel c ref fields merges = .ok r c') : De.collectLoop fuel' c ref fields merges = .ok r c' :=
  MLe.of_le (f := fun n => De.collectLoop n c ref fields merges) (fun n => (monoA n).collectLoop _ _ _ _) hle h

theorem skipOneNode_mono {fuel : Nat} {c : Cur} {c' : Cur} {r : Unit}
    (h : De.skipOneNode fuel c = .ok r c') : De.skipOneNode (fuel + 1) c = .ok r c' :=
  (monoA fuel).skipOneNode _ _ _ h

theorem skipOneNode_mono_le {fuel fuel' : Nat} {c : Cur} {c' : Cur} {r : Unit}
    (hle : fuel ≤ fuel') (h : De.skipOneNode fuel c = .ok r c') : De.skipOneNode fuel' c = .ok r c' :=
  MLe.of_le (f := fun n => De.skipOneNode n c) (fun n => (monoA n).skipOneNode _) hle h

theorem skipDepth_mono {fuel : Nat} {c : Cur} {depth : Nat} {c' : Cur} {r : Unit}
    (h : De.skipDepth fuel c depth = .ok r c') : De.skipDepth (fuel + 1) c depth = .ok r c' :=
  (monoA fuel).skipDepth _ _ _ _ h

theorem skipDepth_mono_le {fuel fuel' : Nat} {c : Cur} {depth : Nat} {c' : Cur} {r : Unit}
    (hle : fuel ≤ fuel') (h : De.skipDepth fuel c depth = .ok r c') : De.skipDepth fuel' c depth = .ok r c' :=
  MLe.of_le (f := fun n => De.skipDepth n c depth) (fun n => (monoA n).skipDepth _ _) hle h

theorem deser_mono {fuel : Nat} {cfg : Cfg} {ty : Ty} {ik km : Bool} {c : Cur} {c' : Cur} {v : Val}
    (h : De.deser fuel cfg ty ik km c = .ok v c') : De.deser (fuel + 1) cfg ty ik km c = .ok v c' :=
  (monoA fuel).deser _ _ _ _ _ _ _ h

theorem deser_mono_le {fuel fuel' : Nat} {cfg : Cfg} {ty : Ty} {ik km : Bool} {c : Cur} {c' : Cur} {v : Val}
    (hle : fuel ≤ fuel') (h : De.deser fuel cfg ty ik km c = .ok v c') : De.deser fuel' cfg ty ik km c = .ok v c' :=
  MLe.of_le (f := fun n => De.deser n cfg ty ik km c) (fun n => (monoA n).deser _ _ _ _ _) hle h

theorem bytesLoop_mono {fuel : Nat} {cfg : Cfg} {c : Cur} {acc : List Nat} {c' : Cur} {r : Val}
    (h : De.bytesLoop fuel cfg c acc = .ok r c') : De.bytesLoop (fuel + 1) cfg c acc = .ok r c' :=
  (monoA fuel).bytesLoop _ _ _ _ _ h

theorem bytesLoop_mono_le {fuel fuel' : Nat} {cfg : Cfg} {c : Cur} {acc : List Nat} {c' : Cur} {r : Val}
    (hle : fuel ≤ fuel') (h : De.bytesLoop fuel cfg c acc = .ok r c') : De.bytesLoop fuel' cfg c acc = .ok r c' :=
  MLe.of_le (f := fun n => De.bytesLoop n cfg c acc) (fun n => (monoA n).bytesLoop _ _ _) hle h

theorem deserSeqLike_mono {fuel : Nat} {cfg : Cfg} {shape : Ty ⊕ List Ty} {c : Cur} {c' : Cur} {r : Val}
    (h : De.deserSeqLike fuel cfg shape c = .ok r c') : De.deserSeqLike (fuel + 1) cfg shape c = .ok r c' :=
  (monoA fuel).deserSeqLike _ _ _ _ _ h

theorem deserSeqLike_mono_le {fuel fuel' : Nat} {cfg : Cfg} {shape : Ty ⊕ List Ty} {c : Cur} {c' : Cur} {r : Val}
    (hle : fuel ≤ fuel') (h : De.deserSeqLike fuel cfg shape c = .ok r c') : De.deserSeqLike fuel' cfg shape c = .ok r c' :=
  MLe.of_le (f := fun n => De.deserSeqLike n cfg shape c) (fun n => (monoA n).deserSeqLike _ _ _) hle h

theorem seqElems_mono {fuel : Nat} {cfg : Cfg} {t : Ty} {c : Cur} {acc : List Val} {c' : Cur} {r : List Val}
    (h : De.seqElems fuel cfg t c acc = .ok r c') : De.seqElems (fuel + 1) cfg t c acc = .ok r c' :=
  (monoA fuel).seqElems _ _ _ _ _ _ h

theorem seqElems_mono_le {fuel fuel' : Nat} {cfg : Cfg} {t : Ty} {c : Cur} {acc : List Val} {c' : Cur} {r : List Val}
    (hle : fuel ≤ fuel') (h : De.seqElems fuel cfg t c acc = .ok r c') : De.seqElems fuel' cfg t c acc = .ok r c' :=
  MLe.of_le (f := fun n => De.seqElems n cfg t c acc) (fun n => (monoA n).seqElems _ _ _ _) hle h

theorem tupleElems_mono {fuel : Nat} {cfg : Cfg} {ts : List Ty} {c : Cur} {acc : List Val} {c' : Cur} {r : List Val}
    (h : De.tupleElems fuel cfg ts c acc = .ok r c') : De.tupleElems (fuel + 1) cfg ts c acc = .ok r c' :=
  (monoA fuel).tupleElems _ _ _ _ _ _ h

theorem tupleElems_mono_le {fuel fuel' : Nat} {cfg : Cfg} {ts : List Ty} {c : Cur} {acc : List Val} {c' : Cur} {r : List Val}
    (hle : fuel ≤ fuel') (h : De.tupleElems fuel cfg ts c acc = .ok r c') : De.tupleElems fuel' cfg ts c acc = .ok r c' :=
  MLe.of_le (f := fun n => De.tupleElems n cfg ts c acc) (fun n => (monoA n).tupleElems _ _ _ _) hle h

theorem deserMapLike_mono {fuel : Nat} {cfg : Cfg} {shape : (Ty × Ty) ⊕ (List (String × Ty) × Bool)} {c : Cur} {c' : Cur} {r : Val}
    (h : De.deserMapLike fuel cfg shape c = .ok r c') : De.deserMapLike (fuel + 1) cfg shape c = .ok r c' :=
  (monoA fuel).deserMapLike _ _ _ _ _ h

theorem deserMapLike_mono_le {fuel fuel' : Nat} {cfg : Cfg} {shape : (Ty × Ty) ⊕ (List (String × Ty) × Bool)} {c : Cur} {c' : Cur} {r : Val}
    (hle : fuel ≤ fuel') (h : De.deserMapLike fuel cfg shape c = .ok r c') : De.deserMapLike fuel' cfg shape c = .ok r c' :=
  MLe.of_le (f := fun n => De.deserMapLike n cfg shape c) (fun n => (monoA n).deserMapLike _ _ _) hle h

theorem mapEntries_mono {fuel : Nat} {cfg : Cfg} {kt vt : Ty} {c : Cur} {m : MA} {acc : List (Val × Val)} {c' : Cur} {r : List (Val × Val)}
    (h : De.mapEntries fuel cfg kt vt c m acc = .ok r c') : De.mapEntries (fuel + 1) cfg kt vt c m acc = .ok r c' :=
  (monoA fuel).mapEntries _ _ _ _ _ _ _ _ h

theorem mapEntries_mono_le {fuel fuel' : Nat} {cfg : Cfg} {kt vt : Ty} {c : Cur} {m : MA} {acc : List (Val × Val)} {c' : Cur} {r : List (Val × Val)}
    (hle : fuel ≤ fuel') (h : De.mapEntries fuel cfg kt vt c m acc = .ok r c') : De.mapEntries fuel' cfg kt vt c m acc = .ok r c' :=
  MLe.of_le (f := fun n => De.mapEntries n cfg kt vt c m acc) (fun n => (monoA n).mapEntries _ _ _ _ _ _) hle h

theorem structEntries_mono {fuel : Nat} {cfg : Cfg} {fields : List (String × Ty)} {deny : Bool} {c : Cur} {m : MA} {acc : List (String × Val)} {c' : Cur} {r : List (String × Val)}
    (h : De.structEntries fuel cfg fields deny c m acc = .ok r c') : De.structEntries (fuel + 1) cfg fields deny c m acc = .ok r c' :=
  (monoA fuel).structEntries _ _ _ _ _ _ _ _ h

theorem structEntries_mono_le {fuel fuel' : Nat} {cfg : Cfg} {fields : List (String × Ty)} {deny : Bool} {c : Cur} {m : MA} {acc : List (String × Val)} {c' : Cur} {r : List (String × Val)}
    (hle : fuel ≤ fuel') (h : De.structEntries fuel cfg fields deny c m acc = .ok r c') : De.structEntries fuel' cfg fields deny c m acc = .ok r c' :=
  MLe.of_le (f := fun n => De.structEntries n cfg fields deny c m acc) (fun n => (monoA n).structEntries _ _ _ _ _ _) hle h

theorem nextKey_mono {fuel : Nat} {cfg : Cfg} {kseed : Ty ⊕ Unit} {c : Cur} {m : MA} {c' : Cur} {r : KeyStep × MA}
    (h : De.nextKey fuel cfg kseed c m = .ok r c') : De.nextKey (fuel + 1) cfg kseed c m = .ok r c' :=
  (monoA fuel).nextKey _ _ _ _ _ _ h

theorem nextKey_mono_le {fuel fuel' : Nat} {cfg : Cfg} {kseed : Ty ⊕ Unit} {c : Cur} {m : MA} {c' : Cur} {r : KeyStep × MA}
    (hle : fuel ≤ fuel') (h : De.nextKey fuel cfg kseed c m = .ok r c') : De.nextKey fuel' cfg kseed c m = .ok r c' :=
  MLe.of_le (f := fun n => De.nextKey n cfg kseed c m) (fun n => (monoA n).nextKey _ _ _ _) hle h

theorem deserKey_mono {fuel : Nat} {cfg : Cfg} {kseed : Ty ⊕ Unit} {events : List Ev} {kemn : Bool} {r : Val}
    (h : De.deserKey fuel cfg kseed events kemn = .ok r) : De.deserKey (fuel + 1) cfg kseed events kemn = .ok r :=
  (monoA fuel).deserKey _ _ _ _ _ h

theorem deserKey_mono_le {fuel fuel' : Nat} {cfg : Cfg} {kseed : Ty ⊕ Unit} {events : List Ev} {kemn : Bool} {r : Val}
    (hle : fuel ≤ fuel') (h : De.deserKey fuel cfg kseed events kemn = .ok r) : De.deserKey fuel' cfg kseed events kemn = .ok r :=
  MLeE.of_le (f := fun n => De.deserKey n cfg kseed events kemn) (fun n => (monoA n).deserKey _ _ _ _) hle h

theorem nextValue_mono {fuel : Nat} {cfg : Cfg} {vt : Ty} {c : Cur} {m : MA} {c' : Cur} {r : Val × MA}
    (h : De.nextValue fuel cfg vt c m = .ok r c') : De.nextValue (fuel + 1) cfg vt c m = .ok r c' :=
  (monoA fuel).nextValue _ _ _ _ _ _ h

theorem nextValue_mono_le {fuel fuel' : Nat} {cfg : Cfg} {vt : Ty} {c : Cur} {m : MA} {c' : Cur} {r : Val × MA}
    (hle : fuel ≤ fuel') (h : De.nextValue fuel cfg vt c m = .ok r c') : De.nextValue fuel' cfg vt c m = .ok r c' :=
  MLe.of_le (f := fun n => De.nextValue n cfg vt c m) (fun n => (monoA n).nextValue _ _ _ _) hle h

theorem deserEnum_mono {fuel : Nat} {cfg : Cfg} {name : String} {variants : List (String × VTy)} {c : Cur} {c' : Cur} {r : Val}
    (h : De.deserEnum fuel cfg name variants c = .ok r c') : De.deserEnum (fuel + 1) cfg name variants c = .ok r c' :=
  (monoA fuel).deserEnum _ _ _ _ _ _ h

theorem deserEnum_mono_le {fuel fuel' : Nat} {cfg : Cfg} {name : String} {variants : List (String × VTy)} {c : Cur} {c' : Cur} {r : Val}
    (hle : fuel ≤ fuel') (h : De.deserEnum fuel cfg name variants c = .ok r c') : De.deserEnum fuel' cfg name variants c = .ok r c' :=
  MLe.of_le (f := fun n => De.deserEnum n cfg name variants c) (fun n => (monoA n).deserEnum _ _ _ _) hle h

theorem collectTaggedSeq_mono {fuel : Nat} {c : Cur} {depth : Nat} {acc : List Ev} {c' : Cur} {r : List Ev}
    (h : De.collectTaggedSeq fuel c depth acc = .ok r c') : De.collectTaggedSeq (fuel + 1) c depth acc = .ok r c' :=
  (monoA fuel).collectTaggedSeq _ _ _ _ _ h

theorem collectTaggedSeq_mono_le {fuel fuel' : Nat} {c : Cur} {depth : Nat} {acc : List Ev} {c' : Cur} {r : List Ev}
    (hle : fuel ≤ fuel') (h : De.collectTaggedSeq fuel c depth acc = .ok r c') : De.collectTaggedSeq fuel' c depth acc = .ok r c' :=
  MLe.of_le (f := fun n => De.collectTaggedSeq n c depth acc) (fun n => (monoA n).collectTaggedSeq _ _ _) hle h

theorem variantPayload_mono {fuel : Nat} {cfg : Cfg} {variants : List (String × VTy)} {vname : List Char} {vloc : Loc} {mapMode tagged : Bool} {c : Cur} {c' : Cur} {r : Val}
    (h : De.variantPayload fuel cfg variants vname vloc mapMode tagged c = .ok r c') : De.variantPayload (fuel + 1) cfg variants vname vloc mapMode tagged c = .ok r c' :=
  (monoA fuel).variantPayload _ _ _ _ _ _ _ _ _ h

theorem variantPayload_mono_le {fuel fuel' : Nat} {cfg : Cfg} {variants : List (String × VTy)} {vname : List Char} {vloc : Loc} {mapMode tagged : Bool} {c : Cur} {c' : Cur} {r : Val}
    (hle : fuel ≤ fuel') (h : De.variantPayload fuel cfg variants vname vloc mapMode tagged c = .ok r c') : De.variantPayload fuel' cfg variants vname vloc mapMode tagged c = .ok r c' :=
  MLe.of_le (f := fun n => De.variantPayload n cfg variants vname vloc mapMode tagged c) (fun n => (monoA n).variantPayload _ _ _ _ _ _ _) hle h

#print axioms deser_mono_le
#print axioms nextKey_mono_le
#print axioms deserKey_mono_le

end SaphyrVerif.Lemmas.C05
