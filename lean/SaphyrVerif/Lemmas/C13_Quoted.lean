import SaphyrVerif.Lemmas.C13_Tag
/-!
QUOTED tokens (`ScalarTok` / `KeyTok` / `CoreTok` of `C13_Read`).  A single-quoted / double-quoted
scalar whose body the reference reader decodes (`readSq` / `readDq`) to a string `s` is a core token for `.str s`
and — followed by `:` — a key token for `s`; the text `write_single_quoted` writes is decoded to the string it
was written for.
-/
namespace SaphyrVerif.Emit

/-- a quote character with the reader of its scalars -/
def IsQuote (q : Char) (rd : List Char → Option (List Char × List Char)) : Prop :=
  (q = '"' ∧ rd = readDq) ∨ (q = '\'' ∧ rd = readSq)

/-- what the reader needs to know about the body (text after the opening quote, closing quote
included) of a quoted scalar for `s`: it decodes to `s` whatever follows the closing quote (other than a
second quote character), and lies on one line -/
structure QuotedBody (q : Char) (rd : List Char → Option (List Char × List Char)) (body s : List Char) : Prop where
  read : ∀ rest, rest.head? ≠ some q → rd (body ++ rest) = some (s, rest)
  chars : ∀ x ∈ body, lineChar x = true

/-- a quoted scalar alone on its line -/
theorem blockNode_quoted {q : Char} {rd : List Char → Option (List Char × List Char)} (hq : IsQuote q rd) (fuel n : Nat)
    (seqAt : Option Nat) (inl : Bool) (i : Nat) {body s : List Char} (rest : List Line) (hb : rd body = some (s, [])) (hi : n ≤ i) :
    blockNode (fuel + 1) n seqAt inl (⟨i, q :: body⟩ :: rest) = some (.str s, rest) := by
  have hlt : ¬ (i < n) := by omega
  rcases hq with ⟨rfl, rfl⟩ | ⟨rfl, rfl⟩
  all_goals
    rw [blockNode, skipBlank_cons rest (notSkippable_of_head (by decide))]
    simp [classify, skipTag, hlt, implicitKey, hb]

theorem IsQuote.char {q : Char} {rd : List Char → Option (List Char × List Char)} (hq : IsQuote q rd) :
    lineChar q = true ∧ keyStart q = true ∧ q ≠ '-' ∧ q ≠ '.' ∧ q ≠ '?' := by
  rcases hq with ⟨rfl, _⟩ | ⟨rfl, _⟩ <;> decide

theorem lineChar_quote {q : Char} (hq : q = '"' ∨ q = '\'') : lineChar q = true := by
  rcases hq with rfl | rfl <;> decide

theorem quoted_lineChars {q : Char} {rd : List Char → Option (List Char × List Char)} {body s : List Char}
    (hq : IsQuote q rd) (h : QuotedBody q rd body s) : ∀ x ∈ q :: body, lineChar x = true := by
  intro x hx
  rcases List.mem_cons.mp hx with rfl | hx
  · exact hq.char.1
  · exact h.chars x hx

theorem quoted_coreTok {q : Char} {rd : List Char → Option (List Char × List Char)} {body s : List Char}
    (hq : IsQuote q rd) (h : QuotedBody q rd body s) : CoreTok (q :: body) (.str s) := by
  obtain ⟨_, hk, h1, h2, h3⟩ := hq.char
  exact .ofStart rfl hk
    (fun fuel n seqAt inl i rest hi _ => blockNode_quoted hq fuel n seqAt inl i rest (by simpa using h.read [] (by simp)) hi)
    (classify_other _ h1 h3) (quoted_lineChars hq h) (notMarker_head rfl (Or.inl h1) h2 0)

theorem quoted_scalarTok {q : Char} {rd : List Char → Option (List Char × List Char)} {body s : List Char}
    (hq : IsQuote q rd) (h : QuotedBody q rd body s) : ScalarTok (q :: body) (.str s) := (quoted_coreTok hq h).toScalarTok

theorem quoted_keyTok {q : Char} {rd : List Char → Option (List Char × List Char)} {body s : List Char}
    (hq : IsQuote q rd) (h : QuotedBody q rd body s) : KeyTok (q :: body) s := by
  refine (quoted_coreTok hq h).keyTok ⟨q, body, rfl, hq.char.2.1⟩ fun after ha => ?_
  have hr := h.read (':' :: after) (by rcases hq with ⟨rfl, _⟩ | ⟨rfl, _⟩ <;> simp)
  rcases hq with ⟨rfl, rfl⟩ | ⟨rfl, rfl⟩ <;> simp [implicitKey, skipTag, hr, ha]

theorem not_control_lineChar {c : Char} (h : isControl c = false) : lineChar c = true := by
  have h1 : c ≠ '\n' := by rintro rfl; exact absurd h (by decide)
  have h2 : c ≠ '\r' := by rintro rfl; exact absurd h (by decide)
  have h3 : c ≠ Char.ofNat 0 := by rintro rfl; exact absurd h (by decide)
  simp [lineChar, h1, h2, h3]

theorem readSq_cons {c : Char} (hc : c ≠ '\'') (rest : List Char) :
    readSq (c :: rest) = (readSq rest).map fun (t, r) => (c :: t, r) := by
  rw [readSq]
  · intro x h _; exact hc h
  · intro h; exact hc h

theorem readSq_close (rest : List Char) (hr : rest.head? ≠ some '\'') : readSq ('\'' :: rest) = some ([], rest) := by
  cases rest with
  | nil => rfl
  | cons c cs =>
    have hc : c ≠ '\'' := by intro e; exact hr (by simp [e])
    rw [readSq]
    intro x h
    simp only [List.cons.injEq] at h
    exact hc h.1

/-- the body `write_single_quoted` writes (doubled quotes, closing quote) decodes to the string -/
theorem readSq_body : ∀ (s rest : List Char), rest.head? ≠ some '\'' →
    readSq ((s.flatMap fun c => if c == '\'' then ['\'', '\''] else [c]) ++ '\'' :: rest) = some (s, rest)
  | [], rest, hr => by simpa using readSq_close rest hr
  | c :: cs, rest, hr => by
    have ih := readSq_body cs rest hr
    by_cases hc : c = '\''
    · subst hc
      simp only [List.flatMap_cons, beq_self_eq_true, if_true, List.cons_append, List.nil_append]
      rw [readSq, ih]; rfl
    · have hcb : (c == '\'') = false := by simpa using hc
      simp only [List.flatMap_cons, hcb, Bool.false_eq_true, if_false, List.cons_append, List.nil_append]
      rw [readSq_cons hc, ih]; rfl

/-- `write_single_quoted(s)` for a string without control characters (the writer's guard
`!needs_double_quotes(s)` also excludes `'` and `\`) -/
theorem singleQuoted_body {s : List Char} (h : ∀ c ∈ s, isControl c = false) :
    QuotedBody '\'' readSq ((s.flatMap fun c => if c == '\'' then ['\'', '\''] else [c]) ++ ['\'']) s := by
  refine ⟨fun rest hr => by simpa using readSq_body s rest hr, ?_⟩
  intro x hx
  simp only [List.mem_append, List.mem_flatMap, List.mem_cons, List.not_mem_nil, or_false] at hx
  rcases hx with ⟨c, hc, hx⟩ | rfl
  · by_cases hq : c = '\''
    · subst hq; simp at hx; subst hx; decide
    · simp [hq] at hx; subst hx; exact not_control_lineChar (h x hc)
  · decide

theorem needsDoubleQuotes_false {s : List Char} (h : needsDoubleQuotes s = false) : ∀ c ∈ s, isControl c = false := by
  intro c hc
  have := List.any_eq_false.mp h c hc
  simp only [Bool.or_eq_true, not_or, Bool.not_eq_true] at this
  simpa using this.2

theorem singleQuoted_coreTok {s : List Char} (h : needsDoubleQuotes s = false) : CoreTok (singleQuoted s) (.str s) :=
  quoted_coreTok (Or.inr ⟨rfl, rfl⟩) (singleQuoted_body (needsDoubleQuotes_false h))

theorem singleQuoted_scalarTok {s : List Char} (h : needsDoubleQuotes s = false) : ScalarTok (singleQuoted s) (.str s) :=
  (singleQuoted_coreTok h).toScalarTok

theorem singleQuoted_keyTok {s : List Char} (h : needsDoubleQuotes s = false) : KeyTok (singleQuoted s) s :=
  quoted_keyTok (Or.inr ⟨rfl, rfl⟩) (singleQuoted_body (needsDoubleQuotes_false h))

end SaphyrVerif.Emit
