import SaphyrVerif.Lemmas.C05_Enum
/-!
C05, the refinement of every position (`ref_all`), by induction on the nesting depth of the node and the size
of the target type.
-/
namespace SaphyrVerif.Lemmas.C05
open SaphyrVerif SaphyrVerif.Scalars SaphyrVerif.Pump SaphyrVerif.De SaphyrVerif.Spec

@[simp] theorem tfree_newtype (t : Ty) : tfree (.newtype t) = tfree t := by rw [tfree]
@[simp] theorem tfree_option (t : Ty) : tfree (.option t) = tfree t := by rw [tfree]
@[simp] theorem tfree_seq (t : Ty) : tfree (.seq t) = tfree t := by rw [tfree]
@[simp] theorem tfree_tuple (ts : List Ty) : tfree (.tuple ts) = false := by rw [tfree]
@[simp] theorem tfree_map (k v : Ty) : tfree (.map k v) = (tfree k && tfree v) := by rw [tfree]
@[simp] theorem tfree_struct (fs : List (String × Ty)) (d : Bool) : tfree (.struct fs d) = tfreeF fs := by rw [tfree]
@[simp] theorem tfree_enum (n : String) (vs : List (String × VTy)) : tfree (.enum n vs) = tfreeV vs := by rw [tfree]

/-- a position inside a tuple-free type is one of a tuple-free type: no deficit is allowed there either -/
theorem Ref.sub {cfg : Cfg} {ty ty' : Ty} {t : ENode} (h : Ref (!tfree ty') cfg ty' t)
    (hs : tfree ty = true → tfree ty' = true) : Ref (!tfree ty) cfg ty' t :=
  h.mono fun h' => by cases h1 : tfree ty <;> simp_all

theorem ref_all (cfg : Cfg) (ty : Ty) (t : ENode) (hk : kfree t = true) : Ref (!tfree ty) cfg ty t := by
  induction ty, t using depth_size_induction with
  | step ty t ihd ihs =>
    cases ty with
    | bool => exact ref_bool _ cfg t
    | int sg w => exact ref_int _ cfg sg w t
    | float w => exact ref_float _ cfg w t
    | char => exact ref_char _ cfg t
    | string => exact ref_string _ cfg t
    | unit => exact ref_unit _ cfg t
    | bytes => exact ref_bytes _ cfg t
    | newtype ty' =>
      have := ihs ty' t (by simp) (Nat.le_refl _) hk
      simpa using ref_newtype this
    | option ty' =>
      have := ihs ty' t (by simp) (Nat.le_refl _) hk
      simpa using ref_option this
    | seq te =>
      simp only [tfree_seq]
      apply ref_seq
      intro a tag rt l el items ht it hit
      subst ht
      simp only [kfree_seq] at hk
      exact ihd te it (by have := depthOfL_mem hit; simp; omega) (kfreeL_mem hk hit)
    | tuple ts =>
      simp only [tfree_tuple, Bool.not_false]
      apply ref_tuple
      intro a tag rt l el items ht it hit ty'
      subst ht
      simp only [kfree_seq] at hk
      exact (ihd ty' it (by have := depthOfL_mem hit; simp; omega) (kfreeL_mem hk hit)).mono (fun _ => rfl)
    | map kt vt =>
      apply ref_map hk
      · intro e he
        exact keyRef_ty (ihd kt e.1 he.1 he.2.2.1)
      · intro e he
        exact (ihd vt e.2 he.2.1 he.2.2.2.1).sub fun h => by rw [tfree_map, Bool.and_eq_true] at h; exact h.2
    | struct fields deny =>
      apply ref_struct hk
      · intro e he nt hnt
        exact (ihd nt.2 e.2 he.2.1 he.2.2.2.1).sub fun h => tfreeF_mem (by rwa [tfree_struct] at h) hnt
      · intro e he
        exact (ihd .any e.2 he.2.1 he.2.2.2.1).sub fun _ => tfree_any
    | any =>
      rw [tfree_any]
      apply ref_any hk
      intro t' h1 h2
      have := ihd .any t' h1 h2
      rwa [tfree_any] at this
    | enum name variants =>
      -- a payload is a position of a smaller type on a node that is not deeper
      refine ref_enum hk fun p hd' hk' nm vt pty hm hp => ?_
      exact (ihs pty p (by have := sizeOf_payloadTy (name := name) hm hp; omega) hd' hk').sub
        fun h => tfreeV_payload (by rwa [tfree_enum] at h) hm hp

end SaphyrVerif.Lemmas.C05
