import SaphyrVerif.Lemmas.C13_Read
/-!
TAGGED scalar tokens (`tagged_enums`: `!!Enum token`).  The reference reader
skips the tag; a token that is neither tagged itself nor an entry indicator (a CORE token, `CoreTok` of `C13_Read`) reads
behind a tag as it reads alone.  Which texts are core tokens is shown where the way of writing them is treated (`PlainVal` in
`C13_Read`, `C13_Quoted`), through `CoreTok.ofStart`.
-/
namespace SaphyrVerif.Emit

theorem dropWhile_tagName : ∀ (e : List Char) (t : List Char), (∀ c ∈ e, c ≠ ' ') →
    (e ++ ' ' :: t).dropWhile (· != ' ') = ' ' :: t
  | [], t, _ => by simp
  | c :: e, t, h => by
    have hc : (c != ' ') = true := by simpa using h c (by simp)
    simp only [List.cons_append, List.dropWhile_cons, hc, if_true]
    exact dropWhile_tagName e t (fun x hx => h x (by simp [hx]))

theorem skipTag_tagged {e t : List Char} (he : ∀ c ∈ e, c ≠ ' ') (ht : t.head? ≠ some ' ') :
    skipTag ('!' :: '!' :: e ++ ' ' :: t) = t := by
  have h1 : ('!' :: '!' :: e ++ ' ' :: t).dropWhile (· != ' ') = ' ' :: t := by
    have := dropWhile_tagName ('!' :: '!' :: e) t (fun x hx => by
      simp only [List.mem_cons] at hx
      rcases hx with rfl | rfl | hx
      · decide
      · decide
      · exact he x hx)
    simpa using this
  unfold skipTag
  simp only [h1]
  cases t with
  | nil => simp [dropSpaces]
  | cons c cs =>
    have hc : c ≠ ' ' := fun e' => ht (by simp [e'])
    simp [dropSpaces, hc]

theorem blockNode_tagged_eq (fuel n : Nat) (seqAt : Option Nat) (inl : Bool) (i : Nat) {e t : List Char} {p : PVal}
    (rest : List Line) (he : ∀ c ∈ e, c ≠ ' ') (ht : CoreTok t p) (hi : n ≤ i) :
    blockNode (fuel + 1) n seqAt inl (⟨i, '!' :: '!' :: e ++ ' ' :: t⟩ :: rest) =
      blockNode (fuel + 1) n seqAt inl (⟨i + (('!' :: '!' :: e ++ ' ' :: t).length - t.length), t⟩ :: rest) := by
  have hns1 : (⟨i, '!' :: '!' :: e ++ ' ' :: t⟩ : Line).isSkippable = false := notSkippable_of_head (by decide)
  have hne := ht.ne
  obtain ⟨c, cs, e'⟩ : ∃ c cs, t = c :: cs := by
    cases t with
    | nil => exact absurd rfl hne
    | cons c cs => exact ⟨c, cs, rfl⟩
  have hns2 : ∀ j, (⟨j, t⟩ : Line).isSkippable = false := fun j => by
    rw [e']; exact notSkippable_of_head (fun h => ht.head.2.1 (by rw [e', h]; rfl))
  have hcl1 : classify ('!' :: '!' :: e ++ ' ' :: t) = .other := classify_other _ (by decide) (by decide)
  have hlt : ¬ (i < n) := by omega
  have hlt2 : ¬ (i + (('!' :: '!' :: e ++ ' ' :: t).length - t.length) < n) := by omega
  have hsk1 := skipTag_tagged he ht.head.1
  have hsk2 := skipTag_untagged ht.untagged
  have hcl2 := ht.cls
  subst e'
  rw [blockNode, blockNode, skipBlank_cons rest hns1, skipBlank_cons rest (hns2 _)]
  simp only [hcl1, hcl2, hlt, hlt2, decide_false, Bool.false_and, Bool.false_eq_true, if_false, hsk1, hsk2,
    Nat.sub_self, Nat.add_zero]

theorem tagged_scalarTok {e t : List Char} {p : PVal} (he : tagNameOk e = true) (ht : CoreTok t p) :
    ScalarTok ('!' :: '!' :: e ++ ' ' :: t) p := by
  have he' : ∀ c ∈ e, c ≠ ' ' ∧ lineChar c = true := by
    intro c hc
    simp only [tagNameOk, Bool.and_eq_true] at he
    have hi := List.all_eq_true.mp he.2 c hc
    have h1 : c ≠ ' ' := by rintro rfl; exact absurd hi (by decide)
    have h2 : c ≠ '\n' := by rintro rfl; exact absurd hi (by decide)
    have h3 : c ≠ '\r' := by rintro rfl; exact absurd hi (by decide)
    have h4 : c ≠ Char.ofNat 0 := by rintro rfl; exact absurd hi (by decide)
    exact ⟨h1, by simp [lineChar, h2, h3, h4]⟩
  refine ⟨fun fuel n seqAt inl i rest hi hd => ?_, by simp, by simp, ?_,
    notMarker_head (t := '!' :: '!' :: e ++ ' ' :: t) rfl (Or.inl (by decide)) (by decide) 0⟩
  · rw [blockNode_tagged_eq fuel n seqAt inl i rest (fun c hc => (he' c hc).1) ht hi]
    exact ht.read fuel n seqAt inl _ rest (by omega) hd
  · intro x hx
    simp only [List.cons_append, List.mem_cons, List.mem_append] at hx
    rcases hx with rfl | rfl | hx | rfl | hx
    · decide
    · decide
    · exact (he' x hx).2
    · decide
    · exact ht.chars x hx

end SaphyrVerif.Emit
