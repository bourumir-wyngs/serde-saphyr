import SaphyrVerif.Lemmas.C17Caret
import SaphyrVerif.Lemmas.C17Breaks
/-!
C17 (fix of finding `C17-lone-cr-line-break`): for a location that is a
position of the text under the YAML line-break rule (LF, CRLF, lone CR) a window IS rendered, its rows
are the YAML lines, and the marker is under the character of the reported column of that YAML line.
-/
namespace SaphyrVerif.Lemmas.C17
open SaphyrVerif SaphyrVerif.Snippet
open SaphyrVerif.Spec.Snippet (sanitizeChar clean row yamlLine)

theorem isUnknown_false_of_col (loc : Snippet.Loc) (h : 1 ≤ loc.column) : loc.isUnknown = false := by
  unfold Snippet.Loc.isUnknown
  have : (loc.column == 0) = false := by
    rw [beq_eq_false_iff_ne]; omega
  rw [this, Bool.and_false]

/-- what the window / span computation of both renderers yields for a location on YAML line `line`
(number `rel` relative to the text), column `1 ≤ column ≤ len + 1`, of a non-empty text -/
structure YamlWindowOk (loc : Snippet.Loc) (m : Mapping) (rel : Nat) (line : List Char) (p : Prepared) : Prop where
  row_eq : p.row = rel
  ws_pos : 1 ≤ p.windowStartRow
  ws_le : p.windowStartRow ≤ rel
  row_le : rel ≤ p.windowEndRow
  height : p.windowEndRow - p.windowStartRow ≤ 2 * ctxLines
  display : p.displayStartRow = absoluteRow m p.windowStartRow
  clean : clean p.windowText = true
  marker : ∃ pre rest, p.windowText = pre ++ rest ∧ blen pre = p.localStart ∧
      pre.count '\n' = rel - p.windowStartRow ∧
      (rest.head? = (line[loc.column - 1]?).map sanitizeChar ∨
        (line[loc.column - 1]? = none ∧ (rest = [] ∨ rest.head? = some '\n'))) ∧
      (∃ Q lead j, pre = Q ++ (lead ++ Spec.Snippet.sanitize ((line.take (loc.column - 1)).drop j)) ∧
        (Q = [] ∨ Q.getLast? = some '\n') ∧ (lead = [] ∨ lead = [ellipsis]))

theorem prepare_yaml (text : List Char) (loc : Snippet.Loc) (m : Mapping) (r rel : Nat) (line : List Char)
    (hlen : text.length + 1 ≤ usizeMax) (hcol : loc.column ≤ usizeMax) (hne : text ≠ [])
    (hrel : relativeRow m loc.line = some rel) (hline : yamlLine text rel = some line)
    (hc1 : 1 ≤ loc.column) (hc2 : loc.column ≤ line.length + 1) :
    ∃ p, prepare text loc m r = .ok (some p) ∧ YamlWindowOk loc m rel line p := by
  obtain ⟨hr1, hr2, hl⟩ := (yamlLine_some_iff text rel line).mp hline
  obtain ⟨p, hp, hrow, ok, mk⟩ := prepare_ok text _ rfl loc m r hlen hcol rel
    ⟨isUnknown_false_of_col loc hc1, hrel, fun h0 => hne ((normBreaks_eq_nil text).mp h0), hr1, hr2, hc1,
      by rw [← hl]; omega⟩
  rw [← hl] at mk
  exact ⟨p, hp, hrow, ok.ws_pos, hrow ▸ ok.ws_le, hrow ▸ ok.row_le, ok.height, ok.display, ok.clean, mk⟩

/-- the empty text has one (empty) line under the YAML rule, but no window is rendered for it -/
theorem prepare_nil (loc : Snippet.Loc) (m : Mapping) (r : Nat) : prepare [] loc m r = .ok none := by
  unfold prepare
  by_cases hu : loc.isUnknown = true
  · rw [if_pos hu]
  · rw [if_neg hu]
    cases relativeRow m loc.line with
    | none => rfl
    | some row => rfl

end SaphyrVerif.Lemmas.C17
