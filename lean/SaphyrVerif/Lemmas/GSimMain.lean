import SaphyrVerif.Lemmas.GSimA
import SaphyrVerif.Lemmas.GSimB
import SaphyrVerif.Lemmas.GSimC
import SaphyrVerif.Lemmas.GSimD
import SaphyrVerif.Lemmas.GSimE
/-!
Guarded simulation: the induction on the fuel — no function of the mutual block of `Model/De.lean` can tell apart two cursors
related by a guarded simulation (up to reference locations and errors, unless the simulation is exact; up to failures that
the left run is allowed alone), as long as the left one satisfies the guard.  Calls on private replay buffers (recorded keys
and values, tagged payloads) are compared by the simulation without frame (`GSim.sim X.ex`) at the same fuel, so the induction
is over all `X` at once.
-/
namespace SaphyrVerif.Lemmas
open SaphyrVerif SaphyrVerif.Scalars SaphyrVerif.Pump SaphyrVerif.De

theorem gA : ∀ (fuel : Nat) (X : GSim), GA X fuel
  | 0, X => by
    -- without fuel every function fails where it stands
    constructor
    all_goals
      intros
      simp only [De.capture, De.captureSeq, De.captureMap, De.mergeSeqBatches, De.pendingFromLive,
        De.collectEntriesFromMap, De.collectLoop, De.skipOneNode, De.skipDepth, De.deser, De.bytesLoop, De.deserSeqLike,
        De.seqElems, De.tupleElems, De.deserMapLike, De.mapEntries, De.structEntries, De.nextKey, De.nextValue,
        De.deserEnum, De.collectTaggedSeq, De.variantPayload, De.pendingFromEvents]
      first | exact RG.err (GSim.Q.refl _) (X.se (GSim.At.s (by assumption))) | exact EG.err (GSim.Q.refl _)
  | fuel + 1, X =>
    have ih := gA fuel X
    have ihS := gA fuel (GSim.sim X.ex)
    { capture := capture_gStep ih
      captureSeq := captureSeq_gStep ih
      captureMap := captureMap_gStep ih
      pendingFromEvents := pendingFromEvents_gStep ihS
      mergeSeqBatches := mergeSeqBatches_gStep ih
      pendingFromLive := pendingFromLive_gStep ih
      collectEntriesFromMap := collectEntriesFromMap_gStep ih
      collectLoop := collectLoop_gStep ih
      skipOneNode := skipOneNode_gStep ih
      skipDepth := skipDepth_gStep ih
      deser := deser_gStep ih
      bytesLoop := bytesLoop_gStep ih
      deserSeqLike := deserSeqLike_gStep ih
      seqElems := seqElems_gStep ih
      tupleElems := tupleElems_gStep ih
      deserMapLike := deserMapLike_gStep ih
      mapEntries := mapEntries_gStep ih
      structEntries := structEntries_gStep ih
      nextKey := nextKey_gStep ih
      nextValue := nextValue_gStep ih ihS
      deserEnum := deserEnum_gStep ih ihS
      collectTaggedSeq := collectTaggedSeq_gStep ih
      variantPayload := variantPayload_gStep ih }

end SaphyrVerif.Lemmas
