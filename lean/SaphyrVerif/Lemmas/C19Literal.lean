import SaphyrVerif.Spec.Robotics
import SaphyrVerif.Lemmas.C19Total
import SaphyrVerif.Lemmas.C19Float
import SaphyrVerif.Lemmas.Text
/-!
C19: ordinary decimal float literals (`Spec.Robotics.PlainLit`): the plain path of `parse_yaml12_float`
(`str::parse`) gives the correctly rounded exact decimal value `PlainLit.value` (`parsePlain_lit`).  The evaluator path is in
`Lemmas/C19LiteralEval.lean`.  `Digits` and `Stops` are shared with `C19Token` and `C19Sexa`.
-/
namespace SaphyrVerif.Lemmas.C19L
open SaphyrVerif SaphyrVerif.F64 SaphyrVerif.Robotics SaphyrVerif.Spec.Robotics SaphyrVerif.Lemmas.C19

def Digits (ds : List Nat) : Prop := ∀ c ∈ ds, isDigit c = true

/-- the bytes after a digit run do not continue it -/
def Stops (rest : List Nat) : Prop := Head (fun c => isDigit c = false ∧ c ≠ 95) rest

theorem Digits.tail {d : Nat} {ds : List Nat} (h : Digits (d :: ds)) : Digits ds :=
  fun c hc => h c (List.mem_cons_of_mem _ hc)

theorem spanDigits_append (ds rest : List Nat) (hd : Digits ds) (hs : Stops rest) :
    spanDigits (ds ++ rest) = (ds, rest) := by
  induction ds with
  | nil =>
    cases rest with
    | nil => rfl
    | cons c r =>
      have := (hs c r rfl).1
      simp [spanDigits, this]
  | cons d ds ih =>
    have hdd : isDigit d = true := hd d (List.mem_cons_self)
    simp only [List.cons_append, spanDigits, hdd, ↓reduceIte, ih hd.tail]

theorem digitsVal_append (a b : List Nat) (acc : Nat) : digitsVal (a ++ b) acc = digitsVal b (digitsVal a acc) := by
  induction a generalizing acc with
  | nil => rfl
  | cons c r ih => simp only [List.cons_append, digitsVal, ih]

theorem stops_nil : Stops [] := Head.nil

theorem stops_exp (l : PlainLit) : Stops l.expBytes := by
  unfold PlainLit.expBytes
  split
  · exact stops_nil
  · rename_i up sg ds _
    exact Head.cons (by cases up <;> simp [isDigit])

theorem stops_frac_exp (l : PlainLit) : Stops (l.fracBytes ++ l.expBytes) := by
  unfold PlainLit.fracBytes
  split
  · simpa using stops_exp l
  · exact Head.cons (by simp [isDigit])

theorem exp_head (l : PlainLit) : l.expBytes = [] ∨ ∃ c r, l.expBytes = c :: r ∧ (c = 69 ∨ c = 101) := by
  unfold PlainLit.expBytes
  split
  · exact Or.inl rfl
  · rename_i up sg ds _
    exact Or.inr ⟨_, _, rfl, by cases up <;> simp⟩

theorem fracDigits_eq (l : PlainLit) : l.fracBytes = [] ∧ l.fracDigits = [] ∨ l.fracBytes = 46 :: l.fracDigits := by
  unfold PlainLit.fracBytes PlainLit.fracDigits
  cases l.frac <;> simp

theorem spanFrac_lit (l : PlainLit) (hwf : l.WF) :
    spanFrac (l.fracBytes ++ l.expBytes) = (l.fracDigits, l.expBytes) := by
  rcases fracDigits_eq l with ⟨h1, h2⟩ | h
  · rw [h1, h2, List.nil_append]
    rcases exp_head l with he | ⟨c, r, he, hc⟩
    · rw [he]; rfl
    · rw [he]
      rcases hc with hc | hc <;> (subst hc; rfl)
  · rw [h]
    simp only [List.cons_append, spanFrac]
    exact spanDigits_append _ _ hwf.fp (stops_exp l)

theorem expSign_lit (sg : Option Bool) (ds : List Nat) (hd : Digits ds) (hne : ds ≠ []) :
    expSign (signBytes sg ++ ds) = (sg == some true, ds) := by
  cases sg with
  | none =>
    cases ds with
    | nil => exact absurd rfl hne
    | cons d r =>
      have hdd : isDigit d = true := hd d (List.mem_cons_self)
      simp only [signBytes, List.nil_append]
      unfold expSign
      split
      · rename_i heq; cases heq; simp [isDigit] at hdd
      · rename_i heq; cases heq; simp [isDigit] at hdd
      · rfl
  | some b => cases b <;> rfl

theorem parseExp_lit (l : PlainLit) (hwf : l.WF) : parseExp l.expBytes = some l.expVal := by
  unfold PlainLit.expBytes PlainLit.expVal
  cases he : l.exp with
  | none => rfl
  | some t =>
    obtain ⟨up, sg, ds⟩ := t
    have hds : l.expDigits = ds := by simp [PlainLit.expDigits, he]
    have hd : Digits ds := by rw [← hds]; exact hwf.ed
    have hne : ds ≠ [] := by rw [← hds]; exact hwf.expNonempty (by simp [he])
    simp only [parseExp]
    have hc : ((if up = true then 69 else 101) == 101 || (if up = true then 69 else 101) == 69) = true := by
      cases up <;> rfl
    rw [if_pos hc, expSign_lit sg ds hd hne]
    simp only []
    have hsp : spanDigits ds = (ds, []) := by
      have := spanDigits_append ds [] hd stops_nil
      simpa using this
    rw [hsp]
    have : ds.isEmpty = false := List.isEmpty_eq_false_iff.mpr hne
    simp [this]

theorem parseDecimal_body (l : PlainLit) (hwf : l.WF) :
    parseDecimal l.body = some (digitsVal (l.ip ++ l.fracDigits) 0, l.ip.length + l.fracDigits.length,
      l.expVal - (l.fracDigits.length : Int)) := by
  unfold parseDecimal PlainLit.body
  simp only [List.append_assoc]
  rw [spanDigits_append l.ip _ hwf.ip (stops_frac_exp l)]
  simp only [spanFrac_lit l hwf, parseExp_lit l hwf]
  have : (l.ip.length + l.fracDigits.length == 0) = false := by simpa using hwf.mant
  simp [this, digitsVal_append]

theorem body_head (l : PlainLit) (hwf : l.WF) :
    ∃ c r, l.body = c :: r ∧ (isDigit c = true ∨ (c = 46 ∧ ∃ d r', r = d :: r' ∧ isDigit d = true)) := by
  unfold PlainLit.body
  cases hip : l.ip with
  | cons d r =>
    refine ⟨d, r ++ (l.fracBytes ++ l.expBytes), by simp, Or.inl ?_⟩
    exact hwf.ip d (by rw [hip]; exact List.mem_cons_self)
  | nil =>
    have hm := hwf.mant
    rw [hip] at hm
    simp only [List.length_nil, Nat.zero_add] at hm
    rcases fracDigits_eq l with ⟨_, h2⟩ | h
    · rw [h2] at hm; exact absurd rfl hm
    · cases hfd : l.fracDigits with
      | nil => rw [hfd] at hm; exact absurd rfl hm
      | cons d r' =>
        refine ⟨46, d :: r' ++ l.expBytes, by simp [h, hfd], Or.inr ⟨rfl, d, r' ++ l.expBytes, rfl, ?_⟩⟩
        exact hwf.fp d (by rw [hfd]; exact List.mem_cons_self)

/-- `from_str` on an optional sign in front of a decimal number that does not begin with a sign itself -/
theorem fromStr_signed (f : Fmt) (sg : Option Bool) {c : Nat} {r : List Nat} (hc : (c == 45) = false ∧ (c == 43) = false)
    {m nd : Nat} {x : Int} (hp : parseDecimal (c :: r) = some (m, nd, x)) :
    fromStr f (signBytes sg ++ c :: r) = some (decRound f (sg == some true) m nd x) := by
  rcases sg with _ | _ | _
  · simp only [signBytes, List.nil_append, fromStr, hc.1, hc.2, Bool.or_self, Bool.false_eq_true, ↓reduceIte,
      List.isEmpty_cons, hp]
    rfl
  · simp only [signBytes, List.cons_append, List.nil_append, fromStr, show ((43 : Nat) == 45 || (43 : Nat) == 43) = true from rfl,
      List.isEmpty_cons, Bool.false_eq_true, ↓reduceIte, hp]
    rfl
  · simp only [signBytes, List.cons_append, List.nil_append, fromStr, show ((45 : Nat) == 45 || (45 : Nat) == 43) = true from rfl,
      List.isEmpty_cons, Bool.false_eq_true, ↓reduceIte, hp]
    rfl

/-- Rust `str::parse` on the literal = its exact decimal value, correctly rounded. -/
theorem fromStr_lit (f : Fmt) (l : PlainLit) (hwf : l.WF) : fromStr f l.render = some (l.value f) := by
  obtain ⟨c, r, hb, hc⟩ := body_head l hwf
  have hc45 : (c == 45) = false ∧ (c == 43) = false := by
    rcases hc with h | ⟨h, _⟩
    · simp only [isDigit, Bool.and_eq_true, decide_eq_true_eq] at h
      constructor <;> (simp only [beq_eq_false_iff_ne, ne_eq]; omega)
    · subst h; exact ⟨rfl, rfl⟩
  have hp := parseDecimal_body l hwf
  unfold PlainLit.render PlainLit.value
  rw [hb] at hp ⊢
  exact fromStr_signed f l.sign hc45 hp


/-- bytes that occur in a literal -/
def allowed (n : Nat) : Bool := isDigit n || n == 43 || n == 45 || n == 46 || n == 69 || n == 101

theorem allowed_lt (n : Nat) (h : allowed n = true) : n < 128 := by
  simp only [allowed, isDigit, Bool.or_eq_true, Bool.and_eq_true, decide_eq_true_eq, beq_iff_eq] at h
  omega

theorem allowed_facts : ∀ n, n < 128 → allowed n = true →
    isWhitespace (Char.ofNat n) = false ∧ asciiLower (Char.ofNat n) ≠ 'n' ∧ asciiLower (Char.ofNat n) ≠ 'i' ∧
      (Char.ofNat n).toNat = n ∧ isWs n = false := by
  decide +kernel

theorem allowed_signBytes (sg : Option Bool) : ∀ c ∈ signBytes sg, allowed c = true := by
  cases sg with
  | none => intro c hc; cases hc
  | some b => cases b <;> (intro c hc; simp [signBytes] at hc; subst hc; rfl)

theorem allowed_digits {ds : List Nat} (h : Digits ds) : ∀ c ∈ ds, allowed c = true := by
  intro c hc; simp [allowed, h c hc]

theorem allowed_render (l : PlainLit) (hwf : l.WF) : ∀ c ∈ l.render, allowed c = true := by
  intro c hc
  simp only [PlainLit.render, PlainLit.body, List.mem_append] at hc
  rcases hc with h | (h | h) | h
  · exact allowed_signBytes _ c h
  · exact allowed_digits hwf.ip c h
  · rcases fracDigits_eq l with ⟨h1, _⟩ | h1
    · rw [h1] at h; cases h
    · rw [h1] at h
      cases h with
      | head => rfl
      | tail _ h => exact allowed_digits hwf.fp c h
  · unfold PlainLit.expBytes at h
    cases he : l.exp with
    | none => rw [he] at h; cases h
    | some t =>
      obtain ⟨up, sg, ds⟩ := t
      rw [he] at h
      have hds : l.expDigits = ds := by simp [PlainLit.expDigits, he]
      simp only [List.mem_cons, List.mem_append] at h
      rcases h with h | h | h
      · subst h; cases up <;> rfl
      · exact allowed_signBytes _ c h
      · exact allowed_digits (by rw [← hds]; exact hwf.ed) c h

theorem utf8_chars (bs : List Nat) (h : ∀ c ∈ bs, allowed c = true) : utf8 (bs.map Char.ofNat) = bs := by
  induction bs with
  | nil => rfl
  | cons b r ih =>
    have hb := h b (List.mem_cons_self)
    have hf := allowed_facts b (allowed_lt b hb) hb
    have hlt := allowed_lt b hb
    simp only [utf8, List.map_cons, List.flatMap_cons] at ih ⊢
    rw [ih (fun c hc => h c (List.mem_cons_of_mem _ hc))]
    rw [hf.2.2.2.1]
    have : b < 0x80 := hlt
    simp [this]

theorem lower_not_mem (bs : List Nat) (h : ∀ c ∈ bs, allowed c = true) :
    'n' ∉ lowerAscii (bs.map Char.ofNat) ∧ 'i' ∉ lowerAscii (bs.map Char.ofNat) := by
  unfold lowerAscii
  constructor
  · intro hm
    simp only [List.map_map, List.mem_map, Function.comp] at hm
    obtain ⟨b, hb, hbe⟩ := hm
    exact (allowed_facts b (allowed_lt b (h b hb)) (h b hb)).2.1 hbe
  · intro hm
    simp only [List.map_map, List.mem_map, Function.comp] at hm
    obtain ⟨b, hb, hbe⟩ := hm
    exact (allowed_facts b (allowed_lt b (h b hb)) (h b hb)).2.2.1 hbe

theorem parsePlain_lit (f : Fmt) (l : PlainLit) (hwf : l.WF) :
    parsePlain f (l.render.map Char.ofNat) = .ok (l.value f) := by
  have hall := allowed_render l hwf
  have hws : ∀ c ∈ l.render.map Char.ofNat, isWhitespace c = false := by
    intro c hc
    obtain ⟨b, hb, rfl⟩ := List.mem_map.mp hc
    exact (allowed_facts b (allowed_lt b (hall b hb)) (hall b hb)).1
  obtain ⟨hn, hi⟩ := lower_not_mem l.render hall
  unfold parsePlain
  simp only []
  rw [trim_of_no_ws hws]
  -- none of the six spellings of `.nan` / `.inf`: the literal has no `n` and no `i`
  have ne : ∀ kw : List Char, 'n' ∈ kw ∨ 'i' ∈ kw → (lowerAscii (l.render.map Char.ofNat) == kw) = false := by
    intro kw h
    rw [beq_eq_false_iff_ne]
    rintro rfl
    exact h.elim hn hi
  simp only [ne ".nan".toList (by decide), ne "+.nan".toList (by decide), ne "-.nan".toList (by decide),
    ne ".inf".toList (by decide), ne "+.inf".toList (by decide), ne "-.inf".toList (by decide), Bool.or_self,
    Bool.false_eq_true, ↓reduceIte]
  rw [utf8_chars _ hall, fromStr_lit f l hwf]


theorem noCont_of_allowed {bs : List Nat} (h : ∀ c ∈ bs, allowed c = true) : NoCont bs :=
  NoCont.of_ascii (fun c hc => allowed_lt c (h c hc))

def unsigned (l : PlainLit) : PlainLit := { l with sign := none }

theorem unsigned_wf (l : PlainLit) (hwf : l.WF) : (unsigned l).WF :=
  ⟨hwf.ip, hwf.fp, hwf.ed, hwf.mant, hwf.expNonempty⟩

theorem neg_fin (s : Bool) (m : Nat) (e : Int) : neg (.fin s m e) = .fin (!s) m e := rfl
theorem neg_inf (s : Bool) : neg (.inf s) = .inf (!s) := rfl

theorem neg_decRound (f : Fmt) (mant nd : Nat) (x : Int) : neg (decRound f false mant nd x) = decRound f true mant nd x := by
  obtain ⟨a, b, _, h⟩ := C19F.decRound_eq f mant nd x
  rw [h false, h true, C19F.neg_round]
  rfl

end SaphyrVerif.Lemmas.C19L
