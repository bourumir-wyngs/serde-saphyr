import SaphyrVerif.Lemmas.E2EBudgetShape
import SaphyrVerif.Lemmas.E2EBudgetRun
/-!
End-to-end composition with the budget enforcer: the observations of a whole run.  `obsRun n q inp` is everything the
enforcer is shown during the first `n` calls of `next_impl`, computed from the pump without enforcer.  `run_withBud`: where
the pump without enforcer runs to its end, the pump with the enforcer `b` does so exactly when `b` accepts `obsRun` of that
run, and it ends with what `b` has become; so whether a budget shows is a question about `feedObs` alone.
`steps_accounts`: the list is accounted for (`Accounts`, `Lemmas/E2EBudgetShape.lean`) by the items consumed and the events
delivered.
-/
namespace SaphyrVerif.Lemmas.E2EBudget
open SaphyrVerif.Pump SaphyrVerif.Budget
open SaphyrVerif.Lemmas.C02 (Steps)
open SaphyrVerif.Lemmas.CurSim (Run)

def obsRun : Nat → Pump → List RawItem → List Obs
  | 0, _, _ => []
  | n + 1, q, inp => obsCall q inp ++ obsRun n (nextImpl q inp).2.1 (nextImpl q inp).2.2

theorem obsRun_succ {q inp s q' rest} (h : nextImpl q inp = (s, q', rest)) (n : Nat) :
    obsRun (n + 1) q inp = obsCall q inp ++ obsRun n q' rest := by
  rw [obsRun, h]

theorem obsRun_steps {q inp es q' rest} (h : Steps q inp es q' rest) (n : Nat) :
    obsRun (es.length + n) q inp = obsRun es.length q inp ++ obsRun n q' rest := by
  induction h with
  | refl => simp [obsRun]
  | cons hn _ ih =>
    rw [List.length_cons, Nat.add_right_comm, obsRun_succ hn, obsRun_succ hn, ih, List.append_assoc]

/-- a run only depends on the result of its first call; so do its observations, up to what the first call is shown on
top -/
theorem obsRun_of_eq {q inp q0 inp0} {pre : List Obs} (h : nextImpl q inp = nextImpl q0 inp0)
    (ho : obsCall q inp = pre ++ obsCall q0 inp0) (n : Nat) :
    obsRun (n + 1) q inp = pre ++ obsRun (n + 1) q0 inp0 := by
  rw [obsRun, obsRun, h, ho, List.append_assoc]

theorem run_withBud {q inp es} (h : Run q inp es) (hq : q.budget = none) :
    ∃ qf, ∀ b pf, BRunTo (withBud q b) inp es pf ↔
      ∃ bf, feedObs b (obsRun (es.length + 1) q inp) = .ok bf ∧ pf = withBud qf bf := by
  induction h with
  | @eof q inp q' inp' hn hqt =>
    refine ⟨q', fun b pf => ?_⟩
    rw [List.length_nil, obsRun_succ hn, obsRun, List.append_nil]
    constructor
    · intro hb
      cases hb with
      | eof hn2 _ =>
        -- the call of the budgeted pump is the call `hn` with the enforcer fed: the pump without enforcer is deterministic
        obtain ⟨q2, b', h0, -, rfl, hf⟩ := (nextImpl_withBud_inv hq b hn2).resolve_right not_breach_eof
        cases hn.symm.trans h0
        exact ⟨b', hf, rfl⟩
    · rintro ⟨bf, hf, rfl⟩
      have ho := nextImpl_obs q inp hq b hn
      simp only [hf] at ho
      exact BRunTo.eof ho (quiet_of_strip (by rw [withBud_budget_none (budget_none_step hq hn)]; exact hqt))
  | @ev q inp e q' inp' es hn _ ih =>
    obtain ⟨qf, ih⟩ := ih (budget_none_step hq hn)
    refine ⟨qf, fun b pf => ?_⟩
    rw [List.length_cons, obsRun_succ hn, feedObs_append]
    constructor
    · intro hb
      cases hb with
      | ev hn2 hb2 =>
        obtain ⟨q2, b', h0, -, rfl, hf⟩ := (nextImpl_withBud_inv hq b hn2).resolve_right (not_breach_event e)
        cases hn.symm.trans h0
        simp only [hf]
        exact (ih b' pf).1 hb2
    · intro hx
      have ho := nextImpl_obs q inp hq b hn
      cases hf : feedObs b (obsCall q inp) with
      | error br =>
        simp only [hf] at hx
        obtain ⟨bf, hx, -⟩ := hx
        cases hx
      | ok b1 =>
        simp only [hf] at ho hx
        exact BRunTo.ev ho ((ih b1 pf).2 hx)

theorem steps_accounts {q inp es q' rest} (h : Steps q inp es q' rest) (hp : Plain0 q) (hrest : rest ≠ []) :
    ∃ C, inp = C ++ rest ∧ Accounts C (obsRun es.length q inp) es := by
  induction h with
  | refl q inp => exact ⟨[], rfl, .nil⟩
  | @cons q inp e q1 inp1 es q2 inp2 hn _ ih =>
    obtain ⟨C', hC', a⟩ := ih (hp.step hn) hrest
    have hne : inp1 ≠ [] := by
      rw [hC']
      exact fun h0 => hrest (List.append_eq_nil_iff.mp h0).2
    obtain ⟨c, hc, b⟩ := nextImpl_accounts hn hp hne
    refine ⟨c ++ C', by rw [hc, hC', List.append_assoc], ?_⟩
    rw [List.length_cons, obsRun_succ hn]
    exact b.append a

end SaphyrVerif.Lemmas.E2EBudget
