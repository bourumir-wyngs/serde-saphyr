import SaphyrVerif.Lemmas.C03_TypedD
/-!
C03 at the level of typed values: the strict form `explicitTree` (where it is defined it is the written-out
form `writeOut`, hence has the same typed meaning as the tree), the explicit tree is explicit (no merge entry
at any value position), and the one-node form of "merge form = explicit form".
-/
namespace SaphyrVerif.Lemmas.C03T
open SaphyrVerif SaphyrVerif.Scalars SaphyrVerif.Pump SaphyrVerif.De SaphyrVerif.Spec
open SaphyrVerif.Lemmas.C03 (seqSourceEntries_cons_forall)

theorem explicitE_nil (dup : DupPolicy) : explicitE dup [] = some [] := by rw [explicitE]

theorem explicitE_cons (dup : DupPolicy) (k v : ENode) (rest : List (ENode × ENode)) :
    explicitE dup ((k, v) :: rest) =
      (if isMergeKeyNode k then explicitSrc dup v else explicitTree dup v).bind fun v' =>
        (explicitE dup rest).map ((k, v') :: ·) := by
  rw [explicitE]
  cases (if isMergeKeyNode k then explicitSrc dup v else explicitTree dup v) <;> cases explicitE dup rest <;> rfl

theorem explicitL_nil (dup : DupPolicy) : explicitL dup [] = some [] := by rw [explicitL]

theorem explicitL_cons (dup : DupPolicy) (n : ENode) (ns : List ENode) :
    explicitL dup (n :: ns) = (explicitTree dup n).bind fun n' => (explicitL dup ns).map (n' :: ·) := by
  rw [explicitL]; cases explicitTree dup n <;> cases explicitL dup ns <;> rfl

theorem explicitSrcL_nil (dup : DupPolicy) : explicitSrcL dup [] = some [] := by rw [explicitSrcL]

theorem explicitSrcL_cons (dup : DupPolicy) (n : ENode) (ns : List ENode) :
    explicitSrcL dup (n :: ns) = (explicitSrc dup n).bind fun n' => (explicitSrcL dup ns).map (n' :: ·) := by
  rw [explicitSrcL]; cases explicitSrc dup n <;> cases explicitSrcL dup ns <;> rfl

theorem explicitTree_scalar (dup : DupPolicy) (v : List Char) (tag : Nat) (rt : Option (List Char)) (st : Style)
    (a : Nat) (l : Loc) : explicitTree dup (.scalar v tag rt st a l) = some (.scalar v tag rt st a l) := by
  rw [explicitTree]

theorem explicitTree_seq (dup : DupPolicy) (a tag : Nat) (rt : Option (List Char)) (l el : Loc) (items : List ENode) :
    explicitTree dup (.seq a tag rt l el items) = (explicitL dup items).map (.seq a tag rt l el) := by
  rw [explicitTree]; cases explicitL dup items <;> rfl

theorem explicitTree_map (dup : DupPolicy) (a : Nat) (l el : Loc) (entries : List (ENode × ENode)) :
    explicitTree dup (.map a l el entries) =
      ((explicitE dup entries).bind (effEntries dup)).map (.map a l el) := by
  rw [explicitTree]
  cases explicitE dup entries with
  | none => rfl
  | some es1 => simp only [Option.bind_some]; cases effEntries dup es1 <;> rfl

theorem explicitSrc_scalar (dup : DupPolicy) (v : List Char) (tag : Nat) (rt : Option (List Char)) (st : Style)
    (a : Nat) (l : Loc) : explicitSrc dup (.scalar v tag rt st a l) = some (.scalar v tag rt st a l) := by
  rw [explicitSrc]

theorem explicitSrc_seq (dup : DupPolicy) (a tag : Nat) (rt : Option (List Char)) (l el : Loc) (items : List ENode) :
    explicitSrc dup (.seq a tag rt l el items) = (explicitSrcL dup items).map (.seq a tag rt l el) := by
  rw [explicitSrc]; cases explicitSrcL dup items <;> rfl

theorem explicitSrc_map (dup : DupPolicy) (a : Nat) (l el : Loc) (entries : List (ENode × ENode)) :
    explicitSrc dup (.map a l el entries) =
      ((explicitE dup entries).bind (effEntries .firstWins)).map (.map a l el) := by
  rw [explicitSrc]
  cases explicitE dup entries with
  | none => rfl
  | some es1 => simp only [Option.bind_some]; cases effEntries .firstWins es1 <;> rfl

theorem explicitTree_seq_inv {dup : DupPolicy} {a tag : Nat} {rt : Option (List Char)} {l el : Loc} {items : List ENode}
    {t' : ENode} (h : explicitTree dup (.seq a tag rt l el items) = some t') :
    ∃ items', explicitL dup items = some items' ∧ t' = .seq a tag rt l el items' := by
  rw [explicitTree_seq] at h
  obtain ⟨items', hi, rfl⟩ := Option.map_eq_some_iff.1 h
  exact ⟨items', hi, rfl⟩

theorem explicitSrc_seq_inv {dup : DupPolicy} {a tag : Nat} {rt : Option (List Char)} {l el : Loc} {items : List ENode}
    {n' : ENode} (h : explicitSrc dup (.seq a tag rt l el items) = some n') :
    ∃ items', explicitSrcL dup items = some items' ∧ n' = .seq a tag rt l el items' := by
  rw [explicitSrc_seq] at h
  obtain ⟨items', hi, rfl⟩ := Option.map_eq_some_iff.1 h
  exact ⟨items', hi, rfl⟩

/-- a mapping at a value position (`p = dup`) or used as a merge source (`p = .firstWins`) -/
theorem bind_eff_inv {dup p : DupPolicy} {a : Nat} {l el : Loc} {entries : List (ENode × ENode)} {t' : ENode}
    (h : ((explicitE dup entries).bind (effEntries p)).map (ENode.map a l el) = some t') :
    ∃ es1 es', explicitE dup entries = some es1 ∧ effEntries p es1 = some es' ∧ t' = .map a l el es' := by
  obtain ⟨es', hb, rfl⟩ := Option.map_eq_some_iff.1 h
  obtain ⟨es1, he, hf⟩ := Option.bind_eq_some_iff.1 hb
  exact ⟨es1, es', he, hf, rfl⟩

theorem explicitTree_map_inv {dup : DupPolicy} {a : Nat} {l el : Loc} {entries : List (ENode × ENode)}
    {t' : ENode} (h : explicitTree dup (.map a l el entries) = some t') :
    ∃ es1 es', explicitE dup entries = some es1 ∧ effEntries dup es1 = some es' ∧ t' = .map a l el es' := by
  rw [explicitTree_map] at h
  exact bind_eff_inv h

theorem explicitSrc_map_inv {dup : DupPolicy} {a : Nat} {l el : Loc} {entries : List (ENode × ENode)}
    {n' : ENode} (h : explicitSrc dup (.map a l el entries) = some n') :
    ∃ es1 es', explicitE dup entries = some es1 ∧ effEntries .firstWins es1 = some es' ∧ n' = .map a l el es' := by
  rw [explicitSrc_map] at h
  exact bind_eff_inv h

/-- when the strict combination of two options is defined (the shape of the list members of `explicitTree`) -/
theorem bind_map_eq_some {α β γ : Type} {f : α → β → γ} {x : Option α} {y : Option β} {r : γ}
    (h : (x.bind fun a => y.map (f a)) = some r) : ∃ a b, x = some a ∧ y = some b ∧ r = f a b := by
  obtain ⟨a, ha, h⟩ := Option.bind_eq_some_iff.1 h
  obtain ⟨b, hb, rfl⟩ := Option.map_eq_some_iff.1 h
  exact ⟨a, b, ha, hb, rfl⟩

theorem explicitL_cons_inv {dup : DupPolicy} {n : ENode} {ns r : List ENode} (h : explicitL dup (n :: ns) = some r) :
    ∃ n' ns', explicitTree dup n = some n' ∧ explicitL dup ns = some ns' ∧ r = n' :: ns' := by
  rw [explicitL_cons] at h
  exact bind_map_eq_some h

theorem explicitSrcL_cons_inv {dup : DupPolicy} {n : ENode} {ns r : List ENode} (h : explicitSrcL dup (n :: ns) = some r) :
    ∃ n' ns', explicitSrc dup n = some n' ∧ explicitSrcL dup ns = some ns' ∧ r = n' :: ns' := by
  rw [explicitSrcL_cons] at h
  exact bind_map_eq_some h

theorem explicitE_cons_inv {dup : DupPolicy} {k v : ENode} {rest r : List (ENode × ENode)}
    (h : explicitE dup ((k, v) :: rest) = some r) :
    ∃ v' rest', explicitE dup rest = some rest' ∧ r = (k, v') :: rest' ∧
      ((isMergeKeyNode k = true ∧ explicitSrc dup v = some v') ∨ (isMergeKeyNode k = false ∧ explicitTree dup v = some v')) := by
  rw [explicitE_cons] at h
  obtain ⟨v', rest', hv, hr, rfl⟩ := bind_map_eq_some h
  refine ⟨v', rest', hr, rfl, ?_⟩
  cases hk : isMergeKeyNode k <;> simp only [hk, if_true, Bool.false_eq_true, if_false] at hv
  · exact Or.inr ⟨rfl, hv⟩
  · exact Or.inl ⟨rfl, hv⟩

mutual
theorem writeOut_of_explicitTree (dup : DupPolicy) : ∀ (t t' : ENode), explicitTree dup t = some t' → writeOut dup t = t'
  | .scalar v tag rt st a l, t', h => by
    rw [explicitTree_scalar] at h; cases h; rw [writeOut_scalar]
  | .seq a tag rt l el items, t', h => by
    obtain ⟨items', hi, rfl⟩ := explicitTree_seq_inv h
    rw [writeOut_seq, writeOutL_of_explicitL dup items items' hi]
  | .map a l el entries, t', h => by
    obtain ⟨es1, es', he1, hf, rfl⟩ := explicitTree_map_inv h
    rw [writeOut_map, writeOutE_of_explicitE dup entries es1 he1, hf]
termination_by structural x => x
theorem writeOutSrc_of_explicitSrc (dup : DupPolicy) : ∀ (n n' : ENode), explicitSrc dup n = some n' → writeOutSrc dup n = n'
  | .scalar v tag rt st a l, n', h => by
    rw [explicitSrc_scalar] at h; cases h; rw [writeOutSrc_scalar]
  | .seq a tag rt l el items, n', h => by
    obtain ⟨items', hi, rfl⟩ := explicitSrc_seq_inv h
    rw [writeOutSrc_seq, writeOutSrcL_of_explicitSrcL dup items items' hi]
  | .map a l el entries, n', h => by
    obtain ⟨es1, es', he1, hf, rfl⟩ := explicitSrc_map_inv h
    rw [writeOutSrc_map, writeOutE_of_explicitE dup entries es1 he1, hf]
termination_by structural x => x
theorem writeOutL_of_explicitL (dup : DupPolicy) : ∀ (items items' : List ENode), explicitL dup items = some items' →
    writeOutL dup items = items'
  | [], items', h => by rw [explicitL_nil] at h; cases h; rw [writeOutL_nil]
  | n :: ns, items', h => by
    obtain ⟨n', ns', hn, hs, rfl⟩ := explicitL_cons_inv h
    rw [writeOutL_cons, writeOut_of_explicitTree dup n n' hn, writeOutL_of_explicitL dup ns ns' hs]
termination_by structural x => x
theorem writeOutSrcL_of_explicitSrcL (dup : DupPolicy) : ∀ (items items' : List ENode),
    explicitSrcL dup items = some items' → writeOutSrcL dup items = items'
  | [], items', h => by rw [explicitSrcL_nil] at h; cases h; rw [writeOutSrcL_nil]
  | n :: ns, items', h => by
    obtain ⟨n', ns', hn, hs, rfl⟩ := explicitSrcL_cons_inv h
    rw [writeOutSrcL_cons, writeOutSrc_of_explicitSrc dup n n' hn, writeOutSrcL_of_explicitSrcL dup ns ns' hs]
termination_by structural x => x
theorem writeOutE_of_explicitE (dup : DupPolicy) : ∀ (entries es1 : List (ENode × ENode)), explicitE dup entries = some es1 →
    writeOutE dup entries = es1
  | [], es1, h => by rw [explicitE_nil] at h; cases h; rw [writeOutE_nil]
  | (k, v) :: rest, es1, h => by
    obtain ⟨v', rest', hr, rfl, hv⟩ := explicitE_cons_inv h
    rw [writeOutE_cons, writeOutE_of_explicitE dup rest rest' hr]
    rcases hv with ⟨hk, hv⟩ | ⟨hk, hv⟩
    · simp only [hk, if_true, writeOutSrc_of_explicitSrc dup v v' hv]
    · simp only [hk, Bool.false_eq_true, if_false, writeOut_of_explicitTree dup v v' hv]
termination_by structural x => x
end

theorem explicit_interp (cfg : Cfg) (ty : Ty) (t t' : ENode) (hx : explicitTree cfg.dup t = some t')
    (hH : enumFree ty = true ∨ enumStable cfg.dup t = true) : interp cfg ty t = interp cfg ty t' := by
  rw [← writeOut_of_explicitTree cfg.dup t t' hx]
  exact writeOut_interp cfg ty t hH

theorem mergeFreeE_cons (k v : ENode) (rest : List (ENode × ENode)) :
    mergeFreeE ((k, v) :: rest) = ((!isMergeKeyNode k && mergeFree v) && mergeFreeE rest) := by rw [mergeFreeE]

theorem mergeFreeE_of_forall (es : List (ENode × ENode))
    (h : ∀ e ∈ es, isMergeKeyNode e.1 = false ∧ mergeFree e.2 = true) : mergeFreeE es = true :=
  andCons_of_forall (f := fun e => !isMergeKeyNode e.1 && mergeFree e.2) (by rw [mergeFreeE])
    (fun ⟨k, v⟩ r => mergeFreeE_cons k v r) (fun e he => by simp [h e he])

theorem mergeFreeE_mem {es : List (ENode × ENode)} (h : mergeFreeE es = true) {e : ENode × ENode} (he : e ∈ es) :
    isMergeKeyNode e.1 = false ∧ mergeFree e.2 = true := by
  simpa using mem_of_andCons (f := fun e => !isMergeKeyNode e.1 && mergeFree e.2) (fun ⟨k, v⟩ r => mergeFreeE_cons k v r) h he

theorem eff_mergeFree (p : DupPolicy) {es1 es' : List (ENode × ENode)} (hf : effEntries p es1 = some es')
    (h1 : ∀ e ∈ (splitEntries es1).1, mergeFree e.2 = true)
    (h2 : ∀ b, seqSourceEntries (splitEntries es1).2 = some b → ∀ e ∈ b, mergeFree e.2 = true) :
    mergeFreeE es' = true := by
  apply mergeFreeE_of_forall
  intro e he
  refine ⟨eff_no_merge p es1 es' hf e he, ?_⟩
  rcases C03.eff_mem hf e he with hm | ⟨bf, hbf, hm⟩
  · exact h1 e hm
  · exact h2 bf hbf e hm

mutual
theorem explicitTree_mergeFree (dup : DupPolicy) : ∀ (t t' : ENode), explicitTree dup t = some t' → mergeFree t' = true
  | .scalar v tag rt st a l, t', h => by
    rw [explicitTree_scalar] at h; cases h; rw [mergeFree]
  | .seq a tag rt l el items, t', h => by
    obtain ⟨items', hi, rfl⟩ := explicitTree_seq_inv h
    rw [mergeFree]
    exact explicitL_mergeFree dup items items' hi
  | .map a l el entries, t', h => by
    obtain ⟨es1, es', he1, hf, rfl⟩ := explicitTree_map_inv h
    rw [mergeFree]
    obtain ⟨h1, h2⟩ := explicitE_mergeFree dup entries es1 he1
    exact eff_mergeFree dup hf h1 h2
termination_by structural x => x
theorem explicitSrc_mergeFree (dup : DupPolicy) : ∀ (n n' : ENode), explicitSrc dup n = some n' →
    ∀ b, sourceEntries n' = some b → ∀ e ∈ b, mergeFree e.2 = true
  | .scalar v tag rt st a l, n', h, b, hb => by
    rw [explicitSrc_scalar] at h; cases h
    simp only [C03.sourceEntries_scalar] at hb
    split at hb
    · cases hb; simp
    · cases hb
  | .seq a tag rt l el items, n', h, b, hb => by
    obtain ⟨items', hi, rfl⟩ := explicitSrc_seq_inv h
    simp only [C03.sourceEntries_seq] at hb
    exact explicitSrcL_mergeFree dup items items' hi b hb
  | .map a l el entries, n', h, b, hb => by
    obtain ⟨es1, es', he, hf, rfl⟩ := explicitSrc_map_inv h
    obtain ⟨h1, h2⟩ := explicitE_mergeFree dup entries es1 he
    have hmf := eff_mergeFree .firstWins hf h1 h2
    simp only [C03.sourceEntries_map] at hb
    rw [mapSource_of_no_merge es' (eff_no_merge _ es1 es' hf)] at hb
    cases hb
    exact fun e he' => (mergeFreeE_mem hmf he').2
termination_by structural x => x
theorem explicitL_mergeFree (dup : DupPolicy) : ∀ (items items' : List ENode), explicitL dup items = some items' →
    mergeFreeL items' = true
  | [], items', h => by rw [explicitL_nil] at h; cases h; rw [mergeFreeL]
  | n :: ns, items', h => by
    obtain ⟨n', ns', hn, hs, rfl⟩ := explicitL_cons_inv h
    rw [mergeFreeL, explicitTree_mergeFree dup n n' hn, explicitL_mergeFree dup ns ns' hs]
    rfl
termination_by structural x => x
theorem explicitSrcL_mergeFree (dup : DupPolicy) : ∀ (items items' : List ENode), explicitSrcL dup items = some items' →
    ∀ b, seqSourceEntries items' = some b → ∀ e ∈ b, mergeFree e.2 = true
  | [], items', h, b, hb => by
    rw [explicitSrcL_nil] at h; cases h
    simp at hb; subst hb; simp
  | n :: ns, items', h, b, hb => by
    obtain ⟨n', ns', hn, hs, rfl⟩ := explicitSrcL_cons_inv h
    exact seqSourceEntries_cons_forall (explicitSrc_mergeFree dup n n' hn) (explicitSrcL_mergeFree dup ns ns' hs) b hb
termination_by structural x => x
theorem explicitE_mergeFree (dup : DupPolicy) : ∀ (entries es1 : List (ENode × ENode)), explicitE dup entries = some es1 →
    (∀ e ∈ (splitEntries es1).1, mergeFree e.2 = true) ∧
      (∀ b, seqSourceEntries (splitEntries es1).2 = some b → ∀ e ∈ b, mergeFree e.2 = true)
  | [], es1, h => by
    rw [explicitE_nil] at h; cases h
    simp [splitEntries]
  | (k, v) :: rest, es1, h => by
    obtain ⟨v', rest', hr, rfl, hv⟩ := explicitE_cons_inv h
    obtain ⟨ih1, ih2⟩ := explicitE_mergeFree dup rest rest' hr
    rw [C03.splitEntries_cons]
    rcases hv with ⟨hk, hv⟩ | ⟨hk, hv⟩
    · simp only [hk, if_true]
      exact ⟨ih1, seqSourceEntries_cons_forall (explicitSrc_mergeFree dup v v' hv) ih2⟩
    · simp only [hk, Bool.false_eq_true, if_false]
      exact ⟨List.forall_mem_cons.2 ⟨explicitTree_mergeFree dup v v' hv, ih1⟩, ih2⟩
termination_by structural x => x
end

theorem enumHead_option (t : Ty) : enumHead (.option t) = enumHead t := by rw [enumHead]
theorem enumHead_newtype (t : Ty) : enumHead (.newtype t) = enumHead t := by rw [enumHead]
theorem enumHead_enum (n : String) (vs : List (String × VTy)) : enumHead (.enum n vs) = true := by rw [enumHead]

theorem node_agree (cfg : Cfg) (a : Nat) (l el : Loc) (entries es : List (ENode × ENode))
    (hes : effEntries cfg.dup entries = some es) (ty : Ty)
    (hH : enumHead ty = false ∨ shapeStable cfg.dup entries = true) :
    interp cfg ty (.map a l el entries) = interp cfg ty (.map a l el es) := by
  have hidem : effEntries cfg.dup es = some es := eff_idem _ entries es hes
  induction ty using C05.size_induction with
  | step ty ih =>
    cases ty with
    | bool | int sg w | float w | char | string | unit | bytes => rw [interp]
    | newtype ty' =>
      rw [interp_newtype, interp_newtype]
      exact ih ty' (by simp) (hH.imp (by rw [enumHead_newtype]; exact id) id)
    | option ty' =>
      rw [interp_option_map, interp_option_map]
      congr 1
      exact ih ty' (by simp) (hH.imp (by rw [enumHead_option]; exact id) id)
    | seq te => rw [C05.interp_seq_map, C05.interp_seq_map]
    | tuple ts =>
      rw [C05.interp_tuple, C05.interp_tuple]
      simp only [tupleNode]
    | map kt vt => rw [C05.interp_map_map, C05.interp_map_map, hes, hidem]
    | struct fields deny => rw [interp_struct, interp_struct, C05.structNode_map, C05.structNode_map, hes, hidem]
    | any => rw [C05.interp_any_map, C05.interp_any_map, hes, hidem]
    | enum name variants =>
      have hst : shapeStable cfg.dup entries = true := by
        rcases hH with h | h
        · rw [enumHead_enum] at h; cases h
        · exact h
      rcases shapeStable_cases hst hes with ⟨k, p, rfl, -, rfl⟩ | ⟨hlen, hne⟩
      · rfl
      · rw [interp_enum, interp_enum, enumFrom_map_not_singleton _ _ _ _ _ _ _ hlen,
          enumFrom_map_not_singleton _ _ _ _ _ _ _ hne]

/-- `effEntries = none`: an invalid merge value, or a repeated own key under `Error` -/
theorem node_none (cfg : Cfg) (a : Nat) (l el : Loc) (entries : List (ENode × ENode))
    (hes : effEntries cfg.dup entries = none) (ty : Ty) (hH : enumHead ty = false) :
    interp cfg ty (.map a l el entries) = none := by
  induction ty using C05.size_induction with
  | step ty ih =>
    cases ty with
    | bool | int sg w | float w | char | string | unit | bytes => rw [interp]
    | newtype ty' =>
      rw [interp_newtype]
      exact ih ty' (by simp) (by rw [enumHead_newtype] at hH; exact hH)
    | option ty' =>
      rw [interp_option_map, ih ty' (by simp) (by rw [enumHead_option] at hH; exact hH)]
      rfl
    | seq te => rw [C05.interp_seq_map]
    | tuple ts =>
      rw [C05.interp_tuple]
      simp only [tupleNode]
    | map kt vt => rw [C05.interp_map_map, hes]; rfl
    | struct fields deny => rw [interp_struct, C05.structNode_map, hes]; rfl
    | any => rw [C05.interp_any_map, hes]
    | enum name variants => rw [enumHead_enum] at hH; cases hH

end SaphyrVerif.Lemmas.C03T
