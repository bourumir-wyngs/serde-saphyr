import SaphyrVerif.Lemmas.C11_TypedBase
import SaphyrVerif.Lemmas.CurSimDe
/-!
Guarded simulation: the typed deserializer is relationally parametric in its cursor.  A `GSim` is a relation `S c c'` between
cursors that `peek` / `next` respect, with three options:
* a frame (`on`, `buf`, `ref`): if there is one, the left cursor is a replay cursor over `buf`, and the two operations are only
  promised to agree while it stands strictly inside `buf`;
* exactness (`ex`): if set, what the deserializer observes of the cursors apart from the events (`lastLoc`, `refLoc`,
  `atAlias`) agrees, and then so do all values and errors; otherwise reference locations and errors are not compared;
* one-sided failures (`Br`): errors with which the left run may fail alone.
`GSim.sim False` (`CurSim.Sim`) has none of them, `GSim.frame K` (`Frame.FSim K`) the frame `K`; `GSim.lock`
(`Lemmas/LockStep.lean`) is exact, with one-sided failures: none for `Lock.LR`, the budget breaches for `E2EBudget.BR`.
The walk through the typed deserializer is `gA` (`Lemmas/GSimMain.lean`); the depth bookkeeping that keeps the left cursor
inside the frame is the index of `GSim.At`: a lower bound on the nesting depth counted from the start of the frame (not from
the start of a call).  A function that reads one node needs the guard `In` only and starts again from the bound 0
(`At.zero`); a loop inside an open container needs the bound `1`, from which the guard follows (`At.inside`).
-/
namespace SaphyrVerif.Lemmas
open SaphyrVerif SaphyrVerif.Pump SaphyrVerif.De
open SaphyrVerif.Lemmas.C05 (bal Floor depthAt Stays Ev.delta)
open SaphyrVerif.Lemmas.Frame (pos)

/-- change of nesting depth by what a cursor operation delivers -/
def odelta : Option Ev → Int
  | none => 0
  | some e => Ev.delta e

/-- IF `c` is a replay cursor, then `d` is a later cursor on the same buffer, and in between the nesting depth
was never more than `j` below where it started (the facts of `Lemmas/C05_Weak*`, for any cursor) -/
def Moves (c : Cur) (j : Int) (d : Cur) : Prop := ∀ buf ref i, c = .replay buf i ref → Stays buf ref i j d

/-- how two runs may end: a common success, a common failure, or a failure of the left run alone -/
inductive Out (S Se : Cur → Cur → Prop) (ex : Prop) (Br : DErr → Cur → Prop) {α : Type} (rel : α → α → Prop) :
    R α → R α → Prop
  | ok {a b : α} {c c' : Cur} : rel a b → (ex → a = b) → S c c' → Out S Se ex Br rel (.ok a c) (.ok b c')
  | err {e e' : DErr} {c c' : Cur} : (ex → e = e') → Se c c' → Out S Se ex Br rel (.err e c) (.err e' c')
  | brk {e : DErr} {c : Cur} {y : R α} : Br e c → Out S Se ex Br rel (.err e c) y

def Qx (ex : Prop) {α : Type} (a b : α) : Prop := ex → a = b

def Relx (ex : Prop) {α : Type} (rel : α → α → Prop) (a b : α) : Prop := rel a b ∧ Qx ex a b

/-- `S`: related cursors; `Se`: what is left of that for the cursors returned with a common failure; `ex`: the comparison is
exact; `Br`: failures the left run may have alone (kept by `attach_alias_locations_if_missing`); `on`, `buf`, `ref`: the frame -/
structure GSim where
  S : Cur → Cur → Prop
  Se : Cur → Cur → Prop
  ex : Prop
  Br : DErr → Cur → Prop
  on : Prop
  buf : List Ev
  ref : Option Loc
  se : ∀ {c c'}, S c c' → Se c c'
  obs : ex → ∀ {c c'}, S c c' → c'.lastLoc = c.lastLoc ∧ c'.refLoc = c.refLoc ∧ c'.atAlias = c.atAlias
  br_attach : ∀ {e d} ref defined, Br e d → Br (attachAlias e ref defined) d
  rep : on → ∀ {c c'}, S c c' → c = .replay buf (pos c) ref
  bal0 : on → bal buf = 0
  floor : on → Floor 0 buf
  peek : ∀ {c c'}, S c c' → (on → pos c < buf.length) → Out S Se ex Br Eq c.peek c'.peek
  next : ∀ {c c'}, S c c' → (on → pos c < buf.length) → Out S Se ex Br Eq c.next c'.next

namespace GSim
variable (X : GSim) {k j : Int} {c c' d d' : Cur}

abbrev Q {α : Type} (a b : α) : Prop := Qx X.ex a b

abbrev Rel {α : Type} (rel : α → α → Prop) (a b : α) : Prop := Relx X.ex rel a b

def dep (c : Cur) : Int := depthAt X.buf (pos c)

/-- the guard: strictly inside the frame, if there is one -/
def In (c : Cur) : Prop := X.on → pos c < X.buf.length

/-- related cursors, the left one at nesting depth at least `k` (relative to the start of the frame, if there is one) -/
def At (k : Int) (c c' : Cur) : Prop := X.S c c' ∧ (X.on → k ≤ X.dep c)

/-- (inside a frame) `peek` on `c` delivers `o` -/
def Shows (c : Cur) (o : Option Ev) : Prop := X.on → X.buf[pos c]? = o

variable {X}

theorem Q.refl {α : Type} (a : α) : X.Q a a := fun _ => rfl
theorem Rel.rfl {α : Type} {a : α} : X.Rel Eq a a := ⟨Eq.refl a, fun _ => Eq.refl a⟩

theorem At.s (h : X.At k c c') : X.S c c' := h.1

/-- the frame never dips below its start -/
theorem At.zero (h : X.S c c') : X.At 0 c c' := ⟨h, fun hon => X.floor hon (pos c)⟩

theorem At.inside (h : X.At k c c') (hk : 1 ≤ k) : X.In c := by
  intro hon
  rcases Nat.lt_or_ge (pos c) X.buf.length with h1 | h1
  · exact h1
  · have := h.2 hon
    unfold dep at this
    rw [Frame.depthAt_of_length_le h1, X.bal0 hon] at this
    omega

theorem In.of_off (h : ¬ X.on) (c : Cur) : X.In c := fun hon => absurd hon h

theorem At.lastLoc (h : X.At k c c') : X.Q c.lastLoc c'.lastLoc := fun hx => (X.obs hx h.1).1.symm
theorem At.refLoc (h : X.At k c c') : X.Q c.refLoc c'.refLoc := fun hx => (X.obs hx h.1).2.1.symm
theorem At.atAlias (h : X.At k c c') : X.Q c.atAlias c'.atAlias := fun hx => (X.obs hx h.1).2.2.symm

/-- the three outcomes of `peek` as an eliminator (the form the step tactic applies) -/
theorem At.peek {G : Prop} (h : X.At k c c') (hin : X.In c)
    (ok : ∀ o d d', c.peek = .ok o d → c'.peek = .ok o d' → X.At k d d' → X.In d → X.Shows d o → G)
    (err : ∀ e e' d d', c.peek = .err e d → c'.peek = .err e' d' → X.Q e e' → X.Se d d' → G)
    (brk : ∀ e d, c.peek = .err e d → X.Br e d → G) : G := by
  have hp := X.peek h.1 hin
  generalize hx : c.peek = x at hp
  generalize hy : c'.peek = y at hp
  cases hp with
  | ok hr _ hs =>
    cases hr
    refine ok _ _ _ hx hy ⟨hs, fun hon => ?_⟩ (fun hon => ?_) (fun hon => ?_) <;>
    · have hc := X.rep hon h.1
      rw [hc] at hx
      cases hx
      first | exact hc ▸ h.2 hon | exact hc ▸ hin hon | rfl
  | err he hs => exact err _ _ _ _ hx hy he hs
  | brk hb => exact brk _ _ hx hb

theorem At.next {G : Prop} (h : X.At k c c') (hin : X.In c)
    (ok : ∀ o d d', c.next = .ok o d → c'.next = .ok o d' → X.At (k + odelta o) d d' → X.Shows c o → G)
    (err : ∀ e e' d d', c.next = .err e d → c'.next = .err e' d' → X.Q e e' → X.Se d d' → G)
    (brk : ∀ e d, c.next = .err e d → X.Br e d → G) : G := by
  have hp := X.next h.1 hin
  generalize hx : c.next = x at hp
  generalize hy : c'.next = y at hp
  cases hp with
  | ok hr _ hs =>
    cases hr
    refine ok _ _ _ hx hy ⟨hs, fun hon => ?_⟩ (fun hon => ?_)
    · have hc := X.rep hon h.1
      have hlt := hin hon
      have hg : X.buf[pos c]? = some X.buf[pos c] := List.getElem?_eq_getElem hlt
      rw [hc] at hx
      simp only [Cur.next, hg] at hx
      cases hx
      show k + Ev.delta _ ≤ depthAt X.buf (pos c + 1)
      rw [C05.depthAt_succ' hg]
      have := h.2 hon
      unfold dep at this
      omega
    · have hc := X.rep hon h.1
      have hlt := hin hon
      have hg : X.buf[pos c]? = some X.buf[pos c] := List.getElem?_eq_getElem hlt
      rw [hc] at hx
      simp only [Cur.next, hg] at hx
      cases hx
      exact hg
  | err he hs => exact err _ _ _ _ hx hy he hs
  | brk hb => exact brk _ _ hx hb

/-- (inside a frame) the event under the cursor is a function of the cursor: the depth after the event `o` was taken from
`c`, if `c` is known to show `o'` -/
theorem At.reidx {o o' : Option Ev} {e : Cur} (h : X.At (k + odelta o) d d') (h1 : X.Shows e o') (h2 : X.Shows e o) :
    X.At (k + odelta o') d d' :=
  ⟨h.1, fun hon => by have := (h1 hon).symm.trans (h2 hon); subst this; exact h.2 hon⟩

/-- the depth facts of `Lemmas/C05_Weak*`: a call that stays within `j` levels of its start -/
theorem At.weak (h : X.At k c c') (hs : X.S d d') (hw : Moves c j d) : X.At (k - j) d d' := by
  refine ⟨hs, fun hon => ?_⟩
  obtain ⟨i, hd, hij, ha⟩ := hw _ _ _ (X.rep hon h.1)
  subst hd
  have := h.2 hon
  have := ha.right hij
  unfold dep at *
  show k - j ≤ depthAt X.buf i
  omega

end GSim

abbrev RG (X : GSim) {α : Type} (rel : α → α → Prop) : R α → R α → Prop := Out X.S X.Se X.ex X.Br rel

variable {X : GSim}

theorem RG.ok {α : Type} {rel : α → α → Prop} {a b : α} {c c' : Cur} (hr : X.Rel rel a b) (hs : X.S c c') :
    RG X rel (.ok a c) (.ok b c') := Out.ok hr.1 hr.2 hs

theorem RG.err {α : Type} {rel : α → α → Prop} {e e' : DErr} {c c' : Cur} (he : X.Q e e') (hs : X.Se c c') :
    RG X rel (.err e c) (.err e' c') := Out.err he hs

theorem RG.brk {α : Type} {rel : α → α → Prop} {e : DErr} {c : Cur} {y : R α} (h : X.Br e c) :
    RG X rel (.err e c) y := Out.brk h

theorem RG.elim {α : Type} {rel : α → α → Prop} {x x' : R α} (h : RG X rel x x') {G : Prop}
    (ok : ∀ a a' d d', x = .ok a d → x' = .ok a' d' → X.Rel rel a a' → X.S d d' → G)
    (err : ∀ e e' d d', x = .err e d → x' = .err e' d' → X.Q e e' → X.Se d d' → G)
    (brk : ∀ e d, x = .err e d → X.Br e d → G) : G := by
  cases h with
  | ok hr hq hs => exact ok _ _ _ _ rfl rfl ⟨hr, hq⟩ hs
  | err he hs => exact err _ _ _ _ rfl rfl he hs
  | brk hb => exact brk _ _ rfl hb

theorem RG.fwd_ok {α : Type} {rel : α → α → Prop} {x x' : R α} {a : α} {c : Cur}
    (heq : x = .ok a c) (h : RG X rel x x') : ∃ a' c', x' = .ok a' c' ∧ X.Rel rel a a' ∧ X.S c c' := by
  cases h with
  | ok hr hq hs => cases heq; exact ⟨_, _, rfl, ⟨hr, hq⟩, hs⟩
  | err => cases heq
  | brk => cases heq

theorem RG.fwd_err {α : Type} {rel : α → α → Prop} {x x' : R α} {e : DErr} {c : Cur}
    (heq : x = .err e c) (h : RG X rel x x') : (∃ e' c', x' = .err e' c' ∧ X.Q e e' ∧ X.Se c c') ∨ X.Br e c := by
  cases h with
  | ok => cases heq
  | err he hs => cases heq; exact .inl ⟨_, _, rfl, he, hs⟩
  | brk hb => cases heq; exact .inr hb

/-- the same for `Except`-valued helpers (no cursor, no one-sided failure) -/
inductive EG (X : GSim) {α : Type} (rel : α → α → Prop) : Except DErr α → Except DErr α → Prop
  | ok {a b : α} : X.Rel rel a b → EG X rel (.ok a) (.ok b)
  | err {e e' : DErr} : X.Q e e' → EG X rel (.error e) (.error e')

theorem EG.both_ok {α : Type} {rel : α → α → Prop} {x x' : Except DErr α} {a a' : α}
    (h : EG X rel x x') (h1 : x = .ok a) (h2 : x' = .ok a') : X.Rel rel a a' := by
  cases h with
  | ok hr => cases h1; cases h2; exact hr
  | err => cases h1

theorem EG.both_err {α : Type} {rel : α → α → Prop} {x x' : Except DErr α} {e e' : DErr}
    (h : EG X rel x x') (h1 : x = .error e) (h2 : x' = .error e') : X.Q e e' := by
  cases h with
  | ok hr => cases h1
  | err he => cases h1; cases h2; exact he

theorem EG.not_ok_err {α : Type} {rel : α → α → Prop} {x x' : Except DErr α} {a : α} {e : DErr}
    (h : EG X rel x x') (h1 : x = .ok a) (h2 : x' = .error e) : False := by
  cases h with
  | ok hr => cases h2
  | err => cases h1

theorem EG.not_err_ok {α : Type} {rel : α → α → Prop} {x x' : Except DErr α} {a' : α} {e : DErr}
    (h : EG X rel x x') (h1 : x = .error e) (h2 : x' = .ok a') : False := by
  cases h with
  | ok hr => cases h1
  | err => cases h2

/-! Pending entries, merge batches and the map-access state embed reference locations read from the cursor: they are compared
modulo these (`CurSim.PL`, `PLL`, `MRel`), and are equal if the comparison is exact. -/

namespace GSim
variable (X : GSim)

abbrev PL := X.Rel CurSim.PL
abbrev PLL := X.Rel CurSim.PLL
abbrev MRel := X.Rel CurSim.MRel
/-- buffered values: same events -/
abbrev PV := X.Rel (fun (a b : Option (List Ev × Loc)) => a.map (·.1) = b.map (·.1))

variable {X}

theorem Q.attach {e e' : DErr} {r r' l l' : Loc} (he : X.Q e e') (hr : X.Q r r') (hl : X.Q l l') :
    X.Q (attachAlias e r l) (attachAlias e' r' l') := fun hx => by rw [he hx, hr hx, hl hx]

theorem Q.ite {α : Type} {a a' : Bool} {x x' y y' : α} (ha : X.Q a a') (hx : X.Q x x') (hy : X.Q y y') :
    X.Q (if a = true then x else y) (if a' = true then x' else y') := fun h => by rw [ha h, hx h, hy h]

theorem Q.derr {k : String} {l l' : Loc} {n : Loc} (hl : X.Q l l') : X.Q (⟨k, l, n⟩ : DErr) ⟨k, l', n⟩ :=
  fun hx => by rw [hl hx]

theorem At.eofErr {k : Int} {c c' : Cur} (h : X.At k c c') : X.Q (eofErr c) (eofErr c') := Q.derr h.lastLoc

theorem At.tagUseSite {k : Int} {c c' : Cur} (h : X.At k c c') (l : Loc) : X.Q (tagUseSite c l) (tagUseSite c' l) :=
  fun hx => by simp only [De.tagUseSite, h.refLoc hx]

theorem PL.refl (a : List PendingEntry) : X.PL a a := ⟨rfl, Q.refl a⟩
theorem PLL.refl (a : List (List PendingEntry)) : X.PLL a a := ⟨rfl, Q.refl a⟩
theorem MRel.refl (m : MA) : X.MRel m m := ⟨rfl, Q.refl m⟩

theorem MRel.mk' {hk : Bool} {seen : List FP} {p p' : List PendingEntry} {ms ms' : List (List PendingEntry)}
    {fl : Bool} {pv pv' : Option (List Ev × Loc)} (hp : X.PL p p') (hms : X.PLL ms ms') (hpv : X.PV pv pv') :
    X.MRel ⟨hk, seen, p, ms, fl, pv⟩ ⟨hk, seen, p', ms', fl, pv'⟩ :=
  ⟨CurSim.MRel.mk' hp.1 hms.1 hpv.1, fun hx => by rw [hp.2 hx, hms.2 hx, hpv.2 hx]⟩

theorem MRel.cases {m m' : MA} (h : X.MRel m m') :
    ∃ hk seen p p' ms ms' fl pv pv', m = ⟨hk, seen, p, ms, fl, pv⟩ ∧ m' = ⟨hk, seen, p', ms', fl, pv'⟩ ∧
      X.PL p p' ∧ X.PLL ms ms' ∧ X.PV pv pv' := by
  obtain ⟨hk, seen, p, p', ms, ms', fl, pv, pv', rfl, rfl, hp, hms, hpv⟩ := h.1.cases
  refine ⟨_, _, _, _, _, _, _, _, _, rfl, rfl, ⟨hp, fun hx => ?_⟩, ⟨hms, fun hx => ?_⟩, ⟨hpv, fun hx => ?_⟩⟩ <;>
  · have := h.2 hx
    simp only [MA.mk.injEq] at this
    simp only [this]

theorem Q.some {α : Type} {a a' : α} (h : X.Q a a') : X.Q (some a) (some a') := fun hx => by rw [h hx]

theorem PV.mk (evs : List Ev) {r r' : Loc} (h : X.Q r r') : X.PV (some (evs, r)) (some (evs, r')) :=
  ⟨rfl, fun hx => by rw [h hx]⟩

theorem PV.cases {pv pv' : Option (List Ev × Loc)} (h : X.PV pv pv') :
    (pv = none ∧ pv' = none) ∨ ∃ evs r r', pv = some (evs, r) ∧ pv' = some (evs, r') ∧ X.Q r r' := by
  rcases pv with _ | ⟨evs, r⟩ <;> rcases pv' with _ | ⟨evs', r'⟩
  · exact .inl ⟨rfl, rfl⟩
  · have := h.1; simp at this
  · have := h.1; simp at this
  · have h1 := h.1
    simp only [Option.map_some, Option.some.injEq] at h1
    subst h1
    exact .inr ⟨_, _, _, rfl, rfl, fun hx => by have := h.2 hx; simp only [Option.some.injEq, Prod.mk.injEq] at this; exact this.2⟩

theorem enq_rel {m m' : MA} (h : X.MRel m m') :
    (enqueueNextMergeBatch m).1 = (enqueueNextMergeBatch m').1 ∧
    X.MRel (enqueueNextMergeBatch m).2 (enqueueNextMergeBatch m').2 :=
  ⟨(CurSim.enq_rel h.1).1, (CurSim.enq_rel h.1).2, fun hx => by rw [h.2 hx]⟩

theorem KM.cases {s s' : KeyStep} {m m' : MA} (h : X.Rel CurSim.KM (s, m) (s', m')) : s = s' ∧ X.MRel m m' :=
  ⟨h.1.1, h.1.2, fun hx => by have := h.2 hx; simp only [Prod.mk.injEq] at this; exact this.2⟩
theorem VM.cases {v v' : Val} {m m' : MA} (h : X.Rel CurSim.VM (v, m) (v', m')) : v = v' ∧ X.MRel m m' :=
  ⟨h.1.1, h.1.2, fun hx => by have := h.2 hx; simp only [Prod.mk.injEq] at this; exact this.2⟩
theorem KM.mk {s : KeyStep} {m m' : MA} (h : X.MRel m m') : X.Rel CurSim.KM (s, m) (s, m') :=
  ⟨⟨rfl, h.1⟩, fun hx => by rw [h.2 hx]⟩
theorem VM.mk {v : Val} {m m' : MA} (h : X.MRel m m') : X.Rel CurSim.VM (v, m) (v, m') :=
  ⟨⟨rfl, h.1⟩, fun hx => by rw [h.2 hx]⟩

theorem PL.append {a b a' b' : List PendingEntry} (h1 : X.PL a a') (h2 : X.PL b b') : X.PL (a ++ b) (a' ++ b') :=
  ⟨h1.1.append h2.1, fun hx => by rw [h1.2 hx, h2.2 hx]⟩

theorem PL.cons {a a' : List PendingEntry} (k v : KeyNode) {r r' : Loc} (hr : X.Q r r') (h : X.PL a a') :
    X.PL (⟨k, v, r⟩ :: a) (⟨k, v, r'⟩ :: a') := ⟨h.1.cons k v r r', fun hx => by rw [hr hx, h.2 hx]⟩

theorem PLL.cons {x x' : List PendingEntry} {a a' : List (List PendingEntry)} (h1 : X.PL x x') (h2 : X.PLL a a') :
    X.PLL (x :: a) (x' :: a') := ⟨.cons h1.1 h2.1, fun hx => by rw [h1.2 hx, h2.2 hx]⟩

theorem PLL.append {a b a' b' : List (List PendingEntry)} (h1 : X.PLL a a') (h2 : X.PLL b b') :
    X.PLL (a ++ b) (a' ++ b') := ⟨h1.1.append h2.1, fun hx => by rw [h1.2 hx, h2.2 hx]⟩

theorem PLL.foldl_pre {a a' : List (List PendingEntry)} (h : X.PLL a a') {i i' : List PendingEntry} (hi : X.PL i i') :
    X.PL (a.foldl (fun acc b => b ++ acc) i) (a'.foldl (fun acc b => b ++ acc) i') :=
  ⟨h.1.foldl_pre hi.1, fun hx => by rw [h.2 hx, hi.2 hx]⟩

theorem PLL.foldl_post {a a' : List (List PendingEntry)} (h : X.PLL a a') {i i' : List PendingEntry} (hi : X.PL i i') :
    X.PL (a.foldl (fun acc b => acc ++ b) i) (a'.foldl (fun acc b => acc ++ b) i') :=
  ⟨h.1.foldl_post hi.1, fun hx => by rw [h.2 hx, hi.2 hx]⟩

theorem PL.isEmpty {a b : List PendingEntry} (h : X.PL a b) : a.isEmpty = b.isEmpty := h.1.isEmpty
theorem PLL.isEmpty {a b : List (List PendingEntry)} (h : X.PLL a b) : a.isEmpty = b.isEmpty := h.1.isEmpty
theorem PL.nil_left {b : List PendingEntry} (h : X.PL [] b) : b = [] := h.1.nil_left

theorem PL.cons_left {e : PendingEntry} {a b : List PendingEntry} (h : X.PL (e :: a) b) :
    ∃ r' b', b = ⟨e.key, e.value, r'⟩ :: b' ∧ X.Q e.ref r' ∧ X.PL a b' := by
  obtain ⟨r', b', rfl, hb⟩ := h.1.cons_left
  exact ⟨r', b', rfl, fun hx => by have := h.2 hx; simp only [List.cons.injEq] at this; rw [this.1],
    hb, fun hx => by have := h.2 hx; simp only [List.cons.injEq] at this; exact this.2⟩

end GSim

/-- no frame: two cursors that serve the same events — and are the same, if the comparison is exact (`ex`; that is how
calls on private replay buffers are compared in an exact comparison) -/
@[reducible] def GSim.sim (ex : Prop) : GSim where
  S := fun c c' => CurSim.Sim c c' ∧ (ex → c' = c)
  Se := fun _ _ => True
  ex := ex
  Br := fun _ _ => False
  on := False
  buf := []
  ref := none
  se := fun _ => trivial
  obs := fun hx _ _ h => by rw [h.2 hx]; exact ⟨rfl, rfl, rfl⟩
  br_attach := fun _ _ h => h
  rep := fun h => h.elim
  bal0 := fun h => h.elim
  floor := fun h => h.elim
  peek := fun {c c'} h _ => by
    obtain ⟨o, d, d', e1, e2, hs⟩ := h.1.peek
    rw [e1, e2]
    exact .ok rfl (fun _ => rfl) ⟨hs, fun hx => by have := h.2 hx; subst this; rw [e1] at e2; cases e2; rfl⟩
  next := fun {c c'} h _ => by
    obtain ⟨o, d, d', e1, e2, hs⟩ := h.1.next
    rw [e1, e2]
    exact .ok rfl (fun _ => rfl) ⟨hs, fun hx => by have := h.2 hx; subst this; rw [e1] at e2; cases e2; rfl⟩

theorem GSim.sim_at {c c' : Cur} (h : CurSim.Sim c c') (k : Int) : (GSim.sim False).At k c c' :=
  ⟨⟨h, fun h => h.elim⟩, fun h => h.elim⟩

theorem Qx.false {α : Type} {a b : α} : Qx False a b := fun h => h.elim
theorem Relx.false {α : Type} {rel : α → α → Prop} {a b : α} (h : rel a b) : Relx False rel a b := ⟨h, Qx.false⟩

/-- two replay cursors over the same private buffer (a recorded key or value, the payload of a tagged variant) -/
theorem GSim.sim_replay {ex : Prop} (buf : List Ev) (idx : Nat) {ref ref' : Option Loc} (h : Qx ex ref ref') :
    (GSim.sim ex).At 0 (.replay buf idx ref) (.replay buf idx ref') :=
  ⟨⟨CurSim.Sim.replay buf idx ref ref', fun hx => by rw [h hx]⟩, fun h => h.elim⟩

theorem RG.toRV {α : Type} {rel : α → α → Prop} {x x' : R α} (h : RG (GSim.sim False) rel x x') :
    CurSim.RV rel x x' := by
  cases h with
  | ok hr _ hs => exact .ok hr hs.1
  | err => exact .err
  | brk hb => exact hb.elim

theorem EG.toEV {α : Type} {rel : α → α → Prop} {x x' : Except DErr α} (h : EG (GSim.sim False) rel x x') :
    CurSim.EV rel x x' := by
  cases h with
  | ok hr => exact .ok hr.1
  | err => exact .err

/-- the frame `K` (if it is well-formed: otherwise nothing is related): the replay cursor over the events of one document, and
a cursor that serves them, then whatever -/
def GSim.frame (K : Frame.Ctx) : GSim where
  S := Frame.FSim K
  Se := Frame.FSim K
  ex := False
  Br := fun _ _ => False
  on := K.Ok
  buf := K.buf
  ref := K.ref
  se := fun h => h
  obs := fun h => h.elim
  br_attach := fun _ _ h => h
  rep := fun _ _ _ h => h.eq
  bal0 := fun hK => hK.bal0
  floor := fun hK => hK.floor
  peek := fun {c c'} h hin => by
    obtain ⟨e, d', -, h1, h2, hs⟩ := h.peek (hin h.ok)
    rw [h1, h2]
    exact .ok rfl (fun _ => rfl) hs
  next := fun {c c'} h hin => by
    obtain ⟨e, d, d', -, h1, h2, hs, -, -⟩ := h.next (hin h.ok)
    rw [h1, h2]
    exact .ok rfl (fun _ => rfl) hs

theorem GSim.frame_at {K : Frame.Ctx} {c c' : Cur} (h : Frame.FSim K c c') :
    (GSim.frame K).At (Frame.dep K c) c c' := ⟨h, fun _ => Int.le_refl _⟩

theorem RG.toRF {K : Frame.Ctx} {α : Type} {rel : α → α → Prop} {x x' : R α}
    (h : RG (GSim.frame K) rel x x') : Frame.RF K rel x x' := by
  cases h with
  | ok hr _ hs => exact .ok hr hs
  | err _ hs => exact .err hs
  | brk hb => exact hb.elim

end SaphyrVerif.Lemmas
