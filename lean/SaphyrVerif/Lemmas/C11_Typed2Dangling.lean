import SaphyrVerif.Lemmas.C11_Typed2FailDoc
/-!
Typed multi-document theorems (C11): EVERY document that has no expansion from the empty
anchor table — an alias to an anchor that is not defined in this document (at the root or nested anywhere), a
recursive reference — makes the pump without an enforcer fail INSIDE the document (`failRun_of_no_expansion`),
whatever the alias limits are.  The node lemma of C02 (`pump_node`) says that the run stops with an error; that
no call of that run reads beyond the items of the document is shown with a sentinel: in front of a scan-error
item every call that does not report THAT error has left the item unread.
-/
namespace SaphyrVerif.Lemmas.C11B
open SaphyrVerif SaphyrVerif.Scalars SaphyrVerif.Pump SaphyrVerif.De SaphyrVerif.Spec SaphyrVerif.Budget
open SaphyrVerif.Lemmas.C02 (Steps Stops)
open SaphyrVerif.Lemmas.C11 (Boundary)

abbrev sentinel (l0 : Loc) : RawItem := .err false l0

theorem loop_sentinel (l0 : Loc) {p : Pump} {inp : List RawItem} {s : Step} {p' : Pump} {rest : List RawItem}
    (h : Loop p inp s p' rest) :
    ∀ A : List RawItem, inp = A ++ [sentinel l0] → p.stopAtDocEnd = false →
      s = .error (.scan l0) ∨ ∃ A', rest = A' ++ [sentinel l0] := by
  -- an item that answers: it is the sentinel itself, or the sentinel is still unread
  have answered : ∀ {it : RawItem} {rest A : List RawItem}, it :: rest = A ++ [sentinel l0] →
      it = sentinel l0 ∨ ∃ A', rest = A' ++ [sentinel l0] := by
    intro it rest A h1
    cases A with
    | nil => exact .inl (List.cons.inj h1).1
    | cons a A0 => exact .inr ⟨A0, (List.cons.inj h1).2⟩
  induction h with
  | null | eof => exact fun A h1 _ => absurd (List.append_eq_nil_iff.mp h1.symm).2 (List.cons_ne_nil _ _)
  | scan p ua loc rest =>
    intro A h1 _
    refine (answered h1).imp_left fun h => ?_
    cases h
    rfl
  | breach p raw loc rest b hb => exact fun A h1 _ => (answered h1).resolve_left RawItem.noConfusion |> .inr
  | ret rest hb hi => exact fun A h1 _ => (answered h1).resolve_left RawItem.noConfusion |> .inr
  | stop rest hb hi =>
    intro A _ hs
    cases hi with
    | docEndStop h => exact absurd (h.symm.trans hs) Bool.noConfusion
  | pass hb hi _ ih =>
    intro A h1 hs
    obtain ⟨A0, h2⟩ := (answered h1).resolve_left RawItem.noConfusion
    exact ih A0 h2 ((congrArg (·.2.2.2) hi.frame).trans hs)

theorem nextImpl_sentinel (l0 : Loc) (A : List RawItem) (p : Pump) (s : Step) (p' : Pump) (rest : List RawItem)
    (hs : p.stopAtDocEnd = false) (h : nextImpl p (A ++ [sentinel l0]) = (s, p', rest)) :
    s = .error (.scan l0) ∨ ∃ A', rest = A' ++ [sentinel l0] := by
  generalize hi : A ++ [sentinel l0] = inp at h
  cases call_of h with
  | served hsv => exact .inr ⟨A, hi.symm⟩
  | loop hsp hl => exact loop_sentinel l0 hl A hi.symm hs

theorem failRun_of_stops (l0 : Loc) {p : Pump} {inp : List RawItem} {es : List Ev} {p1 : Pump} {inp1 : List RawItem}
    (hsteps : Steps p inp es p1 inp1) :
    ∀ (A : List RawItem), inp = A ++ [sentinel l0] → p.stopAtDocEnd = false →
      ∀ (err : PErr) (p' : Pump) (inp2 : List RawItem), nextImpl p1 inp1 = (.error err, p', inp2) → err ≠ .scan l0 →
      FailRun [sentinel l0] p (A ++ [sentinel l0]) es := by
  induction hsteps with
  | refl p inp =>
    intro A hin hs err p' inp2 hn hne
    subst hin
    rcases nextImpl_sentinel l0 A p _ p' inp2 hs hn with h | ⟨A', rfl⟩
    · simp only [Step.error.injEq] at h
      exact absurd h hne
    · exact FailRun.err hn
  | @cons p inp e p1 inp1 es p2 inp2 hn _ ih =>
    intro A hin hs err p' inp3 hn2 hne
    subst hin
    rcases nextImpl_sentinel l0 A p _ p1 inp1 hs hn with h | ⟨A', rfl⟩
    · cases h
    · exact FailRun.ev hn (ih A' rfl ((nextImpl_sade_eq hn).trans hs) err p' inp3 hn2 hne)

theorem failRun_of_no_expansion (L : AliasLimits) (t : LNode) (ls : Loc) (e : ExpErr)
    (hexp : expand [] [] t = .error e) :
    ∃ es, FailRun [.ev .docEnd 0] (canonStart L none ls) (itemsOf t ++ [.ev .docEnd 0]) es := by
  have hb : Boundary L (canonStart L none ls) := ⟨rfl, rfl, rfl, rfl, rfl, rfl, rfl, rfl, rfl⟩
  have hnode := Lemmas.C02.pump_node t (canonStart L none ls) hb.good [sentinel 0]
  rw [hb.anc, hb.rs] at hnode
  change Lemmas.C02.Outcome _ _ _ _ _ (expand [] [] t) at hnode
  rw [hexp] at hnode
  have hstops : ∃ es err p', Stops (canonStart L none ls) (itemsOf t ++ [sentinel 0]) es err p' ∧ err ≠ .scan 0 := by
    rcases hnode with ⟨es, p', hs⟩ | ⟨es, err, p', hs, hlim, -, -⟩ | ⟨-, es, l, p', hs⟩
    · refine ⟨es, _, p', hs, ?_⟩
      cases e <;> simp [Lemmas.C02.errOf]
    · refine ⟨es, err, p', hs, ?_⟩
      intro h
      subst h
      simp [Lemmas.C02.isLimit] at hlim
    · exact ⟨es, _, p', hs, by simp⟩
  obtain ⟨es, err, p', ⟨p1, inp1, inp2, hsteps, hn⟩, hne⟩ := hstops
  have hfr := failRun_of_stops 0 hsteps (itemsOf t) rfl rfl err p' inp2 hn hne
  exact ⟨es, failRun_twin (by simp) rfl hfr false false⟩

end SaphyrVerif.Lemmas.C11B
