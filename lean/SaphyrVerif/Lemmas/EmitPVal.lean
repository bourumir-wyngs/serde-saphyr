import SaphyrVerif.Spec.EmitReader
/-! `PVal.beq` decides equality: a `DecidableEq PVal` instance, so that concrete reader results can be
checked by kernel evaluation (`decide +kernel`). -/
namespace SaphyrVerif.Emit

mutual
theorem PVal.beq_iff : ∀ (a b : PVal), PVal.beq a b = true ↔ a = b
  | .null, b => by cases b <;> simp [PVal.beq]
  | .bool x, b => by cases b <;> simp [PVal.beq]
  | .int x, b => by cases b <;> simp [PVal.beq]
  | .str x, b => by cases b <;> simp [PVal.beq]
  | .seq xs, b => by
    cases b <;> simp only [PVal.beq, Bool.false_eq_true, reduceCtorEq]
    rename_i ys
    rw [PVal.beqList_iff xs ys]
    simp
  | .map xs, b => by
    cases b <;> simp only [PVal.beq, Bool.false_eq_true, reduceCtorEq]
    rename_i ys
    rw [PVal.beqEntries_iff xs ys]
    simp
theorem PVal.beqList_iff : ∀ (a b : List PVal), PVal.beqList a b = true ↔ a = b
  | [], b => by cases b <;> simp [PVal.beqList]
  | x :: xs, b => by
    cases b with
    | nil => simp [PVal.beqList]
    | cons y ys => simp [PVal.beqList, PVal.beq_iff x y, PVal.beqList_iff xs ys]
theorem PVal.beqEntries_iff : ∀ (a b : List (PVal × PVal)), PVal.beqEntries a b = true ↔ a = b
  | [], b => by cases b <;> simp [PVal.beqEntries]
  | (k, v) :: xs, b => by
    cases b with
    | nil => simp [PVal.beqEntries]
    | cons y ys =>
      obtain ⟨k', v'⟩ := y
      simp [PVal.beqEntries, PVal.beq_iff k k', PVal.beq_iff v v', PVal.beqEntries_iff xs ys, and_assoc]
end

instance : DecidableEq PVal := fun a b => decidable_of_iff _ (PVal.beq_iff a b)

end SaphyrVerif.Emit
