import SaphyrVerif.Lemmas.C05_Scalars
/-!
The nesting-depth invariant of the deserializer on a replay cursor (`Stays`: same buffer, index not smaller, depth never more
than `k` below the start) with its algebra, the `weak_*` tactics that take a result equation apart, and the invariant for the
functions outside the mutual block (used by `C05_Weak3`, `C05_Weak4`): the scalar-level ones take one scalar event (read off their
equations in `Lemmas/C05_Scalars.lean`), `byteSeqVisit` and `structFinish` none.
-/
namespace SaphyrVerif.Lemmas.C05
open SaphyrVerif SaphyrVerif.Scalars SaphyrVerif.Pump SaphyrVerif.De SaphyrVerif.Spec

theorem peek_replay (buf : List Ev) (i : Nat) (ref : Option Loc) :
    Cur.peek (.replay buf i ref) = .ok buf[i]? (.replay buf i ref) := rfl

theorem drop_of_getElem? {buf : List Ev} {i : Nat} {e : Ev} (h : buf[i]? = some e) :
    buf.drop i = e :: buf.drop (i + 1) := by
  obtain ⟨hlt, he⟩ := List.getElem?_eq_some_iff.mp h
  rw [List.drop_eq_getElem_cons hlt, he]

theorem depthAt_succ' {buf : List Ev} {i : Nat} {e : Ev} (h : buf[i]? = some e) :
    depthAt buf (i + 1) = depthAt buf i + Ev.delta e :=
  depthAt_succ (drop_of_getElem? h)

theorem Above.step' {buf : List Ev} {i : Nat} {e : Ev} {d : Int} (h : buf[i]? = some e)
    (h0 : d ≤ depthAt buf i) (h1 : d ≤ depthAt buf i + Ev.delta e) : Above buf i (i + 1) d :=
  Above.step (drop_of_getElem? h) h0 h1

def Stays (buf : List Ev) (ref : Option Loc) (i : Nat) (k : Int) (c' : Cur) : Prop :=
  ∃ j, c' = .replay buf j ref ∧ i ≤ j ∧ Above buf i j (depthAt buf i - k)

theorem Stays.nonneg {buf : List Ev} {ref : Option Loc} {i : Nat} {k : Int} {c' : Cur}
    (h : Stays buf ref i k c') : 0 ≤ k := by
  obtain ⟨j, -, hij, ha⟩ := h
  have := ha.left hij
  omega

theorem Stays.refl {buf : List Ev} {ref : Option Loc} {i : Nat} {k : Int} (hk : 0 ≤ k) :
    Stays buf ref i k (.replay buf i ref) :=
  ⟨i, rfl, Nat.le_refl _, Above.refl (by omega)⟩

theorem Stays.mono {buf : List Ev} {ref : Option Loc} {i : Nat} {k k' : Int} {c' : Cur}
    (h : Stays buf ref i k c') (hk : k ≤ k') : Stays buf ref i k' c' := by
  obtain ⟨j, hc, hij, ha⟩ := h
  exact ⟨j, hc, hij, ha.mono (by omega)⟩

/-- additive chaining -/
theorem Stays.trans {buf : List Ev} {ref : Option Loc} {i : Nat} {k k' k'' : Int} {c₁ c₂ : Cur}
    (h1 : Stays buf ref i k c₁) (h2 : ∀ j, c₁ = .replay buf j ref → Stays buf ref j k' c₂)
    (hk : k + k' ≤ k'') : Stays buf ref i k'' c₂ := by
  obtain ⟨j, hc, hij, ha⟩ := h1
  obtain ⟨j', hc', hjj', ha'⟩ := h2 j hc
  have hr := ha.right hij
  have hl := ha'.left hjj'
  exact ⟨j', hc', by omega, (ha.mono (by omega)).trans (ha'.mono (by omega))⟩

theorem Stays.step {buf : List Ev} {ref : Option Loc} {i : Nat} {k k' : Int} {c' : Cur} {e : Ev}
    (he : buf[i]? = some e) (h : Stays buf ref (i + 1) k' c') (hk : k' - Ev.delta e ≤ k) (hk0 : 0 ≤ k) :
    Stays buf ref i k c' := by
  obtain ⟨j, hc, hij, ha⟩ := h
  have hd := depthAt_succ' he
  have hl := ha.left hij
  refine ⟨j, hc, by omega, ?_⟩
  exact (Above.step' he (by omega) (by omega)).trans (ha.mono (by omega))

theorem Stays.one {buf : List Ev} {ref : Option Loc} {i : Nat} {k : Int} {e : Ev}
    (he : buf[i]? = some e) (hk : - Ev.delta e ≤ k) (hk0 : 0 ≤ k) :
    Stays buf ref i k (.replay buf (i + 1) ref) :=
  Stays.step he (Stays.refl (k := 0) (Int.le_refl _)) (by omega) hk0

/-- the two branches of a conditional (as a rewrite rule: much cheaper than `split at`) -/
theorem ite_eq_or {α : Type} {p : Prop} [Decidable p] {a b r : α} :
    ((if p then a else b) = r) = ((p ∧ a = r) ∨ (¬ p ∧ b = r)) := by
  by_cases hp : p <;> simp [hp]

set_option hygiene false in
/-- The `weak_*` tactics are unhygienic on purpose: they work on the hypothesis named `h` (the equation
`f … (.replay buf i ref) … = .ok _ c'` being analysed), read the names `buf`, `i`, `ref` of its cursor, and leave
their findings under the names `hb` (`weak_ev`: the event under the cursor, `hb : buf[i]? = …`) and `hc` (`weak_if`).

`weak_ev`: case split on the event under the cursor and reduce `peek`/`next` in `h` -/
macro "weak_ev" : tactic => `(tactic|
  (rcases hb : buf[i]? with _ | (_ | _ | _ | _ | _) <;>
   first
   | simp only [peek_replay, Cursor.next_replay_of_getElem?_none ref hb, hb] at h
   | simp only [peek_replay, Cursor.next_replay_of_getElem? ref hb, hb] at h
   | skip))

set_option hygiene false in
/-- close a leaf: `h` is an impossible equation, or says that the cursor is unmoved or moved by the one event `hb` -/
macro "weak_leaf" : tactic => `(tactic|
  first
  | contradiction
  | (cases h
     first
     | exact Stays.refl (by omega)
     | exact Stays.one hb (by simp [Ev.delta]) (by omega)))

set_option hygiene false in
/-- the two branches of a conditional in `h`; `hc` is the condition resp. its negation -/
macro "weak_if" : tactic => `(tactic| (rw [ite_eq_or] at h; rcases h with ⟨hc, h⟩ | ⟨hc, h⟩))

set_option hygiene false in
/-- take `h` apart along its conditionals and matches, closing every leaf that `weak_leaf` closes -/
macro "weak_splits" : tactic =>
  `(tactic| repeat' (first | weak_leaf | weak_if | split at h))

variable {cfg : Cfg} {buf : List Ev} {i : Nat} {ref : Option Loc} {c' : Cur}

theorem Stays.of_expect {α : Type} {x : R α} {exp : Option α} {a : α} {e : Ev} (hb : buf[i]? = some e)
    (he : Ev.delta e = 0) (hx : Expect x exp (.replay buf (i + 1) ref)) (h : x = .ok a c') : Stays buf ref i 0 c' := by
  subst h
  cases exp with
  | none => exact absurd hx (not_isErr_ok _ _)
  | some b => cases hx; exact Stays.one hb (by omega) (Int.le_refl 0)

/-- The scalar-level functions are known exactly on a replay cursor (`Lemmas/C05_Scalars.lean`: behind a scalar event the
value of the specification or an error, an error in front of anything else); a success has therefore taken one scalar. -/
theorem Stays.of_scalar {α : Type} {x : R α} {a : α}
    (hs : ∀ {v tag rt st an l tl}, buf.drop i = Ev.scalar v tag rt st an l :: tl →
      ∃ exp, Expect x exp (.replay buf (i + 1) ref))
    (ho : ∀ {e tl}, buf.drop i = e :: tl → Ev.isScalar e = false → IsErr x)
    (hn : buf.drop i = [] → IsErr x) (h : x = .ok a c') : Stays buf ref i 0 c' := by
  cases hd : buf.drop i with
  | nil => exact absurd (h ▸ hn hd) (not_isErr_ok _ _)
  | cons e tl =>
    cases e with
    | scalar =>
      obtain ⟨exp, hx⟩ := hs hd
      exact Stays.of_expect (Cursor.getElem?_of_drop_eq_cons hd) rfl hx h
    | _ => exact absurd (h ▸ ho hd rfl) (not_isErr_ok _ _)

theorem takeStringScalar_weak {s : List Char}
    (h : takeStringScalar cfg (.replay buf i ref) = .ok s c') : Stays buf ref i 0 c' :=
  Stays.of_scalar (fun hd => ⟨_, takeStringScalar_scalar ref cfg hd⟩) (takeStringScalar_other ref cfg)
    (takeStringScalar_nil ref cfg) h

theorem deserString_weak {v : Val}
    (h : deserString cfg (.replay buf i ref) = .ok v c') : Stays buf ref i 0 c' :=
  Stays.of_scalar (fun hd => ⟨_, deserString_scalar ref cfg hd⟩) (deserString_other ref cfg) (deserString_nil ref cfg) h

theorem deserStr_weak {s : List Char}
    (h : deserStr cfg (.replay buf i ref) = .ok s c') : Stays buf ref i 0 c' :=
  Stays.of_scalar (fun hd => ⟨_, deserStr_scalar ref cfg hd⟩) (deserStr_other ref cfg)
    (fun hd => by simp [deserStr, Cursor.peek_replay_of_drop_nil ref hd]) h

theorem deserScalarTyped_weak {v : Val} {ty : Ty}
    (h : deserScalarTyped cfg ty (.replay buf i ref) = .ok v c') : Stays buf ref i 0 c' :=
  Stays.of_scalar (fun hd => ⟨_, deserScalarTyped_scalar ref cfg ty hd⟩) (deserScalarTyped_other ref cfg ty)
    (deserScalarTyped_nil ref cfg ty) h

theorem deserAnyScalar_weak {v : Val} {s : List Char} {tag : Nat} {rt : Option (List Char)} {st : Style} {a : Nat}
    {l : Loc} (hb : buf[i]? = some (.scalar s tag rt st a l))
    (h : deserAnyScalar cfg (.replay buf i ref) s tag st l = .ok v c') : Stays buf ref i 0 c' :=
  Stays.of_expect hb rfl (deserAnyScalar_scalar ref cfg (drop_of_getElem? hb)) h

theorem byteSeqVisit_weak {c : Cur} {v : Val} {shape : Ty ⊕ List Ty} {data : List Nat}
    (h : byteSeqVisit shape data c = .ok v c') : c' = c := by
  unfold byteSeqVisit at h
  dsimp only at h
  repeat' (first | contradiction | (cases h; rfl) | split at h)

theorem structFinish_weak {c : Cur} {v : Val} {fields : List (String × Ty)} {got : List (String × Val)}
    (h : structFinish fields got c = .ok v c') : c' = c := by
  unfold structFinish at h
  repeat' (first | contradiction | (cases h; rfl) | split at h)

end SaphyrVerif.Lemmas.C05
