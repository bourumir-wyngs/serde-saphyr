import SaphyrVerif.Spec.Anchors
/-!
Helper lemmas for C14, serializer side: the finished runs of `serVal` as a relation (`Ser`, got from the
function by the one walk `serVal_ser`) and what holds after a run, each by induction over it — no anchor is
left pending, the pointer table only holds ids `1 … next-1` and every emitted id is in that range, and —
when every payload takes its anchor — the document is well scoped.  Failing runs: no mutex is locked twice.
-/
namespace SaphyrVerif.Lemmas.C14
open SaphyrVerif.Anchors SaphyrVerif.Spec.Anchors

def TableOK' (a : List (Ptr × Nat)) (n : Nat) : Prop := ∀ p id, (p, id) ∈ a → 1 ≤ id ∧ id < n
def TableOK (s : SerSt) : Prop := TableOK' s.anchors s.next

def TableInj' (a : List (Ptr × Nat)) : Prop :=
  ∀ p q id, a.lookup p = some id → a.lookup q = some id → p = q
def TableInj (s : SerSt) : Prop := TableInj' s.anchors

theorem lookup_cons_ne {α β : Type} [BEq α] [LawfulBEq α] {k k' : α} {b : β} {l : List (α × β)} (h : k' ≠ k) :
    List.lookup k' ((k, b) :: l) = List.lookup k' l := by
  have : (k' == k) = false := by simpa using h
  simp [List.lookup, this]

theorem lookup_mem {α β : Type} [BEq α] [LawfulBEq α] {l : List (α × β)} {k : α} {b : β}
    (h : l.lookup k = some b) : (k, b) ∈ l := by
  obtain ⟨l₁, l₂, rfl, _⟩ := List.lookup_eq_some_iff.mp h
  simp

theorem lookup_filter_ne {id i : Nat} (hi : i ≠ id) : ∀ (a : List (Ptr × Nat)) (q : Ptr), a.lookup q = some i →
    (a.filter (fun e => e.2 != id)).lookup q = some i
  | [], q, h => by simp [List.lookup] at h
  | (r, j) :: t, q, h => by
    by_cases hq : q = r
    · subst hq
      rw [List.lookup_cons_self] at h
      cases h
      have : ((i != id) = true) := by simpa using hi
      simp only [List.filter, this]
      exact List.lookup_cons_self
    · rw [lookup_cons_ne hq] at h
      simp only [List.filter]
      split
      · rw [lookup_cons_ne hq]
        exact lookup_filter_ne hi t q h
      · exact lookup_filter_ne hi t q h

/-- keys with equal `g`-values are equal: this survives a new entry whose `g`-value is not in the list -/
theorem lookup_inj_cons {α β γ : Type} [BEq α] [LawfulBEq α] (g : β → γ) {l : List (α × β)} {k : α} {b : β}
    (hinj : ∀ k1 k2 v1 v2, l.lookup k1 = some v1 → l.lookup k2 = some v2 → g v1 = g v2 → k1 = k2)
    (hnew : ∀ k' v, l.lookup k' = some v → g v ≠ g b) (k1 k2 : α) (v1 v2 : β)
    (h1 : List.lookup k1 ((k, b) :: l) = some v1) (h2 : List.lookup k2 ((k, b) :: l) = some v2)
    (e : g v1 = g v2) : k1 = k2 := by
  by_cases e1 : k1 = k
  · by_cases e2 : k2 = k
    · rw [e1, e2]
    · subst e1
      rw [List.lookup_cons_self] at h1
      rw [lookup_cons_ne e2] at h2
      cases h1
      exact absurd e.symm (hnew k2 v2 h2)
  · rw [lookup_cons_ne e1] at h1
    by_cases e2 : k2 = k
    · subst e2
      rw [List.lookup_cons_self] at h2
      cases h2
      exact absurd e (hnew k1 v1 h1)
    · rw [lookup_cons_ne e2] at h2
      exact hinj k1 k2 v1 v2 h1 h2 e

theorem tableOK_lookup {a : List (Ptr × Nat)} {n : Nat} (h : TableOK' a n) {p : Ptr} {id : Nat}
    (hl : a.lookup p = some id) : 1 ≤ id ∧ id < n := h p id (lookup_mem hl)

theorem tableOK_filter (a : List (Ptr × Nat)) (n : Nat) (f : Ptr × Nat → Bool) (h : TableOK' a n) :
    TableOK' (a.filter f) n := fun p id hm => h p id (List.mem_filter.mp hm).1

theorem tableOK_cons {a : List (Ptr × Nat)} {n m : Nat} (p : Ptr) {id : Nat} (h : TableOK' a n) (hn : n ≤ m)
    (h1 : 1 ≤ id) (h2 : id < m) : TableOK' ((p, id) :: a) m := by
  intro q id' hq
  simp only [List.mem_cons, Prod.mk.injEq] at hq
  rcases hq with ⟨_, rfl⟩ | hq
  · exact ⟨h1, h2⟩
  · exact ⟨(h q id' hq).1, Nat.lt_of_lt_of_le (h q id' hq).2 hn⟩

theorem tableInj_alloc (a : List (Ptr × Nat)) (n : Nat) (p : Ptr) (h : TableInj' a) (hok : TableOK' a n) :
    TableInj' ((p, n) :: a) := fun p1 p2 id h1 h2 =>
  lookup_inj_cons (fun n => n) (fun k1 k2 v1 _ a1 a2 e => h k1 k2 v1 a1 (e ▸ a2))
    (fun _ _ hl => Nat.ne_of_lt (tableOK_lookup hok hl).2) p1 p2 id id h1 h2 rfl

theorem markBelow_mono {n m a : Nat} (h : n ≤ m) (ha : (a = 0 || (1 ≤ a && a < n)) = true) :
    (a = 0 || (1 ≤ a && a < m)) = true := by
  simp only [Bool.or_eq_true, Bool.and_eq_true, decide_eq_true_eq] at ha ⊢
  rcases ha with h0 | ⟨h1, h2⟩
  · exact Or.inl h0
  · exact Or.inr ⟨h1, Nat.lt_of_lt_of_le h2 h⟩

mutual
theorem idsBelow_mono (n m : Nat) (h : n ≤ m) : ∀ o : Out, idsBelow n o = true → idsBelow m o = true
  | .leaf a k => by
    simp only [idsBelow]
    exact markBelow_mono h
  | .alias id => by
    simp only [idsBelow, Bool.and_eq_true, decide_eq_true_eq]
    intro ⟨h1, h2⟩
    exact ⟨h1, Nat.lt_of_lt_of_le h2 h⟩
  | .node a isMap items => by
    simp only [idsBelow, Bool.and_eq_true]
    intro ⟨h1, h2⟩
    exact ⟨markBelow_mono h h1, idsBelowList_mono n m h items h2⟩
theorem idsBelowList_mono (n m : Nat) (h : n ≤ m) :
    ∀ os : List Out, idsBelowList n os = true → idsBelowList m os = true
  | [] => by simp [idsBelowList]
  | x :: xs => by
    simp only [idsBelowList, Bool.and_eq_true]
    intro ⟨h1, h2⟩
    exact ⟨idsBelow_mono n m h x h1, idsBelowList_mono n m h xs h2⟩
end

variable {rec : SerSt → Val → Except SerErr (Out × SerSt)} {H : Heap} {s s' : SerSt} {k : Kind} {p : Ptr}
  {payload : Val} {o : Out}

theorem alloc_known {id : Nat} (h : s.anchors.lookup p = some id) :
    allocAnchorFor s p = if s.pending = none then .ok (id, false, s) else .error .aliasNeedsAnchor := by
  unfold allocAnchorFor
  cases s.pending <;> simp [h]

theorem alloc_new (h : s.anchors.lookup p = none) :
    allocAnchorFor s p = .ok (match s.pending with
      | none => (s.next, true, { s with anchors := (p, s.next) :: s.anchors, next := s.next + 1 })
      | some outer => (outer, true, { s with anchors := (p, outer) :: s.anchors })) := by
  unfold allocAnchorFor
  cases s.pending <;> simp [h]

/-- the state in which the payload of a newly registered pointer is written: its anchor is pending -/
def regSt (s : SerSt) (k : Kind) (p : Ptr) : SerSt :=
  match s.pending with
  | none => ⟨(p, s.next) :: s.anchors, s.next + 1, some s.next, lockCell k p s.held⟩
  | some outer => ⟨(p, outer) :: s.anchors, s.next, some outer, lockCell k p s.held⟩

theorem regSt_none (k : Kind) (p : Ptr) (h : s.pending = none) :
    regSt s k p = ⟨(p, s.next) :: s.anchors, s.next + 1, some s.next, lockCell k p s.held⟩ := by
  simp [regSt, h]

theorem regSt_next_le (s : SerSt) (k : Kind) (p : Ptr) : s.next ≤ (regSt s k p).next := by
  unfold regSt
  split
  · exact Nat.le_succ _
  · exact Nat.le_refl _

theorem regSt_held (s : SerSt) (k : Kind) (p : Ptr) : (regSt s k p).held = lockCell k p s.held := by
  unfold regSt
  split <;> rfl

theorem regSt_lookup_self (s : SerSt) (k : Kind) (p : Ptr) : (regSt s k p).anchors.lookup p ≠ none := by
  unfold regSt
  split <;> simp

theorem regSt_lookup_ne (s : SerSt) (k : Kind) {p q : Ptr} (h : q ≠ p) :
    (regSt s k p).anchors.lookup q = s.anchors.lookup q := by
  unfold regSt
  split <;> exact lookup_cons_ne h

theorem serPtr_known {id : Nat} (h : s.anchors.lookup p = some id) :
    serPtr rec s k p payload = if s.pending = none then .ok (.alias id, s) else .error .aliasNeedsAnchor := by
  unfold serPtr
  rw [alloc_known h]
  by_cases hp : s.pending = none
  · simp only [if_pos hp]
  · simp only [if_neg hp]

theorem serPtr_new (h : s.anchors.lookup p = none) :
    serPtr rec s k p payload =
      if k == .arcRec && s.held.contains p then .error .deadlock
      else match rec (regSt s k p) payload with
        | .error e => .error e
        | .ok (o, s2) => .ok (o, { s2 with held := s.held }) := by
  unfold serPtr regSt
  rw [alloc_new h]
  cases s.pending <;> rfl

theorem serPtr_ok :
    serPtr rec s k p payload = .ok (o, s') ↔
      (s.pending = none ∧ ∃ id, s.anchors.lookup p = some id ∧ o = .alias id ∧ s' = s) ∨
      (s.anchors.lookup p = none ∧ (k == .arcRec && s.held.contains p) = false ∧
        ∃ s2, rec (regSt s k p) payload = .ok (o, s2) ∧ s' = { s2 with held := s.held }) := by
  cases hl : s.anchors.lookup p with
  | some id =>
    rw [serPtr_known hl]
    constructor
    · intro h
      split at h
      · rename_i hp
        cases h
        exact Or.inl ⟨hp, id, rfl, rfl, rfl⟩
      · cases h
    · rintro (⟨hp, _, hid, rfl, rfl⟩ | ⟨h, _⟩)
      · cases hid
        rw [if_pos hp]
      · cases h
  | none =>
    rw [serPtr_new hl]
    constructor
    · intro h
      split at h
      · cases h
      · rename_i hk
        split at h
        · cases h
        · rename_i o2 s2 hrec
          cases h
          exact Or.inr ⟨rfl, by simpa using hk, s2, hrec, rfl⟩
    · rintro (⟨_, _, h, _⟩ | ⟨_, hk, s2, hrec, rfl⟩)
      · cases h
      · simp only [hk, Bool.false_eq_true, if_false, hrec]

theorem traverse_nil_ok {σ α β ε : Type} {f : σ → α → Except ε (β × σ)} {s s' : σ} {ys : List β} :
    traverse f s ([] : List α) = .ok (ys, s') ↔ ys = [] ∧ s' = s := by
  simp only [traverse, Except.ok.injEq, Prod.mk.injEq]
  exact ⟨fun h => ⟨h.1.symm, h.2.symm⟩, fun h => ⟨h.1.symm, h.2.symm⟩⟩

theorem traverse_cons_ok {σ α β ε : Type} {f : σ → α → Except ε (β × σ)} {s s' : σ} {x : α} {xs : List α}
    {ys : List β} :
    traverse f s (x :: xs) = .ok (ys, s') ↔
      ∃ y s1 ys', f s x = .ok (y, s1) ∧ traverse f s1 xs = .ok (ys', s') ∧ ys = y :: ys' := by
  simp only [traverse]
  constructor
  · intro h
    split at h
    · cases h
    · rename_i y s1 hx
      split at h
      · cases h
      · rename_i ys' s2 hxs
        cases h
        exact ⟨y, s1, ys', hx, hxs, rfl⟩
  · rintro ⟨y, s1, ys', hx, hxs, rfl⟩
    simp only [hx, hxs]

theorem traverse_cons_error {σ α β ε : Type} {f : σ → α → Except ε (β × σ)} {s : σ} {x : α} {xs : List α}
    {e : ε} (h : traverse f s (x :: xs) = .error e) :
    f s x = .error e ∨ ∃ y s1, f s x = .ok (y, s1) ∧ traverse f s1 xs = .error e := by
  simp only [traverse] at h
  split at h
  · rename_i e1 hx
    cases h
    exact Or.inl hx
  · rename_i y s1 hx
    split at h
    · rename_i e1 hxs
      cases h
      exact Or.inr ⟨y, s1, hx, hxs⟩
    · cases h

theorem traverse_congr_ok {σ α β ε : Type} (f g : σ → α → Except ε (β × σ))
    (h : ∀ s x r, f s x = .ok r → g s x = .ok r) :
    ∀ (xs : List α) (s : σ) (r : List β × σ), traverse f s xs = .ok r → traverse g s xs = .ok r := by
  intro xs
  induction xs with
  | nil => intro s r hr; exact hr
  | cons x xs ihl =>
    intro s r hr
    obtain ⟨ys, s'⟩ := r
    obtain ⟨y, s1, ys', hx, hxs, rfl⟩ := traverse_cons_ok.mp hr
    exact traverse_cons_ok.mpr ⟨y, s1, ys', h _ _ _ hx, ihl _ _ hxs, rfl⟩

theorem serPtr_congr_ok {rec' : SerSt → Val → Except SerErr (Out × SerSt)}
    (h : ∀ s x r, rec s x = .ok r → rec' s x = .ok r) (hr : serPtr rec s k p payload = .ok (o, s')) :
    serPtr rec' s k p payload = .ok (o, s') := by
  rcases serPtr_ok.mp hr with ha | ⟨hl, hk, s2, hrec, rfl⟩
  · exact serPtr_ok.mpr (Or.inl ha)
  · exact serPtr_ok.mpr (Or.inr ⟨hl, hk, s2, h _ _ _ hrec, rfl⟩)

/-- `serVal (fuel + 1)` is one level over `serVal fuel`, and a level only gains from levels below that
finish more often -/
theorem ser_fuel_succ (H : Heap) : ∀ (fuel : Nat) (s : SerSt) (v : Val) (r : Out × SerSt),
    serVal fuel H s v = .ok r → serVal (fuel + 1) H s v = .ok r := by
  intro fuel
  induction fuel with
  | zero => intro s v r h; cases h
  | succ fuel ih =>
    intro s v r h
    obtain ⟨o, s'⟩ := r
    cases v with
    | leaf k => exact h
    | node isMap items =>
      simp only [serVal] at h ⊢
      split at h
      · cases h
      · rename_i outs s2 hl
        rw [traverse_congr_ok _ _ ih _ _ _ hl]
        exact h
    | strong k tid p =>
      simp only [serVal] at h ⊢
      split at h
      · cases h
      · exact serPtr_congr_ok ih h
    | weak k tid p =>
      simp only [serVal] at h ⊢
      split at h
      · exact h
      · exact serPtr_congr_ok ih h

theorem forgetPending_none (s : SerSt) (h : s.pending = none) : forgetPending s = s := by
  simp [forgetPending, h]

theorem forgetPending_pending (s : SerSt) : (forgetPending s).pending = none := by
  unfold forgetPending; split <;> simp_all

theorem forgetPending_next (s : SerSt) : (forgetPending s).next = s.next := by
  unfold forgetPending; split <;> rfl

theorem forgetPending_held (s : SerSt) : (forgetPending s).held = s.held := by
  unfold forgetPending; split <;> rfl

theorem forgetPending_tableOK (s : SerSt) (h : TableOK s) : TableOK (forgetPending s) := by
  unfold forgetPending
  split
  · exact h
  · exact tableOK_filter _ _ _ h

/-! ### finished runs as a relation

`Ser H s v o s'`: the serializer, started in `s` on `v`, finishes with the document `o` in `s'` — without
fuel, and with the pointer arm already split into its two successful outcomes.  `serVal_ser` is the only
walk through `serVal` for finished runs; what holds after a run is proved by induction over `Ser`
(`Ser.rec` with one motive for values and one for item lists: the relation is mutual, so the `induction`
tactic does not apply). -/

/-- `v` is an edge, strong or weak, of the wrapper family `k` to the allocation `p` -/
inductive Edge : Val → Kind → Ptr → Prop
  | strong {k : Kind} {tid : Nat} {p : Ptr} : Edge (.strong k tid p) k p
  | weak {k : Kind} {tid : Nat} {p : Ptr} : Edge (.weak k tid p) k p

theorem Edge.takesRoot {v : Val} {k : Kind} {p : Ptr} (h : Edge v k p) : takesRoot v = false := by
  cases h <;> rfl

theorem Edge.plainV {v : Val} {k : Kind} {p : Ptr} (h : Edge v k p) : plainV v = false := by
  cases h <;> rfl

theorem Edge.inj {v : Val} {k k' : Kind} {p p' : Ptr} (h : Edge v k p) (h' : Edge v k' p') : k = k' ∧ p = p' := by
  cases h <;> cases h' <;> exact ⟨rfl, rfl⟩

mutual
inductive Ser (H : Heap) : SerSt → Val → Out → SerSt → Prop
  | scalar {s : SerSt} {k : LeafKind} : k.takesAnchor = true →
      Ser H s (.leaf k) (.leaf (s.pending.getD 0) k) { s with pending := none }
  | block {s : SerSt} {k : LeafKind} : k.takesAnchor = false → Ser H s (.leaf k) (.leaf 0 k) (forgetPending s)
  | dangling {s : SerSt} {k : Kind} {tid : Nat} {p : Ptr} : H.lookup p = none →
      Ser H s (.weak k tid p) (.leaf (s.pending.getD 0) .null) { s with pending := none }
  | node {s : SerSt} {isMap : Bool} {items : List Val} {outs : List Out} {s' : SerSt} :
      SerL H { s with pending := none } items outs s' →
      Ser H s (.node isMap items) (.node (s.pending.getD 0) isMap outs) s'
  /-- an alias to a pointer of the table (nothing is pending) -/
  | alias {s : SerSt} {v : Val} {k : Kind} {p : Ptr} {payload : Val} {id : Nat} : Edge v k p →
      H.lookup p = some payload → s.pending = none → s.anchors.lookup p = some id → Ser H s v (.alias id) s
  /-- the payload of a new pointer, written under its anchor (`regSt`) -/
  | define {s : SerSt} {v : Val} {k : Kind} {p : Ptr} {payload : Val} {o : Out} {s2 : SerSt} : Edge v k p →
      H.lookup p = some payload → s.anchors.lookup p = none → (k == .arcRec && s.held.contains p) = false →
      Ser H (regSt s k p) payload o s2 → Ser H s v o { s2 with held := s.held }
/-- the items of a container, left to right -/
inductive SerL (H : Heap) : SerSt → List Val → List Out → SerSt → Prop
  | nil {s : SerSt} : SerL H s [] [] s
  | cons {s : SerSt} {x : Val} {xs : List Val} {y : Out} {s1 : SerSt} {ys : List Out} {s' : SerSt} :
      Ser H s x y s1 → SerL H s1 xs ys s' → SerL H s (x :: xs) (y :: ys) s'
end

theorem serL_of_traverse {f : SerSt → Val → Except SerErr (Out × SerSt)}
    (hf : ∀ s v o s', f s v = .ok (o, s') → Ser H s v o s') :
    ∀ (xs : List Val) (s : SerSt) (ys : List Out) (s' : SerSt), traverse f s xs = .ok (ys, s') → SerL H s xs ys s'
  | [], s, ys, s', h => by
    obtain ⟨rfl, rfl⟩ := traverse_nil_ok.mp h
    exact .nil
  | x :: xs, s, ys, s', h => by
    obtain ⟨y, s1, ys', hx, hxs, rfl⟩ := traverse_cons_ok.mp h
    exact .cons (hf _ _ _ _ hx) (serL_of_traverse hf xs s1 ys' s' hxs)

theorem ser_of_serPtr {v : Val} (hf : ∀ s v o s', rec s v = .ok (o, s') → Ser H s v o s') (he : Edge v k p)
    (hc : H.lookup p = some payload) (h : serPtr rec s k p payload = .ok (o, s')) : Ser H s v o s' := by
  rcases serPtr_ok.mp h with ⟨hp, id, hl, rfl, rfl⟩ | ⟨hl, hk, s2, hrec, rfl⟩
  · exact .alias he hc hp hl
  · exact .define he hc hl hk (hf _ _ _ _ hrec)

theorem serVal_ser (H : Heap) : ∀ (fuel : Nat) (s : SerSt) (v : Val) (o : Out) (s' : SerSt),
    serVal fuel H s v = .ok (o, s') → Ser H s v o s' := by
  intro fuel
  induction fuel with
  | zero => intro s v o s' h; cases h
  | succ fuel ih =>
    intro s v o s' h
    cases v with
    | leaf k =>
      simp only [serVal] at h
      split at h
      · rename_i htk
        cases h
        exact .scalar htk
      · rename_i htk
        cases h
        exact .block (by simpa using htk)
    | node isMap items =>
      simp only [serVal] at h
      split at h
      · cases h
      · rename_i outs s2 hl
        cases h
        exact .node (serL_of_traverse ih _ _ _ _ hl)
    | strong k tid p =>
      simp only [serVal] at h
      split at h
      · cases h
      · rename_i payload hc
        exact ser_of_serPtr ih .strong hc h
    | weak k tid p =>
      simp only [serVal] at h
      split at h
      · rename_i hc
        cases h
        exact .dangling hc
      · rename_i payload hc
        exact ser_of_serPtr ih .weak hc h

theorem Ser.node_inv {isMap : Bool} {items : List Val} (h : Ser H s (.node isMap items) o s') :
    ∃ outs, SerL H { s with pending := none } items outs s' ∧ o = .node (s.pending.getD 0) isMap outs := by
  cases h with
  | node hl => exact ⟨_, hl, rfl⟩
  | alias he => cases he
  | define he => cases he

theorem Ser.clear {v : Val} (h : Ser H s v o s') : s'.pending = none := by
  refine Ser.rec (motive_1 := fun _ _ _ s' _ => s'.pending = none)
    (motive_2 := fun s _ _ s' _ => s.pending = none → s'.pending = none)
    ?scalar ?block ?dangling ?node ?alias ?define ?nil ?cons h
  case scalar => intros; rfl
  case block => intro s _ _; exact forgetPending_pending s
  case dangling => intros; rfl
  case node => intro _ _ _ _ _ _ ih; exact ih rfl
  case alias => intro _ _ _ _ _ _ _ _ hp _; exact hp
  case define => intro _ _ _ _ _ _ _ _ _ _ _ _ ih; exact ih
  case nil => intro _ hp; exact hp
  case cons => intro _ _ _ _ _ _ _ _ _ ih1 ih2 _; exact ih2 ih1

/-- a state the serializer can be in: the pointer table and the pending anchor only hold ids `1 … next-1` -/
structure SerWf (s : SerSt) : Prop where
  tab : TableOK s
  pend : ∀ id, s.pending = some id → 1 ≤ id ∧ id < s.next
  next1 : 1 ≤ s.next

theorem SerWf.init : SerWf {} := ⟨nofun, nofun, Nat.le_refl 1⟩

theorem SerWf.of_clear (ht : TableOK s) (hp : s.pending = none) (h1 : 1 ≤ s.next) : SerWf s :=
  ⟨ht, fun _ hid => (nomatch hp ▸ hid), h1⟩

/-- a pointer of the table keeps its id, unless it was registered under the anchor that was pending on
entry (a block scalar forgets exactly those) -/
def Grow (s s' : SerSt) : Prop :=
  ∀ q id, s.anchors.lookup q = some id → s.pending ≠ some id → s'.anchors.lookup q = some id

theorem Grow.refl (s : SerSt) : Grow s s := fun _ _ h _ => h

theorem Grow.trans {s1 s2 : SerSt} (h1 : Grow s s1) (h2 : Grow s1 s2) (hc : s1.pending = none) : Grow s s2 :=
  fun q id h hne => h2 q id (h1 q id h hne) (by rw [hc]; nofun)

theorem Grow.known (h : Grow s s') (hp : s.pending = none) {q : Ptr}
    (hq : s.anchors.lookup q ≠ none) : s'.anchors.lookup q ≠ none := by
  cases hl : s.anchors.lookup q with
  | none => exact absurd hl hq
  | some id =>
    rw [h q id hl (by rw [hp]; nofun)]
    nofun

theorem grow_forget (s : SerSt) : Grow s (forgetPending s) := by
  intro q i h hne
  unfold forgetPending
  cases hp : s.pending with
  | none => exact h
  | some id => exact lookup_filter_ne (fun e => hne (by rw [hp, e])) s.anchors q h

/-- `ids n`: every id of what was written (a document, or the items of a container) is below `n` -/
structure RangePost (s : SerSt) (ids : Nat → Bool) (s' : SerSt) : Prop where
  ids : ids s'.next = true
  tab : TableOK s'
  mono : s.next ≤ s'.next
  held : s'.held = s.held
  grow : Grow s s'

theorem SerWf.regSt (k : Kind) (p : Ptr) (w : SerWf s) : SerWf (regSt s k p) := by
  unfold C14.regSt
  cases hpend : s.pending with
  | none =>
    exact ⟨tableOK_cons p w.tab (Nat.le_succ _) w.next1 (Nat.lt_succ_self _),
      fun _ hid => Option.some.inj hid ▸ ⟨w.next1, Nat.lt_succ_self _⟩, Nat.le_succ_of_le w.next1⟩
  | some outer =>
    exact ⟨tableOK_cons p w.tab (Nat.le_refl _) (w.pend outer hpend).1 (w.pend outer hpend).2,
      fun _ hid => Option.some.inj hid ▸ w.pend outer hpend, w.next1⟩

theorem regSt_pending_ne (k : Kind) (p : Ptr) (ht : TableOK s) {q : Ptr} {id : Nat}
    (hq : s.anchors.lookup q = some id) (hne : s.pending ≠ some id) : (regSt s k p).pending ≠ some id := by
  unfold regSt
  cases hpend : s.pending with
  | none =>
    intro e
    cases e
    exact absurd (tableOK_lookup ht hq).2 (Nat.lt_irrefl _)
  | some outer =>
    rw [hpend] at hne
    exact hne

theorem pend_mark (w : SerWf s) :
    (s.pending.getD 0 = 0 || (1 ≤ s.pending.getD 0 && s.pending.getD 0 < s.next)) = true := by
  cases hp : s.pending with
  | none => rfl
  | some id => simp [w.pend id hp]

theorem range_taking_leaf (k : LeafKind) (w : SerWf s) :
    RangePost s (idsBelow · (.leaf (s.pending.getD 0) k)) { s with pending := none } :=
  ⟨pend_mark w, w.tab, Nat.le_refl _, rfl, fun _ _ h _ => h⟩

theorem RangePost.wf {ids : Nat → Bool} (h : RangePost s ids s') (w : SerWf s) (hc : s'.pending = none) : SerWf s' :=
  .of_clear h.tab hc (Nat.le_trans w.next1 h.mono)

theorem Ser.range {v : Val} (h : Ser H s v o s') : SerWf s → RangePost s (idsBelow · o) s' := by
  refine Ser.rec
    (motive_1 := fun s _ o s' _ => SerWf s → RangePost s (idsBelow · o) s')
    (motive_2 := fun s _ os s' _ => SerWf s → s.pending = none → RangePost s (idsBelowList · os) s')
    ?scalar ?block ?dangling ?node ?alias ?define ?nil ?cons h
  case scalar => intro s k _ w; exact range_taking_leaf k w
  case dangling => intro s _ _ _ _ w; exact range_taking_leaf .null w
  case block =>
    intro s k _ w
    exact ⟨rfl, forgetPending_tableOK s w.tab, Nat.le_of_eq (forgetPending_next s).symm, forgetPending_held s,
      grow_forget s⟩
  case node =>
    intro s isMap items outs s' _ ih w
    have q := ih (.of_clear w.tab rfl w.next1) rfl
    refine ⟨?_, q.tab, q.mono, q.held, fun p id h _ => q.grow p id h nofun⟩
    simp only [idsBelow, Bool.and_eq_true]
    exact ⟨markBelow_mono q.mono (pend_mark w), q.ids⟩
  case alias =>
    intro s v k p payload id _ _ _ hl w
    have := tableOK_lookup w.tab hl
    exact ⟨by simp [idsBelow, this.1, this.2], w.tab, Nat.le_refl _, rfl, .refl s⟩
  case define =>
    intro s v k p payload o s2 _ _ hl _ _ ih w
    have post := ih (w.regSt k p)
    refine ⟨post.ids, post.tab, Nat.le_trans (regSt_next_le s k p) post.mono, rfl, ?_⟩
    intro q id hq hne
    have hqp : q ≠ p := fun e => by rw [e, hl] at hq; cases hq
    have hne' := regSt_pending_ne k p w.tab hq hne
    rw [← regSt_lookup_ne s k hqp] at hq
    exact post.grow q id hq hne'
  case nil => intro s w _; exact ⟨rfl, w.tab, Nat.le_refl _, rfl, .refl s⟩
  case cons =>
    intro s x xs y s1 ys s' hx _ ih1 ih2 w hp
    have p1 := ih1 w
    have q := ih2 (p1.wf w hx.clear) hx.clear
    refine ⟨?_, q.tab, Nat.le_trans p1.mono q.mono, q.held.trans p1.held, p1.grow.trans q.grow hx.clear⟩
    simp only [idsBelowList, Bool.and_eq_true]
    exact ⟨idsBelow_mono _ _ q.mono _ p1.ids, q.ids⟩

theorem Ser.wf {v : Val} (h : Ser H s v o s') (w : SerWf s) : SerWf s' := (h.range w).wf w h.clear

/-- number of anchor marks already written -/
def emitted (s : SerSt) : Nat := s.next - 1 - (if s.pending.isSome then 1 else 0)

/-- the register is empty, or holds the id allocated just now and the value about to be written takes it -/
def PendOK (s : SerSt) (v : Val) : Prop :=
  s.pending = none ∨ (s.pending = some (s.next - 1) ∧ 2 ≤ s.next ∧ takesRoot v = true)

structure ScopedPost (s : SerSt) (o : Out) (s' : SerSt) : Prop where
  wsc : wellScoped o (emitted s) = some (s'.next - 1)
  inj : TableInj s'

theorem emitted_none (s : SerSt) (h : s.pending = none) : emitted s = s.next - 1 := by
  simp [emitted, h]

theorem pendOK_wrapper_none {v : Val} (hp : PendOK s v) (hv : takesRoot v = false) :
    s.pending = none := by
  rcases hp with hp | ⟨_, _, hr⟩
  · exact hp
  · rw [hv] at hr; cases hr

/-- a node that takes the pending anchor: the mark it writes is the next one in order, so the walk `f` of
what follows goes on from `next - 1` marks -/
theorem scoped_take (s : SerSt) (v : Val) (hp : PendOK s v) (f : Nat → Option Nat) :
    (if s.pending.getD 0 = 0 then f (emitted s)
      else if s.pending.getD 0 = emitted s + 1 then f (emitted s + 1) else none) = f (s.next - 1) := by
  rcases hp with hp | ⟨hp, h2, _⟩
  · simp [hp, emitted]
  · have e : emitted s + 1 = s.next - 1 := by
      simp only [emitted, hp, Option.isSome_some, if_true]
      exact Nat.sub_add_cancel (Nat.le_sub_of_add_le h2)
    have a : s.pending.getD 0 = s.next - 1 := by rw [hp]; rfl
    rw [a, e, if_neg (Nat.sub_ne_zero_of_lt h2), if_pos rfl]

theorem Ser.scoped (hH : AnchorTaking H) {v : Val} (h : Ser H s v o s') :
    PendOK s v → SerWf s → TableInj s → ScopedPost s o s' := by
  refine Ser.rec
    (motive_1 := fun s v o s' _ => PendOK s v → SerWf s → TableInj s → ScopedPost s o s')
    (motive_2 := fun s _ os s' _ => s.pending = none → SerWf s → TableInj s →
      wellScopedList os (s.next - 1) = some (s'.next - 1) ∧ TableInj s')
    ?scalar ?block ?dangling ?node ?alias ?define ?nil ?cons h
  case scalar => intro s k _ hp _ hi; exact ⟨scoped_take s _ hp some, hi⟩
  case block =>
    intro s k htk hp _ hi
    have hp0 := pendOK_wrapper_none hp htk
    rw [forgetPending_none s hp0]
    exact ⟨by simp [wellScoped, emitted, hp0], hi⟩
  case dangling =>
    intro s _ _ _ _ hp _ hi
    have hp0 := pendOK_wrapper_none hp rfl
    exact ⟨by simp [wellScoped, hp0, emitted], hi⟩
  case node =>
    intro s isMap items outs s' _ ih hp w hi
    obtain ⟨q1, q2⟩ := ih rfl (.of_clear w.tab rfl w.next1) hi
    exact ⟨(scoped_take s _ hp (wellScopedList _)).trans q1, q2⟩
  case alias =>
    intro s v k p payload id _ _ hp0 hl _ w hi
    have := tableOK_lookup w.tab hl
    refine ⟨?_, hi⟩
    rw [wellScoped, emitted_none s hp0, if_pos ⟨this.1, Nat.le_sub_one_of_lt this.2⟩]
  case define =>
    intro s v k p payload o s2 he hc _ _ _ ih hp w hi
    have hp0 := pendOK_wrapper_none hp he.takesRoot
    rw [regSt_none k p hp0] at ih
    have post := ih (Or.inr ⟨rfl, Nat.succ_le_succ w.next1, hH _ _ hc⟩) (regSt_none k p hp0 ▸ w.regSt k p)
      (tableInj_alloc _ _ p hi w.tab)
    refine ⟨?_, post.inj⟩
    rw [emitted_none s hp0]
    exact post.wsc
  case nil => intro s _ _ hi; exact ⟨rfl, hi⟩
  case cons =>
    intro s x xs y s1 ys s' hx _ ih1 ih2 hp w hi
    have p1 := ih1 (Or.inl hp) w hi
    obtain ⟨q1, q2⟩ := ih2 hx.clear (hx.wf w) p1.inj
    refine ⟨?_, q2⟩
    have e1 := p1.wsc
    rw [emitted_none s hp] at e1
    simp only [wellScopedList, e1]
    exact q1

/-- every cell whose mutex is held has an entry in the pointer table (it is being defined) -/
def HeldSeen (s : SerSt) : Prop := ∀ q, q ∈ s.held → s.anchors.lookup q ≠ none

theorem heldSeen_regSt (k : Kind) (p : Ptr) (hs : HeldSeen s) : HeldSeen (regSt s k p) := by
  intro q hq
  by_cases hqp : q = p
  · rw [hqp]
    exact regSt_lookup_self s k p
  · rw [regSt_lookup_ne s k hqp]
    rw [regSt_held] at hq
    unfold lockCell at hq
    split at hq
    · rcases List.mem_cons.mp hq with h | h
      · exact absurd h hqp
      · exact hs q h
    · exact hs q hq

abbrev NoDlRec (rec : SerSt → Val → Except SerErr (Out × SerSt)) : Prop :=
  ∀ s v e, rec s v = .error e → HeldSeen s → SerWf s → e ≠ .deadlock

/-- a cell is locked only while its definition is written, and a cell being defined is in the table -/
theorem serPtr_nodl (ih : NoDlRec rec) {e : SerErr}
    (h : serPtr rec s k p payload = .error e) (hs : HeldSeen s) (w : SerWf s) : e ≠ .deadlock := by
  cases hl : s.anchors.lookup p with
  | some id =>
    rw [serPtr_known hl] at h
    split at h
    · cases h
    · cases h
      nofun
  | none =>
    have hnh : s.held.contains p = false := by
      cases hc : s.held.contains p with
      | false => rfl
      | true => exact absurd hl (hs p (by simpa using hc))
    rw [serPtr_new hl, hnh] at h
    simp only [Bool.and_false, Bool.false_eq_true, if_false] at h
    cases hr : rec (regSt s k p) payload with
    | error e1 =>
      rw [hr] at h
      cases h
      exact ih _ _ _ hr (heldSeen_regSt k p hs) (w.regSt k p)
    | ok r =>
      rw [hr] at h
      cases h

theorem ser_list_nodl (fuel : Nat) (H : Heap) (ih : NoDlRec (fun s v => serVal fuel H s v)) :
    ∀ (items : List Val) (s : SerSt) (e : SerErr),
      traverse (fun st x => serVal fuel H st x) s items = .error e →
      HeldSeen s → SerWf s → s.pending = none → e ≠ .deadlock := by
  intro items
  induction items with
  | nil => intro s e h; simp [traverse] at h
  | cons x xs ihl =>
    intro s e h hs w hp
    rcases traverse_cons_error h with hx | ⟨y, s1, hx, hxs⟩
    · exact ih s x e hx hs w
    · have hx := serVal_ser H fuel s x y s1 hx
      have p1 := hx.range w
      have hs1 : HeldSeen s1 := fun q hq => p1.grow.known hp (hs q (p1.held ▸ hq))
      exact ihl s1 e hxs hs1 (hx.wf w) hx.clear

theorem ser_nodl (H : Heap) : ∀ (fuel : Nat), NoDlRec (fun s v => serVal fuel H s v) := by
  intro fuel
  induction fuel with
  | zero =>
    intro s v e h
    cases h
    nofun
  | succ fuel ih =>
    intro s v e h hs w
    cases v with
    | leaf k =>
      simp only [serVal] at h
      split at h <;> cases h
    | node isMap items =>
      simp only [serVal] at h
      cases hl : traverse (fun st x => serVal fuel H st x) { s with pending := none } items with
      | error e1 =>
        rw [hl] at h
        cases h
        exact ser_list_nodl fuel H ih items _ e hl hs (.of_clear w.tab rfl w.next1) rfl
      | ok r =>
        rw [hl] at h
        cases h
    | strong k tid p =>
      simp only [serVal] at h
      cases hc : List.lookup p H with
      | none =>
        rw [hc] at h
        cases h
        nofun
      | some payload =>
        rw [hc] at h
        exact serPtr_nodl ih h hs w
    | weak k tid p =>
      simp only [serVal] at h
      cases hc : List.lookup p H with
      | none =>
        rw [hc] at h
        cases h
      | some payload =>
        rw [hc] at h
        exact serPtr_nodl ih h hs w

end SaphyrVerif.Lemmas.C14
