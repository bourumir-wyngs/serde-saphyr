import SaphyrVerif.Lemmas.C11_Typed2FailDoc
/-!
Typed multi-document theorems (C11): a stream `pre ++ dk :: post` whose document `dk` makes the pump fail (dangling
alias, budget breach, …) while the documents of `pre` and `post` are served: three blocks composed, the middle one
with its items exactly (`BlockIter.failing`).
-/
namespace SaphyrVerif.Lemmas.C11B
open SaphyrVerif SaphyrVerif.Scalars SaphyrVerif.Pump SaphyrVerif.De SaphyrVerif.Spec SaphyrVerif.Budget SaphyrVerif.Entry
open SaphyrVerif.Lemmas.C11 (Doc)
open SaphyrVerif.Lemmas.C11T (Item sameItems docsStream_cons)

/-- the contract of a document in which the pump fails, with its items EXACTLY (`DocIter.failing` forgets that) -/
theorem BlockIter.failing {L : AliasLimits} {ob : Option Limits} {cfg : Cfg} {ty : Ty} {d : Doc} {M Y0 : List RawItem}
    (hM : M ≠ []) {es : List Ev} {Ns : Nat} {r : Rounds}
    (hfail : FailRun M (canonStart L ob d.2.2.1) (itemsOf d.1 ++ M) es)
    (hsolo : soloRounds cfg ty Ns (canonStart L ob d.2.2.1) (itemsOf d.1 ++ .ev .docEnd d.2.2.2 :: Y0) = some r) :
    BlockIter L ob cfg ty [d] (· = r.1) r.2.1 r.2.2 := by
  intro q X hq hl _
  obtain ⟨t, ex, ls, le⟩ := d
  rw [docsStream_cons]
  exact ⟨r.1, rfl, iter_fail_docB t ex ls le M X Y0 hM hfail cfg ty Ns r hsolo hq hl⟩

theorem iter_fail_stream {L : AliasLimits} {ob : Option Limits} {cfg : Cfg} {ty : Ty} {N Ns : Nat}
    {pre post : List Doc} {evssPre evssPost : List (List Ev)} {dk : Doc} {its1 its2 : List Item} {k1 k2 : Nat}
    {r : Rounds} {M Y0 : List RawItem} (hM : M ≠ []) {es : List Ev}
    (hpre : DocsServe L ob pre evssPre) (hspec1 : streamSpec cfg ty N evssPre = some (its1, k1))
    (hfail : FailRun M (canonStart L ob dk.2.2.1) (itemsOf dk.1 ++ M) es)
    (hsolo : soloRounds cfg ty Ns (canonStart L ob dk.2.2.1) (itemsOf dk.1 ++ .ev .docEnd dk.2.2.2 :: Y0) = some r)
    (hpost : DocsServe L ob post evssPost) (hspec2 : streamSpec cfg ty N evssPost = some (its2, k2)) :
    ∃ go k, k ≤ k1 + r.2.2 + k2 ∧ BlockIter L ob cfg ty (pre ++ dk :: post)
      (fun its => ∃ A B, its = A ++ r.1 ++ B ∧ sameItems A its1 ∧
        (r.2.1 = true → sameItems B its2) ∧ (r.2.1 = false → B = [])) go k := by
  obtain ⟨rs1, hrs1, hm1, hg1⟩ := served_contract hpre hspec1
  obtain ⟨rs2, hrs2, hm2, -⟩ := served_contract hpost hspec2
  have hA := iter_stream hrs1
  have hB := iter_stream hrs2
  have hD := BlockIter.failing hM hfail hsolo
  simp only [hm1, hg1] at hA
  simp only [hm2] at hB
  cases hgo : r.2.1 with
  | false =>
    rw [hgo] at hD
    refine ⟨false, k1 + r.2.2, by omega, (hA.append (hD.stop (by simp) post) (by simp)).mono ?_⟩
    rintro _ ⟨A, _, rfl, hA', rfl⟩
    exact ⟨A, [], by simp, hA', (fun h => by cases h), fun _ => rfl⟩
  | true =>
    rw [hgo] at hD
    cases post with
    | nil =>
      cases hrs2
      cases hm2
      refine ⟨true, k1 + r.2.2, by omega, (hA.append hD (by simp)).mono ?_⟩
      rintro _ ⟨A, _, rfl, hA', rfl⟩
      exact ⟨A, [], by simp, hA', fun _ => .nil, fun h => by cases h⟩
    | cons d2 post2 =>
      refine ⟨_, k1 + (r.2.2 + k2), by omega, (hA.append (hD.append hB (by simp)) (by simp)).mono ?_⟩
      rintro _ ⟨A, _, rfl, hA', _, B, rfl, rfl, hB'⟩
      exact ⟨A, B, by simp, hA', fun _ => hB', fun h => by cases h⟩

end SaphyrVerif.Lemmas.C11B
