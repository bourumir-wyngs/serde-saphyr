import SaphyrVerif.Lemmas.C05_Weak3
/-!
`Stays` for the functions of the mutual block that call `deser` (`WeakAll`, one induction on the fuel for all of them; for the
entry loops and `nextValue` with what the loops need beside it), from the facts of `Lemmas/C05_Weak2.lean` / `C05_Weak3.lean`
about the functions they call.
-/
namespace SaphyrVerif.Lemmas.C05
open SaphyrVerif SaphyrVerif.Scalars SaphyrVerif.Pump SaphyrVerif.De SaphyrVerif.Spec
variable {buf : List Ev} {ref : Option Loc}

theorem NKPost.loop_exit {i : Nat} {fl : Bool} {step : KeyStep} {m' : MA} {c' : Cur}
    (h : NKPost buf ref i fl step m' c') :
    (fl = true → c' = .replay buf i ref) ∧ Stays buf ref i 1 c' := by
  cases fl with
  | true => exact ⟨fun _ => h.1, h.1 ▸ Stays.refl (by omega)⟩
  | false => exact ⟨fun h => (by cases h), h.elim (fun h => h.2.mono (by omega)) (fun h => h.1)⟩

/-- one round of the loop: a delivered key, its value, the rest of the loop -/
theorem NKPost.loop_key {i : Nat} {fl : Bool} {k : Val} {fp : FP} {m1 m2 : MA} {c1 c2 c' : Cur}
    (h : NKPost buf ref i fl (.key k fp) m1 c1)
    (hv : ∀ j, c1 = .replay buf j ref →
      Stays buf ref j 0 c2 ∧ m2.flushingMerges = m1.flushingMerges ∧
        (m1.pendingValue.isSome = true → c2 = .replay buf j ref))
    (hr : ∀ j, c2 = .replay buf j ref → (m2.flushingMerges = true → c' = .replay buf j ref) ∧ Stays buf ref j 1 c') :
    (fl = true → c' = .replay buf i ref) ∧ Stays buf ref i 1 c' := by
  -- a merged entry is delivered: neither its value nor the rest of the loop moves the cursor
  have hcl : Closing (.key k fp) m1 → ∀ j, c1 = .replay buf j ref → c' = .replay buf j ref := by
    rintro (hd | ⟨hf, hpv⟩) j hj
    · cases hd
    · obtain ⟨-, hm, hp⟩ := hv j hj
      exact (hr j (hp hpv)).1 (hm.trans hf)
  cases fl with
  | true =>
    have := hcl h.2 i h.1
    exact ⟨fun _ => this, this ▸ Stays.refl (by omega)⟩
  | false =>
    refine ⟨fun h => (by cases h), ?_⟩
    rcases h with ⟨-, hs⟩ | ⟨hs, hx⟩
    · exact hs.trans (fun j hj => (hv j hj).1.trans (fun j2 hj2 => (hr j2 hj2).2) (Int.le_refl 1)) (by omega)
    · have ⟨j, hc, _⟩ := hs
      rw [hcl hx j hc, ← hc]
      exact hs

/-- The two entry loops may end one level down (`k = 1`: they take the `.mapEnd` of their caller's mapping), and two rounds
with `k = 1` would not compose.  So their fields also say that a loop started while the access is flushing (the `.mapEnd`
taken already) leaves the cursor where it is, and the field of `nextValue` what that needs: it keeps the flag, and a pending
(recorded) value is not read from the cursor. -/
structure WeakAll (buf : List Ev) (ref : Option Loc) (fuel : Nat) : Prop where
  deser : ∀ {cfg : Cfg} {ty : Ty} {ik km : Bool} {i : Nat} {v : Val} {c' : Cur},
    deser fuel cfg ty ik km (.replay buf i ref) = .ok v c' → Stays buf ref i 0 c'
  deserSeqLike : ∀ {cfg : Cfg} {shape : Ty ⊕ List Ty} {i : Nat} {v : Val} {c' : Cur},
    deserSeqLike fuel cfg shape (.replay buf i ref) = .ok v c' → Stays buf ref i 0 c'
  seqElems : ∀ {cfg : Cfg} {t : Ty} {i : Nat} {acc vs : List Val} {c' : Cur},
    seqElems fuel cfg t (.replay buf i ref) acc = .ok vs c' → Stays buf ref i 0 c'
  tupleElems : ∀ {cfg : Cfg} {ts : List Ty} {i : Nat} {acc vs : List Val} {c' : Cur},
    tupleElems fuel cfg ts (.replay buf i ref) acc = .ok vs c' → Stays buf ref i 0 c'
  deserMapLike : ∀ {cfg : Cfg} {shape : (Ty × Ty) ⊕ (List (String × Ty) × Bool)} {i : Nat} {v : Val} {c' : Cur},
    deserMapLike fuel cfg shape (.replay buf i ref) = .ok v c' → Stays buf ref i 0 c'
  mapEntries : ∀ {cfg : Cfg} {kt vt : Ty} {i : Nat} {m : MA} {acc es : List (Val × Val)} {c' : Cur},
    mapEntries fuel cfg kt vt (.replay buf i ref) m acc = .ok es c' →
    (m.flushingMerges = true → c' = .replay buf i ref) ∧ Stays buf ref i 1 c'
  structEntries : ∀ {cfg : Cfg} {fields : List (String × Ty)} {deny : Bool} {i : Nat} {m : MA}
    {acc got : List (String × Val)} {c' : Cur},
    structEntries fuel cfg fields deny (.replay buf i ref) m acc = .ok got c' →
    (m.flushingMerges = true → c' = .replay buf i ref) ∧ Stays buf ref i 1 c'
  nextValue : ∀ {cfg : Cfg} {vt : Ty} {i : Nat} {m m' : MA} {v : Val} {c' : Cur},
    nextValue fuel cfg vt (.replay buf i ref) m = .ok (v, m') c' →
    Stays buf ref i 0 c' ∧ m'.flushingMerges = m.flushingMerges ∧
      (m.pendingValue.isSome = true → c' = .replay buf i ref)
  deserEnum : ∀ {cfg : Cfg} {name : String} {variants : List (String × VTy)} {i : Nat} {v : Val} {c' : Cur},
    deserEnum fuel cfg name variants (.replay buf i ref) = .ok v c' → Stays buf ref i 0 c'
  variantPayload : ∀ {cfg : Cfg} {variants : List (String × VTy)} {vname : List Char} {vloc : Loc}
    {mapMode tagged : Bool} {i : Nat} {v : Val} {c' : Cur},
    variantPayload fuel cfg variants vname vloc mapMode tagged (.replay buf i ref) = .ok v c' →
    Stays buf ref i (if mapMode then 1 else 0) c'

section step
variable {fuel : Nat} (ih : WeakAll buf ref fuel) {cfg : Cfg} {i : Nat} {c' : Cur}
include ih

theorem nextValue_weakStep {vt : Ty} {m m' : MA} {v : Val}
    (h : nextValue (fuel + 1) cfg vt (.replay buf i ref) m = .ok (v, m') c') :
    Stays buf ref i 0 c' ∧ m'.flushingMerges = m.flushingMerges ∧
      (m.pendingValue.isSome = true → c' = .replay buf i ref) := by
  rw [nextValue] at h
  split at h
  · contradiction
  dsimp only at h
  split at h
  · repeat' (first
      | contradiction
      | (cases h; exact ⟨Stays.refl (Int.le_refl 0), rfl, fun _ => rfl⟩)
      | split at h)
  · rename_i hpv
    simp only [peek_replay] at h
    split at h
    · contradiction
    · rename_i hq
      cases h
      exact ⟨ih.deser hq, rfl, fun hs => by simp [hpv] at hs⟩

theorem mapEntries_weakStep {kt vt : Ty} {m : MA} {acc es : List (Val × Val)}
    (h : mapEntries (fuel + 1) cfg kt vt (.replay buf i ref) m acc = .ok es c') :
    (m.flushingMerges = true → c' = .replay buf i ref) ∧ Stays buf ref i 1 c' := by
  rw [mapEntries] at h
  split at h
  · contradiction
  · rename_i hq
    cases h
    exact (nextKey_post fuel hq).loop_exit
  · rename_i hq
    split at h
    · contradiction
    · rename_i hq2
      exact (nextKey_post fuel hq).loop_key (fun j hj => by subst hj; exact ih.nextValue hq2)
        (fun j hj => by subst hj; exact ih.mapEntries h)

theorem structEntries_weakStep {fields : List (String × Ty)} {deny : Bool} {m : MA} {acc got : List (String × Val)}
    (h : structEntries (fuel + 1) cfg fields deny (.replay buf i ref) m acc = .ok got c') :
    (m.flushingMerges = true → c' = .replay buf i ref) ∧ Stays buf ref i 1 c' := by
  rw [structEntries] at h
  split at h
  · contradiction
  · rename_i hq
    cases h
    exact (nextKey_post fuel hq).loop_exit
  · rename_i hq
    dsimp only at h
    repeat' (first | contradiction | split at h)
    all_goals
      rename_i hq2
      exact (nextKey_post fuel hq).loop_key (fun j hj => by subst hj; exact ih.nextValue hq2)
        (fun j hj => by subst hj; exact ih.structEntries h)
  · contradiction


theorem seqElems_weakStep {t : Ty} {acc vs : List Val}
    (h : seqElems (fuel + 1) cfg t (.replay buf i ref) acc = .ok vs c') : Stays buf ref i 0 c' := by
  have item : ∀ {i acc ev}, seItem fuel cfg t (.replay buf i ref) acc ev = .ok vs c' → Stays buf ref i 0 c' := by
    intro i acc ev h
    simp only [seItem] at h
    split at h
    · contradiction
    · rename_i hq
      exact (ih.deser hq).trans (fun j hj => by subst hj; exact ih.seqElems h) (by omega)
  rw [seqElems_succ] at h
  weak_ev
  all_goals first | weak_leaf | exact item h

theorem tupleElems_weakStep {ts : List Ty} {acc vs : List Val}
    (h : tupleElems (fuel + 1) cfg ts (.replay buf i ref) acc = .ok vs c') : Stays buf ref i 0 c' := by
  cases ts with
  | nil => rw [tupleElems] at h; weak_leaf
  | cons t ts =>
    have item : ∀ {i acc ev}, teItem fuel cfg t ts (.replay buf i ref) acc ev = .ok vs c' → Stays buf ref i 0 c' := by
      intro i acc ev h
      simp only [teItem] at h
      split at h
      · contradiction
      · rename_i hq
        exact (ih.deser hq).trans (fun j hj => by subst hj; exact ih.tupleElems h) (by omega)
    rw [tupleElems_cons] at h
    weak_ev
    all_goals first | weak_leaf | exact item h

theorem mapProper_weak {shape : (Ty × Ty) ⊕ (List (String × Ty) × Bool)} {v : Val}
    (h : mapProper fuel cfg shape (.replay buf i ref) = .ok v c') : Stays buf ref i 0 c' := by
  unfold mapProper at h
  weak_ev
  all_goals try weak_leaf
  refine Stays.step hb (k' := 1) ?_ (by simp only [Ev.delta]; omega) (by omega)
  split at h <;> split at h
  · contradiction
  · rename_i hq
    cases h
    exact (ih.mapEntries hq).2
  · contradiction
  · rename_i hq
    cases structFinish_weak h
    exact (ih.structEntries hq).2

theorem deserMapLike_weakStep {shape : (Ty × Ty) ⊕ (List (String × Ty) × Bool)} {v : Val}
    (h : deserMapLike (fuel + 1) cfg shape (.replay buf i ref) = .ok v c') : Stays buf ref i 0 c' := by
  rw [deserMapLike_succ] at h
  simp only [peek_replay] at h
  weak_if
  · -- a null-like scalar: the empty mapping, the struct of defaults
    split at hc
    · rename_i hb
      have h1 : Stays buf ref i 0 (.replay buf (i + 1) ref) := Stays.one hb (by simp [Ev.delta]) (by omega)
      simp only [mapNull, Cursor.next_replay_of_getElem? ref hb] at h
      split at h
      · cases h; exact h1
      · cases structFinish_weak h; exact h1
    · cases hc
  · exact mapProper_weak ih h

omit ih in
/-- the end of `deserSeqLike` (`De.lean`: `if let Some(Ev::SeqEnd) = self.ev.peek()? { next }` after the elements) -/
theorem seqTail_weak {vs : List Val} {v : Val}
    (h : (match Cur.peek (.replay buf i ref) with
      | .err e c => R.err e c
      | .ok (some (.seqEnd _)) c =>
        match c.next with
        | .err e c => .err e c
        | .ok _ c => .ok (Val.seq vs) c
      | .ok _ c => .ok (.seq vs) c) = .ok v c') : Stays buf ref i 1 c' := by
  weak_ev <;> weak_leaf

theorem seqProper_weak {shape : Ty ⊕ List Ty} {v : Val}
    (h : seqProper fuel cfg shape (.replay buf i ref) = .ok v c') : Stays buf ref i 0 c' := by
  unfold seqProper at h
  weak_ev
  all_goals try weak_leaf
  refine Stays.step hb (k' := 1) ?_ (by simp only [Ev.delta]; omega) (by omega)
  cases shape <;> dsimp only at h <;> split at h
  · contradiction
  · rename_i hq
    exact (ih.seqElems hq).trans (fun j hj => by subst hj; exact seqTail_weak h) (by omega)
  · contradiction
  · rename_i hq
    exact (ih.tupleElems hq).trans (fun j hj => by subst hj; exact seqTail_weak h) (by omega)

theorem deserSeqLike_weakStep {shape : Ty ⊕ List Ty} {v : Val}
    (h : deserSeqLike (fuel + 1) cfg shape (.replay buf i ref) = .ok v c') : Stays buf ref i 0 c' := by
  rw [deserSeqLike_succ] at h
  simp only [peek_replay, seqHead] at h
  split at h
  · -- a scalar: null (the empty sequence), `!!binary` (its bytes), or no sequence at all
    rename_i hb
    simp only [Cursor.next_replay_of_getElem? ref hb] at h
    have h1 : Stays buf ref i 0 (.replay buf (i + 1) ref) := Stays.one hb (by simp [Ev.delta]) (by omega)
    weak_if
    · cases shape <;> dsimp only at h
      · cases h; exact h1
      · weak_if <;> cases h
        exact h1
    weak_if
    · split at h
      · contradiction
      · cases byteSeqVisit_weak h; exact h1
    · exact seqProper_weak ih h
  · exact seqProper_weak ih h

omit ih in
/-- `deser` into `Option` as an explicit empty key (`De.lean`, `.option`, `inKey && kemn`): after the `.mapStart` -/
theorem optKeyTail_weak {v : Val}
    (h : (match Cur.next (.replay buf i ref) with
      | .err e c => R.err e c
      | .ok none c => .err (eofErr c) c
      | .ok (some (.mapEnd _)) c => .ok Val.none c
      | .ok (some other) c => .err ⟨"Unexpected", other.loc, 0⟩ c) = .ok v c') : Stays buf ref i 1 c' := by
  weak_ev <;> weak_leaf

theorem deser_weakStep {ty : Ty} {ik km : Bool} {v : Val}
    (h : deser (fuel + 1) cfg ty ik km (.replay buf i ref) = .ok v c') : Stays buf ref i 0 c' := by
  cases ty <;> rw [deser] at h
  case bool => exact deserScalarTyped_weak h
  case int => exact deserScalarTyped_weak h
  case float => exact deserScalarTyped_weak h
  case char => exact deserScalarTyped_weak h
  case string => exact deserString_weak h
  case seq => exact ih.deserSeqLike h
  case tuple => exact ih.deserSeqLike h
  case map => exact ih.deserMapLike h
  case struct => exact ih.deserMapLike h
  case enum => exact ih.deserEnum h
  case newtype => exact ih.deser h
  case unit => weak_ev <;> weak_splits
  case bytes =>
    weak_ev
    all_goals try weak_leaf
    · weak_splits
    · exact Stays.step hb (bytesLoop_weak h) (by simp only [Ev.delta]; omega) (by omega)
  case any =>
    weak_ev
    all_goals try weak_leaf
    · exact deserAnyScalar_weak hb h
    · exact ih.deserSeqLike h
    · exact ih.deserMapLike h
  case option =>
    weak_if
    · weak_ev
      all_goals try weak_leaf
      exact Stays.step hb (optKeyTail_weak h) (by simp only [Ev.delta]; omega) (by omega)
    · weak_ev
      all_goals weak_splits
      all_goals
        rename_i hq
        cases h
        exact ih.deser hq

/-- `deserEnum` on `{ Variant: payload }` (`De.lean`, the `mapStart` arm): after the `.mapStart` -/
theorem enumMapTail_weak {variants : List (String × VTy)} {v : Val}
    (h : (match Cur.next (.replay buf i ref) with
      | .err e c => R.err e c
      | .ok none c => .err (eofErr c) c
      | .ok (some (.scalar v tag _ st _ l)) c =>
        if cfg.noSchema && tag != tagString && maybeNotString v st then .err ⟨"QuotingRequired", l, 0⟩ c
        else variantPayload fuel cfg variants v l true false c
      | .ok (some other) c => .err ⟨"ExpectedStringKeyForExternallyTaggedEnum", other.loc, 0⟩ c) = .ok v c') :
    Stays buf ref i 1 c' := by
  weak_ev
  all_goals try weak_leaf
  split at h
  · contradiction
  · have := ih.variantPayload h
    simp only [↓reduceIte] at this
    exact Stays.step hb this (by simp only [Ev.delta]; omega) (by omega)

theorem deserEnum_weakStep {name : String} {variants : List (String × VTy)} {v : Val}
    (h : deserEnum (fuel + 1) cfg name variants (.replay buf i ref) = .ok v c') : Stays buf ref i 0 c' := by
  rw [deserEnum] at h
  weak_ev
  all_goals try weak_leaf
  · weak_splits
    all_goals
      have := ih.variantPayload h
      simp only [Bool.false_eq_true, ↓reduceIte] at this
      exact Stays.step hb this (by simp only [Ev.delta]; omega) (by omega)
  · split at h
    · split at h
      · split at h
        · contradiction
        · rename_i hq
          split at h
          · contradiction
          · cases h
            exact Stays.step hb (collectTaggedSeq_weak fuel hq) (by simp only [Ev.delta]; omega) (by omega)
      · contradiction
    · contradiction
  · exact Stays.step hb (enumMapTail_weak ih h) (by simp only [Ev.delta]; omega) (by omega)

omit ih in
theorem expectMapEnd_weak {mapMode tagged : Bool} {w v : Val}
    (h : vpExpectMapEnd mapMode tagged (.replay buf i ref) w = .ok v c') :
    Stays buf ref i (if mapMode then 1 else 0) c' := by
  unfold vpExpectMapEnd at h
  cases mapMode <;> cases tagged <;>
    simp only [Bool.false_eq_true, Bool.not_true, Bool.not_false, ↓reduceIte] at h ⊢ <;>
    weak_ev <;> weak_leaf

theorem variantPayload_weakStep {variants : List (String × VTy)} {vname : List Char} {vloc : Loc}
    {mapMode tagged : Bool} {v : Val}
    (h : variantPayload (fuel + 1) cfg variants vname vloc mapMode tagged (.replay buf i ref) = .ok v c') :
    Stays buf ref i (if mapMode then 1 else 0) c' := by
  rw [De.variantPayload_succ] at h
  split at h
  · contradiction
  unfold vpKind at h
  have hk0 : (0 : Int) ≤ if mapMode = true then 1 else 0 := by split <;> omega
  split at h
  · -- unit
    weak_if
    · have hk : (if mapMode = true then (1 : Int) else 0) = 1 := by simp [hc]
      rw [hk]
      weak_ev
      all_goals try weak_leaf
      weak_if
      · have := expectMapEnd_weak h
        rw [hk] at this
        exact Stays.step hb this (by simp only [Ev.delta]; omega) (by omega)
      · contradiction
    · cases h; exact Stays.refl hk0
  · -- newtype
    weak_if
    · split at h
      · contradiction
      · cases h; exact Stays.refl hk0
    · simp only [peek_replay] at h
      split at h
      · contradiction
      · rename_i hq
        exact (ih.deser hq).trans (fun j hj => by subst hj; exact expectMapEnd_weak h) (by omega)
  · -- tuple
    weak_if
    · split at h
      · contradiction
      · cases h; exact Stays.refl hk0
    · split at h
      · contradiction
      · rename_i hq
        exact (ih.deserSeqLike hq).trans (fun j hj => by subst hj; exact expectMapEnd_weak h) (by omega)
  · -- struct
    weak_if
    · split at h
      · contradiction
      · cases h; exact Stays.refl hk0
    · split at h
      · contradiction
      · rename_i hq
        exact (ih.deserMapLike hq).trans (fun j hj => by subst hj; exact expectMapEnd_weak h) (by omega)

end step

theorem weakAll (buf : List Ev) (ref : Option Loc) (fuel : Nat) : WeakAll buf ref fuel := by
  induction fuel with
  | zero =>
    constructor
    · intro cfg ty ik km i v c' h; rw [deser] at h; contradiction
    · intro cfg shape i v c' h; rw [deserSeqLike] at h; contradiction
    · intro cfg t i acc vs c' h; rw [seqElems] at h; contradiction
    · intro cfg ts i acc vs c' h; rw [tupleElems] at h; contradiction
    · intro cfg shape i v c' h; rw [deserMapLike] at h; contradiction
    · intro cfg kt vt i m acc es c' h; rw [mapEntries] at h; contradiction
    · intro cfg fields deny i m acc got c' h; rw [structEntries] at h; contradiction
    · intro cfg vt i m m' v c' h; rw [nextValue] at h; contradiction
    · intro cfg name variants i v c' h; rw [deserEnum] at h; contradiction
    · intro cfg variants vname vloc mapMode tagged i v c' h; rw [variantPayload] at h; contradiction
  | succ fuel ih =>
    exact
      { deser := deser_weakStep ih
        deserSeqLike := deserSeqLike_weakStep ih
        seqElems := seqElems_weakStep ih
        tupleElems := tupleElems_weakStep ih
        deserMapLike := deserMapLike_weakStep ih
        mapEntries := mapEntries_weakStep ih
        structEntries := structEntries_weakStep ih
        nextValue := nextValue_weakStep ih
        deserEnum := deserEnum_weakStep ih
        variantPayload := variantPayload_weakStep ih }

end SaphyrVerif.Lemmas.C05
