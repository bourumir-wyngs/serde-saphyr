import SaphyrVerif.Lemmas.C05_Cursor
/-!
C05: the scalar-level functions of the model on a replay cursor whose next event is a scalar agree with the
scalar-level functions of the specification and advance by one event (`_scalar`); `deserAnyScalar` apart, on any other
event (`_other`) and at the end of the buffer (`_nil`; not stated for `deserStr`) they fail.
-/
namespace SaphyrVerif.Lemmas.C05
open SaphyrVerif SaphyrVerif.Scalars SaphyrVerif.Pump SaphyrVerif.De SaphyrVerif.Spec

def Ev.isScalar : Ev → Bool
  | .scalar .. => true
  | _ => false

section
variable {buf : List Ev} {i : Nat} (ref : Option Loc) {tl : List Ev}

theorem takeStringScalar_scalar (cfg : Cfg) {v : List Char} {tag : Nat} {rt : Option (List Char)} {st : Style} {a : Nat} {l : Loc}
    (h : buf.drop i = .scalar v tag rt st a l :: tl) :
    Expect (takeStringScalar cfg (.replay buf i ref)) (stringOfScalar cfg v tag) (.replay buf (i + 1) ref) := by
  simp only [takeStringScalar, Cursor.next_replay_of_drop ref h, stringOfScalar]
  by_cases h1 : (tag == tagBinary && !cfg.ignoreBinaryTagForString) = true
  · simp only [h1, if_true]
    cases Base64.decode (utf8Bytes v) with
    | none => simp
    | some data => cases hd : utf8DecodeBytes data <;> simp [hd]
  · simp only [h1, if_false, Bool.false_eq_true]
    split <;> simp

theorem takeStringScalar_other (cfg : Cfg) {e : Ev} (h : buf.drop i = e :: tl) (he : Ev.isScalar e = false) :
    IsErr (takeStringScalar cfg (.replay buf i ref)) := by
  simp only [takeStringScalar, Cursor.next_replay_of_drop ref h]
  cases e <;> simp [Ev.isScalar] at he ⊢

theorem takeStringScalar_nil (cfg : Cfg) (h : buf.drop i = []) : IsErr (takeStringScalar cfg (.replay buf i ref)) := by
  simp only [takeStringScalar, Cursor.next_replay_of_drop_nil ref h]; simp

theorem deserString_scalar (cfg : Cfg) {v : List Char} {tag : Nat} {rt : Option (List Char)} {st : Style} {a : Nat} {l : Loc}
    (h : buf.drop i = .scalar v tag rt st a l :: tl) :
    Expect (deserString cfg (.replay buf i ref)) ((stringTyped cfg v tag st).map .str) (.replay buf (i + 1) ref) := by
  have ht := takeStringScalar_scalar ref cfg h
  simp only [deserString, Cursor.peek_replay_of_drop ref h, Cursor.next_replay_of_drop ref h, stringTyped]
  by_cases h1 : ((tag == tagNull || scalarIsNullish v st) && tag != tagString) = true
  · simp [h1]
  · simp only [h1, if_false, Bool.false_eq_true]
    by_cases h2 : (cfg.noSchema && maybeNotString v st && tag != tagString) = true
    · simp [h2]
    · simp only [h2, if_false, Bool.false_eq_true]
      simp only [stringOfScalar] at ht ⊢
      by_cases h3 : (tag == tagBinary && !cfg.ignoreBinaryTagForString) = true
      · simp only [h3, if_true] at ht ⊢
        cases hd : (Base64.decode (utf8Bytes v)).bind utf8DecodeBytes with
        | none => simp only [hd, expect_none] at ht; obtain ⟨e, c, he⟩ := ht; simp [he]
        | some s => simp only [hd, expect_some] at ht; simp [ht]
      · simp only [h3, if_false, Bool.false_eq_true]
        split <;> simp

theorem deserString_other (cfg : Cfg) {e : Ev} (h : buf.drop i = e :: tl) (he : Ev.isScalar e = false) :
    IsErr (deserString cfg (.replay buf i ref)) := by
  obtain ⟨e', c, ht⟩ := takeStringScalar_other ref cfg h he
  simp only [deserString, Cursor.peek_replay_of_drop ref h]
  cases e <;> simp [Ev.isScalar] at he <;> simp [ht]

theorem deserString_nil (cfg : Cfg) (h : buf.drop i = []) : IsErr (deserString cfg (.replay buf i ref)) := by
  obtain ⟨e', c, ht⟩ := takeStringScalar_nil ref cfg h
  simp only [deserString, Cursor.peek_replay_of_drop_nil ref h]; simp [ht]

theorem deserStr_scalar (cfg : Cfg) {v : List Char} {tag : Nat} {rt : Option (List Char)} {st : Style} {a : Nat} {l : Loc}
    (h : buf.drop i = .scalar v tag rt st a l :: tl) :
    Expect (deserStr cfg (.replay buf i ref)) (identOf cfg (.scalar v tag rt st a l)) (.replay buf (i + 1) ref) := by
  have hs := deserString_scalar ref cfg h
  simp only [deserStr, Cursor.peek_replay_of_drop ref h, identOf]
  cases hid : stringTyped cfg v tag st with
  | none =>
    simp only [hid, Option.map_none, expect_none] at hs
    obtain ⟨e, c, he⟩ := hs
    simp [he]
  | some s =>
    simp only [hid, Option.map_some, expect_some] at hs
    simp [hs]

theorem deserStr_other (cfg : Cfg) {e : Ev} (h : buf.drop i = e :: tl) (he : Ev.isScalar e = false) :
    IsErr (deserStr cfg (.replay buf i ref)) := by
  simp only [deserStr, Cursor.peek_replay_of_drop ref h]
  cases e <;> simp [Ev.isScalar] at he ⊢

theorem deserScalarTyped_scalar (cfg : Cfg) (ty : Ty) {v : List Char} {tag : Nat} {rt : Option (List Char)} {st : Style} {a : Nat} {l : Loc}
    (h : buf.drop i = .scalar v tag rt st a l :: tl) :
    Expect (deserScalarTyped cfg ty (.replay buf i ref)) (scalarTyped cfg ty v tag st) (.replay buf (i + 1) ref) := by
  cases ty with
  | bool =>
    simp only [deserScalarTyped, Cursor.next_replay_of_drop ref h, scalarTyped]
    split
    · cases parseStrictBool v <;> simp
    · cases parseYaml11Bool v <;> simp
  | int s w =>
    cases s
    · simp only [deserScalarTyped, Cursor.next_replay_of_drop ref h, scalarTyped]
      cases parseIntUnsigned w cfg.legacyOctal v <;> simp
    · simp only [deserScalarTyped, Cursor.next_replay_of_drop ref h, scalarTyped]
      cases parseIntSigned w cfg.legacyOctal v <;> simp
  | float w =>
    simp only [deserScalarTyped, Cursor.next_replay_of_drop ref h, scalarTyped]
    cases Float.parseYaml12Float w v <;> simp
  | char =>
    simp only [deserScalarTyped, Cursor.peek_replay_of_drop ref h, Cursor.next_replay_of_drop ref h, scalarTyped]
    by_cases h1 : (tag != tagString) = true
    · simp only [h1, if_true, Bool.true_and]
      by_cases h2 : (tag == tagNull || scalarIsNullish v st) = true
      · simp [h2]
      · simp only [h2, if_false, Bool.false_eq_true]
        by_cases h3 : (cfg.noSchema && maybeNotString v st) = true
        · simp [h3]
        · simp only [h3, if_false, Bool.false_eq_true]
          rcases v with _ | ⟨c, _ | ⟨c', v'⟩⟩ <;> simp
    · simp only [h1, if_false, Bool.false_eq_true, Bool.false_and]
      rcases v with _ | ⟨c, _ | ⟨c', v'⟩⟩ <;> simp
  | _ => simp [deserScalarTyped, Cursor.next_replay_of_drop ref h, scalarTyped]

theorem deserScalarTyped_other (cfg : Cfg) (ty : Ty) {e : Ev} (h : buf.drop i = e :: tl) (he : Ev.isScalar e = false) :
    IsErr (deserScalarTyped cfg ty (.replay buf i ref)) := by
  simp only [deserScalarTyped, Cursor.peek_replay_of_drop ref h, Cursor.next_replay_of_drop ref h]
  cases e <;> simp [Ev.isScalar] at he <;> cases ty <;> simp

theorem deserScalarTyped_nil (cfg : Cfg) (ty : Ty) (h : buf.drop i = []) :
    IsErr (deserScalarTyped cfg ty (.replay buf i ref)) := by
  simp only [deserScalarTyped, Cursor.peek_replay_of_drop_nil ref h, Cursor.next_replay_of_drop_nil ref h]
  cases ty <;> simp

theorem deserAnyScalar_scalar (cfg : Cfg) {v : List Char} {tag : Nat} {rt : Option (List Char)} {st : Style} {a : Nat} {l : Loc}
    (h : buf.drop i = .scalar v tag rt st a l :: tl) :
    Expect (deserAnyScalar cfg (.replay buf i ref) v tag st l) (anyScalar cfg v tag st) (.replay buf (i + 1) ref) := by
  have ht := takeStringScalar_scalar ref cfg h
  simp only [deserAnyScalar, Cursor.next_replay_of_drop ref h, anyScalar]
  by_cases h1 : (tag == tagNull) = true
  · simp [h1]
  · simp only [h1, if_false, Bool.false_eq_true, Bool.false_or]
    by_cases h2 : scalarIsNullish v st = true
    · simp [h2]
    · simp only [h2, if_false, Bool.false_eq_true]
      by_cases h3 : (!(st == .plain) || !canParseIntoString tag || tag == tagBinary || tag == tagString) = true
      · simp only [h3, if_true]
        simp only [stringOfScalar] at ht ⊢
        by_cases h4 : (tag == tagBinary && !cfg.ignoreBinaryTagForString) = true
        · simp only [h4, if_true] at ht ⊢
          cases hd : (Base64.decode (utf8Bytes v)).bind utf8DecodeBytes with
          | none => simp only [hd, expect_none] at ht; obtain ⟨e, c, he⟩ := ht; simp [he]
          | some s => simp only [hd, expect_some] at ht; simp [ht]
        · simp only [h4, if_false, Bool.false_eq_true]
          split <;> simp
      · simp only [h3, if_false, Bool.false_eq_true]
        cases (if cfg.strictBooleans = true then parseStrictBool v else parseYaml11Bool v) with
        | some b => simp
        | none =>
          simp only []
          generalize (if ((trim v).head? == some '-' && !leadingZeroDecimal (trim v)) = true then
            parseIntSigned 64 cfg.legacyOctal (trim v) else
            match parseIntUnsigned 64 cfg.legacyOctal (trim v) with
            | some u => some (Int.ofNat u)
            | none => parseIntSigned 64 cfg.legacyOctal (trim v)) = i?
          cases i? with
          | some i => simp
          | none =>
            cases Float.parseYaml12Float 64 v with
            | none => simp
            | some f =>
              simp only []
              split
              · simp
              · split
                · simp
                · split <;> simp

end

end SaphyrVerif.Lemmas.C05
