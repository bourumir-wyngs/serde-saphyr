import SaphyrVerif.Model.SerScalar
import SaphyrVerif.Spec.ScalarRead
/-!
Helper lemmas for C12, literal block scalars: the lines `serialize_str` writes for the automatic literal
style are read back by `readBlock` as the original string (under the guards stated in Props/C12). Also
what the folded style shares: the step of the reader on an indented line (`blockBody_indented`), indentation
detection (`blockIndent_auto`), `splitNl` as the inverse of `joinNl` (`splitNl_go_spec`), text to lines
(`joinLines`, `splitLines_join`).
-/
namespace SaphyrVerif.Lemmas.C12
open SaphyrVerif SaphyrVerif.SerScalar SaphyrVerif.Spec.Read

theorem leadingSpaces_spaces (n : Nat) (x : List Char) : leadingSpaces (spaces n ++ x) = n + leadingSpaces x := by
  induction n with
  | zero => simp [spaces]
  | succ n ih =>
    have : spaces (n + 1) ++ x = ' ' :: (spaces n ++ x) := by simp [spaces, List.replicate_succ]
    rw [this]
    simp only [leadingSpaces, List.takeWhile, beq_self_eq_true, List.length_cons] at ih ⊢
    omega

theorem leadingSpaces_spaces_cons (n : Nat) (c : Char) (r : List Char) (hc : c ≠ ' ') :
    leadingSpaces (spaces n ++ c :: r) = n := by
  rw [leadingSpaces_spaces, leadingSpaces, List.takeWhile_cons_of_neg (by simpa using hc)]
  rfl

theorem isEmptyAt_spaces_append (n : Nat) (x : List Char) :
    isEmptyAt n (spaces n ++ x) = x.isEmpty := by
  cases x with
  | nil => simp [isEmptyAt, allSpaces, spaces]
  | cons c r =>
    simp only [isEmptyAt, List.isEmpty_cons, Bool.and_eq_false_iff, decide_eq_false_iff_not]
    right
    simp [spaces]

theorem blockBody_indented (literal : Bool) (N : Nat) (hN : 1 ≤ N) (x : List Char) (ls : List (List Char))
    (first pb : Bool) (pend : Nat) (acc : List Char) :
    blockBody literal N ((spaces N ++ x) :: ls) first pb pend acc =
      if x.isEmpty then blockBody literal N ls first pb (pend + 1) acc
      else blockBody literal N ls false (headSat isBlank x) 0
        (acc ++ (if first then nls pend
                 else if !literal && !pb && !headSat isBlank x then (if pend == 0 then [' '] else nls pend)
                 else '\n' :: nls pend) ++ x) := by
  have h1 : ¬ leadingSpaces (spaces N ++ x) < N := by rw [leadingSpaces_spaces]; omega
  have h2 : (N == 0) = false := by cases N with | zero => omega | succ n => rfl
  rw [blockBody, isEmptyAt_spaces_append, if_neg h1, h2, List.drop_left' (by simp [spaces])]
  rfl

theorem blockBody_empties (literal : Bool) (N : Nat) (hN : 1 ≤ N) (k : Nat) :
    ∀ (first pb : Bool) (pend : Nat) (acc : List Char),
      blockBody literal N (List.replicate k (spaces N)) first pb pend acc = (acc, pend + k, [], first) := by
  induction k with
  | zero => intro _ _ _ _; rfl
  | succ k ih =>
    intro first pb pend acc
    have h := blockBody_indented literal N hN [] (List.replicate k (spaces N)) first pb pend acc
    rw [List.append_nil] at h
    rw [List.replicate_succ, h, List.isEmpty_nil, if_pos rfl, ih, Nat.add_assoc, Nat.add_comm 1]

/-- `"\n".intercalate`-style join, written out -/
def joinNl : List (List Char) → List Char
  | [] => []
  | [x] => x
  | x :: y :: r => x ++ '\n' :: joinNl (y :: r)

theorem nls_succ' (n : Nat) : nls (n + 1) = '\n' :: nls n := by
  simp [nls, List.replicate_succ]

theorem blockBody_lit (N : Nat) (hN : 1 ≤ N) (k : Nat) (xs : List (List Char)) (hne : xs ≠ [])
    (hlast : ∀ l, xs.getLast? = some l → l ≠ []) :
    ∀ (first pb : Bool) (pend : Nat) (acc : List Char),
      blockBody true N ((xs ++ List.replicate k []).map (spaces N ++ ·)) first pb pend acc =
        (acc ++ (if first then [] else ['\n']) ++ nls pend ++ joinNl xs, k, [], false) := by
  induction xs with
  | nil => exact absurd rfl hne
  | cons x xs ih =>
    intro first pb pend acc
    rw [List.cons_append, List.map_cons, blockBody_indented true N hN]
    cases xs with
    | nil =>
      have hx : x.isEmpty = false := by simpa using hlast x rfl
      rw [hx, if_neg Bool.false_ne_true, List.nil_append, List.map_replicate, List.append_nil,
        blockBody_empties true N hN]
      cases first <;> simp [joinNl, nls]
    | cons y r =>
      have ih' := ih (List.cons_ne_nil _ _) fun l hl => hlast l (by rwa [List.getLast?_cons_cons])
      cases hx : x.isEmpty with
      | true =>
        rw [if_pos rfl, ih', List.isEmpty_iff.mp hx]
        simp [joinNl, nls, List.replicate_succ']
      | false =>
        rw [if_neg Bool.false_ne_true, ih']
        cases first <;> simp [joinNl, nls]

theorem joinNl_cons_cons (c : Char) (x : List Char) (r : List (List Char)) :
    joinNl ((c :: x) :: r) = c :: joinNl (x :: r) := by
  cases r <;> rfl

/-- `splitNl s` is a non-empty list of lines without line break whose `joinNl` is `s`; `cur` is what the
scan has read of the first line -/
theorem splitNl_go_spec (s cur : List Char) :
    ∃ x r, splitNl.go s cur = (cur.reverse ++ x) :: r ∧ joinNl (x :: r) = s ∧ ∀ l ∈ x :: r, ∀ c ∈ l, c ≠ '\n' := by
  induction s generalizing cur with
  | nil =>
    refine ⟨[], [], by rw [splitNl.go, List.append_nil], rfl, fun l hl c hc => ?_⟩
    rw [List.mem_singleton.mp hl] at hc
    cases hc
  | cons a s ih =>
    rw [splitNl.go]
    by_cases h : (a == '\n') = true
    · obtain ⟨x, r, hg, hj, hn⟩ := ih []
      rw [if_pos h, hg, eq_of_beq h]
      refine ⟨[], x :: r, by rw [List.append_nil]; rfl, by rw [joinNl, hj]; rfl, fun l hl c hc => ?_⟩
      rcases List.mem_cons.mp hl with rfl | hl
      · cases hc
      · exact hn l hl c hc
    · obtain ⟨x, r, hg, hj, hn⟩ := ih (a :: cur)
      rw [if_neg h, hg]
      refine ⟨a :: x, r, by rw [List.reverse_cons, List.append_assoc]; rfl, by rw [joinNl_cons_cons, hj],
        fun l hl c hc => ?_⟩
      rcases List.mem_cons.mp hl with rfl | hl
      · rcases List.mem_cons.mp hc with rfl | hc
        · exact fun e => h (beq_iff_eq.mpr e)
        · exact hn x List.mem_cons_self c hc
      · exact hn l (List.mem_cons_of_mem _ hl) c hc

theorem splitNl_spec (s : List Char) :
    splitNl s ≠ [] ∧ joinNl (splitNl s) = s ∧ ∀ l ∈ splitNl s, ∀ c ∈ l, c ≠ '\n' := by
  obtain ⟨x, r, hg, hj, hn⟩ := splitNl_go_spec s []
  rw [splitNl, hg]
  exact ⟨List.cons_ne_nil _ _, hj, hn⟩

theorem joinNl_splitNl (s : List Char) : joinNl (splitNl s) = s := (splitNl_spec s).2.1

theorem splitNl_ne_nil (s : List Char) : splitNl s ≠ [] := (splitNl_spec s).1

theorem splitNl_single (s : List Char) (h : ∀ c ∈ s, c ≠ '\n') : splitNl s = [s] := by
  obtain ⟨x, r, hg, hj, _⟩ := splitNl_go_spec s []
  cases r with
  | nil => rw [splitNl, hg, ← hj]; rfl
  | cons y r => exact absurd rfl (h '\n' (by rw [← hj]; simp [joinNl]))

theorem joinNl_last_empty (ls : List (List Char)) (h : ls.getLast? = some []) :
    joinNl ls = [] ∨ (joinNl ls).getLast? = some '\n' := by
  induction ls with
  | nil => cases h
  | cons x ls ih =>
    cases ls with
    | nil => left; simpa [joinNl] using h
    | cons y r =>
      right
      rw [List.getLast?_cons_cons] at h
      rw [joinNl, List.getLast?_append]
      rcases ih h with h0 | h1
      · simp [h0]
      · simp [h1, List.getLast?_cons]

theorem splitNl_last (s : List Char) (h : s.getLast? ≠ some '\n') (hne : s ≠ []) :
    ∀ l, (splitNl s).getLast? = some l → l ≠ [] := by
  rintro l hl rfl
  rw [← joinNl_splitNl s] at h hne
  rcases joinNl_last_empty _ hl with h0 | h1
  · exact hne h0
  · exact h h1

theorem joinNl_mem : ∀ (ls : List (List Char)) (l : List Char), l ∈ ls → ∀ c ∈ l, c ∈ joinNl ls := by
  intro ls
  induction ls with
  | nil => intro l hl; cases hl
  | cons x ls ih =>
    intro l hl c hc
    cases ls with
    | nil =>
      simp only [List.mem_singleton] at hl
      subst hl; simpa [joinNl] using hc
    | cons y r =>
      rw [joinNl]
      rcases List.mem_cons.mp hl with e | hl
      · subst e; simp [hc]
      · simp [ih l hl c hc]

theorem splitNl_mem (s l : List Char) (hl : l ∈ splitNl s) : ∀ c ∈ l, c ∈ s ∧ c ≠ '\n' := fun c hc =>
  ⟨joinNl_splitNl s ▸ joinNl_mem _ l hl c hc, (splitNl_spec s).2.2 l hl c hc⟩

/-- the body lines `serialize_str` writes for the literal style (`N` = body indentation in spaces), for a
content that is not made of line breaks only: `literalBody_eq` and `literal_read` assume that, and the other
branch does not mirror `literalBody` -/
def litLines (N : Nat) (v : List Char) : List (List Char) :=
  let content := trimEndNl v
  let t := v.length - content.length
  if content.isEmpty then (if t ≥ 1 then [spaces N] else [])
  else (splitNl content).map (spaces N ++ ·) ++ List.replicate (t - 1) (spaces N)

/-- header text after `|`: optional indentation digit, chomping indicator -/
def litHeader (digit : Option Nat) (t : Nat) : List Char :=
  (match digit with | some d => [Char.ofNat (48 + d)] | none => []) ++ chompInd t

def chompOf (t : Nat) : Chomp := match t with | 0 => .strip | 1 => .clip | _ => .keep

theorem parseHeader_lit : ∀ (d : Fin 10) (t : Fin 3), 1 ≤ d.val →
    parseHeader (litHeader (some d) t) = some (chompOf t, d.val) ∧ parseHeader (litHeader none t) = some (chompOf t, 0) := by
  decide

theorem chompInd_cap (t : Nat) : chompInd t = chompInd (min t 2) ∧ chompOf t = chompOf (min t 2) := by
  match t with
  | 0 => exact ⟨rfl, rfl⟩
  | 1 => exact ⟨rfl, rfl⟩
  | n + 2 => rw [show min (n + 2) 2 = 2 by omega]; exact ⟨rfl, rfl⟩

theorem parseHeader_lit' (digit : Option Nat) (hd : ∀ d, digit = some d → 1 ≤ d ∧ d ≤ 9) (t : Nat) :
    parseHeader (litHeader digit t) = some (chompOf t, digit.getD 0) := by
  have hc := chompInd_cap t
  unfold litHeader
  rw [hc.1, hc.2]
  cases digit with
  | none => exact (parseHeader_lit 1 ⟨min t 2, by omega⟩ (by decide)).2
  | some d => obtain ⟨h1, h2⟩ := hd d rfl; exact (parseHeader_lit ⟨d, by omega⟩ ⟨min t 2, by omega⟩ h1).1

theorem indDigit_range {P : Prop} [Decidable P] {N : Nat} (hN : 1 ≤ N) (h9 : P → N ≤ 9) :
    ∀ d, (if P then some N else none) = some d → 1 ≤ d ∧ d ≤ 9 := by
  intro d hd
  by_cases hP : P
  · rw [if_pos hP] at hd; exact Option.some.inj hd ▸ ⟨hN, h9 hP⟩
  · rw [if_neg hP] at hd; cases hd

/-- automatic indentation detection on the emitted lines when no indicator was needed: the writer's test
"the first non-empty line has no leading space" (`first_line_leading_spaces`, on the lines) -/
theorem detectIndent_auto (N : Nat) (xs : List (List Char)) (rest : List (List Char))
    (hne : ∃ l ∈ xs, l ≠ []) (hns : firstLineLeadingSpaces.go xs = 0) :
    ∀ m, m ≤ N → detectIndent (xs.map (spaces N ++ ·) ++ rest) m = N := by
  induction xs with
  | nil => obtain ⟨l, hl, _⟩ := hne; cases hl
  | cons x xs ih =>
    intro m hm
    simp only [List.map_cons, List.cons_append, detectIndent]
    cases x with
    | nil =>
      have hsp : allSpaces (spaces N) = true ∧ (spaces N).length = N := by simp [allSpaces, spaces]
      rw [List.append_nil, hsp.1, if_pos rfl, hsp.2]
      apply ih
      · obtain ⟨l, hl, hln⟩ := hne
        simp only [List.mem_cons] at hl
        rcases hl with e | hl
        · exact absurd e hln
        · exact ⟨l, hl, hln⟩
      · simpa [firstLineLeadingSpaces.go] using hns
      · omega
    | cons c r =>
      have hc : c ≠ ' ' := by intro e; subst e; simp [firstLineLeadingSpaces.go] at hns
      have hsp : allSpaces (spaces N ++ c :: r) = false := by simp [allSpaces, hc]
      rw [hsp, leadingSpaces_spaces_cons N c r hc]
      simp only [Bool.false_eq_true, if_false]
      omega

theorem blockIndent_auto (N : Nat) (parent : Int) (xs rest : List (List Char))
    (hne : ∃ l ∈ xs, l ≠ []) (hns : firstLineLeadingSpaces.go xs = 0) (hp : parent + 1 ≤ (N : Int)) :
    blockIndent parent 0 (xs.map (spaces N ++ ·) ++ rest) = N := by
  simp only [blockIndent, Nat.lt_irrefl, if_false, detectIndent_auto N xs rest hne hns 0 (Nat.zero_le _)]
  omega

theorem firstLineTab_indented (N : Nat) (hN : 1 ≤ N) (xs : List (List Char)) (hne : xs ≠ []) :
    firstLineTab (xs.map (spaces N ++ ·)) = false := by
  obtain ⟨n, rfl⟩ : ∃ n, N = n + 1 := ⟨N - 1, by omega⟩
  cases xs with
  | nil => exact absurd rfl hne
  | cons x xs => simp [spaces, List.replicate_succ, headSat, firstLineTab]

theorem takeWhile_eq_replicate (l : List Char) :
    l.takeWhile (· == '\n') = List.replicate (l.takeWhile (· == '\n')).length '\n' :=
  List.eq_replicate_iff.mpr ⟨rfl, fun b hb => eq_of_beq (List.all_eq_true.mp List.all_takeWhile b hb)⟩

theorem trimEndNl_spec (v : List Char) :
    v = trimEndNl v ++ nls (v.length - (trimEndNl v).length) ∧ (trimEndNl v).getLast? ≠ some '\n' := by
  unfold trimEndNl
  have hsplit := List.takeWhile_append_dropWhile (p := (· == '\n')) (l := v.reverse)
  have hrep := takeWhile_eq_replicate v.reverse
  have hhead := List.head?_dropWhile_not (· == '\n') v.reverse
  generalize htw : v.reverse.takeWhile (· == '\n') = tw at *
  generalize hdw : v.reverse.dropWhile (· == '\n') = dw at *
  constructor
  · have hv : v = dw.reverse ++ tw.reverse := by
      calc v = v.reverse.reverse := by simp
        _ = (tw ++ dw).reverse := by rw [hsplit]
        _ = dw.reverse ++ tw.reverse := by simp
    have hlen : v.length = tw.length + dw.length := by
      have := congrArg List.length hsplit
      rw [List.length_append, List.length_reverse] at this
      omega
    have : tw.reverse = nls (v.length - dw.reverse.length) := by
      rw [hrep]
      simp only [List.reverse_replicate, List.length_reverse, nls]
      congr 1
      omega
    rw [← this]
    exact hv
  · rw [List.getLast?_reverse]
    intro h
    rw [h] at hhead
    simp at hhead

theorem chompTail_chompOf (body : List Char) (t : Nat) : chompTail (chompOf t) body (t - 1) = body ++ nls t := by
  match t with
  | 0 => simp [chompOf, chompTail, nls]
  | 1 => rfl
  | n + 2 => simp [chompOf, chompTail, nls, List.replicate_succ]

/-- The literal block `serialize_str` writes — header `hdr`, body lines `litLines N v` — is read back as
`v`, when the content is not empty (`v` is not made of line breaks only), the body indentation `N` is
deeper than the parent, and an indentation indicator (needed iff the first non-empty line starts with a
space) is read as `N`: that is, `N ≤ 9` and the parent is at column 0 or the root. -/
theorem literal_read (N : Nat) (parent : Int) (v : List Char) (hN : 1 ≤ N)
    (hcontent : trimEndNl v ≠ [])
    (hauto : firstLineLeadingSpaces (trimEndNl v) = 0 → parent + 1 ≤ (N : Int))
    (hexpl : firstLineLeadingSpaces (trimEndNl v) > 0 → N ≤ 9 ∧ parent ≤ 0) :
    readBlock true parent
      (litHeader (if firstLineLeadingSpaces (trimEndNl v) > 0 then some N else none) (v.length - (trimEndNl v).length))
      (litLines N v) = some (v, []) := by
  obtain ⟨hv, hlast⟩ := trimEndNl_spec v
  generalize hc : trimEndNl v = content at *
  generalize ht : v.length - content.length = t at *
  have hce : content.isEmpty = false := by cases content with | nil => exact absurd rfl hcontent | cons a b => rfl
  have hlines : litLines N v = (splitNl content ++ List.replicate (t - 1) []).map (spaces N ++ ·) := by
    simp only [litLines, hc, ht, hce, Bool.false_eq_true, if_false, List.map_append, List.map_replicate, List.append_nil]
  have hxs_last := splitNl_last content hlast hcontent
  have hbody := blockBody_lit N hN (t - 1) (splitNl content) (splitNl_ne_nil content) hxs_last true false 0 []
  simp only [if_true, List.nil_append, nls, List.replicate_zero, joinNl_splitNl] at hbody
  have hph := parseHeader_lit' (if firstLineLeadingSpaces content > 0 then some N else none)
    (indDigit_range hN fun hf => (hexpl hf).1) t
  have hind : blockIndent parent ((if firstLineLeadingSpaces content > 0 then some N else none : Option Nat).getD 0) (litLines N v) = N := by
    by_cases hf : firstLineLeadingSpaces content > 0
    · have hp := (hexpl hf).2
      simp only [if_pos hf, Option.getD_some, blockIndent, if_pos (show N > 0 by omega)]
      split <;> omega
    · have hz : firstLineLeadingSpaces content = 0 := by omega
      have hex : ∃ l ∈ splitNl content, l ≠ [] := by
        cases hgl : (splitNl content).getLast? with
        | none => simp at hgl; exact absurd hgl (splitNl_ne_nil content)
        | some l => exact ⟨l, List.mem_of_getLast? hgl, hxs_last l hgl⟩
      rw [if_neg hf, hlines, List.map_append]
      exact blockIndent_auto N parent _ _ hex hz (hauto hz)
  unfold readBlock
  rw [hph]
  simp only [hlines ▸ firstLineTab_indented N hN _ (by simp [splitNl_ne_nil]), Bool.false_eq_true, if_false, hind]
  rw [hlines, hbody]
  simp only [Bool.false_eq_true, if_false, Option.some.injEq, Prod.mk.injEq, and_true]
  rw [hv]
  exact chompTail_chompOf content t


def joinLines (ls : List (List Char)) : List Char := ls.flatMap (· ++ ['\n'])

theorem normBreaks_no_cr : ∀ (t : List Char), (∀ c ∈ t, c ≠ '\r') → normBreaks t false = t := by
  intro t
  induction t with
  | nil => intro _; rfl
  | cons a t ih =>
    intro h
    have ha : (a == '\r') = false := by simpa using h a (by simp)
    rw [normBreaks]
    simp only [ha, Bool.false_eq_true, if_false]
    by_cases hn : (a == '\n') = true
    · simp only [hn, if_true]
      rw [ih (fun c hc => h c (by simp [hc]))]
      have := eq_of_beq hn; subst this; rfl
    · have hn' : (a == '\n') = false := by simpa using hn
      simp only [hn', Bool.false_eq_true, if_false]
      rw [ih (fun c hc => h c (by simp [hc]))]

theorem splitNlTerminated_line (l : List Char) (hl : ∀ c ∈ l, c ≠ '\n') (rest cur : List Char) :
    splitNlTerminated (l ++ '\n' :: rest) cur = (splitNlTerminated rest []).map ((cur.reverse ++ l) :: ·) := by
  induction l generalizing cur with
  | nil => simp [splitNlTerminated]
  | cons a l ih =>
    have ha : (a == '\n') = false := by simpa using hl a (by simp)
    simp only [List.cons_append, splitNlTerminated, ha, Bool.false_eq_true, if_false]
    rw [ih (fun c hc => hl c (by simp [hc]))]
    simp

theorem splitNlTerminated_join (ls : List (List Char)) (h : ∀ l ∈ ls, ∀ c ∈ l, c ≠ '\n') :
    splitNlTerminated (joinLines ls) [] = some ls := by
  induction ls with
  | nil => rfl
  | cons l ls ih =>
    have := splitNlTerminated_line l (h l (by simp)) (joinLines ls) []
    simp only [joinLines, List.flatMap_cons, List.append_assoc, List.singleton_append] at this ⊢
    rw [this]
    have ih' := ih (fun l' hl' => h l' (by simp [hl']))
    simp only [joinLines] at ih'
    rw [ih']
    simp

theorem splitLines_join (ls : List (List Char)) (h : ∀ l ∈ ls, ∀ c ∈ l, c ≠ '\n' ∧ c ≠ '\r') :
    splitLines (joinLines ls) [] = some ls := by
  unfold splitLines
  rw [normBreaks_no_cr]
  · exact splitNlTerminated_join ls (fun l hl c hc => (h l hl c hc).1)
  · intro c hc
    simp only [joinLines, List.mem_flatMap, List.mem_append, List.mem_singleton] at hc
    obtain ⟨l, hl, hc⟩ := hc
    rcases hc with hc | hc
    · exact (h l hl c hc).2
    · subst hc; decide

end SaphyrVerif.Lemmas.C12
