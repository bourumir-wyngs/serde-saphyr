import SaphyrVerif.Spec.Expand
/-!
What one call of `next_impl` can do, listed once.  `Served` lists the answers of the inject loop (`serveInject`), `Item` the
outcomes of the parser loop on one raw item, `Loop` and `Call` put them together; each constructor gives the new state as an
explicit update of the old one under the guards that select it, so a fact about every outcome is one `cases`.  Each list is
proved equal to the code in both directions (`served_of` / `Served.eq`, `item_total` / `parserLoop_item`, …): these proofs
are the only walks through the code of `serveInject` and `parserLoop`; everything else about the pump is read off the lists.
-/

/-! ### what the enforcer is shown

The pump calls its optional budget enforcer in three ways; `Obs` names them.  The budget part of an item and of a replayed
delivery is then one notion (`budgetStep`: the enforcer, if there is one, is shown an `Obs`), and a run of the enforcer is a
fold over a list of `Obs` (`feedObs`, `Lemmas/E2EBudgetObs.lean`: its theorems are stated with `Obs`, hence the namespace). -/

namespace SaphyrVerif.Lemmas.E2EBudget
open SaphyrVerif SaphyrVerif.Budget

inductive Obs where
  | raw (r : Raw)          -- `observe`
  | aliasReplayed          -- `observe_alias_to_be_replayed`
  | occupies               -- `alias_occupies_position` (recursion wrappers only)
deriving Repr, DecidableEq

def obsStep (e : Enf) : Obs → Except Breach Enf
  | .raw r => e.observe r
  | .aliasReplayed => e.observeAliasReplayed
  | .occupies => .ok e.aliasOccupiesPosition

/-- the observation the parser loop makes on a raw item -/
def obsItem : Raw → Obs
  | .alias _ => .aliasReplayed
  | r => .raw r

end SaphyrVerif.Lemmas.E2EBudget

/-! three more words the lists share with the step relations of C08 (`Lemmas/C08_Step.lean`) and the state invariant of
C02 (`Good`, `Lemmas/C02_Frames.lean`; `Tab`, the specification's name for the anchor table, is why `Spec` is imported) -/

namespace SaphyrVerif.Lemmas.C08
open SaphyrVerif SaphyrVerif.Pump SaphyrVerif.Budget

/-- the per-anchor expansion count an alias to `id` gets -/
def newCount (p : Pump) (id : Nat) : Nat := min (lookupCount p.perAnchor id + 1) USIZE_MAX

/-- the frame stack after a container start -/
def startFrames (fs : List RecFrame) (anchor : Nat) (ev : Ev) : List RecFrame :=
  record (if anchor != 0 then { id := anchor, depth := 1, buf := [ev] } :: bumpDepthOnStart fs else bumpDepthOnStart fs)
    ev (anchor != 0)

end SaphyrVerif.Lemmas.C08

namespace SaphyrVerif.Lemmas.C02
open SaphyrVerif SaphyrVerif.Pump SaphyrVerif.Spec

def Exhausted (σ : Tab) (fr : InjectFrame) : Prop :=
  ∃ buf, lookupAnchor σ fr.anchorId = some buf ∧ buf.length ≤ fr.idx

end SaphyrVerif.Lemmas.C02

namespace SaphyrVerif.Pump
open SaphyrVerif SaphyrVerif.Scalars SaphyrVerif.Budget
open SaphyrVerif.Lemmas.E2EBudget (Obs obsStep obsItem)
open SaphyrVerif.Lemmas.C08 (newCount startFrames)
open SaphyrVerif.Lemmas.C02 (Exhausted)

/-- the parser loop shows the enforcer `obsItem raw` for an item, the inject loop `.raw (replayRaw ev)` for a replayed
event -/
def budgetStep (b : Option Enf) (o : Obs) : Except Breach (Option Enf) :=
  match b with
  | none => .ok none
  | some enf => (obsStep enf o).map some

theorem ok_of_map_some {x : Except Breach Enf} {bud : Option Enf} (h : x.map some = .ok bud) :
    ∃ E', x = .ok E' ∧ bud = some E' := by
  cases x with
  | error e => cases h
  | ok E' => cases h; exact ⟨E', rfl, rfl⟩

/-- the budget part of the parser loop, as its code spells it -/
theorem budgetStep_item (b : Option Enf) (raw : Raw) :
    (match b with
      | none => (.ok none : Except Breach (Option Enf))
      | some enf =>
        match raw with
        | .alias _ => enf.observeAliasReplayed.map some
        | _ => (enf.observe raw).map some) = budgetStep b (obsItem raw) := by
  cases b with
  | none => rfl
  | some enf => cases raw <;> rfl

theorem budgetStep_of_none {b : Option Enf} (hb : b = none) (o : Obs) : budgetStep b o = .ok b := by
  subst hb
  rfl

/-- what the parser loop does with one raw item that the budget has accepted -/
inductive ItemOut where
  /-- the call returns this step; the rest of the input is left unread -/
  | ret (s : Step) (p : Pump)
  /-- nothing to deliver: the loop goes on with the next item -/
  | cont (p : Pump)
  /-- `DocumentEnd` in single-document mode: the call returns after a look at the next item (`stopTail`) -/
  | stop (p : Pump)

/-- the end of `next_impl` after a `DocumentEnd` in single-document mode: its answer after a look at the next item, and
what is left of the input (the pump is not touched) -/
def stopTail : List RawItem → Step × List RawItem
  | .ev (.docStart _) loc2 :: rest' => (.error (.multipleDocuments loc2), rest')
  | _ :: rest' => (.eof, rest')
  | [] => (.eof, [])

def ItemOut.pump : ItemOut → Pump
  | .ret _ p | .cont p | .stop p => p

def ItemOut.map (f : Pump → Pump) : ItemOut → ItemOut
  | .ret s p => .ret s (f p)
  | .cont p => .cont (f p)
  | .stop p => .stop (f p)

theorem parserLoop_nil (p : Pump) :
    parserLoop p [] =
      if p.producedAny = false then
        (.event (.scalar [] 4 none .plain 0 p.lastLoc), { p with producedAny := true, synthesizedNull := true }, [])
      else (.eof, p, []) := by
  cases h : p.producedAny <;> simp [parserLoop, h]

/-- the answers of the inject loop on the stack `fs`: the frames `dead` on top are exhausted and popped, the frame `fr`
below them answers -/
inductive Served (p : Pump) (fs : List InjectFrame) : Option Step → Pump → Prop
  /-- every frame is exhausted: the stack is cleared and the parser loop takes over -/
  | fall (h : ∀ fr ∈ fs, Exhausted p.anchors fr) : Served p fs none { p with inject := [] }
  | unknown (dead : List InjectFrame) (fr : InjectFrame) (rest : List InjectFrame)
      (hfs : fs = dead ++ fr :: rest) (hd : ∀ fr ∈ dead, Exhausted p.anchors fr)
      (hl : lookupAnchor p.anchors fr.anchorId = none) :
      Served p fs (some (.error (.unknownAnchor p.lastLoc))) { p with inject := fr :: rest }
  | limit (dead : List InjectFrame) (fr : InjectFrame) (rest : List InjectFrame) (buf : List Ev)
      (hfs : fs = dead ++ fr :: rest) (hd : ∀ fr ∈ dead, Exhausted p.anchors fr)
      (hl : lookupAnchor p.anchors fr.anchorId = some buf) (hi : fr.idx < buf.length)
      (hm : p.totalReplayed + 1 > p.limits.maxTotalReplayedEvents) :
      Served p fs
        (some (.error (.replayLimit (p.totalReplayed + 1) p.limits.maxTotalReplayedEvents buf[fr.idx].loc)))
        { p with inject := { fr with idx := fr.idx + 1 } :: rest, totalReplayed := p.totalReplayed + 1 }
  | breach (dead : List InjectFrame) (fr : InjectFrame) (rest : List InjectFrame) (buf : List Ev) (b : Breach)
      (hfs : fs = dead ++ fr :: rest) (hd : ∀ fr ∈ dead, Exhausted p.anchors fr)
      (hl : lookupAnchor p.anchors fr.anchorId = some buf) (hi : fr.idx < buf.length)
      (hm : p.totalReplayed + 1 ≤ p.limits.maxTotalReplayedEvents)
      (hb : budgetStep p.budget (.raw (replayRaw buf[fr.idx])) = .error b) :
      Served p fs (some (.error (.budget b buf[fr.idx].loc)))
        { p with inject := { fr with idx := fr.idx + 1 } :: rest, totalReplayed := p.totalReplayed + 1 }
  | event (dead : List InjectFrame) (fr : InjectFrame) (rest : List InjectFrame) (buf : List Ev) (bud : Option Enf)
      (hfs : fs = dead ++ fr :: rest) (hd : ∀ fr ∈ dead, Exhausted p.anchors fr)
      (hl : lookupAnchor p.anchors fr.anchorId = some buf) (hi : fr.idx < buf.length)
      (hm : p.totalReplayed + 1 ≤ p.limits.maxTotalReplayedEvents)
      (hb : budgetStep p.budget (.raw (replayRaw buf[fr.idx])) = .ok bud) :
      Served p fs (some (.event buf[fr.idx]))
        { p with inject := { fr with idx := fr.idx + 1 } :: rest, totalReplayed := p.totalReplayed + 1, budget := bud,
                 recStack := recordAll p.recStack buf[fr.idx], lastLoc := buf[fr.idx].loc, producedAny := true }

theorem Served.pop {p : Pump} {f : InjectFrame} {fs : List InjectFrame} {r : Option Step} {p' : Pump}
    (hf : Exhausted p.anchors f) (h : Served p fs r p') : Served p (f :: fs) r p' := by
  have hd : ∀ {dead : List InjectFrame}, (∀ fr ∈ dead, Exhausted p.anchors fr) → ∀ fr ∈ f :: dead, Exhausted p.anchors fr :=
    fun h => List.forall_mem_cons.mpr ⟨hf, h⟩
  cases h with
  | fall h => exact .fall (hd h)
  | unknown dead fr rest e h hl => exact .unknown (f :: dead) fr rest (e ▸ rfl) (hd h) hl
  | limit dead fr rest buf e h hl hi hm => exact .limit (f :: dead) fr rest buf (e ▸ rfl) (hd h) hl hi hm
  | breach dead fr rest buf b e h hl hi hm hb => exact .breach (f :: dead) fr rest buf b (e ▸ rfl) (hd h) hl hi hm hb
  | event dead fr rest buf bud e h hl hi hm hb => exact .event (f :: dead) fr rest buf bud (e ▸ rfl) (hd h) hl hi hm hb

theorem serveInject_served (p : Pump) (fs : List InjectFrame) :
    Served p fs (serveInject p fs).1 (serveInject p fs).2 := by
  obtain ⟨pa, sn, lk, inj, anc, rs, bud, ll, lim, tr, pera, sade, sde, rip⟩ := p
  induction fs with
  | nil => exact .fall (List.forall_mem_nil _)
  | cons fr rest ih =>
    rw [serveInject]
    cases hl : lookupAnchor anc fr.anchorId with
    | none => exact .unknown [] fr rest rfl (List.forall_mem_nil _) hl
    | some buf =>
      by_cases hi : fr.idx ≥ buf.length
      · simp only [hi, ↓reduceIte]
        exact ih.pop ⟨buf, hl, hi⟩
      · have hi' : fr.idx < buf.length := Nat.lt_of_not_ge hi
        simp only [hi, ↓reduceIte, List.getElem?_eq_getElem hi']
        by_cases hm : tr + 1 > lim.maxTotalReplayedEvents
        · simp only [hm, ↓reduceIte]
          exact .limit [] fr rest buf rfl (List.forall_mem_nil _) hl hi' hm
        · simp only [hm, ↓reduceIte]
          cases bud with
          | none => exact .event [] fr rest buf none rfl (List.forall_mem_nil _) hl hi' (Nat.le_of_not_gt hm) rfl
          | some enf =>
            simp only []
            cases ho : enf.observe (replayRaw buf[fr.idx]) with
            | error b =>
              refine .breach [] fr rest buf b rfl (List.forall_mem_nil _) hl hi' (Nat.le_of_not_gt hm) ?_
              simp only [budgetStep, obsStep, ho]; rfl
            | ok enf' =>
              refine .event [] fr rest buf (some enf') rfl (List.forall_mem_nil _) hl hi' (Nat.le_of_not_gt hm) ?_
              simp only [budgetStep, obsStep, ho]; rfl

theorem served_of {p : Pump} {fs : List InjectFrame} {r : Option Step} {p' : Pump} (h : serveInject p fs = (r, p')) :
    Served p fs r p' := by
  have := serveInject_served p fs
  rw [h] at this
  exact this

theorem serveInject_spent (p : Pump) {dead : List InjectFrame} (hd : ∀ fr ∈ dead, Exhausted p.anchors fr)
    (fs : List InjectFrame) : serveInject p (dead ++ fs) = serveInject p fs := by
  induction dead with
  | nil => rfl
  | cons f dead ih =>
    obtain ⟨⟨buf, hl, hle⟩, hd⟩ := List.forall_mem_cons.mp hd
    rw [List.cons_append, serveInject, hl]
    simp only [ge_iff_le, hle, ↓reduceIte]
    exact ih hd

theorem Served.eq {p : Pump} {fs : List InjectFrame} {r : Option Step} {p' : Pump} (h : Served p fs r p') :
    serveInject p fs = (r, p') := by
  cases h with
  | fall h =>
    have := serveInject_spent p h []
    rw [List.append_nil] at this
    rw [this]; rfl
  | unknown dead fr rest e hd hl => rw [e, serveInject_spent p hd, serveInject, hl]
  | limit dead fr rest buf e hd hl hi hm =>
    rw [e, serveInject_spent p hd, serveInject, hl]
    simp only [ge_iff_le, Nat.not_le.mpr hi, ↓reduceIte, List.getElem?_eq_getElem hi, hm]
  | breach dead fr rest buf b e hd hl hi hm hb =>
    rw [e, serveInject_spent p hd, serveInject, hl]
    simp only [ge_iff_le, Nat.not_le.mpr hi, ↓reduceIte, List.getElem?_eq_getElem hi, Nat.not_lt.mpr hm]
    revert hb
    cases p.budget with
    | none => intro hb; cases hb
    | some enf =>
      simp only [budgetStep, obsStep]
      cases enf.observe (replayRaw buf[fr.idx]) <;> intro hb <;> cases hb
      rfl
  | event dead fr rest buf bud e hd hl hi hm hb =>
    rw [e, serveInject_spent p hd, serveInject, hl]
    simp only [ge_iff_le, Nat.not_le.mpr hi, ↓reduceIte, List.getElem?_eq_getElem hi, Nat.not_lt.mpr hm]
    revert hb
    cases p.budget with
    | none => intro hb; cases hb; rfl
    | some enf =>
      simp only [budgetStep, obsStep]
      cases enf.observe (replayRaw buf[fr.idx]) <;> intro hb <;> cases hb
      rfl

/-- the state in which the replay of an alias at `loc` starts: the alias counted, its frame pushed -/
def pushed (p : Pump) (id : Nat) (loc : Loc) : Pump :=
  { p with perAnchor := (id, newCount p id) :: p.perAnchor,
           inject := { anchorId := id, idx := 0, refLoc := loc } :: p.inject }

/-- the outcomes of the parser loop on the raw item `raw` at `loc`, the budget part done -/
inductive Item (p : Pump) (loc : Loc) : Raw → ItemOut → Prop
  | folded (val : List Char) (style : Style) (anchor : Nat) (tag : Option (List Char))
      (h : (style == .folded && locCol0 loc && !(trim val).isEmpty) = true) :
      Item p loc (.scalar val style anchor tag) (.ret (.error (.foldedIndent loc)) p)
  | scalar (val : List Char) (style : Style) (anchor : Nat) (tag : Option (List Char))
      (h : (style == .folded && locCol0 loc && !(trim val).isEmpty) = false) :
      Item p loc (.scalar val style anchor tag) (.ret (.event (.scalar val (tagCode tag) tag style anchor loc))
        { p with recStack := recordAll p.recStack (.scalar val (tagCode tag) tag style anchor loc)
                 anchors := if anchor != 0 then
                     setAnchor p.anchors anchor [.scalar val (tagCode tag) tag style anchor loc] else p.anchors
                 lastLoc := loc, producedAny := true })
  | seqStart (anchor : Nat) (tag : Option (List Char)) :
      Item p loc (.seqStart anchor tag) (.ret (.event (.seqStart anchor (tagCode tag) tag loc))
        { p with recStack := startFrames p.recStack anchor (.seqStart anchor (tagCode tag) tag loc)
                 lastLoc := loc, producedAny := true })
  | mapStart (anchor : Nat) (tag : Option (List Char)) :
      Item p loc (.mapStart anchor tag) (.ret (.event (.mapStart anchor loc))
        { p with recStack := startFrames p.recStack anchor (.mapStart anchor loc)
                 lastLoc := loc, producedAny := true })
  | seqEndErr (h : bumpDepthOnEnd p.anchors (recordAll p.recStack (.seqEnd loc)) = none) :
      Item p loc .seqEnd (.ret (.error (.depthUnderflow loc)) { p with recStack := recordAll p.recStack (.seqEnd loc) })
  | seqEnd (as : List (Nat × List Ev)) (fs : List RecFrame)
      (h : bumpDepthOnEnd p.anchors (recordAll p.recStack (.seqEnd loc)) = some (as, fs)) :
      Item p loc .seqEnd (.ret (.event (.seqEnd loc))
        { p with anchors := as, recStack := fs, lastLoc := loc, producedAny := true })
  | mapEndErr (h : bumpDepthOnEnd p.anchors (recordAll p.recStack (.mapEnd loc)) = none) :
      Item p loc .mapEnd (.ret (.error (.depthUnderflow loc)) { p with recStack := recordAll p.recStack (.mapEnd loc) })
  | mapEnd (as : List (Nat × List Ev)) (fs : List RecFrame)
      (h : bumpDepthOnEnd p.anchors (recordAll p.recStack (.mapEnd loc)) = some (as, fs)) :
      Item p loc .mapEnd (.ret (.event (.mapEnd loc))
        { p with anchors := as, recStack := fs, lastLoc := loc, producedAny := true })
  | aliasLimit (id : Nat) (hc : newCount p id > p.limits.maxAliasExpansionsPerAnchor) :
      Item p loc (.alias id)
        (.ret (.error (.aliasExpansionLimit id (newCount p id) p.limits.maxAliasExpansionsPerAnchor loc))
          { p with perAnchor := (id, newCount p id) :: p.perAnchor })
  | aliasDepth (id : Nat) (hc : newCount p id ≤ p.limits.maxAliasExpansionsPerAnchor)
      (hd : p.inject.length + 1 > p.limits.maxReplayStackDepth) :
      Item p loc (.alias id) (.ret (.error (.replayStackDepth (p.inject.length + 1) p.limits.maxReplayStackDepth loc))
        { p with perAnchor := (id, newCount p id) :: p.perAnchor })
  | placeholder (id : Nat) (hc : newCount p id ≤ p.limits.maxAliasExpansionsPerAnchor)
      (hd : p.inject.length + 1 ≤ p.limits.maxReplayStackDepth)
      (ho : p.recStack.any (fun f => f.id == id) = true) (hr : p.recursiveInProgress.contains id = true) :
      Item p loc (.alias id) (.ret (.event (.scalar [] 4 none .plain id loc))
        { p with budget := p.budget.map Enf.aliasOccupiesPosition, perAnchor := (id, newCount p id) :: p.perAnchor
                 recStack := recordAll p.recStack (.scalar [] 4 none .plain id loc), lastLoc := loc
                 producedAny := true })
  | recursive (id : Nat) (hc : newCount p id ≤ p.limits.maxAliasExpansionsPerAnchor)
      (hd : p.inject.length + 1 ≤ p.limits.maxReplayStackDepth)
      (ho : p.recStack.any (fun f => f.id == id) = true) (hr : p.recursiveInProgress.contains id = false) :
      Item p loc (.alias id) (.ret (.error (.recursiveRef loc)) { p with perAnchor := (id, newCount p id) :: p.perAnchor })
  | unknownAlias (id : Nat) (hc : newCount p id ≤ p.limits.maxAliasExpansionsPerAnchor)
      (hd : p.inject.length + 1 ≤ p.limits.maxReplayStackDepth)
      (ho : p.recStack.any (fun f => f.id == id) = false) (hl : lookupAnchor p.anchors id = none) :
      Item p loc (.alias id) (.ret (.error (.unknownAnchor loc)) { p with perAnchor := (id, newCount p id) :: p.perAnchor })
  /-- the alias is replayed: the inject loop answers from the new frame at once -/
  | replay (id : Nat) (buf : List Ev) (hc : newCount p id ≤ p.limits.maxAliasExpansionsPerAnchor)
      (hd : p.inject.length + 1 ≤ p.limits.maxReplayStackDepth)
      (ho : p.recStack.any (fun f => f.id == id) = false) (hl : lookupAnchor p.anchors id = some buf)
      {s : Step} {p' : Pump} (hs : Served (pushed p id loc) (pushed p id loc).inject (some s) p') :
      Item p loc (.alias id) (.ret s p')
  /-- the alias of an empty buffer: nothing to replay, the loop goes on -/
  | spentAlias (id : Nat) (buf : List Ev) (hc : newCount p id ≤ p.limits.maxAliasExpansionsPerAnchor)
      (hd : p.inject.length + 1 ≤ p.limits.maxReplayStackDepth)
      (ho : p.recStack.any (fun f => f.id == id) = false) (hl : lookupAnchor p.anchors id = some buf)
      (hs : ∀ fr ∈ (pushed p id loc).inject, Exhausted p.anchors fr) :
      Item p loc (.alias id) (.cont { p with perAnchor := (id, newCount p id) :: p.perAnchor, inject := [] })
  | docStart (x : Bool) : Item p loc (.docStart x) (.cont { p.resetDocumentState with lastLoc := loc })
  | docEndStop (h : p.stopAtDocEnd = true) :
      Item p loc .docEnd (.stop { p.resetDocumentState with seenDocEnd := true, lastLoc := loc })
  | docEnd (h : p.stopAtDocEnd = false) :
      Item p loc .docEnd (.cont { p.resetDocumentState with seenDocEnd := true, lastLoc := loc })
  | streamStart : Item p loc .streamStart (.cont { p with lastLoc := loc })
  | streamEnd : Item p loc .streamEnd (.cont { p with lastLoc := loc })
  | nothing : Item p loc .nothing (.cont p)

theorem item_total (p : Pump) (loc : Loc) (raw : Raw) : ∃ o, Item p loc raw o := by
  cases raw with
  | scalar val style anchor tag =>
    cases h : (style == .folded && locCol0 loc && !(trim val).isEmpty) with
    | true => exact ⟨_, .folded val style anchor tag h⟩
    | false => exact ⟨_, .scalar val style anchor tag h⟩
  | seqStart anchor tag => exact ⟨_, .seqStart anchor tag⟩
  | mapStart anchor tag => exact ⟨_, .mapStart anchor tag⟩
  | seqEnd =>
    cases h : bumpDepthOnEnd p.anchors (recordAll p.recStack (.seqEnd loc)) with
    | none => exact ⟨_, .seqEndErr h⟩
    | some x => exact ⟨_, .seqEnd x.1 x.2 h⟩
  | mapEnd =>
    cases h : bumpDepthOnEnd p.anchors (recordAll p.recStack (.mapEnd loc)) with
    | none => exact ⟨_, .mapEndErr h⟩
    | some x => exact ⟨_, .mapEnd x.1 x.2 h⟩
  | alias id =>
    by_cases h1 : newCount p id > p.limits.maxAliasExpansionsPerAnchor
    · exact ⟨_, .aliasLimit id h1⟩
    have h1 := Nat.le_of_not_gt h1
    by_cases h2 : p.inject.length + 1 > p.limits.maxReplayStackDepth
    · exact ⟨_, .aliasDepth id h1 h2⟩
    have h2 := Nat.le_of_not_gt h2
    cases h3 : (p.recStack.any fun f => f.id == id) with
    | true =>
      cases h4 : p.recursiveInProgress.contains id with
      | true => exact ⟨_, .placeholder id h1 h2 h3 h4⟩
      | false => exact ⟨_, .recursive id h1 h2 h3 h4⟩
    | false =>
      cases h5 : lookupAnchor p.anchors id with
      | none => exact ⟨_, .unknownAlias id h1 h2 h3 h5⟩
      | some buf =>
        rcases hs : serveInject (pushed p id loc) (pushed p id loc).inject with ⟨_ | s, p'⟩
        · cases served_of hs with
          | fall h => exact ⟨_, .spentAlias id buf h1 h2 h3 h5 h⟩
        · exact ⟨_, .replay id buf h1 h2 h3 h5 (served_of hs)⟩
  | docStart x => exact ⟨_, .docStart x⟩
  | docEnd =>
    cases h : p.stopAtDocEnd with
    | true => exact ⟨_, .docEndStop h⟩
    | false => exact ⟨_, .docEnd h⟩
  | streamStart => exact ⟨_, .streamStart⟩
  | streamEnd => exact ⟨_, .streamEnd⟩
  | nothing => exact ⟨_, .nothing⟩

def ItemOut.run (o : ItemOut) (rest : List RawItem) : Step × Pump × List RawItem :=
  match o with
  | .ret s p' => (s, p', rest)
  | .cont p' => parserLoop p' rest
  | .stop p' => ((stopTail rest).1, p', (stopTail rest).2)

theorem parserLoop_breach {p : Pump} {raw : Raw} {b : Breach} (hb : budgetStep p.budget (obsItem raw) = .error b) (loc : Loc)
    (rest : List RawItem) : parserLoop p (.ev raw loc :: rest) = (.error (.budget b loc), p, rest) := by
  rw [← budgetStep_item] at hb
  rw [parserLoop]
  split
  · rename_i b' heq
    cases (heq.symm.trans hb : Except.error b' = .error b)
    rfl
  · rename_i bud heq
    cases (heq.symm.trans hb : Except.ok bud = .error b)

theorem parserLoop_item {p : Pump} {raw : Raw} {loc : Loc} {bud : Option Enf} {o : ItemOut}
    (hb : budgetStep p.budget (obsItem raw) = .ok bud) (hi : Item { p with budget := bud } loc raw o) (rest : List RawItem) :
    parserLoop p (.ev raw loc :: rest) = o.run rest := by
  have hc : ∀ {id : Nat}, newCount { p with budget := bud } id ≤ p.limits.maxAliasExpansionsPerAnchor →
      ¬ min (lookupCount p.perAnchor id + 1) USIZE_MAX > p.limits.maxAliasExpansionsPerAnchor := Nat.not_lt.mpr
  rw [← budgetStep_item] at hb
  rw [parserLoop]
  split
  · rename_i b heq
    cases (heq.symm.trans hb : Except.error b = .ok bud)
  rename_i bud' heq
  cases (heq.symm.trans hb : Except.ok bud' = .ok bud)
  cases hi with
  | folded val style anchor tag h => simp only [h, ↓reduceIte]; rfl
  | scalar val style anchor tag h =>
    simp only [h, Bool.false_eq_true, ↓reduceIte]
    cases (anchor != 0) <;> rfl
  | seqEndErr h | seqEnd _ _ h | mapEndErr h | mapEnd _ _ h => simp only [h]; rfl
  | aliasLimit id h => simp only [show min _ _ > _ from h, ↓reduceIte]; rfl
  | aliasDepth id h1 h2 => simp only [hc h1, show _ + 1 > _ from h2, ↓reduceIte]; rfl
  | placeholder id h1 h2 h3 h4 =>
    simp only [hc h1, show ¬ _ + 1 > _ from Nat.not_lt.mpr h2, show List.any _ _ = true from h3,
      show List.contains _ _ = true from h4, ↓reduceIte]
    rfl
  | recursive id h1 h2 h3 h4 =>
    simp only [hc h1, show ¬ _ + 1 > _ from Nat.not_lt.mpr h2, show List.any _ _ = true from h3,
      show List.contains _ _ = false from h4, ↓reduceIte, Bool.false_eq_true]
    rfl
  | unknownAlias id h1 h2 h3 h5 =>
    simp only [hc h1, show ¬ _ + 1 > _ from Nat.not_lt.mpr h2, show List.any _ _ = false from h3,
      show lookupAnchor _ _ = none from h5, ↓reduceIte, Bool.false_eq_true]
    rfl
  | replay id buf h1 h2 h3 h5 hs =>
    simp only [hc h1, show ¬ _ + 1 > _ from Nat.not_lt.mpr h2, show List.any _ _ = false from h3,
      show lookupAnchor _ _ = some buf from h5, ↓reduceIte, Bool.false_eq_true]
    exact congrArg (fun x : Option Step × Pump => match x with
      | (some s, p') => (s, p', rest) | (none, p') => parserLoop p' rest) hs.eq
  | spentAlias id buf h1 h2 h3 h5 hs =>
    simp only [hc h1, show ¬ _ + 1 > _ from Nat.not_lt.mpr h2, show List.any _ _ = false from h3,
      show lookupAnchor _ _ = some buf from h5, ↓reduceIte, Bool.false_eq_true]
    exact congrArg (fun x : Option Step × Pump => match x with
      | (some s, p') => (s, p', rest) | (none, p') => parserLoop p' rest)
      (Served.fall (p := pushed { p with budget := bud } id loc) hs).eq
  | docEndStop h =>
    simp only [show ({ p with budget := bud } : Pump).resetDocumentState.stopAtDocEnd = true from h, ↓reduceIte]
    cases rest with
    | nil => rfl
    | cons it rest' =>
      cases it with
      | err ua l => rfl
      | ev r l => cases r <;> rfl
  | docEnd h =>
    simp only [show ({ p with budget := bud } : Pump).resetDocumentState.stopAtDocEnd = false from h,
      Bool.false_eq_true, ↓reduceIte]
    rfl
  | _ => rfl

/-- a call of the parser loop: the items it passes over, then its answer -/
inductive Loop : Pump → List RawItem → Step → Pump → List RawItem → Prop
  /-- the null scalar synthesized for a stream without content -/
  | null (p : Pump) (h : p.producedAny = false) :
      Loop p [] (.event (.scalar [] 4 none .plain 0 p.lastLoc)) { p with producedAny := true, synthesizedNull := true } []
  | eof (p : Pump) (h : p.producedAny = true) : Loop p [] .eof p []
  | scan (p : Pump) (ua : Bool) (loc : Loc) (rest : List RawItem) :
      Loop p (.err ua loc :: rest) (.error (if ua then .unknownAnchor loc else .scan loc)) p rest
  | breach (p : Pump) (raw : Raw) (loc : Loc) (rest : List RawItem) (b : Breach)
      (hb : budgetStep p.budget (obsItem raw) = .error b) : Loop p (.ev raw loc :: rest) (.error (.budget b loc)) p rest
  | ret {p : Pump} {raw : Raw} {loc : Loc} (rest : List RawItem) {bud : Option Enf} {s : Step} {p' : Pump}
      (hb : budgetStep p.budget (obsItem raw) = .ok bud) (hi : Item { p with budget := bud } loc raw (.ret s p')) :
      Loop p (.ev raw loc :: rest) s p' rest
  /-- `DocumentEnd` in single-document mode -/
  | stop {p : Pump} {raw : Raw} {loc : Loc} (rest : List RawItem) {bud : Option Enf} {p' : Pump}
      (hb : budgetStep p.budget (obsItem raw) = .ok bud) (hi : Item { p with budget := bud } loc raw (.stop p')) :
      Loop p (.ev raw loc :: rest) (stopTail rest).1 p' (stopTail rest).2
  | pass {p : Pump} {raw : Raw} {loc : Loc} {rest : List RawItem} {bud : Option Enf} {p1 : Pump} {s : Step} {p' : Pump}
      {rest' : List RawItem} (hb : budgetStep p.budget (obsItem raw) = .ok bud)
      (hi : Item { p with budget := bud } loc raw (.cont p1)) (h : Loop p1 rest s p' rest') :
      Loop p (.ev raw loc :: rest) s p' rest'

theorem parserLoop_loop (p : Pump) (inp : List RawItem) :
    Loop p inp (parserLoop p inp).1 (parserLoop p inp).2.1 (parserLoop p inp).2.2 := by
  induction inp generalizing p with
  | nil =>
    rw [parserLoop_nil]
    cases h : p.producedAny with
    | false => exact .null p h
    | true => exact .eof p h
  | cons it rest ih =>
    cases it with
    | err ua loc => exact .scan p ua loc rest
    | ev raw loc =>
      cases hb : budgetStep p.budget (obsItem raw) with
      | error b => rw [parserLoop_breach hb]; exact .breach p raw loc rest b hb
      | ok bud =>
        obtain ⟨o, hi⟩ := item_total { p with budget := bud } loc raw
        rw [parserLoop_item hb hi]
        cases o with
        | ret s p' => exact .ret rest hb hi
        | cont p1 => exact .pass hb hi (ih p1)
        | stop p' => exact .stop rest hb hi

theorem loop_of {p : Pump} {inp : List RawItem} {s : Step} {p' : Pump} {rest : List RawItem}
    (h : parserLoop p inp = (s, p', rest)) : Loop p inp s p' rest := by
  have := parserLoop_loop p inp
  rw [h] at this
  exact this

/-- a call of `next_impl`: a live replay frame answers, or the parser loop does -/
inductive Call (p : Pump) (inp : List RawItem) : Step → Pump → List RawItem → Prop
  | served {s : Step} {p' : Pump} (hs : Served p p.inject (some s) p') : Call p inp s p' inp
  | loop {s : Step} {p' : Pump} {rest : List RawItem} (hs : ∀ fr ∈ p.inject, Exhausted p.anchors fr)
      (hl : Loop { p with inject := [] } inp s p' rest) : Call p inp s p' rest

theorem call_of {p : Pump} {inp : List RawItem} {s : Step} {p' : Pump} {rest : List RawItem}
    (h : nextImpl p inp = (s, p', rest)) : Call p inp s p' rest := by
  unfold nextImpl at h
  have hs := serveInject_served p p.inject
  revert hs h
  generalize serveInject p p.inject = r
  obtain ⟨_ | s0, p1⟩ := r
  · intro h hs
    cases hs with
    | fall hs => exact .loop hs (loop_of h)
  · intro h hs
    cases h
    exact .served hs

theorem Loop.eq {p : Pump} {inp : List RawItem} {s : Step} {p' : Pump} {rest : List RawItem}
    (h : Loop p inp s p' rest) : parserLoop p inp = (s, p', rest) := by
  induction h with
  | null p h => rw [parserLoop_nil, if_pos h]
  | eof p h => rw [parserLoop_nil, if_neg (by rw [h]; exact Bool.noConfusion)]
  | scan => rfl
  | breach p raw loc rest b hb => exact parserLoop_breach hb loc rest
  | ret rest hb hi => exact parserLoop_item hb hi rest
  | stop rest hb hi => exact parserLoop_item hb hi rest
  | pass hb hi _ ih => exact (parserLoop_item hb hi _).trans ih

theorem Call.eq {p : Pump} {inp : List RawItem} {s : Step} {p' : Pump} {rest : List RawItem}
    (h : Call p inp s p' rest) : nextImpl p inp = (s, p', rest) := by
  unfold nextImpl
  cases h with
  | served hs => rw [hs.eq]
  | loop hs hl => rw [(Served.fall hs).eq]; exact hl.eq

end SaphyrVerif.Pump
