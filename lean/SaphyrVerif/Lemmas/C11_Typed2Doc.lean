import SaphyrVerif.Lemmas.C11_Typed2Pump
/-!
Typed multi-document theorems (C11): document boundaries of a pump with the optional per-document enforcer, and ONE
document that such a pump delivers completely (`DocServe`).  At a boundary (`BoundaryB`: the per-document state is the
initial one) the `DocumentStart` marker resets the enforcer and is counted as the first event of the new document
(`startEnf`, `Props.C07.perdoc_position_independent`), so the start state (`StartB`) does not depend on anything the
earlier documents did; the recovery `skip_to_next_document` reaches the same state through `begin_document_at`
(`skip_from_docB`).  The two loops of `Model/Entry.lean` use a served document only through its frame `docCtxB` (replay
cursor over its events against the live cursor): `doc_startB`, `doc_endB`.
-/
namespace SaphyrVerif.Lemmas.C11B
open SaphyrVerif SaphyrVerif.Scalars SaphyrVerif.Pump SaphyrVerif.De SaphyrVerif.Spec SaphyrVerif.Budget SaphyrVerif.Entry
open SaphyrVerif.Lemmas.C02 (Exhausted clr)
open SaphyrVerif.Lemmas.C11 (Boundary Doc)
open SaphyrVerif.Lemmas.C11T (RunP J skipLoop_neutral itemsOf_neutral DocOk peek_congr)
open SaphyrVerif.Lemmas.Frame (Ctx FSim pos)

/-- the enforcer (if any) accepts the `DocumentEnd` marker of the document — the last event charged to it: the event
count is still within `max_events`, and the alias/anchor ratio check that the per-document policy makes at the
`DocumentEnd` (`BudgetEnforcer::ratio_breach`) is silent -/
def TrailOk (b : Option Enf) : Prop :=
  ∀ E, b = some E → E.report.events + 1 ≤ E.lim.maxEvents ∧ E.ratioBreach = none

def FinOk (p : Pump) : Prop := (Pump.finish p).1 = none

structure BoundaryB (L : AliasLimits) (ob : Option Limits) (q : Pump) : Prop where
  bud : BudStat ob q.budget
  rip : q.recursiveInProgress = []
  inj : q.inject = []
  rs : q.recStack = []
  anc : q.anchors = []
  per : q.perAnchor = []
  tot : q.totalReplayed = 0
  lim : q.limits = L
  sade : q.stopAtDocEnd = false

theorem boundaryB_none {L : AliasLimits} {q : Pump} : BoundaryB L none q ↔ Boundary L q := by
  constructor
  · intro h
    have hb : q.budget = none := by
      have := h.bud
      cases hq : q.budget with
      | none => rfl
      | some E => rw [hq] at this; exact this.elim
    exact ⟨hb, h.rip, h.inj, h.rs, h.anc, h.per, h.tot, h.lim, h.sade⟩
  · intro h
    exact ⟨(by rw [h.bud]; trivial), h.rip, h.inj, h.rs, h.anc, h.per, h.tot, h.lim, h.sade⟩

structure StartB (L : AliasLimits) (ob : Option Limits) (ls : Loc) (q : Pump) : Prop where
  max1 : ∀ lim, ob = some lim → 1 ≤ lim.maxEvents
  bud : q.budget = freshBud ob
  look : q.look = none
  loc : q.lastLoc = ls
  sde : q.seenDocEnd = false
  rip : q.recursiveInProgress = []
  inj : q.inject = []
  rs : q.recStack = []
  anc : q.anchors = []
  per : q.perAnchor = []
  tot : q.totalReplayed = 0
  lim : q.limits = L
  sade : q.stopAtDocEnd = false

/-- the pump after a `DocumentStart` marker met at a document boundary -/
def startB (ob : Option Limits) (q : Pump) (ls : Loc) : Pump :=
  { q.resetDocumentState with lastLoc := ls, budget := freshBud ob }

theorem startB_start {L : AliasLimits} {ob : Option Limits} {q : Pump} (h : BoundaryB L ob q) (hl : q.look = none)
    (ls : Loc) : StartB L ob ls (startB ob q ls) ∧ (startB ob q ls).producedAny = q.producedAny := by
  refine ⟨⟨budStat_max1 h.bud, rfl, hl, rfl, rfl, h.rip, rfl, rfl, rfl, rfl, rfl, h.lim, h.sade⟩, rfl⟩

theorem StartB.statB {L : AliasLimits} {ob : Option Limits} {ls : Loc} {q : Pump} (h : StartB L ob ls q) :
    StatB L ob q :=
  ⟨by rw [h.bud]; exact budStat_fresh ob h.max1, h.rip, h.lim, h.sade⟩

theorem budgetStep_docStart {ob : Option Limits} {b : Option Enf} (h : BudStat ob b) (x : Bool) :
    budgetStep b (E2EBudget.obsItem (.docStart x)) = .ok (freshBud ob) := by
  rcases h.cases with ⟨rfl, rfl⟩ | ⟨lim, E, rfl, rfl, hE⟩
  · rfl
  · simp only [budgetStep, E2EBudget.obsItem, E2EBudget.obsStep, observe_docStart_stat hE x]; rfl

theorem step_docStartB {L : AliasLimits} {ob : Option Limits} {q : Pump} (h : BoundaryB L ob q) (ex : Bool) (ls : Loc)
    (X : List RawItem) : nextImpl q (.ev (.docStart ex) ls :: X) = nextImpl (startB ob q ls) X := by
  rw [nextImpl_of_inject_nil h.inj, nextImpl_of_inject_nil (by rfl : (startB ob q ls).inject = []),
    parserLoop_item (budgetStep_docStart h.bud ex) (.docStart ex)]
  rfl

/-- the pump stands in front of the document-end marker of the current document (`R` = that marker and the rest
of the stream), no replay is pending, and the enforcer (if any) can pass that marker and has a silent ratio check -/
def AtEndB (L : AliasLimits) (ob : Option Limits) (R : List RawItem) (p : Pump) (inp : List RawItem) : Prop :=
  inp = R ∧ (∀ fr ∈ p.inject, Exhausted p.anchors fr) ∧ p.producedAny = true ∧ StatB L ob p ∧ TrailOk p.budget

def bumpEvents (E : Enf) : Enf := { E with report := { E.report with events := E.report.events + 1 } }

theorem observe_docEnd (E : Enf) (he : E.report.events + 1 ≤ E.lim.maxEvents) (hr : E.ratioBreach = none) :
    E.observe .docEnd = .ok (bumpEvents E) := by
  have : ¬ (E.report.events + 1 > E.lim.maxEvents) := by omega
  rw [Lemmas.C07.observe_plain E rfl rfl]
  simp only [Enf.observeCounted, Lemmas.C07.ratioBreach_events, hr, if_neg this]
  cases hp : E.perDocument <;> simp [bumpEvents, hp]

/-- stream framing is not charged under the per-document policy -/
theorem observe_frame_stat {lim : Limits} {E : Enf} (h : EnfStat lim E) {ev : Raw}
    (hf : Lemmas.C07.isStreamFrame ev = true) : E.observe ev = .ok E :=
  Lemmas.C07.observe_frame_pd h.2.1 hf

theorem bumpEvents_stat {lim : Limits} {E : Enf} (h : EnfStat lim E) : EnfStat lim (bumpEvents E) := h

/-- per-document policy: `finalize` is silent (the ratio was judged at the `DocumentEnd`) -/
theorem bumpEvents_finalize {lim : Limits} {E : Enf} (h : EnfStat lim E) : (bumpEvents E).finalize.2 = none :=
  Lemmas.C07.finalize_snd_pd _ h.2.1

def endB (p : Pump) (le : Loc) : Pump :=
  { (clr p).resetDocumentState with seenDocEnd := true, lastLoc := le, budget := p.budget.map bumpEvents }

theorem budgetStep_frame {ob : Option Limits} {b : Option Enf} (h : BudStat ob b) {raw : Raw}
    (hf : Lemmas.C07.isStreamFrame raw = true) : budgetStep b (E2EBudget.obsItem raw) = .ok b := by
  rcases h.cases with ⟨rfl, rfl⟩ | ⟨lim, E, rfl, rfl, hE⟩
  · rfl
  · cases raw <;> first | (simp only [budgetStep, E2EBudget.obsItem, E2EBudget.obsStep, observe_frame_stat hE hf]; rfl) | cases hf

theorem budgetStep_docEnd {b : Option Enf} (ht : TrailOk b) : budgetStep b (E2EBudget.obsItem .docEnd) = .ok (b.map bumpEvents) := by
  cases b with
  | none => rfl
  | some E => simp only [budgetStep, E2EBudget.obsItem, E2EBudget.obsStep, observe_docEnd E (ht E rfl).1 (ht E rfl).2]; rfl

theorem step_docEndB {L : AliasLimits} {ob : Option Limits} {R : List RawItem} {p : Pump} {inp : List RawItem}
    (h : AtEndB L ob R p inp) (le : Loc) (X : List RawItem) :
    nextImpl p (.ev .docEnd le :: X) = nextImpl (endB p le) X ∧ BoundaryB L ob (endB p le) ∧
      (endB p le).producedAny = true ∧ FinOk (endB p le) ∧ (endB p le).look = p.look := by
  obtain ⟨-, hinj, hpa, hst, htr⟩ := h
  refine ⟨?_, ⟨?_, hst.rip, rfl, rfl, rfl, rfl, rfl, hst.lim, hst.sade⟩, hpa, ?_, rfl⟩
  · have hn : nextImpl p (.ev .docEnd le :: X) = parserLoop (clr p) (.ev .docEnd le :: X) := by
      simp only [nextImpl, Lemmas.C02.serveInject_exhausted p p.inject hinj]
    rw [hn, nextImpl_of_inject_nil (by rfl : (endB p le).inject = []),
      parserLoop_item (p := clr p) (budgetStep_docEnd htr) (.docEnd hst.sade)]
    rfl
  · show BudStat ob (p.budget.map bumpEvents)
    rcases hst.bud.cases with ⟨rfl, hq⟩ | ⟨lim, E, rfl, hq, hE⟩ <;> rw [hq]
    · trivial
    · exact bumpEvents_stat hE
  · show (Pump.finish (endB p le)).1 = none
    have hbud : (endB p le).budget = p.budget.map bumpEvents := rfl
    rcases hst.bud.cases with ⟨rfl, hq⟩ | ⟨lim, E, rfl, hq, hE⟩
    · simp [Pump.finish, hbud, hq]
    · simp only [Pump.finish, hbud, hq, Option.map_some, bumpEvents_finalize hE, Option.map_none]

/-- `skip_to_next_document` from anywhere inside a document of a stream -/
theorem skip_from_docB {L : AliasLimits} {ob : Option Limits} {le : Loc} {X : List RawItem} {q3 : Pump}
    {inq3 : List RawItem} (hst : StatB L ob q3) (hJ : J (.ev .docEnd le :: X) inq3) :
    (∀ l1, X = [.ev .streamEnd l1] → (skipToNextDocument q3 inq3).1 = false) ∧
    (∀ ex ls Y, X = .ev (.docStart ex) ls :: Y → ∃ q4, skipToNextDocument q3 inq3 = (true, q4, Y) ∧
      StartB L ob ls q4 ∧ q4.producedAny = false) := by
  obtain ⟨B, rfl, hB⟩ := hJ
  -- the loop passes over the node items `B` and stands at the end marker of the document
  obtain ⟨l, hl⟩ := skipLoop_neutral B hB (.ev .docEnd le :: X) { q3 with look := none, inject := [], recStack := [] }
  unfold skipToNextDocument
  rw [hl]
  refine ⟨?_, ?_⟩
  · rintro l1 rfl
    simp [skipLoop]
  · rintro ex ls Y rfl
    have hsb : skipBudget q3.budget (.docStart ex) = some (freshBud ob) := skipBudget_stat hst.bud ex
    simp only [skipLoop, Pump.resetDocumentState, hsb]
    refine ⟨_, rfl, ?_, rfl⟩
    exact ⟨budStat_max1 hst.bud, rfl, rfl, rfl, rfl, hst.rip, rfl, rfl, rfl, rfl, rfl, hst.lim, hst.sade⟩

/-- a start state reached by the recovery is what the `DocumentStart` marker makes of itself: the marker can be
put back in front of it -/
theorem start_readd {L : AliasLimits} {ob : Option Limits} {ls : Loc} {q : Pump} (h : StartB L ob ls q) :
    BoundaryB L ob q ∧ startB ob q ls = q := by
  constructor
  · exact ⟨by rw [h.bud]; exact budStat_fresh ob h.max1, h.rip, h.inj, h.rs, h.anc, h.per, h.tot, h.lim, h.sade⟩
  · obtain ⟨h0, h1, h2, h3, h4, h5, h6, h7, h8, h9, h10, h11, h12⟩ := h
    cases q
    simp_all [startB, Pump.resetDocumentState]

/-- from every start state the pump (with its enforcer, if any) delivers the events `evs` of the document and
stands in front of its end marker, able to pass it -/
structure DocServe (L : AliasLimits) (ob : Option Limits) (d : Doc) (evs : List Ev) : Prop where
  ok : DocOk L d.1 evs
  run : ∀ (q1 : Pump) (R : List RawItem), StartB L ob d.2.2.1 q1 →
    RunP (AtEndB L ob R) q1 (itemsOf d.1 ++ R) evs

/-- without an enforcer every good document is served: the node lemma of C02 from the empty anchor table, the
limits of `DocOk` excluding its two kinds of stops -/
theorem docServe_none {L : AliasLimits} {d : Doc} {evs : List Ev} (h : DocOk L d.1 evs) : DocServe L none d evs := by
  refine ⟨h, fun q1 R hq1 => ?_⟩
  have hb : Boundary L q1 :=
    ⟨hq1.bud, hq1.rip, hq1.inj, hq1.rs, hq1.anc, hq1.per, hq1.tot, hq1.lim, hq1.sade⟩
  obtain ⟨r, hexp, rfl, hrep⟩ := h.exp
  obtain ⟨p1, hs, hpost⟩ := Lemmas.C02.node_within hb.good hb.anc hb.rs d.1 R hexp h.nf
    (hb.not_exceeds h.depth hrep h.cnt)
  refine RunP.of_steps hs ⟨rfl, hpost.good.inj, hpost.prod (Or.inr hs.ne_nil_of_items),
    ⟨by rw [hpost.good.bud]; trivial, hpost.good.rip, hpost.lim.trans hb.lim, hpost.sade.trans hb.sade⟩, ?_⟩
  intro E hE
  rw [hpost.good.bud] at hE
  cases hE

def docCtxB (L : AliasLimits) (ob : Option Limits) (R : List RawItem) (evs : List Ev) : Ctx :=
  ⟨evs, none, LiveInvB L ob R (AtEndB L ob R)⟩

theorem docCtxB_ok {L : AliasLimits} {ob : Option Limits} {t : LNode} {evs : List Ev} (h : DocOk L t evs)
    (R : List RawItem) : (docCtxB L ob R evs).Ok := by
  obtain ⟨n, rfl⟩ := h.tree
  refine ⟨(Lemmas.C05.eflatten_bal n).1, (Lemmas.C05.eflatten_bal n).2, ?_, ?_⟩
  · intro q h0 h1
    exact Lemmas.C05.eflatten_prefix_pos n q h0 h1
  · exact liveInvB_step (fun p inp hk => hk.1)

theorem doc_first_peekB {L : AliasLimits} {ob : Option Limits} {d : Doc} {evs : List Ev} (h : DocServe L ob d evs)
    {q1 : Pump} (hq1 : StartB L ob d.2.2.1 q1) (R : List RawItem) :
    ∃ e0 tl d1, evs = e0 :: tl ∧ Lemmas.C05.Ev.isOpen e0 = true ∧ (∀ v tg rt st a l, e0 = .scalar v tg rt st a l → tl = []) ∧
      Cur.peek (.live q1 (itemsOf d.1 ++ R)) = .ok (some e0) d1 ∧
      (docCtxB L ob R evs).Inv d1 evs := by
  have hrun := h.run q1 R hq1
  obtain ⟨e0, tl, hcons, hopen, hsc⟩ := h.ok.head
  have hI : LiveInvB L ob R (AtEndB L ob R) (.live q1 (itemsOf d.1 ++ R)) evs :=
    ⟨_, _, rfl, hq1.statB, ⟨itemsOf d.1, rfl, itemsOf_neutral d.1⟩, .inl ⟨hq1.look, hrun⟩⟩
  rw [hcons] at hI
  obtain ⟨⟨d1, hp, hI1⟩, -⟩ := liveInvB_step (fun p inp hk => hk.1) _ _ _ hI
  exact ⟨e0, tl, d1, hcons, hopen, hsc, hp, by rw [hcons]; exact hI1⟩

/-- the START of a served document, met at a document boundary: behind the `DocumentStart` marker the live cursor
serves the document (in the sense of the document's frame, from the replay cursor at its first event), and the loops
cannot tell the cursor in front of the marker from it -/
theorem doc_startB {L : AliasLimits} {ob : Option Limits} {d : Doc} {evs : List Ev} (h : DocServe L ob d evs)
    {q : Pump} (hq : BoundaryB L ob q) (hl : q.look = none) (X : List RawItem) :
    ∃ p inp, FSim (docCtxB L ob (.ev .docEnd d.2.2.2 :: X) evs) (.replay evs 0 none) (.live p inp) ∧
      Cur.peek (.live q (.ev (.docStart d.2.1) d.2.2.1 :: (itemsOf d.1 ++ .ev .docEnd d.2.2.2 :: X))) =
        Cur.peek (.live p inp) := by
  obtain ⟨hq1, -⟩ := startB_start hq hl d.2.2.1
  refine ⟨_, _, FSim.mk' (docCtxB_ok h.ok _) (Nat.zero_le _) ?_, peek_congr hl hq1.look (step_docStartB hq d.2.1 d.2.2.1 _)⟩
  exact ⟨_, _, rfl, hq1.statB, ⟨itemsOf d.1, rfl, itemsOf_neutral d.1⟩, .inl ⟨hq1.look, h.run _ _ hq1⟩⟩

/-- the END: a cursor that has served the whole document stands in front of the document-end marker; the loops cannot
tell it from the cursor just after that marker, which is at a document boundary -/
theorem doc_endB {L : AliasLimits} {ob : Option Limits} {le : Loc} {X : List RawItem} {evs : List Ev} {c d : Cur}
    (hs : FSim (docCtxB L ob (.ev .docEnd le :: X) evs) c d) (hpos : pos c = evs.length) :
    ∃ q2, BoundaryB L ob q2 ∧ q2.look = none ∧ q2.producedAny = true ∧ FinOk q2 ∧
      Cur.peek d = Cur.peek (.live q2 X) := by
  have hI := hs.inv
  rw [hpos] at hI
  simp only [docCtxB, List.drop_length] at hI
  obtain ⟨p2, inq, rfl, hst, hl, hk⟩ := liveInvB_nil hI
  have hinq : inq = .ev .docEnd le :: X := hk.1
  subst hinq
  obtain ⟨hn, hb, hpa, hfin, hlook⟩ := step_docEndB hk le X
  exact ⟨endB p2 le, hb, hlook.trans hl, hpa, hfin, peek_congr hl (hlook.trans hl) hn⟩

end SaphyrVerif.Lemmas.C11B
