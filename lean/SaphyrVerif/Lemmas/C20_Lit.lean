import SaphyrVerif.Lemmas.C13_Lines
import SaphyrVerif.Lemmas.C12Literal
/-!
The explicit literal block string (`LitStr`) at the root: the text the emitter writes (`litText`) and the strings of
the proved case (`LitOk`); and the facts about line splitting, chomping and trailing empty lines that the block-scalar
layout (`Lemmas/C13_Block*.lean`) is built on.  Those about `splitNl` / `joinNl` / `trimEndNl` are C12's
(`Lemmas/C12Literal.lean`, for the functions of `Model/SerScalar.lean`), carried over by `splitNl_eq`, `joinNl_eq`.
The round trip of `LitStr` is the literal leaf of that layout with the body at column 2 (`emit_litStr`, `read_litText`
in `Lemmas/C13_Block.lean`).
-/
namespace SaphyrVerif.Emit

/-- chomping indicator for `t` trailing line feeds -/
def chompChars : Nat → List Char
  | 0 => ['-']
  | 1 => []
  | _ => ['+']

def litBody (lines : List (List Char)) : List Char := lines.flatMap fun l => ' ' :: ' ' :: l ++ ['\n']

/-- the lines of the body: the content lines, then one empty line per trailing line feed beyond the first -/
def litLines (s : List Char) : List (List Char) :=
  splitNl (trimEndNl s) ++ List.replicate (s.length - (trimEndNl s).length - 1) []

/-- the text of `LitStr(s)` at the root (indent step 2, no indentation indicator) -/
def litText (s : List Char) : List Char :=
  '|' :: chompChars (s.length - (trimEndNl s).length) ++ '\n' :: litBody (litLines s)

/-- the strings of the proved case: no control character other than LF / TAB (with CR, NUL, NEL, …
the emitter falls back to a quoted scalar), some content before the trailing line feeds, first
non-empty line not starting with a blank (no indentation indicator needed) -/
structure LitOk (s : List Char) : Prop where
  noCtl : (s.any fun c => isControl c && c != '\n' && c != '\t') = false
  content : trimEndNl s ≠ []
  noIndicator : firstLineLeadingSpaces (trimEndNl s) = 0

theorem foldl_range_eq (ind : List Char) : ∀ (n : Nat) (s : St),
    (List.range n).foldl (fun s _ => writeBodyLine ind [] s) s =
      (List.replicate n ([] : List Char)).foldl (fun s l => writeBodyLine ind l s) s
  | 0, s => rfl
  | n + 1, s => by
    rw [List.range_succ, List.replicate_succ', List.foldl_append, List.foldl_append, foldl_range_eq ind n s]
    rfl

theorem takeWhile_space_replicate (x : List Char) :
    x.takeWhile (· == ' ') = List.replicate (x.takeWhile (· == ' ')).length ' ' := by
  induction x with
  | nil => rfl
  | cons c cs ih =>
    by_cases h : c = ' '
    · subst h; simp only [List.takeWhile_cons, beq_self_eq_true, if_true, List.length_cons, List.replicate_succ]
      rw [← ih]
    · simp [h]

/-- the emitter model's line splitter (structural) and the scalar writer model's (with an accumulator) are one function -/
theorem splitNl_go_eq : ∀ (s cur : List Char), SerScalar.splitNl.go s cur =
    (match splitNl s with
     | [] => [cur.reverse]
     | l :: ls => (cur.reverse ++ l) :: ls)
  | [], cur => by simp [SerScalar.splitNl.go, splitNl]
  | c :: cs, cur => by
    have ih1 := splitNl_go_eq cs []
    have ih2 := splitNl_go_eq cs (c :: cur)
    rw [SerScalar.splitNl.go, splitNl_cons]
    cases h : splitNl cs with
    | nil => exact absurd h (splitNl_ne_nil cs)
    | cons l ls =>
      rw [h] at ih1 ih2
      by_cases hc : c = '\n' <;> simp [hc, ih1, ih2]

theorem splitNl_eq (s : List Char) : splitNl s = SerScalar.splitNl s := by
  have := splitNl_go_eq s []
  cases h : splitNl s with
  | nil => exact absurd h (splitNl_ne_nil s)
  | cons l ls => rw [h] at this; simpa [SerScalar.splitNl] using this.symm

theorem joinNl_eq : ∀ (ls : List (List Char)), joinNl ls = Lemmas.C12.joinNl ls
  | [] => rfl
  | [_] => rfl
  | l :: m :: r => by
    rw [Lemmas.C12.joinNl, ← joinNl_eq (m :: r), joinNl]
    · simp
    · simp

theorem mem_splitNl_ne_nl (t : List Char) : ∀ l ∈ splitNl t, ∀ c ∈ l, c ≠ '\n' := by
  rw [splitNl_eq]; exact (Lemmas.C12.splitNl_spec t).2.2

theorem joinNl_splitNl (t : List Char) : joinNl (splitNl t) = t := by
  rw [joinNl_eq, splitNl_eq]; exact Lemmas.C12.joinNl_splitNl t

theorem trimEndNl_split (s : List Char) :
    s = trimEndNl s ++ List.replicate (s.length - (trimEndNl s).length) '\n' ∧
    (trimEndNl s).getLast? ≠ some '\n' := Lemmas.C12.trimEndNl_spec s

theorem find?_append_left {α : Type} (p : α → Bool) (a b : List α) (x : α) (h : a.find? p = some x) :
    (a ++ b).find? p = some x := by
  rw [List.find?_append, h]; rfl

theorem splitNl_getLast_ne (t : List Char) (hne : t ≠ []) (hl : t.getLast? ≠ some '\n') :
    ∃ init l, splitNl t = init ++ [l] ∧ l ≠ [] := by
  have h := splitNl_ne_nil t
  refine ⟨_, _, (List.dropLast_concat_getLast h).symm, Lemmas.C12.splitNl_last t hl hne _ ?_⟩
  rw [← splitNl_eq, List.getLast?_eq_getLast h]

theorem stripTrailingEmpty_append (init : List (List Char)) (l : List Char) (hl : l ≠ []) (n : Nat) :
    stripTrailingEmpty (init ++ [l] ++ List.replicate n []) = (init ++ [l], n) := by
  have hle : l.isEmpty = false := by cases l <;> simp_all
  have hdw : List.dropWhile (fun (x : List Char) => x.isEmpty) (List.replicate n ([] : List Char) ++ l :: init.reverse) = l :: init.reverse := by
    induction n with
    | zero => simp [hle]
    | succ k ih => simp [List.replicate_succ, ih]
  simp only [stripTrailingEmpty, List.reverse_append, List.reverse_replicate, List.reverse_cons, List.reverse_nil,
    List.nil_append, List.singleton_append, hdw, List.reverse_reverse, List.length_append, List.length_replicate,
    List.length_cons, List.length_nil]
  simp

def chompOf : Nat → Chomp
  | 0 => .strip
  | 1 => .clip
  | _ => .keep

theorem blockHeader_chomp : ∀ t, blockHeader (chompChars t) = some (none, chompOf t)
  | 0 => rfl
  | 1 => rfl
  | _ + 2 => rfl

theorem chompChars_mem (t : Nat) : ∀ c ∈ chompChars t, c = '-' ∨ c = '+' := by
  match t with
  | 0 => simp [chompChars]
  | 1 => simp [chompChars]
  | t + 2 => simp [chompChars]

theorem mem_splitNl_mem (t : List Char) : ∀ l ∈ splitNl t, ∀ x ∈ l, x ∈ t := by
  intro l hl x hx
  have := Lemmas.C12.joinNl_mem (splitNl t) l hl x hx
  rwa [← joinNl_eq, joinNl_splitNl] at this

end SaphyrVerif.Emit
