import SaphyrVerif.Lemmas.E2EBudgetShape
import SaphyrVerif.Lemmas.E2EBudgetMono
/-!
End-to-end composition with the budget enforcer (enforcer level): what the enforcer does with the
observations of a pump run — raw events, replayed events without anchor and tag, and
`observe_alias_to_be_replayed` calls — compared with what it does (`Budget.run`, the subject of `Props/C07`) with
the stream of the same events stripped of anchors and tags and without the alias calls: same nesting depth,
container stack, node / byte / document counters, at most as many merge keys; the event counter is ahead by the
number of alias calls, which is the alias counter; the anchors are those of the raw events.
-/
namespace SaphyrVerif.Lemmas.E2EBudget
open SaphyrVerif.Budget SaphyrVerif.Spec
open SaphyrVerif.Lemmas.C07

/-- the limits the stripped stream is run under: `K` events are set aside for the alias calls -/
def limX (lim : Limits) (K : Nat) : Limits := { lim with maxEvents := lim.maxEvents - K }

/-- enforcer over the pump's observations (`e`, after `k` alias calls) versus enforcer over the stripped stream
(`eX`) -/
structure SimRel (lim : Limits) (K : Nat) (e eX : Enf) (k : Nat) : Prop where
  lim_e : e.lim = lim
  lim_x : eX.lim = limX lim K
  pd_e : e.perDocument = false
  pd_x : eX.perDocument = false
  within_x : Within eX
  depth : e.depth = eX.depth
  containers : e.containers = eX.containers
  events : e.report.events = eX.report.events + k
  aliases : e.report.aliases = k
  documents : e.report.documents = eX.report.documents
  nodes : e.report.nodes = eX.report.nodes
  maxDepth : e.report.maxDepth = eX.report.maxDepth
  bytes : e.report.totalScalarBytes = eX.report.totalScalarBytes
  mergeKeys : e.report.mergeKeys ≤ eX.report.mergeKeys

theorem erase_kinds (r : Raw) :
    isNodeEv (erase r) = isNodeEv r ∧ isStart (erase r) = isStart r ∧ isEnd (erase r) = isEnd r ∧
    isDocStart (erase r) = isDocStart r ∧ isAliasEv (erase r) = isAliasEv r ∧ scalarBytesOf (erase r) = scalarBytesOf r := by
  cases r <;> simp [erase, isNodeEv, isStart, isEnd, isDocStart, isAliasEv, scalarBytesOf]

theorem cstep_erase (cs : List CState) (r : Raw) : cstep false cs (erase r) = cstep false cs r := by
  cases r <;> rfl

theorem wf_erase (cs : List CState) (r : Raw) : wf cs (erase r) = wf cs r := by
  cases r <;> rfl

theorem mkOf_erase_ge (cs : List CState) (r : Raw) : mkOf cs r ≤ mkOf cs (erase r) := by
  cases r <;> simp [mkOf, erase, b2n]
  rename_i v st a tag
  cases isKeyTop cs <;> cases tag <;> simp

theorem tsb_erase (t : Nat) (r : Raw) :
    (match erase r with | .scalar v _ _ _ => satAdd t (utf8Len v) | _ => t) =
    (match r with | .scalar v _ _ _ => satAdd t (utf8Len v) | _ => t) := by
  cases r <;> rfl

theorem simRel_next {lim : Limits} {K : Nat} {e eX : Enf} {k : Nat} (r : Raw) (h : SimRel lim K e eX k)
    (hna : isAliasEv r = false) (hw : Within (next eX (erase r))) :
    SimRel lim K (next e r) (next eX (erase r)) k := by
  obtain ⟨k1, k2, k3, k4, k5, k6⟩ := erase_kinds r
  have hmk := mkOf_erase_ge eX.containers r
  exact {
    lim_e := by simp [h.lim_e]
    lim_x := by simp [h.lim_x]
    pd_e := by simp [h.pd_e]
    pd_x := by simp [h.pd_x]
    within_x := hw
    depth := by simp only [next_depth, h.pd_e, h.pd_x, Bool.false_and, Bool.false_eq_true, if_false, k2, k3, h.depth]
    containers := by rw [next_containers, next_containers, h.pd_e, h.pd_x, cstep_erase, h.containers]
    events := by simp [next, h.pd_e, h.pd_x, h.events]; omega
    aliases := by simp [next, h.pd_e, h.aliases, hna, b2n]
    documents := by simp [next, h.pd_e, h.pd_x, h.documents, k4]
    nodes := by simp [next, h.pd_e, h.pd_x, h.nodes, k1]
    maxDepth := by simp [next, h.pd_e, h.pd_x, h.maxDepth, h.depth, k2]
    bytes := by
      simp only [next, h.pd_e, h.pd_x, Bool.false_and, Bool.false_eq_true, if_false, h.bytes]
      cases r <;> rfl
    mergeKeys := by
      simp only [next, h.pd_e, h.pd_x, Bool.false_and, Bool.false_eq_true, if_false, h.containers]
      have := h.mergeKeys
      omega }

theorem sim_raw {lim : Limits} {K : Nat} {e eX eX' : Enf} {k : Nat} {r : Raw} (h : SimRel lim K e eX k)
    (hk : k ≤ K) (hK : K ≤ lim.maxEvents) (hk2 : k ≤ lim.maxAliases) (hna : isAliasEv r = false)
    (hanch : (defIns e.defined (anchorOf r)).length ≤ lim.maxAnchors)
    (hx : eX.observe (erase r) = .ok eX') :
    e.observe r = .ok (next e r) ∧ SimRel lim K (next e r) eX' k := by
  obtain ⟨rfl, hw⟩ := observe_ok hx
  have hwx := hw h.within_x
  have hrel := simRel_next r h hna hwx
  refine ⟨observe_of_within h.pd_e ?_ fun he => ?_, hrel⟩
  · have hd : (next e r).defined = defIns e.defined (anchorOf r) := next_defined h.pd_e r
    have hl : (next e r).lim = lim := hrel.lim_e
    have hlx := hrel.lim_x
    simp only [Within, hlx, limX] at hwx
    simp only [Within, hl, hd, hrel.events, hrel.aliases, hrel.documents, hrel.nodes, hrel.maxDepth, hrel.bytes]
    have := hrel.mergeKeys
    omega
  · obtain ⟨h4, h5⟩ := observe_ok_balanced hx (by rw [(erase_kinds r).2.2.1]; exact he)
    rw [wf_erase, ← h.containers] at h5
    exact ⟨by rw [h.depth]; exact h4, h5⟩

theorem sim_alias {lim : Limits} {K : Nat} {e eX : Enf} {k : Nat} (h : SimRel lim K e eX k)
    (hk : k + 1 ≤ K) (hK1 : K ≤ lim.maxEvents) (hK2 : K ≤ lim.maxAliases) :
    ∃ e', e.observeAliasReplayed = .ok e' ∧ SimRel lim K e' eX (k + 1) ∧ e'.defined = e.defined := by
  have hwx := h.within_x
  simp only [Within, h.lim_x, limX] at hwx
  have hev := h.events
  have hal := h.aliases
  refine ⟨_, aliasReplayed_of_within (by rw [h.lim_e]; omega) (by rw [h.lim_e]; omega), ?_, rfl⟩
  -- only the two counters move
  exact { h with
    events := by show e.report.events + 1 = eX.report.events + (k + 1); omega
    aliases := by show e.report.aliases + 1 = k + 1; omega }

theorem feedObs_sim (lim : Limits) (K : Nat) (hK1 : K ≤ lim.maxEvents) (hK2 : K ≤ lim.maxAliases) :
    ∀ (O : List Obs) (e eX eX' : Enf) (k i : Nat), noOcc O = true → (∀ r ∈ rawsOf O, isAliasEv r = false) →
      SimRel lim K e eX k → k + nAl O ≤ K →
      (defAfter e.defined (rawsOf O)).length ≤ lim.maxAnchors →
      runFrom eX i ((rawsOf O).map erase) = .ok eX' →
      ∃ e', feedObs e O = .ok e' ∧ SimRel lim K e' eX' (k + nAl O) ∧ e'.defined = defAfter e.defined (rawsOf O) := by
  intro O
  induction O with
  | nil =>
    intro e eX eX' k i _ _ h _ _ hx
    simp only [rawsOf, List.map_nil, runFrom, Except.ok.injEq] at hx
    subst hx
    exact ⟨e, rfl, by simpa [nAl] using h, rfl⟩
  | cons o O ih =>
    intro e eX eX' k i hno hna h hk hanch hx
    cases o with
    | occupies => simp [noOcc] at hno
    | aliasReplayed =>
      simp only [nAl] at hk ⊢
      obtain ⟨e1, h1, hrel1, hd1⟩ := sim_alias h (by omega) hK1 hK2
      simp only [rawsOf] at hx hanch hna ⊢
      obtain ⟨e', a1, a2, a3⟩ := ih e1 eX eX' (k + 1) i (by simpa [noOcc] using hno) hna hrel1 (by omega)
        (by rw [hd1]; exact hanch) hx
      refine ⟨e', by simp only [feedObs, obsStep, h1]; exact a1, ?_, by rw [a3, hd1]⟩
      have : k + 1 + nAl O = k + (nAl O + 1) := by omega
      rw [← this]; exact a2
    | raw r =>
      simp only [rawsOf, List.map_cons, runFrom, nAl, defAfter] at hx hanch hk ⊢
      cases hx1 : eX.observe (erase r) with
      | error b => rw [hx1] at hx; cases hx
      | ok eX1 =>
        rw [hx1] at hx
        simp only at hx
        have hna1 : isAliasEv r = false := hna r (by simp [rawsOf])
        have hk' : k ≤ K := by omega
        have hstep : (defIns e.defined (anchorOf r)).length ≤ lim.maxAnchors :=
          Nat.le_trans (defAfter_length_ge _ _) hanch
        obtain ⟨h1, hrel1⟩ := sim_raw h hk' hK1 (by omega) hna1 hstep hx1
        have hd1 : (next e r).defined = defIns e.defined (anchorOf r) := next_defined h.pd_e r
        obtain ⟨e', a1, a2, a3⟩ := ih (next e r) eX1 eX' k (i + 1) (by simpa [noOcc] using hno)
          (fun r' hr' => hna r' (by simp [rawsOf, hr'])) hrel1 hk (by rw [hd1]; exact hanch) hx
        exact ⟨e', by simp only [feedObs, obsStep, h1]; exact a1, a2, by rw [a3, hd1]⟩

end SaphyrVerif.Lemmas.E2EBudget
