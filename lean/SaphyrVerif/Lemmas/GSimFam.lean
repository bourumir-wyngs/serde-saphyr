import SaphyrVerif.Lemmas.GSimLeaf
import SaphyrVerif.Lemmas.CurSimDe
/-!
The statement `GA X` of the guarded simulation for all functions of the mutual block of `Model/De.lean` at one fuel value,
and the automation that proves the induction step.

Preconditions: the functions that read one node (`capture`, `deser`, `deserSeqLike`, …) need the guard `X.In c`; the loops
that run inside an open container (`seqElems`, `captureSeq`, `collectLoop`, …) need nesting depth `≥ 1`; `skipDepth` /
`collectTaggedSeq` need at least their own depth counter; the map access only touches the cursor while it
is not flushing merged entries (`nextKey`) / has no buffered value (`nextValue`); a tagged payload is read to the end of its
private buffer, which no frame allows.  Inputs that embed reference locations are related by `X.Q`, `X.PL`, `X.PLL`, `X.MRel`
(modulo these locations, and equal if the comparison is exact); results by `RG X rel`.
-/
namespace SaphyrVerif.Lemmas
open SaphyrVerif SaphyrVerif.Scalars SaphyrVerif.Pump SaphyrVerif.De
open SaphyrVerif.Lemmas.CurSim (KM VM)

structure GA (X : GSim) (fuel : Nat) : Prop where
  capture : ∀ {k c c'}, X.At k c c' → X.In c → RG X Eq (De.capture fuel c) (De.capture fuel c')
  captureSeq : ∀ fps evs {k c c'}, X.At k c c' → 1 ≤ k →
    RG X Eq (De.captureSeq fuel c fps evs) (De.captureSeq fuel c' fps evs)
  captureMap : ∀ fps evs {k c c'}, X.At k c c' → 1 ≤ k →
    RG X Eq (De.captureMap fuel c fps evs) (De.captureMap fuel c' fps evs)
  pendingFromEvents : ∀ events {loc loc' ref ref'}, X.Q loc loc' → X.Q ref ref' →
    EG X CurSim.PL (De.pendingFromEvents fuel events loc ref) (De.pendingFromEvents fuel events loc' ref')
  mergeSeqBatches : ∀ {k b b' c c'}, X.At k c c' → 1 ≤ k → X.PLL b b' →
    RG X CurSim.PLL (De.mergeSeqBatches fuel c b) (De.mergeSeqBatches fuel c' b')
  pendingFromLive : ∀ {r r' k c c'}, X.At k c c' → X.In c → X.Q r r' →
    RG X CurSim.PL (De.pendingFromLive fuel c r) (De.pendingFromLive fuel c' r')
  collectEntriesFromMap : ∀ {r r' k c c'}, X.At k c c' → X.In c → X.Q r r' →
    RG X CurSim.PL (De.collectEntriesFromMap fuel c r) (De.collectEntriesFromMap fuel c' r')
  collectLoop : ∀ {r r' k f f' m m' c c'}, X.At k c c' → 1 ≤ k → X.Q r r' → X.PL f f' → X.PLL m m' →
    RG X CurSim.PL (De.collectLoop fuel c r f m) (De.collectLoop fuel c' r' f' m')
  skipOneNode : ∀ {k c c'}, X.At k c c' → X.In c → RG X Eq (De.skipOneNode fuel c) (De.skipOneNode fuel c')
  skipDepth : ∀ (depth : Nat) {k c c'}, X.At k c c' → (depth : Int) ≤ k →
    RG X Eq (De.skipDepth fuel c depth) (De.skipDepth fuel c' depth)
  deser : ∀ cfg ty ik km {k c c'}, X.At k c c' → X.In c →
    RG X Eq (De.deser fuel cfg ty ik km c) (De.deser fuel cfg ty ik km c')
  bytesLoop : ∀ cfg acc {k c c'}, X.At k c c' → 1 ≤ k →
    RG X Eq (De.bytesLoop fuel cfg c acc) (De.bytesLoop fuel cfg c' acc)
  deserSeqLike : ∀ cfg shape {k c c'}, X.At k c c' → X.In c →
    RG X Eq (De.deserSeqLike fuel cfg shape c) (De.deserSeqLike fuel cfg shape c')
  seqElems : ∀ cfg t acc {k c c'}, X.At k c c' → 1 ≤ k →
    RG X Eq (De.seqElems fuel cfg t c acc) (De.seqElems fuel cfg t c' acc)
  tupleElems : ∀ cfg ts acc {k c c'}, X.At k c c' → 1 ≤ k →
    RG X Eq (De.tupleElems fuel cfg ts c acc) (De.tupleElems fuel cfg ts c' acc)
  deserMapLike : ∀ cfg shape {k c c'}, X.At k c c' → X.In c →
    RG X Eq (De.deserMapLike fuel cfg shape c) (De.deserMapLike fuel cfg shape c')
  mapEntries : ∀ cfg kt vt acc {k c c' m m'}, X.At k c c' → (m.flushingMerges = false → 1 ≤ k) → X.MRel m m' →
    RG X Eq (De.mapEntries fuel cfg kt vt c m acc) (De.mapEntries fuel cfg kt vt c' m' acc)
  structEntries : ∀ cfg fields deny acc {k c c' m m'}, X.At k c c' → (m.flushingMerges = false → 1 ≤ k) →
    X.MRel m m' →
    RG X Eq (De.structEntries fuel cfg fields deny c m acc) (De.structEntries fuel cfg fields deny c' m' acc)
  nextKey : ∀ cfg ks {k c c' m m'}, X.At k c c' → (m.flushingMerges = false → 1 ≤ k) → X.MRel m m' →
    RG X KM (De.nextKey fuel cfg ks c m) (De.nextKey fuel cfg ks c' m')
  nextValue : ∀ cfg vt {k c c' m m'}, X.At k c c' → (m.pendingValue.isSome = false → 1 ≤ k) → X.MRel m m' →
    RG X VM (De.nextValue fuel cfg vt c m) (De.nextValue fuel cfg vt c' m')
  deserEnum : ∀ cfg name variants {k c c'}, X.At k c c' → X.In c →
    RG X Eq (De.deserEnum fuel cfg name variants c) (De.deserEnum fuel cfg name variants c')
  collectTaggedSeq : ∀ (depth : Nat) acc {k c c'}, X.At k c c' → (depth : Int) ≤ k →
    RG X Eq (De.collectTaggedSeq fuel c depth acc) (De.collectTaggedSeq fuel c' depth acc)
  variantPayload : ∀ cfg variants vname vloc mapMode tagged {k c c'}, X.At k c c' → (mapMode = true → 1 ≤ k) →
    (tagged = true → ¬ X.on) →
    RG X Eq (De.variantPayload fuel cfg variants vname vloc mapMode tagged c)
      (De.variantPayload fuel cfg variants vname vloc mapMode tagged c')

/-- the merge value is read with the reference location of the cursor it is read from -/
theorem GA.pendingFromLive_ref {X : GSim} {fuel : Nat} (ih : GA X fuel) {k : Int} {c c' : Cur} (hs : X.At k c c')
    (hin : X.In c) :
    RG X CurSim.PL (De.pendingFromLive fuel c c.refLoc) (De.pendingFromLive fuel c' c'.refLoc) :=
  ih.pendingFromLive hs hin hs.refLoc

macro_rules
  | `(tactic| g_qe) =>
    `(tactic| first
      | g_q
      | (refine EG.both_err (GA.pendingFromEvents ‹GA _ _› _ ?_ ?_)
          ‹De.pendingFromEvents _ _ _ _ = Except.error _› ‹De.pendingFromEvents _ _ _ _ = Except.error _› <;> g_q))

open Lean Elab Tactic Meta in
/-- the newest `X.At k c c'` hypothesis such that `c'` occurs in the goal (and `c` in `needle`, if given), and its `X`,
as terms -/
def pickAt (needle : Option Expr) : TacticM (Term × Term) := withMainContext do
  let tgt ← instantiateMVars (← getMainTarget)
  let decls := (← getLCtx).decls.toList.reverse.filterMap id
  for ldecl in decls do
    if ldecl.isImplementationDetail then continue
    let ty ← instantiateMVars ldecl.type
    if ty.isAppOfArity ``GSim.At 4 then
      let c := ty.getArg! 2
      let c' := ty.getArg! 3
      if (tgt.find? (· == c')).isSome then
        let found := match needle with
          | some nd => (nd.find? (· == c)).isSome
          | none => true
        if found then return (← Term.exprToSyntax ldecl.toExpr, ← Term.exprToSyntax (ty.getArg! 0))
  throwError "no suitable At hypothesis"

open Lean Elab Tactic Meta in
/-- the call (left-hand side) of the newest call equation -/
def newestCallEqType (depth : Nat := 6) : TacticM (Option Expr) := withMainContext do
  let decls := (← getLCtx).decls.toList.reverse.filterMap id
  for ldecl in decls.take depth do
    if ldecl.isImplementationDetail then continue
    let ty ← instantiateMVars ldecl.type
    if let some (_, lhs, rhs) := ty.eq? then
      if rhs.isAppOf ``SaphyrVerif.De.R.ok || rhs.isAppOf ``SaphyrVerif.De.R.err then
        if let .const _ _ := lhs.getAppFn then return some lhs
  return none

open Lean Elab Tactic Meta in
/-- transport the outcome of the call in the newest equation produced by `split` to the other side, and
record how far the call moved on the left side.  The simulation is the `X` of the `At` fact about the call's cursor: for a call
on a private replay buffer (recorded key / value, merge value) that is `GSim.sim X.ex`, and the fact comes from
`‹GA (GSim.sim X.ex) _›`.

It carries the calls whose outcome the caller inspects before it goes on and which leave the left cursor within a fixed
number of levels of where they started (a `Stays` fact; the tables `calls`, `leaves` and the cases under them).  Not among
them: `nextKey` / `nextValue` as the entry loops inspect them — where they leave the cursor depends on the state of the map
access (`NKPost`), and `Lemmas/GSimD.lean` carries them over by hand (`RG.elim`, `nextKey_moved`, `nextValue_moved`);
`variantPayload` on the private buffer of a tagged payload (`g_fwd_payload`, `Lemmas/GSimE.lean`); the calls inside
`pendingFromEvents` (`collectEntriesFromMap`, `mergeSeqBatches`), which answers in `Except` (by hand, `Lemmas/GSimB.lean`);
`pendingFromEvents` itself, which has no cursor (`gpl_leaf`, `g_qe`, `pfe_absurd`); `deserKey`, the same call on both sides.
`skipDepth`, `collectLoop`, and elsewhere `nextKey`, `variantPayload` are tail calls only (`g_tail`).
`newestCallEq` / `newestCallEqType` search the 6 newest hypotheses only: `g_fwd` is tried after every `split` and is meant for
the equation this `split` has just named (it stands among the pattern variables of the alternative, at the end of the
context), not for the equation of a call met earlier. -/
elab "g_fwd" : tactic => do
  let some (n, isOk, h) ← newestCallEq | throwError "g_fwd: no call"
  let (hs, X) ← pickAt (← newestCallEqType)
  let ins ← `(by g_inside $hs)
  let ar ← `(by g_arith)
  -- function, its field of `GA`, the number of explicit arguments before the `At` fact, how far it `Stays`, the lemma for that;
  -- `inside`: the fact needs the guard, otherwise a bound on the depth
  let calls : List (Name × Name × Nat × Bool × Int × Name) := [
    (``De.capture, ``GA.capture, 0, true, 0, ``Lemmas.C05.capture_weak),
    (``De.skipOneNode, ``GA.skipOneNode, 0, true, 0, ``Lemmas.C05.skipOneNode_weak),
    (``De.deser, ``GA.deser, 4, true, 0, ``Lemmas.C05.deser_weak),
    (``De.deserSeqLike, ``GA.deserSeqLike, 2, true, 0, ``Lemmas.C05.deserSeqLike_weak),
    (``De.deserMapLike, ``GA.deserMapLike, 2, true, 0, ``Lemmas.C05.deserMapLike_weak),
    (``De.deserEnum, ``GA.deserEnum, 3, true, 0, ``Lemmas.C05.deserEnum_weak),
    (``De.bytesLoop, ``GA.bytesLoop, 2, false, 1, ``Lemmas.C05.bytesLoop_weak),
    (``De.seqElems, ``GA.seqElems, 3, false, 0, ``Lemmas.C05.seqElems_weak),
    (``De.tupleElems, ``GA.tupleElems, 3, false, 0, ``Lemmas.C05.tupleElems_weak)]
  let leaves : List (Name × Name × Nat × Name) := [
    (``De.takeStringScalar, ``takeStringScalar_g, 1, ``Lemmas.C05.takeStringScalar_weak),
    (``De.deserScalarTyped, ``deserScalarTyped_g, 2, ``Lemmas.C05.deserScalarTyped_weak),
    (``De.deserString, ``deserString_g, 1, ``Lemmas.C05.deserString_weak),
    (``De.deserStr, ``deserStr_g, 1, ``Lemmas.C05.deserStr_weak)]
  let (kind, prf, k, w) ← (do
    if let some (_, f, nh, inside, k, wl) := calls.find? (·.1 == n) then
      let holes := Array.replicate nh (← `(_))
      let pre := if inside then ins else ar
      return (0, ← `($(mkIdent f) ‹GA $X _› $holes* $hs $pre), ← `(($(Syntax.mkNumLit (toString k)) : Int)),
        ← `(fun h => $(mkIdent wl) h))
    if let some (_, f, nh, wl) := leaves.find? (·.1 == n) then
      let holes := Array.replicate nh (← `(_))
      return (0, ← `($(mkIdent f) $holes* $hs $ins), ← `((0 : Int)), ← `(fun h => $(mkIdent wl) h))
    match n with
    | ``De.captureSeq =>
      return (0, ← `(GA.captureSeq ‹GA $X _› _ _ $hs $ar), ← `((1 : Int)),
        ← `(fun h => (Lemmas.C05.weakCap _).captureSeq h))
    | ``De.captureMap =>
      return (0, ← `(GA.captureMap ‹GA $X _› _ _ $hs $ar), ← `((1 : Int)),
        ← `(fun h => (Lemmas.C05.weakCap _).captureMap h))
    | ``De.mergeSeqBatches =>
      return (1, ← `(GA.mergeSeqBatches ‹GA $X _› $hs $ar (by g_side)), ← `((1 : Int)),
        ← `(fun h => Lemmas.C05.mergeSeqBatches_weak _ h))
    | ``De.pendingFromLive =>
      return (3, ← `(GA.pendingFromLive_ref ‹GA $X _› $hs $ins), ← `((0 : Int)),
        ← `(fun h => Lemmas.C05.pendingFromLive_weak h))
    | ``De.mapEntries =>
      return (0, ← `(GA.mapEntries ‹GA $X _› _ _ _ _ $hs (by intro _; g_arith)
          (by first | assumption | exact GSim.MRel.refl _)), ← `((1 : Int)),
        ← `(fun h => Lemmas.C05.mapEntries_weak h))
    | ``De.structEntries =>
      return (0, ← `(GA.structEntries ‹GA $X _› _ _ _ _ $hs (by intro _; g_arith)
          (by first | assumption | exact GSim.MRel.refl _)), ← `((1 : Int)),
        ← `(fun h => Lemmas.C05.structEntries_weak h))
    | ``De.collectTaggedSeq =>
      return (0, ← `(GA.collectTaggedSeq ‹GA $X _› _ _ $hs $ar), ← `(_), ← `(fun h => Lemmas.C05.collectTaggedSeq_weak _ h))
    | _ => throwError "g_fwd: no rule for {n}" : TacticM (Nat × Term × Term × Term))
  if !isOk then evalTactic (← `(tactic| gfwde $h, $prf))
  else
    if kind == 0 then evalTactic (← `(tactic| (gfwdk_eq $h, $prf; g_moved $hs, $h, $k, $w)))
    else if kind == 1 then evalTactic (← `(tactic| (gfwdk_rel $h, $prf; g_moved $hs, $h, $k, $w)))
    else
      evalTactic (← `(tactic| (
        gfwdk_rel $h, $prf
        g_moved $hs, $h, $k, $w
        have hie := (GSim.PL.isEmpty ‹GSim.Rel _ CurSim.PL _ _›).symm)))

/-- side goal "the cursor is only touched while not flushing": `m.flushingMerges = false → 1 ≤ k` -/
macro "g_fl" : tactic =>
  `(tactic| first
    | assumption
    | (intro hfl; first
      | g_arith
      | (cases hfl; done)
      | (simp only [Lemmas.C05.enqueue_flushing] at hfl; cases hfl; done)))

open Lean Elab Tactic Meta in
/-- close a tail call by the induction hypothesis (or by a leaf lemma) -/
elab "g_tail" : tactic => do
  let some (a, b) ← goalHeadsG | throwError "g_tail: not a call"
  unless a == b do throwError "g_tail: different heads"
  let tgt := (← instantiateMVars (← getMainTarget)).cleanupAnnotations
  let (hs, X) ← pickAt (some tgt.appFn!.appArg!)
  let ins ← `(by g_inside $hs)
  let ar ← `(by g_arith)
  -- function, its field of `GA`, the number of explicit arguments before the `At` fact, whether the fact needs the
  -- guard (otherwise a bound on the depth)
  let calls : List (Name × Name × Nat × Bool) := [
    (``De.capture, ``GA.capture, 0, true), (``De.skipOneNode, ``GA.skipOneNode, 0, true),
    (``De.deser, ``GA.deser, 4, true), (``De.deserSeqLike, ``GA.deserSeqLike, 2, true),
    (``De.deserMapLike, ``GA.deserMapLike, 2, true), (``De.deserEnum, ``GA.deserEnum, 3, true),
    
    (``De.captureSeq, ``GA.captureSeq, 2, false), (``De.captureMap, ``GA.captureMap, 2, false),
    (``De.skipDepth, ``GA.skipDepth, 1, false), (``De.bytesLoop, ``GA.bytesLoop, 2, false),
    (``De.seqElems, ``GA.seqElems, 3, false), (``De.tupleElems, ``GA.tupleElems, 3, false),
    (``De.collectTaggedSeq, ``GA.collectTaggedSeq, 2, false)]
  let leaves : List (Name × Name × Nat × Bool) := [
    (``De.deserScalarTyped, ``deserScalarTyped_g, 2, true), (``De.deserString, ``deserString_g, 1, true),
    (``De.deserAnyScalar, ``deserAnyScalar_g, 5, true), (``De.byteSeqVisit, ``byteSeqVisit_g, 2, false),
    (``De.structFinish, ``structFinish_g, 2, false)]
  let tac ← (do
    if let some (_, f, nh, inside) := calls.find? (·.1 == a) then
      let holes := Array.replicate nh (← `(_))
      let pre := if inside then ins else ar
      return ← `(tactic| exact $(mkIdent f) ‹GA $X _› $holes* $hs $pre)
    if let some (_, f, nh, inside) := leaves.find? (·.1 == a) then
      let holes := Array.replicate nh (← `(_))
      if inside then return ← `(tactic| exact $(mkIdent f) $holes* $hs $ins)
      else return ← `(tactic| exact $(mkIdent f) $holes* $hs)
    match a with
    | ``De.variantPayload =>
      `(tactic| exact GA.variantPayload ‹GA $X _› _ _ _ _ _ _ $hs (by intro hmm; first | g_arith | (cases hmm; done))
          (by intro htg; first | (cases htg; done) | assumption))
    | ``De.mergeSeqBatches => `(tactic| exact GA.mergeSeqBatches ‹GA $X _› $hs $ar (by g_side))
    | ``De.collectLoop => `(tactic| exact GA.collectLoop ‹GA $X _› $hs $ar (by g_q) (by g_side) (by g_side))
    | ``De.nextKey => `(tactic| exact GA.nextKey ‹GA $X _› _ _ $hs (by g_fl) (by g_side))
    | _ => throwError "g_tail: no rule for {a}" : TacticM (TSyntax `tactic))
  evalTactic tac

macro_rules
  | `(tactic| gpl_leaf) =>
    `(tactic| (refine EG.both_ok (GA.pendingFromEvents ‹GA _ _› _ ?_ ?_) ‹_ = Except.ok _› ‹_ = Except.ok _› <;> g_q))

/-- the two sides of `pendingFromEvents` cannot disagree about success -/
macro "pfe_absurd" : tactic =>
  `(tactic| first
    | (exfalso
       refine EG.not_ok_err (GA.pendingFromEvents ‹GA _ _› _ ?_ ?_)
         ‹De.pendingFromEvents _ _ _ _ = Except.ok _› ‹De.pendingFromEvents _ _ _ _ = Except.error _› <;> g_q)
    | (exfalso
       refine EG.not_err_ok (GA.pendingFromEvents ‹GA _ _› _ ?_ ?_)
         ‹De.pendingFromEvents _ _ _ _ = Except.error _› ‹De.pendingFromEvents _ _ _ _ = Except.ok _› <;> g_q))

/-- rewrite with the hypotheses (equations left by `split`, decided conditions, facts about the two states) and decide the
duplicate-policy code -/
macro "g_simp" : tactic =>
  `(tactic| simp only [*, ↓reduceIte, Bool.false_eq_true, De.act1_eq1, De.act1_eq2, De.act2_eq1,
      De.act2_eq2, CurSim.act0_eq1, CurSim.act0_eq2, decide_eq_true_eq, CurSim.seenContains_mk])

/-- The loop for one induction step.  Order: close a leaf; step a cursor operation on both sides (before any `match` on it is
split, so that both sides take the same branch); simplify; split a `match` / conditional and carry the outcome of the call it
inspects to the other side; refute a disagreement about `pendingFromEvents`; a tail call last, by the induction hypothesis. -/
macro "g_loop" : tactic =>
  `(tactic| repeat' (first | g_leaf | g_step | g_simp | (split <;> try g_fwd) | pfe_absurd | g_tail))

end SaphyrVerif.Lemmas
