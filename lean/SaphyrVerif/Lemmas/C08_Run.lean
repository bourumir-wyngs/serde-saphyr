import SaphyrVerif.Lemmas.C08_Budget
/-!
C08: the nesting error can only report depth 1 against a limit 0 (`nextImpl_depthErr`), and `RunInv` carries what
C08_Budget says of one call over a whole run of `pumpAll` (`pumpAll_bound`).
-/
namespace SaphyrVerif.Lemmas.C08
open SaphyrVerif.Pump SaphyrVerif.Budget SaphyrVerif.Spec

/-- the nesting error of the parser loop, when no replay is pending -/
theorem loop_depthErr {p : Pump} {inp : List RawItem} {s : Step} {p' : Pump} {rest : List RawItem}
    (h : Loop p inp s p' rest) (hi : p.inject = []) (d m : Nat) (l : Loc) (hs : s = .error (.replayStackDepth d m l)) :
    d = 1 ∧ m = 0 := by
  induction h with
  | null | eof | breach => cases hs
  | scan p ua => cases ua <;> cases hs
  | @ret p raw loc rest bud s p' hb h =>
    subst hs
    cases h with
    | aliasDepth id hc hd =>
      rw [show ({ p with budget := bud } : Pump).inject = [] from hi] at hd ⊢
      exact ⟨rfl, by simpa using hd⟩
    | replay id buf hc hd ho hl hs => cases hs
  | stop rest hb h => revert hs; unfold stopTail; split <;> intro hs <;> cases hs
  | pass hb h _ ih => exact ih (h.cont_inject hi) hs

theorem nextImpl_depthErr (p : Pump) (inp : List RawItem) (d m : Nat) (l : Loc) (p' : Pump) (rest : List RawItem)
    (h : nextImpl p inp = (.error (.replayStackDepth d m l), p', rest)) : d = 1 ∧ m = 0 := by
  cases call_of h with
  | served hs => cases hs
  | loop _ hl => exact loop_depthErr hl rfl d m l rfl

/-- invariant of a run with a budget: everything delivered so far was observed and the observed counters
are within the limits -/
def RunInv (lim : Limits) (p : Pump) (acc : List Ev) : Prop :=
  ∃ enf : Enf, p.budget = some enf ∧ enf.perDocument = false ∧ enf.lim = lim ∧ p.recursiveInProgress = [] ∧
    acc.length ≤ enf.report.events ∧ (acc.filter nodeEv).length ≤ enf.report.nodes ∧
    enf.report.events ≤ lim.maxEvents ∧ enf.report.nodes ≤ lim.maxNodes ∧ (acc ≠ [] → p.producedAny = true)

theorem pumpAll_bound (lim : Limits) (fuel : Nat) (p : Pump) (inp : List RawItem) (acc : List Ev)
    (evs : List Ev) (err : Option PErr) (p' : Pump) (hinv : RunInv lim p acc)
    (h : pumpAll fuel p inp acc = some (evs, err, p')) :
    (evs.length ≤ lim.maxEvents ∧ (evs.filter nodeEv).length ≤ lim.maxNodes) ∨
      ((∃ loc, evs = [.scalar [] 4 none .plain 0 loc]) ∧ err = none ∧ p'.synthesizedNull = true) := by
  induction fuel generalizing p inp acc with
  | zero => simp [pumpAll] at h
  | succ fuel ih =>
    obtain ⟨enf, hb, hpd, hlim, hrec, hev, hnd, hevmax, hndmax, hpa⟩ := hinv
    have hdone : evs = acc.reverse →
        (evs.length ≤ lim.maxEvents ∧ (evs.filter nodeEv).length ≤ lim.maxNodes) := by
      rintro rfl
      simp only [List.length_reverse, List.filter_reverse]
      omega
    rw [pumpAll] at h
    rcases hn : nextImpl p inp with ⟨step, p1, rest⟩
    rw [hn] at h
    cases step with
    | eof =>
      simp only [Option.some.injEq, Prod.mk.injEq] at h
      exact .inl (hdone h.1.symm)
    | error er =>
      simp only [Option.some.injEq, Prod.mk.injEq] at h
      exact .inl (hdone h.1.symm)
    | event e =>
      simp only at h
      obtain ⟨r1, r2, hcase⟩ := nextImpl_budget p inp e p1 rest enf hb hpd hn
      rcases hcase with ⟨enf', hb', ⟨o1, o2, o3, o4, o5⟩, -⟩ | ⟨n1, n2, rfl, n4, ⟨loc, rfl⟩, -⟩
      · rcases o5 with ⟨o5, o6⟩ | ⟨hne, -⟩
        · refine ih p1 rest (e :: acc) ⟨enf', hb', o1, o2.trans hlim, r1.trans hrec, ?_, ?_, ?_, ?_, fun _ => r2⟩ h
          · simp only [List.length_cons]; omega
          · simp only [List.filter_cons]
            split <;> simp_all <;> omega
          · rw [← hlim]; exact o4
          · by_cases hne : nodeEv e = true
            · rw [← hlim]; exact o6 hne
            · simp only [hne] at o5; simp at o5; omega
        · exact absurd hrec hne
      · have hacc : acc = [] := by
          by_cases ha : acc = []
          · exact ha
          · rw [hpa ha] at n1; cases n1
        subst hacc
        cases fuel with
        | zero => simp [pumpAll] at h
        | succ fuel =>
          rw [pumpAll, nextImpl_done n4 r2] at h
          simp only [Option.some.injEq, Prod.mk.injEq] at h
          obtain ⟨rfl, rfl, rfl⟩ := h
          exact .inr ⟨⟨loc, rfl⟩, rfl, n2⟩

end SaphyrVerif.Lemmas.C08
