import SaphyrVerif.Lemmas.C13_BlockLay
import SaphyrVerif.Lemmas.C13_BlockFold
/-!
Block scalars, the READER side.  The reference reader (`readBlockScalar` of
`Spec/EmitReader.lean`) gets the string back from the header and the body lines of the layout (`litLeaf`,
`foldLeaf`) wherever the body stands deeper than the parent and — with an indentation indicator — the parent is
at column 0; the lines after the body (a sibling / an ancestor's sibling: not blank, indented less than the body)
are left alone.

`readBlockScalar_body` says what the reader makes of content lines standing at a column; the literal layout
(`readBlockScalar_litLeaf`) and the segments of a folded one (`readBlockScalar_segs`) are instances.
`blockLeaf_ok` turns such an equation, with the header line and the body lines, into `LeafOK`.
-/
namespace SaphyrVerif.Emit

/-- what may follow the body of a block scalar whose lines are indented `N`: nothing, or a line that is not
blank and indented less -/
def BodyEnd (N : Nat) (rest : List Line) : Prop :=
  rest = [] ∨ ∃ l ls, rest = l :: ls ∧ l.indent < N ∧ l.isBlank = false

theorem DedLt.bodyEnd {n N : Nat} {rest : List Line} (h : DedLt n rest) (hn : n ≤ N) : BodyEnd N rest := by
  rcases h with rfl | ⟨l, ls, rfl, hi, hs⟩
  · exact Or.inl rfl
  · refine Or.inr ⟨l, ls, rfl, by omega, ?_⟩
    simp only [Line.isSkippable, Bool.or_eq_false_iff] at hs
    simpa [Line.isBlank] using hs.1

theorem blockLines_end {N : Nat} {rest : List Line} (h : BodyEnd N rest) : blockLines N rest = ([], rest) := by
  rcases h with rfl | ⟨l, ls, rfl, hi, hb⟩
  · rfl
  · have : ¬ (l.indent ≥ N) := by omega
    simp [blockLines, hb, this]

/-- the reader takes the body lines of a literal block back to the content lines -/
theorem blockLines_bodyAt (N : Nat) {rest : List Line} (h : BodyEnd N rest) :
    ∀ (xs : List (List Char)), blockLines N (xs.map (bodyLineAt N) ++ rest) = (xs, rest)
  | [] => by simpa using blockLines_end h
  | x :: xs => by
    have ih := blockLines_bodyAt N h xs
    have ht := takeWhile_space_replicate x
    have hsplit : x.takeWhile (· == ' ') ++ x.dropWhile (· == ' ') = x := List.takeWhile_append_dropWhile
    simp only [List.map_cons, List.cons_append, bodyLineAt]
    rw [blockLines]
    by_cases hb : (x.dropWhile (· == ' ')).isEmpty = true
    · have hd : x.dropWhile (· == ' ') = [] := List.isEmpty_iff.mp hb
      have hx : x = List.replicate (x.takeWhile (· == ' ')).length ' ' := by
        conv => lhs; rw [← hsplit, hd, List.append_nil, ht]
      simp only [Line.isBlank, hb, if_true, ih]
      by_cases hk : (x.takeWhile (· == ' ')).length = 0
      · have : x = [] := by rw [hx, hk]; rfl
        simp [this]
      · have hgt : N + (x.takeWhile (· == ' ')).length > N := by omega
        simp only [hgt, if_true, Nat.add_sub_cancel_left]
        rw [← hx]
    · simp only [Line.isBlank, hb, Bool.false_eq_true, if_false]
      have hge : N + (x.takeWhile (· == ' ')).length ≥ N := by omega
      simp only [hge, if_true, Nat.add_sub_cancel_left, ih]
      rw [← ht, hsplit]

theorem bodyLineAt_nil (N : Nat) : bodyLineAt N [] = ⟨N, []⟩ := by simp [bodyLineAt]

theorem bodyLineAt_nonspace (N : Nat) {c : Char} (cs : List Char) (hc : c ≠ ' ') : bodyLineAt N (c :: cs) = ⟨N, c :: cs⟩ := by
  simp [bodyLineAt, hc]

/-- first non-empty content line without a leading blank ⇒ the first non-blank body line is at indentation `N`
and the blank lines before it are not indented deeper -/
theorem find_first_bodyAt (N : Nat) (rest : List Line) : ∀ (xs : List (List Char)) (l1 : List Char),
    xs.find? (fun l => !l.isEmpty) = some l1 → (l1.takeWhile (· == ' ')).length = 0 →
    (∃ l, (xs.map (bodyLineAt N) ++ rest).find? (fun l => !l.isBlank) = some l ∧ l.indent = N) ∧
    ((xs.map (bodyLineAt N) ++ rest).takeWhile (·.isBlank)).any (fun l => decide (l.indent > N)) = false
  | [], _, h, _ => by simp at h
  | x :: xs, l1, h, h0 => by
    cases x with
    | nil =>
      simp only [List.find?_cons, List.isEmpty_nil, Bool.not_true] at h
      obtain ⟨⟨l, hl, hi⟩, hb⟩ := find_first_bodyAt N rest xs l1 h h0
      refine ⟨⟨l, ?_, hi⟩, ?_⟩
      · simp only [List.map_cons, List.cons_append, bodyLineAt_nil, List.find?_cons, Line.isBlank, List.isEmpty_nil, Bool.not_true]
        exact hl
      · simp only [List.map_cons, List.cons_append, bodyLineAt_nil, List.takeWhile_cons, Line.isBlank, List.isEmpty_nil, if_true,
          List.any_cons, Bool.or_eq_false_iff]
        exact ⟨by simp, hb⟩
    | cons c cs =>
      simp only [List.find?_cons, List.isEmpty_cons, Bool.not_false, Option.some.injEq] at h
      subst h
      have hc : c ≠ ' ' := by
        intro e; subst e
        simp at h0
      refine ⟨⟨⟨N, c :: cs⟩, ?_, rfl⟩, ?_⟩
      · simp [List.map_cons, bodyLineAt_nonspace N cs hc, Line.isBlank]
      · simp [List.map_cons, bodyLineAt_nonspace N cs hc, Line.isBlank]

/-- the indentation indicator the reader sees -/
def explicitOf (ni : Bool) (N : Nat) : Option Nat := if ni then some N else none

theorem blockHeader_blk (ni : Bool) (N t : Nat) (hN : ni = true → 1 ≤ N ∧ N ≤ 9) :
    blockHeader (indChars ni N ++ chompChars t) = some (explicitOf ni N, chompOf t) := by
  cases ni
  · simpa [indChars, explicitOf] using blockHeader_chomp t
  · obtain ⟨h1, h9⟩ := hN rfl
    simp only [indChars, explicitOf, if_true]
    have hN' : N = 1 ∨ N = 2 ∨ N = 3 ∨ N = 4 ∨ N = 5 ∨ N = 6 ∨ N = 7 ∨ N = 8 ∨ N = 9 := by omega
    match t with
    | 0 => rcases hN' with h | h | h | h | h | h | h | h | h <;> subst h <;> rfl
    | 1 => rcases hN' with h | h | h | h | h | h | h | h | h <;> subst h <;> rfl
    | t + 2 => rcases hN' with h | h | h | h | h | h | h | h | h <;> subst h <;> rfl

/-- what the reader appends to a body with content for the chomping indicator, `t` = the trailing empty lines -/
def chompTail : Chomp → Nat → List Char
  | .strip, _ => []
  | .clip, _ => ['\n']
  | .keep, t => List.replicate (t + 1) '\n'

/-- the chomping indicator the writer chose gives the string back -/
theorem chomp_tail (s : List Char) : trimEndNl s ++ chompTail (chompOf (trailNl s)) (trailNl s - 1) = s := by
  have hsplit := (trimEndNl_split s).1
  unfold trailNl
  generalize s.length - (trimEndNl s).length = t at *
  match t with
  | 0 =>
    simp only [List.replicate_zero, List.append_nil] at hsplit
    simp [chompOf, chompTail, ← hsplit]
  | 1 =>
    simp only [List.replicate_one] at hsplit
    simp [chompOf, chompTail, ← hsplit]
  | t + 2 =>
    simp only [chompOf, chompTail]
    rw [show t + 2 - 1 + 1 = t + 2 by omega, ← hsplit]

/-- the reader on a body with content that stands at column `N` (content lines `xs`, of which `kept` before `t`
trailing empty ones).  It finds `N`: told by the indicator, counted from the parent's column `n - 1`; or as the
indentation of the first non-empty line, which therefore must not start with a blank and must stand deeper than
the parent. -/
theorem readBlockScalar_body {folded : Bool} {hdr : List Char} {expl : Option Nat} {chomp : Chomp} {n N t : Nat}
    {xs kept : List (List Char)} {rest : List Line}
    (hcol : match expl with
      | some d => n - 1 + d = N
      | none => n ≤ N ∧ ∃ l1, xs.find? (fun l => !l.isEmpty) = some l1 ∧ (l1.takeWhile (· == ' ')).length = 0)
    (hhdr : blockHeader hdr = some (expl, chomp))
    (hstrip : stripTrailingEmpty xs = (kept, t)) (hkept : kept.isEmpty = false) (hrest : BodyEnd N rest) :
    readBlockScalar folded hdr n (xs.map (bodyLineAt N) ++ rest) =
      some ((if folded then foldLines kept else joinNl kept) ++ chompTail chomp t, rest) := by
  have hbl := blockLines_bodyAt N hrest xs
  unfold readBlockScalar
  rw [hhdr]
  cases expl with
  | none =>
    obtain ⟨hnN, l1, hl1, h0⟩ := hcol
    obtain ⟨⟨fl, hfl, hfi⟩, hlead⟩ := find_first_bodyAt N rest xs l1 hl1 h0
    simp only [hfl, hfi, ge_iff_le, hnN, if_true, Option.isNone_none, Bool.true_and, hlead, Bool.false_eq_true, if_false, hbl, hstrip,
      hkept]
    cases chomp <;> rfl
  | some d =>
    simp only [show n - 1 + d = N from hcol, Option.isNone_some, Bool.false_and, Bool.false_eq_true, if_false, hbl, hstrip, hkept]
    cases chomp <;> rfl

/-- the reader on the header and the body of a literal block: `n` = the least indentation of the node, `N` = the
column of the body; the body must be deeper than the parent (`n ≤ N`) and, with an indentation indicator, the parent
must be at column 0 (`n ≤ 1`) -/
theorem readBlockScalar_litLeaf (N n : Nat) (s : List Char) (rest : List Line) (hcontent : trimEndNl s ≠ []) (hnN : n ≤ N)
    (hexpl : needsInd s = true → 1 ≤ N ∧ N ≤ 9 ∧ n ≤ 1) (hrest : BodyEnd N rest) :
    readBlockScalar false (indChars (needsInd s) N ++ chompChars (trailNl s)) n ((litLines s).map (bodyLineAt N) ++ rest) =
      some (s, rest) := by
  obtain ⟨init, l, hinit, hl⟩ := splitNl_getLast_ne (trimEndNl s) hcontent (trimEndNl_split s).2
  have hstrip : stripTrailingEmpty (litLines s) = (splitNl (trimEndNl s), trailNl s - 1) := by
    unfold litLines; rw [hinit]; exact stripTrailingEmpty_append init l hl _
  have hhdr := blockHeader_blk (needsInd s) N (trailNl s) (fun h => ⟨(hexpl h).1, (hexpl h).2.1⟩)
  rw [readBlockScalar_body ?_ hhdr hstrip (by rw [hinit]; simp) hrest]
  · simp only [Bool.false_eq_true, if_false, joinNl_splitNl, chomp_tail]
  cases hni : needsInd s
  · -- no indicator; the last content line is not empty, so there is a first one that is not
    have hex : ((splitNl (trimEndNl s)).find? (fun l => !l.isEmpty)).isSome = true := by
      rw [List.find?_isSome]
      exact ⟨l, by rw [hinit]; simp, by simp [hl]⟩
    obtain ⟨l1, hl1⟩ := Option.isSome_iff_exists.mp hex
    refine ⟨hnN, l1, find?_append_left _ _ _ _ hl1, ?_⟩
    simp only [needsInd, decide_eq_false_iff_not, Nat.not_lt, Nat.le_zero] at hni
    simpa [firstLineLeadingSpaces, hl1] using hni
  · -- the indicator is counted from a parent at column 0
    show n - 1 + N = N
    have := (hexpl hni).2.2
    omega

theorem blockNode_bar (fuel n : Nat) (seqAt : Option Nat) (inl : Bool) (i : Nat) (folded : Bool) (hdr : List Char) (ls : List Line)
    (hi : n ≤ i) :
    blockNode (fuel + 1) n seqAt inl (⟨i, (if folded then '>' else '|') :: hdr⟩ :: ls) =
      (readBlockScalar folded hdr n ls).map fun (s, r) => (.str s, r) := by
  have hlt : ¬ (i < n) := by omega
  cases folded
  · have hns : (⟨i, '|' :: hdr⟩ : Line).isSkippable = false := notSkippable_of_head (by decide)
    simp only [Bool.false_eq_true, if_false]
    rw [blockNode, skipBlank_cons ls hns]
    simp [classify, hlt, skipTag]
  · have hns : (⟨i, '>' :: hdr⟩ : Line).isSkippable = false := notSkippable_of_head (by decide)
    simp only [if_true]
    rw [blockNode, skipBlank_cons ls hns]
    simp [classify, hlt, skipTag]

theorem indChars_lay (ni : Bool) (N : Nat) (hN : ni = true → 1 ≤ N ∧ N ≤ 9) : ∀ x ∈ indChars ni N, lineChar x = true := by
  intro x hx
  cases ni
  · simp [indChars] at hx
  · obtain ⟨h1, h9⟩ := hN rfl
    simp only [indChars, if_true, List.mem_singleton] at hx
    subst hx
    have hN' : N = 1 ∨ N = 2 ∨ N = 3 ∨ N = 4 ∨ N = 5 ∨ N = 6 ∨ N = 7 ∨ N = 8 ∨ N = 9 := by omega
    rcases hN' with h | h | h | h | h | h | h | h | h <;> subst h <;> decide

theorem chompChars_lay (t : Nat) : ∀ x ∈ chompChars t, lineChar x = true := by
  intro x hx
  rcases chompChars_mem t x hx with rfl | rfl <;> decide

/-- the header line of a block scalar can start a line and lies on one line -/
theorem blockHdr_line (ind : Char) (hi : ind = '|' ∨ ind = '>') (N : Nat) (s : List Char) (hN : needsInd s = true → 1 ≤ N ∧ N ≤ 9) :
    blockHdr ind N s ≠ [] ∧
    ((blockHdr ind N s).head? ≠ some ' ' ∧ (blockHdr ind N s).head? ≠ some '#' ∧ (blockHdr ind N s).head? ≠ some '%') ∧
    (∀ x ∈ blockHdr ind N s, lineChar x = true) ∧
    (isDocMarker ⟨0, blockHdr ind N s⟩ "---".toList = false ∧ isDocMarker ⟨0, blockHdr ind N s⟩ "...".toList = false) := by
  refine ⟨by simp [blockHdr], ?_, ?_, ?_⟩
  · rcases hi with rfl | rfl <;> simp [blockHdr]
  · intro x hx
    simp only [blockHdr, List.mem_cons, List.mem_append] at hx
    rcases hx with rfl | hx | hx
    · rcases hi with rfl | rfl <;> decide
    · exact indChars_lay _ _ hN x hx
    · exact chompChars_lay _ x hx
  · refine notMarker_head (c := ind) rfl (Or.inl ?_) ?_ 0
    · rcases hi with rfl | rfl <;> decide
    · rcases hi with rfl | rfl <;> decide

theorem litLines_mem (s : List Char) : ∀ l ∈ litLines s, ∀ x ∈ l, x ∈ s := by
  intro l hl x hx
  simp only [litLines, List.mem_append, List.mem_replicate] at hl
  rcases hl with hl | ⟨_, rfl⟩
  · have hmem : x ∈ trimEndNl s := mem_splitNl_mem _ l hl x hx
    rw [(trimEndNl_split s).1]; exact List.mem_append_left _ hmem
  · simp at hx

theorem dropWhile_head_ne (x : List Char) : (x.dropWhile (· == ' ')).head? ≠ some ' ' := by
  induction x with
  | nil => simp
  | cons c cs ih =>
    by_cases hc : c = ' '
    · subst hc; simpa [List.dropWhile_cons] using ih
    · simp [hc]

theorem lineChar_of_noCtl {s : List Char} (h : hasCtl s = false) {x : Char} (hx : x ∈ s) (hn : x ≠ '\n') : lineChar x = true := by
  have := List.any_eq_false.mp h x hx
  have h1 : x ≠ '\r' := by rintro rfl; exact absurd this (by decide)
  have h2 : x ≠ Char.ofNat 0 := by rintro rfl; exact absurd this (by decide)
  simp [lineChar, hn, h1, h2]

/-- a header line and body lines at column `N` that the reader takes back as `s` are a leaf -/
theorem blockLeaf_ok {folded : Bool} {N n : Nat} {s : List Char} {body : List Line} (hnN : n ≤ N)
    (hN : needsInd s = true → 1 ≤ N ∧ N ≤ 9)
    (hread : ∀ rest, BodyEnd N rest →
      readBlockScalar folded (indChars (needsInd s) N ++ chompChars (trailNl s)) n (body ++ rest) = some (s, rest))
    (hbody : ∀ l ∈ body, BodyLine l) : LeafOK n (blockHdr (if folded then '>' else '|') N s, body) (.str s) := by
  obtain ⟨h1, h2, h3, h4⟩ := blockHdr_line (if folded then '>' else '|') (by cases folded <;> simp) N s hN
  refine ⟨?_, h1, h2, h3, h4, hbody⟩
  intro fuel seqAt inl i rest hi hd
  simp only [blockHdr, List.cons_append]
  rw [blockNode_bar fuel n seqAt inl i folded _ _ hi, hread rest (hd.bodyEnd hnN)]
  rfl

theorem litLeaf_ok (N n : Nat) (s : List Char) (hN : 1 ≤ N) (hcontent : trimEndNl s ≠ []) (hctl : hasCtl s = false) (hnN : n ≤ N)
    (hexpl : needsInd s = true → N ≤ 9 ∧ n ≤ 1) : LeafOK n (litLeaf N s) (.str s) := by
  refine blockLeaf_ok (folded := false) hnN (fun h => ⟨hN, (hexpl h).1⟩)
    (fun rest => readBlockScalar_litLeaf N n s rest hcontent hnN fun h => ⟨hN, hexpl h⟩) ?_
  intro l hl
  simp only [List.mem_map] at hl
  obtain ⟨x, hx, rfl⟩ := hl
  refine ⟨by simp only [bodyLineAt]; omega, dropWhile_head_ne x, ?_⟩
  intro y hy
  have hyx : y ∈ x := (List.dropWhile_sublist _).subset hy
  have hn : y ≠ '\n' := by
    simp only [litLines, List.mem_append, List.mem_replicate] at hx
    rcases hx with hx | ⟨_, rfl⟩
    · exact mem_splitNl_ne_nl _ x hx y hyx
    · simp at hyx
  exact lineChar_of_noCtl hctl (litLines_mem s x hx y hyx) hn

open SaphyrVerif.Lemmas.C12 (joinSp joinLines)

theorem splitNl_noNl : ∀ (s : List Char), (∀ c ∈ s, c ≠ '\n') → splitNl s = [s]
  | [], _ => rfl
  | c :: cs, h => by
    have ih := splitNl_noNl cs (fun x hx => h x (by simp [hx]))
    have hc : c ≠ '\n' := h c (by simp)
    rw [splitNl_cons, ih]
    simp [hc]

theorem splitNl_joinLines : ∀ (X : List (List Char)), (∀ l ∈ X, ∀ c ∈ l, c ≠ '\n') → splitNl (joinLines X) = X ++ [[]]
  | [], _ => rfl
  | x :: xs, h => by
    have ih := splitNl_joinLines xs (fun l hl => h l (by simp [hl]))
    have e : joinLines (x :: xs) = x ++ '\n' :: joinLines xs := by simp [joinLines]
    rw [e, splitNl_line _ _ (h x (by simp)), ih]
    simp

theorem mem_joinSp : ∀ (segs : List (List Char)) (e : List Char), e ∈ segs → ∀ x ∈ e, x ∈ joinSp segs
  | [], _, h, _, _ => absurd h (by simp)
  | [a], e, h, x, hx => by
    simp only [List.mem_singleton] at h
    subst h; simpa [joinSp] using hx
  | a :: b :: r, e, h, x, hx => by
    simp only [joinSp, List.mem_append, List.mem_cons]
    rcases List.mem_cons.mp h with rfl | h
    · exact Or.inl hx
    · exact Or.inr (Or.inr (mem_joinSp (b :: r) e h x hx))

/-- the lines of the text `write_folded_block` writes for segments: the segments at indentation `N` -/
theorem textLines_joinLines (N : Nat) (segs : List (List Char)) (hh : ∀ e ∈ segs, e.head? ≠ some ' ')
    (hn : ∀ e ∈ segs, ∀ c ∈ e, c ≠ '\n') :
    textLines (joinLines (segs.map (spaces N ++ ·))) = segs.map (fun e => (⟨N, e⟩ : Line)) := by
  have hX : ∀ l ∈ segs.map (spaces N ++ ·), ∀ c ∈ l, c ≠ '\n' := by
    intro l hl c hc
    simp only [List.mem_map] at hl
    obtain ⟨e, he, rfl⟩ := hl
    rcases List.mem_append.mp hc with h | h
    · simp only [spaces, List.mem_replicate] at h; rw [h.2]; decide
    · exact hn e he c h
  simp only [textLines, splitNl_joinLines _ hX, List.dropLast_concat, List.map_map]
  apply List.map_congr_left
  intro e he
  exact mkLine_spaces N e (hh e he)

theorem map_bodyLineAt_segs (N : Nat) (segs : List (List Char)) (hh : ∀ e ∈ segs, e.head? ≠ some ' ') :
    segs.map (fun e => (⟨N, e⟩ : Line)) = segs.map (bodyLineAt N) :=
  List.map_congr_left fun e he => by
    cases e with
    | nil => exact (bodyLineAt_nil N).symm
    | cons c cs => exact (bodyLineAt_nonspace N cs fun e' => hh _ he (by simp [e'])).symm

theorem foldLinesAux_segs : ∀ (segs : List (List Char)) (prev : List Char), prev ≠ [] → isSpaced prev = false →
    (∀ e ∈ segs, e ≠ [] ∧ isSpaced e = false) → foldLinesAux prev 0 segs = segs.flatMap (' ' :: ·)
  | [], _, _, _, _ => rfl
  | e :: es, prev, hp, hs, h => by
    obtain ⟨hne, hse⟩ := h e (by simp)
    have he : e.isEmpty = false := List.isEmpty_eq_false_iff.mpr hne
    have hpe : prev.isEmpty = false := List.isEmpty_eq_false_iff.mpr hp
    rw [foldLinesAux]
    simp only [he, Bool.false_eq_true, if_false, foldSep, hpe, hs, hse, Bool.or_self, beq_self_eq_true, if_true,
      List.flatMap_cons]
    rw [foldLinesAux_segs es e hne hse (fun x hx => h x (by simp [hx]))]
    simp

theorem joinSp_flat : ∀ (e : List Char) (es : List (List Char)), joinSp (e :: es) = e ++ es.flatMap (' ' :: ·)
  | e, [] => by simp [joinSp]
  | e, b :: r => by
    rw [joinSp, joinSp_flat b r]
    simp

theorem foldLines_segs (segs : List (List Char)) (h : ∀ e ∈ segs, e ≠ [] ∧ isSpaced e = false) :
    foldLines segs = joinSp segs := by
  cases segs with
  | nil => rfl
  | cons e es =>
    obtain ⟨hne, hse⟩ := h e (by simp)
    rw [foldLines, foldLinesAux_segs es e hne hse (fun x hx => h x (by simp [hx])), joinSp_flat]

theorem foldedBlock_lines (N w : Nat) (s : List Char) (hne : s ≠ []) (hhead : s.head? ≠ some ' ') (hnl : ∀ c ∈ s, c ≠ '\n') :
    ∃ segs, textLines (foldedBlock s N 1 w) = segs.map (fun e => (⟨N, e⟩ : Line)) ∧ joinSp segs = s ∧ segs ≠ [] ∧
      ∀ e ∈ segs, e ≠ [] ∧ e.head? ≠ some ' ' := by
  obtain ⟨segs, hfl, hjoin, hsne, hsegs⟩ := foldedLine_spec s (spaces N) w hne hhead
  refine ⟨segs, ?_, hjoin, hsne, hsegs⟩
  have hfb : foldedBlock s N 1 w = joinLines (segs.map (spaces N ++ ·)) := by
    simp only [foldedBlock, splitNl_noNl s hnl, List.flatMap_cons, List.flatMap_nil, List.append_nil, Nat.one_mul, hfl]
  rw [hfb]
  exact textLines_joinLines N segs (fun e he => (hsegs e he).2) (fun e he c hc => hnl c (hjoin ▸ mem_joinSp segs e he c hc))

theorem trimEndNl_of_noNl {s : List Char} (hnl : ∀ c ∈ s, c ≠ '\n') : trimEndNl s = s := by
  unfold trimEndNl
  cases hr : s.reverse with
  | nil => simp [List.reverse_eq_nil_iff.mp hr]
  | cons a as =>
    have ha : a ≠ '\n' := hnl a (by rw [← List.mem_reverse, hr]; simp)
    have hb : (a == '\n') = false := by simpa using ha
    simp only [List.dropWhile_cons, hb, Bool.false_eq_true, if_false]
    rw [← hr, List.reverse_reverse]

/-- the header of a folded single line that does not start with a blank is `>-` -/
theorem blockHdr_fold {s : List Char} (hne : s ≠ []) (hhead : s.head? ≠ some ' ') (hnl : ∀ c ∈ s, c ≠ '\n') :
    needsInd s = false ∧ trailNl s = 0 := by
  have htrim := trimEndNl_of_noNl hnl
  obtain ⟨c, cs, rfl⟩ := List.exists_cons_of_ne_nil hne
  have hc : c ≠ ' ' := fun e => hhead (by simp [e])
  exact ⟨by simp [needsInd, htrim, firstLineLeadingSpaces, splitNl_noNl _ hnl, hc], by simp [trailNl, htrim]⟩

/-- the reader on the header `>-` and segments at column `N`, none of them empty or starting with a blank or a TAB:
their join by single blanks -/
theorem readBlockScalar_segs (N n : Nat) (segs : List (List Char)) (rest : List Line) (hsne : segs ≠ [])
    (hsegs : ∀ e ∈ segs, e ≠ [] ∧ isSpaced e = false) (hnN : n ≤ N) (hrest : BodyEnd N rest) :
    readBlockScalar true ['-'] n (segs.map (fun e => (⟨N, e⟩ : Line)) ++ rest) = some (joinSp segs, rest) := by
  have hhead : ∀ e ∈ segs, e.head? ≠ some ' ' := fun e he h => by simpa [isSpaced, h] using (hsegs e he).2
  obtain ⟨init, l, hinit⟩ : ∃ init l, segs = init ++ [l] := ⟨_, _, (List.dropLast_concat_getLast hsne).symm⟩
  have hstrip : stripTrailingEmpty segs = (segs, 0) := by
    simpa [hinit] using stripTrailingEmpty_append init l (hsegs l (by rw [hinit]; simp)).1 0
  obtain ⟨e0, es, rfl⟩ := List.exists_cons_of_ne_nil hsne
  obtain ⟨c, cs, rfl⟩ := List.exists_cons_of_ne_nil (hsegs e0 (by simp)).1
  have hc : c ≠ ' ' := fun e => hhead (c :: cs) (by simp) (by simp [e])
  rw [map_bodyLineAt_segs N _ hhead,
    readBlockScalar_body (expl := none) (chomp := .strip) ⟨hnN, c :: cs, by simp, by simp [hc]⟩ rfl hstrip rfl hrest]
  simp only [if_true, foldLines_segs _ hsegs, chompTail, List.append_nil]

/-- a single-line string without TAB that does not start with a blank, wrapped by `write_folded_block` -/
theorem foldLeaf_ok (N n w : Nat) (s : List Char) (hN : 1 ≤ N) (hne : s ≠ []) (hhead : s.head? ≠ some ' ')
    (hchars : ∀ c ∈ s, c ≠ '\n' ∧ c ≠ '\t' ∧ lineChar c = true) (hnN : n ≤ N) :
    LeafOK n (foldLeaf N w s) (.str s) := by
  obtain ⟨hni, htr⟩ := blockHdr_fold hne hhead (fun c hc => (hchars c hc).1)
  obtain ⟨segs, hlines, hjoin, hsne, hsegs⟩ := foldedBlock_lines N w s hne hhead (fun c hc => (hchars c hc).1)
  have hmem : ∀ e ∈ segs, ∀ c ∈ e, c ∈ s := fun e he c hc => hjoin ▸ mem_joinSp segs e he c hc
  have hsp : ∀ e ∈ segs, e ≠ [] ∧ isSpaced e = false := by
    intro e he
    obtain ⟨h1, h2⟩ := hsegs e he
    have h3 : e.head? ≠ some '\t' := fun h => (hchars _ (hmem e he _ (List.mem_of_mem_head? h))).2.1 rfl
    exact ⟨h1, by simp [isSpaced, h2, h3]⟩
  rw [foldLeaf, hlines]
  refine blockLeaf_ok (folded := true) hnN (fun h => by rw [hni] at h; exact absurd h (by simp)) (fun rest hrest => ?_) ?_
  · rw [hni, htr, ← hjoin]
    exact readBlockScalar_segs N n segs rest hsne hsp hnN hrest
  · intro l hl
    simp only [List.mem_map] at hl
    obtain ⟨e, he, rfl⟩ := hl
    exact ⟨hN, (hsegs e he).2, fun y hy => (hchars y (hmem e he y hy)).2.2⟩

end SaphyrVerif.Emit
