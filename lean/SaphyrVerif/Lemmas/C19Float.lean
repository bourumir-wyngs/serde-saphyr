import SaphyrVerif.Model.F64
/-!
Facts about the IEEE-754 model `Model/F64.lean` used by C19.  `P num den j` is `2^j ≤ num/den` in the integer form
in which `ilog2` and `round` compare.  `scale` has a closed form (`scale_eq`), which makes `P` a comparison of two
products at any pair of exponents with the right difference (`P_iff`); no proof splits on the sign of an exponent.
Through `P`, `round` returns a well-formed value (`round_wf`) and is exact on representable values (`round_exact`).
Hence `±1.0 * v` — the `sign * v` of the evaluator's `unary` — is `±v` on well-formed values (`mul_one`,
`mul_neg_one`), and the well-formed values are closed under the operations.
-/
namespace SaphyrVerif.Lemmas.C19F
open SaphyrVerif.F64

/-- `2^j ≤ num/den`, the comparison `ilog2` and `round` perform through `scale`. -/
def P (num den : Nat) (j : Int) : Prop := (scale num den (-j)).2 ≤ (scale num den (-j)).1

/-- `scale` without its case split: one of the two exponents is `0`. -/
theorem scale_eq (num den : Nat) (e : Int) : scale num den e = (num * 2 ^ e.toNat, den * 2 ^ (-e).toNat) := by
  unfold scale
  split
  · rw [show (-e).toNat = 0 by omega, Nat.pow_zero, Nat.mul_one]
  · rw [show e.toNat = 0 by omega, Nat.pow_zero, Nat.mul_one]

theorem scale_snd_pos (num den : Nat) (hd : den ≠ 0) (e : Int) : 0 < (scale num den e).2 := by
  simp only [scale_eq]
  exact Nat.mul_pos (Nat.pos_of_ne_zero hd) (Nat.two_pow_pos _)

theorem scale_zero_fst (den : Nat) (e : Int) : (scale 0 den e).1 = 0 := by
  simp only [scale_eq, Nat.zero_mul]

/-- `2^(a-b) ≤ num/den` cross-multiplied.  Every other shape of `P` is this one at the `a`, `b` it needs. -/
theorem P_iff {num den : Nat} {j : Int} {a b : Nat} (h : (a : Int) - b = j) :
    P num den j ↔ den * 2 ^ a ≤ num * 2 ^ b := by
  obtain ⟨w, rfl, rfl⟩ : ∃ w, a = j.toNat + w ∧ b = (-j).toNat + w := ⟨min a b, by omega, by omega⟩
  simp only [P, scale_eq, Int.neg_neg]
  rw [Nat.pow_add, Nat.pow_add, ← Nat.mul_assoc, ← Nat.mul_assoc]
  exact (Nat.mul_le_mul_right_iff (Nat.two_pow_pos w)).symm

theorem P_anti {num den : Nat} {j k : Int} (hjk : j ≤ k) (h : P num den k) : P num den j := by
  obtain ⟨t, rfl⟩ : ∃ t : Nat, k = j + t := ⟨(k - j).toNat, by omega⟩
  rw [P_iff (a := j.toNat + t) (b := (-j).toNat) (by omega)] at h
  rw [P_iff (a := j.toNat) (b := (-j).toNat) (by omega)]
  exact Nat.le_trans (Nat.mul_le_mul_left den (Nat.pow_le_pow_right (by decide) (Nat.le_add_right _ _))) h

theorem P_of_pow {num den a b : Nat} {j : Int} (hn : 2 ^ a ≤ num) (hd : den ≤ 2 ^ b) (h : (a : Int) - b = j) :
    P num den j := by
  rw [P_iff h]
  calc den * 2 ^ a ≤ 2 ^ b * 2 ^ a := Nat.mul_le_mul_right _ hd
    _ = 2 ^ a * 2 ^ b := Nat.mul_comm _ _
    _ ≤ num * 2 ^ b := Nat.mul_le_mul_right _ hn

theorem not_P_of_pow {num den a b : Nat} {j : Int} (hn : num < 2 ^ a) (hd : 2 ^ b ≤ den) (h : (a : Int) - b = j) :
    ¬ P num den j := by
  rw [P_iff h]
  intro h
  have h1 : num * 2 ^ b < 2 ^ a * 2 ^ b := Nat.mul_lt_mul_of_pos_right hn (Nat.two_pow_pos _)
  have h2 : 2 ^ a * 2 ^ b ≤ den * 2 ^ a := Nat.mul_comm (2 ^ b) _ ▸ Nat.mul_le_mul_right _ hd
  omega

/-- `2^(e+t) ≤ num/den` read off the quotient `round` computes at exponent `e`: it has more than `t` bits. -/
theorem P_quot (num : Nat) {den : Nat} (hd : den ≠ 0) (e : Int) (t : Nat) :
    P num den (e + t) ↔ 2 ^ t ≤ (scale num den (-e)).1 / (scale num den (-e)).2 := by
  rw [Nat.le_div_iff_mul_le (scale_snd_pos num den hd _), Nat.mul_comm]
  simp only [scale_eq, Int.neg_neg]
  rw [Nat.mul_assoc, ← Nat.pow_add]
  exact P_iff (by omega)

/-- `⌊log2 (num/den)⌋`: `2^k ≤ num/den < 2^(k+1)`. -/
theorem ilog2_spec (num den : Nat) (hn : num ≠ 0) (hd : den ≠ 0) :
    P num den (ilog2 num den) ∧ ¬ P num den (ilog2 num den + 1) := by
  unfold ilog2
  simp only []
  generalize hk : (num.log2 : Int) - den.log2 = k
  -- the bit lengths give the logarithm up to one: `2^(k-1) ≤ num/den < 2^(k+1)` for their difference `k`
  have up : ¬ P num den (k + 1) := not_P_of_pow Nat.lt_log2_self (Nat.log2_self_le hd) (by omega)
  have low : P num den (k - 1) := P_of_pow (Nat.log2_self_le hn) (Nat.le_of_lt Nat.lt_log2_self) (by omega)
  by_cases hp : P num den k
  · rw [if_pos (show (scale num den (-k)).2 ≤ (scale num den (-k)).1 from hp)]
    exact ⟨hp, up⟩
  · rw [if_neg (show ¬ (scale num den (-k)).2 ≤ (scale num den (-k)).1 from hp)]
    exact ⟨low, by rwa [show k - 1 + 1 = k by omega]⟩

/-- `roundEven q r d` (value `q + r/d`, `r < d`) goes down below the half, up above it, and to the even
neighbour on a tie. -/
theorem roundEven_nearest (q r d : Nat) :
    (roundEven q r d = q ∧ 2 * r ≤ d ∧ (2 * r = d → q % 2 = 0)) ∨
    (roundEven q r d = q + 1 ∧ d ≤ 2 * r ∧ (2 * r = d → (q + 1) % 2 = 0)) := by
  unfold roundEven
  by_cases h1 : 2 * r < d
  · rw [if_pos h1]
    exact Or.inl ⟨rfl, by omega, by omega⟩
  · rw [if_neg h1]
    by_cases h2 : d < 2 * r
    · rw [if_pos h2]
      exact Or.inr ⟨rfl, by omega, by omega⟩
    · rw [if_neg h2]
      by_cases h3 : (q % 2 == 0) = true
      · rw [if_pos h3]
        exact Or.inl ⟨rfl, by omega, fun _ => by simpa using h3⟩
      · rw [if_neg h3]
        have : q % 2 ≠ 0 := by simpa using h3
        exact Or.inr ⟨rfl, by omega, fun _ => by omega⟩

theorem roundEven_zero (q d : Nat) (hd : 0 < d) : roundEven q 0 d = q := by
  rcases roundEven_nearest q 0 d with ⟨h, _⟩ | ⟨_, h, _⟩ <;> omega

theorem roundEven_bounds (q r d : Nat) : q ≤ roundEven q r d ∧ roundEven q r d ≤ q + 1 := by
  rcases roundEven_nearest q r d with ⟨h, _⟩ | ⟨h, _⟩ <;> omega

/-- Shape of a positive value `m · 2^e` handed to `round` as a fraction. -/
def Rep (num den m : Nat) (e : Int) : Prop := ∃ a b : Nat, num = m * 2 ^ a ∧ den = 2 ^ b ∧ (a : Int) - b = e

theorem log2_mul_pow (m a : Nat) (hm : m ≠ 0) : (m * 2 ^ a).log2 = m.log2 + a := by
  have hne : m * 2 ^ a ≠ 0 := Nat.mul_ne_zero hm (Nat.ne_of_gt (Nat.two_pow_pos a))
  rw [Nat.log2_eq_iff hne]
  constructor
  · rw [Nat.pow_add]; exact Nat.mul_le_mul_right _ (Nat.log2_self_le hm)
  · have : m.log2 + a + 1 = (m.log2 + 1) + a := by omega
    rw [this, Nat.pow_add]
    exact Nat.mul_lt_mul_of_pos_right Nat.lt_log2_self (Nat.two_pow_pos a)

/-- on `m · 2^a / 2^b` the logarithm is read off the bit lengths, and the comparison of `ilog2` goes the upper way -/
theorem ilog2_rep {num den m : Nat} {e : Int} (hm : m ≠ 0) (h : Rep num den m e) :
    ilog2 num den = (m.log2 : Int) + e := by
  obtain ⟨a, b, rfl, rfl, he⟩ := h
  have hp : P (m * 2 ^ a) (2 ^ b) (((m.log2 + a : Nat) : Int) - (b : Int)) :=
    P_of_pow (by rw [Nat.pow_add]; exact Nat.mul_le_mul_right _ (Nat.log2_self_le hm)) (Nat.le_refl _) rfl
  unfold ilog2
  simp only [log2_mul_pow m a hm, Nat.log2_two_pow]
  rw [if_pos (show (scale _ _ _).2 ≤ (scale _ _ _).1 from hp)]
  omega

theorem rep_scale {num den m : Nat} {e k e' : Int} (h : Rep num den m e) (hk : e + k = e') :
    Rep (scale num den k).1 (scale num den k).2 m e' := by
  obtain ⟨a, b, rfl, rfl, he⟩ := h
  simp only [scale_eq]
  exact ⟨a + k.toNat, b + (-k).toNat, by rw [Nat.pow_add, Nat.mul_assoc], by rw [Nat.pow_add], by omega⟩

theorem rep_exact {num den m : Nat} (h : Rep num den m 0) : num / den = m ∧ num % den = 0 ∧ 0 < den := by
  obtain ⟨a, b, rfl, rfl, he⟩ := h
  obtain rfl : a = b := by omega
  exact ⟨Nat.mul_div_cancel _ (Nat.two_pow_pos a), Nat.mul_mod_left _ _, Nat.two_pow_pos a⟩

theorem round_exact (f : Fmt) (neg : Bool) {num den m : Nat} {e : Int} (hm : m ≠ 0)
    (hwf : WF f (.fin neg m e)) (h : Rep num den m e) : round f neg num den = .fin neg m e := by
  obtain ⟨hlt, hemin, hemax, hnorm⟩ := hwf
  have hnum : num ≠ 0 := by
    obtain ⟨a, b, rfl, rfl, _⟩ := h
    exact Nat.mul_ne_zero hm (Nat.ne_of_gt (Nat.two_pow_pos a))
  unfold round
  have hb : (num == 0) = false := by simpa using hnum
  simp only [hb, Bool.false_eq_true, ↓reduceIte]
  rw [ilog2_rep hm h]
  -- the chosen exponent is `e`
  have hL : m.log2 < f.prec := (Nat.log2_lt hm).2 hlt
  have hE : (if (m.log2 : Int) + e - ((f.prec - 1 : Nat) : Int) < f.emin then f.emin
      else (m.log2 : Int) + e - ((f.prec - 1 : Nat) : Int)) = e := by
    cases hnorm with
    | inl hn =>
      have : f.prec - 1 ≤ m.log2 := (Nat.le_log2 hm).2 hn
      split <;> omega
    | inr hs => split <;> omega
  rw [hE]
  obtain ⟨hq, hr, hd⟩ := rep_exact (rep_scale h (Int.add_right_neg e))
  rw [hq, hr, roundEven_zero _ _ hd]
  have hne : (m == 2 ^ f.prec) = false := by
    simp only [beq_eq_false_iff_ne, ne_eq]
    omega
  simp only [hne, Bool.false_eq_true, ↓reduceIte]
  have : ¬ f.emax < e := by omega
  simp [this]

theorem round_zero (f : Fmt) (neg : Bool) (den : Nat) : round f neg 0 den = .fin neg 0 f.emin := by
  simp [round]

structure FmtOk (f : Fmt) : Prop where
  prec : 1 ≤ f.prec
  range : f.emin ≤ f.emax

theorem zero_wf {f : Fmt} (hf : FmtOk f) (s : Bool) : WF f (.fin s 0 f.emin) :=
  ⟨Nat.two_pow_pos _, Int.le_refl _, hf.range, Or.inr rfl⟩

theorem exp_of_wf_zero {f : Fmt} {s : Bool} {e : Int} (h : WF f (.fin s 0 e)) : e = f.emin :=
  h.2.2.2.resolve_left (Nat.not_le_of_gt (Nat.two_pow_pos _))

theorem round_wf {f : Fmt} (hf : FmtOk f) (neg : Bool) (num den : Nat) (hd : den ≠ 0) :
    WF f (round f neg num den) := by
  by_cases hn : num = 0
  · subst hn
    rw [round_zero]
    exact zero_wf hf neg
  · obtain ⟨hp, hee⟩ := hf
    obtain ⟨g1, g2⟩ := ilog2_spec num den hn hd
    unfold round
    have hb : (num == 0) = false := by simpa using hn
    simp only [hb, Bool.false_eq_true, ↓reduceIte]
    generalize ilog2 num den = k at *
    generalize he : (if k - ((f.prec - 1 : Nat) : Int) < f.emin then f.emin else k - ((f.prec - 1 : Nat) : Int)) = e
    have he1 : f.emin ≤ e := by rw [← he]; split <;> omega
    have he2 : k - ((f.prec - 1 : Nat) : Int) ≤ e := by rw [← he]; split <;> omega
    have he3 : e = f.emin ∨ e = k - ((f.prec - 1 : Nat) : Int) := by rw [← he]; split <;> omega
    -- the quotient at `e` has at most `prec` bits, and that many unless `e` was raised to `emin`
    have hq_lt := mt (P_quot num hd e f.prec).2 fun h => g2 (P_anti (by omega) h)
    have hq_ge : e = k - ((f.prec - 1 : Nat) : Int) → _ := fun hek =>
      (P_quot num hd e (f.prec - 1)).1 (by rwa [show e + ((f.prec - 1 : Nat) : Int) = k by omega])
    generalize scale num den (-e) = nd at *
    obtain ⟨hm1, hm2⟩ := roundEven_bounds (nd.1 / nd.2) (nd.1 % nd.2) nd.2
    generalize roundEven (nd.1 / nd.2) (nd.1 % nd.2) nd.2 = m at *
    by_cases hmp : m = 2 ^ f.prec
    · have hb2 : (m == 2 ^ f.prec) = true := by simpa using hmp
      simp only [hb2, ↓reduceIte]
      split
      · trivial
      · rename_i hle
        refine ⟨?_, by omega, by omega, Or.inl (Nat.le_refl _)⟩
        exact Nat.pow_lt_pow_right (by decide) (by omega)
    · have hb2 : (m == 2 ^ f.prec) = false := by simpa using hmp
      simp only [hb2, Bool.false_eq_true, ↓reduceIte]
      split
      · trivial
      · rename_i hle
        refine ⟨by omega, he1, by omega, ?_⟩
        cases he3 with
        | inl h => exact Or.inr h
        | inr h => exact Or.inl (Nat.le_trans (hq_ge h) hm1)

theorem one64 : ofNat binary64 1 = .fin false 4503599627370496 (-52) := by decide

theorem mul_one (x : Fl) (hx : WF binary64 x) : mul binary64 (ofNat binary64 1) x = x := by
  rw [one64]
  cases x with
  | nan => rfl
  | inf s => simp [mul]
  | fin s m e =>
    by_cases hm : m = 0
    · subst hm
      obtain rfl := exp_of_wf_zero hx
      simp only [mul, Nat.mul_zero, scale_zero_fst, round_zero]
      cases s <;> rfl
    · simp only [mul]
      have hs : (false != s) = s := by cases s <;> rfl
      rw [hs]
      exact round_exact binary64 s hm hx (rep_scale (e := 52) ⟨52, 0, Nat.mul_comm _ _, rfl, rfl⟩ (by omega))

theorem neg_round (f : Fmt) (s : Bool) (num den : Nat) : neg (round f s num den) = round f (!s) num den := by
  have hi : ∀ s, neg (.inf s) = .inf (!s) := fun _ => rfl
  have hf : ∀ s m e, neg (.fin s m e) = .fin (!s) m e := fun _ _ _ => rfl
  unfold round
  simp only [apply_ite neg, hi, hf]

/-- the sign of a product is the exclusive or of the signs, also for zeros, infinities and roundings -/
theorem mul_neg_left (f : Fmt) (a b : Fl) : mul f (neg a) b = neg (mul f a b) := by
  have hi : ∀ s, neg (.inf s) = .inf (!s) := fun _ => rfl
  have hf : ∀ s m e, neg (.fin s m e) = .fin (!s) m e := fun _ _ _ => rfl
  have hn : neg .nan = .nan := rfl
  cases a with
  | nan => cases b <;> rfl
  | inf sa =>
    cases b with
    | nan => rfl
    | inf sb => cases sa <;> cases sb <;> rfl
    | fin s m e =>
      simp only [mul, hi, hn, apply_ite neg]
      cases sa <;> cases s <;> rfl
  | fin sa ma ea =>
    cases b with
    | nan => rfl
    | inf sb =>
      simp only [mul, hi, hf, hn, apply_ite neg]
      cases sa <;> cases sb <;> rfl
    | fin s m e =>
      simp only [mul, hf, neg_round]
      cases sa <;> cases s <;> rfl

theorem mul_neg_one (x : Fl) (hx : WF binary64 x) : mul binary64 (neg (ofNat binary64 1)) x = neg x := by
  rw [mul_neg_left, mul_one x hx]

/-- the shape in which the operations call `round` -/
theorem round_scale_wf {f : Fmt} (hf : FmtOk f) (neg : Bool) (num den : Nat) (hd : den ≠ 0) (e : Int) :
    WF f (round f neg (scale num den e).1 (scale num den e).2) :=
  round_wf hf _ _ _ (Nat.ne_of_gt (scale_snd_pos num den hd e))

theorem neg_wf {f : Fmt} {x : Fl} (h : WF f x) : WF f (neg x) := by
  cases x <;> exact h

theorem add_wf {f : Fmt} (hf : FmtOk f) (a b : Fl) : WF f (add f a b) := by
  cases a with
  | nan => trivial
  | inf s1 =>
    cases b with
    | nan => trivial
    | inf s2 => simp only [add]; split <;> trivial
    | fin s2 m2 e2 => trivial
  | fin s1 m1 e1 =>
    cases b with
    | nan => trivial
    | inf s2 => trivial
    | fin s2 m2 e2 =>
      simp only [add]
      split <;> (split
                 · exact zero_wf hf _
                 · exact round_scale_wf hf _ _ _ (by decide) _)

theorem sub_wf {f : Fmt} (hf : FmtOk f) (a b : Fl) : WF f (sub f a b) := add_wf hf a (neg b)

theorem mul_wf {f : Fmt} (hf : FmtOk f) (a b : Fl) : WF f (mul f a b) := by
  cases a with
  | nan => trivial
  | inf s1 =>
    cases b with
    | nan => trivial
    | inf s2 => trivial
    | fin s2 m2 e2 => simp only [mul]; split <;> trivial
  | fin s1 m1 e1 =>
    cases b with
    | nan => trivial
    | inf s2 => simp only [mul]; split <;> trivial
    | fin s2 m2 e2 =>
      simp only [mul]
      exact round_scale_wf hf _ _ _ (by decide) _

theorem div_wf {f : Fmt} (hf : FmtOk f) (a b : Fl) : WF f (div f a b) := by
  cases a with
  | nan => trivial
  | inf s1 =>
    cases b with
    | nan => trivial
    | inf s2 => trivial
    | fin s2 m2 e2 => trivial
  | fin s1 m1 e1 =>
    cases b with
    | nan => trivial
    | inf s2 => exact zero_wf hf _
    | fin s2 m2 e2 =>
      simp only [div]
      split
      · split <;> trivial
      · rename_i hm2
        have hm2' : m2 ≠ 0 := by simpa using hm2
        exact round_scale_wf hf _ _ _ hm2' _

theorem convert_wf {f : Fmt} (hf : FmtOk f) (x : Fl) : WF f (convert f x) := by
  cases x with
  | nan => trivial
  | inf s => trivial
  | fin s m e => exact round_scale_wf hf _ _ _ (by decide) _

theorem ofNat_wf {f : Fmt} (hf : FmtOk f) (n : Nat) : WF f (ofNat f n) :=
  round_wf hf _ _ _ (by decide)

theorem ok64 : FmtOk binary64 := ⟨by show 1 ≤ 53; omega, by show (-1074 : Int) ≤ 971; omega⟩
theorem ok32 : FmtOk binary32 := ⟨by show 1 ≤ 24; omega, by show (-149 : Int) ≤ 104; omega⟩

theorem decRound_eq (f : Fmt) (mant nd : Nat) (x : Int) :
    ∃ a b, b ≠ 0 ∧ ∀ s, decRound f s mant nd x = round f s a b := by
  unfold decRound
  simp only []
  generalize (if (400 : Int) < x then (400 : Int) else if x < -((nd : Int) + 400) then -((nd : Int) + 400) else x) = y
  by_cases hy : 0 ≤ y
  · exact ⟨_, 1, by omega, fun s => by rw [if_pos hy]⟩
  · exact ⟨mant, 10 ^ (-y).toNat, Nat.ne_of_gt (Nat.pow_pos (by omega)), fun s => by rw [if_neg hy]⟩

theorem decRound_wf {f : Fmt} (hf : FmtOk f) (ng : Bool) (mant nd : Nat) (x : Int) : WF f (decRound f ng mant nd x) := by
  obtain ⟨a, b, hb, h⟩ := decRound_eq f mant nd x
  rw [h ng]
  exact round_wf hf _ _ _ hb

/-- whatever `str::parse` (as modelled) returns is a canonical value of the format -/
theorem fromStr_wf {f : Fmt} (hf : FmtOk f) (s : List Nat) (v : Fl) (h : fromStr f s = some v) : WF f v := by
  cases s with
  | nil => simp [fromStr] at h
  | cons c r =>
    simp only [fromStr] at h
    generalize (if (c == 45 || c == 43) = true then r else c :: r) = body at h
    by_cases he : body.isEmpty = true
    · simp [he] at h
    · simp only [he, Bool.false_eq_true, ↓reduceIte] at h
      cases hp : parseDecimal body with
      | some t =>
        obtain ⟨m, nd, x⟩ := t
        rw [hp] at h
        simp only [Option.some.injEq] at h
        rw [← h]
        exact decRound_wf hf _ _ _ _
      | none =>
        rw [hp] at h
        simp only [] at h
        split at h
        · cases h; trivial
        · split at h
          · cases h; trivial
          · cases h

end SaphyrVerif.Lemmas.C19F
