import SaphyrVerif.Lemmas.C07
import SaphyrVerif.Model.Pump
/-!
The per-document half of C07: the counters of the per-document enforcer over the events of ONE document are the
independent counts of that document (Spec/BudgetSpec.lean, `usageDoc`).  Inside a document (after its `DocumentStart`)
no event is a `DocumentStart` or stream framing, so its body is a run of counted events (`CountedRun`) from the state
with `events = 1`: the counting lemmas and `runFrom_err_counted` of Lemmas/C07.lean apply as they stand, and
`docRun_cases` collects what they say of one document.
-/
namespace SaphyrVerif.Lemmas.C07
open SaphyrVerif.Budget SaphyrVerif.Spec

def plainEv (ev : Raw) : Bool := !isDocStart ev && !isStreamFrame ev

def setPd (e : Enf) (pd : Bool) : Enf := { e with perDocument := pd }

@[simp] theorem setPd_report (e : Enf) (pd : Bool) : (setPd e pd).report = e.report := rfl
@[simp] theorem setPd_defined (e : Enf) (pd : Bool) : (setPd e pd).defined = e.defined := rfl
@[simp] theorem setPd_depth (e : Enf) (pd : Bool) : (setPd e pd).depth = e.depth := rfl
@[simp] theorem setPd_containers (e : Enf) (pd : Bool) : (setPd e pd).containers = e.containers := rfl
@[simp] theorem setPd_lim (e : Enf) (pd : Bool) : (setPd e pd).lim = e.lim := rfl
@[simp] theorem setPd_pd (e : Enf) (pd : Bool) : (setPd e pd).perDocument = pd := rfl

theorem plainEv_iff {ev : Raw} : plainEv ev = true ↔ isDocStart ev = false ∧ isStreamFrame ev = false := by
  simp [plainEv]

theorem countedEv_of_plain {ev : Raw} (h : plainEv ev = true) (pd : Bool) : CountedEv pd ev := by
  obtain ⟨h1, h2⟩ := plainEv_iff.1 h
  exact ⟨by rw [h1]; exact Bool.and_false _, by rw [h2]; exact Bool.and_false _⟩

theorem countedRun_of_plain {evs : List Raw} (h : evs.all plainEv = true) (pd : Bool) : CountedRun pd evs :=
  fun ev hev => countedEv_of_plain (List.all_eq_true.mp h ev hev) pd

/-! the events of a tree are node events, aliases and container ends: what holds of those holds of every event of a
flattened tree -/
mutual
theorem flatten_all {p : Raw → Bool} (hp : ∀ ev, (isNodeEv ev || isAliasEv ev || isEnd ev) = true → p ev = true) (t : Node) :
    (flatten t).all p = true := by
  match t with
  | .scalar v st a tag => simp only [flatten, List.all_cons, hp (.scalar v st a tag) rfl]; rfl
  | .alias id => simp only [flatten, List.all_cons, hp (.alias id) rfl]; rfl
  | .seq a tag items =>
    simp only [flatten, List.all_cons, List.all_append, flattenL_all hp items, hp (.seqStart a tag) rfl, hp .seqEnd rfl]; rfl
  | .map a tag entries =>
    simp only [flatten, List.all_cons, List.all_append, flattenE_all hp entries, hp (.mapStart a tag) rfl, hp .mapEnd rfl]; rfl
theorem flattenL_all {p : Raw → Bool} (hp : ∀ ev, (isNodeEv ev || isAliasEv ev || isEnd ev) = true → p ev = true)
    (ts : List Node) : (flattenL ts).all p = true := by
  match ts with
  | [] => rfl
  | t :: ts => simp only [flattenL, List.all_append, flatten_all hp t, flattenL_all hp ts]; rfl
theorem flattenE_all {p : Raw → Bool} (hp : ∀ ev, (isNodeEv ev || isAliasEv ev || isEnd ev) = true → p ev = true)
    (es : List (Node × Node)) : (flattenE es).all p = true := by
  match es with
  | [] => rfl
  | (k, v) :: es =>
    simp only [flattenE, List.all_append, flatten_all hp k, flatten_all hp v, flattenE_all hp es]; rfl
end

theorem plainEv_of_tree (ev : Raw) (h : (isNodeEv ev || isAliasEv ev || isEnd ev) = true) : plainEv ev = true := by
  cases ev <;> first | rfl | cases h

theorem flatten_plain (t : Node) : (flatten t).all plainEv = true := flatten_all plainEv_of_tree t
theorem flattenL_plain (ts : List Node) : (flattenL ts).all plainEv = true := flattenL_all plainEv_of_tree ts
theorem flattenE_plain (es : List (Node × Node)) : (flattenE es).all plainEv = true := flattenE_all plainEv_of_tree es

def docBody (d : Node) : List Raw := flatten d ++ [.docEnd]

theorem flattenDoc_eq (d : Node) : flattenDoc d = .docStart false :: docBody d := rfl

theorem docBody_plain (d : Node) : (docBody d).all plainEv = true := by
  simp only [docBody, List.all_append, flatten_plain d]; rfl

theorem docBody_counted (d : Node) : CountedRun true (docBody d) := countedRun_of_plain (docBody_plain d) true

theorem docRun_eq (lim : Limits) (d : Node) :
    docRun lim d =
      if 1 > lim.maxEvents then .error (0, .events 1) else runFrom (docStartState lim 0) 1 (docBody d) := by
  have hobs : (Enf.new lim true).observe (.docStart false) =
      if 1 > lim.maxEvents then .error (.events 1) else .ok (docStartState lim 0) :=
    observe_docStart_pd false rfl
  unfold docRun
  rw [flattenDoc_eq]
  simp only [runFrom, hobs]
  by_cases h : 1 > lim.maxEvents
  · rw [if_pos h, if_pos h]
  · rw [if_neg h, if_neg h]

theorem doc_lim (lim : Limits) (evs : List Raw) : (nextAll (docStartState lim 0) evs).lim = lim := by simp [docStartState]

theorem nDocuments_counted {evs : List Raw} (hc : CountedRun true evs) : nDocuments evs = 0 := by
  induction evs with
  | nil => rfl
  | cons x xs ih => rw [nDocuments_cons, ih hc.tail, show isDocStart x = false from hc.head.1]; rfl

theorem nNodes_doc (d : Node) : nNodes (flattenDoc d) = nNodes (docBody d) := by
  rw [flattenDoc_eq, nNodes_cons]; simp [isNodeEv, b2n]

theorem nAliases_doc (d : Node) : nAliases (flattenDoc d) = nAliases (docBody d) := by
  rw [flattenDoc_eq, nAliases_cons]; simp [isAliasEv, b2n]

theorem nAnchors_doc (d : Node) : nAnchors (flattenDoc d) = (defAfter [] (docBody d)).length := by
  rw [nAnchors_eq, flattenDoc_eq]; simp [defAfter, anchorOf]

theorem scalarBytes_doc (d : Node) : scalarBytes (flattenDoc d) = scalarBytes (docBody d) := by
  rw [flattenDoc_eq, scalarBytes_cons]; simp [scalarBytesOf]

theorem maxDepth_doc (d : Node) : maxDepth (flattenDoc d) = maxDepthFrom 0 0 (docBody d) := by
  rw [flattenDoc_eq]; simp [maxDepth, maxDepthFrom, depthStep]

theorem nEvents_doc (d : Node) : nEvents (flattenDoc d) = 1 + (docBody d).length := by
  rw [flattenDoc_eq]; simp [nEvents]; omega

theorem G_docBody (pd : Bool) (d : Node) : G pd [] (docBody d) = ([], mergeKeys d, true) := by
  simp only [docBody, G_append, G_cons, G_nil, G_node pd d]
  simp [handleAlias, isKeyTop, b2n, mkOf, wf, cstep]

def isDocEnd : Raw → Bool
  | .docEnd => true
  | _ => false

theorem noDocEnd_of_tree (ev : Raw) (h : (isNodeEv ev || isAliasEv ev || isEnd ev) = true) : (!isDocEnd ev) = true := by
  cases ev <;> first | rfl | cases h

theorem flatten_noDocEnd (t : Node) : (flatten t).all (fun ev => !isDocEnd ev) = true := flatten_all noDocEnd_of_tree t
theorem flattenL_noDocEnd (ts : List Node) : (flattenL ts).all (fun ev => !isDocEnd ev) = true :=
  flattenL_all noDocEnd_of_tree ts
theorem flattenE_noDocEnd (es : List (Node × Node)) : (flattenE es).all (fun ev => !isDocEnd ev) = true :=
  flattenE_all noDocEnd_of_tree es

theorem split_at_docEnd {xs pre post : List Raw} (hx : xs.all (fun ev => !isDocEnd ev) = true)
    (h : xs ++ [.docEnd] = pre ++ .docEnd :: post) : pre = xs ∧ post = [] := by
  induction xs generalizing pre with
  | nil =>
    cases pre with
    | nil => simp at h; exact ⟨rfl, h⟩
    | cons p ps =>
      simp only [List.nil_append, List.cons_append, List.cons.injEq] at h
      have := congrArg List.length h.2
      simp at this
  | cons x xs ih =>
    simp only [List.all_cons, Bool.and_eq_true] at hx
    cases pre with
    | nil =>
      simp only [List.cons_append, List.nil_append, List.cons.injEq] at h
      rw [h.1] at hx
      simp [isDocEnd] at hx
    | cons p ps =>
      simp only [List.cons_append, List.cons.injEq] at h
      obtain ⟨rfl, h2⟩ := h
      obtain ⟨rfl, rfl⟩ := ih hx.2 h2
      exact ⟨rfl, rfl⟩

theorem ratioOk_congr (lim : Limits) (r r' : Report) (h1 : r.aliases = r'.aliases) (h2 : r.anchors = r'.anchors) :
    ratioOk lim r = ratioOk lim r' := by
  simp only [ratioOk, h1, h2]

theorem ratioBreach_next_docEnd (e : Enf) : (next e .docEnd).ratioBreach = e.ratioBreach := by
  rw [next_docEnd]; exact ratioBreach_events ..

theorem within_next_docEnd {e : Enf} (hw : Within e) (hev : e.report.events + 1 ≤ e.lim.maxEvents) :
    Within (next e .docEnd) := by
  rw [next_docEnd]; exact ⟨hev, hw.2⟩

theorem docFinal_report (lim : Limits) (d : Node) (hlen : (flattenDoc d).length < 2 ^ 64) :
    (nextAll (docStartState lim 0) (docBody d)).finalize.1 = usageDoc d := by
  have hl : (docBody d).length < 2 ^ 64 := by
    rw [flattenDoc_eq] at hlen; simp only [List.length_cons] at hlen; omega
  have hmk : mkAll true [] (docBody d) = mergeKeys d := congrArg (·.2.1) (G_docBody true d)
  rw [nextAll_finalize (docBody_counted d) (Nat.zero_le _) (Nat.le_refl _) (by simpa [docStartState] using hl)]
  simp only [docStartState, usageDoc, nEvents_doc, nAliases_doc, nAnchors_doc, nNodes_doc, maxDepth_doc, scalarBytes_doc,
    hmk, nDocuments_counted (docBody_counted d), Nat.zero_add]

theorem docFinal_within (lim : Limits) (d : Node) (hlen : (flattenDoc d).length < 2 ^ 64) :
    Within (nextAll (docStartState lim 0) (docBody d)) ↔ within lim (usageDoc d) = true := by
  rw [← within_finalize, doc_lim, docFinal_report lim d hlen]

theorem docFinal_aliases_le (lim : Limits) (d : Node) (hlen : (flattenDoc d).length < 2 ^ 64) :
    (nextAll (docStartState lim 0) (docBody d)).report.aliases ≤ USIZE_MAX := by
  rw [(nextAll_counts (docBody_counted d)).2.2.1]
  show 0 + nAliases (docBody d) ≤ USIZE_MAX
  have h1 := nAliases_le_length (docBody d)
  have hU : USIZE_MAX = 2 ^ 64 - 1 := rfl
  rw [flattenDoc_eq] at hlen; simp only [List.length_cons] at hlen; omega

theorem docFinal_ratio (lim : Limits) (d : Node) (hlen : (flattenDoc d).length < 2 ^ 64) :
    (nextAll (docStartState lim 0) (docBody d)).ratioBreach =
      if ratioOk lim (usageDoc d) = true then none
      else some (.ratio (usageDoc d).aliases (usageDoc d).anchors) := by
  rw [ratioBreach_eq _ (docFinal_aliases_le lim d hlen), doc_lim, docFinal_report lim d hlen]

theorem docBody_eq (d : Node) : docBody d = flatten d ++ [.docEnd] := rfl

theorem within_docStartState {lim : Limits} (h : ¬ 1 > lim.maxEvents) : Within (docStartState lim 0) := by
  simp [Within, docStartState]; omega

theorem runFrom_ok_docEnd {e e' : Enf} {i : Nat} {evs : List Raw} (hpd : e.perDocument = true)
    (h : runFrom e i (evs ++ [.docEnd]) = .ok e') : e'.ratioBreach = none := by
  -- the check was silent on the state before, and the event only moves the event counter
  have hr := (runFrom_ok_admits h).2 (by rw [nextAll_pd, hpd]) rfl
  obtain ⟨rfl, -⟩ := runFrom_ok h
  rw [nextAll_append]
  exact (ratioBreach_next_docEnd _).trans hr

/-- a document read on its own is accepted, rejected by a counter, or rejected at its `DocumentEnd` by the ratio check,
and which of the three is decided by its own counts `usageDoc d` -/
theorem docRun_cases (lim : Limits) (d : Node) (hlen : (flattenDoc d).length < 2 ^ 64) :
    (∃ e, docRun lim d = .ok e ∧ within lim (usageDoc d) = true ∧ ratioOk lim (usageDoc d) = true ∧
        e.finalize.1 = usageDoc d) ∨
    (∃ j b, docRun lim d = .error (j, b) ∧ (∀ a n, b ≠ .ratio a n) ∧ within lim (usageDoc d) = false) ∨
    (docRun lim d = .error ((flattenDoc d).length - 1, .ratio (usageDoc d).aliases (usageDoc d).anchors) ∧
      within lim (usageDoc d) = true ∧ ratioOk lim (usageDoc d) = false) := by
  have hW := docFinal_within lim d hlen
  have hR := docFinal_ratio lim d hlen
  rw [docRun_eq]
  split
  · rename_i h1
    refine .inr (.inl ⟨0, _, rfl, fun _ _ hb => (nomatch hb), Bool.eq_false_iff.2 fun hwi => ?_⟩)
    have := ((within_iff ..).1 hwi).1
    simp only [usageDoc, nEvents_doc] at this
    omega
  · rename_i h1
    cases h : runFrom (docStartState lim 0) 1 (docBody d) with
    | ok e =>
      have hr := runFrom_ok_docEnd rfl (docBody_eq d ▸ h)
      obtain ⟨rfl, hw⟩ := runFrom_ok h
      rw [hR] at hr
      refine .inl ⟨_, rfl, hW.1 (hw (within_docStartState h1)), ?_, docFinal_report lim d hlen⟩
      split at hr
      · assumption
      · cases hr
    | error p =>
      obtain ⟨j, b⟩ := p
      have hl : (docBody d).length < 2 ^ 64 := by
        rw [flattenDoc_eq] at hlen; simp only [List.length_cons] at hlen; omega
      rcases runFrom_err_counted (docBody_counted d) (Nat.zero_le _) rfl (by simpa [docStartState] using hl)
          (congrArg (·.2.2) (G_docBody true d)) h with ⟨a, n, pre, post, -, rfl, heq, rfl, hok, hev, hr⟩ | ⟨hn, hw⟩
      · -- the only `DocumentEnd` is the last event, and it only moves the event counter
        obtain ⟨rfl, rfl⟩ := split_at_docEnd (flatten_noDocEnd d) heq
        have hS : nextAll (docStartState lim 0) (docBody d) = next (nextAll (docStartState lim 0) (flatten d)) .docEnd := by
          rw [docBody_eq, nextAll_append]; rfl
        have hw : Within (nextAll (docStartState lim 0) (docBody d)) := by
          rw [hS]
          exact within_next_docEnd ((runFrom_ok hok).2 (within_docStartState h1)) (by rwa [nextAll_lim])
        rw [hS, ratioBreach_next_docEnd, hr] at hR
        split at hR
        · cases hR
        · rename_i hno
          cases hR
          refine .inr (.inr ⟨?_, hW.1 hw, by simpa using hno⟩)
          rw [flattenDoc_eq, docBody_eq]; simp; omega
      · exact .inr (.inl ⟨j, b, rfl, hn, Bool.eq_false_iff.2 fun hwi => hw (hW.2 hwi)⟩)

/-- the recovery path of the pump (`skip_to_next_document`): `skipLoop` does not touch the budget before the
`DocumentStart` it stops at; there it hands the budget to `begin_document_at` -/
theorem skipLoop_budget (p p' : Pump.Pump) (inp rest : List Pump.RawItem)
    (h : Pump.skipLoop p inp = (true, p', rest)) :
    ∃ b, Pump.skipBudget p.budget (.docStart b) = some p'.budget := by
  induction inp generalizing p with
  | nil => simp [Pump.skipLoop] at h
  | cons it tl ih =>
    cases it with
    | err ua l => simp [Pump.skipLoop] at h
    | ev raw loc =>
      cases raw with
      | docStart b =>
        simp only [Pump.skipLoop] at h
        split at h
        · simp at h
        · rename_i bud hb
          simp only [Prod.mk.injEq, true_and] at h
          obtain ⟨rfl, -⟩ := h
          exact ⟨b, hb⟩
      | streamEnd => simp [Pump.skipLoop] at h
      | docEnd | streamStart | scalar | seqStart | seqEnd | mapStart | mapEnd | alias | nothing =>
        -- the skipped event leaves the budget alone (`have`: the pump of `ih` is to be read off `h`, not off the goal)
        simp only [Pump.skipLoop] at h
        have := ih _ h
        exact this

theorem skipBudget_some_pd {enf e' : Enf} {b : Bool} (hpd : enf.perDocument = true)
    (h : Pump.skipBudget (some enf) (.docStart b) = some (some e')) : enf.observe (.docStart b) = .ok e' := by
  simp only [Pump.skipBudget, Enf.beginDocumentAt, hpd, if_true] at h
  split at h
  · cases h
  · rename_i e1 h1
    injection h with h; injection h with h; subst h; exact h1

end SaphyrVerif.Lemmas.C07
