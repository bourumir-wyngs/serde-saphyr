import SaphyrVerif.Lemmas.C11_Typed2LockRel
import SaphyrVerif.Lemmas.LockStep
/-!
Lock-step comparison `LR` of a cursor `c` with `σ c`: the statement `LA` for every function of the mutual block of
`Model/De.lean` that reads from the cursor, and its proof `lA` — the pass of `Lemmas/LockStep.lean` with no one-sided
outcome (`Br` is `False`).
-/
namespace SaphyrVerif.Lemmas.Lock
open SaphyrVerif SaphyrVerif.Scalars SaphyrVerif.Pump SaphyrVerif.De
open SaphyrVerif.Lemmas.LockStep (XP XR)

def LP.toXP (P : LP) : XP where
  σ := P.σ
  Inv := P.Inv
  ErrI := P.ErrI
  Br := fun _ _ => False
  σ_lastLoc := P.σ_lastLoc
  σ_refLoc := P.σ_refLoc
  σ_atAlias := P.σ_atAlias
  inv_err := P.inv_err
  br_attach := fun _ _ _ _ h => h

theorem lr_of_xr {P : LP} {α : Type} {x y : R α} (h : XR P.toXP x y) : LR P x y := by
  cases h with
  | ok hi => exact .ok hi
  | err hi => exact .err hi
  | brk hb => exact hb.elim

theorem xr_of_lr {P : LP} {α : Type} {x y : R α} (h : LR P x y) : XR P.toXP x y := by
  cases h with
  | ok hi => exact .ok (P := P.toXP) hi
  | err hi => exact .err (P := P.toXP) hi

theorem Closed.toXP {P : LP} (hcl : Closed P) : LockStep.Closed P.toXP :=
  fun c hi => ⟨xr_of_lr (hcl c hi).1, xr_of_lr (hcl c hi).2⟩

theorem deserStr_lk {P : LP} (hcl : Closed P) (cfg : Cfg) {c : Cur} (hi : P.Inv c) :
    LR P (deserStr cfg c) (deserStr cfg (P.σ c)) :=
  lr_of_xr (LockStep.deserStr_x hcl.toXP cfg hi)

theorem byteSeqVisit_lk {P : LP} (hcl : Closed P) (shape : Ty ⊕ List Ty) (data : List Nat) {c : Cur} (hi : P.Inv c) :
    LR P (byteSeqVisit shape data c) (byteSeqVisit shape data (P.σ c)) :=
  lr_of_xr (LockStep.byteSeqVisit_x hcl.toXP shape data hi)

theorem structFinish_lk {P : LP} (hcl : Closed P) (fields : List (String × Ty)) (got : List (String × Val)) {c : Cur}
    (hi : P.Inv c) : LR P (structFinish fields got c) (structFinish fields got (P.σ c)) :=
  lr_of_xr (LockStep.structFinish_x hcl.toXP fields got hi)

structure LA (P : LP) (fuel : Nat) : Prop where
  capture : ∀ {c}, P.Inv c → LR P (De.capture fuel c) (De.capture fuel (P.σ c))
  captureSeq : ∀ fps evs {c}, P.Inv c → LR P (De.captureSeq fuel c fps evs) (De.captureSeq fuel (P.σ c) fps evs)
  captureMap : ∀ fps evs {c}, P.Inv c → LR P (De.captureMap fuel c fps evs) (De.captureMap fuel (P.σ c) fps evs)
  mergeSeqBatches : ∀ b {c}, P.Inv c → LR P (De.mergeSeqBatches fuel c b) (De.mergeSeqBatches fuel (P.σ c) b)
  pendingFromLive : ∀ r {c}, P.Inv c → LR P (De.pendingFromLive fuel c r) (De.pendingFromLive fuel (P.σ c) r)
  collectEntriesFromMap : ∀ r {c}, P.Inv c →
    LR P (De.collectEntriesFromMap fuel c r) (De.collectEntriesFromMap fuel (P.σ c) r)
  collectLoop : ∀ r f m {c}, P.Inv c → LR P (De.collectLoop fuel c r f m) (De.collectLoop fuel (P.σ c) r f m)
  skipOneNode : ∀ {c}, P.Inv c → LR P (De.skipOneNode fuel c) (De.skipOneNode fuel (P.σ c))
  skipDepth : ∀ depth {c}, P.Inv c → LR P (De.skipDepth fuel c depth) (De.skipDepth fuel (P.σ c) depth)
  deser : ∀ cfg ty ik km {c}, P.Inv c → LR P (De.deser fuel cfg ty ik km c) (De.deser fuel cfg ty ik km (P.σ c))
  bytesLoop : ∀ cfg acc {c}, P.Inv c → LR P (De.bytesLoop fuel cfg c acc) (De.bytesLoop fuel cfg (P.σ c) acc)
  deserSeqLike : ∀ cfg shape {c}, P.Inv c →
    LR P (De.deserSeqLike fuel cfg shape c) (De.deserSeqLike fuel cfg shape (P.σ c))
  seqElems : ∀ cfg t acc {c}, P.Inv c → LR P (De.seqElems fuel cfg t c acc) (De.seqElems fuel cfg t (P.σ c) acc)
  tupleElems : ∀ cfg ts acc {c}, P.Inv c →
    LR P (De.tupleElems fuel cfg ts c acc) (De.tupleElems fuel cfg ts (P.σ c) acc)
  deserMapLike : ∀ cfg shape {c}, P.Inv c →
    LR P (De.deserMapLike fuel cfg shape c) (De.deserMapLike fuel cfg shape (P.σ c))
  mapEntries : ∀ cfg kt vt m acc {c}, P.Inv c →
    LR P (De.mapEntries fuel cfg kt vt c m acc) (De.mapEntries fuel cfg kt vt (P.σ c) m acc)
  structEntries : ∀ cfg fields deny m acc {c}, P.Inv c →
    LR P (De.structEntries fuel cfg fields deny c m acc) (De.structEntries fuel cfg fields deny (P.σ c) m acc)
  nextKey : ∀ cfg ks m {c}, P.Inv c → LR P (De.nextKey fuel cfg ks c m) (De.nextKey fuel cfg ks (P.σ c) m)
  nextValue : ∀ cfg vt m {c}, P.Inv c → LR P (De.nextValue fuel cfg vt c m) (De.nextValue fuel cfg vt (P.σ c) m)
  deserEnum : ∀ cfg name variants {c}, P.Inv c →
    LR P (De.deserEnum fuel cfg name variants c) (De.deserEnum fuel cfg name variants (P.σ c))
  collectTaggedSeq : ∀ depth acc {c}, P.Inv c →
    LR P (De.collectTaggedSeq fuel c depth acc) (De.collectTaggedSeq fuel (P.σ c) depth acc)
  variantPayload : ∀ cfg variants vname vloc mapMode tagged {c}, P.Inv c →
    LR P (De.variantPayload fuel cfg variants vname vloc mapMode tagged c)
      (De.variantPayload fuel cfg variants vname vloc mapMode tagged (P.σ c))

theorem act0_eq1 : ((0 : Nat) == 1) = false := De.act0_eq1
theorem act0_eq2 : ((0 : Nat) == 2) = false := De.act0_eq2

theorem lA {P : LP} (hcl : Closed P) : ∀ fuel, LA P fuel := fun fuel =>
  have h := LockStep.xA hcl.toXP fuel
  { capture := fun hi => lr_of_xr (h.capture hi)
    captureSeq := fun fps evs _ hi => lr_of_xr (h.captureSeq fps evs hi)
    captureMap := fun fps evs _ hi => lr_of_xr (h.captureMap fps evs hi)
    mergeSeqBatches := fun b _ hi => lr_of_xr (h.mergeSeqBatches b hi)
    pendingFromLive := fun r _ hi => lr_of_xr (h.pendingFromLive r hi)
    collectEntriesFromMap := fun r _ hi => lr_of_xr (h.collectEntriesFromMap r hi)
    collectLoop := fun r f m _ hi => lr_of_xr (h.collectLoop r f m hi)
    skipOneNode := fun hi => lr_of_xr (h.skipOneNode hi)
    skipDepth := fun depth _ hi => lr_of_xr (h.skipDepth depth hi)
    deser := fun cfg ty ik km _ hi => lr_of_xr (h.deser cfg ty ik km hi)
    bytesLoop := fun cfg acc _ hi => lr_of_xr (h.bytesLoop cfg acc hi)
    deserSeqLike := fun cfg shape _ hi => lr_of_xr (h.deserSeqLike cfg shape hi)
    seqElems := fun cfg t acc _ hi => lr_of_xr (h.seqElems cfg t acc hi)
    tupleElems := fun cfg ts acc _ hi => lr_of_xr (h.tupleElems cfg ts acc hi)
    deserMapLike := fun cfg shape _ hi => lr_of_xr (h.deserMapLike cfg shape hi)
    mapEntries := fun cfg kt vt m acc _ hi => lr_of_xr (h.mapEntries cfg kt vt m acc hi)
    structEntries := fun cfg fields deny m acc _ hi => lr_of_xr (h.structEntries cfg fields deny m acc hi)
    nextKey := fun cfg ks m _ hi => lr_of_xr (h.nextKey cfg ks m hi)
    nextValue := fun cfg vt m _ hi => lr_of_xr (h.nextValue cfg vt m hi)
    deserEnum := fun cfg name variants _ hi => lr_of_xr (h.deserEnum cfg name variants hi)
    collectTaggedSeq := fun depth acc _ hi => lr_of_xr (h.collectTaggedSeq depth acc hi)
    variantPayload := fun cfg variants vname vloc mapMode tagged _ hi =>
      lr_of_xr (h.variantPayload cfg variants vname vloc mapMode tagged hi) }

#print axioms lA

end SaphyrVerif.Lemmas.Lock
