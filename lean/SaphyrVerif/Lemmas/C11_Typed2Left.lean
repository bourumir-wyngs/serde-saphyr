import SaphyrVerif.Lemmas.C11_Typed2Doc
/-!
Typed multi-document theorems (C11): how the streaming iterator LEAVES a document (or a block of documents) of a
stream.  `Left … X F its go` is the one form in which every per-document result is stated — a served document with
its rounds, a document in which the pump fails, a whole list of documents — so that results compose along the
stream (`Lemmas/C11_Typed2Stream.lean`, `BlockIter.append`).  `Yields` is `Left` for the iterator at a given cursor,
with the items compared up to error payloads.
-/
namespace SaphyrVerif.Lemmas.C11B
open SaphyrVerif SaphyrVerif.Scalars SaphyrVerif.Pump SaphyrVerif.De SaphyrVerif.Spec SaphyrVerif.Budget SaphyrVerif.Entry
open SaphyrVerif.Lemmas.C11T (J Item sameItems peek_congr iterLoop_congr)

theorem iter_endB {L : AliasLimits} {ob : Option Limits} {q : Pump} (hq : BoundaryB L ob q) (hl : q.look = none)
    (hp : q.producedAny = true) (hf : FinOk q) (l1 : Loc) (cfg : Cfg) (ty : Ty) (m : Nat) (acc : List Item) :
    iterLoop cfg ty (m + 1) q [.ev .streamEnd l1] acc = acc := by
  -- the marker is not charged; behind it the input is at its end, after at least one event
  have hn : nextImpl q [.ev .streamEnd l1] = (.eof, { q with lastLoc := l1 }, []) := by
    rw [nextImpl_of_inject_nil hq.inj, parserLoop_item (budgetStep_frame hq.bud rfl) .streamEnd]
    exact (Pump.parserLoop_nil _).trans (if_neg (by simp [hp]))
  have hfin : ∀ p : Pump, p.budget = q.budget → (Pump.finish p).1 = none := by
    intro p hb
    unfold FinOk Pump.finish at hf
    unfold Pump.finish
    rw [hb]
    cases hq : q.budget <;> simp_all
  simp [iterLoop, Cur.peek, Pump.peek, hl, hn, finishCur, hfin]

/-- a start state reached by the recovery, seen as a document boundary in front of the marker it has consumed -/
theorem start_as_boundary {L : AliasLimits} {ob : Option Limits}
    {ls : Loc} {q4 : Pump} (hs4 : StartB L ob ls q4) (ex : Bool) (Z : List RawItem) :
    BoundaryB L ob q4 ∧ Cur.peek (.live q4 Z) = Cur.peek (.live q4 (.ev (.docStart ex) ls :: Z)) := by
  obtain ⟨hb4, hq4⟩ := start_readd hs4
  refine ⟨hb4, ?_⟩
  symm
  apply peek_congr hs4.look hs4.look
  rw [step_docStartB hb4 ex ls, hq4]

/-- `F m acc` is the iterator somewhere in front of the rest `X` of a stream (the next document, or the end of the
stream), with `m` rounds of fuel to spare and the items `acc` yielded so far.  It yields `its` and then, if `go`,
goes on at a document boundary in front of `X` — at the end of the stream: yields nothing more —; if not `go`, it is
finished (`ReadIter::finished`).  The two ways of going on, through the document end and through the recovery
`skip_to_next_document` (which has consumed the next `DocumentStart`: `start_as_boundary` puts it back), are not
told apart; at the end of the stream no state is needed because `iterLoop 0` returns its accumulator. -/
def Left (L : AliasLimits) (ob : Option Limits) (cfg : Cfg) (ty : Ty) (X : List RawItem)
    (F : Nat → List Item → List Item) (its : List Item) : Bool → Prop
  | true =>
    (∀ l1, X = [.ev .streamEnd l1] → ∀ m acc, F m acc = acc ++ its) ∧
    (∀ ex ls Y, X = .ev (.docStart ex) ls :: Y → ∃ q, BoundaryB L ob q ∧ q.look = none ∧
      ∀ m acc, F m acc = iterLoop cfg ty m q X (acc ++ its))
  | false => ∀ m acc, F m acc = acc ++ its

section
variable {L : AliasLimits} {ob : Option Limits} {cfg : Cfg} {ty : Ty} {X : List RawItem}
  {F F2 : Nat → List Item → List Item} {its : List Item}

theorem Left.of_boundary {q : Pump} (hq : BoundaryB L ob q) (hl : q.look = none)
    (hp : ∀ l1, X = [.ev .streamEnd l1] → q.producedAny = true ∧ FinOk q)
    (h : ∀ m acc, F m acc = iterLoop cfg ty m q X (acc ++ its)) : Left L ob cfg ty X F its true := by
  refine ⟨fun l1 hX m acc => ?_, fun ex ls Y _ => ⟨q, hq, hl, h⟩⟩
  obtain ⟨hp1, hp2⟩ := hp l1 hX
  subst hX
  rw [h]
  cases m with
  | zero => rfl
  | succ m => exact iter_endB hq hl hp1 hp2 l1 cfg ty m _

theorem Left.of_skip {le : Loc} {q3 : Pump} {inq3 : List RawItem} (hst : StatB L ob q3)
    (hJ : J (.ev .docEnd le :: X) inq3)
    (h : ∀ m acc, F m acc = (let (found, p, inp) := Pump.skipToNextDocument q3 inq3
      if found then iterLoop cfg ty m p inp (acc ++ its) else acc ++ its)) : Left L ob cfg ty X F its true := by
  obtain ⟨hfin, hnext⟩ := skip_from_docB hst hJ
  refine ⟨fun l1 hX m acc => ?_, fun ex ls Y hX => ?_⟩
  · have hf := hfin l1 hX
    rw [h]
    rcases hsk : skipToNextDocument q3 inq3 with ⟨found, p4, inp4⟩
    rw [hsk] at hf
    simp only at hf
    subst hf
    simp
  · obtain ⟨q4, hsk, hs4, -⟩ := hnext ex ls Y hX
    obtain ⟨hb4, hpk4⟩ := start_as_boundary hs4 ex Y
    refine ⟨q4, hb4, hs4.look, fun m acc => ?_⟩
    rw [h, hsk, hX]
    exact iterLoop_congr cfg ty hpk4 m _

theorem Left.stop (h : ∀ m acc, F m acc = acc ++ its) : Left L ob cfg ty X F its false := h

theorem Left.push {go : Bool} (x : List Item) (h : Left L ob cfg ty X F2 its go)
    (hF : ∀ m acc, F m acc = F2 m (acc ++ x)) : Left L ob cfg ty X F (x ++ its) go := by
  cases go with
  | false => exact fun m acc => by rw [hF, h, List.append_assoc]
  | true =>
    refine ⟨fun l1 hX m acc => by rw [hF, h.1 l1 hX, List.append_assoc], fun ex ls Y hX => ?_⟩
    obtain ⟨q, hq, hl, heq⟩ := h.2 ex ls Y hX
    exact ⟨q, hq, hl, fun m acc => by rw [hF, heq, List.append_assoc]⟩

theorem Left.at_end {go : Bool} {l1 : Loc} (h : Left L ob cfg ty [.ev .streamEnd l1] F its go) :
    ∀ m acc, F m acc = acc ++ its := by
  cases go with
  | true => exact h.1 l1 rfl
  | false => exact h

theorem Left.congr {go : Bool} (h : Left L ob cfg ty X F2 its go) (hF : ∀ m acc, F m acc = F2 m acc) :
    Left L ob cfg ty X F its go := by
  rw [show F = F2 from funext fun m => funext (hF m)]
  exact h

end

/-- the iterator at the cursor `.live p inp`, in front of the rest `X` of the stream, in terms of
`r = (items, the iterator goes on, number of rounds)`: within `r.2.2` rounds it yields items that agree with `r.1`
(equal values; errors only as errors) and leaves as `Left` says -/
def Yields (L : AliasLimits) (ob : Option Limits) (cfg : Cfg) (ty : Ty) (X : List RawItem) (p : Pump)
    (inp : List RawItem) (r : List Item × Bool × Nat) : Prop :=
  ∃ its, sameItems its r.1 ∧ Left L ob cfg ty X (fun m acc => iterLoop cfg ty (m + r.2.2) p inp acc) its r.2.1

theorem Yields.congr {L : AliasLimits} {ob : Option Limits} {cfg : Cfg} {ty : Ty} {X : List RawItem} {p p' : Pump}
    {inp inp' : List RawItem} {r : List Item × Bool × Nat}
    (hpk : Cur.peek (.live p inp) = Cur.peek (.live p' inp')) (h : Yields L ob cfg ty X p' inp' r) :
    Yields L ob cfg ty X p inp r := by
  obtain ⟨its, hsame, hleft⟩ := h
  exact ⟨its, hsame, hleft.congr fun m acc => iterLoop_congr cfg ty hpk _ acc⟩

end SaphyrVerif.Lemmas.C11B
