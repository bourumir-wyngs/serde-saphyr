import SaphyrVerif.Lemmas.C12Doc
import SaphyrVerif.Lemmas.C12Literal
/-!
Helper lemmas for C12: the document frame, generically. Reader side: `readDoc` on a document made of the
optional preamble, the opening of the position and a scalar text is `readNode` on that text. Writer side:
what `emitDoc` is when the scalar writer produced a given text. Both together: `frame_doc`, and `OneLine.doc` for a text
that satisfies the one-line contract of C12Doc.
-/
namespace SaphyrVerif.Lemmas.C12
open SaphyrVerif SaphyrVerif.SerScalar SaphyrVerif.Spec.Read SaphyrVerif.Scalars

/-- depth of the dash of a sequence that is the value of a top-level mapping key -/
def seqInMapDepth (o : Opts) : Nat := if o.compactList then 0 else 1

/-- opening of a position as the writer produces it under the options `o`: two positions depend on the
indentation step, and the variant name is a scalar too, quoted under `quote_all` -/
def openingO (o : Opts) (p : Spec.Read.Pos) : List Char :=
  match p with
  | .nestedMapValue => ['a', ':', '\n'] ++ (spaces o.indentStep ++ ['k', ':', ' '])
  | .seqInMap => ['a', ':', '\n'] ++ (spaces (o.indentStep * seqInMapDepth o) ++ ['-', ' '])
  | .variant => if o.quoteAll then ['\'', 'V', '\'', ':', ' '] else opening .variant
  | _ => opening p

/-- column of the parent block node -/
def posParentO (o : Opts) (p : Spec.Read.Pos) : Int :=
  match p with
  | .nestedMapValue => (o.indentStep : Int)
  | .seqInMap => ((o.indentStep * seqInMapDepth o : Nat) : Int)
  | .root | .mapKey => -1
  | .seqInSeq => 2
  | _ => 0

theorem stripOpening_openingO (o : Opts) (p : Spec.Read.Pos) (hstep : 1 ≤ o.indentStep) (c : Char) (r : List Char)
    (hc : isBlank c = false) :
    stripOpening p (openingO o p ++ c :: r) = some (c :: r, posCol0 p, posParentO o p) := by
  have hd : (c :: r).dropWhile isBlank = c :: r := List.dropWhile_cons_of_neg (Bool.eq_false_iff.mp hc)
  have hsp : ∀ n (d : Char) (t : List Char), d ≠ ' ' →
      leadingSpaces (spaces n ++ d :: t) = n ∧ (spaces n ++ d :: t).drop n = d :: t :=
    fun n d t hd => ⟨leadingSpaces_spaces_cons n d t hd, List.drop_left' (by simp [spaces])⟩
  cases p with
  | nestedMapValue =>
    obtain ⟨h1, h2⟩ := hsp o.indentStep 'k' (':' :: ' ' :: c :: r) (by decide)
    have hne : o.indentStep ≠ 0 := by omega
    simp [openingO, stripOpening, stripPrefix?, h1, h2, hne, afterIndicator, sepBlank, hd, posCol0, posParentO]
  | seqInMap =>
    obtain ⟨h1, h2⟩ := hsp (o.indentStep * seqInMapDepth o) '-' (' ' :: c :: r) (by decide)
    simp [openingO, stripOpening, stripPrefix?, h1, h2, afterIndicator, sepBlank, hd, posCol0, posParentO]
  | variant =>
    cases hq : o.quoteAll <;>
      simp [openingO, hq, opening, stripOpening, stripPrefix?, afterIndicator, sepBlank, hd, posCol0, posParentO]
  | seqInSeq =>
    have h2 : List.dropWhile isBlank ('-' :: ' ' :: c :: r) = '-' :: ' ' :: c :: r := List.dropWhile_cons_of_neg (by decide)
    simp [openingO, opening, stripOpening, stripPrefix?, afterIndicator, sepBlank, hd, h2, posCol0, posParentO]
  | _ =>
    simp [openingO, opening, stripOpening, stripPrefix?, afterIndicator, sepBlank, hd, headSat, hc, posCol0, posParentO]


/-- the first character of a document body is the scalar's first character or one of the opening's -/
theorem openingO_head (o : Opts) (p : Spec.Read.Pos) (c : Char) (r : List Char) (x : Char) (hc : c ≠ x)
    (hx : x ∉ ['k', 'V', '\'', '-', '[', '{', 'a']) : (openingO o p ++ c :: r).head? ≠ some x := by
  have key : (openingO o p ++ c :: r).head? = some c ∨
      ∃ a ∈ ['k', 'V', '\'', '-', '[', '{', 'a'], (openingO o p ++ c :: r).head? = some a := by
    cases p with
    | root | mapKey => exact Or.inl rfl
    | variant => simp only [openingO]; cases o.quoteAll <;> exact Or.inr ⟨_, by decide, rfl⟩
    | _ => exact Or.inr ⟨_, by decide, rfl⟩
  rcases key with h | ⟨a, ha, h⟩ <;> rw [h]
  · simpa using hc
  · exact fun e => hx (Option.some.inj e ▸ ha)

theorem openingO_noNul (o : Opts) (p : Spec.Read.Pos) : (openingO o p).any isNul = false := by
  cases p with
  | variant => cases hq : o.quoteAll <;> simp [openingO, hq, opening] <;> decide
  | nestedMapValue | seqInMap => simp [openingO, spaces, isNul]
  | _ => rfl


theorem readDocBody_open (o : Opts) (p : Spec.Read.Pos) (hstep : 1 ≤ o.indentStep) (c : Char) (r : List Char)
    (hblank : isBlank c = false) (hpct : c ≠ '%') (hnul : (c :: r).any isNul = false) :
    readDocBody p (openingO o p ++ c :: r) = readNode p (c :: r) (posCol0 p) (posParentO o p) := by
  have hpc : ((openingO o p ++ c :: r).head? == some '%') = false := by
    simpa using openingO_head o p c r '%' hpct (by decide)
  rw [readDocBody, hpc, List.any_append, openingO_noNul, hnul, stripOpening_openingO o p hstep c r hblank]
  rfl

theorem readDoc_open (o : Opts) (p : Spec.Read.Pos) (hstep : 1 ≤ o.indentStep) (c : Char) (r : List Char)
    (hblank : isBlank c = false) (hpct : c ≠ '%') (hbom : c ≠ Char.ofNat 0xFEFF)
    (hnul : (c :: r).any isNul = false) :
    readDoc p (preamble o ++ (openingO o p ++ c :: r)) = readNode p (c :: r) (posCol0 p) (posParentO o p) := by
  rw [readDoc_frame o p _ (openingO_head o p c r _ hbom (by decide)) (openingO_head o p c r _ hpct (by decide))]
  exact readDocBody_open o p hstep c r hblank hpct hnul

theorem isDocMarker_head (a : Char) (t : List Char) (h1 : a ≠ '-') (h2 : a ≠ '.') : isDocMarker (a :: t) = false := by
  cases t with
  | nil => rfl
  | cons b t =>
    cases t with
    | nil => rfl
    | cons c r => simp [isDocMarker, h1, h2]

def isValuePos (p : SerScalar.Pos) : Bool := !isKeyPos p

/-- the `write_space_if_pending` text and the end of a scalar (`write_end_of_scalar`) -/
def spOf (cx : Ctx) : List Char := if cx.pendingSpace then [' '] else []
def nlOf (cx : Ctx) : List Char := if cx.inFlow then [] else ['\n']

theorem variant_name (qa : Bool) :
    writePlainOrQuoted ['V'] qa = (if qa then ['\'', 'V', '\''] else ['V']) := by
  cases qa <;> decide +kernel

/-- what the collection serializers and `write_space_if_pending` put in front of the scalar is the opening
the reader strips -/
theorem posPre_spOf (o : Opts) (p : SerScalar.Pos) : posPre o p ++ spOf (posCtx o p) = openingO o (toRead p) := by
  cases p with
  | variant => cases hq : o.quoteAll <;> simp [posPre, variant_name, hq, spOf, posCtx, openingO, opening, toRead]
  | nestedMapValue | seqInMap => simp [posPre, spOf, posCtx, openingO, toRead, seqInMapDepth]
  | _ => rfl

theorem nlOf_posPost (o : Opts) (p : SerScalar.Pos) (hk : isKeyPos p = false) :
    nlOf (posCtx o p) ++ posPost p = lineEnd (toRead p) := by
  cases p <;> first | (cases hk; done) | rfl

theorem writeIndent_root (o : Opts) : writeIndent o (posCtx o .root) 0 = preamble o := by
  rw [writeIndent, indentCols_shift0 o _ 0 rfl]
  simp only [posCtx, preamble, Bool.not_false, Bool.true_and, if_true, Nat.mul_zero, spaces, List.replicate_zero,
    List.append_nil]

/-- a scalar text `T` (all that `serialize_str` wrote after the pending space and the indentation) in a
value position: the whole document.  `d` is the depth the writer hands to `write_indent`, which writes only at the
root (the preamble; there `d = 0`) — in the other positions the line has begun and `d` is free. -/
theorem emit_of_text (o : Opts) (p : SerScalar.Pos) (hk : isKeyPos p = false)
    (v T : List Char) (d : Nat) (hd : p = .root → d = 0)
    (h : serializeStr o (posCtx o p) v = .ok (spOf (posCtx o p) ++ writeIndent o (posCtx o p) d ++ T)) :
    emitDoc o p v = .ok (preamble o ++ (openingO o (toRead p) ++ (T ++ posPost p))) := by
  have hw : p ≠ .root → writeIndent o (posCtx o p) d = [] := by
    intro hr; cases p <;> first | rfl | exact absurd rfl hr
  rw [← posPre_spOf]
  cases p with
  | root =>
    cases hd rfl
    rw [emitDoc, h, writeIndent_root]
    simp [spOf, posCtx, posPre, posPost]
  | mapKey | flowMapKey => cases hk
  | _ =>
    simp only [emitDoc, h, hw nofun, List.append_assoc, List.append_nil]

theorem emit_of_line (o : Opts) (p : SerScalar.Pos) (hk : isKeyPos p = false)
    (v T : List Char) (d : Nat) (hd : p = .root → d = 0)
    (h : serializeStr o (posCtx o p) v = .ok (spOf (posCtx o p) ++ writeIndent o (posCtx o p) d ++ T ++ nlOf (posCtx o p))) :
    emitDoc o p v = .ok (preamble o ++ (openingO o (toRead p) ++ (T ++ lineEnd (toRead p)))) := by
  rw [← nlOf_posPost o p hk, ← List.append_assoc T]
  exact emit_of_text o p hk v _ d hd (by rw [h, List.append_assoc])

theorem emit_key (o : Opts) (p : SerScalar.Pos) (hk : isKeyPos p = true) (v : List Char) :
    emitDoc o p v = .ok (preamble o ++ (openingO o (toRead p) ++ (keySinkStr v o.yaml12 ++ lineEnd (toRead p)))) := by
  cases p <;> first
    | (cases hk; done)
    | simp [emitDoc, posPre, posPost, openingO, opening, toRead, lineEnd, Spec.Read.Pos.closing]

theorem frame_doc (o : Opts) (p : SerScalar.Pos) (hstep : 1 ≤ o.indentStep) (v T : List Char) (st : Style)
    (hemit : emitDoc o p v = .ok (preamble o ++ (openingO o (toRead p) ++ T))) (hT : DocStart T)
    (hnode : readNode (toRead p) T (posCol0 (toRead p)) (posParentO o (toRead p)) = some (st, v)) :
    ∃ t, emitDoc o p v = .ok t ∧ readDoc (toRead p) t = some (st, v) := by
  obtain ⟨c, r, rfl, hblank, hpct, hbom, hnul⟩ := hT
  exact ⟨_, hemit, (readDoc_open o (toRead p) hstep c r hblank hpct hbom hnul).trans hnode⟩

theorem OneLine.doc {o : Opts} {p : SerScalar.Pos} {T v : List Char} {st : Style} (h : OneLine (toRead p) T st v)
    (hstep : 1 ≤ o.indentStep)
    (hemit : emitDoc o p v = .ok (preamble o ++ (openingO o (toRead p) ++ (T ++ lineEnd (toRead p))))) :
    ∃ t, emitDoc o p v = .ok t ∧ readDoc (toRead p) t = some (st, v) :=
  frame_doc o p hstep v _ st hemit (h.start.append (lineEnd_facts _).2.2.1) (h.read _ _)

end SaphyrVerif.Lemmas.C12
