import SaphyrVerif.Model.Entry
import SaphyrVerif.Lemmas.PumpEqns
/-!
End-to-end composition with the budget enforcer: what the enforcer is shown.  `obsCall q inp` is the list of
observations (`Obs`, `Lemmas/PumpStep.lean`) the budgeted pump makes during one `next_impl` call, computed from the pump
WITHOUT the enforcer (it mirrors `serveInject` / `parserLoop`): every raw item that is consumed (an alias through
`observe_alias_to_be_replayed`), and every replayed event (stripped of anchor and tag, `replayRaw`).  `nextImpl_obs`:
the budgeted call breaches exactly when the enforcer rejects one of these observations; otherwise it makes the step of
the stripped pump and the enforcer has folded over the list.  The proof follows the list of what a call can do
(`Lemmas/PumpStep.lean`): each answer of the pump without enforcer is matched by the answer of the budgeted pump built
with the same constructor.
-/
namespace SaphyrVerif.Lemmas.E2EBudget
open SaphyrVerif.Pump SaphyrVerif.Budget
open SaphyrVerif.Lemmas.C08 (newCount)

def feedObs (e : Enf) : List Obs → Except Breach Enf
  | [] => .ok e
  | o :: os =>
    match obsStep e o with
    | .error b => .error b
    | .ok e' => feedObs e' os

/-- observations of the inject loop (mirror of `serveInject`) -/
def obsServe (p : Pump) : List InjectFrame → List Obs
  | [] => []
  | fr :: rest =>
    match lookupAnchor p.anchors fr.anchorId with
    | none => []
    | some buf =>
      if fr.idx ≥ buf.length then obsServe p rest
      else
        match buf[fr.idx]? with
        | none => obsServe p rest
        | some ev =>
          if p.totalReplayed + 1 > p.limits.maxTotalReplayedEvents then [] else [.raw (replayRaw ev)]

/-- observations of the parser loop (mirror of `parserLoop` on the pump without enforcer) -/
def obsLoop (p : Pump) : List RawItem → List Obs
  | [] => []
  | .err _ _ :: _ => []
  | .ev raw loc :: rest =>
    obsItem raw ::
    match raw with
    | .alias id =>
      let count := min (lookupCount p.perAnchor id + 1) USIZE_MAX
      let p := { p with perAnchor := (id, count) :: p.perAnchor }
      if count > p.limits.maxAliasExpansionsPerAnchor then []
      else if p.inject.length + 1 > p.limits.maxReplayStackDepth then []
      else if p.recStack.any (fun f => f.id == id) then
        if p.recursiveInProgress.contains id then [.occupies] else []
      else
        match lookupAnchor p.anchors id with
        | none => []
        | some _ =>
          let p := { p with inject := { anchorId := id, idx := 0, refLoc := loc } :: p.inject }
          obsServe p p.inject ++
            match serveInject p p.inject with
            | (some _, _) => []
            | (none, p') => obsLoop p' rest
    | .docStart _ => obsLoop { p.resetDocumentState with lastLoc := loc } rest
    | .docEnd =>
      let p := { p.resetDocumentState with seenDocEnd := true, lastLoc := loc }
      if p.stopAtDocEnd then [] else obsLoop p rest
    | .streamStart => obsLoop { p with lastLoc := loc } rest
    | .streamEnd => obsLoop { p with lastLoc := loc } rest
    | .nothing => obsLoop p rest
    | _ => []

/-- observations of one `next_impl` call -/
def obsCall (p : Pump) (inp : List RawItem) : List Obs :=
  obsServe p p.inject ++
    match serveInject p p.inject with
    | (some _, _) => []
    | (none, p') => obsLoop p' inp

@[reducible] def withBud (p : Pump) (b : Enf) : Pump := { p with budget := some b }

theorem budget_none_step {q : Pump} {inp : List RawItem} {s : Step} {q' : Pump} {rest : List RawItem}
    (hq : q.budget = none) (h : nextImpl q inp = (s, q', rest)) : q'.budget = none := by
  have := nextImpl_budget_none q inp hq
  rw [h] at this
  exact this

/-- exhausted frames on top of the stack show nothing (as in `serveInject_spent`) -/
theorem obsServe_spent (q : Pump) {dead : List InjectFrame} (hd : ∀ fr ∈ dead, C02.Exhausted q.anchors fr)
    (fs : List InjectFrame) : obsServe q (dead ++ fs) = obsServe q fs := by
  induction dead with
  | nil => rfl
  | cons f dead ih =>
    obtain ⟨⟨buf, hl, hle⟩, hd⟩ := List.forall_mem_cons.mp hd
    rw [List.cons_append, obsServe, hl]
    simp only [ge_iff_le, hle, ↓reduceIte]
    exact ih hd

/-- what an answer of the inject loop shows: the replayed event, if one is delivered -/
def shownOf : Option Step → List Obs
  | some (.event e) => [.raw (replayRaw e)]
  | _ => []

theorem served_obs_fall {q : Pump} {fs : List InjectFrame} {q' : Pump} (h : Served q fs none q') : obsServe q fs = [] := by
  cases h with
  | fall h =>
    have := obsServe_spent q h []
    rw [List.append_nil] at this
    rw [this]; rfl

theorem served_obs {q : Pump} {fs : List InjectFrame} {r : Option Step} {q' : Pump} (hq : q.budget = none)
    (h : Served q fs r q') : obsServe q fs = shownOf r := by
  cases h with
  | fall h => exact served_obs_fall (.fall h)
  | unknown dead fr rest e hd hl => rw [e, obsServe_spent q hd, obsServe, hl]; rfl
  | limit dead fr rest buf e hd hl hi hm =>
    rw [e, obsServe_spent q hd, obsServe, hl]
    simp only [ge_iff_le, Nat.not_le.mpr hi, ↓reduceIte, List.getElem?_eq_getElem hi, hm]
    rfl
  | breach dead fr rest buf b e hd hl hi hm hb => rw [hq] at hb; cases hb
  | event dead fr rest buf bud e hd hl hi hm hb =>
    rw [e, obsServe_spent q hd, obsServe, hl]
    simp only [ge_iff_le, Nat.not_le.mpr hi, ↓reduceIte, List.getElem?_eq_getElem hi, Nat.not_lt.mpr hm]
    rfl

theorem obsServe_none (q : Pump) (fs : List InjectFrame) {q' : Pump} (h : serveInject q fs = (none, q')) :
    obsServe q fs = [] := by
  rw [served_obs_fall (served_of h)]

theorem served_withBud {q : Pump} {fs : List InjectFrame} {r : Option Step} {q' : Pump} (hq : q.budget = none)
    (b : Enf) (h : Served q fs r q') :
    match feedObs b (obsServe q fs) with
    | .ok b' => Served (withBud q b) fs r (withBud q' b')
    | .error br => ∃ l p', Served (withBud q b) fs (some (.error (.budget br l))) p' := by
  rw [served_obs hq h]
  cases h with
  | fall h => exact .fall (p := withBud q b) h
  | unknown dead fr rest e hd hl => exact .unknown (p := withBud q b) dead fr rest e hd hl
  | limit dead fr rest buf e hd hl hi hm => exact .limit (p := withBud q b) dead fr rest buf e hd hl hi hm
  | breach dead fr rest buf br e hd hl hi hm hb => rw [hq] at hb; cases hb
  | event dead fr rest buf bud e hd hl hi hm hb =>
    rw [hq] at hb
    cases hb
    simp only [shownOf, feedObs, obsStep]
    cases ho : b.observe (replayRaw buf[fr.idx]) with
    | error br =>
      refine ⟨_, _, .breach (p := withBud q b) dead fr rest buf br e hd hl hi hm ?_⟩
      simp only [budgetStep, obsStep, ho]; rfl
    | ok b' =>
      refine .event (p := withBud q b) dead fr rest buf (some b') e hd hl hi hm ?_
      simp only [budgetStep, obsStep, ho]; rfl

theorem feedObs_append (e : Enf) (xs ys : List Obs) :
    feedObs e (xs ++ ys) = match feedObs e xs with | .error b => .error b | .ok e' => feedObs e' ys := by
  induction xs generalizing e with
  | nil => rfl
  | cons x xs ih =>
    simp only [List.cons_append, feedObs]
    cases obsStep e x with
    | error b => rfl
    | ok e1 => exact ih e1

/-- a statement about the result of the fold carried along an implication, for each way the fold can end
(`generalizing := false`: otherwise the `match` of the conclusion also abstracts `h`, and is not the `match` in which
`served_withBud`, `item_withBud`, `loop_withBud`, `nextImpl_obs` are stated) -/
theorem fed_imp {r : Except Breach Enf} {G G' : Enf → Prop} {B B' : Breach → Prop}
    (h : match r with
      | .ok b => G b
      | .error br => B br)
    (hg : ∀ b, G b → G' b) (hb : ∀ br, B br → B' br) :
    match (generalizing := false) r with
    | .ok b => G' b
    | .error br => B' br := by
  cases r with
  | ok b => exact hg b h
  | error br => exact hb br h

/-- what the enforcer is shown inside one raw item, after the item itself: the event replayed right away for an
alias, `alias_occupies_position` for the placeholder of a recursion wrapper (the alias branch of `obsLoop`) -/
def insideObs (p : Pump) (raw : Raw) (loc : Loc) : List Obs :=
  match raw with
  | .alias id =>
    if newCount p id > p.limits.maxAliasExpansionsPerAnchor then []
    else if p.inject.length + 1 > p.limits.maxReplayStackDepth then []
    else if p.recStack.any (fun f => f.id == id) then
      if p.recursiveInProgress.contains id then [.occupies] else []
    else
      match lookupAnchor p.anchors id with
      | none => []
      | some _ => obsServe (pushed p id loc) (pushed p id loc).inject
  | _ => []

def obsAfter (o : ItemOut) (rest : List RawItem) : List Obs :=
  match o with
  | .cont p' => obsLoop p' rest
  | _ => []

theorem obsLoop_item {p : Pump} {loc : Loc} {raw : Raw} {o : ItemOut} (h : Item p loc raw o) (rest : List RawItem) :
    obsLoop p (.ev raw loc :: rest) = obsItem raw :: (insideObs p raw loc ++ obsAfter o rest) := by
  have hc : ∀ {id : Nat}, newCount p id ≤ p.limits.maxAliasExpansionsPerAnchor →
      ¬ min (lookupCount p.perAnchor id + 1) USIZE_MAX > p.limits.maxAliasExpansionsPerAnchor := Nat.not_lt.mpr
  cases h with
  | aliasLimit id h => simp only [obsLoop, insideObs, show min _ _ > _ from h, h, ↓reduceIte]; rfl
  | aliasDepth id h1 h2 => simp only [obsLoop, insideObs, hc h1, Nat.not_lt.mpr h1, h2, ↓reduceIte]; rfl
  | placeholder id h1 h2 h3 h4 | recursive id h1 h2 h3 h4 =>
    simp only [obsLoop, insideObs, hc h1, Nat.not_lt.mpr h1, Nat.not_lt.mpr h2, h3, h4, ↓reduceIte, Bool.false_eq_true]; rfl
  | unknownAlias id h1 h2 h3 h5 =>
    simp only [obsLoop, insideObs, hc h1, Nat.not_lt.mpr h1, Nat.not_lt.mpr h2, h3, h5, ↓reduceIte, Bool.false_eq_true]; rfl
  | replay id buf h1 h2 h3 h5 hs =>
    have e := hs.eq
    simp only [pushed, newCount] at e
    simp only [obsLoop, insideObs, hc h1, Nat.not_lt.mpr h1, Nat.not_lt.mpr h2, h3, h5, ↓reduceIte, Bool.false_eq_true, e]
    rfl
  | spentAlias id buf h1 h2 h3 h5 hs =>
    have e := (Served.fall (p := pushed p id loc) hs).eq
    simp only [pushed, newCount] at e
    simp only [obsLoop, insideObs, hc h1, Nat.not_lt.mpr h1, Nat.not_lt.mpr h2, h3, h5, ↓reduceIte, Bool.false_eq_true, e]
    rfl
  | docEndStop h => simp only [obsLoop, insideObs, show p.resetDocumentState.stopAtDocEnd = true from h, ↓reduceIte]; rfl
  | docEnd h =>
    simp only [obsLoop, insideObs, show p.resetDocumentState.stopAtDocEnd = false from h, Bool.false_eq_true, ↓reduceIte]
    rfl
  | _ => rfl

theorem item_withBud {q : Pump} {loc : Loc} {raw : Raw} {o : ItemOut} (hq : q.budget = none) (b1 : Enf)
    (h : Item q loc raw o) :
    match feedObs b1 (insideObs q raw loc) with
    | .ok b2 => Item (withBud q b1) loc raw (o.map (withBud · b2))
    | .error br => ∃ l p', Item (withBud q b1) loc raw (.ret (.error (.budget br l)) p') := by
  cases h with
  | aliasLimit id h =>
    simp only [insideObs, h, ↓reduceIte]
    exact .aliasLimit (p := withBud q b1) id h
  | aliasDepth id h1 h2 =>
    simp only [insideObs, Nat.not_lt.mpr h1, h2, ↓reduceIte]
    exact .aliasDepth (p := withBud q b1) id h1 h2
  | placeholder id h1 h2 h3 h4 =>
    simp only [insideObs, Nat.not_lt.mpr h1, Nat.not_lt.mpr h2, h3, h4, ↓reduceIte]
    exact .placeholder (p := withBud q b1) id h1 h2 h3 h4
  | recursive id h1 h2 h3 h4 =>
    simp only [insideObs, Nat.not_lt.mpr h1, Nat.not_lt.mpr h2, h3, h4, ↓reduceIte, Bool.false_eq_true]
    exact .recursive (p := withBud q b1) id h1 h2 h3 h4
  | unknownAlias id h1 h2 h3 h5 =>
    simp only [insideObs, Nat.not_lt.mpr h1, Nat.not_lt.mpr h2, h3, h5, ↓reduceIte, Bool.false_eq_true]
    exact .unknownAlias (p := withBud q b1) id h1 h2 h3 h5
  | replay id buf h1 h2 h3 h5 hs =>
    simp only [insideObs, Nat.not_lt.mpr h1, Nat.not_lt.mpr h2, h3, h5, ↓reduceIte, Bool.false_eq_true]
    exact fed_imp (served_withBud (q := pushed q id loc) hq b1 hs)
      (fun b2 h => .replay (p := withBud q b1) id buf h1 h2 h3 h5 h)
      (fun br ⟨l, p', h⟩ => ⟨l, p', .replay (p := withBud q b1) id buf h1 h2 h3 h5 h⟩)
  | spentAlias id buf h1 h2 h3 h5 hs =>
    simp only [insideObs, Nat.not_lt.mpr h1, Nat.not_lt.mpr h2, h3, h5, ↓reduceIte, Bool.false_eq_true]
    rw [served_obs_fall (q := pushed q id loc) (.fall hs)]
    exact .spentAlias (p := withBud q b1) id buf h1 h2 h3 h5 hs
  -- the other outcomes neither read nor write the enforcer and show nothing: the same constructor again
  | _ => simp only [insideObs, feedObs]; constructor <;> assumption

theorem item_free {q : Pump} (hq : q.budget = none) {raw : Raw} {bud : Option Enf}
    (hb : budgetStep q.budget (obsItem raw) = .ok bud) : ({ q with budget := bud } : Pump) = q := by
  cases (budgetStep_of_none hq _).symm.trans hb
  rfl

theorem loop_withBud {q : Pump} {inp : List RawItem} {s : Step} {q' : Pump} {rest : List RawItem}
    (h : Loop q inp s q' rest) (hq : q.budget = none) (b : Enf) :
    match feedObs b (obsLoop q inp) with
    | .ok b' => Loop (withBud q b) inp s (withBud q' b') rest
    | .error br => ∃ l p' r', Loop (withBud q b) inp (.error (.budget br l)) p' r' := by
  -- an item: the enforcer is shown the item, then what `item_withBud` says; a breach at either stage ends the call, and
  -- what the loop does after the item is left to `after`
  have item : ∀ {q : Pump} {raw : Raw} {loc : Loc} {o : ItemOut} (rest : List RawItem), q.budget = none →
      Item q loc raw o → ∀ b : Enf, ∀ {G : Enf → Prop},
      (∀ b1 b2, budgetStep (withBud q b).budget (obsItem raw) = .ok (some b1) →
        Item (withBud q b1) loc raw (o.map (withBud · b2)) →
        match feedObs b2 (obsAfter o rest) with
        | .ok b' => G b'
        | .error br => ∃ l p' r', Loop (withBud q b) (.ev raw loc :: rest) (.error (.budget br l)) p' r') →
      match feedObs b (obsLoop q (.ev raw loc :: rest)) with
      | .ok b' => G b'
      | .error br => ∃ l p' r', Loop (withBud q b) (.ev raw loc :: rest) (.error (.budget br l)) p' r' := by
    intro q raw loc o rest hq hi b G after
    rw [obsLoop_item hi rest]
    simp only [feedObs]
    have hbud : budgetStep (some b) (obsItem raw) = (obsStep b (obsItem raw)).map some := rfl
    cases hb1 : obsStep b (obsItem raw) with
    | error br => rw [hb1] at hbud; exact ⟨loc, _, rest, .breach _ raw loc rest br hbud⟩
    | ok b1 =>
      rw [hb1] at hbud
      simp only
      rw [feedObs_append]
      have hw := item_withBud hq b1 hi
      revert hw
      cases feedObs b1 (insideObs q raw loc) with
      | error br => exact fun ⟨l, p', hw⟩ => ⟨l, p', rest, .ret rest hbud hw⟩
      | ok b2 => exact fun hw => after b1 b2 hbud hw
  induction h generalizing b with
  | null q h => exact .null (withBud q b) h
  | eof q h => exact .eof (withBud q b) h
  | scan q ua loc rest => exact .scan (withBud q b) ua loc rest
  | breach q raw loc rest br hb => rw [hq] at hb; cases hb
  | @ret q raw loc rest bud s q' hb hi =>
    rw [item_free hq hb] at hi
    exact item rest hq hi b fun b1 b2 h hw => .ret rest h hw
  | @stop q raw loc rest bud q' hb hi =>
    rw [item_free hq hb] at hi
    exact item rest hq hi b fun b1 b2 h hw => .stop rest h hw
  | @pass q raw loc rest bud q1 s q' rest' hb hi _ ih =>
    rw [item_free hq hb] at hi
    refine item rest hq hi b fun b1 b2 h hw => ?_
    exact fed_imp (ih (hi.budgetInv budgetInv_none hq) b2) (fun b' hl => .pass h hw hl)
      (fun br ⟨l, p', r', hl⟩ => ⟨l, p', r', .pass h hw hl⟩)

theorem nextImpl_obs (q : Pump) (inp : List RawItem) (hq : q.budget = none) (b : Enf)
    {s : Step} {q' : Pump} {rest : List RawItem} (h : nextImpl q inp = (s, q', rest)) :
    match feedObs b (obsCall q inp) with
    | .ok b' => nextImpl (withBud q b) inp = (s, withBud q' b', rest)
    | .error br => ∃ l p' r', nextImpl (withBud q b) inp = (.error (.budget br l), p', r') := by
  unfold obsCall
  cases call_of h with
  | served hs =>
    rw [hs.eq, List.append_nil]
    exact fed_imp (served_withBud hq b hs) (fun b' hw => (Call.served hw).eq)
      (fun br ⟨l, p', hw⟩ => ⟨l, p', inp, (Call.served hw).eq⟩)
  | loop hsp hl =>
    rw [(Served.fall hsp).eq, served_obs_fall (.fall hsp), List.nil_append]
    exact fed_imp (loop_withBud hl hq b) (fun b' hw => (Call.loop (p := withBud q b) hsp hw).eq)
      (fun br ⟨l, p', r', hw⟩ => ⟨l, p', r', (Call.loop (p := withBud q b) hsp hw).eq⟩)

end SaphyrVerif.Lemmas.E2EBudget
