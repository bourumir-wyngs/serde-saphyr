import SaphyrVerif.Lemmas.GSimFam
import SaphyrVerif.Lemmas.DeEqnsLoops
/-!
Guarded simulation (`GA`), induction steps of capture and skipping (`capture*`, `skip*`, `collectTaggedSeq`) and of the
element loops `bytesLoop`, `seqElems`, `tupleElems`.
The body of each element loop is a piece of `Lemmas/DeEqnsLoops.lean`, compared once (`csItem_…`, `cmEntry_…`, `blItem_…`,
`seItem_…`, `teItem_…`); the step of the loop then meets it as a call.
-/
namespace SaphyrVerif.Lemmas
open SaphyrVerif SaphyrVerif.Scalars SaphyrVerif.Pump SaphyrVerif.De


variable {X : GSim}

theorem capture_gStep {fuel : Nat} (ih : GA X fuel) :
    ∀ {k c c'}, X.At k c c' → X.In c → RG X Eq (De.capture (fuel + 1) c) (De.capture (fuel + 1) c') := by
  intro k c c' hs hin
  -- a function that reads one node is called with the guard `hin` and whatever index `k`, possibly negative: take 0 instead,
  -- which holds of every related pair (`At.zero`: the floor of the frame); behind an opening event the index is then 1,
  -- what the loops need.  The index is absolute (depth from the start of the frame), not counted from this call
  replace hs := GSim.At.zero hs.s
  rw [De.capture, De.capture]
  g_loop

theorem csItem_g {fuel : Nat} (ih : GA X fuel) (fps evs) {c c'} {k : Int} (hs : X.At k c c') (hd : 1 ≤ k) :
    RG X Eq (csItem fuel c fps evs) (csItem fuel c' fps evs) := by
  unfold csItem
  g_loop

theorem captureSeq_gStep {fuel : Nat} (ih : GA X fuel) :
    ∀ fps evs {k c c'}, X.At k c c' → 1 ≤ k →
      RG X Eq (De.captureSeq (fuel + 1) c fps evs) (De.captureSeq (fuel + 1) c' fps evs) := by
  intro fps evs k c c' hs hd
  rw [captureSeq_succ, captureSeq_succ]
  g_loop
  all_goals exact csItem_g ih _ _ (by assumption) (by assumption)


theorem cmEntry_g {fuel : Nat} (ih : GA X fuel) (fps evs) {c c'} {k : Int} (hs : X.At k c c') (hd : 1 ≤ k) :
    RG X Eq (cmEntry fuel c fps evs) (cmEntry fuel c' fps evs) := by
  unfold cmEntry
  g_loop

theorem captureMap_gStep {fuel : Nat} (ih : GA X fuel) :
    ∀ fps evs {k c c'}, X.At k c c' → 1 ≤ k →
      RG X Eq (De.captureMap (fuel + 1) c fps evs) (De.captureMap (fuel + 1) c' fps evs) := by
  intro fps evs k c c' hs hd
  rw [captureMap_succ, captureMap_succ]
  g_loop
  all_goals exact cmEntry_g ih _ _ (by assumption) (by assumption)

theorem skipOneNode_gStep {fuel : Nat} (ih : GA X fuel) :
    ∀ {k c c'}, X.At k c c' → X.In c →
      RG X Eq (De.skipOneNode (fuel + 1) c) (De.skipOneNode (fuel + 1) c') := by
  intro k c c' hs hin
  replace hs := GSim.At.zero hs.s
  rw [De.skipOneNode, De.skipOneNode]
  g_loop

theorem skipDepth_gStep {fuel : Nat} (ih : GA X fuel) :
    ∀ (depth : Nat) {k c c'}, X.At k c c' → (depth : Int) ≤ k →
      RG X Eq (De.skipDepth (fuel + 1) c depth) (De.skipDepth (fuel + 1) c' depth) := by
  intro depth k c c' hs hd
  rw [De.skipDepth, De.skipDepth]
  by_cases h0 : depth = 0
  · subst h0
    simp only [beq_self_eq_true, ↓reduceIte]
    g_loop
  · have h1 : (depth == 0) = false := by simp [h0]
    have h2 : 1 ≤ k := by omega
    simp only [h1, Bool.false_eq_true, ↓reduceIte]
    g_loop

theorem collectTaggedSeq_gStep {fuel : Nat} (ih : GA X fuel) :
    ∀ (depth : Nat) acc {k c c'}, X.At k c c' → (depth : Int) ≤ k →
      RG X Eq (De.collectTaggedSeq (fuel + 1) c depth acc) (De.collectTaggedSeq (fuel + 1) c' depth acc) := by
  intro depth acc k c c' hs hd
  rw [De.collectTaggedSeq, De.collectTaggedSeq]
  by_cases h0 : depth = 0
  · subst h0
    simp only [beq_self_eq_true, ↓reduceIte]
    g_loop
  · have h1 : (depth == 0) = false := by simp [h0]
    have h2 : 1 ≤ k := by omega
    simp only [h1, Bool.false_eq_true, ↓reduceIte]
    g_loop

theorem blItem_g {fuel : Nat} (ih : GA X fuel) (cfg acc) {c c'} {k : Int} (hs : X.At k c c') (hd : 1 ≤ k) :
    RG X Eq (blItem fuel cfg c acc) (blItem fuel cfg c' acc) := by
  unfold blItem
  g_loop

theorem bytesLoop_gStep {fuel : Nat} (ih : GA X fuel) :
    ∀ cfg acc {k c c'}, X.At k c c' → 1 ≤ k →
      RG X Eq (De.bytesLoop (fuel + 1) cfg c acc) (De.bytesLoop (fuel + 1) cfg c' acc) := by
  intro cfg acc k c c' hs hd
  rw [bytesLoop_succ, bytesLoop_succ]
  g_loop
  all_goals exact blItem_g ih _ _ (by assumption) (by assumption)

theorem seItem_g {fuel : Nat} (ih : GA X fuel) (cfg t acc ev) {c c'} {k : Int} (hs : X.At k c c') (hd : 1 ≤ k) :
    RG X Eq (seItem fuel cfg t c acc ev) (seItem fuel cfg t c' acc ev) := by
  unfold seItem
  g_loop

theorem seqElems_gStep {fuel : Nat} (ih : GA X fuel) :
    ∀ cfg t acc {k c c'}, X.At k c c' → 1 ≤ k →
      RG X Eq (De.seqElems (fuel + 1) cfg t c acc) (De.seqElems (fuel + 1) cfg t c' acc) := by
  intro cfg t acc k c c' hs hd
  rw [seqElems_succ, seqElems_succ]
  g_loop
  all_goals exact seItem_g ih _ _ _ _ (by assumption) (by assumption)

theorem teItem_g {fuel : Nat} (ih : GA X fuel) (cfg t ts acc ev) {c c'} {k : Int} (hs : X.At k c c') (hd : 1 ≤ k) :
    RG X Eq (teItem fuel cfg t ts c acc ev) (teItem fuel cfg t ts c' acc ev) := by
  unfold teItem
  g_loop

theorem tupleElems_gStep {fuel : Nat} (ih : GA X fuel) :
    ∀ cfg ts acc {k c c'}, X.At k c c' → 1 ≤ k →
      RG X Eq (De.tupleElems (fuel + 1) cfg ts c acc) (De.tupleElems (fuel + 1) cfg ts c' acc) := by
  intro cfg ts acc k c c' hs hd
  cases ts with
  | nil => rw [De.tupleElems, De.tupleElems]; g_loop
  | cons t ts =>
    rw [tupleElems_cons, tupleElems_cons]
    g_loop
    all_goals exact teItem_g ih _ _ _ _ _ (by assumption) (by assumption)

end SaphyrVerif.Lemmas
