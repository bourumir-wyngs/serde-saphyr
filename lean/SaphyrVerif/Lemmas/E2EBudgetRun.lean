import SaphyrVerif.Lemmas.E2EBudgetRel
import SaphyrVerif.Lemmas.CurSimPump
/-!
End-to-end composition with the budget enforcer: the second instance `P2` of the comparison `BR` (the first, `P1` of
`Lemmas/E2EBudgetRel.lean`, is every pump with the synthesized-null invariant, breaches allowed) — a pump WITH a
budget enforcer that delivers its events without any breach, then reports end of input for good, and whose
`finish()` has nothing to report (`BRun`).  Such a cursor and its stripped twin answer every `peek` / `next`
alike (no breach is possible), and `finish()` is silent when end of input is reached.  `BRunTo` is the same run with
the final pump named and `finish()` left open (`BRun.to`, `BRunTo.toBRun`); a drain by `pumpAll` that reports no error is
one (`brunTo_of_pumpAll`, `BRunTo.pumpAll`).
-/
namespace SaphyrVerif.Lemmas.E2EBudget
open SaphyrVerif.Pump SaphyrVerif.De SaphyrVerif.Spec
open SaphyrVerif.Lemmas.CurSim (Quiet Run live_peek live_next live_peek_eof live_next_eof look_peek look_next
  nextImpl_look_none)

/-- `finish()` (the final alias/anchor ratio check of the enforcer) has nothing to report -/
def FinishOk (p : Pump) : Prop := (Pump.finish p).1 = none

/-- `BRun p inp es`: `next_impl` of the (budgeted) pump delivers exactly the events `es`, one per call, without
error — in particular without a budget breach —, then end of input, after which the pump is quiet and
`finish()` is silent -/
inductive BRun : Pump → List RawItem → List Ev → Prop
  | eof {p : Pump} {inp : List RawItem} {p' : Pump} {inp' : List RawItem} :
      nextImpl p inp = (.eof, p', inp') → Quiet p' inp' → FinishOk p' → BRun p inp []
  | ev {p : Pump} {inp : List RawItem} {e : Ev} {p' : Pump} {inp' : List RawItem} {es : List Ev} :
      nextImpl p inp = (.event e, p', inp') → BRun p' inp' es → BRun p inp (e :: es)

theorem nextImpl_strip_of_ok {p : Pump} {inp : List RawItem} {s : Step} {p' : Pump} {rest : List RawItem}
    (h : nextImpl p inp = (s, p', rest)) (hs : ¬ IsBreach s) : nextImpl (stripP p) inp = (s, stripP p', rest) := by
  rcases nextImpl_strip p inp h with h1 | ⟨hb, -⟩
  · exact h1
  · exact absurd hb hs

theorem not_breach_eof : ¬ IsBreach .eof := by rintro ⟨b, l, h⟩; cases h
theorem not_breach_event (e : Ev) : ¬ IsBreach (.event e) := by rintro ⟨b, l, h⟩; cases h

/-- the invariant of a budgeted live cursor that will never see a breach (the twin of `CurSim.LiveInv`); replay
cursors have no enforcer -/
def Inv2 : Cur → Prop
  | .replay .. => True
  | .live q inq => ∃ l,
    ((q.look = none ∧ BRun q inq l) ∨
     (∃ e l' q0, l = e :: l' ∧ q0.look = none ∧ q0.lastLoc = e.loc ∧ q = { q0 with look := some e } ∧ BRun q0 inq l'))

/-- "within the limits the budget is invisible": no breach -/
def P2 : BP := ⟨Inv2, False⟩

theorem finishCur_of_finishOk {p : Pump} (inp : List RawItem) (h : FinishOk p) : Entry.finishCur (.live p inp) = none := by
  simp only [Entry.finishCur, FinishOk] at h ⊢
  rw [h]; rfl

theorem inv2_step {c : Cur} (h : Inv2 c) :
    (∃ o d, c.peek = .ok o d ∧ (strip c).peek = .ok o (strip d) ∧ Inv2 d ∧ (o = none → Entry.finishCur d = none)) ∧
    (∃ o d, c.next = .ok o d ∧ (strip c).next = .ok o (strip d) ∧ Inv2 d) := by
  cases c with
  | replay b i r =>
    constructor
    · exact ⟨_, _, rfl, rfl, trivial, fun _ => rfl⟩
    · simp only [Cur.next, strip]
      split
      · exact ⟨_, _, rfl, rfl, trivial⟩
      · exact ⟨_, _, rfl, rfl, trivial⟩
  | live q inq =>
    obtain ⟨l, h⟩ := h
    rcases h with ⟨hl, hr⟩ | ⟨e, l', q0, rfl, hl0, hloc, rfl, hr⟩
    · have hls : (stripP q).look = none := hl
      cases hr with
      | @eof _ _ q' inq' hn hq hfin =>
        have hn' := nextImpl_strip_of_ok hn not_breach_eof
        have hA : Inv2 (.live q' inq') := ⟨[], .inl ⟨hq.1, BRun.eof hq.2 hq hfin⟩⟩
        exact ⟨⟨none, _, live_peek_eof hl hn, live_peek_eof hls hn', hA, fun _ => finishCur_of_finishOk inq' hfin⟩,
          ⟨none, _, live_next_eof hl hn, live_next_eof hls hn', hA⟩⟩
      | @ev _ _ e q' inq' es hn hr' =>
        have hn' := nextImpl_strip_of_ok hn (not_breach_event e)
        have hl' := nextImpl_look_none hl hn
        exact ⟨⟨some e, _, live_peek hl hn, live_peek hls hn',
            ⟨e :: es, .inr ⟨e, es, q', rfl, hl', (nextImpl_event hn).1, rfl, hr'⟩⟩, fun h => by cases h⟩,
          ⟨some e, _, live_next hl hn, live_next hls hn', ⟨es, .inl ⟨hl', hr'⟩⟩⟩⟩
    · have hl0s : (stripP q0).look = none := hl0
      have hlocs : (stripP q0).lastLoc = e.loc := hloc
      exact ⟨⟨some e, _, look_peek inq hloc, look_peek inq hlocs,
          ⟨e :: l', .inr ⟨e, l', q0, rfl, hl0, hloc, rfl, hr⟩⟩, fun h => by cases h⟩,
        ⟨some e, _, look_next inq hl0 hloc, look_next inq hl0s hlocs, ⟨l', .inl ⟨hl0, hr⟩⟩⟩⟩

theorem closed_P2 : Closed P2 := by
  intro c hc
  obtain ⟨⟨o, d, h1, h2, h3, -⟩, ⟨o', d', h1', h2', h3'⟩⟩ := inv2_step hc
  constructor
  · rw [h1, h2]; exact BR.ok (P := P2) h3
  · rw [h1', h2']; exact BR.ok (P := P2) h3'

theorem quiet_inv {q : Pump} {inp : List RawItem} (h : Quiet q inp) :
    inp = [] ∧ q.inject = [] ∧ q.producedAny = true := by
  cases call_of h.2 with
  | served hs => cases hs
  | loop _ hl =>
    obtain ⟨c, hc, hnil⟩ := hl.progress
    have hc0 : c = [] := by
      have := congrArg List.length hc
      simp only [List.length_append] at this
      exact List.eq_nil_of_length_eq_zero (by omega)
    obtain rfl := hnil hc0
    generalize hp : ({ q with inject := [] } : Pump) = p0 at hl
    cases hl with
    | eof _ hpa => exact ⟨rfl, congrArg (·.inject) hp.symm, hpa⟩

theorem quiet_of_strip {p : Pump} {inp : List RawItem} (h : Quiet (stripP p) inp) : Quiet p inp := by
  obtain ⟨rfl, hinj, hpa⟩ := quiet_inv h
  exact ⟨h.1, nextImpl_done hinj hpa⟩

/-- `BRun` with the final (quiet) pump exposed, without the requirement on `finish()` -/
inductive BRunTo : Pump → List RawItem → List Ev → Pump → Prop
  | eof {p : Pump} {inp : List RawItem} {p' : Pump} {inp' : List RawItem} :
      nextImpl p inp = (.eof, p', inp') → Quiet p' inp' → BRunTo p inp [] p'
  | ev {p : Pump} {inp : List RawItem} {e : Ev} {p' : Pump} {inp' : List RawItem} {es : List Ev} {pf : Pump} :
      nextImpl p inp = (.event e, p', inp') → BRunTo p' inp' es pf → BRunTo p inp (e :: es) pf

theorem BRunTo.toBRun {p : Pump} {inp : List RawItem} {es : List Ev} {pf : Pump} (h : BRunTo p inp es pf)
    (hf : FinishOk pf) : BRun p inp es := by
  induction h with
  | eof hn hq => exact BRun.eof hn hq hf
  | ev hn _ ih => exact BRun.ev hn (ih hf)

theorem BRun.to {p : Pump} {inp : List RawItem} {es : List Ev} (h : BRun p inp es) :
    ∃ pf, BRunTo p inp es pf ∧ (Pump.finish pf).1 = none := by
  induction h with
  | eof hn hq hfin => exact ⟨_, BRunTo.eof hn hq, hfin⟩
  | ev hn _ ih =>
    obtain ⟨pf, hto, hfin⟩ := ih
    exact ⟨pf, BRunTo.ev hn hto, hfin⟩

theorem BRunTo.ends {p : Pump} {inp : List RawItem} {es : List Ev} {pf : Pump} (h : BRunTo p inp es pf) :
    C02.Ends p inp es pf := by
  induction h with
  | eof hn _ => exact ⟨_, _, _, C02.Steps.refl _ _, hn⟩
  | ev hn _ ih =>
    obtain ⟨p1, inp1, inp2, hs, he⟩ := ih
    exact ⟨p1, inp1, inp2, C02.Steps.cons hn hs, he⟩

theorem BRunTo.pumpAll {p : Pump} {inp : List RawItem} {es : List Ev} {pf : Pump} (h : BRunTo p inp es pf) :
    pumpAll (es.length + 1) p inp [] = some (es, none, pf) := C02.pumpAll_ends h.ends

/-- one call of the budgeted pump inside a drain that ends without error: no breach, so it answers as its stripped twin -/
theorem nextImpl_of_pumpAll {p : Pump} {inp : List RawItem} {fuel : Nat} {acc evs : List Ev} {p' : Pump}
    (hpa : pumpAll (fuel + 1) p inp acc = some (evs, none, p')) {s : Step} {q' : Pump} {r : List RawItem}
    (hn : nextImpl (stripP p) inp = (s, q', r)) : ∃ p1, nextImpl p inp = (s, p1, r) ∧ stripP p1 = q' := by
  rcases hp1 : nextImpl p inp with ⟨s1, p1, r1⟩
  rcases nextImpl_strip p inp hp1 with h1 | ⟨⟨b, l, rfl⟩, -⟩
  · cases hn.symm.trans h1
    exact ⟨p1, rfl, rfl⟩
  · simp [pumpAll, hp1] at hpa

theorem brunTo_of_pumpAll {q : Pump} {inp : List RawItem} {es : List Ev} (hr : Run q inp es) :
    ∀ (p : Pump), stripP p = q → ∀ (fuel : Nat) (acc evs : List Ev) (p' : Pump),
      pumpAll fuel p inp acc = some (evs, none, p') → BRunTo p inp es p' := by
  induction hr with
  | @eof q inp q' inp' hn hq =>
    intro p hp fuel acc evs p' hpa
    subst hp
    cases fuel with
    | zero => simp [pumpAll] at hpa
    | succ fuel =>
      obtain ⟨p1, hp1, rfl⟩ := nextImpl_of_pumpAll hpa hn
      simp only [pumpAll, hp1, Option.some.injEq, Prod.mk.injEq, true_and] at hpa
      obtain ⟨-, rfl⟩ := hpa
      exact BRunTo.eof hp1 (quiet_of_strip hq)
  | @ev q inp e q' inp' es hn hr ih =>
    intro p hp fuel acc evs p' hpa
    subst hp
    cases fuel with
    | zero => simp [pumpAll] at hpa
    | succ fuel =>
      obtain ⟨p1, hp1, rfl⟩ := nextImpl_of_pumpAll hpa hn
      simp only [pumpAll, hp1] at hpa
      exact BRunTo.ev hp1 (ih p1 rfl fuel _ evs p' hpa)

theorem BRun.strip {p : Pump} {inp : List RawItem} {es : List Ev} (h : BRun p inp es) : Run (stripP p) inp es := by
  induction h with
  | eof hn hq hfin =>
    refine Run.eof (nextImpl_strip_of_ok hn not_breach_eof) ⟨hq.1, ?_⟩
    exact nextImpl_strip_of_ok hq.2 not_breach_eof
  | ev hn _ ih => exact Run.ev (nextImpl_strip_of_ok hn (not_breach_event _)) ih

end SaphyrVerif.Lemmas.E2EBudget
