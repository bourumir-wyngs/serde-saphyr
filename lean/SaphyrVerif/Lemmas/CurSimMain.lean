import SaphyrVerif.Lemmas.GSimMain
/-!
Cursor simulation: every function of the mutual block of `Model/De.lean` cannot tell apart two cursors that serve the same
events.  It is the guarded simulation of `Lemmas/GSimMain.lean` without a frame: the guard is empty, and every depth will do.
-/
namespace SaphyrVerif.Lemmas.CurSim
open SaphyrVerif SaphyrVerif.Scalars SaphyrVerif.Pump SaphyrVerif.De

theorem deserStr_sim (cfg : Cfg) {c c' : Cur} (hs : Sim c c') :
    RV Eq (deserStr cfg c) (deserStr cfg c') :=
  (deserStr_g cfg (GSim.sim_at hs 0) (GSim.In.of_off id c)).toRV

theorem simA : ∀ fuel, SimA fuel := fun fuel =>
  have g := gA fuel (GSim.sim False)
  have one : (1 : Int) ≤ 1 := Int.le_refl 1
  have ins (c : Cur) : (GSim.sim False).In c := GSim.In.of_off id c
  { capture := fun hs => (g.capture (GSim.sim_at hs 0) (ins _)).toRV
    captureSeq := fun fps evs _ _ hs => (g.captureSeq fps evs (GSim.sim_at hs 1) one).toRV
    captureMap := fun fps evs _ _ hs => (g.captureMap fps evs (GSim.sim_at hs 1) one).toRV
    pendingFromEvents := fun events _ _ _ _ => (g.pendingFromEvents events Qx.false Qx.false).toEV
    mergeSeqBatches := fun hs hb => (g.mergeSeqBatches (GSim.sim_at hs 1) one (.false hb)).toRV
    pendingFromLive := fun _ _ _ _ hs => (g.pendingFromLive (GSim.sim_at hs 0) (ins _) Qx.false).toRV
    collectEntriesFromMap := fun _ _ _ _ hs => (g.collectEntriesFromMap (GSim.sim_at hs 0) (ins _) Qx.false).toRV
    collectLoop := fun _ _ _ _ _ _ _ _ hs hf hm => (g.collectLoop (GSim.sim_at hs 1) one Qx.false (.false hf) (.false hm)).toRV
    skipOneNode := fun hs => (g.skipOneNode (GSim.sim_at hs 0) (ins _)).toRV
    skipDepth := fun depth _ _ hs => (g.skipDepth depth (GSim.sim_at hs depth) (Int.le_refl _)).toRV
    deser := fun cfg ty ik km _ _ hs => (g.deser cfg ty ik km (GSim.sim_at hs 0) (ins _)).toRV
    bytesLoop := fun cfg acc _ _ hs => (g.bytesLoop cfg acc (GSim.sim_at hs 1) one).toRV
    deserSeqLike := fun cfg shape _ _ hs => (g.deserSeqLike cfg shape (GSim.sim_at hs 0) (ins _)).toRV
    seqElems := fun cfg t acc _ _ hs => (g.seqElems cfg t acc (GSim.sim_at hs 1) one).toRV
    tupleElems := fun cfg ts acc _ _ hs => (g.tupleElems cfg ts acc (GSim.sim_at hs 1) one).toRV
    deserMapLike := fun cfg shape _ _ hs => (g.deserMapLike cfg shape (GSim.sim_at hs 0) (ins _)).toRV
    mapEntries := fun cfg kt vt acc _ _ _ _ hs hm =>
      (g.mapEntries cfg kt vt acc (GSim.sim_at hs 1) (fun _ => one) (.false hm)).toRV
    structEntries := fun cfg fields deny acc _ _ _ _ hs hm =>
      (g.structEntries cfg fields deny acc (GSim.sim_at hs 1) (fun _ => one) (.false hm)).toRV
    nextKey := fun cfg ks _ _ _ _ hs hm => (g.nextKey cfg ks (GSim.sim_at hs 1) (fun _ => one) (.false hm)).toRV
    nextValue := fun cfg vt _ _ _ _ hs hm => (g.nextValue cfg vt (GSim.sim_at hs 1) (fun _ => one) (.false hm)).toRV
    deserEnum := fun cfg name variants _ _ hs => (g.deserEnum cfg name variants (GSim.sim_at hs 0) (ins _)).toRV
    collectTaggedSeq := fun depth acc _ _ hs =>
      (g.collectTaggedSeq depth acc (GSim.sim_at hs depth) (Int.le_refl _)).toRV
    variantPayload := fun cfg variants vname vloc mapMode tagged _ _ hs =>
      (g.variantPayload cfg variants vname vloc mapMode tagged (GSim.sim_at hs 1) (fun _ => one) (fun _ => id)).toRV }

#print axioms simA

end SaphyrVerif.Lemmas.CurSim
