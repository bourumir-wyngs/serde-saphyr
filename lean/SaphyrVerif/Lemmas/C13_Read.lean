import SaphyrVerif.Lemmas.C13_Lex
import SaphyrVerif.Lemmas.C13_Induct
/-!
The reference reader's node function `blockNode` maps the LINES of the layout of a fragment value back to
`erase v` (`read_root`; that the rendered text splits back into these lines, hence `readDoc`, is `C13_Lines`), for all texts that satisfy `ReadContract` (`LeafOK`: what is written for a string leaf — a token alone
on a line, `ScalarTok`, or the header and the body lines of a block scalar — reads as its string;
`KeyTok`: a token followed by `:` is an implicit key that reads as its string).  Three layers.  The reader's functions on one
line shape each, at `fuel + 1` (`blockSeq_cons`, `blockMap_cons`, `blockNode_mapStart`, …).  Statements about LINES at one column
— `ReadsNode`, `ItemAt` (after a dash), `ValAt` (after a key), `ReadsSeq`, `ReadsMap`, each saying also how its lines begin — with
the ways such lines are put together (`ReadsSeq.cons`, `ReadsMap.cons`, `ReadsMap.cons_explicit`, `.node`: a collection is read at
whatever column it stands; a variant is a mapping of one entry); here the fuel is counted: twice the size of the lines (`mu`:
characters + one per line) plus 1 or 2, the root supplies `2 * text.length + …`.  The walk over the layout (`read_shapes`: like
`lay_good_shapes` of `C13_Lines` an application of `inFragP.shapes_all`, with a motive of its own — after a key, after a dash, at
the root, items, entries), which only unfolds a layout function and names the lemma.  Before them: the token notions
(`ScalarTok`, `KeyTok`, `CoreTok`: a scalar token that may follow a tag, built through `CoreTok.ofStart`) and the plain scan in general
(`blockNode_plainGen`; `PlainVal s p` bundles its hypotheses, `PlainTok.plainVal` shows them for the tokens over `[a-z0-9-]`).
-/
namespace SaphyrVerif.Emit

def mu : List Line → Nat
  | [] => 0
  | l :: ls => l.text.length + 1 + mu ls

theorem mu_append (a b : List Line) : mu (a ++ b) = mu a + mu b := by
  induction a with
  | nil => simp [mu]
  | cons l ls ih => simp [mu, ih]; omega

/-- the lines after a node with least indentation `c` do not continue it -/
def DedLt (c : Nat) (rest : List Line) : Prop :=
  rest = [] ∨ ∃ l ls, rest = l :: ls ∧ l.indent < c ∧ l.isSkippable = false

theorem DedLt.mono {c c' : Nat} {rest : List Line} (h : DedLt c rest) (hc : c ≤ c') : DedLt c' rest := by
  rcases h with rfl | ⟨l, ls, rfl, hi, hs⟩
  · exact Or.inl rfl
  · exact Or.inr ⟨l, ls, rfl, by omega, hs⟩

theorem DedLt.cons {c : Nat} (l : Line) (ls : List Line) (hi : l.indent < c) (hs : l.isSkippable = false) :
    DedLt c (l :: ls) := Or.inr ⟨l, ls, rfl, hi, hs⟩

theorem skipBlank_cons {l : Line} (ls : List Line) (h : l.isSkippable = false) : skipBlank (l :: ls) = l :: ls := by
  simp [skipBlank, h]

theorem skipBlank_ded {c : Nat} {rest : List Line} (h : DedLt c rest) : skipBlank rest = rest := by
  rcases h with rfl | ⟨l, ls, rfl, _, hs⟩
  · rfl
  · exact skipBlank_cons ls hs

theorem plainContinuation_ded {n : Nat} {rest : List Line} (h : DedLt n rest) :
    plainContinuation n rest 0 = some ([], rest) := by
  rcases h with rfl | ⟨l, ls, rfl, hi, hs⟩
  · rfl
  · have hb : l.isBlank = false := by
      simp only [Line.isSkippable, Bool.or_eq_false_iff] at hs
      simpa [Line.isBlank] using hs.1
    simp [plainContinuation, hb, hi]

theorem notSkippable_of_head {i : Nat} {c : Char} {cs : List Char} (hc : c ≠ '#') :
    (⟨i, c :: cs⟩ : Line).isSkippable = false := by
  simp [Line.isSkippable, hc]

/-- A scalar token that reads as `p`: as the only thing on a line (after the indentation, or after
`- `, `? `, `: `, `key: ` on that line), followed by lines that do not continue it, the reader takes it
for the scalar `p`; it can start a line (no leading blank, `#`, `%`; not a document marker) and lies on
one line. -/
structure ScalarTok (t : List Char) (p : PVal) : Prop where
  read : ∀ (fuel n : Nat) (seqAt : Option Nat) (inl : Bool) (i : Nat) (rest : List Line), n ≤ i → DedLt n rest →
    blockNode (fuel + 1) n seqAt inl (⟨i, t⟩ :: rest) = some (p, rest)
  ne : t ≠ []
  head : t.head? ≠ some ' ' ∧ t.head? ≠ some '#' ∧ t.head? ≠ some '%'
  chars : ∀ x ∈ t, lineChar x = true
  noMarker : isDocMarker ⟨0, t⟩ "---".toList = false ∧ isDocMarker ⟨0, t⟩ "...".toList = false

/-- first characters of a key token: not a blank, `#`, `%`, `!`, nor an indicator that sends the reader
elsewhere before it looks for an implicit key -/
def keyStart (c : Char) : Bool :=
  !(c == ' ' || c == '#' || c == '%' || c == '!' || c == '[' || c == '{' || c == '|' || c == '>' || c == '&' || c == '*' ||
    c == '@' || c == '`')

/-- A key token for the string `s`: followed by `:` and the end of the line or a blank it is an
implicit key that reads as the string `s`; the line is not taken for a sequence entry / explicit key, can
start a line and lies on one line. -/
structure KeyTok (K : List Char) (s : List Char) : Prop where
  ik : ∀ after, colonEndsKey after = true → implicitKey (K ++ ':' :: after) = some (.str s, after)
  cls : ∀ after, classify (K ++ ':' :: after) = .other
  start : ∃ c cs, K = c :: cs ∧ keyStart c = true
  chars : ∀ x ∈ K, lineChar x = true
  noMarker : ∀ after, isDocMarker ⟨0, K ++ ':' :: after⟩ "---".toList = false ∧
    isDocMarker ⟨0, K ++ ':' :: after⟩ "...".toList = false
  /-- alone on a line (after `? `: the explicit form of a key too long for an implicit key) it reads as the string -/
  scalar : ScalarTok K (.str s)

/-- a line of the body of a block scalar: indented (never at column 0, hence no document marker / directive),
the leading blanks of the content line counted as indentation, on one line; it may be blank or look like a
comment -/
structure BodyLine (l : Line) : Prop where
  ind : l.indent ≥ 1
  head : l.text.head? ≠ some ' '
  chars : ∀ x ∈ l.text, lineChar x = true

/-- What is written for a leaf — the text `r.1` on the line of the leaf (after the indentation, or after `- `,
`? `, `: `, `key: ` on that line) and the lines `r.2` that follow it (none for a plain / quoted token, the body
lines for a block scalar) — reads as `p` where a node of least indentation `n` is expected, whatever lines that do
not continue it follow; `r.1` can start a line and lies on one line, `r.2` are body lines. -/
structure LeafOK (n : Nat) (r : List Char × List Line) (p : PVal) : Prop where
  read : ∀ (fuel : Nat) (seqAt : Option Nat) (inl : Bool) (i : Nat) (rest : List Line), n ≤ i → DedLt n rest →
    blockNode (fuel + 1) n seqAt inl (⟨i, r.1⟩ :: r.2 ++ rest) = some (p, rest)
  ne : r.1 ≠ []
  head : r.1.head? ≠ some ' ' ∧ r.1.head? ≠ some '#' ∧ r.1.head? ≠ some '%'
  chars : ∀ x ∈ r.1, lineChar x = true
  noMarker : isDocMarker ⟨0, r.1⟩ "---".toList = false ∧ isDocMarker ⟨0, r.1⟩ "...".toList = false
  body : ∀ l ∈ r.2, BodyLine l

theorem ScalarTok.leafOK {t : List Char} {p : PVal} (h : ScalarTok t p) (n : Nat) : LeafOK n (t, []) p :=
  ⟨fun fuel seqAt inl i rest hi hd => by simpa using h.read fuel n seqAt inl i rest hi hd, h.ne, h.head, h.chars, h.noMarker,
    fun _ hl => absurd hl (by simp)⟩

/-- what the reader theorems assume about the texts `T` written for the strings of a class `P` (`k` =
`indent_step`, on which the layout of a block scalar depends) -/
structure ReadContract (P : LeafPred) (T : Toks) (k : Nat) : Prop where
  str : ∀ pos s, P.str s = true → LeafOK pos.minIndent (T.strAt k pos s) (.str s)
  unit : ∀ pos e n, P.unit e n = true → LeafOK pos.minIndent (T.unitAt k pos e n) (.str n)
  key : ∀ s, P.key s = true → KeyTok (T.key s) s
  name : ∀ n, P.name n = true → KeyTok (T.name n) n

theorem ReadContract.ofTok {P : LeafPred} {T : Toks} (ht : T.IsTok) (hs : ∀ s, P.str s = true → ScalarTok (T.str s) (.str s))
    (hu : ∀ e n, P.unit e n = true → ScalarTok (T.unit e n) (.str n)) (hk : ∀ s, P.key s = true → KeyTok (T.key s) s)
    (hn : ∀ n, P.name n = true → KeyTok (T.name n) n) (k : Nat) : ReadContract P T k :=
  ⟨fun pos s h => by rw [ht.1 k pos s]; exact (hs s h).leafOK _,
   fun pos e n h => by rw [ht.2 k pos e n]; exact (hu e n h).leafOK _, hk, hn⟩

theorem keyStart_ne {c : Char} (h : keyStart c = true) (x : Char) (hx : keyStart x = false) : c ≠ x := by
  rintro rfl; rw [h] at hx; exact Bool.noConfusion hx

theorem skipTag_keyStart {c : Char} (cs : List Char) (hc : keyStart c = true) : skipTag (c :: cs) = c :: cs :=
  skipTag_untagged (by simpa using keyStart_ne hc '!' (by decide))

/-- every `:` of the text is followed by a character other than a blank -/
def noKeySep : List Char → Bool
  | [] => true
  | ':' :: rest => !colonEndsKey rest && noKeySep rest
  | _ :: rest => noKeySep rest

theorem noKeySep_cons {c : Char} {cs : List Char} (h : noKeySep (c :: cs) = true) : noKeySep cs = true := by
  by_cases hc : c = ':'
  · subst hc; simp only [noKeySep, Bool.and_eq_true] at h; exact h.2
  · rw [noKeySep] at h
    · exact h
    · intro e; exact hc e

theorem splitPlainKey_none : ∀ (s acc : List Char), noKeySep s = true → '#' ∉ s → splitPlainKey acc s = none
  | [], acc, _, _ => rfl
  | c :: cs, acc, hs, hh => by
    have hcs := noKeySep_cons hs
    have hh' : '#' ∉ cs := fun h => hh (by simp [h])
    have hc : c ≠ '#' := fun e => hh (by simp [e])
    unfold splitPlainKey
    split
    · rename_i he; exact absurd he (by simp)
    · rename_i acc' rest he
      simp only [List.cons.injEq] at he
      obtain ⟨rfl, rfl⟩ := he
      simp only [noKeySep, Bool.and_eq_true, Bool.not_eq_true'] at hs
      simp only [hs.1, Bool.false_eq_true, if_false]
      exact splitPlainKey_none _ _ hcs hh'
    · rename_i he
      simp only [List.cons.injEq] at he
      exact absurd (by rw [he.2]; simp) hh'
    · rename_i he
      simp only [List.cons.injEq] at he
      exact absurd (by rw [he.2]; simp) hh'
    · rename_i c' r he
      simp only [List.cons.injEq] at he
      obtain ⟨rfl, rfl⟩ := he
      exact splitPlainKey_none _ _ hcs hh'

theorem plainFirstLine_noHash : ∀ (s acc : List Char), '#' ∉ s →
    plainFirstLine acc s = (trimEndSpaces (acc.reverse ++ s), false)
  | [], acc, _ => by simp [plainFirstLine]
  | c :: cs, acc, hh => by
    have hh' : '#' ∉ cs := fun h => hh (by simp [h])
    unfold plainFirstLine
    split
    · rename_i he; exact absurd he (by simp)
    · rename_i he
      simp only [List.cons.injEq] at he
      exact absurd (by rw [he.2]; simp) hh'
    · rename_i he
      simp only [List.cons.injEq] at he
      exact absurd (by rw [he.2]; simp) hh'
    · rename_i c' r he
      simp only [List.cons.injEq] at he
      obtain ⟨rfl, rfl⟩ := he
      rw [plainFirstLine_noHash _ _ hh']; simp

def plainStart (c : Char) : Bool := keyStart c && c != '"' && c != '\''

theorem plainStart_key {c : Char} (h : plainStart c = true) : keyStart c = true := by
  simp only [plainStart, Bool.and_eq_true] at h; exact h.1.1

theorem plainStart_ne {c : Char} (h : plainStart c = true) (x : Char) (hx : plainStart x = false) : c ≠ x := by
  rintro rfl; rw [h] at hx; exact Bool.noConfusion hx

/-- a plain scalar alone on its line -/
theorem blockNode_plainGen (fuel n : Nat) (seqAt : Option Nat) (inl : Bool) (i : Nat) {s : List Char} {c : Char} {cs : List Char}
    (rest : List Line) (e : s = c :: cs) (hstart : plainStart c = true) (hcls : classify s = .other)
    (hsep : noKeySep s = true) (hhash : '#' ∉ s) (hl1 : s.getLast? ≠ some ' ') (hl2 : s.getLast? ≠ some '\t')
    (hi : n ≤ i) (hd : DedLt n rest) :
    blockNode (fuel + 1) n seqAt inl (⟨i, s⟩ :: rest) = some (resolvePlain s, rest) := by
  have hk := plainStart_key hstart
  have hns : (⟨i, s⟩ : Line).isSkippable = false := by
    rw [e]; exact notSkippable_of_head (keyStart_ne hk '#' (by decide))
  have hlt : ¬ (i < n) := by omega
  have hsk : skipTag s = s := by rw [e]; exact skipTag_keyStart _ hk
  have hne : ∀ x : Char, plainStart x = false → (c == x) = false := fun x hx => by
    simp only [beq_eq_false_iff_ne]; exact plainStart_ne hstart x hx
  have hik : implicitKey s = none := by
    rw [e, implicitKey_plain cs fun x hx =>
      plainStart_ne hstart x ((by decide : ∀ x ∈ implicitKeyHeads, plainStart x = false) x hx), ← e,
      splitPlainKey_none s [] hsep hhash]
    rfl
  have hpf : plainFirstLine [] s = (s, false) := by
    rw [plainFirstLine_noHash s [] hhash]; simp [trimEndSpaces_id hl1 hl2]
  rw [blockNode, skipBlank_cons rest hns]
  simp only [hcls, hlt, decide_false, Bool.false_and, Bool.false_eq_true, if_false, hsk]
  rw [e]
  simp only [hne '[' (by decide), hne '{' (by decide), hne '|' (by decide), hne '>' (by decide), hne '&' (by decide),
    hne '*' (by decide), hne '%' (by decide), hne '@' (by decide), hne '`' (by decide), hne '"' (by decide),
    hne '\'' (by decide), hne '#' (by decide), Bool.or_self, Bool.false_eq_true, if_false]
  rw [← e, hik, hpf]
  simp only [Bool.false_eq_true, if_false, plainContinuation_ded hd]

theorem noKeySep_of_noColon : ∀ (t : List Char), (∀ x ∈ t, x ≠ ':') → noKeySep t = true
  | [], _ => rfl
  | c :: cs, ht => by
    have h1 : c ≠ ':' := ht c (by simp)
    rw [noKeySep]
    · exact noKeySep_of_noColon cs (fun x hx => ht x (by simp [hx]))
    · intro e; exact h1 e

theorem tok_plainStart {c : Char} (h : isTokChar c = true) : plainStart c = true := by
  cases hp : plainStart c
  · simp only [plainStart, keyStart, Bool.and_eq_false_iff, Bool.not_eq_false', Bool.or_eq_true, beq_iff_eq, bne_eq_false_iff_eq] at hp
    rcases hp with (((((((((((((rfl | rfl) | rfl) | rfl) | rfl) | rfl) | rfl) | rfl) | rfl) | rfl) | rfl) | rfl) | rfl) | rfl) <;>
      exact absurd h (by decide)
  · rfl

theorem notMarker_head {t : List Char} {c : Char} {cs : List Char} (e : t = c :: cs)
    (h1 : c ≠ '-' ∨ ∃ c2 cs2, cs = c2 :: cs2 ∧ c2 ≠ '-') (h2 : c ≠ '.') (i : Nat) :
    isDocMarker ⟨i, t⟩ "---".toList = false ∧ isDocMarker ⟨i, t⟩ "...".toList = false := by
  subst e
  refine ⟨?_, ?_⟩
  · simp only [isDocMarker, Bool.and_eq_false_iff]
    left; right
    rcases h1 with h1 | ⟨c2, cs2, rfl, hc2⟩
    · cases cs with
      | nil => simp
      | cons a as => cases as <;> simp [h1]
    · cases cs2 <;> simp [hc2]
  · simp only [isDocMarker, Bool.and_eq_false_iff]
    left; right
    cases cs with
    | nil => simp
    | cons a as => cases as <;> simp [h2]

theorem tok_lineChar {c : Char} (h : isTokChar c = true) : lineChar c = true := by
  have h1 := isTokChar_ne h '\n' (by decide)
  have h2 := isTokChar_ne h '\r' (by decide)
  have h3 := isTokChar_ne h (Char.ofNat 0) (by decide)
  simp [lineChar, h1, h2, h3]

/-- a scalar token that may follow a tag: it is not tagged itself and not taken for `- …` / `? …` -/
structure CoreTok (t : List Char) (p : PVal) : Prop extends ScalarTok t p where
  cls : classify t = .other
  untagged : t.head? ≠ some '!'

/-- What the first character buys: a text that starts with a `keyStart` character is not empty, can start a line and is
not tagged; it is a core token as soon as it reads as `p`, is no entry indicator, no document marker, and lies on one
line. -/
theorem CoreTok.ofStart {t : List Char} {c : Char} {cs : List Char} {p : PVal} (e : t = c :: cs) (hk : keyStart c = true)
    (read : ∀ (fuel n : Nat) (seqAt : Option Nat) (inl : Bool) (i : Nat) (rest : List Line), n ≤ i → DedLt n rest →
      blockNode (fuel + 1) n seqAt inl (⟨i, t⟩ :: rest) = some (p, rest))
    (cls : classify t = .other) (chars : ∀ x ∈ t, lineChar x = true)
    (noMarker : isDocMarker ⟨0, t⟩ "---".toList = false ∧ isDocMarker ⟨0, t⟩ "...".toList = false) : CoreTok t p := by
  have hne : ∀ x : Char, keyStart x = false → t.head? ≠ some x := fun x hx => by
    rw [e]; simpa using keyStart_ne hk x hx
  exact ⟨⟨read, by rw [e]; simp, ⟨hne ' ' (by decide), hne '#' (by decide), hne '%' (by decide)⟩, chars, noMarker⟩, cls,
    hne '!' (by decide)⟩

/-- a line that continues a non-marker `s` with `:` is no marker: a `:` among the first three characters, or right after
them, is no part of a document marker `m` -/
theorem isDocMarker_colon {s m : List Char} (hc : ':' ∉ m) (h : isDocMarker ⟨0, s⟩ m = false) (after : List Char) :
    isDocMarker ⟨0, s ++ ':' :: after⟩ m = false := by
  have hne : ∀ {t : List Char}, ':' ∈ t → (t == m) = false := fun ht => by
    simp only [beq_eq_false_iff_ne]; rintro rfl; exact hc ht
  match s, h with
  | [], _ => simp [isDocMarker, hne]
  | [a], _ => simp [isDocMarker, hne]
  | [a, b], _ => simp [isDocMarker, hne]
  | [a, b, c], _ => simp [isDocMarker]
  | a :: b :: c :: d :: ds, h => simpa [isDocMarker] using h

/-- the rest of a key token follows from the core token: with `:` appended the line is still no entry indicator and no
document marker -/
theorem CoreTok.keyTok {K s : List Char} (h : CoreTok K (.str s)) (hk : ∃ c cs, K = c :: cs ∧ keyStart c = true)
    (ik : ∀ after, colonEndsKey after = true → implicitKey (K ++ ':' :: after) = some (.str s, after)) : KeyTok K s :=
  ⟨ik, classify_colon h.cls, hk, h.chars,
    fun after => ⟨isDocMarker_colon (by simp) h.noMarker.1 after, isDocMarker_colon (by simp) h.noMarker.2 after⟩,
    h.toScalarTok⟩

/-- the conditions under which a text is a plain scalar token that reads as `p`: the hypotheses of the plain scan
(`blockNode_plainGen`), what it resolves to, and what a token owes besides being read -/
structure PlainVal (s : List Char) (p : PVal) : Prop where
  start : ∃ c cs, s = c :: cs ∧ plainStart c = true
  cls : classify s = .other
  sep : noKeySep s = true
  chars : ∀ x ∈ s, lineChar x = true ∧ x ≠ '#'
  last : s.getLast? ≠ some ' ' ∧ s.getLast? ≠ some '\t'
  res : resolvePlain s = p
  noMarker : isDocMarker ⟨0, s⟩ "---".toList = false ∧ isDocMarker ⟨0, s⟩ "...".toList = false

theorem PlainVal.coreTok {s : List Char} {p : PVal} (h : PlainVal s p) : CoreTok s p := by
  obtain ⟨c, cs, e, hc⟩ := h.start
  have hhash : '#' ∉ s := fun hm => (h.chars '#' hm).2 rfl
  exact .ofStart e (plainStart_key hc)
    (fun fuel n seqAt inl i rest hi hd => by
      rw [blockNode_plainGen fuel n seqAt inl i rest e hc h.cls h.sep hhash h.last.1 h.last.2 hi hd, h.res])
    h.cls (fun x hx => (h.chars x hx).1) h.noMarker

/-- the tokens over `[a-z0-9-]` are such texts, whatever they resolve to, unless they go on with a second `-` (`---`):
no character the plain scan or the resolution of a line looks for is a token character -/
theorem PlainTok.plainVal {t : List Char} (h : PlainTok t)
    (hd : ∀ cs, t = '-' :: cs → ∃ c2 cs2, cs = c2 :: cs2 ∧ c2 ≠ '-') : PlainVal t (resolvePlain t) := by
  obtain ⟨c, cs, e, hc⟩ := h.head
  have hne : ∀ x : Char, isTokChar x = false → x ∉ t := fun x hx hm => isTokChar_ne (h.chars x hm) x hx rfl
  have hlast : ∀ x : Char, isTokChar x = false → t.getLast? ≠ some x := fun x hx hl => hne x hx (List.mem_of_getLast? hl)
  refine ⟨⟨c, cs, e, tok_plainStart hc⟩, classify_plainTok h,
    noKeySep_of_noColon t fun x hx e' => hne ':' (by decide) (e' ▸ hx),
    fun x hx => ⟨tok_lineChar (h.chars x hx), fun e' => hne '#' (by decide) (e' ▸ hx)⟩,
    ⟨hlast ' ' (by decide), hlast '\t' (by decide)⟩, rfl, notMarker_head e ?_ (isTokChar_ne hc '.' (by decide)) 0⟩
  by_cases hm : c = '-'
  · subst hm; exact Or.inr (hd cs e)
  · exact Or.inl hm

theorem blockNode_emptySeq (fuel n : Nat) (seqAt : Option Nat) (inl : Bool) (i : Nat) (rest : List Line)
    (hi : n ≤ i) : blockNode (fuel + 1) n seqAt inl (⟨i, "[]".toList⟩ :: rest) = some (.seq [], rest) := by
  have hlt : ¬ (i < n) := by omega
  rw [blockNode]
  simp [skipBlank, Line.isSkippable, classify, hlt, skipTag, flowAcross, flowNode, dropSpaces, restIsEmptyOrComment]

theorem blockNode_emptyMap (fuel n : Nat) (seqAt : Option Nat) (inl : Bool) (i : Nat) (rest : List Line)
    (hi : n ≤ i) : blockNode (fuel + 1) n seqAt inl (⟨i, "{}".toList⟩ :: rest) = some (.map [], rest) := by
  have hlt : ¬ (i < n) := by omega
  rw [blockNode]
  simp [skipBlank, Line.isSkippable, classify, hlt, skipTag, flowAcross, flowNode, dropSpaces, restIsEmptyOrComment]

/-- what stands after `- ` / `? ` / `: ` on the line of the indicator -/
structure ItemHead (h : List Char) : Prop where
  ne : h ≠ []
  noSpace : h.head? ≠ some ' '

theorem classify_dash {h : List Char} (hh : ItemHead h) : classify ('-' :: ' ' :: h) = .dash h 1 := by
  obtain ⟨c, cs, rfl⟩ : ∃ c cs, h = c :: cs := by
    cases h with
    | nil => exact absurd rfl hh.ne
    | cons c cs => exact ⟨c, cs, rfl⟩
  have hc : c ≠ ' ' := by
    intro e; exact hh.noSpace (by simp [e])
  simp [classify, dropSpaces, hc]

theorem blockSeq_cons (fuel c : Nat) {h : List Char} (ls : List Line) (hh : ItemHead h) :
    blockSeq (fuel + 1) c (⟨c, '-' :: ' ' :: h⟩ :: ls) =
      (match blockNode fuel (c + 1) none false (⟨c + 2, h⟩ :: ls) with
       | none => none
       | some (v, r) => (blockSeq fuel c r).map fun (vs, r) => (v :: vs, r)) := by
  have hns : (⟨c, '-' :: ' ' :: h⟩ : Line).isSkippable = false := notSkippable_of_head (by decide)
  have hne : h.isEmpty = false := by
    cases h with
    | nil => exact absurd rfl hh.ne
    | cons _ _ => rfl
  rw [blockSeq, skipBlank_cons ls hns]
  simp [classify_dash hh, hne]
  rfl

/-- a block node whose first line starts with `- ` is the block sequence at that indentation: the line is indented enough, or it
stands at the column the reader was told to accept (`seqAt`: the column of the key, `compact_list_indent`) -/
theorem blockNode_dash (fuel n : Nat) (seqAt : Option Nat) (i : Nat) {h : List Char} (ls : List Line)
    (hh : ItemHead h) (hi : n ≤ i ∨ seqAt = some i) :
    blockNode (fuel + 1) n seqAt false (⟨i, '-' :: ' ' :: h⟩ :: ls) =
      (blockSeq fuel i (⟨i, '-' :: ' ' :: h⟩ :: ls)).map fun (xs, r) => (.seq xs, r) := by
  have hns : (⟨i, '-' :: ' ' :: h⟩ : Line).isSkippable = false := notSkippable_of_head (by decide)
  rw [blockNode, skipBlank_cons ls hns]
  rcases hi with hi | rfl
  · have hlt : ¬ (i < n) := by omega
    simp [classify_dash hh, hlt]
  · simp [classify_dash hh]

/-- how `blockMap` reads the value of an implicit key at indentation `c` -/
def valueParse (fuel c keyLen : Nat) (after : List Char) (rest : List Line) : Option (PVal × List Line) :=
  if (dropSpaces after).isEmpty || (dropSpaces after).head? == some '#' then blockNode fuel (c + 1) (some c) false rest
  else blockNode fuel (c + 1) none true ({ indent := restColumn (c + keyLen) after, text := dropSpaces after } :: rest)

/-- the text after `key:` on the line of the key -/
def ValHead (h : List Char) : Prop := h = [] ∨ ∃ t, h = ' ' :: t ∧ ItemHead t

theorem ValHead.colonEnds {h : List Char} (hh : ValHead h) : colonEndsKey h = true := by
  rcases hh with rfl | ⟨t, rfl, _⟩ <;> simp [colonEndsKey]

theorem KeyTok.head {K s : List Char} (hk : KeyTok K s) : ∃ c cs, K = c :: cs ∧ keyStart c = true := hk.start

theorem blockMap_end (fuel c : Nat) {rest : List Line} (h : DedLt c rest) :
    blockMap (fuel + 1) c rest = some ([], rest) := by
  rw [blockMap, skipBlank_ded h]
  rcases h with rfl | ⟨l, ls, rfl, hi, hs⟩
  · rfl
  · have h1 : (l.indent != c) = true := by simp; omega
    have h2 : ¬ (l.indent > c) := by omega
    simp [h1, h2]

theorem key_line_notSkippable {K k : List Char} (hk : KeyTok K k) (i : Nat) (after : List Char) :
    (⟨i, K ++ ':' :: after⟩ : Line).isSkippable = false := by
  obtain ⟨c, cs, rfl, hc⟩ := hk.start
  exact notSkippable_of_head (keyStart_ne hc '#' (by decide))

theorem blockMap_cons (fuel c : Nat) {K k h : List Char} (ls : List Line) (hk : KeyTok K k) (hh : ValHead h)
    (hfit : fitsImplicit K = true) :
    blockMap (fuel + 1) c (⟨c, K ++ ':' :: h⟩ :: ls) =
      (match valueParse fuel c (K.length + 1) h ls with
       | none => none
       | some (v, r) => (blockMap fuel c r).map fun (es, r) => ((.str k, v) :: es, r)) := by
  rw [blockMap, skipBlank_cons ls (key_line_notSkippable hk c h)]
  simp only [bne_self_eq_false, Bool.false_eq_true, if_false, hk.cls h, hk.ik h hh.colonEnds]
  have hlen : (K ++ ':' :: h).length - h.length = K.length + 1 := by simp; omega
  have hshort : ¬ (K.length + 1 > maxImplicitKey + 1) := by
    simp only [fitsImplicit, decide_eq_true_eq] at hfit
    simp only [maxImplicitKey]; omega
  simp only [hlen, valueParse, hshort, if_false]
  rfl

/-- a key token longer than 1024 characters followed by `:` is NOT read as an implicit key: the
reader rejects the mapping, as the real parser does -/
theorem blockMap_long_rejected (fuel c : Nat) {K k h : List Char} (ls : List Line) (hk : KeyTok K k) (hh : ValHead h)
    (hfit : fitsImplicit K = false) : blockMap (fuel + 1) c (⟨c, K ++ ':' :: h⟩ :: ls) = none := by
  rw [blockMap, skipBlank_cons ls (key_line_notSkippable hk c h)]
  simp only [bne_self_eq_false, Bool.false_eq_true, if_false, hk.cls h, hk.ik h hh.colonEnds]
  have hlen : (K ++ ':' :: h).length - h.length = K.length + 1 := by simp; omega
  have hlong : K.length + 1 > maxImplicitKey + 1 := by
    simp only [fitsImplicit, decide_eq_false_iff_not] at hfit
    simp only [maxImplicitKey]; omega
  simp only [hlen, hlong, if_true]

theorem blockNode_key (fuel n : Nat) (seqAt : Option Nat) (i : Nat) {K k h : List Char} (ls : List Line)
    (hk : KeyTok K k) (hh : ValHead h) (hi : n ≤ i) :
    blockNode (fuel + 1) n seqAt false (⟨i, K ++ ':' :: h⟩ :: ls) =
      (match blockMap fuel i (⟨i, K ++ ':' :: h⟩ :: ls) with
       | some (es, r) => if hasDupKey es then none else some (.map es, r)
       | none => none) := by
  have hcls := hk.cls h
  have hik := hk.ik h hh.colonEnds
  have hns := key_line_notSkippable hk i h
  obtain ⟨c, cs, rfl, hc⟩ := hk.start
  have hlt : ¬ (i < n) := by omega
  have hne : ∀ x : Char, keyStart x = false → (c == x) = false := fun x hx => by
    simp only [beq_eq_false_iff_ne]; exact keyStart_ne hc x hx
  have hsk : skipTag ((c :: cs) ++ ':' :: h) = (c :: cs) ++ ':' :: h := skipTag_keyStart _ hc
  rw [blockNode, skipBlank_cons ls hns]
  simp only [hcls, hlt, decide_false, Bool.false_and, Bool.false_eq_true, if_false, hsk]
  simp only [List.cons_append, hne '[' (by decide), hne '{' (by decide), hne '|' (by decide), hne '>' (by decide),
    hne '&' (by decide), hne '*' (by decide), hne '%' (by decide), hne '@' (by decide), hne '`' (by decide),
    Bool.or_self, Bool.false_eq_true, if_false]
  simp only [List.cons_append] at hik
  simp [hik]
  rfl

theorem classify_question {h : List Char} (hh : ItemHead h) : classify ('?' :: ' ' :: h) = .question h 1 := by
  obtain ⟨c, cs, rfl⟩ : ∃ c cs, h = c :: cs := by
    cases h with
    | nil => exact absurd rfl hh.ne
    | cons c cs => exact ⟨c, cs, rfl⟩
  have hc : c ≠ ' ' := by
    intro e; exact hh.noSpace (by simp [e])
  simp [classify, dropSpaces, hc]

theorem blockNode_question (fuel n : Nat) (seqAt : Option Nat) (i : Nat) {h : List Char} (ls : List Line)
    (hh : ItemHead h) (hi : n ≤ i) :
    blockNode (fuel + 1) n seqAt false (⟨i, '?' :: ' ' :: h⟩ :: ls) =
      (match blockMap fuel i (⟨i, '?' :: ' ' :: h⟩ :: ls) with
       | some (es, r) => if hasDupKey es then none else some (.map es, r)
       | none => none) := by
  have hns : (⟨i, '?' :: ' ' :: h⟩ : Line).isSkippable = false := notSkippable_of_head (by decide)
  have hlt : ¬ (i < n) := by omega
  rw [blockNode, skipBlank_cons ls hns]
  simp [classify_question hh, hlt]
  rfl

theorem blockMap_cons_complex (fuel c : Nat) {hk hv : List Char} (ls r2 : List Line) (hhk : ItemHead hk) (hhv : ItemHead hv)
    {kv : PVal} (hkey : blockNode fuel (c + 1) none false (⟨c + 2, hk⟩ :: ls) = some (kv, ⟨c, ':' :: ' ' :: hv⟩ :: r2)) :
    blockMap (fuel + 1) c (⟨c, '?' :: ' ' :: hk⟩ :: ls) =
      (match blockNode fuel (c + 1) (some c) false (⟨c + 2, hv⟩ :: r2) with
       | none => none
       | some (v, r3) => (blockMap fuel c r3).map fun (es, r) => ((kv, v) :: es, r)) := by
  have hns : (⟨c, '?' :: ' ' :: hk⟩ : Line).isSkippable = false := notSkippable_of_head (by decide)
  have hns2 : (⟨c, ':' :: ' ' :: hv⟩ : Line).isSkippable = false := notSkippable_of_head (by decide)
  have hne : hk.isEmpty = false := by
    cases hk with
    | nil => exact absurd rfl hhk.ne
    | cons _ _ => rfl
  obtain ⟨cv, csv, rfl⟩ : ∃ c cs, hv = c :: cs := by
    cases hv with
    | nil => exact absurd rfl hhv.ne
    | cons c cs => exact ⟨c, cs, rfl⟩
  have hcv : cv ≠ ' ' := by
    intro e; exact hhv.noSpace (by simp [e])
  rw [blockMap, skipBlank_cons ls hns]
  simp only [bne_self_eq_false, Bool.false_eq_true, if_false, classify_question hhk, hne, hkey, skipBlank_cons r2 hns2]
  simp [dropSpaces, restColumn, hcv]
  rfl

/-- the lines after a block sequence whose dashes stand at column `c`: as `DedLt c`, or a line at column `c` that is not a
sequence entry (the next key, under `compact_list_indent`) -/
def SeqEnd (c : Nat) (rest : List Line) : Prop :=
  rest = [] ∨ ∃ l ls, rest = l :: ls ∧ l.isSkippable = false ∧
    (l.indent < c ∨ (l.indent = c ∧ ∀ it g, classify l.text ≠ .dash it g))

theorem DedLt.seqEnd {c : Nat} {rest : List Line} (h : DedLt c rest) : SeqEnd c rest := by
  rcases h with rfl | ⟨l, ls, rfl, hi, hs⟩
  · exact Or.inl rfl
  · exact Or.inr ⟨l, ls, rfl, hs, Or.inl hi⟩

theorem SeqEnd.ded {c : Nat} {rest : List Line} (h : SeqEnd c rest) : DedLt (c + 1) rest := by
  rcases h with rfl | ⟨l, ls, rfl, hs, hi⟩
  · exact Or.inl rfl
  · exact Or.inr ⟨l, ls, rfl, by rcases hi with h | ⟨h, _⟩ <;> omega, hs⟩

theorem SeqEnd.mono {c c' : Nat} {rest : List Line} (h : SeqEnd c rest) (hc : c < c') : SeqEnd c' rest :=
  (h.ded.mono (by omega)).seqEnd

theorem skipBlank_seqEnd {c : Nat} {rest : List Line} (h : SeqEnd c rest) : skipBlank rest = rest := skipBlank_ded h.ded

theorem blockSeq_end' (fuel c : Nat) {rest : List Line} (h : SeqEnd c rest) :
    blockSeq (fuel + 1) c rest = some ([], rest) := by
  rw [blockSeq, skipBlank_seqEnd h]
  rcases h with rfl | ⟨l, ls, rfl, hs, hi | ⟨hi, hnd⟩⟩
  · rfl
  · have h1 : (l.indent != c) = true := by simp; omega
    have h2 : ¬ (l.indent > c) := by omega
    simp [h1, h2]
  · have h1 : (l.indent != c) = false := by simp [hi]
    cases hcl : classify l.text with
    | dash it g => exact absurd hcl (hnd it g)
    | question _ _ => simp [h1, hcl]
    | other => simp [h1, hcl]

theorem blockSeq_end (fuel c : Nat) {rest : List Line} (h : DedLt c rest) :
    blockSeq (fuel + 1) c rest = some ([], rest) := blockSeq_end' fuel c h.seqEnd

theorem ScalarTok.itemHead {t : List Char} {p : PVal} (h : ScalarTok t p) : ItemHead t := ⟨h.ne, h.head.1⟩
theorem LeafOK.itemHead {n : Nat} {r : List Char × List Line} {p : PVal} (h : LeafOK n r p) : ItemHead r.1 := ⟨h.ne, h.head.1⟩

theorem key_itemHead {K k : List Char} (hk : KeyTok K k) (after : List Char) : ItemHead (K ++ ':' :: after) := by
  obtain ⟨c, cs, rfl, hc⟩ := hk.start
  exact ⟨by simp, by simp only [List.cons_append, List.head?_cons, ne_eq, Option.some.injEq]; exact keyStart_ne hc ' ' (by decide)⟩

theorem variantItem_head {N n : List Char} (hn : KeyTok N n) (c : Nat) (r ri : List Char × List Line × Bool) :
    ItemHead (variantItem c N r ri).1 := by
  cases hfit : fitsImplicit N
  · simp only [variantItem, hfit, Bool.false_eq_true, if_false]; exact ⟨by simp, by simp⟩
  · simpa [variantItem, hfit] using key_itemHead hn r.1

theorem intText_dash (i : Int) : ∀ cs, intText i = '-' :: cs → ∃ c2 cs2, cs = c2 :: cs2 ∧ c2 ≠ '-' := by
  intro cs e
  cases i with
  | ofNat n =>
    rw [intText_nonneg] at e
    have := List.all_eq_true.mp (digits_all n) '-' (by rw [e]; simp)
    exact absurd this (by decide)
  | negSucc n =>
    rw [intText_neg] at e
    simp only [List.cons.injEq, true_and] at e
    have hne := Nat.toDigits_ne_nil (n := n + 1) (b := 10)
    rw [e] at hne
    cases cs with
    | nil => exact absurd rfl hne
    | cons c2 cs2 =>
      refine ⟨c2, cs2, rfl, ?_⟩
      rintro rfl
      have := List.all_eq_true.mp (digits_all (n + 1)) '-' (by rw [e]; simp)
      exact absurd this (by decide)

theorem leafTok_plainTok {T : Toks} {v : SVal} {tok : List Char} (ht : leafTok T v = some tok) :
    PlainTok tok ∧ resolvePlain tok = erase v ∧ ∀ cs, tok = '-' :: cs → ∃ c2 cs2, cs = c2 :: cs2 ∧ c2 ≠ '-' := by
  cases v <;> simp only [leafTok, Option.some.injEq, reduceCtorEq] at ht <;> subst ht
  · exact ⟨plainTok_null, resolvePlain_null, fun cs e => by simp at e⟩
  · rename_i b
    cases b
    · exact ⟨plainTok_false, resolvePlain_false, fun cs e => by simp at e⟩
    · exact ⟨plainTok_true, resolvePlain_true, fun cs e => by simp at e⟩
  · exact ⟨intText_plainTok _, resolvePlain_int _, intText_dash _⟩
  · exact ⟨plainTok_null, resolvePlain_null, fun cs e => by simp at e⟩

theorem leafTok_scalarTok {T : Toks} {v : SVal} {tok : List Char} (ht : leafTok T v = some tok) :
    ScalarTok tok (erase v) := by
  obtain ⟨hp, hres, hd⟩ := leafTok_plainTok ht
  rw [← hres]; exact (hp.plainVal hd).coreTok.toScalarTok

theorem valHead_scalar {t : List Char} {p : PVal} (h : ScalarTok t p) : ValHead (' ' :: t) := Or.inr ⟨t, rfl, h.itemHead⟩

/-- the first line of a block mapping -/
inductive MapStart : List Char → Prop
  | key {K kt h : List Char} (hk : KeyTok K kt) (hh : ValHead h) : MapStart (K ++ ':' :: h)
  | question {h : List Char} (hh : ItemHead h) : MapStart ('?' :: ' ' :: h)

theorem MapStart.notSkippable {t : List Char} (h : MapStart t) (i : Nat) : (⟨i, t⟩ : Line).isSkippable = false := by
  cases h with
  | key hk hh => exact key_line_notSkippable hk i _
  | question hh => exact notSkippable_of_head (by decide)

theorem MapStart.notPct {t : List Char} (h : MapStart t) : t.head? ≠ some '%' := by
  cases h with
  | key hk hh =>
    obtain ⟨c, cs, rfl, hc⟩ := hk.start
    simp only [List.cons_append, List.head?_cons, ne_eq, Option.some.injEq]
    exact keyStart_ne hc '%' (by decide)
  | question hh => simp

theorem MapStart.notDash {t : List Char} (h : MapStart t) : ∀ it g, classify t ≠ .dash it g := by
  intro it g
  cases h with
  | key hk hh => rw [hk.cls]; exact fun e => Head.noConfusion e
  | question hh => rw [classify_question hh]; exact fun e => Head.noConfusion e

theorem blockNode_mapStart (fuel n : Nat) (seqAt : Option Nat) (i : Nat) {t : List Char} (ls : List Line)
    (ht : MapStart t) (hi : n ≤ i) :
    blockNode (fuel + 1) n seqAt false (⟨i, t⟩ :: ls) =
      (match blockMap fuel i (⟨i, t⟩ :: ls) with
       | some (es, r) => if hasDupKey es then none else some (.map es, r)
       | none => none) := by
  cases ht with
  | key hk hh => exact blockNode_key fuel n seqAt i ls hk hh hi
  | question hh => exact blockNode_question fuel n seqAt i ls hh hi

theorem MapStart.itemHead {t : List Char} (h : MapStart t) : ItemHead t := by
  cases h with
  | key hk hh => exact key_itemHead hk _
  | question hh => exact ⟨by simp, by simp⟩

/-- the first line of a document: there is one, it is neither blank nor a comment nor a directive -/
def FirstLine (ls : List Line) : Prop :=
  ∃ l rest, ls = l :: rest ∧ l.isSkippable = false ∧ l.text.head? ≠ some '%'

theorem FirstLine.ofHead {i : Nat} {t : List Char} (hne : t ≠ []) (hh : t.head? ≠ some '#') (hp : t.head? ≠ some '%')
    (rest : List Line) : FirstLine (⟨i, t⟩ :: rest) := by
  refine ⟨_, _, rfl, ?_, hp⟩
  cases t with
  | nil => exact absurd rfl hne
  | cons c cs => exact notSkippable_of_head (fun e => hh (by simp [e]))

theorem MapStart.firstLine {t : List Char} (h : MapStart t) (i : Nat) (rest : List Line) : FirstLine (⟨i, t⟩ :: rest) :=
  ⟨_, _, rfl, h.notSkippable i, h.notPct⟩

theorem valueParse_block (fuel c klen : Nat) (ls : List Line) :
    valueParse fuel c klen [] ls = blockNode fuel (c + 1) (some c) false ls := by
  simp [valueParse, dropSpaces]

/-! ### statements about lines

Each says what a group of lines reads as at ONE column and how it begins; the lemmas after it are the ways such groups are put
together.  No layout function, no contract: lines are variables here. -/

/-- the lines `L` are a block node that reads as `p` where a node of least indentation `n` is expected (`inl`: on the line of
its key), whatever lines that do not continue it follow -/
def ReadsNode (n : Nat) (inl : Bool) (L : List Line) (p : PVal) : Prop :=
  ∀ (fuel : Nat) (seqAt : Option Nat) (rest : List Line), fuel ≥ 2 * mu L + 2 → DedLt n rest →
    blockNode fuel n seqAt inl (L ++ rest) = some (p, rest)

theorem LeafOK.node {n : Nat} {r : List Char × List Line} {p : PVal} (h : LeafOK n r p) (inl : Bool) {i : Nat} (hi : n ≤ i) :
    ReadsNode n inl (⟨i, r.1⟩ :: r.2) p := by
  intro fuel seqAt rest hf hd
  obtain ⟨f', rfl⟩ : ∃ f', fuel = f' + 1 := ⟨fuel - 1, by omega⟩
  exact h.read f' seqAt inl i rest hi hd

/-- an empty collection is written as a token on one line: for the reader a leaf like any other -/
theorem leafOK_emptySeq (n : Nat) : LeafOK n ("[]".toList, []) (.seq []) :=
  ⟨fun fuel seqAt inl i rest hi _ => blockNode_emptySeq fuel n seqAt inl i rest hi, by decide, by decide, by decide, by decide,
    fun _ h => absurd h (by simp)⟩

theorem leafOK_emptyMap (n : Nat) : LeafOK n ("{}".toList, []) (.map []) :=
  ⟨fun fuel seqAt inl i rest hi _ => blockNode_emptyMap fuel n seqAt inl i rest hi, by decide, by decide, by decide, by decide,
    fun _ h => absurd h (by simp)⟩

/-- after `- ` (or `? `, `: `) at column `c`: the text `t` on that line, at column `c + 2`, and the lines `L` below are a node
that reads as `p` -/
structure ItemAt (c : Nat) (t : List Char) (L : List Line) (p : PVal) : Prop where
  head : ItemHead t
  read : ReadsNode (c + 1) false (⟨c + 2, t⟩ :: L) p

/-- after `key:` with the key at column `c`: the rest `h` of the key line and the lines `L` below are a value that reads as `p`,
whatever follows that is no further item of a sequence at column `c` -/
structure ValAt (c : Nat) (h : List Char) (L : List Line) (p : PVal) : Prop where
  head : ValHead h
  read : ∀ (fuel klen : Nat) (rest : List Line), fuel ≥ 2 * (h.length + 1 + mu L) + 2 → SeqEnd c rest →
    valueParse fuel c klen h (L ++ rest) = some (p, rest)

theorem ValAt.inline {c : Nat} {t : List Char} {L : List Line} {p : PVal} (hh : ItemHead t) (hc : t.head? ≠ some '#')
    (h : ∀ i, c + 1 ≤ i → ReadsNode (c + 1) true (⟨i, t⟩ :: L) p) : ValAt c (' ' :: t) L p := by
  refine ⟨Or.inr ⟨t, rfl, hh⟩, fun fuel klen rest hf hd => ?_⟩
  obtain ⟨a, as, rfl⟩ : ∃ a as, t = a :: as := by
    cases t with
    | nil => exact absurd rfl hh.ne
    | cons a as => exact ⟨a, as, rfl⟩
  have h1 : a ≠ ' ' := fun e => hh.noSpace (by simp [e])
  have h2 : a ≠ '#' := fun e => hc (by simp [e])
  have hds : dropSpaces (' ' :: a :: as) = a :: as := by simp [dropSpaces, h1]
  have hrc : restColumn (c + klen) (' ' :: a :: as) = c + klen + 1 := by simp [restColumn, h1]
  simp only [valueParse, hds, hrc, List.isEmpty_cons, List.head?_cons, Option.some.injEq, beq_iff_eq, h2, Bool.false_or,
    if_false]
  exact h _ (by omega) fuel none rest (by simp only [mu, List.length_cons] at hf ⊢; omega) hd.ded

theorem ValAt.below {c : Nat} {L : List Line} {p : PVal} (h : ReadsNode (c + 1) false L p) : ValAt c [] L p :=
  ⟨Or.inl rfl, fun fuel klen rest hf hd => by
    rw [valueParse_block]; exact h fuel (some c) rest (by simp only [List.length_nil] at hf; omega) hd.ded⟩

theorem LeafOK.valAt {c : Nat} {r : List Char × List Line} {p : PVal} (h : LeafOK (c + 1) r p) : ValAt c (' ' :: r.1) r.2 p :=
  .inline h.itemHead h.head.2.1 fun _ hi => LeafOK.node h true hi

theorem LeafOK.itemAt {c : Nat} {r : List Char × List Line} {p : PVal} (h : LeafOK (c + 1) r p) : ItemAt c r.1 r.2 p :=
  ⟨h.itemHead, LeafOK.node h false (by omega)⟩

theorem LeafOK.root {r : List Char × List Line} {p : PVal} (h : LeafOK 0 r p) :
    FirstLine (⟨0, r.1⟩ :: r.2) ∧ ReadsNode 0 false (⟨0, r.1⟩ :: r.2) p :=
  ⟨.ofHead h.ne h.head.2.1 h.head.2.2 _, LeafOK.node h false (Nat.le_refl 0)⟩

/-- the lines `L` are the items of a block sequence with its dashes at column `c`, read as `ps` -/
structure ReadsSeq (c : Nat) (L : List Line) (ps : List PVal) : Prop where
  read : ∀ (fuel : Nat) (rest : List Line), fuel ≥ 2 * mu L + 1 → SeqEnd c rest → blockSeq fuel c (L ++ rest) = some (ps, rest)
  start : L = [] ∨ ∃ t ls, L = ⟨c, '-' :: ' ' :: t⟩ :: ls ∧ ItemHead t

theorem ReadsSeq.nil {c : Nat} : ReadsSeq c [] [] :=
  ⟨fun fuel rest hf hd => by
    obtain ⟨f', rfl⟩ : ∃ f', fuel = f' + 1 := ⟨fuel - 1, by omega⟩
    exact blockSeq_end' f' c hd, Or.inl rfl⟩

theorem ReadsSeq.next {c : Nat} {L : List Line} {ps : List PVal} (h : ReadsSeq c L ps) {rest : List Line} (hd : SeqEnd c rest) :
    DedLt (c + 1) (L ++ rest) := by
  rcases h.start with rfl | ⟨t, ls, rfl, _⟩
  · exact hd.ded
  · exact DedLt.cons _ _ (by simp) (notSkippable_of_head (by decide))

theorem ReadsSeq.cons {c : Nat} {t : List Char} {L L' : List Line} {p : PVal} {ps : List PVal} (h1 : ItemAt c t L p)
    (h2 : ReadsSeq c L' ps) : ReadsSeq c (⟨c, '-' :: ' ' :: t⟩ :: L ++ L') (p :: ps) := by
  refine ⟨fun fuel rest hf hd => ?_, Or.inr ⟨_, _, rfl, h1.head⟩⟩
  simp only [List.cons_append, mu, mu_append, List.length_cons] at hf
  obtain ⟨f', rfl⟩ : ∃ f', fuel = f' + 1 := ⟨fuel - 1, by omega⟩
  have e1 := h1.read f' none (L' ++ rest) (by simp only [mu]; omega) (h2.next hd)
  have e2 := h2.read f' rest (by omega) hd
  simp only [List.cons_append, List.append_assoc] at e1 ⊢
  rw [blockSeq_cons f' c _ h1.head]
  simp only [e1, e2]
  rfl

theorem ReadsSeq.node {i : Nat} {L : List Line} {ps : List PVal} (h : ReadsSeq i L ps) (hne : L ≠ []) {n : Nat} (hi : n ≤ i) :
    ReadsNode n false L (.seq ps) := by
  intro fuel seqAt rest hf hd
  obtain ⟨t, ls, rfl, hh⟩ := h.start.resolve_left hne
  obtain ⟨f', rfl⟩ : ∃ f', fuel = f' + 1 := ⟨fuel - 1, by omega⟩
  have e := h.read f' rest (by omega) (hd.mono hi).seqEnd
  simp only [List.cons_append] at e ⊢
  rw [blockNode_dash f' n seqAt i _ hh (Or.inl hi), e]
  rfl

/-- `compact_list_indent`: the dashes at the column of the key, accepted because the reader is told so (`seqAt`) -/
theorem ReadsSeq.compact {c : Nat} {L : List Line} {ps : List PVal} (h : ReadsSeq c L ps) (hne : L ≠ []) :
    ValAt c [] L (.seq ps) := by
  refine ⟨Or.inl rfl, fun fuel klen rest hf hd => ?_⟩
  obtain ⟨t, ls, rfl, hh⟩ := h.start.resolve_left hne
  obtain ⟨f', rfl⟩ : ∃ f', fuel = f' + 1 := ⟨fuel - 1, by omega⟩
  have e := h.read f' rest (by omega) hd
  simp only [List.cons_append] at e ⊢
  rw [valueParse_block, blockNode_dash f' (c + 1) (some c) c _ hh (Or.inr rfl), e]
  rfl

theorem ReadsSeq.itemAt {c : Nat} {t : List Char} {ls : List Line} {ps : List PVal} (h : ReadsSeq (c + 2) (⟨c + 2, t⟩ :: ls) ps) :
    ItemAt c t ls (.seq ps) := by
  refine ⟨?_, h.node (by simp) (by omega)⟩
  obtain ⟨t', _, e, _⟩ := h.start.resolve_left (by simp)
  simp only [List.cons.injEq, Line.mk.injEq, true_and] at e
  rw [e.1]; exact ⟨by simp, by simp⟩

theorem ReadsSeq.firstLine {c : Nat} {L : List Line} {ps : List PVal} (h : ReadsSeq c L ps) (hne : L ≠ []) : FirstLine L := by
  obtain ⟨t, ls, rfl, _⟩ := h.start.resolve_left hne
  exact .ofHead (by simp) (by simp) (by simp) _

/-- the lines `L` are the entries of a block mapping with its keys at column `c`, read as `es` -/
structure ReadsMap (c : Nat) (L : List Line) (es : List (PVal × PVal)) : Prop where
  read : ∀ (fuel : Nat) (rest : List Line), fuel ≥ 2 * mu L + 1 → DedLt c rest → blockMap fuel c (L ++ rest) = some (es, rest)
  start : L = [] ∨ ∃ t ls, L = ⟨c, t⟩ :: ls ∧ MapStart t

theorem ReadsMap.nil {c : Nat} : ReadsMap c [] [] :=
  ⟨fun fuel rest hf hd => by
    obtain ⟨f', rfl⟩ : ∃ f', fuel = f' + 1 := ⟨fuel - 1, by omega⟩
    exact blockMap_end f' c hd, Or.inl rfl⟩

theorem ReadsMap.next {c : Nat} {L : List Line} {es : List (PVal × PVal)} (h : ReadsMap c L es) {rest : List Line}
    (hd : DedLt c rest) : SeqEnd c (L ++ rest) := by
  rcases h.start with rfl | ⟨t, ls, rfl, ht⟩
  · exact hd.seqEnd
  · exact Or.inr ⟨_, _, rfl, ht.notSkippable c, Or.inr ⟨rfl, ht.notDash⟩⟩

theorem ReadsMap.cons {c : Nat} {K k h : List Char} {L L' : List Line} {p : PVal} {es : List (PVal × PVal)} (hk : KeyTok K k)
    (hfit : fitsImplicit K = true) (h1 : ValAt c h L p) (h2 : ReadsMap c L' es) :
    ReadsMap c (⟨c, K ++ ':' :: h⟩ :: L ++ L') ((.str k, p) :: es) := by
  refine ⟨fun fuel rest hf hd => ?_, Or.inr ⟨_, _, rfl, .key hk h1.head⟩⟩
  simp only [List.cons_append, mu, mu_append, List.length_append, List.length_cons] at hf
  obtain ⟨f', rfl⟩ : ∃ f', fuel = f' + 1 := ⟨fuel - 1, by omega⟩
  have e1 := h1.read f' (K.length + 1) (L' ++ rest) (by omega) (h2.next hd)
  have e2 := h2.read f' rest (by omega) hd
  simp only [List.cons_append, List.append_assoc] at e1 ⊢
  rw [blockMap_cons f' c _ hk h1.head hfit]
  simp only [e1, e2]
  rfl

/-- an entry `? key` / `: value`: a composite key, or a string too long for an implicit key -/
theorem ReadsMap.cons_explicit {c : Nat} {tk tv : List Char} {Lk Lv L' : List Line} {kp p : PVal} {es : List (PVal × PVal)}
    (hk : ItemAt c tk Lk kp) (hv : ItemAt c tv Lv p) (h2 : ReadsMap c L' es) :
    ReadsMap c (⟨c, '?' :: ' ' :: tk⟩ :: Lk ++ ⟨c, ':' :: ' ' :: tv⟩ :: Lv ++ L') ((kp, p) :: es) := by
  refine ⟨fun fuel rest hf hd => ?_, Or.inr ⟨_, _, rfl, .question hk.head⟩⟩
  simp only [List.cons_append, List.append_assoc, mu, mu_append, List.length_cons] at hf
  obtain ⟨f', rfl⟩ : ∃ f', fuel = f' + 1 := ⟨fuel - 1, by omega⟩
  have e0 := hk.read f' none (⟨c, ':' :: ' ' :: tv⟩ :: Lv ++ L' ++ rest) (by simp only [mu]; omega)
    (DedLt.cons _ _ (by simp) (notSkippable_of_head (by decide)))
  have e1 := hv.read f' (some c) (L' ++ rest) (by simp only [mu]; omega) (h2.next hd).ded
  have e2 := h2.read f' rest (by omega) hd
  simp only [List.cons_append, List.append_assoc] at e0 e1 ⊢
  rw [blockMap_cons_complex f' c _ _ hk.head hv.head e0]
  simp only [e1, e2]
  rfl

theorem ReadsMap.node {i : Nat} {L : List Line} {es : List (PVal × PVal)} (h : ReadsMap i L es) (hne : L ≠ [])
    (hdup : hasDupKey es = false) {n : Nat} (hi : n ≤ i) : ReadsNode n false L (.map es) := by
  intro fuel seqAt rest hf hd
  obtain ⟨t, ls, rfl, ht⟩ := h.start.resolve_left hne
  obtain ⟨f', rfl⟩ : ∃ f', fuel = f' + 1 := ⟨fuel - 1, by omega⟩
  have e := h.read f' rest (by omega) (hd.mono hi)
  simp only [List.cons_append] at e ⊢
  rw [blockNode_mapStart f' n seqAt i _ ht hi, e]
  simp [hdup]

theorem ReadsMap.itemAt {c : Nat} {t : List Char} {ls : List Line} {es : List (PVal × PVal)}
    (h : ReadsMap (c + 2) (⟨c + 2, t⟩ :: ls) es) (hdup : hasDupKey es = false) : ItemAt c t ls (.map es) := by
  refine ⟨?_, h.node (by simp) hdup (by omega)⟩
  obtain ⟨t', _, e, ht⟩ := h.start.resolve_left (by simp)
  simp only [List.cons.injEq, Line.mk.injEq, true_and] at e
  rw [e.1]; exact ht.itemHead

theorem ReadsMap.firstLine {c : Nat} {L : List Line} {es : List (PVal × PVal)} (h : ReadsMap c L es) (hne : L ≠ []) :
    FirstLine L := by
  obtain ⟨t, ls, rfl, ht⟩ := h.start.resolve_left hne
  exact ht.firstLine c ls

/-- `Variant: payload` (`? Variant` / `: payload` when the name is too long for an implicit key) with the key at column `i`: a
mapping of one entry -/
theorem readsMap_variant {N nm : List Char} (hn : KeyTok N nm) {i : Nat} {r ri : List Char × List Line × Bool} {p : PVal}
    (hr : ValAt i r.1 r.2.1 p) (hri : ItemAt i ri.1 ri.2.1 p) : ReadsMap i (variantLines i N r ri) [(.str nm, p)] := by
  unfold variantLines
  split
  · rename_i hfit
    simpa only [List.append_nil, List.append_assoc, List.singleton_append] using ReadsMap.cons hn hfit hr .nil
  · simpa only [List.append_nil, List.cons_append, List.nil_append] using
      ReadsMap.cons_explicit (LeafOK.itemAt (hn.scalar.leafOK (i + 1))) hri .nil

theorem variantLines_ne (i : Nat) (N : List Char) (r ri : List Char × List Line × Bool) : variantLines i N r ri ≠ [] := by
  unfold variantLines; split <;> simp

theorem readsNode_variant {N nm : List Char} (hn : KeyTok N nm) {i : Nat} {r ri : List Char × List Line × Bool} {p : PVal}
    (hr : ValAt i r.1 r.2.1 p) (hri : ItemAt i ri.1 ri.2.1 p) {n : Nat} (hi : n ≤ i) :
    ReadsNode n false (variantLines i N r ri) (.map [(.str nm, p)]) :=
  (readsMap_variant hn hr hri).node (variantLines_ne _ _ _ _) (by simp [hasDupKey]) hi

/-! ### the layout

Positions are columns (`c`); `k` = `indent_step ≥ 1`. -/

/-- the layouts `r c im lvb` of a value after `key:`, for every column `c` of the key -/
def ReadsVal (r : Nat → Bool → Bool → List Char × List Line × Bool) (p : PVal) : Prop :=
  ∀ (c : Nat) (im lvb : Bool), ValAt c (r c im lvb).1 (r c im lvb).2.1 p

/-- the layouts `r c lvb` of a value after `- `, for every column `c` of the dash -/
def ReadsItem (r : Nat → Bool → List Char × List Line × Bool) (p : PVal) : Prop :=
  ∀ (c : Nat) (lvb : Bool), ItemAt c (r c lvb).1 (r c lvb).2.1 p

def ReadsItems (T : Toks) (k : Nat) (cp : Bool) (xs : List SVal) : Prop :=
  ∀ (c : Nat) (lvb : Bool), ReadsSeq c (layItems T k cp c lvb xs).1 (eraseList xs)

def ReadsEntries (T : Toks) (k : Nat) (cp : Bool) (es : List (SVal × SVal)) : Prop :=
  ∀ (c : Nat) (lvb : Bool), ReadsMap c (layEntries T k cp c lvb es).1 (eraseEntries es)

variable {T : Toks} {k : Nat} {cp : Bool}

theorem layEntries_ne (c : Nat) (lvb : Bool) (e : SVal × SVal) (es : List (SVal × SVal)) :
    (layEntries T k cp c lvb (e :: es)).1 ≠ [] := by
  obtain ⟨kk, v⟩ := e
  cases hko : keyOf kk with
  | none => simp [layEntries, hko]
  | some kt => cases hfit : fitsImplicit (T.key kt) <;> simp [layEntries, hko, hfit]

theorem reads_seqVal (hk : k ≥ 1) {xs : List SVal} (hitems : ReadsItems T k cp xs) :
    ReadsVal (fun c im _ => seqValOf xs.isEmpty (layItems T k cp (seqCol k cp im c) false xs).1) (.seq (eraseList xs)) := by
  intro c im lvb
  cases xs with
  | nil => exact (leafOK_emptySeq _).valAt
  | cons x xs' =>
    simp only [seqValOf, List.isEmpty_cons, Bool.false_eq_true, if_false]
    by_cases hcp : (cp && im) = true
    · rw [show seqCol k cp im c = c by simp [seqCol, hcp]]
      exact (hitems c false).compact (by simp [layItems])
    · rw [show seqCol k cp im c = c + k by simp [seqCol, hcp]]
      exact .below ((hitems (c + k) false).node (by simp [layItems]) (by omega))

theorem reads_seqItem {xs : List SVal} (hitems : ReadsItems T k cp xs) :
    ReadsItem (fun c lvb => laySeqItem T k cp c lvb xs) (.seq (eraseList xs)) := by
  intro c lvb
  cases xs with
  | nil => exact (leafOK_emptySeq _).itemAt
  | cons x xs' =>
    have h := hitems (c + 2) lvb
    rw [layItems_inline] at h
    exact h.itemAt

theorem reads_seqRoot {xs : List SVal} (hitems : ReadsItems T k cp xs) :
    FirstLine (layRoot T k cp (.seq xs)) ∧ ReadsNode 0 false (layRoot T k cp (.seq xs)) (.seq (eraseList xs)) := by
  cases xs with
  | nil => exact (leafOK_emptySeq 0).root
  | cons x xs' =>
    have hne : (layItems T k cp 0 false (x :: xs')).1 ≠ [] := by simp [layItems]
    simpa only [layRoot, List.isEmpty_cons, Bool.false_eq_true, if_false] using
      And.intro ((hitems 0 false).firstLine hne) ((hitems 0 false).node hne (Nat.le_refl 0))

theorem reads_items_cons {x : SVal} {xs : List SVal} (h1 : ReadsItem (fun c lvb => layItem T k cp c lvb x) (erase x))
    (h2 : ReadsItems T k cp xs) : ReadsItems T k cp (x :: xs) :=
  fun c lvb => by simpa only [layItems, eraseList, List.cons_append, List.nil_append] using ReadsSeq.cons (h1 c lvb) (h2 c _)

theorem reads_mapVal (hk : k ≥ 1) {es : List (SVal × SVal)} (hdup : hasDupKey (eraseEntries es) = false)
    (hentries : ReadsEntries T k cp es) :
    ReadsVal (fun c _ lvb => mapValOf (c + k) lvb es.isEmpty (layEntries T k cp (c + k) false es).1) (.map (eraseEntries es)) := by
  intro c im lvb
  cases es with
  | nil =>
    cases lvb
    · exact (leafOK_emptyMap _).valAt
    · exact .below ((leafOK_emptyMap _).node false (by omega))
  | cons e es' =>
    simp only [mapValOf, List.isEmpty_cons, Bool.false_eq_true, if_false]
    exact .below ((hentries (c + k) false).node (layEntries_ne _ _ _ _) hdup (by omega))

theorem reads_mapItem {es : List (SVal × SVal)} (hdup : hasDupKey (eraseEntries es) = false) (hentries : ReadsEntries T k cp es) :
    ReadsItem (fun c lvb => layMapItem T k cp c lvb es) (.map (eraseEntries es)) := by
  intro c lvb
  cases es with
  | nil => exact (leafOK_emptyMap _).itemAt
  | cons e es' =>
    have h := hentries (c + 2) false
    rw [layEntries_inline (lvb := lvb)] at h
    exact h.itemAt hdup

theorem reads_mapRoot {b : Bool} {es : List (SVal × SVal)} (hdup : hasDupKey (eraseEntries es) = false)
    (hentries : ReadsEntries T k cp es) :
    FirstLine (layRoot T k cp (.map b es)) ∧ ReadsNode 0 false (layRoot T k cp (.map b es)) (.map (eraseEntries es)) := by
  cases es with
  | nil => exact (leafOK_emptyMap 0).root
  | cons e es' =>
    have hne := layEntries_ne (T := T) (k := k) (cp := cp) 0 false e es'
    simpa only [layRoot, List.isEmpty_cons, Bool.false_eq_true, if_false] using
      And.intro ((hentries 0 false).firstLine hne) ((hentries 0 false).node hne hdup (Nat.le_refl 0))

/-- `Variant: payload` right after `key:` (the variant key `k` columns under the parent keys), right after `- ` (two columns
after the dash) and at the root -/
theorem reads_variant (hk : k ≥ 1) {N n : List Char} (hn : KeyTok N n) {r : Nat → Bool → Bool → List Char × List Line × Bool}
    {ri : Nat → Bool → List Char × List Line × Bool} {p : PVal} (hr : ReadsVal r p) (hri : ReadsItem ri p) :
    ReadsVal (fun c _ lvb => variantVal (c + k) N (r (c + k) true lvb) (ri (c + k) lvb)) (.map [(.str n, p)]) ∧
    ReadsItem (fun c lvb => variantItem c N (r (c + 2) true lvb) (ri (c + 2) lvb)) (.map [(.str n, p)]) ∧
    ∀ im lvb, FirstLine (variantRoot N (r 0 im lvb) (ri 0 lvb)) ∧
      ReadsNode 0 false (variantRoot N (r 0 im lvb) (ri 0 lvb)) (.map [(.str n, p)]) := by
  have hat : ∀ (i m : Nat) (im lvb : Bool), m ≤ i → ReadsNode m false (variantLines i N (r i im lvb) (ri i lvb)) (.map [(.str n, p)]) :=
    fun i m im lvb hm => readsNode_variant hn (hr i im lvb) (hri i lvb) hm
  refine ⟨fun c im lvb => ?_, fun c lvb => ⟨variantItem_head hn .., ?_⟩, fun im lvb => ⟨?_, hat 0 0 im lvb (Nat.le_refl 0)⟩⟩
  · obtain ⟨h1, h2⟩ := variantVal_lines (c + k) N (r (c + k) true lvb) (ri (c + k) lvb)
    simp only [h1, h2]
    exact .below (hat (c + k) (c + 1) true lvb (by omega))
  · simp only [variantItem_lines]; exact hat (c + 2) (c + 1) true lvb (by omega)
  · exact (readsMap_variant hn (hr 0 im lvb) (hri 0 lvb)).firstLine (variantLines_ne _ _ _ _)

theorem reads_entries_cons {P : LeafPred} (hr : ReadContract P T k) {kt : List Char} {v : SVal} {es : List (SVal × SVal)}
    (hk : P.key kt = true) (h1 : ReadsVal (fun c im lvb => layVal T k cp im c lvb v) (erase v))
    (h1i : ReadsItem (fun c lvb => layItem T k cp c lvb v) (erase v)) (h2 : ReadsEntries T k cp es) :
    ReadsEntries T k cp ((.str kt, v) :: es) := by
  intro c lvb
  cases hfit : fitsImplicit (T.key kt)
  · simpa only [layEntries, keyOf, hfit, Bool.false_eq_true, if_false, eraseEntries, erase, List.cons_append, List.nil_append,
      List.append_assoc] using ReadsMap.cons_explicit (LeafOK.itemAt ((hr.key kt hk).scalar.leafOK (c + 1))) (h1i c false) (h2 c _)
  · simpa only [layEntries, keyOf, hfit, if_true, eraseEntries, erase, List.cons_append, List.nil_append, List.append_assoc,
      List.singleton_append] using ReadsMap.cons (hr.key kt hk) hfit (h1 c true lvb) (h2 c _)

theorem reads_entries_cons_complex {key v : SVal} {es : List (SVal × SVal)} (hkc : isComplexKey key = true)
    (h0 : ReadsItem (fun c lvb => layItem T k cp c lvb key) (erase key))
    (h1 : ReadsItem (fun c lvb => layItem T k cp c lvb v) (erase v)) (h2 : ReadsEntries T k cp es) :
    ReadsEntries T k cp ((key, v) :: es) :=
  fun c lvb => by
    simpa only [layEntries, keyOf_complex key hkc, eraseEntries, List.cons_append, List.nil_append, List.append_assoc] using
      ReadsMap.cons_explicit (h0 c lvb) (h1 c false) (h2 c _)

/-- the reader on the layout of every value of the fragment — after a key, after a dash, at the root — with the items of a
sequence and the entries of a mapping -/
theorem read_shapes {P : LeafPred} (hr : ReadContract P T k) (hk : k ≥ 1) :
    (∀ v, inFragP P v = true → ReadsVal (fun c im lvb => layVal T k cp im c lvb v) (erase v) ∧
      ReadsItem (fun c lvb => layItem T k cp c lvb v) (erase v) ∧
      FirstLine (layRoot T k cp v) ∧ ReadsNode 0 false (layRoot T k cp v) (erase v)) ∧
    (∀ xs, inFragListP P xs = true → ReadsItems T k cp xs) ∧
    (∀ es, inFragEntriesP P es = true → ReadsEntries T k cp es) := by
  refine inFragP.shapes_all (ML := ReadsItems T k cp) (ME := ReadsEntries T k cp) ?leaf ?str ?unit ?wrap ?seq ?map ?nv ?tv ?sv ?nil ?cons ?enil ?ekey ?ecomplex
  case leaf =>
    intro v hl
    obtain ⟨tok, ht⟩ := leafTok_of_isLeaf T hl
    have hs := leafTok_scalarTok ht
    obtain ⟨e1, e2, e3⟩ := lay_leaf ht k cp
    simp only [e1, e2, e3]
    exact ⟨fun c _ _ => LeafOK.valAt (hs.leafOK (c + 1)), fun c _ => LeafOK.itemAt (hs.leafOK (c + 1)), LeafOK.root (hs.leafOK 0)⟩
  case str =>
    intro t ht
    simp only [layVal, layItem, layRoot, erase]
    exact ⟨fun c _ _ => LeafOK.valAt (hr.str (.val c) t ht), fun c _ => LeafOK.itemAt (hr.str (.item c) t ht),
      LeafOK.root (hr.str .root t ht)⟩
  case unit =>
    intro e n hn
    simp only [layVal, layItem, layRoot, erase]
    exact ⟨fun c _ _ => LeafOK.valAt (hr.unit (.val c) e n hn), fun c _ => LeafOK.itemAt (hr.unit (.item c) e n hn),
      LeafOK.root (hr.unit .root e n hn)⟩
  case wrap =>
    intro v _ h
    simpa only [layVal, layItem, layRoot, erase, and_self] using h
  case seq =>
    intro xs _ hitems
    simpa only [layVal, layItem, layRoot, erase, and_self] using
      And.intro (reads_seqVal hk hitems) (And.intro (reads_seqItem hitems) (reads_seqRoot hitems))
  case map =>
    intro b es _ hdup hentries
    simpa only [layVal, layItem, erase] using
      And.intro (reads_mapVal hk hdup hentries) (And.intro (reads_mapItem hdup hentries) (reads_mapRoot hdup hentries))
  case nv =>
    intro n v hn _ h
    obtain ⟨h1, h2, h3⟩ := reads_variant hk (hr.name n hn) h.1 h.2.1
    exact ⟨by simpa only [layVal, erase] using h1, by simpa only [layItem, erase] using h2,
      by simpa only [layRoot, erase] using h3 false false⟩
  case tv =>
    intro n xs h
    simpa only [layVal, layItem, layRoot_tupleVariant, erase] using h
  case sv =>
    intro n fs h
    simpa only [layVal, layItem, layRoot_structVariant, erase] using h
  case nil => exact fun c lvb => by simpa only [layItems, eraseList] using ReadsSeq.nil
  case cons => exact fun x xs _ _ h hxs => reads_items_cons h.2.1 hxs
  case enil => exact fun c lvb => by simpa only [layEntries, eraseEntries] using ReadsMap.nil
  case ekey => exact fun kt v es hkt _ _ h hentries => reads_entries_cons hr hkt h.1 h.2.1 hentries
  case ecomplex => exact fun kk v es hc _ _ _ hk' h hentries => reads_entries_cons_complex hc hk'.2.1 h.2.1 hentries

variable {P : LeafPred} (hr : ReadContract P T k) (hk : k ≥ 1)
include hr hk

theorem read_val (v : SVal) (hv : inFragP P v = true) : ReadsVal (fun c im lvb => layVal T k cp im c lvb v) (erase v) :=
  ((read_shapes hr hk).1 v hv).1

theorem read_item (v : SVal) (hv : inFragP P v = true) : ReadsItem (fun c lvb => layItem T k cp c lvb v) (erase v) :=
  ((read_shapes hr hk).1 v hv).2.1

theorem firstLine_layRoot (v : SVal) (hv : inFragP P v = true) : FirstLine (layRoot T k cp v) :=
  ((read_shapes hr hk).1 v hv).2.2.1

theorem read_root (v : SVal) (hv : inFragP P v = true) : ReadsNode 0 false (layRoot T k cp v) (erase v) :=
  ((read_shapes hr hk).1 v hv).2.2.2

theorem read_items (xs : List SVal) (hv : inFragListP P xs = true) : ReadsItems T k cp xs := (read_shapes hr hk).2.1 xs hv

theorem read_entries (es : List (SVal × SVal)) (hv : inFragEntriesP P es = true) : ReadsEntries T k cp es :=
  (read_shapes hr hk).2.2 es hv

end SaphyrVerif.Emit
