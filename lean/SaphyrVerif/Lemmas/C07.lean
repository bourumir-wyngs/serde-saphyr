import SaphyrVerif.Spec.BudgetSpec
/-!
`next` is the check-free successor function of the enforcer: `observe` = checks + `next` (`observe_outcome` says of one
call which checks an accepted event has passed, `Checked` / `Admits`, and what a breach means, `BreachSpec`: a counter
breach carries the counter of the counted successor).  `nextAll` folds `next` over an event list, and `runFrom` is read
against it.  On every event but a per-document `DocumentStart` and the uncounted stream framing `next` is `counted`,
which only adds: every counter of `nextAll e evs` is an independent count of `evs`, the limits only get harder to meet
along a run, and a counter breach means the run ends over them.  The container stack / merge-key counter are described
by the pure "ghost" functions `cstep` / `mkOf` / `wf`, for which the tree lemmas are proved by mutual structural
induction.  The per-document stream (run document by document: `perDoc_run_eq`) rests on the one-call and run lemmas
only, not on the counting.
-/
namespace SaphyrVerif.Lemmas.C07
open SaphyrVerif.Budget SaphyrVerif.Spec

def isStart : Raw → Bool
  | .seqStart .. | .mapStart .. => true
  | _ => false

def isEnd : Raw → Bool
  | .seqEnd | .mapEnd => true
  | _ => false

def isDocStart : Raw → Bool
  | .docStart _ => true
  | _ => false

/-- stream framing: not counted at all under the per-document policy -/
def isStreamFrame : Raw → Bool
  | .streamStart | .streamEnd => true
  | _ => false

def b2n (b : Bool) : Nat := if b then 1 else 0

/-- insertion into the duplicate-free anchor set -/
def defIns (bs : List Nat) (a : Nat) : List Nat :=
  if a != 0 && !bs.contains a then a :: bs else bs

/-- pop of a container (`fm` = from mapping value) -/
def popC (fm : Bool) (rest : List CState) : List CState := if fm then finishValue rest else rest

/-- container stack after one event (total; `observe` fails where `wf` is false) -/
def cstep (pd : Bool) (cs : List CState) : Raw → List CState
  | .scalar .. => (handleScalar cs false).1
  | .alias _ => handleAlias cs
  | .mapStart .. => .map true (enteringContainer cs).2 :: (enteringContainer cs).1
  | .seqStart .. => .seq (enteringContainer cs).2 :: (enteringContainer cs).1
  | .mapEnd =>
    match cs with
    | .map _ fm :: rest => popC fm rest
    | _ :: rest => rest
    | [] => []
  | .seqEnd =>
    match cs with
    | .seq fm :: rest => popC fm rest
    | _ :: rest => rest
    | [] => []
  | .docStart _ => if pd then [] else cs
  | _ => cs

/-- is the top of the stack a mapping that expects a key? -/
def isKeyTop : List CState → Bool
  | .map true _ :: _ => true
  | _ => false

/-- merge keys counted by one event -/
def mkOf (cs : List CState) : Raw → Nat
  | .scalar v st _ tag => b2n (isKeyTop cs && (tag.isNone && st == .plain && v == ['<', '<']))
  | _ => 0

/-- the End event matches the top of the stack -/
def wf (cs : List CState) : Raw → Bool
  | .mapEnd => match cs with | .map _ _ :: _ => true | _ => false
  | .seqEnd => match cs with | .seq _ :: _ => true | _ => false
  | _ => true

def cstepAll (pd : Bool) : List CState → List Raw → List CState
  | cs, [] => cs
  | cs, ev :: evs => cstepAll pd (cstep pd cs ev) evs

def mkAll (pd : Bool) : List CState → List Raw → Nat
  | _, [] => 0
  | cs, ev :: evs => mkOf cs ev + mkAll pd (cstep pd cs ev) evs

def wfAll (pd : Bool) : List CState → List Raw → Bool
  | _, [] => true
  | cs, ev :: evs => wf cs ev && wfAll pd (cstep pd cs ev) evs

/-- the state the per-document prologue of `observe` hands to the counting part: under the per-document
policy a `DocumentStart` forgets the previous document first; every other event (and the whole-input
policy) leaves the state alone -/
def pro (e : Enf) (ev : Raw) : Enf :=
  if e.perDocument && isDocStart ev then
    { e with report := { documents := e.report.documents }, defined := [], depth := 0, containers := [] }
  else e

/-- check-free successor state.  Per-document policy: a `DocumentStart` is the FIRST event charged to the
new document (reset, then `events = 1`); `StreamStart` / `StreamEnd` are not counted. -/
def next (e : Enf) (ev : Raw) : Enf :=
  if e.perDocument && isDocStart ev then
    { e with report := { events := 1, documents := e.report.documents }, defined := [], depth := 0, containers := [] }
  else if e.perDocument && isStreamFrame ev then e
  else
    { e with
      report :=
        { events := e.report.events + 1
          aliases := e.report.aliases + b2n (isAliasEv ev)
          anchors := if isNodeEv ev then (defIns e.defined (anchorOf ev)).length else e.report.anchors
          documents := e.report.documents + b2n (isDocStart ev)
          nodes := e.report.nodes + b2n (isNodeEv ev)
          maxDepth := if isStart ev then max e.report.maxDepth (satAdd e.depth 1) else e.report.maxDepth
          totalScalarBytes :=
            match ev with
            | .scalar v _ _ _ => satAdd e.report.totalScalarBytes (utf8Len v)
            | _ => e.report.totalScalarBytes
          mergeKeys := e.report.mergeKeys + mkOf e.containers ev }
      depth := if isStart ev then satAdd e.depth 1 else if isEnd ev then e.depth - 1 else e.depth
      defined := defIns e.defined (anchorOf ev)
      containers := cstep e.perDocument e.containers ev }

/-- the counting successor: the last branch of `next`, word for word — what `next` does to every event but a
per-document `DocumentStart` and the uncounted stream framing (`next_counted`) -/
def counted (e : Enf) (ev : Raw) : Enf :=
  { e with
    report :=
      { events := e.report.events + 1
        aliases := e.report.aliases + b2n (isAliasEv ev)
        anchors := if isNodeEv ev then (defIns e.defined (anchorOf ev)).length else e.report.anchors
        documents := e.report.documents + b2n (isDocStart ev)
        nodes := e.report.nodes + b2n (isNodeEv ev)
        maxDepth := if isStart ev then max e.report.maxDepth (satAdd e.depth 1) else e.report.maxDepth
        totalScalarBytes :=
          match ev with
          | .scalar v _ _ _ => satAdd e.report.totalScalarBytes (utf8Len v)
          | _ => e.report.totalScalarBytes
        mergeKeys := e.report.mergeKeys + mkOf e.containers ev }
    depth := if isStart ev then satAdd e.depth 1 else if isEnd ev then e.depth - 1 else e.depth
    defined := defIns e.defined (anchorOf ev)
    containers := cstep e.perDocument e.containers ev }

def nextAll (e : Enf) : List Raw → Enf
  | [] => e
  | ev :: evs => nextAll (next e ev) evs

/-- the per-document state right after a `DocumentStart`: nothing but the limits, the (never changing)
documents counter and the one counted event -/
def docStartState (lim : Limits) (docs : Nat) : Enf :=
  { lim, perDocument := true, report := { events := 1, documents := docs } }

theorem frame_facts {ev : Raw} (h : isStreamFrame ev = true) :
    isStart ev = false ∧ isEnd ev = false ∧ isDocStart ev = false ∧ ∀ pd cs, cstep pd cs ev = cs := by
  cases ev <;> first | exact ⟨rfl, rfl, rfl, fun _ _ => rfl⟩ | cases h

theorem eq_docStart {ev : Raw} (h : isDocStart ev = true) : ∃ x, ev = .docStart x := by
  cases ev <;> first | exact ⟨_, rfl⟩ | cases h

theorem handleScalar_fst (cs : List CState) (b : Bool) : (handleScalar cs b).1 = (handleScalar cs false).1 := by
  unfold handleScalar; split <;> rfl

theorem handleScalar_snd (cs : List CState) (b : Bool) : (handleScalar cs b).2 = (isKeyTop cs && b) := by
  unfold handleScalar isKeyTop; split <;> simp

theorem bumpNodes_ok {e e1 : Enf} (h : e.bumpNodes = .ok e1) :
    e1 = { e with report := { e.report with nodes := e.report.nodes + 1 } } ∧ e.report.nodes + 1 ≤ e.lim.maxNodes := by
  simp only [Enf.bumpNodes] at h
  split at h
  · cases h
  · injection h with h; subst h; exact ⟨rfl, by omega⟩

theorem bumpNodes_err {e : Enf} {b : Breach} (h : e.bumpNodes = .error b) :
    b = .nodes (e.report.nodes + 1) ∧ e.report.nodes + 1 > e.lim.maxNodes := by
  simp only [Enf.bumpNodes] at h
  split at h
  · injection h with h; subst h; exact ⟨rfl, by assumption⟩
  · cases h

theorem ite_gt_eq_max (d m : Nat) : (if d > m then d else m) = max m d := by
  split <;> omega

theorem bumpDepth_ok {e e1 : Enf} (h : e.bumpDepth = .ok e1) :
    e1 = { e with depth := satAdd e.depth 1,
                  report := { e.report with maxDepth := max e.report.maxDepth (satAdd e.depth 1) } } ∧
    max e.report.maxDepth (satAdd e.depth 1) ≤ e.lim.maxDepth := by
  simp only [Enf.bumpDepth, ite_gt_eq_max] at h
  split at h
  · cases h
  · injection h with h; subst h; exact ⟨rfl, by omega⟩

theorem bumpDepth_err {e : Enf} {b : Breach} (h : e.bumpDepth = .error b) :
    b = .depth (max e.report.maxDepth (satAdd e.depth 1)) ∧
    max e.report.maxDepth (satAdd e.depth 1) > e.lim.maxDepth := by
  simp only [Enf.bumpDepth, ite_gt_eq_max] at h
  split at h
  · injection h with h; subst h; exact ⟨rfl, by assumption⟩
  · cases h

theorem recordAnchor_ok {e e1 : Enf} {a : Nat} (h : e.recordAnchor a = .ok e1) :
    e1 = { e with defined := defIns e.defined a,
                  report := { e.report with anchors := (defIns e.defined a).length } } ∧
    (defIns e.defined a).length ≤ max e.defined.length e.lim.maxAnchors := by
  simp only [Enf.recordAnchor] at h
  split at h
  · rename_i hc
    split at h
    · cases h
    · injection h with h; subst h
      have hd : defIns e.defined a = a :: e.defined := by simp only [defIns, if_pos hc]
      rw [hd]; exact ⟨rfl, by simp only [List.length_cons] at *; omega⟩
  · rename_i hc
    injection h with h; subst h
    have hd : defIns e.defined a = e.defined := by simp only [defIns, if_neg hc]
    rw [hd]; exact ⟨rfl, by omega⟩

theorem recordAnchor_err {e : Enf} {a : Nat} {b : Breach} (h : e.recordAnchor a = .error b) :
    b = .anchors (defIns e.defined a).length ∧ (defIns e.defined a).length > e.lim.maxAnchors := by
  simp only [Enf.recordAnchor] at h
  split at h
  · rename_i hc
    split at h
    · injection h with h; subst h
      have hd : defIns e.defined a = a :: e.defined := by simp only [defIns, if_pos hc]
      rw [hd]; exact ⟨rfl, by assumption⟩
    · cases h
  · cases h

/-- what a breach raised by `observe` says; `e` is the state after the per-document prologue (`pro`).  A counter breach
carries the value that counter has in the counted successor, and that value is over the limit -/
def BreachSpec (e : Enf) (ev : Raw) : Breach → Prop
  | .events n => n = (counted e ev).report.events ∧ n > e.lim.maxEvents
  | .nodes n => isNodeEv ev = true ∧ n = (counted e ev).report.nodes ∧ n > e.lim.maxNodes
  | .aliases n => isAliasEv ev = true ∧ n = (counted e ev).report.aliases ∧ n > e.lim.maxAliases
  | .anchors n => n = (counted e ev).defined.length ∧ n > e.lim.maxAnchors
  | .documents n => isDocStart ev = true ∧ e.perDocument = false ∧ n = (counted e ev).report.documents ∧ n > e.lim.maxDocuments
  | .scalarBytes n => n = (counted e ev).report.totalScalarBytes ∧ n > e.lim.maxTotalScalarBytes
  | .depth n => isStart ev = true ∧ n = (counted e ev).report.maxDepth ∧ n > e.lim.maxDepth
  | .mergeKeys n => mkOf e.containers ev = 1 ∧ n = (counted e ev).report.mergeKeys ∧ n > e.lim.maxMergeKeys
  | .ratio a n => e.perDocument = true ∧ ev = .docEnd ∧ e.report.events + 1 ≤ e.lim.maxEvents ∧
      e.ratioBreach = some (.ratio a n)
  | .unbalanced => isEnd ev = true ∧ (e.depth = 0 ∨ wf e.containers ev = false)

def Within (e : Enf) : Prop :=
  e.report.events ≤ e.lim.maxEvents ∧ e.report.aliases ≤ e.lim.maxAliases ∧ e.defined.length ≤ e.lim.maxAnchors ∧
  e.report.maxDepth ≤ e.lim.maxDepth ∧ e.report.documents ≤ e.lim.maxDocuments ∧ e.report.nodes ≤ e.lim.maxNodes ∧
  e.report.totalScalarBytes ≤ e.lim.maxTotalScalarBytes ∧ e.report.mergeKeys ≤ e.lim.maxMergeKeys

/-- every counter of `e'` is within its limit, or where it was in `e`: what the checks of an accepted event have
established, whatever `e` was -/
def Checked (e e' : Enf) : Prop :=
  e'.report.events ≤ max e.report.events e.lim.maxEvents ∧ e'.report.aliases ≤ max e.report.aliases e.lim.maxAliases ∧
  e'.defined.length ≤ max e.defined.length e.lim.maxAnchors ∧ e'.report.maxDepth ≤ max e.report.maxDepth e.lim.maxDepth ∧
  e'.report.documents ≤ max e.report.documents e.lim.maxDocuments ∧ e'.report.nodes ≤ max e.report.nodes e.lim.maxNodes ∧
  e'.report.totalScalarBytes ≤ max e.report.totalScalarBytes e.lim.maxTotalScalarBytes ∧
  e'.report.mergeKeys ≤ max e.report.mergeKeys e.lim.maxMergeKeys

theorem le_of_le_max {a b l : Nat} (h : a ≤ max b l) (w : b ≤ l) : a ≤ l :=
  Nat.le_trans h (Nat.max_le.2 ⟨w, Nat.le_refl l⟩)

theorem within_of_checked {e e' : Enf} (hl : e'.lim = e.lim) (hc : Checked e e') (w : Within e) : Within e' := by
  obtain ⟨c1, c2, c3, c4, c5, c6, c7, c8⟩ := hc
  obtain ⟨w1, w2, w3, w4, w5, w6, w7, w8⟩ := w
  rw [Within, hl]
  exact ⟨le_of_le_max c1 w1, le_of_le_max c2 w2, le_of_le_max c3 w3, le_of_le_max c4 w4, le_of_le_max c5 w5,
    le_of_le_max c6 w6, le_of_le_max c7 w7, le_of_le_max c8 w8⟩

/-- what an accepted event has passed besides the counter checks: an `End` closes an open container of its kind, and a
per-document `DocumentEnd` finds the ratio check silent -/
def Admits (e : Enf) (ev : Raw) : Prop :=
  (isEnd ev = true → e.depth ≠ 0 ∧ wf e.containers ev = true) ∧
  (e.perDocument = true → ev = .docEnd → e.ratioBreach = none)

/-- outcome of a call on event `ev` in state `e`: accepted with successor `succ`, every check passed; or a breach, which
is explained on `pre`, the state the checks were made on -/
def Outcome (e : Enf) (ev : Raw) (succ pre : Enf) : Except Breach Enf → Prop
  | .ok e' => e' = succ ∧ Checked e e' ∧ Admits e ev
  | .error b => BreachSpec pre ev b

@[simp] theorem defIns_zero (bs : List Nat) : defIns bs 0 = bs := by simp [defIns]

theorem perDocPrologue_eq (e : Enf) (ev : Raw) :
    e.perDocPrologue ev = if e.perDocument && isStreamFrame ev then none else some (pro e ev) := by
  cases hpd : e.perDocument <;> cases ev <;> simp [Enf.perDocPrologue, pro, hpd, isStreamFrame, isDocStart, Enf.beginDocument, Report.reset]

theorem observe_eq (e : Enf) (ev : Raw) :
    e.observe ev = if e.perDocument && isStreamFrame ev then .ok e else (pro e ev).observeCounted ev := by
  unfold Enf.observe
  rw [perDocPrologue_eq]
  by_cases h : (e.perDocument && isStreamFrame ev) = true <;> simp [h]

theorem pro_of_not_docStart {e : Enf} {ev : Raw} (h : isDocStart ev = false) : pro e ev = e := by
  simp [pro, h]

@[simp] theorem pro_of_not_pd {e : Enf} (ev : Raw) (h : e.perDocument = false) : pro e ev = e := by
  simp [pro, h]

theorem observe_of_not_pd (e : Enf) (ev : Raw) (h : e.perDocument = false) : e.observe ev = e.observeCounted ev := by
  rw [observe_eq, pro_of_not_pd ev h, h]; simp

theorem observe_plain (e : Enf) {ev : Raw} (h1 : isDocStart ev = false) (h2 : isStreamFrame ev = false) :
    e.observe ev = e.observeCounted ev := by
  rw [observe_eq, pro_of_not_docStart h1, h2]; simp

/-- per-document policy: the outcome on a `DocumentStart` depends on the limits and the documents counter only -/
theorem observe_docStart_pd {e : Enf} (x : Bool) (hpd : e.perDocument = true) :
    e.observe (.docStart x) =
      if 1 > e.lim.maxEvents then .error (.events 1) else .ok (docStartState e.lim e.report.documents) := by
  cases e with
  | mk lim pd report depth defined containers =>
    simp only [] at hpd
    subst hpd
    simp [observe_eq, pro, isStreamFrame, isDocStart, Enf.observeCounted, docStartState]

theorem observe_frame_pd {e : Enf} (hpd : e.perDocument = true) {ev : Raw} (hf : isStreamFrame ev = true) :
    e.observe ev = .ok e := by
  rw [observe_eq, hpd, hf]; rfl

/-- the events on which `next` is `counted` under policy `pd` -/
def CountedEv (pd : Bool) (ev : Raw) : Prop :=
  (pd && isDocStart ev) = false ∧ (pd && isStreamFrame ev) = false

theorem countedEv_of_not_pd {pd : Bool} (h : pd = false) (ev : Raw) : CountedEv pd ev := by
  rw [h]; exact ⟨rfl, rfl⟩

/-- a run of events each of which `next` counts under policy `pd`: any event list under the whole-input policy, the
events of a document after its `DocumentStart` under the per-document policy -/
def CountedRun (pd : Bool) (evs : List Raw) : Prop := ∀ ev ∈ evs, CountedEv pd ev

theorem CountedRun.head {pd : Bool} {x : Raw} {xs : List Raw} (h : CountedRun pd (x :: xs)) : CountedEv pd x :=
  h x (List.mem_cons_self ..)

theorem CountedRun.tail {pd : Bool} {x : Raw} {xs : List Raw} (h : CountedRun pd (x :: xs)) : CountedRun pd xs :=
  fun ev hev => h ev (List.mem_cons_of_mem _ hev)

theorem CountedRun.left {pd : Bool} {xs ys : List Raw} (h : CountedRun pd (xs ++ ys)) : CountedRun pd xs :=
  fun ev hev => h ev (List.mem_append_left _ hev)

theorem CountedRun.right {pd : Bool} {xs ys : List Raw} (h : CountedRun pd (xs ++ ys)) : CountedRun pd ys :=
  fun ev hev => h ev (List.mem_append_right _ hev)

theorem countedRun_of_not_pd (evs : List Raw) : CountedRun false evs := fun ev _ => countedEv_of_not_pd rfl ev

theorem pro_of_counted {e : Enf} {ev : Raw} (h : CountedEv e.perDocument ev) : pro e ev = e := by
  rw [pro, if_neg (by rw [h.1]; exact Bool.false_ne_true)]

theorem next_counted {e : Enf} {ev : Raw} (h : CountedEv e.perDocument ev) : next e ev = counted e ev := by
  simp only [next, h.1, h.2, Bool.false_eq_true, if_false]
  rfl

theorem next_cases (e : Enf) (ev : Raw) :
    (e.perDocument = true ∧ isDocStart ev = true ∧
      next e ev = { e with report := { events := 1, documents := e.report.documents },
                           defined := [], depth := 0, containers := [] }) ∨
    (e.perDocument = true ∧ isStreamFrame ev = true ∧ next e ev = e) ∨
    (CountedEv e.perDocument ev ∧ next e ev = counted e ev) := by
  unfold next
  split
  · rename_i h
    exact .inl ⟨(Bool.and_eq_true_iff.mp h).1, (Bool.and_eq_true_iff.mp h).2, rfl⟩
  · rename_i h1
    split
    · rename_i h
      exact .inr (.inl ⟨(Bool.and_eq_true_iff.mp h).1, (Bool.and_eq_true_iff.mp h).2, rfl⟩)
    · rename_i h2
      exact .inr (.inr ⟨⟨Bool.eq_false_iff.mpr h1, Bool.eq_false_iff.mpr h2⟩, rfl⟩)

theorem next_docStart_pd {e : Enf} (hpd : e.perDocument = true) (x : Bool) :
    next e (.docStart x) = docStartState e.lim e.report.documents := by
  cases e; cases hpd; rfl

theorem next_docEnd (e : Enf) :
    next e .docEnd = { e with report := { e.report with events := e.report.events + 1 } } := by
  rcases e with ⟨lim, _ | _, r, d, df, cs⟩ <;> rfl

@[simp] theorem next_lim (e : Enf) (ev : Raw) : (next e ev).lim = e.lim := by
  rcases next_cases e ev with ⟨-, -, h⟩ | ⟨-, -, h⟩ | ⟨-, h⟩ <;> rw [h] <;> rfl

@[simp] theorem next_pd (e : Enf) (ev : Raw) : (next e ev).perDocument = e.perDocument := by
  rcases next_cases e ev with ⟨-, -, h⟩ | ⟨-, -, h⟩ | ⟨-, h⟩ <;> rw [h] <;> rfl

theorem ratioBreach_events (e : Enf) (k : Nat) :
    ({ e with report := { e.report with events := k } }).ratioBreach = e.ratioBreach := rfl

theorem observeCounted_outcome (e : Enf) (ev : Raw) (hd : (e.perDocument && isDocStart ev) = false) :
    Outcome e ev (counted e ev) e (e.observeCounted ev) := by
  simp only [Enf.observeCounted]
  split
  · exact ⟨rfl, by assumption⟩
  rename_i hev
  cases ev with
  | scalar v st a tag =>
    simp only []
    split
    · rename_i b h1
      obtain ⟨rfl, hn⟩ := bumpNodes_err h1
      exact ⟨rfl, rfl, hn⟩
    · rename_i e1 h1
      obtain ⟨rfl, hn⟩ := bumpNodes_ok h1
      clear h1
      dsimp only at hn ⊢
      split
      · exact ⟨rfl, by assumption⟩
      · split
        · rename_i b h2
          obtain ⟨rfl, ha⟩ := recordAnchor_err h2
          exact ⟨rfl, ha⟩
        · rename_i e2 h2
          obtain ⟨rfl, ha⟩ := recordAnchor_ok h2
          clear h2
          dsimp only at ha ⊢
          simp only [handleScalar_snd, handleScalar_fst _ (tag.isNone && st == .plain && v == ['<', '<'])]
          have hmk : mkOf e.containers (.scalar v st a tag) =
              b2n (isKeyTop e.containers && (tag.isNone && st == .plain && v == ['<', '<'])) := rfl
          split
          · rename_i hm
            rw [hm] at hmk
            split
            · exact ⟨hmk, by unfold counted; rw [hmk]; rfl, by assumption⟩
            · exact ⟨by unfold counted; rw [hmk]; rfl, by simp only [Checked]; omega, ⟨nofun, fun _ => nofun⟩⟩
          · rename_i hm
            rw [Bool.eq_false_iff.mpr hm] at hmk
            exact ⟨by unfold counted; rw [hmk]; rfl, by simp only [Checked]; omega, ⟨nofun, fun _ => nofun⟩⟩
  | mapStart a tag | seqStart a tag =>
    simp only []
    split
    · rename_i b h1
      obtain ⟨rfl, hn⟩ := bumpNodes_err h1
      exact ⟨rfl, rfl, hn⟩
    · rename_i e1 h1
      obtain ⟨rfl, hn⟩ := bumpNodes_ok h1
      clear h1
      dsimp only at hn ⊢
      split
      · rename_i b h2
        obtain ⟨rfl, hd⟩ := bumpDepth_err h2
        exact ⟨rfl, rfl, hd⟩
      · rename_i e2 h2
        obtain ⟨rfl, hd⟩ := bumpDepth_ok h2
        clear h2
        dsimp only at hd ⊢
        generalize hr : Enf.recordAnchor _ a = r
        cases r with
        | error b =>
          obtain ⟨rfl, ha⟩ := recordAnchor_err hr
          exact ⟨rfl, ha⟩
        | ok e3 =>
          obtain ⟨rfl, ha⟩ := recordAnchor_ok hr
          clear hr
          dsimp only at ha
          exact ⟨rfl, by simp only [Checked]; omega, ⟨nofun, fun _ => nofun⟩⟩
  | mapEnd | seqEnd =>
    simp only []
    split
    · exact ⟨rfl, .inl (eq_of_beq (by assumption))⟩
    · rename_i h0
      split
      · rename_i heq
        exact ⟨by unfold counted; rw [heq]; rfl, by simp only [Checked]; omega,
          fun _ => ⟨fun h => h0 (by rw [h]; rfl), by rw [heq]; rfl⟩, fun _ => nofun⟩
      · rename_i hne
        refine ⟨rfl, .inr ?_⟩
        simp only [wf]
  | alias id =>
    simp only []
    split
    · exact ⟨rfl, rfl, by assumption⟩
    · exact ⟨rfl, by simp only [Checked]; omega, ⟨nofun, fun _ => nofun⟩⟩
  | docStart x =>
    have hpd : e.perDocument = false := by simpa [isDocStart] using hd
    simp only []
    rw [if_pos (by rw [hpd]; rfl)]
    split
    · exact ⟨rfl, hpd, rfl, by assumption⟩
    · exact ⟨by unfold counted; rw [cstep, hpd]; rfl, by simp only [Checked]; omega, ⟨nofun, fun _ => nofun⟩⟩
  | docEnd =>
    simp only [ratioBreach_events]
    split
    · rename_i hpd
      split
      · rename_i b hb
        have : ∃ a n, b = .ratio a n := by
          simp only [Enf.ratioBreach] at hb
          split at hb
          · exact ⟨_, _, (Option.some.inj hb).symm⟩
          · cases hb
        obtain ⟨a, n, rfl⟩ := this
        exact ⟨hpd, rfl, by omega, hb⟩
      · rename_i hr
        exact ⟨rfl, by simp only [Checked]; omega, nofun, fun _ _ => hr⟩
    · rename_i hpd
      exact ⟨rfl, by simp only [Checked]; omega, nofun, fun h => absurd h hpd⟩
  | nothing | streamStart | streamEnd =>
    exact ⟨rfl, by simp only [Checked]; omega, ⟨nofun, fun _ => nofun⟩⟩

theorem observe_outcome (e : Enf) (ev : Raw) : Outcome e ev (next e ev) (pro e ev) (e.observe ev) := by
  rcases next_cases e ev with ⟨hpd, hd, -⟩ | ⟨hpd, hf, hn⟩ | ⟨hc, hn⟩
  · obtain ⟨x, rfl⟩ := eq_docStart hd
    rw [observe_docStart_pd x hpd, next_docStart_pd hpd, pro, if_pos (by rw [hpd]; rfl)]
    split
    · exact ⟨rfl, by assumption⟩
    · exact ⟨rfl, by simp only [Checked, docStartState, List.length_nil]; omega, nofun, fun _ => nofun⟩
  · obtain ⟨-, h2, -, -⟩ := frame_facts hf
    rw [observe_frame_pd hpd hf, hn]
    exact ⟨rfl, by simp only [Checked]; omega, fun h => (by rw [h2] at h; cases h), fun _ h => (by rw [h] at hf; cases hf)⟩
  · rw [observe_eq, if_neg (by rw [hc.2]; exact Bool.false_ne_true), pro_of_counted hc, hn]
    exact observeCounted_outcome e ev hc.1

theorem observe_ok_checked {e e' : Enf} {ev : Raw} (h : e.observe ev = .ok e') :
    e' = next e ev ∧ Checked e e' ∧ Admits e ev := by
  have := observe_outcome e ev
  rw [h] at this; exact this

theorem aliasReplayed_ok {e e' : Enf} (h : e.observeAliasReplayed = .ok e') :
    e' = { e with report := { e.report with events := e.report.events + 1, aliases := e.report.aliases + 1 } } ∧
      e.report.events + 1 ≤ e.lim.maxEvents ∧ e.report.aliases + 1 ≤ e.lim.maxAliases := by
  simp only [Enf.observeAliasReplayed] at h
  split at h
  · cases h
  · split at h
    · cases h
    · cases h
      exact ⟨rfl, by omega, by omega⟩

theorem aliasReplayed_of_within {e : Enf} (h1 : e.report.events + 1 ≤ e.lim.maxEvents)
    (h2 : e.report.aliases + 1 ≤ e.lim.maxAliases) :
    e.observeAliasReplayed =
      .ok { e with report := { e.report with events := e.report.events + 1, aliases := e.report.aliases + 1 } } := by
  simp only [Enf.observeAliasReplayed, Nat.not_lt.mpr h1, Nat.not_lt.mpr h2, ↓reduceIte]

theorem observe_ok {e e' : Enf} {ev : Raw} (h : e.observe ev = .ok e') : e' = next e ev ∧ (Within e → Within e') := by
  obtain ⟨rfl, hc, -⟩ := observe_ok_checked h
  exact ⟨rfl, within_of_checked (next_lim e ev) hc⟩

theorem observe_err {e : Enf} {ev : Raw} {b : Breach} (h : e.observe ev = .error b) : BreachSpec (pro e ev) ev b := by
  have := observe_outcome e ev
  rw [h] at this; exact this

theorem runFrom_append (e : Enf) (i : Nat) (xs ys : List Raw) :
    runFrom e i (xs ++ ys) =
      match runFrom e i xs with
      | .error x => .error x
      | .ok e' => runFrom e' (i + xs.length) ys := by
  induction xs generalizing e i with
  | nil => simp [runFrom]
  | cons x xs ih =>
    simp only [List.cons_append, runFrom]
    cases h : e.observe x with
    | error b => simp
    | ok e1 =>
      simp only []
      rw [ih]
      simp only [List.length_cons]
      have : i + 1 + xs.length = i + (xs.length + 1) := by omega
      rw [this]

theorem nextAll_append (e : Enf) (xs ys : List Raw) : nextAll e (xs ++ ys) = nextAll (nextAll e xs) ys := by
  induction xs generalizing e with
  | nil => rfl
  | cons x xs ih => simp only [List.cons_append, nextAll, ih]

theorem runFrom_ok {e e' : Enf} {i : Nat} {evs : List Raw} (h : runFrom e i evs = .ok e') :
    e' = nextAll e evs ∧ (Within e → Within e') := by
  induction evs generalizing e i with
  | nil => simp only [runFrom] at h; injection h with h; subst h; exact ⟨rfl, id⟩
  | cons x xs ih =>
    simp only [runFrom] at h
    cases h1 : e.observe x with
    | error b => rw [h1] at h; cases h
    | ok e1 =>
      rw [h1] at h
      obtain ⟨rfl, hw⟩ := observe_ok h1
      obtain ⟨rfl, hw'⟩ := ih h
      exact ⟨rfl, fun w => hw' (hw w)⟩

theorem runFrom_err {e : Enf} {i j : Nat} {b : Breach} {evs : List Raw} (h : runFrom e i evs = .error (j, b)) :
    ∃ pre ev post, evs = pre ++ ev :: post ∧ j = i + pre.length ∧ runFrom e i pre = .ok (nextAll e pre) ∧
      (nextAll e pre).observe ev = .error b := by
  induction evs generalizing e i with
  | nil => simp only [runFrom] at h; cases h
  | cons x xs ih =>
    simp only [runFrom] at h
    cases h1 : e.observe x with
    | error b1 =>
      rw [h1] at h
      injection h with h; injection h with hj hb; subst hj; subst hb
      exact ⟨[], x, xs, rfl, rfl, rfl, h1⟩
    | ok e1 =>
      rw [h1] at h
      obtain ⟨rfl, -⟩ := observe_ok h1
      obtain ⟨pre, ev, post, rfl, rfl, hok, herr⟩ := ih h
      refine ⟨x :: pre, ev, post, rfl, by simp only [List.length_cons]; omega, ?_, herr⟩
      simp only [runFrom, h1, nextAll]; exact hok

theorem runFrom_ok_admits {e e' : Enf} {i : Nat} {pre post : List Raw} {ev : Raw}
    (h : runFrom e i (pre ++ ev :: post) = .ok e') : Admits (nextAll e pre) ev := by
  rw [runFrom_append] at h
  split at h
  · cases h
  · rename_i e1 h1
    obtain ⟨rfl, -⟩ := runFrom_ok h1
    simp only [runFrom] at h
    split at h
    · cases h
    · rename_i e2 h2
      exact (observe_ok_checked h2).2.2

theorem runFrom_index {e e' : Enf} {i : Nat} (j : Nat) {evs : List Raw} (h : runFrom e i evs = .ok e') :
    runFrom e j evs = .ok e' := by
  induction evs generalizing e i j with
  | nil => simpa [runFrom] using h
  | cons x xs ih =>
    simp only [runFrom] at h ⊢
    cases h1 : e.observe x with
    | error b => rw [h1] at h; cases h
    | ok e1 => rw [h1] at h; exact ih _ h

@[simp] theorem nextAll_lim (e : Enf) (evs : List Raw) : (nextAll e evs).lim = e.lim := by
  induction evs generalizing e with
  | nil => rfl
  | cons x xs ih => simp [nextAll, ih]

@[simp] theorem nextAll_pd (e : Enf) (evs : List Raw) : (nextAll e evs).perDocument = e.perDocument := by
  induction evs generalizing e with
  | nil => rfl
  | cons x xs ih => simp [nextAll, ih]

theorem b2n_eq (b : Bool) : b2n b = if b then 1 else 0 := rfl

theorem nNodes_cons (x : Raw) (xs : List Raw) : nNodes (x :: xs) = b2n (isNodeEv x) + nNodes xs := by
  simp only [nNodes, List.filter_cons, b2n]; split <;> simp <;> omega

theorem nAliases_cons (x : Raw) (xs : List Raw) : nAliases (x :: xs) = b2n (isAliasEv x) + nAliases xs := by
  simp only [nAliases, List.filter_cons, b2n]; split <;> simp <;> omega

theorem nDocuments_cons (x : Raw) (xs : List Raw) : nDocuments (x :: xs) = b2n (isDocStart x) + nDocuments xs := by
  cases x <;> simp [nDocuments, b2n, isDocStart] <;> omega

theorem scalarBytes_cons (x : Raw) (xs : List Raw) : scalarBytes (x :: xs) = scalarBytesOf x + scalarBytes xs := by
  simp [scalarBytes]

def defAfter (bs : List Nat) : List Raw → List Nat
  | [] => bs
  | ev :: evs => defAfter (defIns bs (anchorOf ev)) evs

theorem defAfter_append (bs : List Nat) (xs ys : List Raw) :
    defAfter bs (xs ++ ys) = defAfter (defAfter bs xs) ys := by
  induction xs generalizing bs with
  | nil => rfl
  | cons x xs ih => simp only [List.cons_append, defAfter, ih]

theorem defIns_length_ge (bs : List Nat) (a : Nat) : bs.length ≤ (defIns bs a).length := by
  unfold defIns; split <;> simp

theorem defAfter_length_ge (bs : List Nat) (evs : List Raw) : bs.length ≤ (defAfter bs evs).length := by
  induction evs generalizing bs with
  | nil => exact Nat.le_refl _
  | cons x xs ih => exact Nat.le_trans (defIns_length_ge bs _) (ih _)

theorem loop_length_eq (bs : List Nat) (evs : List Raw) :
    (List.eraseDupsBy.loop (· == ·) ((evs.map anchorOf).filter (· != 0)) bs).length = (defAfter bs evs).length := by
  induction evs generalizing bs with
  | nil => simp [List.eraseDupsBy.loop, defAfter]
  | cons x xs ih =>
    simp only [List.map_cons, List.filter_cons, defAfter]
    by_cases h0 : anchorOf x = 0
    · simp [h0, ih]
    · have h0' : (anchorOf x != 0) = true := by simpa using h0
      simp only [h0', if_true, List.eraseDupsBy.loop]
      by_cases hc : bs.contains (anchorOf x) = true
      · have : bs.any (fun b => anchorOf x == b) = true := by
          rw [← List.contains_eq_any_beq]; exact hc
        have hd : defIns bs (anchorOf x) = bs := by unfold defIns; rw [hc]; simp
        simp only [this, ih, hd]
      · have hc' : bs.contains (anchorOf x) = false := by simpa using hc
        have : bs.any (fun b => anchorOf x == b) = false := by
          rw [← List.contains_eq_any_beq]; exact hc'
        have hd : defIns bs (anchorOf x) = anchorOf x :: bs := by unfold defIns; rw [hc', h0']; simp
        simp only [this, ih, hd]

theorem nAnchors_eq (evs : List Raw) : nAnchors evs = (defAfter [] evs).length := by
  simp only [nAnchors, List.eraseDups, List.eraseDupsBy]
  exact loop_length_eq [] evs

theorem next_defined {e : Enf} (hpd : e.perDocument = false) (ev : Raw) :
    (next e ev).defined = defIns e.defined (anchorOf ev) := by
  simp [next, hpd]

theorem satAdd_eq_min (a b : Nat) : satAdd a b = min (a + b) USIZE_MAX := by
  unfold satAdd; split <;> omega

theorem counted_tsb {e : Enf} (ev : Raw) (hle : e.report.totalScalarBytes ≤ USIZE_MAX) :
    (counted e ev).report.totalScalarBytes = min (e.report.totalScalarBytes + scalarBytesOf ev) USIZE_MAX := by
  cases ev <;> first
    | exact satAdd_eq_min ..
    | (show e.report.totalScalarBytes = min (e.report.totalScalarBytes + 0) USIZE_MAX; omega)

theorem nextAll_tsb {e : Enf} {evs : List Raw} (hc : CountedRun e.perDocument evs)
    (hle : e.report.totalScalarBytes ≤ USIZE_MAX) :
    (nextAll e evs).report.totalScalarBytes = min (e.report.totalScalarBytes + scalarBytes evs) USIZE_MAX := by
  induction evs generalizing e with
  | nil => simp only [nextAll, scalarBytes, List.map_nil, List.sum_nil]; omega
  | cons x xs ih =>
    rw [nextAll, next_counted hc.head, ih (e := counted e x) hc.tail (by rw [counted_tsb x hle]; omega),
      counted_tsb x hle, scalarBytes_cons]
    omega

theorem next_containers (e : Enf) (ev : Raw) :
    (next e ev).containers = cstep e.perDocument e.containers ev := by
  rcases next_cases e ev with ⟨hpd, hd, h⟩ | ⟨-, hf, h⟩ | ⟨-, h⟩
  · obtain ⟨x, rfl⟩ := eq_docStart hd
    rw [h, hpd]; rfl
  · rw [h, (frame_facts hf).2.2.2]
  · rw [h]; rfl

theorem nextAll_containers (e : Enf) (evs : List Raw) :
    (nextAll e evs).containers = cstepAll e.perDocument e.containers evs := by
  induction evs generalizing e with
  | nil => rfl
  | cons x xs ih => simp only [nextAll, cstepAll]; rw [ih, next_containers, next_pd]

theorem nextAll_counts {e : Enf} {evs : List Raw} (hc : CountedRun e.perDocument evs) :
    (nextAll e evs).report.events = e.report.events + evs.length ∧
    (nextAll e evs).report.nodes = e.report.nodes + nNodes evs ∧
    (nextAll e evs).report.aliases = e.report.aliases + nAliases evs ∧
    (nextAll e evs).report.documents = e.report.documents + nDocuments evs ∧
    (nextAll e evs).defined = defAfter e.defined evs ∧
    (nextAll e evs).report.mergeKeys = e.report.mergeKeys + mkAll e.perDocument e.containers evs := by
  induction evs generalizing e with
  | nil => exact ⟨rfl, rfl, rfl, rfl, rfl, rfl⟩
  | cons x xs ih =>
    obtain ⟨h1, h2, h3, h4, h5, h6⟩ := ih (e := counted e x) hc.tail
    rw [nextAll, next_counted hc.head, h1, h2, h3, h4, h5, h6, nNodes_cons, nAliases_cons, nDocuments_cons]
    unfold counted
    simp only [mkAll, defAfter, List.length_cons, true_and]
    omega

theorem cstepAll_append (pd : Bool) (cs : List CState) (xs ys : List Raw) :
    cstepAll pd cs (xs ++ ys) = cstepAll pd (cstepAll pd cs xs) ys := by
  induction xs generalizing cs with
  | nil => rfl
  | cons x xs ih => simp only [List.cons_append, cstepAll, ih]

theorem mkAll_append (pd : Bool) (cs : List CState) (xs ys : List Raw) :
    mkAll pd cs (xs ++ ys) = mkAll pd cs xs + mkAll pd (cstepAll pd cs xs) ys := by
  induction xs generalizing cs with
  | nil => simp [mkAll, cstepAll]
  | cons x xs ih => simp only [List.cons_append, mkAll, cstepAll, ih]; omega

theorem wfAll_append (pd : Bool) (cs : List CState) (xs ys : List Raw) :
    wfAll pd cs (xs ++ ys) = (wfAll pd cs xs && wfAll pd (cstepAll pd cs xs) ys) := by
  induction xs generalizing cs with
  | nil => simp [wfAll, cstepAll]
  | cons x xs ih => simp only [List.cons_append, wfAll, cstepAll, ih, Bool.and_assoc]

theorem finishValue_length (cs : List CState) : (finishValue cs).length = cs.length := by
  unfold finishValue; split <;> simp

theorem enteringContainer_length (cs : List CState) : (enteringContainer cs).1.length = cs.length := by
  unfold enteringContainer; split <;> simp

theorem handleAlias_length (cs : List CState) : (handleAlias cs).length = cs.length := by
  unfold handleAlias; split <;> simp [finishValue_length]

theorem handleScalar_length (cs : List CState) (b : Bool) : (handleScalar cs b).1.length = cs.length := by
  unfold handleScalar; split <;> simp [finishValue_length]

theorem popC_length (fm : Bool) (cs : List CState) : (popC fm cs).length = cs.length := by
  unfold popC; split <;> simp [finishValue_length]

theorem cstep_length (pd : Bool) (cs : List CState) (ev : Raw) :
    (cstep pd cs ev).length =
      if pd && isDocStart ev then 0 else if isStart ev then cs.length + 1 else if isEnd ev then cs.length - 1 else cs.length := by
  cases ev <;> simp [cstep, isDocStart, isStart, isEnd, handleScalar_length, handleAlias_length, enteringContainer_length]
  · cases pd <;> simp
  · split <;> simp [popC_length]
  · split <;> simp [popC_length]

theorem satAdd_one {d : Nat} (h : d + 1 < 2 ^ 64) : satAdd d 1 = d + 1 := by
  unfold satAdd USIZE_MAX; split <;> omega

theorem next_depth (e : Enf) (ev : Raw) :
    (next e ev).depth =
      if e.perDocument && isDocStart ev then 0 else if isStart ev then satAdd e.depth 1 else if isEnd ev then e.depth - 1 else e.depth := by
  rcases next_cases e ev with ⟨hpd, hd, h⟩ | ⟨-, hf, h⟩ | ⟨hc, h⟩
  · rw [h, hpd, hd]; rfl
  · obtain ⟨h1, h2, hd, -⟩ := frame_facts hf
    rw [h, h1, h2, hd, Bool.and_false]; rfl
  · rw [h, hc.1]; rfl

theorem next_maxDepth (e : Enf) (ev : Raw) :
    (next e ev).report.maxDepth =
      if e.perDocument && isDocStart ev then 0
      else if isStart ev then max e.report.maxDepth (satAdd e.depth 1) else e.report.maxDepth := by
  rcases next_cases e ev with ⟨hpd, hd, h⟩ | ⟨-, hf, h⟩ | ⟨hc, h⟩
  · rw [h, hpd, hd]; rfl
  · obtain ⟨h1, -, hd, -⟩ := frame_facts hf
    rw [h, h1, hd, Bool.and_false]; rfl
  · rw [h, hc.1]; rfl

/-- `depth` stays the height of the container stack as long as `depth + 1` does not saturate the `usize` -/
theorem next_depth_len {e : Enf} (ev : Raw) (hd : e.depth = e.containers.length) (hs : e.depth + 1 < 2 ^ 64) :
    (next e ev).depth = (next e ev).containers.length := by
  rw [next_depth, next_containers, cstep_length, satAdd_one hs, hd]

/-- … hence along the check-free run over any input that fits in memory (both policies) -/
theorem nextAll_depth_len {e : Enf} (evs : List Raw) (hd : e.depth = e.containers.length)
    (hlen : e.depth + evs.length < 2 ^ 64) :
    (nextAll e evs).depth = (nextAll e evs).containers.length := by
  induction evs generalizing e with
  | nil => exact hd
  | cons x xs ih =>
    simp only [nextAll]
    simp only [List.length_cons] at hlen
    have h2 : (next e x).depth ≤ e.depth + 1 := by
      rw [next_depth, satAdd_one (by omega)]; split <;> (try split) <;> (try split) <;> omega
    exact ih (next_depth_len x hd (by omega)) (by omega)

theorem depthStep_eq (d : Nat) (ev : Raw) :
    depthStep d ev = if isStart ev then d + 1 else if isEnd ev then d - 1 else d := by
  cases ev <;> simp [depthStep, isStart, isEnd]

theorem nextAll_maxDepth {e : Enf} {evs : List Raw} (hc : CountedRun e.perDocument evs)
    (hm : e.depth ≤ e.report.maxDepth) (hlen : e.depth + evs.length < 2 ^ 64) :
    (nextAll e evs).report.maxDepth = maxDepthFrom e.depth e.report.maxDepth evs := by
  induction evs generalizing e with
  | nil => rfl
  | cons x xs ih =>
    simp only [List.length_cons] at hlen
    have h1 : (counted e x).depth = depthStep e.depth x := by
      show (if isStart x then satAdd e.depth 1 else if isEnd x then e.depth - 1 else e.depth) = _
      rw [depthStep_eq, satAdd_one (by omega)]
    have h2 : (counted e x).report.maxDepth = max e.report.maxDepth (depthStep e.depth x) := by
      show (if isStart x then max e.report.maxDepth (satAdd e.depth 1) else e.report.maxDepth) = _
      rw [depthStep_eq, satAdd_one (by omega)]
      split <;> (try split) <;> omega
    have h3 : depthStep e.depth x ≤ e.depth + 1 := by
      rw [depthStep_eq]; split <;> (try split) <;> omega
    have := ih (e := counted e x) hc.tail (by rw [h1, h2]; omega) (by rw [h1]; omega)
    rw [h1, h2] at this
    rw [nextAll, next_counted hc.head]
    exact this

/-- the three ghost folds as one tuple, so that the tree lemmas are one mutual induction (`G_node`) -/
def G (pd : Bool) (cs : List CState) (evs : List Raw) : List CState × Nat × Bool :=
  (cstepAll pd cs evs, mkAll pd cs evs, wfAll pd cs evs)

theorem G_append (pd : Bool) (cs : List CState) (xs ys : List Raw) :
    G pd cs (xs ++ ys) =
      ((G pd (G pd cs xs).1 ys).1, (G pd cs xs).2.1 + (G pd (G pd cs xs).1 ys).2.1,
       ((G pd cs xs).2.2 && (G pd (G pd cs xs).1 ys).2.2)) := by
  simp only [G, cstepAll_append, mkAll_append, wfAll_append]

theorem G_nil (pd : Bool) (cs : List CState) : G pd cs [] = (cs, 0, true) := rfl

theorem G_cons (pd : Bool) (cs : List CState) (x : Raw) (xs : List Raw) :
    G pd cs (x :: xs) =
      ((G pd (cstep pd cs x) xs).1, mkOf cs x + (G pd (cstep pd cs x) xs).2.1,
       (wf cs x && (G pd (cstep pd cs x) xs).2.2)) := rfl

theorem handleAlias_key (fm : Bool) (r : List CState) : handleAlias (.map true fm :: r) = .map false fm :: r := rfl
theorem handleAlias_val (fm : Bool) (r : List CState) : handleAlias (.map false fm :: r) = .map true fm :: r := rfl
theorem handleAlias_seq (fm : Bool) (r : List CState) : handleAlias (.seq fm :: r) = .seq fm :: r := rfl

/-- closing a container opened over `cs` gives `handleAlias cs` -/
theorem pop_entering (cs : List CState) :
    popC (enteringContainer cs).2 (enteringContainer cs).1 = handleAlias cs := by
  unfold enteringContainer handleAlias popC
  split <;> simp [finishValue]

mutual
theorem G_node (pd : Bool) (t : Node) (cs : List CState) :
    G pd cs (flatten t) = (handleAlias cs, mergeKeys t + b2n (isKeyTop cs && isMergeKeyTree t), true) := by
  match t with
  | .scalar v st a tag =>
    simp only [flatten, G_cons, G_nil, cstep, mkOf, wf, mergeKeys, isMergeKeyTree]
    have : (handleScalar cs false).1 = handleAlias cs := by
      unfold handleScalar handleAlias; split <;> rfl
    simp [this]
  | .alias id =>
    simp [flatten, G_cons, G_nil, cstep, mkOf, wf, mergeKeys, isMergeKeyTree, b2n]
  | .seq a tag items =>
    simp only [flatten, G_cons, G_append, G_nil, cstep, mkOf, wf, mergeKeys, isMergeKeyTree]
    rw [G_list pd items]
    simp [pop_entering, b2n]
  | .map a tag entries =>
    simp only [flatten, G_cons, G_append, G_nil, cstep, mkOf, wf, mergeKeys, isMergeKeyTree]
    rw [G_entries pd entries]
    simp [pop_entering, b2n]
theorem G_list (pd : Bool) (ts : List Node) (fm : Bool) (r : List CState) :
    G pd (.seq fm :: r) (flattenL ts) = (.seq fm :: r, mergeKeysL ts, true) := by
  match ts with
  | [] => rfl
  | t :: ts =>
    simp only [flattenL, G_append, mergeKeysL]
    rw [G_node pd t, handleAlias_seq, G_list pd ts]
    simp [isKeyTop, b2n]
theorem G_entries (pd : Bool) (es : List (Node × Node)) (fm : Bool) (r : List CState) :
    G pd (.map true fm :: r) (flattenE es) = (.map true fm :: r, mergeKeysE es, true) := by
  match es with
  | [] => rfl
  | (k, v) :: es =>
    simp only [flattenE, G_append, mergeKeysE]
    rw [G_node pd k, handleAlias_key, G_node pd v, handleAlias_val, G_entries pd es]
    simp [isKeyTop, b2n]
    omega
end

theorem G_docs (pd : Bool) (ds : List Node) : G pd [] (flattenDocs ds) = ([], mergeKeysDocs ds, true) := by
  induction ds with
  | nil => rfl
  | cons d ds ih =>
    simp only [flattenDocs, flattenDoc, G_append, G_cons, G_nil, mergeKeysDocs]
    have hc : cstep pd [] (.docStart false) = [] := by cases pd <;> rfl
    rw [hc, G_node pd d]
    simp only [handleAlias, cstep, ih]
    simp [isKeyTop, b2n, mkOf, wf]

theorem G_stream (pd : Bool) (ds : List Node) : G pd [] (flattenStream ds) = ([], mergeKeysDocs ds, true) := by
  simp only [flattenStream, G_cons, G_append, G_nil, cstep, G_docs]
  simp [mkOf, wf]

theorem nNodes_append (xs ys : List Raw) : nNodes (xs ++ ys) = nNodes xs + nNodes ys := by
  simp [nNodes]

theorem nAliases_append (xs ys : List Raw) : nAliases (xs ++ ys) = nAliases xs + nAliases ys := by
  simp [nAliases]

theorem nDocuments_append (xs ys : List Raw) : nDocuments (xs ++ ys) = nDocuments xs + nDocuments ys := by
  simp [nDocuments]

theorem scalarBytes_append (xs ys : List Raw) : scalarBytes (xs ++ ys) = scalarBytes xs + scalarBytes ys := by
  simp [scalarBytes]

theorem nNodes_nil : nNodes [] = 0 := rfl
theorem nAliases_nil : nAliases [] = 0 := rfl
theorem nDocuments_nil : nDocuments [] = 0 := rfl
theorem scalarBytes_nil : scalarBytes [] = 0 := rfl

theorem nAliases_le_length (xs : List Raw) : nAliases xs ≤ xs.length := by
  simp only [nAliases]; exact List.length_filter_le _ _

theorem within_new (lim : Limits) (pd : Bool) : Within (Enf.new lim pd) := by
  simp [Within, Enf.new]

section fresh
variable (lim : Limits) (evs : List Raw)

theorem fresh_lim : (nextAll (Enf.new lim false) evs).lim = lim := by simp [Enf.new]

theorem fresh_counts :
    (nextAll (Enf.new lim false) evs).report.events = evs.length ∧
    (nextAll (Enf.new lim false) evs).report.nodes = nNodes evs ∧
    (nextAll (Enf.new lim false) evs).report.aliases = nAliases evs ∧
    (nextAll (Enf.new lim false) evs).report.documents = nDocuments evs ∧
    (nextAll (Enf.new lim false) evs).defined = defAfter [] evs ∧
    (nextAll (Enf.new lim false) evs).report.totalScalarBytes = min (scalarBytes evs) USIZE_MAX := by
  obtain ⟨h1, h2, h3, h4, h5, -⟩ := nextAll_counts (e := Enf.new lim false) (countedRun_of_not_pd evs)
  rw [h1, h2, h3, h4, h5, nextAll_tsb (countedRun_of_not_pd evs) (Nat.zero_le _)]
  simp [Enf.new]

theorem fresh_depth_len (pd : Bool) (hlen : evs.length < 2 ^ 64) :
    (nextAll (Enf.new lim pd) evs).depth = (nextAll (Enf.new lim pd) evs).containers.length :=
  nextAll_depth_len evs rfl (by simpa [Enf.new] using hlen)

end fresh

theorem breach_not_within {e : Enf} {ev : Raw} {b : Breach} (hb : BreachSpec e ev b)
    (hr : ∀ a n, b ≠ .ratio a n) (hu : b ≠ .unbalanced) : ¬ Within (counted e ev) := by
  rintro ⟨w1, w2, w3, w4, w5, w6, w7, w8⟩
  rw [show (counted e ev).lim = e.lim from rfl] at w1 w2 w3 w4 w5 w6 w7 w8
  cases b <;> simp only [BreachSpec] at hb
  case ratio a n => exact hr a n rfl
  case unbalanced => exact hu rfl
  all_goals omega

theorem within_of_counted {e : Enf} {ev : Raw} (ht : e.report.totalScalarBytes ≤ USIZE_MAX)
    (w : Within (counted e ev)) : Within e := by
  have h1 := defIns_length_ge e.defined (anchorOf ev)
  have h2 : e.report.maxDepth ≤ (counted e ev).report.maxDepth := by
    show _ ≤ if isStart ev then max e.report.maxDepth (satAdd e.depth 1) else e.report.maxDepth
    split <;> omega
  have h3 : e.report.totalScalarBytes ≤ (counted e ev).report.totalScalarBytes := by
    cases ev <;> first | exact Nat.le_refl _ | (show _ ≤ satAdd _ _; rw [satAdd_eq_min]; omega)
  simp only [Within, counted] at w h2 h3 ⊢
  omega

theorem counted_tsb_le {e : Enf} (ev : Raw) (ht : e.report.totalScalarBytes ≤ USIZE_MAX) :
    (counted e ev).report.totalScalarBytes ≤ USIZE_MAX := by
  rw [counted_tsb ev ht]; exact Nat.min_le_right ..

theorem within_of_nextAll {evs : List Raw} : ∀ {e : Enf}, CountedRun e.perDocument evs →
    e.report.totalScalarBytes ≤ USIZE_MAX → Within (nextAll e evs) → Within e := by
  induction evs with
  | nil => exact fun _ _ w => w
  | cons x xs ih =>
    intro e hc ht w
    rw [nextAll, next_counted hc.head] at w
    exact within_of_counted ht (ih (e := counted e x) hc.tail (counted_tsb_le x ht) w)

theorem nextAll_tsb_le {e : Enf} {evs : List Raw} (hc : CountedRun e.perDocument evs)
    (ht : e.report.totalScalarBytes ≤ USIZE_MAX) : (nextAll e evs).report.totalScalarBytes ≤ USIZE_MAX := by
  rw [nextAll_tsb hc ht]; exact Nat.min_le_right ..

theorem not_within_of_breach {e : Enf} {pre post : List Raw} {ev : Raw} {b : Breach}
    (hc : CountedRun e.perDocument (pre ++ ev :: post))
    (ht : e.report.totalScalarBytes ≤ USIZE_MAX) (hb : BreachSpec (nextAll e pre) ev b)
    (hr : ∀ a n, b ≠ .ratio a n) (hu : b ≠ .unbalanced) : ¬ Within (nextAll e (pre ++ ev :: post)) := by
  intro w
  have hp : (nextAll e pre).perDocument = e.perDocument := nextAll_pd e pre
  rw [nextAll_append, nextAll, next_counted (hp ▸ hc.right.head)] at w
  exact breach_not_within hb hr hu
    (within_of_nextAll (hp ▸ hc.right.tail) (counted_tsb_le ev (nextAll_tsb_le hc.left ht)) w)

theorem finalize_fst (e : Enf) : e.finalize.1 = { e.report with anchors := e.defined.length } := by
  unfold Enf.finalize; simp only []; split <;> rfl

theorem nextAll_finalize {e : Enf} {evs : List Raw} (hc : CountedRun e.perDocument evs)
    (ht : e.report.totalScalarBytes ≤ USIZE_MAX) (hm : e.depth ≤ e.report.maxDepth)
    (hlen : e.depth + evs.length < 2 ^ 64) :
    (nextAll e evs).finalize.1 =
      { events := e.report.events + evs.length, aliases := e.report.aliases + nAliases evs,
        anchors := (defAfter e.defined evs).length, documents := e.report.documents + nDocuments evs,
        nodes := e.report.nodes + nNodes evs, maxDepth := maxDepthFrom e.depth e.report.maxDepth evs,
        totalScalarBytes := min (e.report.totalScalarBytes + scalarBytes evs) USIZE_MAX,
        mergeKeys := e.report.mergeKeys + mkAll e.perDocument e.containers evs } := by
  obtain ⟨h1, h2, h3, h4, h5, h6⟩ := nextAll_counts hc
  rw [finalize_fst, h5, ← h1, ← h2, ← h3, ← h4, ← h6, ← nextAll_tsb hc ht, ← nextAll_maxDepth hc hm hlen]

/-- per-document policy: `finalize` does not judge the ratio (every `DocumentEnd` did) -/
theorem finalize_snd_pd (e : Enf) (hpd : e.perDocument = true) : e.finalize.2 = none := by
  unfold Enf.finalize; simp [hpd]

theorem gt_satMul {a : Nat} (m k : Nat) (ha : a ≤ USIZE_MAX) : a > satMul m k ↔ a > m * k := by
  unfold satMul; split <;> omega

/-- the ratio heuristic of the model is the mathematical one of the Spec (the saturating product cannot change the
comparison when the alias count is a `usize`) -/
theorem ratioBreach_eq (e : Enf) (ha : e.report.aliases ≤ USIZE_MAX) :
    e.ratioBreach =
      if ratioOk e.lim e.finalize.1 = true then none else some (.ratio e.finalize.1.aliases e.finalize.1.anchors) := by
  rw [finalize_fst]
  have hdec : decide (e.report.aliases > satMul e.lim.multiplier e.defined.length) =
      decide (e.report.aliases > e.lim.multiplier * e.defined.length) :=
    decide_eq_decide.mpr (gt_satMul e.lim.multiplier e.defined.length ha)
  have hr : ratioOk e.lim { e.report with anchors := e.defined.length } =
      !(e.lim.enforceRatio && decide (e.report.aliases ≥ e.lim.minAliases) &&
        (e.defined.length == 0 || decide (e.report.aliases > e.lim.multiplier * e.defined.length))) := rfl
  simp only [Enf.ratioBreach, hdec]
  by_cases hc : (e.lim.enforceRatio && decide (e.report.aliases ≥ e.lim.minAliases) &&
    (e.defined.length == 0 || decide (e.report.aliases > e.lim.multiplier * e.defined.length))) = true
  · have hf : ratioOk e.lim { e.report with anchors := e.defined.length } = false := by rw [hr, hc]; rfl
    rw [if_pos hc, hf]; rfl
  · have hc' := Bool.eq_false_iff.mpr hc
    have hf : ratioOk e.lim { e.report with anchors := e.defined.length } = true := by rw [hr, hc']; rfl
    rw [if_neg hc, hf]; rfl

theorem finalize_snd_ratioBreach (e : Enf) (hpd : e.perDocument = false) : e.finalize.2 = e.ratioBreach := by
  unfold Enf.finalize; rw [hpd]; rfl

theorem wf_nil_of_isEnd {ev : Raw} (h : isEnd ev = true) : wf [] ev = false := by
  cases ev <;> simp_all [isEnd, wf]

theorem pro_of_isEnd {e : Enf} {ev : Raw} (h : isEnd ev = true) : pro e ev = e :=
  pro_of_not_docStart (by cases ev <;> simp_all [isEnd, isDocStart])

/-- an `unbalanced` breach in a run whose depth counter is the height of the container stack right before the offending
event: that event is an `End` that does not match the stack -/
theorem unbalanced_wfAll_false_of {e : Enf} {i j : Nat} {evs : List Raw}
    (h : runFrom e i evs = .error (j, .unbalanced))
    (hdl : ∀ pre ev post, evs = pre ++ ev :: post → runFrom e i pre = .ok (nextAll e pre) →
      (nextAll e pre).depth = (nextAll e pre).containers.length) :
    wfAll e.perDocument e.containers evs = false := by
  obtain ⟨pre, ev, post, rfl, -, hok, herr⟩ := runFrom_err h
  have hb := observe_err herr
  simp only [BreachSpec] at hb
  rw [pro_of_isEnd hb.1] at hb
  have hdl := hdl pre ev post rfl hok
  have hwf : wf (cstepAll e.perDocument e.containers pre) ev = false := by
    rw [← nextAll_containers]
    rcases hb.2 with h0 | h0
    · rw [h0] at hdl
      have : (nextAll e pre).containers = [] := List.eq_nil_of_length_eq_zero hdl.symm
      rw [this]; exact wf_nil_of_isEnd hb.1
    · exact h0
  rw [wfAll_append]; simp only [wfAll, hwf, Bool.false_and, Bool.and_false]

theorem unbalanced_wfAll_false {e : Enf} {i j : Nat} {evs : List Raw} (hd : e.depth = e.containers.length)
    (hlen : e.depth + evs.length < 2 ^ 64) (h : runFrom e i evs = .error (j, .unbalanced)) :
    wfAll e.perDocument e.containers evs = false := by
  refine unbalanced_wfAll_false_of h fun pre ev post heq _ => nextAll_depth_len pre hd ?_
  rw [heq] at hlen
  simp only [List.length_append, List.length_cons] at hlen
  omega

/-! a configured depth limit below `usize::MAX` keeps the depth counter exact as well, with no bound on the input: the
breach `depth` fires before the counter can saturate -/

def DepthInv (e : Enf) : Prop :=
  Within e ∧ e.depth = e.containers.length ∧ e.depth ≤ e.report.maxDepth

theorem depthInv_new (lim : Limits) (pd : Bool) : DepthInv (Enf.new lim pd) :=
  ⟨within_new lim pd, rfl, Nat.le_refl _⟩

theorem depthInv_step {e e' : Enf} {ev : Raw} (hlim : e.lim.maxDepth < USIZE_MAX) (hI : DepthInv e)
    (h : e.observe ev = .ok e') : DepthInv e' := by
  obtain ⟨hW, hd, hm⟩ := hI
  obtain ⟨rfl, hw⟩ := observe_ok h
  have hW' := hw hW
  have hU : USIZE_MAX = 2 ^ 64 - 1 := rfl
  have hdl : e.depth + 1 < 2 ^ 64 := by
    have := hW.2.2.2.1; omega
  refine ⟨hW', next_depth_len ev hd hdl, ?_⟩
  rw [next_depth, next_maxDepth, satAdd_one hdl]
  split <;> (try split) <;> (try split) <;> omega

theorem depthInv_run {e e' : Enf} {i : Nat} {evs : List Raw} (hlim : e.lim.maxDepth < USIZE_MAX) (hI : DepthInv e)
    (h : runFrom e i evs = .ok e') : DepthInv e' := by
  induction evs generalizing e i with
  | nil => simp only [runFrom] at h; injection h with h; subst h; exact hI
  | cons x xs ih =>
    simp only [runFrom] at h
    cases h1 : e.observe x with
    | error b => rw [h1] at h; cases h
    | ok e1 =>
      rw [h1] at h
      have hl : e1.lim = e.lim := by obtain ⟨rfl, -⟩ := observe_ok h1; simp
      exact ih (by rw [hl]; exact hlim) (depthInv_step hlim hI h1) h

theorem unbalanced_wfAll_false' {e : Enf} {i j : Nat} {evs : List Raw} (hlim : e.lim.maxDepth < USIZE_MAX)
    (hI : DepthInv e) (h : runFrom e i evs = .error (j, .unbalanced)) :
    wfAll e.perDocument e.containers evs = false :=
  unbalanced_wfAll_false_of h fun _ _ _ _ hok => (depthInv_run hlim hI hok).2.1

/-- a rejected run of counted events: either the ratio check at a per-document `DocumentEnd`, or a counter that is over
its limit at the end of the check-free run; `hd`, `hlen` and `hwf` exclude `unbalanced` -/
theorem runFrom_err_counted {e : Enf} {i j : Nat} {b : Breach} {evs : List Raw}
    (hc : CountedRun e.perDocument evs) (ht : e.report.totalScalarBytes ≤ USIZE_MAX)
    (hd : e.depth = e.containers.length) (hlen : e.depth + evs.length < 2 ^ 64)
    (hwf : wfAll e.perDocument e.containers evs = true) (h : runFrom e i evs = .error (j, b)) :
    (∃ a n pre post, e.perDocument = true ∧ b = .ratio a n ∧ evs = pre ++ .docEnd :: post ∧ j = i + pre.length ∧
        runFrom e i pre = .ok (nextAll e pre) ∧ (nextAll e pre).report.events + 1 ≤ e.lim.maxEvents ∧
        (nextAll e pre).ratioBreach = some (.ratio a n)) ∨
    ((∀ a n, b ≠ .ratio a n) ∧ ¬ Within (nextAll e evs)) := by
  obtain ⟨pre, ev, post, rfl, hj, hok, herr⟩ := runFrom_err h
  have hb := observe_err herr
  rw [pro_of_counted (by rw [nextAll_pd]; exact hc.right.head)] at hb
  by_cases hr : ∃ a n, b = .ratio a n
  · obtain ⟨a, n, rfl⟩ := hr
    obtain ⟨hpd, rfl, h1, h2⟩ := hb
    exact .inl ⟨a, n, pre, post, by rwa [nextAll_pd] at hpd, rfl, rfl, hj, hok, by rwa [nextAll_lim] at h1, h2⟩
  · refine .inr ⟨fun a n hb' => hr ⟨a, n, hb'⟩, not_within_of_breach hc ht hb (fun a n hb' => hr ⟨a, n, hb'⟩) ?_⟩
    rintro rfl
    have := unbalanced_wfAll_false hd hlen h
    rw [hwf] at this; cases this

theorem observe_ok_wf {e e' : Enf} {ev : Raw} (h : e.observe ev = .ok e') : wf e.containers ev = true := by
  by_cases he : isEnd ev = true
  · exact ((observe_ok_checked h).2.2.1 he).2
  · cases ev <;> first | rfl | exact absurd rfl he

theorem runFrom_ok_wfAll {e e' : Enf} {i : Nat} {evs : List Raw} (h : runFrom e i evs = .ok e') :
    wfAll e.perDocument e.containers evs = true := by
  induction evs generalizing e i with
  | nil => rfl
  | cons x xs ih =>
    simp only [runFrom] at h
    cases h1 : e.observe x with
    | error b => rw [h1] at h; cases h
    | ok e1 =>
      rw [h1] at h
      obtain ⟨rfl, -⟩ := observe_ok h1
      have := ih h
      rw [next_pd, next_containers] at this
      simp only [wfAll, observe_ok_wf h1, this, Bool.and_self]

/-- whole-input policy, ANY event list that fits in memory (not only the events of trees) -/
theorem run_ok_iff (lim : Limits) (evs : List Raw) (hlen : evs.length < 2 ^ 64) :
    (∃ e, run lim false evs = .ok e) ↔
      Within (nextAll (Enf.new lim false) evs) ∧ wfAll false [] evs = true := by
  constructor
  · rintro ⟨e, h⟩
    obtain ⟨rfl, hw⟩ := runFrom_ok h
    exact ⟨hw (within_new lim false), runFrom_ok_wfAll h⟩
  · rintro ⟨hW, hwf⟩
    cases h : run lim false evs with
    | ok e => exact ⟨e, rfl⟩
    | error p =>
      rcases runFrom_err_counted (countedRun_of_not_pd evs) (Nat.zero_le _) rfl (by simpa [Enf.new] using hlen) hwf h with
        ⟨-, -, -, -, hpd, -⟩ | ⟨-, hn⟩
      · cases hpd
      · exact absurd hW hn

theorem within_iff (lim : Limits) (r : Report) :
    within lim r = true ↔
      (r.events ≤ lim.maxEvents ∧ r.aliases ≤ lim.maxAliases ∧ r.anchors ≤ lim.maxAnchors ∧
       r.maxDepth ≤ lim.maxDepth ∧ r.documents ≤ lim.maxDocuments ∧ r.nodes ≤ lim.maxNodes ∧
       r.totalScalarBytes ≤ lim.maxTotalScalarBytes ∧ r.mergeKeys ≤ lim.maxMergeKeys) := by
  simp [within, and_assoc]

theorem within_finalize (e : Enf) : within e.lim e.finalize.1 = true ↔ Within e := by
  rw [within_iff, finalize_fst]
  exact Iff.rfl

theorem fresh_usage (lim : Limits) (ds : List Node) (hlen : (flattenStream ds).length < 2 ^ 64) :
    (nextAll (Enf.new lim false) (flattenStream ds)).finalize.1 = usage ds := by
  have hmk : mkAll false [] (flattenStream ds) = mergeKeysDocs ds := congrArg (·.2.1) (G_stream false ds)
  rw [nextAll_finalize (countedRun_of_not_pd _) (Nat.zero_le _) (Nat.le_refl _) (by simpa [Enf.new] using hlen)]
  simp only [Enf.new, usage, nEvents, nAnchors_eq, maxDepth, hmk, Nat.zero_add]

/-! ## the per-document stream: one document at a time, each from the fresh state

What is used of `observe` here is `runFrom_ok`, `observe_docStart_pd` and `observe_frame_pd`; the only counter looked at
is `documents`, which this policy never moves. -/

def acc : Except (Nat × Breach) Enf → Bool
  | .ok _ => true
  | .error _ => false

def shiftErr (k : Nat) : Except (Nat × Breach) Enf → Except (Nat × Breach) Enf
  | .ok e => .ok e
  | .error (i, b) => .error (k + i, b)

theorem runFrom_shift (e : Enf) (k i : Nat) (evs : List Raw) :
    runFrom e (k + i) evs = shiftErr k (runFrom e i evs) := by
  induction evs generalizing e i with
  | nil => rfl
  | cons x xs ih =>
    simp only [runFrom]
    cases e.observe x with
    | error b => rfl
    | ok e1 => exact ih e1 (i + 1)

@[simp] theorem acc_shiftErr (k : Nat) (r : Except (Nat × Breach) Enf) : acc (shiftErr k r) = acc r := by
  cases r with
  | ok e => rfl
  | error p => rfl

theorem next_documents_pd {e : Enf} (hpd : e.perDocument = true) (ev : Raw) :
    (next e ev).report.documents = e.report.documents := by
  rcases next_cases e ev with ⟨-, -, h⟩ | ⟨-, -, h⟩ | ⟨hc, h⟩
  · rw [h]
  · rw [h]
  · have hd : isDocStart ev = false := by simpa [hpd] using hc.1
    rw [h]
    show e.report.documents + b2n (isDocStart ev) = _
    rw [hd]; rfl

theorem nextAll_documents_pd {e : Enf} (hpd : e.perDocument = true) (evs : List Raw) :
    (nextAll e evs).report.documents = e.report.documents := by
  induction evs generalizing e with
  | nil => rfl
  | cons x xs ih => simp only [nextAll]; rw [ih (by simpa using hpd), next_documents_pd hpd]

/-- KEY LEMMA (per-document policy).  The run over an event list that begins with a `DocumentStart` is the same
from any two states that agree on the limits and on the documents counter: counters, defined anchors, depth
and container stack of whatever was observed before are irrelevant.  Arbitrary event lists (not only trees),
arbitrary states (also the one left behind by an abandoned document). -/
theorem runFrom_docStart_pd {e e' : Enf} (hpd : e.perDocument = true) (hpd' : e'.perDocument = true)
    (hl : e.lim = e'.lim) (hdoc : e.report.documents = e'.report.documents) (x : Bool) (evs : List Raw) (i : Nat) :
    runFrom e i (.docStart x :: evs) = runFrom e' i (.docStart x :: evs) := by
  simp only [runFrom, observe_docStart_pd x hpd, observe_docStart_pd x hpd', hl, hdoc]

def docRun (lim : Limits) (d : Node) : Except (Nat × Breach) Enf :=
  runFrom (Enf.new lim true) 0 (flattenDoc d)

/-- a state a per-document run can be in between two documents (everything else arbitrary) -/
def PdState (lim : Limits) (e : Enf) : Prop :=
  e.perDocument = true ∧ e.lim = lim ∧ e.report.documents = 0

theorem pdState_new (lim : Limits) : PdState lim (Enf.new lim true) := ⟨rfl, rfl, rfl⟩

theorem pdState_run {lim : Limits} {e e' : Enf} {i : Nat} {evs : List Raw} (hs : PdState lim e)
    (h : runFrom e i evs = .ok e') : PdState lim e' := by
  obtain ⟨rfl, -⟩ := runFrom_ok h
  exact ⟨by rw [nextAll_pd]; exact hs.1, by rw [nextAll_lim]; exact hs.2.1,
    by rw [nextAll_documents_pd hs.1]; exact hs.2.2⟩

theorem runFrom_flattenDoc_pd {lim : Limits} {e : Enf} (hs : PdState lim e) (i : Nat) (d : Node) :
    runFrom e i (flattenDoc d) = shiftErr i (docRun lim d) := by
  unfold docRun flattenDoc
  rw [← runFrom_shift, Nat.add_zero]
  exact runFrom_docStart_pd hs.1 rfl hs.2.1 hs.2.2 _ _ _

/-- what a per-document run of a stream must be: the documents one at a time, each from the fresh state;
the first failing document decides, otherwise the state is the one the last document ended in -/
def perDocSpec (lim : Limits) : Nat → Enf → List Node → Except (Nat × Breach) Enf
  | _, last, [] => .ok last
  | off, _, d :: ds =>
    match docRun lim d with
    | .error (i, b) => .error (off + i, b)
    | .ok e => perDocSpec lim (off + (flattenDoc d).length) e ds

theorem perdoc_docs0 (lim : Limits) (ds : List Node) (e : Enf) (i : Nat) (hs : PdState lim e) :
    runFrom e i (flattenDocs ds) = perDocSpec lim i e ds := by
  induction ds generalizing e i with
  | nil => rfl
  | cons d ds ih =>
    simp only [flattenDocs, perDocSpec]
    rw [runFrom_append, runFrom_flattenDoc_pd hs]
    cases h0 : docRun lim d with
    | error p => rfl
    | ok e1 => exact ih e1 _ (pdState_run (pdState_new lim) h0)

theorem pdState_perDocSpec {lim : Limits} {off : Nat} {last e : Enf} {ds : List Node} (hs : PdState lim last)
    (h : perDocSpec lim off last ds = .ok e) : PdState lim e := by
  rw [← perdoc_docs0 lim ds last off hs] at h
  exact pdState_run hs h

theorem perdoc_docs (lim : Limits) (ds : List Node) (e : Enf) (i : Nat) (hs : PdState lim e) :
    runFrom e i (flattenDocs ds ++ [.streamEnd]) = perDocSpec lim i e ds := by
  rw [runFrom_append, perdoc_docs0 lim ds e i hs]
  cases h : perDocSpec lim i e ds with
  | error p => rfl
  | ok e1 =>
    simp only [runFrom, observe_frame_pd (pdState_perDocSpec hs h).1 (ev := .streamEnd) rfl]

theorem perDoc_prefix_eq (lim : Limits) (ds : List Node) :
    run lim true (.streamStart :: flattenDocs ds) = perDocSpec lim 1 (Enf.new lim true) ds := by
  simp only [run, runFrom, observe_frame_pd (e := Enf.new lim true) rfl (ev := .streamStart) rfl]
  exact perdoc_docs0 lim ds _ _ (pdState_new lim)

theorem perDoc_run_eq (lim : Limits) (ds : List Node) :
    run lim true (flattenStream ds) = perDocSpec lim 1 (Enf.new lim true) ds := by
  simp only [run, flattenStream, runFrom, observe_frame_pd (e := Enf.new lim true) rfl (ev := .streamStart) rfl]
  exact perdoc_docs lim ds _ _ (pdState_new lim)

theorem perDocSpec_append (lim : Limits) (off : Nat) (last : Enf) (pre ds : List Node) :
    perDocSpec lim off last (pre ++ ds) =
      match perDocSpec lim off last pre with
      | .error x => .error x
      | .ok e => perDocSpec lim (off + (flattenDocs pre).length) e ds := by
  induction pre generalizing off last with
  | nil => rfl
  | cons d pre ih =>
    simp only [List.cons_append, perDocSpec, flattenDocs, List.length_append]
    cases docRun lim d with
    | error p => rfl
    | ok e1 => simp only []; rw [ih, Nat.add_assoc]

theorem perDoc_run_split (lim : Limits) (pre : List Node) (d : Node) (post : List Node) {before : List Raw}
    (hb : before = .streamStart :: flattenDocs pre) :
    run lim true (flattenStream (pre ++ d :: post)) =
      match run lim true before with
      | .error x => .error x
      | .ok _ =>
        match docRun lim d with
        | .error (i, b) => .error (before.length + i, b)
        | .ok e1 => runFrom e1 (before.length + (flattenDoc d).length) (flattenDocs post ++ [.streamEnd]) := by
  subst hb
  rw [perDoc_run_eq, perDocSpec_append, perDoc_prefix_eq, List.length_cons, Nat.add_comm _ 1]
  cases perDocSpec lim 1 (Enf.new lim true) pre with
  | error x => rfl
  | ok e =>
    simp only [perDocSpec]
    cases h0 : docRun lim d with
    | error p => rfl
    | ok e1 => exact (perdoc_docs lim post e1 _ (pdState_run (pdState_new lim) h0)).symm

theorem runFrom_err_index {e : Enf} {i j : Nat} {b : Breach} {evs : List Raw} (h : runFrom e i evs = .error (j, b)) :
    i ≤ j ∧ j < i + evs.length := by
  obtain ⟨pre, ev, post, rfl, rfl, -, -⟩ := runFrom_err h
  simp only [List.length_append, List.length_cons]; omega

theorem perDocSpec_err_index {lim : Limits} {off : Nat} {last : Enf} {ds : List Node} {j : Nat} {b : Breach}
    (h : perDocSpec lim off last ds = .error (j, b)) : off ≤ j := by
  induction ds generalizing off last with
  | nil => cases h
  | cons d ds ih =>
    simp only [perDocSpec] at h
    split at h
    · injection h with h; injection h with h1 h2; omega
    · have := ih h; omega

def okReport : Except (Nat × Breach) Enf → Option Report
  | .ok e => some e.finalize.1
  | .error _ => none

@[simp] theorem okReport_shiftErr (k : Nat) (r : Except (Nat × Breach) Enf) : okReport (shiftErr k r) = okReport r := by
  cases r with
  | ok e => rfl
  | error p => rfl

theorem acc_perDocSpec (lim : Limits) (ds : List Node) (off : Nat) (last : Enf) :
    acc (perDocSpec lim off last ds) = ds.all (fun d => acc (docRun lim d)) := by
  induction ds generalizing off last with
  | nil => rfl
  | cons d ds ih =>
    simp only [perDocSpec, List.all_cons]
    cases h0 : docRun lim d with
    | error p => rfl
    | ok e1 => simp only [acc, Bool.true_and]; exact ih _ _

theorem perDoc_single (lim : Limits) (d : Node) :
    run lim true (flattenStream [d]) = shiftErr 1 (docRun lim d) := by
  rw [perDoc_run_eq]
  simp only [perDocSpec]
  cases docRun lim d with
  | error p => rfl
  | ok e1 => rfl

/-! ## a (necessarily astronomically large) counterexample to "never unbalanced" without the size bound

A sequence nested `2^64` deep saturates the `usize` depth counter; the last `SequenceEnd` then finds
`depth == 0` and is reported as unbalanced. -/

/-- `[[[ ... "" ... ]]]`, `n` levels -/
def nest : Nat → Node
  | 0 => .scalar [] .plain 0 none
  | n + 1 => .seq 0 none [nest n]

def bigLim : Limits :=
  { maxEvents := 2 ^ 70, maxAliases := 2 ^ 70, maxAnchors := 2 ^ 70, maxDepth := 2 ^ 70, maxDocuments := 2 ^ 70,
    maxNodes := 2 ^ 70, maxTotalScalarBytes := 2 ^ 70, maxMergeKeys := 2 ^ 70, enforceRatio := false,
    minAliases := 0, multiplier := 0 }

theorem flatten_nest (n : Nat) :
    flatten (nest n) =
      List.replicate n (Raw.seqStart 0 none) ++ Raw.scalar [] .plain 0 none :: List.replicate n Raw.seqEnd := by
  induction n with
  | zero => rfl
  | succ n ih =>
    simp only [nest, flatten, flattenL, ih, List.append_nil, List.replicate_succ, List.cons_append,
      List.append_assoc, ← List.replicate_succ']

theorem nextAll_starts_depth {e : Enf} (hpd : e.perDocument = false) (hd : e.depth ≤ USIZE_MAX) (n : Nat) :
    (nextAll e (List.replicate n (Raw.seqStart 0 none))).depth = min (e.depth + n) USIZE_MAX := by
  induction n generalizing e with
  | zero =>
    show e.depth = min (e.depth + 0) USIZE_MAX
    omega
  | succ n ih =>
    simp only [List.replicate_succ, nextAll]
    have h1 : (next e (Raw.seqStart 0 none)).depth = min (e.depth + 1) USIZE_MAX := by
      rw [next_depth, hpd]
      simp only [isDocStart, isStart, Bool.false_and, Bool.false_eq_true, if_false, if_true, satAdd_eq_min]
    rw [ih (by simpa using hpd) (by rw [h1]; omega), h1]
    omega

theorem nextAll_ends_depth (e : Enf) (n : Nat) :
    (nextAll e (List.replicate n Raw.seqEnd)).depth = e.depth - n := by
  induction n generalizing e with
  | zero => rfl
  | succ n ih =>
    simp only [List.replicate_succ, nextAll]
    rw [ih, next_depth]
    simp only [isDocStart, isStart, isEnd, Bool.and_false, Bool.false_eq_true, if_false, if_true]
    omega

theorem defAfter_length_le (bs : List Nat) (evs : List Raw) : (defAfter bs evs).length ≤ bs.length + evs.length := by
  induction evs generalizing bs with
  | nil => exact Nat.le_refl _
  | cons x xs ih =>
    simp only [defAfter, List.length_cons]
    have h1 := ih (defIns bs (anchorOf x))
    have h2 : (defIns bs (anchorOf x)).length ≤ bs.length + 1 := by
      unfold defIns; split <;> simp
    omega

theorem mkAll_le (pd : Bool) (cs : List CState) (evs : List Raw) : mkAll pd cs evs ≤ evs.length := by
  induction evs generalizing cs with
  | nil => exact Nat.le_refl _
  | cons x xs ih =>
    simp only [mkAll, List.length_cons]
    have h1 := ih (cstep pd cs x)
    have h2 : mkOf cs x ≤ 1 := by
      cases x <;> simp only [mkOf, b2n] <;> (try split) <;> omega
    omega

theorem nextAll_maxDepth_le (e : Enf) (evs : List Raw) :
    (nextAll e evs).report.maxDepth ≤ max e.report.maxDepth USIZE_MAX := by
  induction evs generalizing e with
  | nil => simp only [nextAll]; omega
  | cons x xs ih =>
    have h1 := ih (next e x)
    have h2 : (next e x).report.maxDepth ≤ max e.report.maxDepth USIZE_MAX := by
      rw [next_maxDepth, satAdd_eq_min]; split <;> (try split) <;> omega
    simp only [nextAll]; omega

theorem nNodes_le_length (xs : List Raw) : nNodes xs ≤ xs.length := by
  simp only [nNodes]; exact List.length_filter_le _ _

theorem nDocuments_le_length (xs : List Raw) : nDocuments xs ≤ xs.length := by
  simp only [nDocuments]; exact List.length_filter_le _ _

/-- every counter is bounded by the number of events or by `usize::MAX` -/
theorem within_of_large {lim : Limits} {evs : List Raw} {m : Nat} (hl : evs.length ≤ m) (hu : USIZE_MAX ≤ m)
    (hlim : m ≤ lim.maxEvents ∧ m ≤ lim.maxAliases ∧ m ≤ lim.maxAnchors ∧ m ≤ lim.maxDepth ∧ m ≤ lim.maxDocuments ∧
      m ≤ lim.maxNodes ∧ m ≤ lim.maxTotalScalarBytes ∧ m ≤ lim.maxMergeKeys) :
    Within (nextAll (Enf.new lim false) evs) := by
  obtain ⟨h1, h2, h3, h4, h5, h6⟩ := nextAll_counts (e := Enf.new lim false) (countedRun_of_not_pd evs)
  have := nNodes_le_length evs
  have := nAliases_le_length evs
  have := nDocuments_le_length evs
  have := defAfter_length_le [] evs
  have := mkAll_le false [] evs
  have := nextAll_maxDepth_le (Enf.new lim false) evs
  have := nextAll_tsb_le (e := Enf.new lim false) (countedRun_of_not_pd evs) (Nat.zero_le _)
  simp only [Within, h1, h2, h3, h4, h5, h6, nextAll_lim]
  simp only [Enf.new, List.length_nil] at *
  omega

/-- the stream of the counterexample, split right before the offending `SequenceEnd` -/
theorem counter_stream (M : Nat) :
    flattenStream [nest (M + 1)] =
      ([Raw.streamStart, Raw.docStart false] ++ List.replicate (M + 1) (Raw.seqStart 0 none) ++
        [Raw.scalar [] .plain 0 none] ++ List.replicate M Raw.seqEnd) ++ Raw.seqEnd :: [Raw.docEnd, Raw.streamEnd] := by
  simp only [flattenStream, flattenDocs, flattenDoc, flatten_nest, List.append_nil]
  rw [List.replicate_succ' (n := M) (a := Raw.seqEnd)]
  simp only [List.cons_append, List.append_assoc, List.nil_append]

theorem counter_depth (M : Nat) (hM : M = USIZE_MAX) :
    (nextAll (Enf.new bigLim false)
      ([Raw.streamStart, Raw.docStart false] ++ List.replicate (M + 1) (Raw.seqStart 0 none) ++
        [Raw.scalar [] .plain 0 none] ++ List.replicate M Raw.seqEnd)).depth = 0 := by
  rw [nextAll_append, nextAll_ends_depth, nextAll_append, nextAll_append]
  have h1 : (nextAll (Enf.new bigLim false) [Raw.streamStart, Raw.docStart false]).depth = 0 := rfl
  have h2 := nextAll_starts_depth (e := nextAll (Enf.new bigLim false) [Raw.streamStart, Raw.docStart false]) rfl (by rw [h1]; omega) (M + 1)
  rw [h1] at h2
  show (next _ _).depth - M = 0
  rw [next_depth]
  simp only [nextAll_pd, isDocStart, isStart, isEnd, Bool.and_false, Bool.false_eq_true, if_false]
  rw [h2]; omega

theorem counter_unbalanced (M : Nat) (hM : M = USIZE_MAX) :
    ∃ i, run bigLim false (flattenStream [nest (M + 1)]) = .error (i, .unbalanced) := by
  have hU : USIZE_MAX = 2 ^ 64 - 1 := rfl
  cases h : run bigLim false (flattenStream [nest (M + 1)]) with
  | ok e =>
    -- the last `SequenceEnd` was accepted with `depth ≠ 0`
    rw [run, counter_stream] at h
    exact absurd (counter_depth M hM) ((runFrom_ok_admits h).1 rfl).1
  | error p =>
    -- no counter can be over `bigLim`, and the ratio check belongs to the other policy: what is left is `unbalanced`
    obtain ⟨j, b⟩ := p
    refine ⟨j, ?_⟩
    by_cases hu : b = .unbalanced
    · rw [hu]
    exfalso
    obtain ⟨pre, ev, post, heq, -, -, herr⟩ := runFrom_err h
    have hb := observe_err herr
    rw [pro_of_not_pd ev (nextAll_pd ..)] at hb
    have hlen : (flattenStream [nest (M + 1)]).length ≤ 2 ^ 70 := by
      rw [counter_stream]
      simp only [List.length_append, List.length_cons, List.length_replicate, List.length_nil]
      omega
    refine not_within_of_breach (countedRun_of_not_pd _) (Nat.zero_le _) hb ?_ hu
      (heq ▸ within_of_large hlen (by omega) (by simp [bigLim]))
    rintro a n rfl
    exact Bool.false_ne_true ((nextAll_pd ..).symm.trans hb.1)

end SaphyrVerif.Lemmas.C07
