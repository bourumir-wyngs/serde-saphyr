import SaphyrVerif.Lemmas.C12QuotedDoc
import SaphyrVerif.Lemmas.C12FoldDoc
/-!
Helper lemmas for C12: the two one-line sub-writers specified on their own (`key_line`, `pqv_line`), and every
branch of `serialize_str` at document level put together (`string_doc`, the only proof that walks `serializeStr`'s
decision tree; the block branches come from C12LiteralDoc / C12FoldDoc).
-/
namespace SaphyrVerif.Lemmas.C12
open SaphyrVerif SaphyrVerif.SerScalar SaphyrVerif.Spec.Read SaphyrVerif.Scalars

/-- style of `KeyScalarSink::serialize_str` -/
def keyStyle (y : Bool) (v : List Char) : Style :=
  if isPlainSafe v && isPlainValueSafe v y true && !isUnsafePlainShape v then .plain else .double

/-- style of `write_plain_or_quoted_value` (pqv) -/
def pqvStyle (o : Opts) (inFlow : Bool) (v : List Char) : Style :=
  if o.quoteAll then (if needsDoubleQuotes v then .double else .single)
  else if isPlainValueSafe v o.yaml12 inFlow && !isUnsafePlainShape v then .plain else .double

/-- the style in which the string `v` is written in position `p` under the options `o` -/
def writerStyle (o : Opts) (p : SerScalar.Pos) (v : List Char) : Style :=
  if isKeyPos p then keyStyle o.yaml12 v
  else
    match autoStyle o (posCtx o p).inFlow v with
    | none =>
      if v.length == 1 && (v == ['.'] || v == ['#'] || v == ['-']) then .single
      else pqvStyle o (posCtx o p).inFlow v
    | some st =>
      if blockFallback o (posCtx o p) v then pqvStyle o (posCtx o p).inFlow v
      else match st with
        | .literal => .literal
        | .folded => .folded

/-- what the key sink writes is read back, in the style `keyStyle` -/
theorem key_line (p : Spec.Read.Pos) (y : Bool) (v : List Char) : OneLine p (keySinkStr v y) (keyStyle y v) v := by
  unfold keySinkStr keyStyle
  by_cases hplain : (isPlainSafe v && isPlainValueSafe v y true && !isUnsafePlainShape v) = true
  · rw [if_pos hplain, if_pos hplain]
    simp only [Bool.and_eq_true, Bool.not_eq_true'] at hplain
    exact .plain p hplain.1.2 (fun _ => rfl) hplain.2
  · rw [if_neg hplain, if_neg hplain]
    exact .dq keyEscape_esc p v

/-- what `write_plain_or_quoted_value` writes is read back, in the style `pqvStyle`; `fl` is the flow flag it
was called with, at least as strict as the position -/
theorem pqv_line (o : Opts) (p : Spec.Read.Pos) (fl : Bool) (hfl : p.isFlow = true → fl = true) (v : List Char) :
    OneLine p (writePlainOrQuotedValue v o.quoteAll o.yaml12 fl) (pqvStyle o fl v) v := by
  unfold writePlainOrQuotedValue pqvStyle
  by_cases hq : o.quoteAll = true
  · rw [if_pos hq, if_pos hq]
    by_cases hn : needsDoubleQuotes v = true
    · rw [if_pos hn, if_pos hn]
      exact .dq dqEscape_esc p v
    · rw [if_neg hn, if_neg hn]
      exact .sq p (by simpa using hn)
  · rw [if_neg hq, if_neg hq]
    by_cases hpl : (isPlainValueSafe v o.yaml12 fl && !isUnsafePlainShape v) = true
    · rw [if_pos hpl, if_pos hpl]
      simp only [Bool.and_eq_true, Bool.not_eq_true'] at hpl
      exact .plain p hpl.1 hfl hpl.2
    · rw [if_neg hpl, if_neg hpl]
      exact .dq dqEscape_esc p v

/-- the one-character strings `.` `#` `-`, which `serialize_str` puts between single quotes itself -/
theorem special_line (p : Spec.Read.Pos) {v : List Char}
    (h : (v.length == 1 && (v == ['.'] || v == ['#'] || v == ['-'])) = true) :
    OneLine p ('\'' :: (v ++ ['\''])) .single v := by
  simp only [Bool.and_eq_true, Bool.or_eq_true, beq_iff_eq, or_assoc] at h
  rcases h.2 with rfl | rfl | rfl
  · exact .sq p (s := ['.']) (by decide)
  · exact .sq p (s := ['#']) (by decide)
  · exact .sq p (s := ['-']) (by decide)

theorem posCtx_flow (o : Opts) (p : SerScalar.Pos) (hk : isKeyPos p = false) :
    (posCtx o p).inFlow = (toRead p).isFlow := by
  cases p <;> first | rfl | (cases hk; done)

/-- `serialize_str` when no block style is selected: the one-character special cases in single quotes,
else `write_plain_or_quoted_value` -/
theorem serializeStr_none {o : Opts} {cx : Ctx} {v : List Char} (h : autoStyle o cx.inFlow v = none) :
    serializeStr o cx v = .ok (spOf cx ++ writeIndent o cx cx.depth ++
      (if v.length == 1 && (v == ['.'] || v == ['#'] || v == ['-']) then '\'' :: (v ++ ['\''])
       else writePlainOrQuotedValue v o.quoteAll o.yaml12 cx.inFlow) ++ nlOf cx) := by
  unfold serializeStr scalarTail
  rw [h]
  simp only [spOf, nlOf, List.append_assoc]

/-- EVERY string, in every modelled position, under every option vector: the document the
writer produces is read back as that string, in the style the writer chose. -/
theorem string_doc (o : Opts) (p : SerScalar.Pos) (hstep : 1 ≤ o.indentStep)
    (v : List Char) : ∃ t, emitDoc o p v = .ok t ∧ readDoc (toRead p) t = some (writerStyle o p v, v) := by
  unfold writerStyle
  by_cases hk : isKeyPos p = true
  · rw [if_pos hk]; exact (key_line _ _ v).doc hstep (emit_key o p hk v)
  rw [if_neg hk]
  have hk' : isKeyPos p = false := by simpa using hk
  have hflow := posCtx_flow o p hk'
  have hpqv := pqv_line o (toRead p) (posCtx o p).inFlow (fun hf => hflow ▸ hf) v
  cases hauto : autoStyle o (posCtx o p).inFlow v with
  | none =>
    simp only
    have hser := serializeStr_none hauto
    have hd : p = .root → (posCtx o p).depth = 0 := by intro e; subst e; rfl
    by_cases hsp : (v.length == 1 && (v == ['.'] || v == ['#'] || v == ['-'])) = true
    · rw [if_pos hsp] at hser ⊢
      exact (special_line _ hsp).doc hstep (emit_of_line o p hk' v _ _ hd hser)
    · rw [if_neg hsp] at hser ⊢
      exact hpqv.doc hstep (emit_of_line o p hk' v _ _ hd hser)
  | some style =>
    simp only
    have hnf : (posCtx o p).inFlow = false := (autoStyle_inv hauto).1
    have hauto' := hauto
    rw [hnf] at hauto'
    by_cases hfb : blockFallback o (posCtx o p) v = true
    · rw [if_pos hfb]
      have hser : serializeStr o (posCtx o p) v = .ok (spOf (posCtx o p) ++ writeIndent o (posCtx o p) (blockBase (posCtx o p)) ++
          writePlainOrQuotedValue v o.quoteAll o.yaml12 (posCtx o p).inFlow ++ nlOf (posCtx o p)) := by
        unfold serializeStr
        rw [hauto]
        simp only [hfb, if_true, spOf, nlOf, hnf]
      exact hpqv.doc hstep (emit_of_line o p hk' v _ _ (by intro e; subst e; rfl) hser)
    · rw [if_neg hfb]
      have hfb' : blockFallback o (posCtx o p) v = false := by simpa using hfb
      have hbp : isBlockPos p = true := by
        rw [hflow] at hnf
        cases p <;> first | rfl | (cases hk'; done) | (cases hnf; done)
      cases style with
      | literal => exact literal_doc o p v hbp hstep hauto' hfb'
      | folded => exact folded_doc o p v hbp hstep hauto' hfb'

theorem writerStyle_block (o : Opts) (p : SerScalar.Pos) (v : List Char) (st : StrStyle) (hp : isBlockPos p = true)
    (hauto : autoStyle o false v = some st) (hnf : blockFallback o (posCtx o p) v = false) :
    writerStyle o p v = match (generalizing := false) st with | .literal => .literal | .folded => .folded := by
  obtain ⟨hk, hfl, _, _⟩ := blockPos_facts p hp
  rw [writerStyle, hk, if_neg Bool.false_ne_true, posCtx_flow o p hk, hfl, hauto]
  simp only [hnf, Bool.false_eq_true, if_false]

theorem readDocBody_plain (p : Spec.Read.Pos) (hp : simplePos p = true) (s : List Char) (y fl : Bool)
    (h : isPlainValueSafe s y fl = true) (hfl : p.isFlow = true → fl = true)
    (hu : isUnsafePlainShape s = false) :
    readDocBody p (opening p ++ (s ++ lineEnd p)) = some (.plain, s) := by
  obtain ⟨hstart, hread⟩ := OneLine.plain p h hfl hu
  obtain ⟨c, r, hs, hblank, hpct, _, hnul⟩ := hstart.append (lineEnd_facts p).2.2.1
  have ho : openingO {} p = opening p := by cases p <;> first | rfl | cases hp
  rw [← ho, hs, readDocBody_open {} p (by decide) c r hblank hpct (hs ▸ hnul), ← hs]
  exact hread _ _

theorem emit_plain (o : Opts) (p : SerScalar.Pos) (hp : simplePos (toRead p) = true) (s : List Char)
    (hw : writerPlain o p s) :
    emitDoc o p s = .ok (preamble o ++ (opening (toRead p) ++ (s ++ lineEnd (toRead p)))) := by
  unfold writerPlain at hw
  by_cases hk : isKeyPos p = true
  · rw [if_pos hk] at hw
    have ho : openingO o (toRead p) = opening (toRead p) := by cases p <;> first | rfl | cases hk
    rw [emit_key o p hk s, ho, keySinkStr, if_pos hw]
  · rw [if_neg hk] at hw
    obtain ⟨hq, hauto, hpv, hu, hdot⟩ := hw
    have hk' : isKeyPos p = false := by simpa using hk
    have ho : openingO o (toRead p) = opening (toRead p) := by
      cases p <;> first | rfl | (cases hp; done) | simp [openingO, toRead, hq]
    rw [← ho]
    rw [← posCtx_flow o p hk'] at hauto hpv
    refine emit_of_line o p hk' s s (posCtx o p).depth (by intro e; subst e; rfl) ?_
    rw [serializeStr_none hauto, if_neg (by simp [not_special (pvs_unfold hpv).2.1 hdot]), writePlainOrQuotedValue,
      if_neg (by simp [hq]), if_pos (by simp [hpv, hu])]

end SaphyrVerif.Lemmas.C12
