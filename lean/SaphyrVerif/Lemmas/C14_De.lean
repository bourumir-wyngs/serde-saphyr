import SaphyrVerif.Spec.Anchors
/-!
C14, deserializer side.  `deCore` at a wrapper type on a node that is not an alias is unfolded once into a closed
form (`weak_case_split`, `strong_case_split`) in which the model's context lookup is resolved: a wrapper asks the
store for the anchor of its own node (`current_after_push`).  Read off them: the three arms of a strong wrapper, each
under what decides it — the node's anchor and the store entry under it (`strong_unanchored`, `strong_known`,
`strong_new`) — and what a weak wrapper needs in order to succeed (`weak_node_ok`).  An alias is the replay of what
the pump delivers for it (`de_alias_ok`).
`SameStore` is what `IgnoredAny` (`skipLive`) and wrapper-free types (`plain_replay`) leave untouched.
-/
namespace SaphyrVerif.Lemmas.C14
open SaphyrVerif.Anchors SaphyrVerif.Spec.Anchors

/-- the part of the state that belongs to the thread-local `AnchorState` and the rebuilt heap -/
def SameStore (s s' : DeSt) : Prop :=
  s'.stack = s.stack ∧ s'.store = s.store ∧ s'.heap = s.heap ∧ s'.nextPtr = s.nextPtr

theorem SameStore.refl (s : DeSt) : SameStore s s := ⟨rfl, rfl, rfl, rfl⟩

theorem SameStore.trans {a b c : DeSt} (h1 : SameStore a b) (h2 : SameStore b c) : SameStore a c :=
  ⟨h2.1.trans h1.1, h2.2.1.trans h1.2.1, h2.2.2.1.trans h1.2.2.1, h2.2.2.2.trans h1.2.2.2⟩

theorem SameStore.ite {s t : DeSt} (c : Prop) [Decidable c] (h : SameStore s t) :
    SameStore s (if c then s else t) := by
  split
  · exact SameStore.refl s
  · exact h

mutual
theorem skipLive_sameStore : ∀ (o : Out) (s : DeSt) (e : Out) (s' : DeSt),
    skipLive o s = .ok (e, s') → SameStore s s'
  | .leaf a k, s, e, s', h => by
    cases h
    exact .ite _ ⟨rfl, rfl, rfl, rfl⟩
  | .alias id, s, e, s', h => by
    rw [skipLive] at h
    split at h
    · cases h
    · cases h
      exact SameStore.refl _
  | .node a isMap items, s, e, s', h => by
    rw [skipLive] at h
    split at h
    · cases h
    · rename_i es s2 hl
      cases h
      refine ((SameStore.ite _ ?_).trans (skipLiveList_sameStore items _ _ _ hl)).trans (.ite _ ?_)
      · exact ⟨rfl, rfl, rfl, rfl⟩
      · exact ⟨rfl, rfl, rfl, rfl⟩
theorem skipLiveList_sameStore : ∀ (os : List Out) (s : DeSt) (es : List Out) (s' : DeSt),
    skipLiveList os s = .ok (es, s') → SameStore s s'
  | [], s, es, s', h => by
    cases h
    exact SameStore.refl _
  | x :: xs, s, es, s', h => by
    rw [skipLiveList] at h
    split at h
    · cases h
    · rename_i e1 s1 h1
      split at h
      · cases h
      · rename_i es2 s2 h2
        cases h
        exact (skipLive_sameStore x s e1 s1 h1).trans (skipLiveList_sameStore xs s1 _ _ h2)
end

theorem popCtx_store (s : DeSt) (a : Nat) : (popCtx s a).store = s.store := rfl

theorem pushCtx_store (s : DeSt) (k : Kind) (a : Nat) : (pushCtx s k a).store = s.store := rfl

/-- `own_context_id`: the context a wrapper finds is the one it has just entered, under its own node's anchor -/
theorem current_after_push (s : DeSt) (k : Kind) (a : Nat) :
    currentAnchorId (pushCtx s k a) k = some a := by
  simp [currentAnchorId, pushCtx]

theorem pop_push (s : DeSt) (k : Kind) (a : Nat) : popCtx (pushCtx s k a) a = s := by
  simp [popCtx, pushCtx]

theorem getStored_eq_some {s : DeSt} {k : Kind} {id tid : Nat} {q : Ptr} :
    getStored s k id tid = .ok (some q) ↔ s.store.lookup (k, id) = some (q, tid) := by
  unfold getStored
  cases s.store.lookup (k, id) with
  | none => simp
  | some r =>
    obtain ⟨q', t⟩ := r
    by_cases ht : t = tid <;> simp [ht]

theorem getStored_of_none {s : DeSt} {k : Kind} {id : Nat} (tid : Nat) (h : s.store.lookup (k, id) = none) :
    getStored s k id tid = .ok none := by
  rw [getStored, h]

theorem deCore_alias (onAlias : Ty → Nat → DeSt → DeRes) (live : Bool) (ty : Ty) (id : Nat) (s : DeSt) :
    deCore onAlias live ty (.alias id) s = onAlias ty id s := by
  cases ty <;> rfl

theorem de_alias_ok {ty : Ty} {id : Nat} {s : DeSt} {r : RVal × Out × DeSt} :
    de ty (.alias id) s = .ok r ↔ ∃ sub, resolveAlias s id = .ok sub ∧ deE ty sub s = .ok r := by
  rw [de, deCore_alias, onAliasLive]
  cases resolveAlias s id with
  | error e => exact ⟨nofun, fun ⟨_, h, _⟩ => nomatch h⟩
  | ok sub => exact ⟨fun h => ⟨sub, rfl, h⟩, fun ⟨_, h, h'⟩ => by cases h; exact h'⟩

/-- the anchored case of a weak wrapper on a node `o` (not an alias) -/
def weakAnchored (live : Bool) (k : Kind) (tid : Nat) (o : Out) (s : DeSt) : DeRes :=
  match (if live then skipLive o (pushCtx s k o.rootAnchor) else .ok (o, pushCtx s k o.rootAnchor)) with
  | .error e => .error e
  | .ok (e, s2) =>
    match getStored s2 k o.rootAnchor tid with
    | .error e => .error e
    | .ok (some q) => .ok (.weak k q, e, popCtx s2 o.rootAnchor)
    | .ok none =>
      .error (if k.isRec then .weakUnknown else if reentrant s2 k o.rootAnchor then .recNeedsWeak else .weakUnknown)

theorem weak_case_split (onAlias : Ty → Nat → DeSt → DeRes) (live : Bool) (k : Kind) (tid : Nat) (o : Out)
    (hna : ∀ id, o ≠ .alias id) (s : DeSt) :
    deCore onAlias live (.weak k tid) o s =
      if o.rootAnchor = 0 then
        if o.isNull then .ok (.weakNull k, o, s)
        else
          match (if live then skipLive o (pushCtx s k 0) else .ok (o, s)) with
          | .error e => .error e
          | .ok _ => .error .weakNoAnchor
      else weakAnchored live k tid o s := by
  -- the model looks the context up (`currentAnchorId`; the `none` arm is dead): `current_after_push` says what it finds
  cases o with
  | alias id => exact absurd rfl (hna id)
  | leaf a lk => simp only [deCore, current_after_push]; rfl
  | node a m items => simp only [deCore, current_after_push]; rfl

theorem weak_anchored_ok (live : Bool) (k : Kind) (tid : Nat) (o : Out) (s : DeSt) (v : RVal) (e : Out) (s' : DeSt)
    (h : weakAnchored live k tid o s = .ok (v, e, s')) :
    ∃ q, s.store.lookup (k, o.rootAnchor) = some (q, tid) ∧ v = .weak k q ∧ s'.store = s.store := by
  unfold weakAnchored at h
  split at h
  · cases h
  · rename_i e2 s2 hsk
    have hst : s2.store = s.store := by
      cases live with
      | false =>
        simp only [Bool.false_eq_true, if_false, Except.ok.injEq, Prod.mk.injEq] at hsk
        rw [← hsk.2]
        rfl
      | true =>
        simp only [if_true] at hsk
        exact (skipLive_sameStore _ _ _ _ hsk).2.1
    split at h
    · cases h
    · rename_i q hq
      simp only [Except.ok.injEq, Prod.mk.injEq] at h
      obtain ⟨rfl, _, rfl⟩ := h
      exact ⟨q, hst ▸ getStored_eq_some.mp hq, rfl, hst⟩
    · cases h

/-- a weak wrapper on a node succeeds in exactly two ways: an unanchored `null` gives a dangling weak, an anchored
node the pointer that the store holds under the node's own anchor, with the same `TypeId` -/
theorem weak_node_ok (onAlias : Ty → Nat → DeSt → DeRes) (live : Bool) (k : Kind) (tid : Nat)
    (o : Out) (hna : ∀ id, o ≠ .alias id) (s : DeSt) (v : RVal) (e : Out) (s' : DeSt)
    (h : deCore onAlias live (.weak k tid) o s = .ok (v, e, s')) :
    (o.rootAnchor = 0 ∧ o.isNull = true ∧ v = .weakNull k ∧ e = o ∧ s' = s) ∨
    (o.rootAnchor ≠ 0 ∧ ∃ q, s.store.lookup (k, o.rootAnchor) = some (q, tid) ∧ v = .weak k q ∧
      s'.store = s.store) := by
  rw [weak_case_split onAlias live k tid o hna] at h
  by_cases ha : o.rootAnchor = 0
  · rw [if_pos ha] at h
    by_cases hn : o.isNull = true
    · rw [if_pos hn] at h
      cases h
      exact Or.inl ⟨ha, hn, rfl, rfl, rfl⟩
    · rw [if_neg hn] at h
      split at h <;> cases h
  · rw [if_neg ha] at h
    exact Or.inr ⟨ha, weak_anchored_ok live k tid o s v e s' h⟩

theorem weak_unstored_fails (onAlias : Ty → Nat → DeSt → DeRes) (live : Bool) (k : Kind) (tid : Nat) (o : Out)
    (hna : ∀ id, o ≠ .alias id) (ha : o.rootAnchor ≠ 0) (s : DeSt)
    (hs : s.store.lookup (k, o.rootAnchor) = none) (r : RVal × Out × DeSt) :
    deCore onAlias live (.weak k tid) o s ≠ .ok r := by
  intro h
  obtain ⟨v, e, s'⟩ := r
  rcases weak_node_ok onAlias live k tid o hna s v e s' h with ⟨h0, _⟩ | ⟨_, q, h2, _⟩
  · exact ha h0
  · cases hs.symm.trans h2

theorem deE_weak_stored (k : Kind) (tid : Nat) (o : Out) (hna : ∀ id, o ≠ .alias id) (ha : o.rootAnchor ≠ 0)
    (s : DeSt) (q : Ptr) (hst : s.store.lookup (k, o.rootAnchor) = some (q, tid)) :
    deE (.weak k tid) o s = .ok (.weak k q, o, s) := by
  have hg : getStored (pushCtx s k o.rootAnchor) k o.rootAnchor tid = .ok (some q) := getStored_eq_some.mpr hst
  unfold deE
  rw [weak_case_split _ _ _ _ _ hna, if_neg ha, weakAnchored]
  simp only [Bool.false_eq_true, if_false, hg, pop_push]

/-- the strong wrapper on a node `o` (not an alias) once the context lookup has given `cur` -/
def strongAt (onAlias : Ty → Nat → DeSt → DeRes) (live : Bool) (k : Kind) (tid : Nat) (inner : Ty)
    (o : Out) (s : DeSt) (cur : Option Nat) : DeRes :=
  let a := o.rootAnchor
  let s1 := pushCtx s k a
  match cur with
  | none =>
    match deCore onAlias live inner o s1 with
    | .error e => .error e
    | .ok (v, e, s2) =>
      let (q, s3) := alloc s2 (some v)
      .ok (.strong k q, e, popCtx s3 a)
  | some id =>
    match getStored s1 k id tid with
    | .error e => .error e
    | .ok (some q) =>
      match deCore onAlias live inner o s1 with
      | .error e => .error e
      | .ok (_, e, s2) => .ok (.strong k q, e, popCtx s2 a)
    | .ok none =>
      if reentrant s1 k id then .error .recNeedsWeak
      else if k.isRec then
        let (q, s2) := alloc s1 none
        match deCore onAlias live inner o (storePtr s2 k id q tid) with
        | .error e => .error e
        | .ok (v, e, s3) => .ok (.strong k q, e, popCtx (fill s3 q v) a)
      else
        match deCore onAlias live inner o s1 with
        | .error e => .error e
        | .ok (v, e, s2) =>
          let (q, s3) := alloc s2 (some v)
          .ok (.strong k q, e, popCtx (storePtr s3 k id q tid) a)

theorem strong_case_split (onAlias : Ty → Nat → DeSt → DeRes) (live : Bool) (k : Kind) (tid : Nat) (inner : Ty)
    (o : Out) (hna : ∀ id, o ≠ .alias id) (s : DeSt) :
    deCore onAlias live (.strong k tid inner) o s =
      strongAt onAlias live k tid inner o s (if o.rootAnchor = 0 then none else some o.rootAnchor) := by
  -- with the model's lookup put back for `some o.rootAnchor` both sides compute to the same term
  rw [← current_after_push s k o.rootAnchor]
  cases o with
  | alias id => exact absurd rfl (hna id)
  | leaf a lk => rfl
  | node a m items => rfl

/-- no anchor on the node: a fresh pointer, nothing stored, no store or enclosing context consulted -/
theorem strong_unanchored {onAlias : Ty → Nat → DeSt → DeRes} {live : Bool} {k : Kind} {tid : Nat} {inner : Ty}
    {o : Out} (hna : ∀ id, o ≠ .alias id) (ha : o.rootAnchor = 0) (s : DeSt) :
    deCore onAlias live (.strong k tid inner) o s =
      match deCore onAlias live inner o (pushCtx s k 0) with
      | .error e => .error e
      | .ok (v, e, s2) => .ok (.strong k s2.nextPtr, e, popCtx (alloc s2 (some v)).2 0) := by
  rw [strong_case_split _ _ _ _ _ _ hna, if_pos ha, strongAt, ha]
  rfl

/-- the anchor has a store entry of the wrapper's type: the payload is read and dropped, the stored pointer reused -/
theorem strong_known {onAlias : Ty → Nat → DeSt → DeRes} {live : Bool} {k : Kind} {tid : Nat} {inner : Ty}
    {o : Out} (hna : ∀ id, o ≠ .alias id) (ha : o.rootAnchor ≠ 0) {s : DeSt} {q : Ptr}
    (hst : s.store.lookup (k, o.rootAnchor) = some (q, tid)) :
    deCore onAlias live (.strong k tid inner) o s =
      match deCore onAlias live inner o (pushCtx s k o.rootAnchor) with
      | .error e => .error e
      | .ok (_, e, s2) => .ok (.strong k q, e, popCtx s2 o.rootAnchor) := by
  have hg : getStored (pushCtx s k o.rootAnchor) k o.rootAnchor tid = .ok (some q) := getStored_eq_some.mpr hst
  rw [strong_case_split _ _ _ _ _ _ hna, if_neg ha, strongAt]
  simp only [hg]

/-- the anchor has no store entry and no context of it is open: a recursive wrapper stores a placeholder before the
payload is read and fills it afterwards, any other allocates after the payload is read -/
theorem strong_new {onAlias : Ty → Nat → DeSt → DeRes} {live : Bool} {k : Kind} {tid : Nat} {inner : Ty}
    {o : Out} (hna : ∀ id, o ≠ .alias id) (ha : o.rootAnchor ≠ 0) {s : DeSt}
    (hfresh : s.store.lookup (k, o.rootAnchor) = none) (hstack : (k, o.rootAnchor) ∉ s.stack) :
    deCore onAlias live (.strong k tid inner) o s =
      if k.isRec then
        match deCore onAlias live inner o
          (storePtr (alloc (pushCtx s k o.rootAnchor) none).2 k o.rootAnchor s.nextPtr tid) with
        | .error e => .error e
        | .ok (v, e, s3) => .ok (.strong k s.nextPtr, e, popCtx (fill s3 s.nextPtr v) o.rootAnchor)
      else
        match deCore onAlias live inner o (pushCtx s k o.rootAnchor) with
        | .error e => .error e
        | .ok (v, e, s2) =>
          .ok (.strong k s2.nextPtr, e, popCtx (storePtr (alloc s2 (some v)).2 k o.rootAnchor s2.nextPtr tid)
            o.rootAnchor) := by
  have hg : getStored (pushCtx s k o.rootAnchor) k o.rootAnchor tid = .ok none := getStored_of_none tid hfresh
  have hre : reentrant (pushCtx s k o.rootAnchor) k o.rootAnchor = false := by
    simp [reentrant, inProgressCount, pushCtx, List.count_eq_zero.mpr hstack]
  rw [strong_case_split _ _ _ _ _ _ hna, if_neg ha, strongAt]
  simp only [hg, hre, Bool.false_eq_true, if_false]
  rfl
theorem deList_cons_ok {onAlias : Ty → Nat → DeSt → DeRes} {live : Bool} {t : Ty} {ts : List Ty} {o : Out}
    {os : List Out} {s s' : DeSt} {vs : List RVal} {es : List Out} :
    deList onAlias live (t :: ts) (o :: os) s = .ok (vs, es, s') ↔
      ∃ v e s1 vs' es', deCore onAlias live t o s = .ok (v, e, s1) ∧
        deList onAlias live ts os s1 = .ok (vs', es', s') ∧ vs = v :: vs' ∧ es = e :: es' := by
  rw [deList]
  constructor
  · intro h
    split at h
    · cases h
    · rename_i v e s1 h1
      split at h
      · cases h
      · rename_i vs' es' s2 h2
        cases h
        exact ⟨v, e, s1, vs', es', h1, h2, rfl, rfl⟩
  · rintro ⟨v, e, s1, vs', es', h1, h2, rfl, rfl⟩
    simp only [h1, h2]

/-- a container that the pump does not record: a replayed buffer, or a node without an anchor -/
theorem deCore_node_ok {onAlias : Ty → Nat → DeSt → DeRes} {live : Bool} {tys : List Ty} {a : Nat}
    {isMap : Bool} {items : List Out} {s s' : DeSt} {v : RVal} {e : Out} (hq : (live && a != 0) = false) :
    deCore onAlias live (.node tys) (.node a isMap items) s = .ok (v, e, s') ↔
      ∃ vs es, deList onAlias live tys items s = .ok (vs, es, s') ∧ v = .node isMap vs ∧
        e = .node a isMap es := by
  rw [deCore]
  simp only [hq, Bool.false_eq_true, if_false]
  constructor
  · intro h
    split at h
    · cases h
    · rename_i vs es s2 hl
      cases h
      exact ⟨vs, es, hl, rfl, rfl⟩
  · rintro ⟨vs, es, hl, rfl, rfl⟩
    simp only [hl]

mutual
theorem plain_replay :
    ∀ (ty : Ty) (o : Out) (s : DeSt) (v : RVal) (e : Out) (s' : DeSt),
      plainTy ty = true → deCore noAlias false ty o s = .ok (v, e, s') →
      v = plainVal o ∧ e = o ∧ SameStore s s' ∧ s'.defs = s.defs ∧ s'.opn = s.opn ∧ pointerFree v = true
  | .leaf probe, o, s, v, e, s', _, h => by
    cases o with
    | alias id => cases h
    | node a isMap items => cases h
    | leaf a k =>
      rw [deCore] at h
      cases hr : probeRejects probe k with
      | true => rw [hr] at h; cases h
      | false =>
        rw [hr] at h
        simp only [Bool.false_eq_true, if_false, Bool.false_and, Except.ok.injEq, Prod.mk.injEq] at h
        obtain ⟨rfl, rfl, rfl⟩ := h
        refine ⟨rfl, rfl, ?_, ?_, ?_, rfl⟩
        · split <;> exact ⟨rfl, rfl, rfl, rfl⟩
        · split <;> rfl
        · split <;> rfl
  | .node tys, o, s, v, e, s', hp, h => by
    cases o with
    | alias id => cases h
    | leaf a k => cases h
    | node a isMap items =>
      obtain ⟨vs, es, hl, rfl, rfl⟩ := (deCore_node_ok rfl).mp h
      obtain ⟨q1, q2, q3, q4, q5, q6⟩ := plain_replay_list tys items s vs es s' hp hl
      exact ⟨by rw [q1]; rfl, by rw [q2], q3, q4, q5, q6⟩
  | .strong k tid inner, _, _, _, _, _, hp, _ => by cases hp
  | .weak k tid, _, _, _, _, _, hp, _ => by cases hp
theorem plain_replay_list :
    ∀ (tys : List Ty) (os : List Out) (s : DeSt) (vs : List RVal) (es : List Out) (s' : DeSt),
      plainTyList tys = true → deList noAlias false tys os s = .ok (vs, es, s') →
      vs = plainValList os ∧ es = os ∧ SameStore s s' ∧ s'.defs = s.defs ∧ s'.opn = s.opn ∧
        pointerFreeList vs = true
  | [], [], s, vs, es, s', _, h => by
    cases h
    exact ⟨rfl, rfl, SameStore.refl _, rfl, rfl, rfl⟩
  | [], _ :: _, _, _, _, _, _, h => by cases h
  | _ :: _, [], _, _, _, _, _, h => by cases h
  | t :: ts, o :: os, s, vs, es, s', hp, h => by
    simp only [plainTyList, Bool.and_eq_true] at hp
    obtain ⟨v1, e1, s1, vs2, es2, h1, h2, rfl, rfl⟩ := deList_cons_ok.mp h
    obtain ⟨b1, b2, b3, b4, b5, b6⟩ := plain_replay t o s v1 e1 s1 hp.1 h1
    obtain ⟨c1, c2, c3, c4, c5, c6⟩ := plain_replay_list ts os s1 vs2 es2 s' hp.2 h2
    refine ⟨by rw [b1, c1]; rfl, by rw [b2, c2], b3.trans c3, by rw [c4, b4], by rw [c5, b5], ?_⟩
    simp [pointerFreeList, b6, c6]
end

end SaphyrVerif.Lemmas.C14
