import SaphyrVerif.Model.Event
import SaphyrVerif.Spec.Utf8
/-!
UTF-8 facts shared by the properties that speak of byte offsets: byte lengths as prefix sums of
`utf8LenChar` (`utf8Len` of `take` / `drop`), and the four shapes of an encoded character, stated for
`Spec.Utf8.encodeChar`. `Snippet.utf8Bytes` (C17) is that function by `rfl` (`utf8Bytes_eq_spec` in `C17Utf8`) and takes the
shape lemmas over. `utf8EncodeChar` (`Basic/Utf8.lean`) has the same body, but no lemma speaks of it; `Robotics.utf8`
(C19) inlines the four forms, and `utf8_char_ok` in `C19Total` goes through them on its own.
-/
namespace SaphyrVerif

theorem char_valid (c : Char) : c.toNat < 0xD800 ∨ (0xDFFF < c.toNat ∧ c.toNat < 0x110000) :=
  c.valid

theorem utf8LenChar_range (c : Char) : 1 ≤ utf8LenChar c ∧ utf8LenChar c ≤ 4 := by
  unfold utf8LenChar; simp only []; split <;> (try split) <;> (try split) <;> omega

theorem utf8LenChar_pos (c : Char) : 1 ≤ utf8LenChar c := (utf8LenChar_range c).1

@[simp] theorem utf8Len_nil : utf8Len [] = 0 := rfl

theorem utf8Len_cons (c : Char) (s : List Char) : utf8Len (c :: s) = utf8LenChar c + utf8Len s := by
  simp [utf8Len]

theorem utf8Len_append (a b : List Char) : utf8Len (a ++ b) = utf8Len a + utf8Len b := by
  simp [utf8Len, List.map_append, List.sum_append]

theorem utf8Len_pos_of_ne_nil (s : List Char) (h : s ≠ []) : 0 < utf8Len s := by
  cases s with
  | nil => exact absurd rfl h
  | cons c cs =>
    have := utf8LenChar_pos c
    rw [utf8Len_cons]; omega

theorem take_eq_take_append_drop {α} (l : List α) {i j : Nat} (h : i ≤ j) :
    l.take j = l.take i ++ (l.take j).drop i := by
  have : (l.take j).take i = l.take i := by rw [List.take_take, Nat.min_eq_left h]
  rw [← this, List.take_append_drop]

/-- byte lengths of prefixes are prefix sums: the one equation behind the comparisons below -/
theorem utf8Len_take_add (s : List Char) {i j : Nat} (h : i ≤ j) :
    utf8Len (s.take j) = utf8Len (s.take i) + utf8Len ((s.take j).drop i) := by
  rw [← utf8Len_append, ← take_eq_take_append_drop s h]

theorem utf8Len_take_drop (s : List Char) {i j : Nat} (h : i ≤ j) :
    utf8Len ((s.take j).drop i) = utf8Len (s.take j) - utf8Len (s.take i) := by
  rw [utf8Len_take_add s h]; omega

theorem utf8Len_take_mono (s : List Char) {i j : Nat} (h : i ≤ j) : utf8Len (s.take i) ≤ utf8Len (s.take j) := by
  rw [utf8Len_take_add s h]; omega

theorem utf8Len_take_le (s : List Char) (k : Nat) : utf8Len (s.take k) ≤ utf8Len s := by
  have e := congrArg utf8Len (List.take_append_drop k s)
  rw [utf8Len_append] at e
  omega

theorem utf8Len_take_lt (s : List Char) {i j : Nat} (hij : i < j) (hj : j ≤ s.length) :
    utf8Len (s.take i) < utf8Len (s.take j) := by
  have : 0 < utf8Len ((s.take j).drop i) := by
    apply utf8Len_pos_of_ne_nil
    intro h0
    have := congrArg List.length h0
    rw [List.length_drop, List.length_take] at this
    simp only [List.length_nil] at this
    omega
  rw [utf8Len_take_add s (Nat.le_of_lt hij)]; omega

/-! ### the payload bits of a scalar value, put together again -/

theorem recombine3 (n : Nat) : n / 4096 * 4096 + n / 64 % 64 * 64 + n % 64 = n := by
  have h1 := Nat.div_add_mod' n 64
  have h2 := Nat.div_add_mod' (n / 64) 64
  simp only [Nat.div_div_eq_div_mul, Nat.reduceMul] at h2
  generalize n / 4096 = q, n / 64 % 64 = x, n % 64 = y, n / 64 = a at *
  omega

theorem recombine4 (n : Nat) : n / 262144 * 262144 + n / 4096 % 64 * 4096 + n / 64 % 64 * 64 + n % 64 = n := by
  have h2 := Nat.div_add_mod' (n / 4096) 64
  simp only [Nat.div_div_eq_div_mul, Nat.reduceMul] at h2
  have e : n / 262144 * 262144 = n / 262144 * 64 * 4096 := by rw [Nat.mul_assoc]
  rw [e, ← Nat.add_mul, h2]
  exact recombine3 n

open Spec.Utf8 (encodeChar)

/-- `bs` is the encoding of the scalar value `n`: one of the four byte patterns, with its range -/
inductive EncShape (bs : List Nat) (n : Nat) : Prop where
  | one (h : n < 0x80) (e : bs = [n])
  | two (h1 : 0x80 ≤ n) (h2 : n < 0x800) (e : bs = [0xC0 + n / 64, 0x80 + n % 64])
  | three (h1 : 0x800 ≤ n) (h2 : n < 0x10000) (e : bs = [0xE0 + n / 4096, 0x80 + (n / 64) % 64, 0x80 + n % 64])
  | four (h1 : 0x10000 ≤ n)
      (e : bs = [0xF0 + n / 262144, 0x80 + (n / 4096) % 64, 0x80 + (n / 64) % 64, 0x80 + n % 64])

theorem encShape (c : Char) : EncShape (encodeChar c) c.toNat := by
  by_cases h1 : c.toNat < 0x80
  · exact .one h1 (by simp [encodeChar, h1])
  · by_cases h2 : c.toNat < 0x800
    · exact .two (by omega) h2 (by simp [encodeChar, h1, h2])
    · by_cases h3 : c.toNat < 0x10000
      · exact .three (by omega) h3 (by simp [encodeChar, h1, h2, h3])
      · exact .four (by omega) (by simp [encodeChar, h1, h2, h3])

theorem encodeChar_length (c : Char) : (encodeChar c).length = utf8LenChar c := by
  unfold encodeChar utf8LenChar; simp only []
  split
  · rfl
  · split
    · rfl
    · split <;> rfl

theorem encodeChar_ascii (c : Char) (h : c.toNat < 0x80) : encodeChar c = [c.toNat] := by
  rcases encShape c with ⟨_, e⟩ | ⟨h1, _, _⟩ | ⟨h1, _, _⟩ | ⟨h1, _⟩
  · exact e
  all_goals omega

/-- so an ASCII byte in a UTF-8 text is that character (`mem_encodeChar_lt`) -/
theorem encodeChar_ge (c : Char) (h : 0x80 ≤ c.toNat) : ∀ b ∈ encodeChar c, 0x80 ≤ b := by
  intro b hb
  rcases encShape c with ⟨h1, _⟩ | ⟨_, _, e⟩ | ⟨_, _, e⟩ | ⟨_, e⟩
  · omega
  all_goals
    rw [e] at hb
    simp only [List.mem_cons, List.not_mem_nil, or_false] at hb
    omega

theorem mem_encodeChar_lt (c : Char) (b : Nat) (hb : b < 0x80) : b ∈ encodeChar c ↔ c.toNat = b := by
  by_cases h : c.toNat < 0x80
  · rw [encodeChar_ascii c h, List.mem_singleton]; exact eq_comm
  · constructor
    · intro hm; have := encodeChar_ge c (by omega) b hm; omega
    · intro he; omega

theorem char_eq_of_toNat (c : Char) (n : Nat) (h : c.toNat = n) : c = Char.ofNat n := by
  rw [← h, Char.ofNat_toNat]

end SaphyrVerif
