import SaphyrVerif.Lemmas.C11_DeserFam
import SaphyrVerif.Model.Entry
import SaphyrVerif.Lemmas.C05_Cursor
/-!
Helper lemmas for C11: the rounds of the two loops of `Model/Entry.lean`.  The equations of one round by the event
its `peek` sees (`multiLoop_open`, `iterLoop_open`, `iterLoop_seqEnd`, `iterLoop_mapEnd`), the inversion of one round
of a successful batch run (`multiLoop_ok_round`), and the two loops in lock-step on such a run (`multi_iter`).
-/
namespace SaphyrVerif.Lemmas.C11
open SaphyrVerif SaphyrVerif.Scalars SaphyrVerif.Pump SaphyrVerif.De SaphyrVerif.Entry

theorem live_of_curK {c : Cur} (h : curK c = 1) : ∃ p inp, c = .live p inp := by
  cases c with
  | live p inp => exact ⟨p, inp, rfl⟩
  | replay buf idx ref => simp [curK] at h

theorem live_of_le {p : Pump} {inp : List RawItem} {c : Cur} (h : Le (.live p inp) c) :
    ∃ p' inp', c = .live p' inp' := live_of_curK h.1

theorem peek_live {p : Pump} {inp : List RawItem} {o : Option Ev} {c : Cur} (h : Cur.peek (.live p inp) = .ok o c) :
    ∃ p' inp', c = .live p' inp' :=
  live_of_le (by have := peek_le (.live p inp); rwa [h] at this)

theorem next_live {p : Pump} {inp : List RawItem} {o : Option Ev} {c : Cur} (h : Cur.next (.live p inp) = .ok o c) :
    ∃ p' inp', c = .live p' inp' :=
  live_of_le (by have := next_le (.live p inp); rwa [h] at this)

theorem deser_live {fuel : Nat} {cfg : Cfg} {ty : Ty} {ik k : Bool} {p : Pump} {inp : List RawItem} {v : Val} {c : Cur}
    (h : deser fuel cfg ty ik k (.live p inp) = .ok v c) : ∃ p' inp', c = .live p' inp' :=
  live_of_le (by have := (allLe fuel).deser cfg ty ik k (.live p inp); rwa [h] at this)

end SaphyrVerif.Lemmas.C11

namespace SaphyrVerif.Lemmas.C11T
open SaphyrVerif SaphyrVerif.Scalars SaphyrVerif.Pump SaphyrVerif.De SaphyrVerif.Entry

def evIsNull : Ev → Bool
  | .scalar v _ _ st _ _ => scalarIsNullish v st
  | _ => false

theorem evIsNull_scalar {e : Ev} (h : evIsNull e = true) : ∃ v tg rt st a l, e = .scalar v tg rt st a l := by
  cases e with
  | scalar v tg rt st a l => exact ⟨v, tg, rt, st, a, l, rfl⟩
  | _ => cases h

theorem multiLoop_open (cfg : Cfg) (ty : Ty) {c d1 : Cur} {e : Ev} (hpk : c.peek = .ok (some e) d1)
    (hopen : Lemmas.C05.Ev.isOpen e = true) (m : Nat) (acc : List Val) :
    multiLoop cfg ty (m + 1) c acc =
      if evIsNull e then
        match d1.next with
        | .err e _ => .error e
        | .ok _ c => multiLoop cfg ty m c acc
      else
        match deser (fuelFor 100000) cfg ty false false d1 with
        | .err e _ => .error e
        | .ok v c => multiLoop cfg ty m c (acc ++ [v]) := by
  simp only [multiLoop, hpk]
  cases e <;> first | rfl | simp [Lemmas.C05.Ev.isOpen] at hopen

/-- without fuel the batch loop fails whatever cursor and values it is given: what holds of every round with fuel to
spare holds for every fuel, the fuel counted down with truncated subtraction -/
theorem multiLoop_pred {cfg : Cfg} {ty : Ty} {c c' : Cur} {f : List Val → List Val}
    (h : ∀ m acc, multiLoop cfg ty (m + 1) c acc = multiLoop cfg ty m c' (f acc)) :
    ∀ fuel acc, multiLoop cfg ty fuel c acc = multiLoop cfg ty (fuel - 1) c' (f acc)
  | 0, _ => rfl
  | m + 1, acc => h m acc

theorem multiLoop_fails {cfg : Cfg} {ty : Ty} {c : Cur}
    (h : ∀ m acc, ∃ e, multiLoop cfg ty (m + 1) c acc = .error e) :
    ∀ fuel acc, ∃ e, multiLoop cfg ty fuel c acc = .error e
  | 0, _ => ⟨_, rfl⟩
  | m + 1, acc => h m acc

end SaphyrVerif.Lemmas.C11T

namespace SaphyrVerif.Lemmas.C11B
open SaphyrVerif SaphyrVerif.Scalars SaphyrVerif.Pump SaphyrVerif.De SaphyrVerif.Entry
open SaphyrVerif.Lemmas.C11T (evIsNull)

theorem iterLoop_seqEnd (cfg : Cfg) (ty : Ty) {p p1 : Pump} {inp inp1 : List RawItem} {l : Loc}
    (hpk : Cur.peek (.live p inp) = .ok (some (.seqEnd l)) (.live p1 inp1)) (m : Nat) (acc : List (Except DErr Val)) :
    iterLoop cfg ty (m + 1) p inp acc =
      (let (found, p, inp) := Pump.skipToNextDocument p1 inp1
       if found then iterLoop cfg ty m p inp (acc ++ [.error ⟨"UnexpectedSequenceEnd", l, 0⟩])
       else acc ++ [.error ⟨"UnexpectedSequenceEnd", l, 0⟩]) := by
  simp only [iterLoop, hpk]

theorem iterLoop_mapEnd (cfg : Cfg) (ty : Ty) {p p1 : Pump} {inp inp1 : List RawItem} {l : Loc}
    (hpk : Cur.peek (.live p inp) = .ok (some (.mapEnd l)) (.live p1 inp1)) (m : Nat) (acc : List (Except DErr Val)) :
    iterLoop cfg ty (m + 1) p inp acc =
      (let (found, p, inp) := Pump.skipToNextDocument p1 inp1
       if found then iterLoop cfg ty m p inp (acc ++ [.error ⟨"UnexpectedMappingEnd", l, 0⟩])
       else acc ++ [.error ⟨"UnexpectedMappingEnd", l, 0⟩]) := by
  simp only [iterLoop, hpk]

theorem iterLoop_open (cfg : Cfg) (ty : Ty) {p : Pump} {inp : List RawItem} {e : Ev} {d1 : Cur}
    (hpk : Cur.peek (.live p inp) = .ok (some e) d1) (hopen : Lemmas.C05.Ev.isOpen e = true) (m : Nat)
    (acc : List (Except DErr Val)) :
    iterLoop cfg ty (m + 1) p inp acc =
      (if evIsNull e then
        match d1.next with
        | .ok _ (.live p inp) => iterLoop cfg ty m p inp acc
        | .err e _ => acc ++ [.error e]
        | _ => acc
      else
        match deser (fuelFor 100000) cfg ty false false d1 with
        | .ok v (.live p inp) => iterLoop cfg ty m p inp (acc ++ [.ok v])
        | .err e (.live p inp) =>
          let (found, p, inp) := Pump.skipToNextDocument p inp
          if found then iterLoop cfg ty m p inp (acc ++ [.error e]) else acc ++ [.error e]
        | _ => acc) := by
  simp only [iterLoop, hpk]
  cases e <;> first | rfl | simp [Lemmas.C05.Ev.isOpen] at hopen

end SaphyrVerif.Lemmas.C11B

namespace SaphyrVerif.Lemmas.C11
open SaphyrVerif SaphyrVerif.Scalars SaphyrVerif.Pump SaphyrVerif.De SaphyrVerif.Entry
open SaphyrVerif.Lemmas.C11T (evIsNull multiLoop_open)

/-- one round of a SUCCESSFUL batch run from a live cursor, the only walk through the body of `multiLoop` for such
runs -/
theorem multiLoop_ok_round (cfg : Cfg) (ty : Ty) {n : Nat} {p : Pump} {inp : List RawItem} {acc vs : List Val}
    (h : multiLoop cfg ty (n + 1) (.live p inp) acc = .ok vs) :
    ∃ o p1 inp1, Cur.peek (.live p inp) = .ok o (.live p1 inp1) ∧
      match o with
      | none => finishCur (.live p1 inp1) = none ∧ vs = acc
      | some ev => Lemmas.C05.Ev.isOpen ev = true ∧
        ((evIsNull ev = true ∧ ∃ o2 p2 inp2, Cur.next (.live p1 inp1) = .ok o2 (.live p2 inp2) ∧
          multiLoop cfg ty n (.live p2 inp2) acc = .ok vs) ∨
         (evIsNull ev = false ∧ ∃ v p2 inp2,
          deser (fuelFor 100000) cfg ty false false (.live p1 inp1) = .ok v (.live p2 inp2) ∧
          multiLoop cfg ty n (.live p2 inp2) (acc ++ [v]) = .ok vs)) := by
  cases hpk : Cur.peek (.live p inp) with
  | err e c => simp [multiLoop, hpk] at h
  | ok o c =>
    obtain ⟨p1, inp1, rfl⟩ := peek_live hpk
    refine ⟨o, p1, inp1, rfl, ?_⟩
    cases o with
    | none =>
      simp only [multiLoop, hpk] at h
      cases hf : finishCur (.live p1 inp1) with
      | some e => rw [hf] at h; cases h
      | none => rw [hf] at h; exact ⟨rfl, (Except.ok.inj h).symm⟩
    | some ev =>
      by_cases hopen : Lemmas.C05.Ev.isOpen ev = true
      · rw [multiLoop_open cfg ty hpk hopen] at h
        refine ⟨hopen, ?_⟩
        by_cases hnull : evIsNull ev = true
        · simp only [hnull, if_true] at h
          cases hnx : Cur.next (.live p1 inp1) with
          | err e c2 => rw [hnx] at h; cases h
          | ok o2 c2 =>
            obtain ⟨p2, inp2, rfl⟩ := next_live hnx
            rw [hnx] at h
            exact .inl ⟨hnull, o2, p2, inp2, rfl, h⟩
        · simp only [hnull, if_false, Bool.false_eq_true] at h
          cases hd : deser (fuelFor 100000) cfg ty false false (.live p1 inp1) with
          | err e c2 => rw [hd] at h; cases h
          | ok v c2 =>
            obtain ⟨p2, inp2, rfl⟩ := deser_live hd
            rw [hd] at h
            exact .inr ⟨by simpa using hnull, v, p2, inp2, rfl, h⟩
      · -- a container end is an error
        cases ev <;> simp [Lemmas.C05.Ev.isOpen] at hopen <;> simp [multiLoop, hpk] at h

/-- lock-step: a successful batch run and the iterator perform the same peeks, skips and `deser` calls -/
theorem multi_iter (cfg : Cfg) (ty : Ty) : ∀ (fuel : Nat) (p : Pump) (inp : List RawItem) (acc vs : List Val),
    multiLoop cfg ty fuel (.live p inp) acc = .ok vs →
    iterLoop cfg ty fuel p inp (acc.map .ok) = vs.map .ok := by
  intro fuel
  induction fuel with
  | zero => intro p inp acc vs h; simp [multiLoop] at h
  | succ n ih =>
    intro p inp acc vs h
    obtain ⟨o, p1, inp1, hpk, hcase⟩ := multiLoop_ok_round cfg ty h
    cases o with
    | none =>
      obtain ⟨hf, rfl⟩ := hcase
      simp only [iterLoop, hpk, hf]
    | some ev =>
      obtain ⟨hopen, hcase⟩ := hcase
      rw [Lemmas.C11B.iterLoop_open cfg ty hpk hopen]
      rcases hcase with ⟨hnull, o2, p2, inp2, hnx, hrec⟩ | ⟨hnull, v, p2, inp2, hd, hrec⟩
      · simp only [hnull, if_true, hnx]
        exact ih p2 inp2 acc vs hrec
      · simp only [hnull, Bool.false_eq_true, if_false, hd]
        simpa using ih p2 inp2 (acc ++ [v]) vs hrec

end SaphyrVerif.Lemmas.C11
