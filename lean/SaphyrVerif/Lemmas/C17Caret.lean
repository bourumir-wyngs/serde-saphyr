import SaphyrVerif.Lemmas.C17Prepare
/-!
C17: the marker position computed by `crop_window_text` inside a multi-line
window (facts about the fold of `iterState` over its lines), and how `prepare` is linked to the text and the location (`prepare_ok`, `prepare_safe`,
`prepare_caret`, from `prepare_eq` of `C17Prepare`).
-/
namespace SaphyrVerif.Lemmas.C17
open SaphyrVerif SaphyrVerif.Snippet
open SaphyrVerif.Spec.Snippet (isControl sanitizeChar clean takeRows dropRows row visibleLine shownLines)

theorem iterCrop_no_nl (doCrop : Bool) (l r : Nat) (line : List Char) (h : '\n' ∉ line) :
    '\n' ∉ (iterCrop doCrop l r line).1 := by
  unfold iterCrop
  cases doCrop with
  | false => exact h
  | true => exact cropLinePure_no_nl _ _ _ h

theorem iterState_out (erow : Nat) (doCrop : Bool) (l r ls le : Nat) (st : CwtState) (pre : List Char) (b : Bool)
    (hp : '\n' ∉ pre) : ∃ piece, (iterState erow doCrop l r ls le st pre b).out =
      st.out ++ piece ++ (if b then ['\n'] else []) ∧ '\n' ∉ piece :=
  ⟨_, rfl, iterCrop_no_nl doCrop l r _ (not_mem_stripCR pre hp)⟩

/-- rows other than the error row: all after it, or all before it -/
theorem cwt_skip (erow : Nat) (doCrop : Bool) (l r ls le : Nat) :
    ∀ (s : List Char) (st : CwtState), (erow < st.row ∨ st.row + shownLines s ≤ erow) →
      (foldLines (iterState erow doCrop l r ls le) st s).newStart = st.newStart ∧
      (foldLines (iterState erow doCrop l r ls le) st s).newEnd = st.newEnd ∧
      (foldLines (iterState erow doCrop l r ls le) st s).rebased = st.rebased ∧
      (foldLines (iterState erow doCrop l r ls le) st s).row = st.row + shownLines s ∧
      (foldLines (iterState erow doCrop l r ls le) st s).oldPos = st.oldPos + blen s := by
  intro s
  induction s using lines_induction with
  | nil => intro st _; exact ⟨rfl, rfl, rfl, rfl, rfl⟩
  | last pre hnp hne =>
    intro st h
    rw [shownLines_last pre hnp hne] at h ⊢
    rw [foldLines_last _ _ pre hnp hne]
    have hrow : st.row ≠ erow := by omega
    simp [iterState, hrow]
  | row pre post hnp ih =>
    intro st h
    rw [shownLines_row pre post hnp] at h ⊢
    have hrow : st.row ≠ erow := by omega
    have h1nl : utf8LenChar '\n' = 1 := by decide
    obtain ⟨a1, a2, a3, a4, a5⟩ := ih (iterState erow doCrop l r ls le st pre true) (by simp only [iterState]; omega)
    rw [foldLines_row _ _ pre post hnp, a1, a2, a3, a4, a5]
    simp [iterState, hrow, blen_append, blen_cons, h1nl]
    omega

/-- the error-row iteration: where the rebased span start lands inside the rendered line -/
theorem err_row_crop (doCrop : Bool) (l r col rad : Nat) (V : List Char) (a : Nat)
    (hn : V.length + 1 ≤ usizeMax) (hc : col ≤ usizeMax) (h1 : 1 ≤ col) (h2 : col ≤ V.length + 1)
    (hcrop : doCrop = true → l = max (col - rad) 1 ∧ r = satAdd col rad) :
    ∃ lead j rr, (lead = [] ∨ lead = [ellipsis]) ∧
      (iterCrop doCrop l r V).1 = (lead ++ (V.take (col - 1)).drop j) ++ rr ∧
      min (a + (iterCrop doCrop l r V).2.prefixBytes +
            (min (blen (V.take (col - 1))) (blen V) - (iterCrop doCrop l r V).2.startByte))
          (a + blen (iterCrop doCrop l r V).1) = a + blen (lead ++ (V.take (col - 1)).drop j) ∧
      rr.head? = V[col - 1]? := by
  have hle := blen_take_le V (col - 1)
  have hmin : min (blen (V.take (col - 1))) (blen V) = blen (V.take (col - 1)) := Nat.min_eq_left hle
  rw [hmin]
  cases doCrop with
  | false =>
    refine ⟨[], 0, V.drop (col - 1), .inl rfl, ?_, ?_, ?_⟩
    · simp [iterCrop]
    · simp only [iterCrop, Bool.false_eq_true, if_false, List.nil_append, List.drop_zero]
      omega
    · rw [List.head?_drop]
  | true =>
    obtain ⟨hl, hr⟩ := hcrop rfl
    have := caret_line V col rad hn hc h1 h2
    simp only [] at this
    obtain ⟨lead, j, rr, h3, h4, h5, h6⟩ := this
    refine ⟨lead, j, rr, h3, ?_, ?_, h6⟩
    · simp only [iterCrop, if_true]; rw [hl, hr]; exact h4
    · simp only [iterCrop, if_true]
      rw [hl, hr, h5]
      omega

/-- (marker inside a window) the fold of `crop_window_text` over `R ++ body ++ T` — complete rows `R` that end right
before the error row, the error row `body`, the rest `T` — rebases the span start to a character boundary of the new
text that lies in the rendered error row, after as many line breaks as `R` has, right before the character of the
reported column -/
theorem cwt_caret (erow : Nat) (doCrop : Bool) (l r ls le col rad : Nat) (hc : col ≤ usizeMax)
    (hcrop : doCrop = true → l = max (col - rad) 1 ∧ r = satAdd col rad)
    (st : CwtState) (R body T : List Char)
    (hrow : st.row + R.count '\n' = erow) (hR : R = [] ∨ R.getLast? = some '\n')
    (hnb : '\n' ∉ body) (hT : T = [] ∨ ∃ post, T = '\n' :: post) (hne : body ++ T ≠ [])
    (hlen : (stripCR body).length + 1 ≤ usizeMax) (h1 : 1 ≤ col) (h2 : col ≤ (stripCR body).length + 1)
    (hls : ls = st.oldPos + blen R + blen ((stripCR body).take (col - 1)))
    (F : CwtState) (hF : F = foldLines (iterState erow doCrop l r ls le) st (R ++ (body ++ T))) :
    ∃ Q lead j rest', F.rebased = true ∧
      F.out = st.out ++ Q ++ (lead ++ ((stripCR body).take (col - 1)).drop j) ++ rest' ∧
      F.newStart = blen st.out + blen Q + blen (lead ++ ((stripCR body).take (col - 1)).drop j) ∧
      Q.count '\n' = R.count '\n' ∧ (Q = [] ∨ Q.getLast? = some '\n') ∧ (lead = [] ∨ lead = [ellipsis]) ∧
      (rest'.head? = (stripCR body)[col - 1]? ∨
        ((stripCR body)[col - 1]? = none ∧ (rest' = [] ∨ rest'.head? = some '\n'))) := by
  subst hF
  have hout := iterState_out erow doCrop l r ls le
  -- the rows before the error row
  rw [foldLines_append _ _ R _ hR]
  obtain ⟨_, _, _, s4, s5⟩ := cwt_skip erow doCrop l r ls le R st (.inr (by rw [shownLines_complete R hR]; omega))
  obtain ⟨Q, q1, q2, q3, q4⟩ := fold_lines_out (iterState erow doCrop l r ls le) CwtState.out hout R st
  generalize foldLines (iterState erow doCrop l r ls le) st R = st1 at s4 s5 q1
  have hrow1 : st1.row = erow := by rw [s4, shownLines_complete R hR]; exact hrow
  have hoff : ls - st1.oldPos = blen ((stripCR body).take (col - 1)) := by rw [hls, s5]; omega
  obtain ⟨lead, j, rr, hl1, hl2, hl3, hl4⟩ := err_row_crop doCrop l r col rad (stripCR body) (blen st1.out)
    hlen hc h1 h2 hcrop
  have hbl : blen st1.out = blen st.out + blen Q := by rw [q1, blen_append]
  -- the error row, with its line break `b` if `T` is not empty, and the rows `post` after it
  obtain ⟨b, post, hcuts, hb⟩ : ∃ b post, foldLines (iterState erow doCrop l r ls le) st1 (body ++ T) =
      foldLines (iterState erow doCrop l r ls le) (iterState erow doCrop l r ls le st1 body b) post ∧
      (b = false → post = []) := by
    rcases hT with hT | ⟨post, hT⟩
    · subst hT
      rw [List.append_nil] at hne ⊢
      exact ⟨false, [], foldLines_last _ _ body hnb hne, fun _ => rfl⟩
    · subst hT
      exact ⟨true, post, foldLines_row _ _ body post hnb, fun h => (by cases h)⟩
  rw [hcuts]
  obtain ⟨t1, _, t3, _, _⟩ := cwt_skip erow doCrop l r ls le post
    (iterState erow doCrop l r ls le st1 body b) (.inl (by simp only [iterState]; omega))
  obtain ⟨more, m1, _, m3, _⟩ := fold_lines_out (iterState erow doCrop l r ls le) CwtState.out hout post
    (iterState erow doCrop l r ls le st1 body b)
  refine ⟨Q, lead, j, rr ++ (if b then ['\n'] else []) ++ more, ?_, ?_, ?_, q2,
    hR.imp q3 q4, hl1, ?_⟩
  · rw [t3]; simp [iterState, hrow1]
  · rw [m1]
    simp only [iterState]
    rw [hl2, q1]; simp
  · rw [t1]
    simp only [iterState, hrow1, if_true, hoff]
    rw [hl3, hbl]
  · cases rr with
    | cons x xs => exact .inl (by rw [← hl4]; rfl)
    | nil =>
      refine .inr ⟨by rw [← hl4]; rfl, ?_⟩
      cases b with
      | false => exact .inl (by rw [m3 (hb rfl)]; rfl)
      | true => exact .inr rfl

theorem sanitize_ellipsis : Spec.Snippet.sanitize [ellipsis] = [ellipsis] := by decide

theorem sanitize_lead (lead : List Char) (h : lead = [] ∨ lead = [ellipsis]) : Spec.Snippet.sanitize lead = lead := by
  rcases h with h | h
  · rw [h]; rfl
  · rw [h]; exact sanitize_ellipsis

/-- what the marker computation of `crop_window_text` yields for the error row with visible line `V`: a row of the window
that the loop visits, or (`V = []`, everything but `Q` empty) the empty line after the window's final line break, which
it never visits -/
structure CaretOk (V : List Char) (col k : Nat) (out : List Char) (ns : Nat) : Prop where
  ex : ∃ Q lead j rest', out = (Q ++ (lead ++ Spec.Snippet.sanitize ((V.take (col - 1)).drop j))) ++ rest' ∧
      ns = blen (Q ++ (lead ++ Spec.Snippet.sanitize ((V.take (col - 1)).drop j))) ∧
      Q.count '\n' = k ∧ (Q = [] ∨ Q.getLast? = some '\n') ∧ (lead = [] ∨ lead = [ellipsis]) ∧
      (rest'.head? = (V[col - 1]?).map sanitizeChar ∨
        (V[col - 1]? = none ∧ (rest' = [] ∨ rest'.head? = some '\n')))

/-- the window text is `k` complete rows `R`, the error row `body`, the rest `T`; `body ++ T = []` is the error row after
the final line break -/
theorem cropWindowText_caret (w : List Char) (wsr col rad ls le k : Nat) (R body T : List Char)
    (hw : w.length + 1 ≤ usizeMax) (hc : col ≤ usizeMax)
    (hwp : w = R ++ (body ++ T)) (hcnt : R.count '\n' = k) (hR : R = [] ∨ R.getLast? = some '\n')
    (hnb : '\n' ∉ body) (hT : T = [] ∨ ∃ post, T = '\n' :: post) (hne : w ≠ [])
    (h1 : 1 ≤ col) (h2 : col ≤ (stripCR body).length + 1)
    (hls : ls = blen R + blen ((stripCR body).take (col - 1))) :
    ∃ out ns ne, cropWindowText w wsr (wsr + k) col rad ls le = .ok (out, ns, ne) ∧
      CaretOk (stripCR body) col k out ns := by
  by_cases hfast : rad = 0 ∧ ¬ (encode w).contains 0x0D = true ∧ isClean w = true
  · rw [cropWindowText_fast w wsr (wsr + k) col rad ls le hfast]
    have hcl : ∀ c ∈ w, isControl c = false := (clean_iff_forall w).mp (by rw [← isClean_eq]; exact hfast.2.2)
    -- a clean text has no CR
    have hnocr : stripCR body = body := by
      unfold stripCR
      rw [if_neg]
      intro hl
      exact absurd (hcl '\r' (by rw [hwp]; simp [List.mem_of_getLast? hl])) (by decide)
    rw [hnocr] at h2 hls ⊢
    have hsub : ∀ x : List Char, (∀ c ∈ x, c ∈ body) → Spec.Snippet.sanitize x = x := fun x hx =>
      sanitize_of_clean x ((clean_iff_forall x).mpr fun c hc => hcl c (by rw [hwp]; simp [hx c hc]))
    refine ⟨w, ls, le, rfl, ⟨R, [], 0, body.drop (col - 1) ++ T, ?_, ?_, hcnt, hR, .inl rfl, ?_⟩⟩
    · rw [hsub _ (fun c hc' => List.take_subset _ _ (List.drop_subset _ _ hc'))]
      simp only [List.nil_append, List.drop_zero]
      rw [hwp]
      conv => lhs; rw [← List.take_append_drop (col - 1) body]
      simp only [List.append_assoc]
    · rw [hsub _ (fun c hc' => List.take_subset _ _ (List.drop_subset _ _ hc'))]
      simp only [List.nil_append, List.drop_zero, blen_append]
      exact hls
    · by_cases hlt : col - 1 < body.length
      · left
        rw [List.head?_append, List.head?_drop, List.getElem?_eq_getElem hlt]
        simp only [Option.map_some, Option.some_or]
        congr 1
        exact (sanitizeChar_id _ (hcl _ (by rw [hwp]; simp))).symm
      · right
        refine ⟨List.getElem?_eq_none (by omega), ?_⟩
        rw [List.drop_eq_nil_of_le (by omega), List.nil_append]
        rcases hT with h | ⟨post, h⟩
        · exact .inl h
        · right; rw [h]; rfl
  · rw [cropWindowText_slow w wsr (wsr + k) col rad ls le hw hc hfast]
    by_cases hvis : body ++ T = []
    · -- the error row is the empty line after the window's final line break: the loop passes over all rows without
      -- rebasing (it never visits that line), and the span is put at the very end of the new text
      obtain ⟨rfl, rfl⟩ := List.append_eq_nil_iff.mp hvis
      rw [List.append_nil, List.append_nil] at hwp
      subst hwp
      have hlast := hR.resolve_left hne
      obtain ⟨_, _, s3, s4, _⟩ := cwt_skip (wsr + k) (rad != 0) (max (col - rad) 1) (satAdd col rad) ls le w
        ⟨0, wsr, [], ls, le, false⟩ (.inr (by rw [shownLines_complete w (.inr hlast), hcnt]; exact Nat.le_refl _))
      obtain ⟨Q, q1, q2, _, q4⟩ := fold_lines_out (iterState (wsr + k) (rad != 0) (max (col - rad) 1) (satAdd col rad)
        ls le) CwtState.out (iterState_out _ _ _ _ _ _) w ⟨0, wsr, [], ls, le, false⟩
      generalize foldLines (iterState (wsr + k) (rad != 0) (max (col - rad) 1) (satAdd col rad) ls le)
        ⟨0, wsr, [], ls, le, false⟩ w = st' at s3 s4 q1
      have hcond : ¬ st'.rebased = true ∧ w.getLast? = some '\n' ∧ st'.row = wsr + k :=
        ⟨by rw [s3]; simp, hlast, by rw [s4, shownLines_complete w (.inr hlast), hcnt]⟩
      have hQ : st'.out = Q := by rw [q1]; rfl
      have e : Spec.Snippet.sanitize Q ++ ([] ++ Spec.Snippet.sanitize (((stripCR []).take (col - 1)).drop 0)) =
          Spec.Snippet.sanitize st'.out := by
        rw [hQ, show stripCR [] = [] from rfl, List.take_nil, List.drop_nil]; exact List.append_nil _
      refine ⟨_, _, _, rfl, ⟨Spec.Snippet.sanitize Q, [], 0, [], by rw [e, List.append_nil], ?_,
        by rw [sanitize_count_nl, q2, hcnt], .inr (sanitize_getLast_nl Q (q4 hlast)), .inl rfl, .inr ⟨rfl, .inl rfl⟩⟩⟩
      rw [e, sanitize_blen]
      simp only [if_pos hcond, Nat.min_self]
    · obtain ⟨Q, lead, j, rest', q2, q3, q4, q5, q6, q7, q8⟩ :=
        cwt_caret (wsr + k) (rad != 0) (max (col - rad) 1) (satAdd col rad) ls le col rad hc (fun _ => ⟨rfl, rfl⟩)
          ⟨0, wsr, [], ls, le, false⟩ R body T (by rw [hcnt]) hR hnb hT hvis
          (by have h3 := stripCR_length_le body
              have h4 : body.length ≤ w.length := by rw [hwp]; simp only [List.length_append]; omega
              omega) h1 h2 (by simpa using hls) _ (by rw [← hwp])
      generalize foldLines (iterState (wsr + k) (rad != 0) (max (col - rad) 1) (satAdd col rad) ls le)
        ⟨0, wsr, [], ls, le, false⟩ w = st' at q2 q3 q4
      have hout : st'.out = (Q ++ (lead ++ ((stripCR body).take (col - 1)).drop j)) ++ rest' := by
        rw [q3]; simp
      have hns : st'.newStart = blen (Q ++ (lead ++ ((stripCR body).take (col - 1)).drop j)) := by
        rw [q4]; simp only [blen_append, blen_nil]; omega
      have hle' : st'.newStart ≤ blen st'.out := by
        rw [hns, hout]
        generalize Q ++ (lead ++ ((stripCR body).take (col - 1)).drop j) = X
        rw [blen_append]; omega
      refine ⟨_, _, _, rfl, ⟨Spec.Snippet.sanitize Q, lead, j, Spec.Snippet.sanitize rest', ?_, ?_, ?_, ?_, q7, ?_⟩⟩
      · rw [hout, sanitize_append, sanitize_append, sanitize_append, sanitize_lead lead q7]
      · simp only [q2, not_true_eq_false, false_and, if_false]
        rw [Nat.min_eq_left hle', hns]
        simp only [blen_append, sanitize_blen]
      · rw [sanitize_count_nl, q5, hcnt]
      · exact q6.imp (fun h => by rw [h]; rfl) (sanitize_getLast_nl Q)
      · rcases q8 with h | ⟨h, h'⟩
        · left; rw [sanitize_head, h]
        · exact .inr ⟨h, h'.imp (fun h' => by rw [h']; rfl) (fun h' => by rw [sanitize_head, h']; rfl)⟩

/-- the marker of a window: the span start `ls` is a character boundary of the window text `wt`, lies after exactly `k`
line breaks (in the row of the location), is preceded in that row by an optional ellipsis and a tail of the
sanitised characters of `line` before column `col`, and stands before the sanitised character of `line` in column
`col` (or at the end of the row for `col = len + 1`). The marker theorems of Props/C17 state this conjunction written out -/
def MarkerAt (wt : List Char) (ls k : Nat) (line : List Char) (col : Nat) : Prop :=
  ∃ pre rest, wt = pre ++ rest ∧ blen pre = ls ∧ pre.count '\n' = k ∧
    (rest.head? = (line[col - 1]?).map sanitizeChar ∨
      (line[col - 1]? = none ∧ (rest = [] ∨ rest.head? = some '\n'))) ∧
    (∃ Q lead j, pre = Q ++ (lead ++ Spec.Snippet.sanitize ((line.take (col - 1)).drop j)) ∧
      (Q = [] ∨ Q.getLast? = some '\n') ∧ (lead = [] ∨ lead = [ellipsis]))

/-- the marker of `crop_window_text` (`CaretOk`: so many line breaks before the error row) read as `MarkerAt` (so many
before the span start): nothing in the row before the marker is a line break -/
theorem CaretOk.marker {V : List Char} {col k : Nat} {out : List Char} {ns : Nat} (h : CaretOk V col k out ns)
    (hV : '\n' ∉ V) : MarkerAt out ns k V col := by
  obtain ⟨Q, lead, j, rest', c1, c2, c3, c4, c5, c6⟩ := h.ex
  refine ⟨_, rest', c1, c2.symm, ?_, c6, ⟨Q, lead, j, rfl, c4, c5⟩⟩
  have hz1 : lead.count '\n' = 0 := by
    rcases c5 with h0 | h0
    · rw [h0]; rfl
    · rw [h0]; decide
  have hz2 : (Spec.Snippet.sanitize ((V.take (col - 1)).drop j)).count '\n' = 0 := by
    rw [sanitize_count_nl]
    exact count_nl_zero_of_not_mem _ fun hm => hV (List.take_subset _ _ (List.drop_subset _ _ hm))
  rw [List.count_append, List.count_append, c3, hz1, hz2]; rfl

/-- the span of `prepare` relative to its window, in numbers: `a` bytes before the window, `rr` bytes of rows before the
error row, the span start `v` bytes into that row (`bb` bytes long, `tt` bytes follow), the span end `e` not before it -/
theorem span_in_window (a rr v bb tt e : Nat) (hv : v ≤ bb) (he : a + rr + v ≤ e) :
    min (a + rr + v - a) (rr + (bb + tt)) = rr + v ∧ rr + v ≤ min (e - a) (rr + (bb + tt)) := by
  omega

/-- (from the guards to the result) when the guards of `prepare` pass for row `rw_` of the text `text` (the input after
`normalize_line_breaks`), a window is produced — never a panic, never the fallback: its row is `rw_`, it has the facts of
`PreparedOk` (clean, span ordered and inside, at most `2·ctx+1` rows around `rw_`), and its span start is the marker of
the reported column in row `rw_` -/
theorem prepare_ok (text0 text : List Char) (hT : normBreaks text0 = text) (loc : Snippet.Loc) (m : Mapping) (r : Nat)
    (hlen : text0.length + 1 ≤ usizeMax) (hcol : loc.column ≤ usizeMax) (rw_ : Nat) (g : PrepareGuards text loc m rw_) :
    ∃ p, prepare text0 loc m r = .ok (some p) ∧ p.row = rw_ ∧ PreparedOk loc m p ∧
      MarkerAt p.windowText p.localStart (rw_ - p.windowStartRow) (visibleLine text rw_) loc.column := by
  obtain ⟨endB, ws, we, W, g6, heq⟩ := prepare_eq text0 text hT loc m r hlen rw_ g
  have hlen : text.length + 1 ≤ usizeMax := by rw [← hT, normBreaks_length]; exact hlen
  obtain ⟨_, hrel, hne, _, hr2, hcc⟩ := g
  obtain ⟨R, body, T, d1, d2, d3, d4, d5, d6, d7⟩ := window_rows_decomp text ws we rw_ W
  rw [d6] at g6 heq hcc ⊢
  have g2 := W.ws_le
  generalize hw : takeRows (we - (ws - 1)) (dropRows (ws - 1) text) = w at heq d1
  have hwlen : w.length + 1 ≤ usizeMax := by
    have := (window_infix (we - (ws - 1)) (ws - 1) text).length_le
    rw [hw] at this
    omega
  have hVb : blen ((stripCR body).take (loc.column - 1)) ≤ blen body :=
    Nat.le_trans (blen_take_le (stripCR body) (loc.column - 1)) (blen_le_of_infix (stripCR_prefix body).isInfix)
  have hrow : ws + (rw_ - ws) = rw_ := Nat.add_sub_cancel' g2
  -- the span relative to the window: it starts in the error row, `blen R` bytes into the window
  rw [d7, blen_append] at g6
  have hwb : blen w = blen R + (blen body + blen T) := by rw [d1, blen_append, blen_append]
  obtain ⟨hls, hle⟩ := span_in_window (blen (takeRows (ws - 1) text)) (blen R)
    (blen ((stripCR body).take (loc.column - 1))) (blen body) (blen T) endB hVb g6
  rw [d7, blen_append, hwb, hls] at heq
  rw [← hwb] at heq hle
  obtain ⟨out, ns, ne, hcw, hclean, hspan⟩ := cropWindowText_safe w ws rw_ loc.column r
    (blen R + blen ((stripCR body).take (loc.column - 1))) (min (endB - blen (takeRows (ws - 1) text)) (blen w))
    hwlen hcol
  have hsp := hspan ⟨hle, Nat.min_le_right _ _⟩
  rw [hcw] at heq
  refine ⟨_, heq, rfl, ⟨hclean, hsp.1, hsp.2, hrel, W.ws_pos, g2, W.le_we, W.height, rfl⟩, ?_⟩
  show MarkerAt out ns (rw_ - ws) (stripCR body) loc.column
  obtain ⟨out', ns', ne', hcw', hcar⟩ := cropWindowText_caret w ws loc.column r
    (blen R + blen ((stripCR body).take (loc.column - 1)))
    (min (endB - blen (takeRows (ws - 1) text)) (blen w)) (rw_ - ws) R body T hwlen hcol d1 d2 d3 d4 d5
    (fun h0 => window_ne_nil text hne ws we rw_ W (hw.trans h0)) hcc.1 (Nat.le_add_of_sub_le hcc.2) rfl
  rw [hrow, hcw] at hcw'
  obtain ⟨rfl, rfl, _⟩ : out = out' ∧ ns = ns' ∧ ne = ne' := by simpa using hcw'
  exact hcar.marker (not_mem_stripCR body d4)

/-- (safety) the computation shared by `Snippet::fmt_or_fallback` and the crate's own window renderer
never panics; when it yields a window, the window text is terminal-clean, the span is ordered and lies
inside it, the window is at most `2·ctx+1` rows high and contains the row of the location -/
theorem prepare_safe (text : List Char) (loc : Snippet.Loc) (m : Mapping) (r : Nat)
    (hlen : text.length + 1 ≤ usizeMax) (hcol : loc.column ≤ usizeMax) :
    ∃ res, prepare text loc m r = .ok res ∧ ∀ p, res = some p → PreparedOk loc m p := by
  rcases prepare_guards text _ rfl loc m r with h | ⟨rw_, g⟩
  · exact ⟨none, h, fun p hp => by cases hp⟩
  · obtain ⟨p, h, _, ok, _⟩ := prepare_ok text _ rfl loc m r hlen hcol rw_ g
    exact ⟨some p, h, fun p' hp => by cases hp; exact ok⟩

/-- the span start computed by `prepare` is a character boundary of the window text, lies in the row
of the location (after `row − window_start_row` line breaks), and the character there is the sanitised
character in the reported column (end of line for `column = len + 1`) of the line of the text
under the YAML rule (the visible line of the normalised text) -/
theorem prepare_caret (text : List Char) (loc : Snippet.Loc) (m : Mapping) (r : Nat)
    (hlen : text.length + 1 ≤ usizeMax) (hcol : loc.column ≤ usizeMax) (p : Prepared)
    (h : prepare text loc m r = .ok (some p)) :
    MarkerAt p.windowText p.localStart (p.row - p.windowStartRow) (visibleLine (normBreaks text) p.row) loc.column := by
  rcases prepare_guards text _ rfl loc m r with h0 | ⟨rw_, g⟩
  · rw [h0] at h; cases h
  · obtain ⟨p', h', hrow, _, mk⟩ := prepare_ok text _ rfl loc m r hlen hcol rw_ g
    rw [h'] at h; cases h
    rw [hrow]; exact mk

end SaphyrVerif.Lemmas.C17
