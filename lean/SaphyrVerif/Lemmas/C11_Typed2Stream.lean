import SaphyrVerif.Lemmas.C11_Typed2Rounds
/-!
Typed multi-document theorems (C11): the streaming iterator over a whole stream, block by block.  `BlockIter` is the
contract of a block of consecutive documents (what the iterator yields for it from any document boundary, whatever
follows; what is known of the items is a predicate, so that a block may know them exactly or up to error payloads);
contracts of consecutive blocks compose (`BlockIter.append`, `.stop`).  `DocIter` is the contract of ONE document up to
error payloads (`DocIter.served`: a served document, rounds of `docRounds`); `iter_stream` folds a list of them into
the contract of the stream, the results combined by `mixItems`.  Streams of served documents (`DocsServe`) get their
contracts from the rounds computed on the replay cursors, `docSpec` / `streamSpec` (`served_contract`); `Fits` bounds
the rounds of each document so that the loop fuel of the model covers them (`fits_contract`, `DocsIter.rounds_le`).
`pumpOf` is the pump of the `read*` iterators; `start_boundaryB` brings it to the first document boundary.
-/
namespace SaphyrVerif.Lemmas.C11B
open SaphyrVerif SaphyrVerif.Scalars SaphyrVerif.Pump SaphyrVerif.De SaphyrVerif.Spec SaphyrVerif.Budget SaphyrVerif.Entry
open SaphyrVerif.Lemmas.C11 (Doc)
open SaphyrVerif.Props.C11 (docsStream)
open SaphyrVerif.Lemmas.C11T (DocOk peek_congr Item sameItems evIsNull docsStream_cons)

def docSpec (cfg : Cfg) (ty : Ty) (N : Nat) (evs : List Ev) : Option Rounds :=
  docRounds cfg ty N (.replay evs 0 none)

def DocsServe (L : AliasLimits) (ob : Option Limits) : List Doc → List (List Ev) → Prop
  | [], [] => True
  | d :: ds, evs :: evss => DocServe L ob d evs ∧ DocsServe L ob ds evss
  | _, _ => False

/-- the items of a stream and the number of rounds, document by document (`none`: some document needs more than
`N` rounds) -/
def streamSpec (cfg : Cfg) (ty : Ty) (N : Nat) : List (List Ev) → Option (List Item × Nat)
  | [] => some ([], 0)
  | evs :: rest =>
    match docSpec cfg ty N evs, streamSpec cfg ty N rest with
    | some r, some (its, k) => some (r.1 ++ its, r.2.2 + k)
    | _, _ => none

def DocIter (L : AliasLimits) (ob : Option Limits) (cfg : Cfg) (ty : Ty) (d : Doc) (r : Rounds) : Prop :=
  ∀ (q : Pump) (X : List RawItem), BoundaryB L ob q → q.look = none →
    Yields L ob cfg ty X q (.ev (.docStart d.2.1) d.2.2.1 :: (itemsOf d.1 ++ .ev .docEnd d.2.2.2 :: X)) r

theorem DocIter.served {L : AliasLimits} {ob : Option Limits} {cfg : Cfg} {ty : Ty} {d : Doc} {evs : List Ev}
    (h : DocServe L ob d evs) {N : Nat} {r : Rounds} (hr : docSpec cfg ty N evs = some r) :
    DocIter L ob cfg ty d (r.1, true, r.2.2) := by
  intro q X hq hl
  obtain ⟨p, inp, hs, hpk⟩ := doc_startB h hq hl X
  exact (iter_rounds d.2.2.2 X cfg ty N _ _ _ r hs hr).congr hpk

/-- the contract of a BLOCK of consecutive documents: from any document boundary, whatever follows (`X`), the iterator
yields within `k` rounds some items with `P` and leaves the block as `Left` says.  `P` is what is known of the items:
`sameItems · r.1` for a served document (the frame relation loses error payloads), `· = r.1` for a document in which
the pump fails (lock-step).  The third hypothesis concerns the empty block in front of the end of the stream only:
before any event of a document the pump would synthesize a null document there. -/
def BlockIter (L : AliasLimits) (ob : Option Limits) (cfg : Cfg) (ty : Ty) (ds : List Doc) (P : List Item → Prop)
    (go : Bool) (k : Nat) : Prop :=
  ∀ (q : Pump) (X : List RawItem), BoundaryB L ob q → q.look = none →
    (ds = [] → ∀ l1, X = [.ev .streamEnd l1] → q.producedAny = true ∧ FinOk q) →
    ∃ its, P its ∧ Left L ob cfg ty X (fun m acc => iterLoop cfg ty (m + k) q (docsStream ds ++ X) acc) its go

theorem docsStream_append (ds1 ds2 : List Doc) : docsStream (ds1 ++ ds2) = docsStream ds1 ++ docsStream ds2 := by
  induction ds1 with
  | nil => rfl
  | cons d ds1 ih =>
    obtain ⟨t, ex, ls, le⟩ := d
    simp [docsStream, ih]

section
variable {L : AliasLimits} {ob : Option Limits} {cfg : Cfg} {ty : Ty} {ds ds2 : List Doc} {P P2 : List Item → Prop}
  {go : Bool} {k k2 : Nat}

theorem BlockIter.nil : BlockIter L ob cfg ty [] (· = []) true 0 :=
  fun _ _ hq hl hp => ⟨[], rfl, Left.of_boundary hq hl (hp rfl) (fun m acc => by simp [docsStream])⟩

theorem DocIter.block {d : Doc} {r : Rounds} (h : DocIter L ob cfg ty d r) :
    BlockIter L ob cfg ty [d] (sameItems · r.1) r.2.1 r.2.2 := by
  intro q X hq hl _
  obtain ⟨t, ex, ls, le⟩ := d
  rw [docsStream_cons]
  exact h q X hq hl

theorem BlockIter.mono {Q : List Item → Prop} (h : BlockIter L ob cfg ty ds P go k) (hPQ : ∀ its, P its → Q its) :
    BlockIter L ob cfg ty ds Q go k := by
  intro q X hq hl hp
  obtain ⟨its, hP, hleft⟩ := h q X hq hl hp
  exact ⟨its, hPQ its hP, hleft⟩

/-- a block that finishes the iterator: what follows it is not read -/
theorem BlockIter.stop (h : BlockIter L ob cfg ty ds P false k) (hne : ds ≠ []) (ds2 : List Doc) :
    BlockIter L ob cfg ty (ds ++ ds2) P false k := by
  intro q X hq hl _
  rw [docsStream_append, List.append_assoc]
  exact h q _ hq hl (fun h0 => absurd h0 hne)

/-- the second block starts at the boundary the first is left at -/
theorem BlockIter.append (h : BlockIter L ob cfg ty ds P true k) (h2 : BlockIter L ob cfg ty ds2 P2 go k2)
    (hne : ds2 ≠ []) :
    BlockIter L ob cfg ty (ds ++ ds2) (fun its => ∃ a b, its = a ++ b ∧ P a ∧ P2 b) go (k + k2) := by
  intro q X hq hl _
  obtain ⟨d2, ds2, rfl⟩ := List.exists_cons_of_ne_nil hne
  obtain ⟨t2, ex2, ls2, le2⟩ := d2
  have hX := docsStream_cons t2 ex2 ls2 le2 ds2 X
  obtain ⟨a, ha, hleft⟩ := h q (docsStream ((t2, ex2, ls2, le2) :: ds2) ++ X) hq hl
    (fun _ _ h0 => by rw [hX] at h0; cases h0)
  obtain ⟨q', hq', hl', hF⟩ := hleft.2 ex2 ls2 _ hX
  obtain ⟨b, hb, hleft2⟩ := h2 q' X hq' hl' (fun h0 => by cases h0)
  refine ⟨a ++ b, ⟨a, b, rfl, ha, hb⟩, hleft2.push a fun m acc => ?_⟩
  rw [docsStream_append, List.append_assoc, show m + (k + k2) = (m + k2) + k by omega]
  exact hF _ acc

end

inductive DocsIter (L : AliasLimits) (ob : Option Limits) (cfg : Cfg) (ty : Ty) : List Doc → List Rounds → Prop
  | nil : DocsIter L ob cfg ty [] []
  | cons {d : Doc} {r : Rounds} {ds : List Doc} {rs : List Rounds} :
      DocIter L ob cfg ty d r → DocsIter L ob cfg ty ds rs → DocsIter L ob cfg ty (d :: ds) (r :: rs)

/-- the items of the stream: document by document, up to the first document behind which the iterator does not go
on; and the number of rounds -/
def mixItems : List Rounds → List Item × Nat
  | [] => ([], 0)
  | r :: rs => if r.2.1 then (r.1 ++ (mixItems rs).1, r.2.2 + (mixItems rs).2) else (r.1, r.2.2)

theorem mixItems_all : ∀ (rs : List Rounds), (∀ r ∈ rs.dropLast, r.2.1 = true) →
    (mixItems rs).1 = (rs.map (·.1)).flatten
  | [], _ => rfl
  | [r], _ => by
    simp only [mixItems]
    split <;> simp
  | r :: r2 :: rs, h => by
    have h1 : r.2.1 = true := h r (by simp [List.dropLast])
    have h2 := mixItems_all (r2 :: rs) (fun x hx => h x (by
      simp only [List.dropLast_cons_cons] at hx ⊢
      exact List.mem_cons_of_mem _ hx))
    simp only [mixItems, h1, if_true] at h2 ⊢
    rw [h2]
    simp

def allGo (rs : List Rounds) : Bool := rs.all fun r => r.2.1

theorem iter_stream {L : AliasLimits} {ob : Option Limits} {cfg : Cfg} {ty : Ty} {ds : List Doc} {rs : List Rounds}
    (h : DocsIter L ob cfg ty ds rs) :
    BlockIter L ob cfg ty ds (sameItems · (mixItems rs).1) (allGo rs) (mixItems rs).2 := by
  induction h with
  | nil => exact BlockIter.nil.mono fun _ h => h ▸ .nil
  | @cons d r ds rs hd hrest ih =>
    have hb := hd.block
    cases hgo : r.2.1 with
    | false =>
      rw [hgo] at hb
      simp only [mixItems, allGo, hgo, List.all_cons, Bool.false_and, Bool.false_eq_true, if_false]
      exact hb.stop (by simp) ds
    | true =>
      rw [hgo] at hb
      simp only [mixItems, allGo, hgo, List.all_cons, Bool.true_and, if_true]
      cases hrest with
      | nil => simpa [mixItems] using hb
      | cons _ _ =>
        exact (hb.append ih (by simp)).mono fun _ ⟨_, _, hab, h1, h2⟩ => hab ▸ sameItems.append h1 h2

theorem served_contract {L : AliasLimits} {ob : Option Limits} {cfg : Cfg} {ty : Ty} {N : Nat} :
    ∀ {ds : List Doc} {evss : List (List Ev)} {its : List Item} {k : Nat}, DocsServe L ob ds evss →
      streamSpec cfg ty N evss = some (its, k) →
      ∃ rs, DocsIter L ob cfg ty ds rs ∧ mixItems rs = (its, k) ∧ allGo rs = true
  | [], [], _, _, _, h => by cases h; exact ⟨[], .nil, rfl, rfl⟩
  | d :: ds, evs :: evss, its, k, hs, h => by
    simp only [streamSpec] at h
    cases hr : docSpec cfg ty N evs with
    | none => rw [hr] at h; cases h
    | some r =>
      cases hr2 : streamSpec cfg ty N evss with
      | none => rw [hr, hr2] at h; cases h
      | some r2 =>
        rw [hr, hr2] at h
        cases h
        obtain ⟨rs, hrs, hm, hg⟩ := served_contract hs.2 hr2
        exact ⟨(r.1, true, r.2.2) :: rs, .cons (DocIter.served hs.1 hr) hrs, by simp [mixItems, hm],
          by simpa [allGo] using hg⟩
  | [], _ :: _, _, _, hs, _ => hs.elim
  | _ :: _, [], _, _, hs, _ => hs.elim

/-- the pump of the `read*` iterators: alias limits `L`, and the per-document enforcer `ob` (if any) -/
def pumpOf (L : AliasLimits) (ob : Option Limits) : Pump :=
  { limits := L, budget := ob.map fun lim => Enf.new lim true }

theorem start_boundaryB (L : AliasLimits) (ob : Option Limits) (hmax : ∀ lim, ob = some lim → 1 ≤ lim.maxEvents)
    (l0 : Loc) (X : List RawItem) :
    ∃ q, BoundaryB L ob q ∧ q.look = none ∧
      Cur.peek (.live (pumpOf L ob) (.ev .streamStart l0 :: X)) = Cur.peek (.live q X) := by
  have hst : BudStat ob (pumpOf L ob).budget := by
    cases ob with
    | none => trivial
    | some lim => exact enfStat_new lim (hmax lim rfl)
  refine ⟨{ pumpOf L ob with lastLoc := l0 }, ⟨hst, rfl, rfl, rfl, rfl, rfl, rfl, rfl, rfl⟩, rfl, peek_congr rfl rfl ?_⟩
  -- the marker is not charged
  rw [nextImpl_of_inject_nil rfl, nextImpl_of_inject_nil rfl, parserLoop_item (budgetStep_frame hst rfl) .streamStart]
  rfl

/-- every document needs at most (number of its parser items) + 2 rounds -/
def Fits (cfg : Cfg) (ty : Ty) : List Doc → List (List Ev) → Prop
  | [], [] => True
  | d :: ds, evs :: evss => (∃ r, docSpec cfg ty ((itemsOf d.1).length + 2) evs = some r) ∧ Fits cfg ty ds evss
  | _, _ => False

theorem docsStream_length_cons (d : Doc) (ds : List Doc) :
    (docsStream (d :: ds)).length = (itemsOf d.1).length + 2 + (docsStream ds).length := by
  obtain ⟨t, ex, ls, le⟩ := d
  simp [docsStream]
  omega

theorem docSpec_of_perDoc (cfg : Cfg) (ty : Ty) {evs : List Ev} {e0 : Ev} {tl : List Ev} (hcons : evs = e0 :: tl)
    (hopen : Lemmas.C05.Ev.isOpen e0 = true) (hsc : ∀ v tg rt st a l, e0 = .scalar v tg rt st a l → tl = [])
    (n : Nat) :
    match Lemmas.C11T.perDoc cfg ty evs with
    | .skipped => docSpec cfg ty (n + 1) evs = some ([], true, 1)
    | .clean v => docSpec cfg ty (n + 1) evs = some ([.ok v], true, 1)
    | .failed => ∃ e, docSpec cfg ty (n + 1) evs = some ([.error e], false, 1)
    | .leftover v => ∃ c2, deser (fuelFor 100000) cfg ty false false (.replay evs 0 none) = .ok v c2 ∧
        docSpec cfg ty (n + 1) evs = (docRounds cfg ty n c2).map (Rounds.push [.ok v]) := by
  subst hcons
  have hpk : Cur.peek (.replay (e0 :: tl) 0 none) = .ok (some e0) (.replay (e0 :: tl) 0 none) := rfl
  rw [Lemmas.C11T.perDoc_cons]
  by_cases hnull : evIsNull e0 = true
  · -- a null-like root scalar is the whole document
    rw [if_pos hnull]
    obtain ⟨s, tg, rt, st, a, l, rfl⟩ := Lemmas.C11T.evIsNull_scalar hnull
    have htl := hsc s tg rt st a l rfl
    subst htl
    show docRounds cfg ty (n + 1) _ = _
    rw [docRounds_open cfg ty hpk hopen, if_pos hnull]
    exact congrArg (Option.map (Rounds.push [])) (docRounds_at_end cfg ty n (c' := .replay _ 1 none) rfl)
  · -- the deserializer at the root
    rw [if_neg hnull]
    have hdoc : docSpec cfg ty (n + 1) (e0 :: tl) =
        (match deser (fuelFor 100000) cfg ty false false (.replay (e0 :: tl) 0 none) with
          | .err e _ => some ([.error e], false, 1)
          | .ok v c2 => (docRounds cfg ty n c2).map (Rounds.push [.ok v])) :=
      (docRounds_open cfg ty hpk hopen n).trans (if_neg hnull)
    cases hL : deser (fuelFor 100000) cfg ty false false (.replay (e0 :: tl) 0 none) with
    | err e c => exact ⟨e, by rw [hdoc, hL]⟩
    | ok v c =>
      simp only []
      cases hpk2 : c.peek with
      | err e c2 => exact ⟨c, rfl, by rw [hdoc, hL]⟩
      | ok o c2 =>
        cases o with
        | some e => exact ⟨c, rfl, by rw [hdoc, hL]⟩
        | none =>
          show docSpec cfg ty (n + 1) (e0 :: tl) = some ([.ok v], true, 1)
          rw [hdoc, hL]
          simp only [docRounds_at_end cfg ty n hpk2, Option.map_some]
          rfl

theorem docSpec_of_docOk {L : AliasLimits} {t : LNode} {evs : List Ev} (h : DocOk L t evs) (cfg : Cfg) (ty : Ty)
    (hnl : (Lemmas.C11T.perDoc cfg ty evs).isLeftover = false) (n : Nat) :
    ∃ r, docSpec cfg ty (n + 1) evs = some r ∧ r.2.2 = 1 ∧
      sameItems r.1 (Lemmas.C11T.docItems (Lemmas.C11T.perDoc cfg ty evs)) := by
  obtain ⟨e0, tl, hcons, hopen, hsc⟩ := h.head
  have := docSpec_of_perDoc cfg ty hcons hopen hsc n
  cases hp : Lemmas.C11T.perDoc cfg ty evs with
  | skipped => rw [hp] at this; exact ⟨_, this, rfl, .nil⟩
  | clean v => rw [hp] at this; exact ⟨_, this, rfl, .cons rfl .nil⟩
  | failed => rw [hp] at this; obtain ⟨e, he⟩ := this; exact ⟨_, he, rfl, .cons trivial .nil⟩
  | leftover v => rw [hp] at hnl; cases hnl

theorem fits_of_not_leftover {L : AliasLimits} (cfg : Cfg) (ty : Ty) : ∀ (ds : List Doc) (evss : List (List Ev)),
    Lemmas.C11T.DocsOk L ds evss → (∀ evs ∈ evss, (Lemmas.C11T.perDoc cfg ty evs).isLeftover = false) →
    Fits cfg ty ds evss
  | [], [], _, _ => trivial
  | d :: ds, evs :: evss, h, hnl => by
    obtain ⟨r, hr, -, -⟩ := docSpec_of_docOk h.1 cfg ty (hnl evs (List.mem_cons_self ..)) ((itemsOf d.1).length + 1)
    exact ⟨⟨r, hr⟩, fits_of_not_leftover cfg ty ds evss h.2 (fun e he => hnl e (List.mem_cons_of_mem _ he))⟩
  | [], _ :: _, h, _ => h.elim
  | _ :: _, [], h, _ => h.elim

theorem docsServe_none {L : AliasLimits} : ∀ {ds : List Doc} {evss : List (List Ev)},
    Lemmas.C11T.DocsOk L ds evss → DocsServe L none ds evss
  | [], [], _ => trivial
  | _ :: _, _ :: _, h => ⟨docServe_none h.1, docsServe_none h.2⟩
  | [], _ :: _, h => h.elim
  | _ :: _, [], h => h.elim

theorem streamSpec_of_not_leftover {L : AliasLimits} (cfg : Cfg) (ty : Ty) :
    ∀ (ds : List Doc) (evss : List (List Ev)), Lemmas.C11T.DocsOk L ds evss →
      (∀ evs ∈ evss, (Lemmas.C11T.perDoc cfg ty evs).isLeftover = false) →
      ∃ its, streamSpec cfg ty 1 evss = some (its, ds.length) ∧ sameItems its (Lemmas.C11T.specItems cfg ty evss)
  | [], [], _, _ => ⟨[], rfl, .nil⟩
  | d :: ds, evs :: evss, h, hnl => by
    obtain ⟨r, hr, hr1, hsame⟩ := docSpec_of_docOk h.1 cfg ty (hnl evs (List.mem_cons_self ..)) 0
    obtain ⟨its, hspec, hsame2⟩ := streamSpec_of_not_leftover cfg ty ds evss h.2
      (fun e he => hnl e (List.mem_cons_of_mem _ he))
    refine ⟨r.1 ++ its, ?_, sameItems.append hsame hsame2⟩
    simp only [streamSpec, hr, hspec, hr1, List.length_cons, Nat.add_comm]
  | [], _ :: _, h, _ => h.elim
  | _ :: _, [], h, _ => h.elim

theorem notLeftover_contract {L : AliasLimits} (cfg : Cfg) (ty : Ty) {ds : List Doc} {evss : List (List Ev)}
    (hds : Lemmas.C11T.DocsOk L ds evss)
    (hnl : ∀ evs ∈ evss, (Lemmas.C11T.perDoc cfg ty evs).isLeftover = false) :
    ∃ rs, DocsIter L none cfg ty ds rs ∧ (mixItems rs).2 = ds.length ∧ allGo rs = true ∧
      sameItems (mixItems rs).1 (Lemmas.C11T.specItems cfg ty evss) := by
  obtain ⟨its, hspec, hsame⟩ := streamSpec_of_not_leftover cfg ty ds evss hds hnl
  obtain ⟨rs, hrs, hm, hg⟩ := served_contract (docsServe_none hds) hspec
  exact ⟨rs, hrs, by rw [hm], hg, by rw [hm]; exact hsame⟩

def RoundsFit : List Doc → List Rounds → Prop
  | d :: ds, r :: rs => r.2.2 ≤ (itemsOf d.1).length + 2 ∧ RoundsFit ds rs
  | _, _ => True

theorem DocsIter.rounds_le {L : AliasLimits} {ob : Option Limits} {cfg : Cfg} {ty : Ty} {ds : List Doc}
    {rs : List Rounds} (h : DocsIter L ob cfg ty ds rs) (hfit : RoundsFit ds rs) :
    (mixItems rs).2 ≤ (docsStream ds).length := by
  induction h with
  | nil => exact Nat.le_refl _
  | cons _ _ ih =>
    have h1 := hfit.1
    have h2 := ih hfit.2
    rw [docsStream_length_cons]
    simp only [mixItems]
    split <;> simp only <;> omega

theorem fits_contract {cfg : Cfg} {ty : Ty} : ∀ {ds : List Doc} {evss : List (List Ev)}, Fits cfg ty ds evss →
    ∃ rs, RoundsFit ds rs ∧ (∀ r ∈ rs, r.2.1 = true) ∧
      ∀ (L : AliasLimits) (ob : Option Limits), DocsServe L ob ds evss → DocsIter L ob cfg ty ds rs
  | [], [], _ => ⟨[], trivial, fun _ h => (by cases h), fun _ _ _ => .nil⟩
  | d :: ds, evs :: evss, hf => by
    obtain ⟨⟨r0, hr0⟩, hfrest⟩ := hf
    obtain ⟨rs, h1, h2, h3⟩ := fits_contract hfrest
    refine ⟨(r0.1, true, r0.2.2) :: rs, ⟨docRounds_le cfg ty _ _ r0 hr0, h1⟩, fun r hr => ?_,
      fun L ob hs => .cons (DocIter.served hs.1 hr0) (h3 L ob hs.2)⟩
    rcases List.mem_cons.mp hr with rfl | hr
    · rfl
    · exact h2 r hr
  | [], _ :: _, hf => hf.elim
  | _ :: _, [], hf => hf.elim

end SaphyrVerif.Lemmas.C11B
