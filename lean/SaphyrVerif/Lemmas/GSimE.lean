import SaphyrVerif.Lemmas.GSimFam
import SaphyrVerif.Lemmas.DeEqns
/-!
Guarded simulation (`GA`), induction steps of the enums.
-/
namespace SaphyrVerif.Lemmas
open SaphyrVerif SaphyrVerif.Scalars SaphyrVerif.Pump SaphyrVerif.De

variable {X : GSim}

open Lean Elab Tactic Meta in
/-- The payload of a tag-selected variant (`!Variant payload`) is read from a private replay buffer whose reference location is
`tagUseSite c l` (fix e5db46c: the alias token when the tagged node is delivered by a replay).  The two sides disagree about that
reference location, never about the buffer: transport the outcome of the `variantPayload` call over a replay cursor in the newest
equation (left side) to the other `variantPayload` call over a replay cursor that occurs in the goal (right side), by the
simulation without frame (`GSim.sim_replay`); needs a `GA (GSim.sim _) _` hypothesis in the context -/
elab "g_fwd_payload" : tactic => withMainContext do
  let some (n, isOk, h) ← newestCallEq | throwError "g_fwd_payload: no call"
  unless n == ``De.variantPayload do throwError "g_fwd_payload: not a payload call"
  let hty ← instantiateMVars (← inferType (← elabTerm h none))
  let some (_, lhs, _) := hty.eq? | throwError "g_fwd_payload: not an equation"
  unless (lhs.getArg! 7).isAppOf ``De.Cur.replay do throwError "g_fwd_payload: not over a replay cursor"
  let tgt ← instantiateMVars (← getMainTarget)
  let some t' := tgt.find? (fun e => e.isAppOfArity ``De.variantPayload 8 && (e.getArg! 7).isAppOf ``De.Cur.replay && e != lhs)
    | throwError "g_fwd_payload: no other payload call in the goal"
  let t'stx ← Term.exprToSyntax t'
  let prf ← `((GA.variantPayload ‹GA (GSim.sim _) _› _ _ _ _ _ _ (GSim.sim_replay _ _ (by g_q)) (fun h => nomatch h)
    (fun _ => id) : RG (GSim.sim _) Eq _ $t'stx))
  if isOk then evalTactic (← `(tactic| gfwdk_eq $h, $prf))
  else evalTactic (← `(tactic| gfwde $h, $prf))

/-- `g_loop`, which also carries the outcome of a payload call on a private replay buffer to the other side -/
macro "g_loop_e" : tactic =>
  `(tactic| repeat' (first | g_leaf | g_step | g_simp | (split <;> try (first | g_fwd | g_fwd_payload)) | pfe_absurd | g_tail))

theorem enumScalar_g {fuel : Nat} (ih : GA X fuel) (ihS : GA (GSim.sim X.ex) fuel) (cfg : Cfg) (name : String) (variants : List (String × VTy))
    (v : List Char) (tag : Nat) (rawTag : Option (List Char)) (st : Style) (anchor : Nat) (l : Loc) {c c' : Cur}
    {k : Int} (hs : X.At k c c') (hin : X.In c) :
    RG X Eq (enumScalar fuel cfg name variants c v tag rawTag st anchor l)
      (enumScalar fuel cfg name variants c' v tag rawTag st anchor l) := by
  replace hs := GSim.At.zero hs.s
  unfold enumScalar
  both_ite
  · g_loop_e
  · g_loop_e

theorem enumMap_g {fuel : Nat} (ih : GA X fuel) (cfg : Cfg) (variants : List (String × VTy)) {c c' : Cur}
    {k : Int} (hs : X.At k c c') (hin : X.In c) {a : Nat} {l : Loc} (hb : X.Shows c (some (.mapStart a l))) :
    RG X Eq (enumMap fuel cfg variants c) (enumMap fuel cfg variants c') := by
  replace hs := GSim.At.zero hs.s
  unfold enumMap
  g_loop_e

theorem enumSeq_g {fuel : Nat} (ih : GA X fuel) (ihS : GA (GSim.sim X.ex) fuel) (cfg : Cfg) (variants : List (String × VTy)) (anchor tag : Nat)
    (rawTag : Option (List Char)) (l : Loc) {c c' : Cur} {k : Int} (hs : X.At k c c') (hin : X.In c)
    (hb : X.Shows c (some (.seqStart anchor tag rawTag l))) :
    RG X Eq (enumSeq fuel cfg variants c anchor tag rawTag l) (enumSeq fuel cfg variants c' anchor tag rawTag l) := by
  replace hs := GSim.At.zero hs.s
  unfold enumSeq
  g_loop_e

theorem deserEnum_gStep {fuel : Nat} (ih : GA X fuel) (ihS : GA (GSim.sim X.ex) fuel) :
    ∀ cfg name variants {k c c'}, X.At k c c' → X.In c →
      RG X Eq (De.deserEnum (fuel + 1) cfg name variants c) (De.deserEnum (fuel + 1) cfg name variants c') := by
  intro cfg name variants k c c' hs hin
  replace hs := GSim.At.zero hs.s
  rw [deserEnum_succ, deserEnum_succ]
  g_loop_e
  all_goals first
    | exact enumScalar_g ih ihS cfg name variants _ _ _ _ _ _ (by assumption) (by assumption)
    | exact enumMap_g ih cfg variants (by assumption) (by assumption) (by assumption)
    | exact enumSeq_g ih ihS cfg variants _ _ _ _ (by assumption) (by assumption) (by assumption)

theorem vpExpectMapEnd_g (mapMode tagged : Bool) (v : Val) {c c' : Cur} {k : Int} (hs : X.At k c c')
    (hpre : mapMode = true → 1 ≤ k) (htg : tagged = true → ¬ X.on) :
    RG X Eq (vpExpectMapEnd mapMode tagged c v) (vpExpectMapEnd mapMode tagged c' v) := by
  unfold vpExpectMapEnd
  cases tagged
  · cases mapMode
    · exact RG.ok GSim.Rel.rfl hs.s
    · have hd : 1 ≤ k := hpre rfl
      simp only [Bool.false_eq_true, Bool.not_true, ↓reduceIte]
      g_loop
  · have hoff : ¬ X.on := htg rfl
    simp only [↓reduceIte]
    g_loop

theorem vpKind_g {fuel : Nat} (ih : GA X fuel) (cfg : Cfg) (name : String) (mapMode tagged : Bool) (vt : VTy)
    {c c' : Cur} {k : Int} (hs : X.At k c c') (hpre : mapMode = true → 1 ≤ k) (htg : tagged = true → ¬ X.on) :
    RG X Eq (vpKind fuel cfg name mapMode tagged vt c) (vpKind fuel cfg name mapMode tagged vt c') := by
  -- the two flags decide where the payload is read from, and what allows the cursor to be touched there (depth `≥ 1` inside
  -- `{ Variant: payload }`, no frame for a tagged payload): decide them before the cursor is stepped
  unfold vpKind
  cases mapMode <;> cases tagged
  all_goals
    try have hd : 1 ≤ k := hpre rfl
    try have hoff : ¬ X.on := htg rfl
    cases vt <;>
    simp only [Bool.not_false, Bool.not_true, Bool.and_self, Bool.and_false, Bool.and_true, Bool.false_eq_true,
      ↓reduceIte] <;> g_loop
  all_goals
    exact vpExpectMapEnd_g _ _ _ (by assumption) (fun h => by first | g_arith | cases h)
      (fun h => by first | assumption | cases h)

theorem variantPayload_gStep {fuel : Nat} (ih : GA X fuel) :
    ∀ cfg variants vname vloc mapMode tagged {k c c'}, X.At k c c' → (mapMode = true → 1 ≤ k) →
      (tagged = true → ¬ X.on) →
      RG X Eq (De.variantPayload (fuel + 1) cfg variants vname vloc mapMode tagged c)
        (De.variantPayload (fuel + 1) cfg variants vname vloc mapMode tagged c') := by
  intro cfg variants vname vloc mapMode tagged k c c' hs hpre htg
  rw [variantPayload_succ, variantPayload_succ]
  cases lookupField variants vname with
  | none => exact RG.err (GSim.Q.refl _) (X.se hs.s)
  | some p => exact vpKind_g ih cfg _ mapMode tagged p.2 hs hpre htg

end SaphyrVerif.Lemmas
