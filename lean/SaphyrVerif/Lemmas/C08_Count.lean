import SaphyrVerif.Lemmas.C08_Step
/-!
C08: the replay counter and the per-anchor expansion counters stay within their limits over a skip step and over a
delivering step.
-/
namespace SaphyrVerif.Lemmas.C08
open SaphyrVerif.Pump

theorem Skip1.replayed {p q : Pump} (h : Skip1 p q) (hinv : p.totalReplayed ≤ p.limits.maxTotalReplayedEvents) :
    q.totalReplayed ≤ q.limits.maxTotalReplayedEvents ∧ q.limits = p.limits := by
  cases h <;> simp [Pump.resetDocumentState, hinv]

theorem Skips.replayed {p q : Pump} (h : Skips p q) (hinv : p.totalReplayed ≤ p.limits.maxTotalReplayedEvents) :
    q.totalReplayed ≤ q.limits.maxTotalReplayedEvents ∧ q.limits = p.limits := by
  induction h with
  | refl => exact ⟨hinv, rfl⟩
  | step h1 _ ih =>
    obtain ⟨a, b⟩ := h1.replayed hinv
    obtain ⟨c, d⟩ := ih a
    exact ⟨c, d.trans b⟩

theorem Deliver.replayed {q p' : Pump} {e : Ev} (h : Deliver q e p')
    (hinv : q.totalReplayed ≤ q.limits.maxTotalReplayedEvents) :
    p'.totalReplayed ≤ p'.limits.maxTotalReplayedEvents ∧ p'.limits = q.limits := by
  cases h <;> simp [hinv] <;> assumption

theorem lookupCount_nil (id : Nat) : lookupCount [] id = 0 := rfl

theorem Skip1.perAnchor {p q : Pump} (h : Skip1 p q)
    (hinv : ∀ id, lookupCount p.perAnchor id ≤ p.limits.maxAliasExpansionsPerAnchor) :
    ∀ id, lookupCount q.perAnchor id ≤ q.limits.maxAliasExpansionsPerAnchor := by
  intro id'
  cases h <;> simp only [Pump.resetDocumentState, lookupCount_nil, lookupCount_cons, Nat.zero_le, hinv]
  split
  · assumption
  · exact hinv id'

theorem Skips.perAnchor {p q : Pump} (h : Skips p q)
    (hinv : ∀ id, lookupCount p.perAnchor id ≤ p.limits.maxAliasExpansionsPerAnchor) :
    ∀ id, lookupCount q.perAnchor id ≤ q.limits.maxAliasExpansionsPerAnchor := by
  induction h with
  | refl => exact hinv
  | step h1 _ ih => exact ih (h1.perAnchor hinv)

theorem Deliver.perAnchor {q p' : Pump} {e : Ev} (h : Deliver q e p')
    (hinv : ∀ id, lookupCount q.perAnchor id ≤ q.limits.maxAliasExpansionsPerAnchor) :
    ∀ id, lookupCount p'.perAnchor id ≤ p'.limits.maxAliasExpansionsPerAnchor := by
  intro id'
  cases h <;> simp only [lookupCount_cons, hinv]
  all_goals
    split
    · assumption
    · exact hinv id'

end SaphyrVerif.Lemmas.C08
