import SaphyrVerif.Model.Reader
import SaphyrVerif.Spec.Utf8
import SaphyrVerif.Spec.Lines
import SaphyrVerif.Lemmas.Utf8
/-! `ChunkedChars` over a schedule, reduced to the flat bytes.  `nextChar` is `deliver` after `pullSeq`: what is taken
from the reader, then what the state makes of it.  Over a `chunked` schedule and without a cap, `nextChar` is one
`flatStep` on `flat` (`nextChar_chunked`), so a run of `next` is the greedy decoding `flatDecode` of the flat bytes, and
the synthetic break is read off `stepFlags`. -/
namespace SaphyrVerif.Lemmas.C09
open SaphyrVerif SaphyrVerif.Reader SaphyrVerif.Spec.Utf8 SaphyrVerif.Spec.Lines

/-- the bit tests of `ChunkedChars::next_char` on the leading bytes of each length (finite table) -/
theorem needed_lead :
    (∀ n, n < 0x80 → needed n = some 1) ∧ (∀ q, q < 32 → needed (0xC0 + q) = some 2) ∧
    (∀ q, q < 16 → needed (0xE0 + q) = some 3) ∧ (∀ q, q < 8 → needed (0xF0 + q) = some 4) := by
  decide +kernel

theorem ofNat_toNat' (c : Char) (n : Nat) (h : n = c.toNat) : Char.ofNat n = c := by
  subst h; exact Char.ofNat_toNat c

theorem toNat_ofNat' (n : Nat) (h : n < 0xD800 ∨ (0xDFFF < n ∧ n < 0x110000)) : (Char.ofNat n).toNat = n := by
  have : n.isValidChar := h
  simp [Char.ofNat, this, Char.toNat, Char.ofNatAux]

/-! 6-bit groups: the encoder takes a scalar value apart with `/` and `%`, the validator puts one together with
`*` and `+`; these are inverse to each other as long as every group but the first is below 64 -/

theorem div_mod_64 (a : Nat) {d : Nat} (hd : d < 64) : (a * 64 + d) / 64 = a ∧ (a * 64 + d) % 64 = d :=
  ⟨by rw [Nat.mul_comm, Nat.mul_add_div (by decide), Nat.div_eq_of_lt hd]; rfl, Nat.mul_add_mod_of_lt hd⟩

theorem digits3 (x0 : Nat) {x1 x2 : Nat} (h1 : x1 < 64) (h2 : x2 < 64) :
    (x0 * 4096 + x1 * 64 + x2) / 4096 = x0 ∧ (x0 * 4096 + x1 * 64 + x2) / 64 % 64 = x1 ∧
    (x0 * 4096 + x1 * 64 + x2) % 64 = x2 := by
  have e : x0 * 4096 + x1 * 64 + x2 = (x0 * 64 + x1) * 64 + x2 := by omega
  obtain ⟨a1, a2⟩ := div_mod_64 (x0 * 64 + x1) h2
  obtain ⟨b1, b2⟩ := div_mod_64 x0 h1
  rw [e, ← Nat.div_div_eq_div_mul _ 64 64, a1, a2, b1, b2]
  exact ⟨rfl, rfl, rfl⟩

theorem digits4 (x0 : Nat) {x1 x2 x3 : Nat} (h1 : x1 < 64) (h2 : x2 < 64) (h3 : x3 < 64) :
    (x0 * 262144 + x1 * 4096 + x2 * 64 + x3) / 262144 = x0 ∧ (x0 * 262144 + x1 * 4096 + x2 * 64 + x3) / 4096 % 64 = x1 ∧
    (x0 * 262144 + x1 * 4096 + x2 * 64 + x3) / 64 % 64 = x2 ∧ (x0 * 262144 + x1 * 4096 + x2 * 64 + x3) % 64 = x3 := by
  have e : x0 * 262144 + x1 * 4096 + x2 * 64 + x3 = (x0 * 4096 + x1 * 64 + x2) * 64 + x3 := by omega
  obtain ⟨a1, a2⟩ := div_mod_64 (x0 * 4096 + x1 * 64 + x2) h3
  obtain ⟨b1, b2, b3⟩ := digits3 x0 h1 h2
  rw [e]
  refine ⟨?_, ?_, ?_, a2⟩
  · rw [← Nat.div_div_eq_div_mul _ 64 4096, a1, b1]
  · rw [← Nat.div_div_eq_div_mul _ 64 64, a1, b2]
  · rw [a1, b3]

theorem decode1_enc1 (n : Nat) (h : n < 0x80) : decode1 [n] = some (Char.ofNat n) := by
  simp [decode1, h]

theorem decode1_enc2 (n : Nat) (h1 : 0x80 ≤ n) (h2 : n < 0x800) :
    decode1 [0xC0 + n / 64, 0x80 + n % 64] = some (Char.ofNat n) := by
  have hn := Nat.div_add_mod' n 64
  have hd : n % 64 < 64 := Nat.mod_lt _ (by decide)
  revert hn hd
  generalize n / 64 = a, n % 64 = d
  intro hn hd
  simp only [decode1, Nat.add_sub_cancel_left, hn]
  rw [if_pos (by simp [isCont]; omega)]

theorem decode1_enc3 (n : Nat) (h1 : 0x800 ≤ n) (h2 : n < 0x10000) (hs : n < 0xD800 ∨ 0xDFFF < n) :
    decode1 [0xE0 + n / 4096, 0x80 + (n / 64) % 64, 0x80 + n % 64] = some (Char.ofNat n) := by
  have hn := recombine3 n
  have hb : n / 64 % 64 < 64 := Nat.mod_lt _ (by decide)
  have hd : n % 64 < 64 := Nat.mod_lt _ (by decide)
  revert hn hb hd
  generalize n / 4096 = a, n / 64 % 64 = b, n % 64 = d
  intro hn hb hd
  simp only [decode1, Nat.add_sub_cancel_left, hn]
  rw [if_pos (by simp [isCont]; omega)]

theorem decode1_enc4 (n : Nat) (h1 : 0x10000 ≤ n) (h2 : n < 0x110000) :
    decode1 [0xF0 + n / 262144, 0x80 + (n / 4096) % 64, 0x80 + (n / 64) % 64, 0x80 + n % 64] = some (Char.ofNat n) := by
  have hn := recombine4 n
  have hb : n / 4096 % 64 < 64 := Nat.mod_lt _ (by decide)
  have hc : n / 64 % 64 < 64 := Nat.mod_lt _ (by decide)
  have hd : n % 64 < 64 := Nat.mod_lt _ (by decide)
  revert hn hb hc hd
  generalize n / 262144 = a, n / 4096 % 64 = b, n / 64 % 64 = c, n % 64 = d
  intro hn hb hc hd
  simp only [decode1, Nat.add_sub_cancel_left, hn]
  rw [if_pos (by simp [isCont]; omega)]

theorem decode1_encodeChar (c : Char) : decode1 (encodeChar c) = some c := by
  have hv := char_valid c
  rcases encShape c with ⟨h, e⟩ | ⟨h1, h2, e⟩ | ⟨h1, h2, e⟩ | ⟨h1, e⟩ <;> rw [e]
  · rw [decode1_enc1 _ h, Char.ofNat_toNat]
  · rw [decode1_enc2 _ h1 h2, Char.ofNat_toNat]
  · rw [decode1_enc3 _ h1 h2 (by omega), Char.ofNat_toNat]
  · rw [decode1_enc4 _ h1 (by omega), Char.ofNat_toNat]

theorem encodeChar_ofNat (n : Nat) (h : n < 0xD800 ∨ (0xDFFF < n ∧ n < 0x110000)) :
    encodeChar (Char.ofNat n) =
      (if n < 0x80 then [n]
       else if n < 0x800 then [0xC0 + n / 64, 0x80 + n % 64]
       else if n < 0x10000 then [0xE0 + n / 4096, 0x80 + (n / 64) % 64, 0x80 + n % 64]
       else [0xF0 + n / 262144, 0x80 + (n / 4096) % 64, 0x80 + (n / 64) % 64, 0x80 + n % 64]) := by
  simp only [encodeChar, toNat_ofNat' n h]

theorem decode1_sound (bs : List Nat) (c : Char) (h : decode1 bs = some c) : bs = encodeChar c := by
  match bs, h with
  | [b0], h =>
    simp only [decode1] at h
    split at h
    · rename_i h0
      cases h
      rw [encodeChar_ofNat _ (by omega), if_pos h0]
    · cases h
  | [b0, b1], h =>
    simp only [decode1] at h
    split at h
    · rename_i hc
      cases Option.some.inj h
      simp [isCont] at hc
      obtain ⟨x0, rfl⟩ := Nat.exists_eq_add_of_le (show 0xC0 ≤ b0 by omega)
      obtain ⟨x1, rfl⟩ := Nat.exists_eq_add_of_le hc.2.1
      simp only [Nat.add_sub_cancel_left]
      have h1 : x1 < 64 ∧ 2 ≤ x0 ∧ x0 < 32 := by omega
      clear hc
      obtain ⟨d1, d2⟩ := div_mod_64 x0 h1.1
      rw [encodeChar_ofNat _ (by omega), if_neg (by omega), if_pos (by omega), d1, d2]
    · cases h
  | [b0, b1, b2], h =>
    simp only [decode1] at h
    split at h
    · rename_i hc
      cases Option.some.inj h
      simp [isCont] at hc
      have hlo : 0xE0 ≤ b0 ∧ 0x80 ≤ b1 := by omega
      obtain ⟨x0, rfl⟩ := Nat.exists_eq_add_of_le hlo.1
      obtain ⟨x1, rfl⟩ := Nat.exists_eq_add_of_le hlo.2
      obtain ⟨x2, rfl⟩ := Nat.exists_eq_add_of_le hc.2.1
      simp only [Nat.add_sub_cancel_left]
      have hr : x1 < 64 ∧ x2 < 64 ∧ 0x800 ≤ x0 * 4096 + x1 * 64 + x2 ∧ x0 * 4096 + x1 * 64 + x2 < 0x10000 ∧
          (x0 * 4096 + x1 * 64 + x2 < 0xD800 ∨ 0xDFFF < x0 * 4096 + x1 * 64 + x2) := by omega
      clear hc hlo
      obtain ⟨d1, d2, d3⟩ := digits3 x0 hr.1 hr.2.1
      generalize x0 * 4096 + x1 * 64 + x2 = n at hr d1 d2 d3 ⊢
      rw [encodeChar_ofNat _ (by omega), if_neg (by omega), if_neg (by omega), if_pos hr.2.2.2.1, d1, d2, d3]
    · cases h
  | [b0, b1, b2, b3], h =>
    simp only [decode1] at h
    split at h
    · rename_i hc
      cases Option.some.inj h
      simp [isCont] at hc
      have hlo : 0xF0 ≤ b0 ∧ 0x80 ≤ b1 := by omega
      obtain ⟨x0, rfl⟩ := Nat.exists_eq_add_of_le hlo.1
      obtain ⟨x1, rfl⟩ := Nat.exists_eq_add_of_le hlo.2
      obtain ⟨x2, rfl⟩ := Nat.exists_eq_add_of_le hc.1.2.1
      obtain ⟨x3, rfl⟩ := Nat.exists_eq_add_of_le hc.2.1
      simp only [Nat.add_sub_cancel_left]
      have hr : x1 < 64 ∧ x2 < 64 ∧ x3 < 64 ∧ 0x10000 ≤ x0 * 262144 + x1 * 4096 + x2 * 64 + x3 ∧
          x0 * 262144 + x1 * 4096 + x2 * 64 + x3 < 0x110000 := by omega
      clear hc hlo
      obtain ⟨d1, d2, d3, d4⟩ := digits4 x0 hr.1 hr.2.1 hr.2.2.1
      generalize x0 * 262144 + x1 * 4096 + x2 * 64 + x3 = n at hr d1 d2 d3 d4 ⊢
      rw [encodeChar_ofNat _ (by omega), if_neg (by omega), if_neg (by omega), if_neg (by omega), d1, d2, d3, d4]
    · cases h
  | [], h => simp [decode1] at h
  | _ :: _ :: _ :: _ :: _ :: _, h => simp [decode1] at h

theorem encodeChar_shape (c : Char) : ∃ b rest, encodeChar c = b :: rest ∧ needed b = some (rest.length + 1) := by
  have hv := char_valid c
  rcases encShape c with ⟨h, e⟩ | ⟨_, h, e⟩ | ⟨_, h, e⟩ | ⟨_, e⟩
  · exact ⟨_, _, e, needed_lead.1 _ h⟩
  · exact ⟨_, _, e, needed_lead.2.1 _ (Nat.div_lt_of_lt_mul h)⟩
  · exact ⟨_, _, e, needed_lead.2.2.1 _ (Nat.div_lt_of_lt_mul h)⟩
  · exact ⟨_, _, e, needed_lead.2.2.2 _ (Nat.div_lt_of_lt_mul (by omega))⟩

theorem flat_append (a b : Sched) : flat (a ++ b) = flat a ++ flat b := by
  induction a with
  | nil => simp [flat]
  | cons it rest ih => cases it <;> simp [flat, ih]

theorem readFirst_flat (s : Sched) : ∀ b, (readFirst s).1 = .byte b → flat s = b :: flat (readFirst s).2 := by
  fun_induction readFirst s <;> simp_all [flat]

theorem readFirst_flat_err (s : Sched) : (∀ b, (readFirst s).1 ≠ .byte b) → flat (readFirst s).2 = flat s := by
  fun_induction readFirst s <;> simp_all [flat]

theorem readCall_flat {n : Nat} {s s' : Sched} {r : ReadRes} (h : readCall n s = (r, s')) :
    (∀ bs, r = .ok bs → bs ++ flat s' = flat s ∧ bs.length ≤ n) ∧ (∀ k, r = .err k → flat s' = flat s) := by
  cases s with
  | nil => simp [readCall] at h; obtain ⟨rfl, rfl⟩ := h; simp [flat]
  | cons it rest =>
    cases it with
    | fail k => simp [readCall] at h; obtain ⟨rfl, rfl⟩ := h; simp [flat]
    | data d =>
      simp only [readCall] at h
      split at h
      · rename_i hl
        simp at h; obtain ⟨rfl, rfl⟩ := h
        simp [flat]; exact hl
      · simp at h; obtain ⟨rfl, rfl⟩ := h
        simp [flat]
        constructor
        · rw [← List.append_assoc, List.take_append_drop]
        · omega

def contGot : ContRes → List Nat
  | .done g => g
  | .eof g => g
  | .err _ g => g

theorem contLoopF_flat (fuel rem : Nat) (acc : List Nat) (s : Sched) :
    ∃ x, contGot (contLoopF fuel rem acc s).1 = acc ++ x ∧ flat s = x ++ flat (contLoopF fuel rem acc s).2 ∧
      x.length ≤ rem ∧ (rem ≤ fuel → ∀ g, (contLoopF fuel rem acc s).1 = .done g → x.length = rem) := by
  fun_induction contLoopF fuel rem acc s
  case case1 => exact ⟨[], by simp [contGot], by simp, Nat.zero_le _, fun h _ _ => (Nat.le_zero.1 h).symm⟩
  case case2 fuel rem acc s h0 =>
    exact ⟨[], by simp [contGot], by simp, Nat.zero_le _, fun _ _ _ => (beq_iff_eq.1 h0).symm⟩
  case case3 fuel rem acc s h0 k s' hr =>
    exact ⟨[], by simp [contGot], by simp [(readCall_flat hr).2 k rfl], Nat.zero_le _, fun _ g h => by cases h⟩
  case case4 fuel rem acc s h0 s' hr =>
    have := ((readCall_flat hr).1 [] rfl).1
    exact ⟨[], by simp [contGot], by simpa using this.symm, Nat.zero_le _, fun _ g h => by cases h⟩
  case case5 fuel rem acc s h0 b bs s' hr ih =>
    obtain ⟨hfl, hlen⟩ := (readCall_flat hr).1 (b :: bs) rfl
    obtain ⟨x, h1, h2, h3, h4⟩ := ih
    simp only [List.length_cons] at hlen
    refine ⟨b :: bs ++ x, by rw [h1]; simp, by rw [← hfl, h2]; simp, by simp; omega, fun hle g hg => ?_⟩
    have := h4 (by omega) g hg
    simp; omega

theorem needed_le {b n : Nat} (h : needed b = some n) : 1 ≤ n ∧ n ≤ 4 := by
  unfold needed at h
  split at h
  · cases h; omega
  · split at h
    · cases h; omega
    · split at h
      · cases h; omega
      · split at h
        · cases h; omega
        · cases h

/-- what one call pulls from the reader, before the cap and the validator are consulted -/
inductive Pull where
  /-- nothing: end of input (`none`) or a failing call -/
  | nothing (k : Option IoKind)
  /-- the leading byte and `got`, then given up with `k` -/
  | stop (k : IoKind) (got : List Nat)
  /-- a whole sequence of the announced length `n` -/
  | seq (first n : Nat) (got : List Nat)

def Pull.size : Pull → Nat
  | .nothing _ => 0
  | .stop _ got => 1 + got.length
  | .seq _ _ got => 1 + got.length

/-- the reader half of `next_char`: it looks at nothing but the schedule -/
def pullSeq (s : Sched) : Pull × Sched :=
  match readFirst s with
  | (.eof, r) => (.nothing none, r)
  | (.err k, r) => (.nothing (some k), r)
  | (.byte first, r) =>
    match needed first with
    | none => (.stop kInvalidData [], r)
    | some n =>
      match contLoop (n - 1) [] r with
      | (.eof got, r) => (.stop kUnexpectedEof got, r)
      | (.err k got, r) => (.stop k got, r)
      | (.done got, r) => (.seq first n got, r)

/-- the other half: counters, cap, validator, cell -/
def deliver (cc : CC) : Pull × Sched → Option Char × CC
  | (.nothing k, r) => (none, { cc with reader := r, cell := k.or cc.cell })
  | (.stop k got, r) => (none, { cc with reader := r, pulled := cc.pulled + 1 + got.length, cell := some k })
  | (.seq first n got, r) =>
    let cc := { cc with reader := r, pulled := cc.pulled + 1 + got.length }
    if cc.maxBytes.all (cc.totalBytes + n ≤ ·) then
      match decode1 (first :: got) with
      | some c => (some c, { cc with totalBytes := cc.totalBytes + n })
      | none => (none, { cc with totalBytes := cc.totalBytes + n, cell := some kInvalidData })
    else (none, { cc with cell := some kFileTooLarge })

theorem nextChar_eq (cc : CC) : nextChar cc = deliver cc (pullSeq cc.reader) := by
  unfold nextChar pullSeq
  obtain ⟨first | _ | _, r⟩ := readFirst cc.reader
  · dsimp only
    cases needed first with
    | none => rfl
    | some n =>
      dsimp only
      obtain ⟨got | got | ⟨k, got⟩, r'⟩ := contLoop (n - 1) [] r
      · dsimp only [deliver]
        cases cc.maxBytes with
        | none => rfl
        | some limit =>
          dsimp only [Option.all_some]
          by_cases h : cc.totalBytes + n ≤ limit
          · rw [if_neg (Nat.not_lt.2 h), if_pos (decide_eq_true h)]
            cases decode1 (first :: got) <;> rfl
          · rw [if_pos (Nat.lt_of_not_le h), if_neg (mt of_decide_eq_true h)]
      · rfl
      · rfl
  · rfl
  · rfl

theorem deliver_cap_free (cc : CC) (x : Pull × Sched)
    (hfit : ∀ first n got, x.1 = .seq first n got → cc.maxBytes.all (cc.totalBytes + n ≤ ·) = true) :
    deliver { cc with maxBytes := none } x = ((deliver cc x).1, { (deliver cc x).2 with maxBytes := none }) := by
  obtain ⟨k | ⟨k, got⟩ | ⟨first, n, got⟩, r⟩ := x
  · rfl
  · rfl
  · simp only [deliver, hfit first n got rfl, Option.all_none, if_true]
    cases decode1 (first :: got) <;> rfl

theorem pullSeq_spec (s : Sched) :
    (flat (pullSeq s).2).length + (pullSeq s).1.size = (flat s).length ∧ (pullSeq s).1.size ≤ 4 ∧
    ∀ first n got, (pullSeq s).1 = .seq first n got → n = 1 + got.length := by
  have hf := readFirst_flat s
  have he := readFirst_flat_err s
  revert hf he
  unfold pullSeq
  generalize readFirst s = x
  obtain ⟨first | _ | k, r⟩ := x <;> intro hf he
  · have h1 : (flat s).length = (flat r).length + 1 := by rw [hf first rfl]; rfl
    dsimp only
    cases hn : needed first with
    | none => exact ⟨by rw [h1]; rfl, (by omega : 1 + 0 ≤ 4), fun _ _ _ h => by cases h⟩
    | some n =>
      obtain ⟨hn1, hn4⟩ := needed_le hn
      obtain ⟨x, hx⟩ := contLoopF_flat (n - 1) (n - 1) [] r
      revert hx
      dsimp only [contLoop]
      generalize contLoopF (n - 1) (n - 1) [] r = res
      obtain ⟨got | got | ⟨k, got⟩, r'⟩ := res <;> intro ⟨hx1, hx2, hx3, hx4⟩ <;>
        simp only [contGot, List.nil_append] at hx1 <;> subst hx1 <;>
        have h2 : (flat r).length = got.length + (flat r').length := by rw [hx2, List.length_append]
      · have := hx4 (Nat.le_refl _) got rfl
        exact ⟨by simp only [Pull.size]; omega, by simp only [Pull.size]; omega, fun _ _ _ h => by cases h; omega⟩
      · exact ⟨by simp only [Pull.size]; omega, by simp only [Pull.size]; omega, fun _ _ _ h => by cases h⟩
      · exact ⟨by simp only [Pull.size]; omega, by simp only [Pull.size]; omega, fun _ _ _ h => by cases h⟩
  · exact ⟨by rw [he (fun _ h => by cases h)]; rfl, Nat.zero_le _, fun _ _ _ h => by cases h⟩
  · exact ⟨by rw [he (fun _ h => by cases h)]; rfl, Nat.zero_le _, fun _ _ _ h => by cases h⟩

/-- the frame of one `next_char`: `p` bytes leave the reader, `t` are charged to `total_bytes`, `c` is the cell
afterwards; nothing else changes -/
theorem nextChar_frame (cc : CC) : ∃ r p t c,
    (nextChar cc).2 = { cc with reader := r, pulled := cc.pulled + p, totalBytes := cc.totalBytes + t, cell := c } ∧
    (flat r).length + p = (flat cc.reader).length ∧ p ≤ 4 ∧
    (t = 0 ∨ t = p ∧ ∀ cap, cc.maxBytes = some cap → cc.totalBytes + t ≤ cap) ∧
    (c = cc.cell ∨ c.isSome = true) ∧
    ∀ ch, (nextChar cc).1 = some ch → 0 < p ∧ t = p ∧ c = cc.cell := by
  rw [nextChar_eq]
  obtain ⟨h1, h2, h3⟩ := pullSeq_spec cc.reader
  revert h1 h2 h3
  generalize pullSeq cc.reader = x
  obtain ⟨k | ⟨k, got⟩ | ⟨first, n, got⟩, r⟩ := x <;> simp only [Pull.size] <;> intro h1 h2 h3
  · refine ⟨r, 0, 0, k.or cc.cell, rfl, h1, h2, Or.inl rfl, ?_, fun _ h => by cases h⟩
    cases k with
    | none => exact Or.inl rfl
    | some k => exact Or.inr rfl
  · refine ⟨r, 1 + got.length, 0, some k, ?_, h1, h2, Or.inl rfl, Or.inr rfl, fun _ h => by cases h⟩
    simp only [deliver, Nat.add_assoc, Nat.add_zero]
  · have hn := h3 first n got rfl
    subst hn
    simp only [deliver]
    split
    · rename_i hcap
      have hcap' : ∀ cap, cc.maxBytes = some cap → cc.totalBytes + (1 + got.length) ≤ cap := by
        intro cap hm; simpa [hm] using hcap
      cases decode1 (first :: got) with
      | some ch =>
        exact ⟨r, _, _, cc.cell, by simp only [Nat.add_assoc], h1, h2, Or.inr ⟨rfl, hcap'⟩, Or.inl rfl,
          fun _ _ => ⟨by omega, rfl, rfl⟩⟩
      | none =>
        exact ⟨r, _, _, some kInvalidData, by simp only [Nat.add_assoc], h1, h2, Or.inr ⟨rfl, hcap'⟩, Or.inr rfl,
          fun _ h => by cases h⟩
    · exact ⟨r, 1 + got.length, 0, some kFileTooLarge, by simp only [Nat.add_assoc, Nat.add_zero], h1, h2, Or.inl rfl,
        Or.inr rfl, fun _ h => by cases h⟩

/-! `pre ++ tl` with `pre` chunked: reading inside `pre` is reading its flat bytes, whatever `tl` is — `[]` for a
fault-free run (`nextChar_chunked`), `.fail k :: post` for `collectRaw_fault` -/

theorem chunked_flat_nil {s : Sched} (hc : chunked s = true) (h : flat s = []) : s = [] := by
  cases s with
  | nil => rfl
  | cons it rest =>
    cases it with
    | data bs => cases bs <;> simp_all [chunked, flat]
    | fail k => simp [chunked] at hc

theorem readFirst_app {pre tl : Sched} (hc : chunked pre = true) {b : Nat} {t : List Nat} (h : flat pre = b :: t) :
    ∃ pre', readFirst (pre ++ tl) = (.byte b, pre' ++ tl) ∧ chunked pre' = true ∧ flat pre' = t := by
  cases pre with
  | nil => simp [flat] at h
  | cons it rest =>
    cases it with
    | fail k => simp [chunked] at hc
    | data bs =>
      match bs, hc, h with
      | [], hc, _ => simp [chunked] at hc
      | [x], hc, h =>
        simp [chunked] at hc; simp [flat] at h
        exact ⟨rest, by simp [readFirst, h.1], hc, h.2⟩
      | x :: y :: ys, hc, h =>
        simp [chunked] at hc; simp [flat] at h
        exact ⟨.data (y :: ys) :: rest, by simp [readFirst, h.1], by simp [chunked, hc], by simp [flat, h.2]⟩

theorem readCall_app {pre tl : Sched} (hc : chunked pre = true) {n : Nat} (hn : 0 < n) {b : Nat} {t : List Nat}
    (h : flat pre = b :: t) :
    ∃ g gs pre', readCall n (pre ++ tl) = (.ok (g :: gs), pre' ++ tl) ∧ gs.length + 1 ≤ n ∧ chunked pre' = true ∧
      (g :: gs) ++ flat pre' = flat pre := by
  cases pre with
  | nil => simp [flat] at h
  | cons it rest =>
    cases it with
    | fail k => simp [chunked] at hc
    | data bs =>
      cases bs with
      | nil => simp [chunked] at hc
      | cons x xs =>
        simp [chunked] at hc
        by_cases hl : (x :: xs).length ≤ n
        · have hl2 : xs.length + 1 ≤ n := by simpa using hl
          exact ⟨x, xs, rest, by simp [readCall, hl2], hl2, hc, by simp [flat]⟩
        · have hl' : n < xs.length + 1 := by simpa using hl
          obtain ⟨m, rfl⟩ : ∃ m, n = m + 1 := ⟨n - 1, by omega⟩
          refine ⟨x, xs.take m, .data (xs.drop m) :: rest, ?_, ?_, ?_, ?_⟩
          · simp [readCall]; omega
          · simp; omega
          · simp [chunked, hc]; omega
          · simp [flat]; rw [← List.append_assoc, List.take_append_drop]

theorem readCall_chunked {s : Sched} (hc : chunked s = true) {n : Nat} (hn : 0 < n) {b : Nat} {t : List Nat}
    (h : flat s = b :: t) :
    ∃ g gs s', readCall n s = (.ok (g :: gs), s') ∧ gs.length + 1 ≤ n ∧ chunked s' = true ∧
      (g :: gs) ++ flat s' = flat s := by
  simpa only [List.append_nil] using readCall_app (tl := []) hc hn h

/-- the continuation loop over a chunked prefix: it completes inside the prefix, or it consumes the whole prefix
and goes on in the tail -/
theorem contLoopF_app (tl : Sched) : ∀ (fuel rem : Nat) (acc : List Nat) (pre : Sched),
    rem ≤ fuel → chunked pre = true →
    (rem ≤ (flat pre).length →
      ∃ pre', contLoopF fuel rem acc (pre ++ tl) = (.done (acc ++ (flat pre).take rem), pre' ++ tl) ∧
        chunked pre' = true ∧ flat pre' = (flat pre).drop rem) ∧
    ((flat pre).length < rem →
      ∃ fuel', rem - (flat pre).length ≤ fuel' ∧
        contLoopF fuel rem acc (pre ++ tl) = contLoopF fuel' (rem - (flat pre).length) (acc ++ flat pre) tl) := by
  intro fuel
  induction fuel with
  | zero =>
    intro rem acc pre hr hc
    have : rem = 0 := by omega
    subst this
    exact ⟨fun _ => ⟨pre, by simp [contLoopF], hc, by simp⟩, fun h => by omega⟩
  | succ fuel ih =>
    intro rem acc pre hr hc
    by_cases h0 : rem = 0
    · subst h0
      exact ⟨fun _ => ⟨pre, by simp [contLoopF], hc, by simp⟩, fun h => by omega⟩
    · cases hf : flat pre with
      | nil =>
        have hs := chunked_flat_nil hc hf
        subst hs
        exact ⟨fun h => by simp at h; omega, fun _ => ⟨fuel + 1, by simpa using hr, by simp⟩⟩
      | cons b t =>
        obtain ⟨g, gs, pre', hrc, hlen, hc', hfl⟩ := readCall_app (tl := tl) hc (Nat.pos_of_ne_zero h0) hf
        have hstep : contLoopF (fuel + 1) rem acc (pre ++ tl) =
            contLoopF fuel (rem - (gs.length + 1)) (acc ++ g :: gs) (pre' ++ tl) := by
          simp [contLoopF, h0, hrc]
        have hlen2 : (b :: t).length = gs.length + 1 + (flat pre').length := by
          rw [← hf, ← hfl]; simp; omega
        have ih' := ih (rem - (gs.length + 1)) (acc ++ g :: gs) pre' (by omega) hc'
        constructor
        · intro hle
          obtain ⟨s'', h1, h2, h3⟩ := ih'.1 (by omega)
          refine ⟨s'', ?_, h2, ?_⟩
          · rw [hstep, h1, ← hf, ← hfl]
            congr 2
            rw [List.take_append]
            simp [List.take_of_length_le (show (g :: gs).length ≤ rem by simpa using hlen)]
          · rw [h3, ← hf, ← hfl, List.drop_append]
            simp [List.drop_eq_nil_of_le (show (g :: gs).length ≤ rem by simpa using hlen)]
        · intro hlt
          obtain ⟨fuel', h1, h2⟩ := ih'.2 (by omega)
          refine ⟨fuel', by omega, ?_⟩
          rw [hstep, h2, ← hf, ← hfl]
          congr 1
          · simp only [List.length_append, List.length_cons]; omega
          · simp

theorem contLoopF_nil {fuel rem : Nat} (h0 : 0 < rem) (hf : rem ≤ fuel) (acc : List Nat) :
    contLoopF fuel rem acc [] = (.eof acc, []) := by
  obtain ⟨f, rfl⟩ : ∃ f, fuel = f + 1 := ⟨fuel - 1, by omega⟩
  have : (rem == 0) = false := by simp; omega
  simp [contLoopF, this, readCall]

theorem contLoopF_fail {fuel rem : Nat} (h0 : 0 < rem) (hf : rem ≤ fuel) (acc : List Nat) (k : IoKind) (post : Sched) :
    contLoopF fuel rem acc (.fail k :: post) = (.err k acc, post) := by
  obtain ⟨f, rfl⟩ : ∃ f, fuel = f + 1 := ⟨fuel - 1, by omega⟩
  have : (rem == 0) = false := by simp; omega
  simp [contLoopF, this, readCall]

theorem pullSeq_app_bad {pre : Sched} (tl : Sched) (hc : chunked pre = true) {b : Nat} {t : List Nat}
    (h : flat pre = b :: t) (hn : needed b = none) :
    ∃ pre', pullSeq (pre ++ tl) = (.stop kInvalidData [], pre' ++ tl) ∧ chunked pre' = true ∧ flat pre' = t := by
  obtain ⟨pre1, h1, hc1, hf1⟩ := readFirst_app (tl := tl) hc h
  exact ⟨pre1, by simp only [pullSeq, h1, hn], hc1, hf1⟩

theorem pullSeq_app_seq {pre : Sched} (tl : Sched) (hc : chunked pre = true) {b n : Nat} {t : List Nat}
    (h : flat pre = b :: t) (hn : needed b = some n) (hlen : n - 1 ≤ t.length) :
    ∃ pre', pullSeq (pre ++ tl) = (.seq b n (t.take (n - 1)), pre' ++ tl) ∧ chunked pre' = true ∧
      flat pre' = t.drop (n - 1) := by
  obtain ⟨pre1, h1, hc1, hf1⟩ := readFirst_app (tl := tl) hc h
  obtain ⟨pre2, h2, hc2, hf2⟩ := (contLoopF_app tl (n - 1) (n - 1) [] pre1 (Nat.le_refl _) hc1).1 (by rw [hf1]; exact hlen)
  rw [hf1] at h2 hf2
  exact ⟨pre2, by simp only [pullSeq, h1, hn, contLoop, h2, List.nil_append], hc2, hf2⟩

theorem pullSeq_app_short {pre : Sched} (hc : chunked pre = true) {b n : Nat} {t : List Nat}
    (h : flat pre = b :: t) (hn : needed b = some n) (hlt : t.length < n - 1) :
    pullSeq pre = (.stop kUnexpectedEof t, []) ∧
    ∀ k post, pullSeq (pre ++ .fail k :: post) = (.stop k t, post) := by
  have key : ∀ tl, ∃ pre1 fuel', readFirst (pre ++ tl) = (.byte b, pre1 ++ tl) ∧ n - 1 - t.length ≤ fuel' ∧
      contLoopF (n - 1) (n - 1) [] (pre1 ++ tl) = contLoopF fuel' (n - 1 - t.length) t tl := by
    intro tl
    obtain ⟨pre1, h1, hc1, hf1⟩ := readFirst_app (tl := tl) hc h
    obtain ⟨fuel', h2, h3⟩ := (contLoopF_app tl (n - 1) (n - 1) [] pre1 (Nat.le_refl _) hc1).2 (by rw [hf1]; exact hlt)
    rw [hf1] at h2 h3
    exact ⟨pre1, fuel', h1, h2, by simpa using h3⟩
  constructor
  · obtain ⟨pre1, fuel', h1, h2, h3⟩ := key []
    simp only [List.append_nil] at h1 h3
    simp only [pullSeq, h1, hn, contLoop, h3, contLoopF_nil (by omega) h2]
  · intro k post
    obtain ⟨pre1, fuel', h1, h2, h3⟩ := key (.fail k :: post)
    simp only [pullSeq, h1, hn, contLoop, h3, contLoopF_fail (by omega) h2]

/-- one decoding step on the flat byte string (no reader, no schedule) -/
inductive FlatStep where
  | endOfInput
  /-- malformed / truncated sequence: the error kind and the bytes left after the ones it consumed -/
  | bad (k : IoKind) (rest : List Nat)
  | char (c : Char) (rest : List Nat)

def flatStep : List Nat → FlatStep
  | [] => .endOfInput
  | b :: t =>
    match needed b with
    | none => .bad kInvalidData t
    | some n =>
      if t.length < n - 1 then .bad kUnexpectedEof []
      else
        match decode1 (b :: t.take (n - 1)) with
        | none => .bad kInvalidData (t.drop (n - 1))
        | some c => .char c (t.drop (n - 1))

def FlatStep.char? : FlatStep → Option Char
  | .char c _ => some c
  | _ => none

def FlatStep.err? : FlatStep → Option IoKind
  | .bad k _ => some k
  | _ => none

def FlatStep.rest : FlatStep → List Nat
  | .endOfInput => []
  | .bad _ r => r
  | .char _ r => r

/-- `ChunkedChars::next_char` over ANY partition of the stream into non-empty read results is the flat step -/
theorem nextChar_chunked (cc : CC) (hc : chunked cc.reader = true) (hm : cc.maxBytes = none) :
    ∃ cc', nextChar cc = ((flatStep (flat cc.reader)).char?, cc') ∧
      cc'.cell = (flatStep (flat cc.reader)).err?.or cc.cell ∧ chunked cc'.reader = true ∧
      flat cc'.reader = (flatStep (flat cc.reader)).rest ∧ cc'.maxBytes = none := by
  rw [nextChar_eq]
  cases hf : flat cc.reader with
  | nil =>
    rw [chunked_flat_nil hc hf]
    exact ⟨_, rfl, rfl, rfl, rfl, hm⟩
  | cons b t =>
    simp only [flatStep]
    cases hn : needed b with
    | none =>
      obtain ⟨s', h1, hc', hf'⟩ := pullSeq_app_bad [] hc hf hn
      simp only [List.append_nil] at h1
      rw [h1]
      exact ⟨_, rfl, rfl, hc', hf', hm⟩
    | some n =>
      dsimp only
      by_cases hlt : t.length < n - 1
      · rw [(pullSeq_app_short hc hf hn hlt).1, if_pos hlt]
        exact ⟨_, rfl, rfl, rfl, rfl, hm⟩
      · obtain ⟨s', h1, hc', hf'⟩ := pullSeq_app_seq [] hc hf hn (by omega)
        simp only [List.append_nil] at h1
        rw [h1, if_neg hlt]
        simp only [deliver, hm, Option.all_none, if_true]
        cases decode1 (b :: t.take (n - 1)) with
        | none => exact ⟨_, rfl, rfl, hc', hf', rfl⟩
        | some c => exact ⟨_, rfl, rfl, hc', hf', rfl⟩

@[simp] theorem noteChar_reader (cc : CC) (c : Char) : (noteChar cc c).reader = cc.reader := by
  unfold noteChar; split <;> split <;> rfl
@[simp] theorem noteChar_maxBytes (cc : CC) (c : Char) : (noteChar cc c).maxBytes = cc.maxBytes := by
  unfold noteChar; split <;> split <;> rfl
@[simp] theorem noteChar_cell (cc : CC) (c : Char) : (noteChar cc c).cell = cc.cell := by
  unfold noteChar; split <;> split <;> rfl
@[simp] theorem noteChar_pulled (cc : CC) (c : Char) : (noteChar cc c).pulled = cc.pulled := by
  unfold noteChar; split <;> split <;> rfl
@[simp] theorem noteChar_totalBytes (cc : CC) (c : Char) : (noteChar cc c).totalBytes = cc.totalBytes := by
  unfold noteChar; split <;> split <;> rfl

/-- run `next` while `next_char` delivers characters; stops at the first `None` of `next_char` and returns
the state right after that call (before `next` decides about the synthetic break) -/
def collectRaw : Nat → CC → List Char × CC
  | 0, cc => ([], cc)
  | fuel + 1, cc =>
    match nextChar cc with
    | (none, cc') => ([], cc')
    | (some c, cc') =>
      let r := collectRaw fuel (noteChar cc' c)
      (c :: r.1, r.2)

/-- greedy decoding of the flat byte string: characters, the error kind at the stopping point (if
any), and the undecoded remainder -/
def flatDecode : Nat → List Nat → List Char × Option IoKind × List Nat
  | 0, bs => ([], none, bs)
  | fuel + 1, bs =>
    match flatStep bs with
    | .endOfInput => ([], none, [])
    | .bad k _ => ([], some k, bs)
    | .char c rest =>
      let r := flatDecode fuel rest
      (c :: r.1, r.2.1, r.2.2)

theorem flatStep_char {bs : List Nat} {c : Char} {rest : List Nat} (h : flatStep bs = .char c rest) :
    bs = encodeChar c ++ rest ∧ rest.length < bs.length := by
  cases bs with
  | nil => cases h
  | cons b t =>
    simp only [flatStep] at h
    split at h
    · cases h
    split at h
    · cases h
    split at h
    · cases h
    rename_i hd
    cases h
    exact ⟨by rw [← decode1_sound _ _ hd]; simp, by simp; omega⟩

theorem flatStep_encodeChar (c : Char) (rest : List Nat) : flatStep (encodeChar c ++ rest) = .char c rest := by
  obtain ⟨b, r, he, hn⟩ := encodeChar_shape c
  have hd := decode1_encodeChar c
  rw [he] at hd ⊢
  have ht : (r ++ rest).take (r.length + 1 - 1) = r := by simp
  have hdr : (r ++ rest).drop (r.length + 1 - 1) = rest := by simp
  simp only [List.cons_append, flatStep, hn, ht, hdr, hd]
  rw [if_neg (by simp)]

theorem flatStep_bad {bs : List Nat} {k : IoKind} {r' : List Nat} (h : flatStep bs = .bad k r') : bs ≠ [] ∧ ¬ StartsWithChar bs := by
  refine ⟨fun h0 => (by rw [h0] at h; cases h), ?_⟩
  rintro ⟨c, tail, rfl⟩
  rw [flatStep_encodeChar] at h
  cases h

theorem flatStep_end {bs : List Nat} (h : flatStep bs = .endOfInput) : bs = [] := by
  cases bs with
  | nil => rfl
  | cons b t =>
    simp only [flatStep] at h
    split at h
    · cases h
    · split at h
      · cases h
      · split at h <;> cases h

theorem flatDecode_spec : ∀ (fuel : Nat) (bs : List Nat), bs.length < fuel →
    bs = encode (flatDecode fuel bs).1 ++ (flatDecode fuel bs).2.2 ∧
    ((flatDecode fuel bs).2.2 = [] ↔ (flatDecode fuel bs).2.1 = none) ∧
    ((flatDecode fuel bs).2.2 ≠ [] → ¬ StartsWithChar (flatDecode fuel bs).2.2) := by
  intro fuel
  induction fuel with
  | zero => intro bs h; omega
  | succ fuel ih =>
    intro bs hl
    simp only [flatDecode]
    cases hs : flatStep bs with
    | endOfInput =>
      have := flatStep_end hs
      subst this
      simp [encode]
    | bad k =>
      obtain ⟨h1, h2⟩ := flatStep_bad hs
      simp [encode, h1, h2]
    | char c rest =>
      obtain ⟨h1, h2⟩ := flatStep_char hs
      obtain ⟨i1, i2, i3⟩ := ih rest (by omega)
      simp only []
      refine ⟨?_, i2, i3⟩
      simp only [encode, List.append_assoc]
      rw [← i1]; exact h1

theorem flatDecode_encode : ∀ (t : List Char) (fuel : Nat), (encode t).length < fuel →
    (flatDecode fuel (encode t)).1 = t ∧ (flatDecode fuel (encode t)).2.1 = none ∧
    (flatDecode fuel (encode t)).2.2 = []
  | _, 0, h => by omega
  | [], _ + 1, _ => by simp [encode, flatDecode, flatStep]
  | c :: cs, f + 1, h => by
    have hl : (encode cs).length < f := by
      obtain ⟨b, r, he, _⟩ := encodeChar_shape c
      simp only [encode, he, List.length_append, List.length_cons] at h
      omega
    obtain ⟨i1, i2, i3⟩ := flatDecode_encode cs f hl
    simp only [encode, flatDecode, flatStep_encodeChar]
    exact ⟨by rw [i1], i2, i3⟩

theorem collectRaw_eq_flat : ∀ (fuel : Nat) (cc : CC), chunked cc.reader = true → cc.maxBytes = none →
    (flat cc.reader).length < fuel →
    (collectRaw fuel cc).1 = (flatDecode fuel (flat cc.reader)).1 ∧
    (collectRaw fuel cc).2.cell = (flatDecode fuel (flat cc.reader)).2.1.or cc.cell ∧
    ((flatDecode fuel (flat cc.reader)).2.2 = [] → (collectRaw fuel cc).2.reader = []) := by
  intro fuel
  induction fuel with
  | zero => intro cc _ _ h; omega
  | succ fuel ih =>
    intro cc hc hm hl
    obtain ⟨cc', e1, e2, e3, e4, e5⟩ := nextChar_chunked cc hc hm
    simp only [collectRaw, flatDecode, e1]
    cases hs : flatStep (flat cc.reader) with
    | endOfInput => rw [hs] at e2 e4; exact ⟨rfl, e2, fun _ => chunked_flat_nil e3 e4⟩
    | bad k => rw [hs] at e2; exact ⟨rfl, e2, fun h => absurd h (flatStep_bad hs).1⟩
    | char c rest =>
      rw [hs] at e2 e4
      dsimp only [FlatStep.char?, FlatStep.rest] at e4 ⊢
      have hlt := (flatStep_char hs).2
      obtain ⟨i1, i2, i3⟩ := ih (noteChar cc' c) (by simpa using e3) (by simpa using e5)
        (by rw [noteChar_reader, e4]; omega)
      rw [noteChar_reader, e4] at i1 i2 i3
      rw [noteChar_cell, e2] at i2
      exact ⟨by rw [i1], i2, i3⟩

/-- a hard reader error after a chunked prefix: the cell holds `kInvalidData` for a malformed sequence in the prefix,
else `k` — also where the prefix ends inside a code point and `flatDecode` of it alone says `kUnexpectedEof`: the
continuation loop meets the failing call and stores its `Err` -/
theorem collectRaw_fault (k : IoKind) (hk1 : k ≠ kInterrupted) (post : Sched) :
    ∀ (fuel : Nat) (cc : CC) (pre : Sched), cc.reader = pre ++ .fail k :: post → chunked pre = true →
    cc.maxBytes = none → (flat pre).length < fuel →
    (collectRaw fuel cc).1 = (flatDecode fuel (flat pre)).1 ∧
    (collectRaw fuel cc).2.cell =
      some (if (flatDecode fuel (flat pre)).2.1 = some kInvalidData then kInvalidData else k) := by
  intro fuel
  induction fuel with
  | zero => intro cc pre _ _ _ h; omega
  | succ fuel ih =>
    intro cc pre hr hc hm hl
    simp only [collectRaw, flatDecode, nextChar_eq, hr]
    cases hf : flat pre with
    | nil =>
      rw [chunked_flat_nil hc hf]
      have hki : (k == kInterrupted) = false := by simpa using hk1
      simp [pullSeq, readFirst, hki, deliver, flatStep]
    | cons b t =>
      cases hn : needed b with
      | none =>
        obtain ⟨pre1, h1, _⟩ := pullSeq_app_bad (.fail k :: post) hc hf hn
        simp [h1, deliver, flatStep, hn]
      | some n =>
        by_cases hlt : t.length < n - 1
        · simp [(pullSeq_app_short hc hf hn hlt).2 k post, deliver, flatStep, hn, hlt, kInvalidData, kUnexpectedEof]
        · obtain ⟨pre2, h2, hc2, hf2⟩ := pullSeq_app_seq (.fail k :: post) hc hf hn (by omega)
          cases hd : decode1 (b :: t.take (n - 1)) with
          | none => simp [h2, deliver, hm, flatStep, hn, hlt, hd]
          | some c =>
            simp only [h2, deliver, hm, Option.all_none, if_true, flatStep, hn, hlt, if_false, hd]
            have hlen : (flat pre2).length < fuel := by
              rw [hf2, List.length_drop]; rw [hf] at hl; simp only [List.length_cons] at hl; omega
            have := ih (noteChar { cc with reader := pre2 ++ (.fail k :: post), pulled := cc.pulled + 1 + (t.take (n - 1)).length, totalBytes := cc.totalBytes + n, maxBytes := none } c)
              pre2 (by simp) hc2 (by simp) hlen
            rw [hf2] at this
            exact ⟨by rw [this.1], this.2⟩

theorem nextChar_flags (cc : CC) :
    (nextChar cc).2.atLineStart = cc.atLineStart ∧ (nextChar cc).2.inDirectiveLine = cc.inDirectiveLine := by
  obtain ⟨_, _, _, _, h, _⟩ := nextChar_frame cc
  rw [h]; exact ⟨rfl, rfl⟩

theorem nextChar_cell_mono (cc : CC) (hs : cc.cell.isSome = true) : (nextChar cc).2.cell.isSome = true := by
  obtain ⟨_, _, _, c, h, _, _, _, hc, _⟩ := nextChar_frame cc
  rw [h]
  rcases hc with rfl | hc
  · exact hs
  · exact hc

theorem nextChar_bytes (cc : CC) :
    (flat (nextChar cc).2.reader).length ≤ (flat cc.reader).length ∧
    (∀ c, (nextChar cc).1 = some c → (flat (nextChar cc).2.reader).length < (flat cc.reader).length) := by
  obtain ⟨r, p, _, _, h, hb, _, _, _, hch⟩ := nextChar_frame cc
  rw [h]
  exact ⟨Nat.le.intro hb, fun ch hc => by have := (hch ch hc).1; show (flat r).length < _; omega⟩

theorem next_some {cc cc' : CC} {c : Char} (h : nextChar cc = (some c, cc')) : next cc = (some c, noteChar cc' c) := by
  simp [next, h]

theorem next_none {cc cc' : CC} (h : nextChar cc = (none, cc')) :
    next cc = if cc'.inDirectiveLine then (some '\n', { cc' with inDirectiveLine := false, atLineStart := true }) else (none, cc') := by
  simp [next, h]

theorem next_frame (cc : CC) :
    ∃ a d, (next cc).2 = { (nextChar cc).2 with atLineStart := a, inDirectiveLine := d } := by
  unfold next
  obtain ⟨_ | c, cc'⟩ := nextChar cc
  · dsimp only; split <;> exact ⟨_, _, rfl⟩
  · dsimp only [noteChar]; split <;> split <;> exact ⟨_, _, rfl⟩

theorem collectRaw_len : ∀ (fuel : Nat) (cc : CC),
    (collectRaw fuel cc).1.length + (flat (collectRaw fuel cc).2.reader).length ≤ (flat cc.reader).length := by
  intro fuel
  induction fuel with
  | zero => intro cc; simp [collectRaw]
  | succ fuel ih =>
    intro cc
    obtain ⟨h1, h2⟩ := nextChar_bytes cc
    cases hn : nextChar cc with
    | mk r cc' =>
      rw [hn] at h1 h2
      cases r with
      | none => simp only [collectRaw, hn]; simpa using h1
      | some c =>
        simp only [collectRaw, hn]
        have := ih (noteChar cc' c)
        have := h2 c rfl
        simp at *
        omega

/-- the flag bookkeeping of `next` on its own -/
def stepFlags (st : Bool × Bool) (c : Char) : Bool × Bool :=
  let st := if st.1 && c != Char.ofNat 0xFEFF then (false, c == '%') else st
  if c == '\n' || c == '\r' then (true, false) else st

theorem noteChar_flags (cc : CC) (c : Char) :
    ((noteChar cc c).atLineStart, (noteChar cc c).inDirectiveLine) = stepFlags (cc.atLineStart, cc.inDirectiveLine) c := by
  unfold noteChar stepFlags
  by_cases h1 : (cc.atLineStart && c != Char.ofNat 0xFEFF) = true <;>
    by_cases h2 : (c == '\n' || c == '\r') = true <;> simp [h1, h2]

theorem collectRaw_flags : ∀ (fuel : Nat) (cc : CC),
    ((collectRaw fuel cc).2.atLineStart, (collectRaw fuel cc).2.inDirectiveLine) =
      (collectRaw fuel cc).1.foldl stepFlags (cc.atLineStart, cc.inDirectiveLine) := by
  intro fuel
  induction fuel with
  | zero => intro cc; simp [collectRaw]
  | succ fuel ih =>
    intro cc
    have hf := nextChar_flags cc
    cases hn : nextChar cc with
    | mk r cc' =>
      rw [hn] at hf
      cases r with
      | none => simp only [collectRaw, hn, List.foldl_nil]; simpa using hf
      | some c =>
        simp only [collectRaw, hn, List.foldl_cons]
        rw [ih (noteChar cc' c), noteChar_flags]
        have h1 := hf.1
        have h2 := hf.2
        simp only at h1 h2
        rw [h1, h2]

theorem dropWhile_nil_iff_all (p : Char → Bool) (l : List Char) : l.dropWhile p = [] ↔ l.all p = true := by
  induction l with
  | nil => simp
  | cons x xs ih =>
    by_cases hx : p x = true
    · simp [hx, ih]
    · simp [hx]

theorem lastLine_snoc (t : List Char) (c : Char) :
    lastLine (t ++ [c]) = if isBreak c then [] else lastLine t ++ [c] := by
  unfold lastLine
  by_cases h : isBreak c = true <;> simp [h]

/-- `at_line_start` means "only byte-order marks so far on this line"; with that the directive flag is inductive.
Stated for `r.reverse` so that induction on `r` appends a character. -/
theorem flags_spec_rev (r : List Char) :
    r.reverse.foldl stepFlags (true, false) = ((lastLine r.reverse).all isBom, lastLineIsDirective r.reverse) := by
  induction r with
  | nil => simp [lastLine, lastLineIsDirective]
  | cons c r ih =>
    rw [List.reverse_cons]
    generalize r.reverse = t at ih ⊢
    rw [List.foldl_append, ih]
    simp only [List.foldl_cons, List.foldl_nil, lastLineIsDirective, lastLine_snoc]
    unfold stepFlags
    by_cases hb : isBreak c = true
    · have hb' : (c == '\n' || c == '\r') = true := hb
      simp [hb, hb']
    · have hb' : (c == '\n' || c == '\r') = false := by simpa [isBreak] using hb
      simp only [hb, hb', Bool.false_eq_true, if_false]
      by_cases hall : (lastLine t).all isBom = true
      · -- only byte-order marks so far on this line
        have hdw : (lastLine t).dropWhile isBom = [] := (dropWhile_nil_iff_all _ _).2 hall
        by_cases hc : isBom c = true
        · have hc' : (c != Char.ofNat 0xFEFF) = false := by simpa [isBom] using hc
          simp [hall, hc', hc, List.dropWhile_append, hdw]
        · have hc' : (c != Char.ofNat 0xFEFF) = true := by simpa [isBom] using hc
          simp [hall, hc', hc, List.dropWhile_append, hdw]
      · have hne : (lastLine t).dropWhile isBom ≠ [] := by
          intro h; exact hall ((dropWhile_nil_iff_all _ _).1 h)
        simp only [hall, Bool.false_and, Bool.false_eq_true, if_false]
        have : ((lastLine t ++ [c]).dropWhile isBom) = (lastLine t).dropWhile isBom ++ [c] := by
          rw [List.dropWhile_append]; simp [hne]
        rw [this]
        cases hd : (lastLine t).dropWhile isBom with
        | nil => exact absurd hd hne
        | cons x xs => simp [hall]

theorem flags_spec (t : List Char) :
    t.foldl stepFlags (true, false) = ((lastLine t).all isBom, lastLineIsDirective t) := by
  have := flags_spec_rev t.reverse
  simpa using this

theorem collectRaw_directive (fuel : Nat) (cc : CC) (hs : cc.atLineStart = true) (hd : cc.inDirectiveLine = false) :
    (collectRaw fuel cc).2.inDirectiveLine = lastLineIsDirective (collectRaw fuel cc).1 := by
  have := collectRaw_flags fuel cc
  rw [hs, hd, flags_spec] at this
  exact congrArg Prod.snd this

/-- the fuel of `collectAll` outlasts the bytes -/
theorem bytes_lt_fuel (s : Sched) : (flat s).length < 2 * Sched.bytes s + 2 := by
  unfold Sched.bytes; omega

theorem collectRaw_lt_fuel {fuel : Nat} {cc : CC} (h : (flat cc.reader).length < fuel) :
    (collectRaw fuel cc).1.length < fuel := by
  have := collectRaw_len fuel cc
  omega

theorem next_cell_mono (cc : CC) (h : cc.cell.isSome = true) : (next cc).2.cell.isSome = true := by
  obtain ⟨a, d, hn⟩ := next_frame cc
  rw [hn]; exact nextChar_cell_mono cc h

theorem collect_inv {P : CC → Prop} (hstep : ∀ cc, P cc → P (next cc).2) :
    ∀ (fuel : Nat) (cc : CC), P cc → P (collect fuel cc).2
  | 0, _, h => h
  | fuel + 1, cc, h => by
    have := hstep cc h
    simp only [collect]
    cases hn : next cc with
    | mk r cc' =>
      rw [hn] at this
      cases r with
      | none => exact this
      | some c => exact collect_inv hstep fuel cc' this

theorem collect_sim {R : CC → CC → Prop} (hstep : ∀ a b, R a b → (next a).1 = (next b).1 ∧ R (next a).2 (next b).2) :
    ∀ (fuel : Nat) (a b : CC), R a b → (collect fuel a).1 = (collect fuel b).1 ∧ R (collect fuel a).2 (collect fuel b).2
  | 0, _, _, h => ⟨rfl, h⟩
  | fuel + 1, a, b, h => by
    obtain ⟨h1, h2⟩ := hstep a b h
    simp only [collect]
    cases ha : next a with
    | mk r a' =>
      cases hb : next b with
      | mk r' b' =>
        rw [ha, hb] at h1 h2
        cases h1
        cases r with
        | none => exact ⟨rfl, h2⟩
        | some c =>
          obtain ⟨i1, i2⟩ := collect_sim hstep fuel a' b' h2
          exact ⟨congrArg (c :: ·) i1, i2⟩

theorem collect_cell_mono (fuel : Nat) (cc : CC) (h : cc.cell.isSome = true) : (collect fuel cc).2.cell.isSome = true :=
  collect_inv (P := fun cc => cc.cell.isSome = true) next_cell_mono fuel cc h

theorem next_exhausted (cc : CC) (hr : cc.reader = []) (hd : cc.inDirectiveLine = false) : next cc = (none, cc) := by
  have : nextChar cc = (none, cc) := by
    unfold nextChar; rw [hr]; simp [readFirst]; cases cc; simp_all
  simp [next, this, hd]

theorem collect_exhausted (fuel : Nat) (cc : CC) (hr : cc.reader = []) (hd : cc.inDirectiveLine = false) :
    collect fuel cc = ([], cc) := by
  cases fuel with
  | zero => rfl
  | succ f => simp [collect, next_exhausted cc hr hd]

/-- a run of `next` = the run of real characters, then — exactly when the state says "inside a directive
line" — the synthetic break followed by the continuation -/
theorem collect_seg : ∀ (fuel : Nat) (cc : CC), (collectRaw fuel cc).1.length < fuel →
    collect fuel cc =
      if (collectRaw fuel cc).2.inDirectiveLine then
        ((collectRaw fuel cc).1 ++ '\n' ::
            (collect (fuel - (collectRaw fuel cc).1.length - 1) { (collectRaw fuel cc).2 with inDirectiveLine := false, atLineStart := true }).1,
          (collect (fuel - (collectRaw fuel cc).1.length - 1) { (collectRaw fuel cc).2 with inDirectiveLine := false, atLineStart := true }).2)
      else ((collectRaw fuel cc).1, (collectRaw fuel cc).2) := by
  intro fuel
  induction fuel with
  | zero => intro cc h; simp [collectRaw] at h
  | succ fuel ih =>
    intro cc h
    cases hn : nextChar cc with
    | mk r cc' =>
      cases r with
      | none =>
        simp only [collectRaw, hn, collect, next_none hn]
        by_cases hd : cc'.inDirectiveLine = true
        · simp [hd]
        · simp [hd]
      | some c =>
        simp only [collectRaw, hn] at h ⊢
        simp only [collect, next_some hn]
        have := ih (noteChar cc' c) (by simp at h; omega)
        rw [this]
        by_cases hd : (collectRaw fuel (noteChar cc' c)).2.inDirectiveLine = true
        · simp only [hd, if_true, List.length_cons, List.cons_append]
          have e : fuel + 1 - ((collectRaw fuel (noteChar cc' c)).1.length + 1) - 1 =
              fuel - (collectRaw fuel (noteChar cc' c)).1.length - 1 := by omega
          rw [e]
        · simp [hd]

theorem collect_seg_general (fuel : Nat) (cc : CC) (hfin : (collectRaw fuel cc).1.length < fuel) :
    ∃ more, (collect fuel cc).1 =
        (collectRaw fuel cc).1 ++ (if (collectRaw fuel cc).2.inDirectiveLine then '\n' :: more else []) ∧
      ((collectRaw fuel cc).2.cell.isSome = true → (collect fuel cc).2.cell.isSome = true) ∧
      ((collectRaw fuel cc).2.inDirectiveLine = false → (collect fuel cc).2.cell = (collectRaw fuel cc).2.cell) ∧
      ((collectRaw fuel cc).2.reader = [] → more = [] ∧ (collect fuel cc).2.cell = (collectRaw fuel cc).2.cell) := by
  rw [collect_seg fuel cc hfin]
  by_cases hd : (collectRaw fuel cc).2.inDirectiveLine = true
  · simp only [hd, if_true]
    refine ⟨_, rfl, fun hs => collect_cell_mono _ _ (by simpa using hs), fun h => by simp at h, fun hr => ?_⟩
    rw [collect_exhausted _ { (collectRaw fuel cc).2 with inDirectiveLine := false, atLineStart := true } hr rfl]
    exact ⟨rfl, rfl⟩
  · exact ⟨[], by simp [hd]⟩

/-- the characters are the strict decoding `pre` of the longest well-formed prefix, then one line break iff `pre` stops
inside a `%` line (`more`: what `next` yields after that break); an error is recorded iff something is left -/
theorem collect_decode (fuel : Nat) (cc : CC) (hs : chunked cc.reader = true) (hm : cc.maxBytes = none)
    (hcl : cc.cell = none) (hst : cc.atLineStart = true) (hdl : cc.inDirectiveLine = false)
    (hfuel : (flat cc.reader).length < fuel) :
    ∃ pre rest more, flat cc.reader = encode pre ++ rest ∧ (rest ≠ [] → ¬ StartsWithChar rest) ∧
      (collect fuel cc).1 = pre ++ (if lastLineIsDirective pre then '\n' :: more else []) ∧
      (rest = [] → more = []) ∧ (rest = [] ↔ (collect fuel cc).2.cell = none) := by
  have h2 := flatDecode_spec fuel (flat cc.reader) hfuel
  have hdir := collectRaw_directive fuel cc hst hdl
  obtain ⟨hpre, hcell, hdrain⟩ := collectRaw_eq_flat fuel cc hs hm hfuel
  rw [hcl, Option.or_none] at hcell
  obtain ⟨more, c1, c2, _, c4⟩ := collect_seg_general fuel cc (collectRaw_lt_fuel hfuel)
  refine ⟨_, _, more, h2.1, h2.2.2, by rw [c1, hdir, hpre], fun h => (c4 (hdrain h)).1, fun h => ?_, fun hnone => ?_⟩
  · -- the input simply ended: the reader is drained
    rw [(c4 (hdrain h)).2, hcell, h2.2.1.1 h]
  · -- an error `next_char` has recorded is still in the cell at the end
    apply h2.2.1.2
    cases hk : (flatDecode fuel (flat cc.reader)).2.1 with
    | none => rfl
    | some k =>
      have := c2 (by rw [hcell, hk]; rfl)
      rw [hnone] at this
      cases this

theorem collect_valid (fuel : Nat) (cc : CC) (text : List Char) (hs : chunked cc.reader = true)
    (hm : cc.maxBytes = none) (hcl : cc.cell = none) (hst : cc.atLineStart = true) (hdl : cc.inDirectiveLine = false)
    (hf : flat cc.reader = encode text) (hfuel : (flat cc.reader).length < fuel) :
    (collect fuel cc).1 = terminated text ∧ (collect fuel cc).2.cell = none := by
  have hk := flatDecode_encode text fuel (hf ▸ hfuel)
  obtain ⟨e1, e2, e3⟩ := collectRaw_eq_flat fuel cc hs hm hfuel
  rw [hf] at e1 e2 e3
  obtain ⟨more, c1, _, _, c4⟩ := collect_seg_general fuel cc (collectRaw_lt_fuel hfuel)
  obtain ⟨rfl, c2⟩ := c4 (e3 hk.2.2)
  rw [c1, c2, collectRaw_directive fuel cc hst hdl, e1, e2, hk.1, hk.2.1, hcl]
  refine ⟨?_, rfl⟩
  unfold terminated
  split <;> simp

theorem collect_fault_cell (k : IoKind) (hk1 : k ≠ kInterrupted) (post : Sched) (fuel : Nat) (cc : CC) (pre : Sched)
    (hr : cc.reader = pre ++ .fail k :: post) (hc : chunked pre = true) (hm : cc.maxBytes = none)
    (hfuel : (flat cc.reader).length < fuel) : (collect fuel cc).2.cell ≠ none := by
  have hb : (flat pre).length < fuel := by
    rw [hr, flat_append, List.length_append] at hfuel
    omega
  have hraw := (collectRaw_fault k hk1 post fuel cc pre hr hc hm hb).2
  obtain ⟨more, _, c2, _⟩ := collect_seg_general fuel cc (collectRaw_lt_fuel hfuel)
  have := c2 (by rw [hraw]; rfl)
  intro hnone
  rw [hnone] at this
  simp at this

structure SameView (a b : CC) : Prop where
  chunkedL : chunked a.reader = true
  chunkedR : chunked b.reader = true
  bytes : flat a.reader = flat b.reader
  capL : a.maxBytes = none
  capR : b.maxBytes = none
  start : a.atLineStart = b.atLineStart
  directive : a.inDirectiveLine = b.inDirectiveLine
  cell : a.cell = b.cell

theorem next_sameView {a b : CC} (h : SameView a b) : (next a).1 = (next b).1 ∧ SameView (next a).2 (next b).2 := by
  obtain ⟨a', ea, a1, a2, a3, a4⟩ := nextChar_chunked a h.chunkedL h.capL
  obtain ⟨b', eb, b1, b2, b3, b4⟩ := nextChar_chunked b h.chunkedR h.capR
  have fa := nextChar_flags a
  have fb := nextChar_flags b
  rw [ea] at fa; rw [eb] at fb
  rw [← h.bytes] at eb b1 b3
  have h' : SameView a' b' :=
    ⟨a2, b2, a3.trans b3.symm, a4, b4, fa.1.trans (h.start.trans fb.1.symm),
      fa.2.trans (h.directive.trans fb.2.symm), by rw [a1, b1, h.cell]⟩
  cases ho : (flatStep (flat a.reader)).char? with
  | none =>
    rw [ho] at ea eb
    rw [next_none ea, next_none eb, ← h'.directive]
    by_cases hx : a'.inDirectiveLine = true
    · simp only [hx, if_true]
      exact ⟨trivial, h'.chunkedL, h'.chunkedR, h'.bytes, h'.capL, h'.capR, rfl, rfl, h'.cell⟩
    · simp only [hx, Bool.false_eq_true, if_false]
      exact ⟨trivial, h'⟩
  | some c =>
    rw [ho] at ea eb
    rw [next_some ea, next_some eb]
    have hn := noteChar_flags a' c
    rw [h'.start, h'.directive, ← noteChar_flags b' c] at hn
    exact ⟨rfl, by simpa using h'.chunkedL, by simpa using h'.chunkedR, by simpa using h'.bytes, by simpa using h'.capL,
      by simpa using h'.capR, congrArg Prod.fst hn, congrArg Prod.snd hn, by simpa using h'.cell⟩

/-- `collect` over chunked readers depends only on the bytes (also past malformed sequences) -/
theorem collect_indep (fuel : Nat) (a b : CC) (h : SameView a b) :
    (collect fuel a).1 = (collect fuel b).1 ∧ (collect fuel a).2.cell = (collect fuel b).2.cell :=
  (collect_sim (fun _ _ => next_sameView) fuel a b h).imp_right SameView.cell

end SaphyrVerif.Lemmas.C09
