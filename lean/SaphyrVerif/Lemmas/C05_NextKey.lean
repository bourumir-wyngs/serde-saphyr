import SaphyrVerif.Lemmas.C05_Merge
import SaphyrVerif.Lemmas.C05_Deser
import SaphyrVerif.Lemmas.C05_Stream
import SaphyrVerif.Lemmas.DeEqns
/-!
C05: single steps of `MA::next_key_seed` (`nextKey`) on a replay cursor, one lemma per path: end of the
mapping, flushing merged entries; reading an entry, the look-ahead and the capture of the key (`nextKey_live_key`)
and then what the regimes of `DeEqns` behind the key do: `nkMerge` at a merge key, `nkKey` — for any cursor, state
and captured key — at a repeated key under each policy and at delivery.
-/
namespace SaphyrVerif.Lemmas.C05
open SaphyrVerif SaphyrVerif.Scalars SaphyrVerif.Pump SaphyrVerif.De SaphyrVerif.Spec

@[simp] theorem fpOf_scalar (v : List Char) (tag : Nat) (rt : Option (List Char)) (st : Style) (a : Nat) (l : Loc) :
    fpOf (.scalar v tag rt st a l) = .scalar v tag := by rw [fpOf]
@[simp] theorem fpOf_seq (a tag : Nat) (rt : Option (List Char)) (l el : Loc) (items : List ENode) :
    fpOf (.seq a tag rt l el items) = .seq (fpOfL items) := by rw [fpOf]
@[simp] theorem fpOf_map (a : Nat) (l el : Loc) (es : List (ENode × ENode)) :
    fpOf (.map a l el es) = .map (fpOfE es) := by rw [fpOf]
@[simp] theorem fpOfE_nil : fpOfE [] = [] := by rw [fpOfE]
@[simp] theorem fpOfE_cons (k v : ENode) (es : List (ENode × ENode)) :
    fpOfE ((k, v) :: es) = (fpOf k, fpOf v) :: fpOfE es := by rw [fpOfE]

/-- the explicit-empty-key flag of a key fingerprint -/
def kemnOf (fp : FP) : Bool :=
  match fp with
  | .map [] => true
  | _ => false

inductive FPShape : FP → Prop where
  | scalar (v : List Char) (t : Nat) : FPShape (.scalar v t)
  | seq (l : List FP) : FPShape (.seq l)
  | mapNil : FPShape (.map [])
  | mapOneScalar (sv : List Char) (stag : Nat) (b : FP) (h : fpNullish sv stag = false) : FPShape (.map [(.scalar sv stag, b)])
  | mapOneSeq (l : List FP) (b : FP) : FPShape (.map [(.seq l, b)])
  | mapOneMap (l : List (FP × FP)) (b : FP) : FPShape (.map [(.map l, b)])
  | mapMany (e1 e2 : FP × FP) (es : List (FP × FP)) : FPShape (.map (e1 :: e2 :: es))

theorem fpShape_of_key {k : ENode} (h : keyShapeOK k = true) : FPShape (fpOf k) := by
  cases k with
  | scalar v tag rt st a l => simpa using FPShape.scalar v tag
  | seq a tag rt l el items => simpa using FPShape.seq _
  | map a l el es =>
    cases es with
    | nil => simpa using FPShape.mapNil
    | cons e es =>
      obtain ⟨k1, v1⟩ := e
      cases es with
      | cons e2 es2 =>
        obtain ⟨k2, v2⟩ := e2
        simpa using FPShape.mapMany _ _ _
      | nil =>
        cases k1 with
        | scalar sv stag rt st a' l' =>
          simp only [keyShapeOK, Bool.not_eq_true'] at h
          simpa using FPShape.mapOneScalar sv stag _ h
        | seq => simpa using FPShape.mapOneSeq _ _
        | map => simpa using FPShape.mapOneMap _ _

theorem nextKey_end_empty {buf : List Ev} {i : Nat} (ref : Option Loc) {el : Loc} {tl : List Ev} (fuel : Nat) (cfg : Cfg)
    (kseed : Ty ⊕ Unit) (m : MA) (h : buf.drop i = .mapEnd el :: tl) (hp : m.pending = []) (hf : m.flushingMerges = false)
    (hs : m.mergeStack = []) :
    nextKey (fuel + 1) cfg kseed (.replay buf i ref) m = .ok (.done, m) (.replay buf (i + 1) ref) := by
  rw [nextKey]
  simp only [hp, hf, Cursor.peek_replay_of_drop ref h, Cursor.next_replay_of_drop ref h, hs]
  simp

theorem nextKey_end_flush {buf : List Ev} {i : Nat} (ref : Option Loc) {el : Loc} {tl : List Ev} (fuel : Nat) (cfg : Cfg)
    (kseed : Ty ⊕ Unit) (m : MA) (h : buf.drop i = .mapEnd el :: tl) (hp : m.pending = []) (hf : m.flushingMerges = false)
    (hs : m.mergeStack ≠ []) :
    nextKey (fuel + 1) cfg kseed (.replay buf i ref) m =
      nextKey (fuel + 1) cfg kseed (.replay buf (i + 1) ref) { m with flushingMerges := true } := by
  rw [nextKey, nextKey]
  simp only [hp, hf, Cursor.peek_replay_of_drop ref h, Cursor.next_replay_of_drop ref h]
  have : m.mergeStack.isEmpty = false := by cases hm : m.mergeStack <;> simp_all
  simp [this]

theorem enqueue_go_spec (stack : List (List PendingEntry)) :
    (stack.flatten = [] ∧ enqueueNextMergeBatch.go stack = (false, [], [])) ∨
    (∃ b rest, enqueueNextMergeBatch.go stack = (true, b, rest) ∧ b ≠ [] ∧ b ++ rest.flatten = stack.flatten) := by
  induction stack with
  | nil => left; simp [enqueueNextMergeBatch.go]
  | cons b rest ih =>
    cases b with
    | nil =>
      simp only [enqueueNextMergeBatch.go, List.isEmpty_nil, if_true, List.flatten_cons, List.nil_append]
      exact ih
    | cons p ps =>
      right
      exact ⟨p :: ps, rest, by simp [enqueueNextMergeBatch.go], by simp, by simp⟩

theorem enqueue_spec (m : MA) (hp : m.pending = []) :
    (m.mergeStack.flatten = [] ∧ ∃ m2, enqueueNextMergeBatch m = (false, m2)) ∨
    (∃ m2, enqueueNextMergeBatch m = (true, m2) ∧ m2.pending ≠ [] ∧
      m2.pending ++ m2.mergeStack.flatten = m.mergeStack.flatten ∧ m2.flushingMerges = m.flushingMerges ∧
      m2.seen = m.seen) := by
  simp only [enqueueNextMergeBatch]
  rcases enqueue_go_spec m.mergeStack with ⟨h1, h2⟩ | ⟨b, rest, h2, h3, h4⟩
  · exact Or.inl ⟨h1, { m with pending := [] ++ m.pending, mergeStack := [] }, by rw [h2]⟩
  · refine Or.inr ⟨{ m with pending := b ++ m.pending, mergeStack := rest }, by rw [h2], ?_, ?_, rfl, rfl⟩
    · simpa [hp] using h3
    · simpa [hp] using h4

/-- a batch of merged entries is pushed unless it is empty: the flattened stack does not see the difference -/
theorem pushBatch_spec (m : MA) (ps : List PendingEntry) (m2 : MA)
    (h : m2 = if ps.isEmpty then m else { m with mergeStack := ps :: m.mergeStack }) :
    m2.pending = m.pending ∧ m2.flushingMerges = m.flushingMerges ∧ m2.seen = m.seen ∧
      m2.mergeStack.flatten = ps ++ m.mergeStack.flatten := by
  subst h
  cases ps <;> simp

theorem nextKey_flush_empty {c : Cur} (fuel : Nat) (cfg : Cfg) (kseed : Ty ⊕ Unit) (m : MA)
    (hp : m.pending = []) (hf : m.flushingMerges = true) :
    nextKey (fuel + 1) cfg kseed c m =
      match enqueueNextMergeBatch m with
      | (found, m2) =>
        if found then nextKey fuel cfg kseed c m2 else .ok (.done, { m2 with flushingMerges := false }) c := by
  rw [nextKey]
  simp only [hp, hf, if_true]

theorem nextKey_flush_dup {c : Cur} (fuel : Nat) (cfg : Cfg) (kseed : Ty ⊕ Unit) (m : MA) (p : PendingEntry)
    (ps : List PendingEntry) (hp : m.pending = p :: ps) (hf : m.flushingMerges = true)
    (hd : m.seen.any (· == p.key.fp) = true) :
    nextKey (fuel + 1) cfg kseed c m = nextKey fuel cfg kseed c { m with pending := ps } := by
  rw [nextKey]
  simp only [hp, hf, if_true, MA.seenContains, hd]

theorem nextKey_flush_deliver {c : Cur} (fuel : Nat) (cfg : Cfg) (kseed : Ty ⊕ Unit) (m : MA) (p : PendingEntry)
    (ps : List PendingEntry) (hp : m.pending = p :: ps) (hf : m.flushingMerges = true)
    (hd : m.seen.any (· == p.key.fp) = false) (hshape : FPShape p.key.fp) :
    nextKey (fuel + 1) cfg kseed c m =
      match deserKey fuel cfg kseed p.key.events (kemnOf p.key.fp) with
      | .error e => .err e c
      | .ok kv => .ok (.key kv p.key.fp, { m with pending := ps, haveKey := true, pendingValue := some (p.value.events, p.ref), seen := (p.key.fp :: m.seen) }) c := by
  rw [nextKey]
  simp only [hp, hf, if_true, MA.seenContains, hd, Bool.false_eq_true, if_false]
  generalize p.key.fp = fp at hshape ⊢
  cases hshape <;> simp [kemnOf, *] <;> rfl

section live
variable {buf : List Ev} {i : Nat} (ref : Option Loc) {rest : List Ev} (fuel : Nat) (cfg : Cfg) (kseed : Ty ⊕ Unit)
  (m : MA) (k : ENode) {i1 : Nat}

/-- the look-ahead shows the first event of the key `k`, and the key is captured: the regimes `nkMerge` / `nkKey` of
`DeEqns` at the cursor behind the key (a recorded buffer is never `at_alias`) -/
theorem nextKey_live_key (h : buf.drop i = eflatten k ++ rest)
    (hp : m.pending = []) (hf : m.flushingMerges = false)
    (hcap : capture fuel (.replay buf i ref) = .ok ⟨fpOf k, eflatten k, k.loc⟩ (.replay buf i1 ref)) :
    nextKey (fuel + 1) cfg kseed (.replay buf i ref) m =
      if isMergeKeyNode k then nkMerge fuel cfg kseed (.replay buf i1 ref) m
      else nkKey fuel cfg kseed (.replay buf i1 ref) m false ⟨fpOf k, eflatten k, k.loc⟩ := by
  obtain ⟨e, hpk, hopen, -⟩ := peek_replay_node ref h
  rw [nextKey_succ]
  simp only [hp, hf, Bool.false_eq_true, if_false, nkLive, hpk]
  cases e <;> simp [Ev.isOpen] at hopen <;> simp only [hcap, C03.isMergeKey_capture] <;> rfl

end live

theorem nkMerge_replay (fuel : Nat) (cfg : Cfg) (kseed : Ty ⊕ Unit) (m : MA) (buf : List Ev) (i : Nat) (ref : Option Loc) :
    nkMerge fuel cfg kseed (.replay buf i ref) m =
      match pendingFromLive fuel (.replay buf i ref) (Cur.replay buf i ref).refLoc with
      | .err er c => .err er c
      | .ok entries c =>
        nextKey fuel cfg kseed c (if entries.isEmpty then m else { m with mergeStack := entries :: m.mergeStack }) := rfl

section key
variable {fuel : Nat} {cfg : Cfg} {kseed : Ty ⊕ Unit} {c : Cur} {m : MA} {al : Bool} {kn : KeyNode}

theorem nkKey_dup_error (hpol : cfg.dup = .error) (hd : m.seen.any (· == kn.fp) = true) :
    IsErr (nkKey fuel cfg kseed c m al kn) := by
  simp [nkKey, hpol, MA.seenContains, hd]

theorem nkKey_dup_first (hpol : cfg.dup = .firstWins) (hd : m.seen.any (· == kn.fp) = true) :
    nkKey fuel cfg kseed c m al kn =
      match skipOneNode fuel c with
      | .err er c => .err er c
      | .ok _ c => nextKey fuel cfg kseed c m := by
  simp [nkKey, hpol, MA.seenContains, hd]
  rfl

/-- an admissible key is not buffered with its value: it is deserialized from its events -/
theorem nkDeliver_shape (hshape : FPShape kn.fp) :
    nkDeliver fuel cfg kseed c m kn =
      match deserKey fuel cfg kseed kn.events (kemnOf kn.fp) with
      | .error er => .err er c
      | .ok kv => .ok (.key kv kn.fp, { m with haveKey := true, pendingValue := none, seen := (kn.fp :: m.seen) }) c := by
  obtain ⟨fp, evs, loc⟩ := kn
  simp only [nkDeliver]
  cases hshape with
  | mapOneScalar sv stag b hnull => simp [kemnOf, hnull]; rfl
  | _ => simp [kemnOf] <;> rfl

theorem nkKey_deliver (hdel : cfg.dup = .lastWins ∨ m.seen.any (· == kn.fp) = false) (hshape : FPShape kn.fp) :
    nkKey fuel cfg kseed c m al kn =
      match deserKey fuel cfg kseed kn.events (kemnOf kn.fp) with
      | .error er => .err er c
      | .ok kv => .ok (.key kv kn.fp, { m with haveKey := true, pendingValue := none, seen := (kn.fp :: m.seen) }) c := by
  rw [← nkDeliver_shape hshape]
  rcases hdel with hl | hd
  · simp [nkKey, hl]
  · cases hpol : cfg.dup <;> simp [nkKey, MA.seenContains, hd, hpol]

end key

end SaphyrVerif.Lemmas.C05
