import SaphyrVerif.Lemmas.C19Ast
/-!
C19: every value the evaluator computes is a well-formed binary64 value; hence a chain of unary signs in
an accepted expression is IEEE negation applied once per '-' (`unary_value`).
-/
namespace SaphyrVerif.Lemmas.C19
open SaphyrVerif SaphyrVerif.F64 SaphyrVerif.Robotics SaphyrVerif.Spec.Robotics

theorem pi_wf : WF F PI := by
  unfold PI
  exact ⟨by decide, by decide, by decide, Or.inl (by decide)⟩

theorem const_wf (c : Const) : WF F c.value := by
  cases c
  · exact pi_wf
  · show WF binary64 (mul binary64 TWO PI)
    exact C19F.mul_wf C19F.ok64 _ _
  · trivial
  · trivial

mutual
  theorem Expr.eval_wf (tag : Nat) (tm : Bool) : ∀ (e : Expr) (k : List Nat), e.lexOk tag tm k → WF F e.eval.1
    | .term t, k, h => Term.eval_wf tag tm t k h
    | .add _ _ _, _, _ => C19F.add_wf C19F.ok64 _ _
    | .sub _ _ _, _, _ => C19F.sub_wf C19F.ok64 _ _
  theorem Term.eval_wf (tag : Nat) (tm : Bool) : ∀ (t : Term) (k : List Nat), t.lexOk tag tm k → WF F t.eval.1
    | .un u, k, h => Unary.eval_wf tag tm u k h
    | .mul _ _ _, _, _ => C19F.mul_wf C19F.ok64 _ _
    | .div _ _ _, _, _ => C19F.div_wf C19F.ok64 _ _
  theorem Unary.eval_wf (tag : Nat) (tm : Bool) : ∀ (u : Unary) (k : List Nat), u.lexOk tag tm k → WF F u.eval.1
    | .mk _ _ _, _, _ => C19F.mul_wf C19F.ok64 _ _
  theorem Primary.eval_wf (tag : Nat) (tm : Bool) : ∀ (p : Primary) (k : List Nat), p.lexOk tag tm k → WF F p.eval.1
    | .atom _ tok ev, k, h => by
      obtain ⟨_, hc, pre, depth, pre', hp⟩ := h
      have := parseNumberOrSpecial_good (ap := true) tag ⟨pre, tok ++ k, depth, tm⟩ hc
      rw [hp] at this
      exact this.2.2.2
    | .const _ _ c, _, _ => const_wf c
    | .paren _ e _, k, h => Expr.eval_wf tag tm e _ h.2.2
    | .fn _ isDeg _ _ e _, k, h => by
      cases isDeg
      · exact Expr.eval_wf tag false e _ h.2.2.2.2
      · exact C19F.mul_wf C19F.ok64 _ _
end

theorem unary_value (tag : Nat) (tm : Bool) (ws : List Nat) (signs : List Bool) (p : Primary) (k : List Nat)
    (h : (Unary.mk ws signs p).lexOk tag tm k) :
    (Unary.mk ws signs p).eval.1 = if (signs.count true) % 2 = 1 then neg p.eval.1 else p.eval.1 := by
  have hwf := Primary.eval_wf tag tm p k h.2
  simp only [Unary.eval, signValue, signFold]
  split
  · exact C19F.mul_neg_one _ hwf
  · exact C19F.mul_one _ hwf

end SaphyrVerif.Lemmas.C19
