import SaphyrVerif.Lemmas.C03
import SaphyrVerif.Lemmas.C05_Any
/-!
C03 at the level of typed values: the depth of the sub-nodes a merge value delivers (the entries of a mapping that
`interp` descends into are sub-nodes in this sense, not sub-terms).
-/
namespace SaphyrVerif.Lemmas.C03T
open SaphyrVerif SaphyrVerif.Scalars SaphyrVerif.Pump SaphyrVerif.De SaphyrVerif.Spec

theorem mapSourceEntries_depth : ∀ (entries es : List (ENode × ENode)), mapSourceEntries entries = some es →
    ∀ e ∈ es, depthOf e.1 < depthOfE entries + 1 ∧ depthOf e.2 < depthOfE entries + 1 :=
  fun entries es h => C03.mapSourceEntries_forall (Q := fun m => depthOf m ≤ depthOfE entries + 1) (C05.depth_seq _) (C05.depth_map _) entries es
    (C05.depth_map _ 0 0 0 entries (by simp)) h

theorem seqSourceEntries_depth : ∀ (items : List ENode) (es : List (ENode × ENode)), seqSourceEntries items = some es →
    ∀ e ∈ es, depthOf e.1 < depthOfL items + 1 ∧ depthOf e.2 < depthOfL items + 1 :=
  fun items es h => C03.seqSourceEntries_forall (Q := fun m => depthOf m ≤ depthOfL items + 1) (C05.depth_seq _) (C05.depth_map _) items es
    (C05.depth_seq _ 0 0 none 0 0 items (by simp)) h

end SaphyrVerif.Lemmas.C03T
