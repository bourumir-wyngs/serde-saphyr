import SaphyrVerif.Spec.Robotics
import SaphyrVerif.Lemmas.C19Total
/-!
C19, the walk through the parser functions of the evaluator model.  One statement per function says what EVERY outcome
is (`Does`): never `fuel` (both kinds suffice), a panic only on bytes that are not those of a `str`, an error at a depth
that lets the `exit()` of the error path run, and on success (`Read`) `depth` and `sexagesimal_is_time` are restored and
the bytes consumed are the rendering of a syntax tree of the function's grammar level (`Spec/Robotics.lean`), followed
by white space, whose reference evaluation is the returned `(value, used_unit, saw_plain)`.
The `loop`s of `term` and `expr` are one statement (`loop_does`) about a function that unfolds as they do, over what an
operator node of a level is (`IsNode`).
At the end: `Parses` (the word the statements of `Props/C19` are written in), the whole evaluation `evalExpr_does` and
soundness `evalExpr_sound`; `signFold` (a chain of unary signs) serves `C19Wf` and `sign_chain_value`.  The converse
(completeness) is in `Lemmas/C19Complete.lean`, joined with `evalExpr_does` in `evalExpr_run`.
`Does ap D P r`, the input condition `Fits ap lf l` (`ap`: panics allowed, `lf`: loop fuel) and the byte loops are those of `Lemmas/C19Total.lean`.
-/
namespace SaphyrVerif.Lemmas.C19
open SaphyrVerif SaphyrVerif.F64 SaphyrVerif.Robotics SaphyrVerif.Spec.Robotics

variable {ap : Bool}

/-- From the bytes `orig`, at depth `D` in sexagesimal mode `tm`, the parser reached the state `x.2` with the evaluation
`x.1` by reading a tree `t` of one grammar level (given by its `render`, `eval`, `lexOk`, `nest`) and then the white
space `wsT`.  The nesting bound is conditional because nothing is assumed of the depth the parser is started at (above
the guard every `enter` fails and the tree has no brackets). -/
def Read {X : Type} (render : X → List Nat) (eval : X → Eval) (lexOk : Nat → Bool → X → List Nat → Prop)
    (nest : X → Nat) (tag : Nat) (orig : List Nat) (D : Nat) (tm : Bool) (x : Eval × St) : Prop :=
  x.2.depth = D ∧ x.2.sexTime = tm ∧ ∃ (t : X) (wsT : List Nat), IsWs wsT ∧ orig = render t ++ (wsT ++ x.2.rest) ∧
    eval t = x.1 ∧ lexOk tag tm t (wsT ++ x.2.rest) ∧ (D ≤ MAX_EXPR_DEPTH → nest t + D ≤ MAX_EXPR_DEPTH)

abbrev ReadP := Read Primary.render Primary.eval Primary.lexOk Primary.nest
abbrev ReadU := Read Unary.render Unary.eval Unary.lexOk Unary.nest
abbrev ReadT := Read Term.render Term.eval Term.lexOk Term.nest
abbrev ReadE := Read Expr.render Expr.eval Expr.lexOk Expr.nest

section Level
variable {X Y : Type} {rX : X → List Nat} {eX : X → Eval} {lX : Nat → Bool → X → List Nat → Prop} {nX : X → Nat}
  {rY : Y → List Nat} {eY : Y → Eval} {lY : Nat → Bool → Y → List Nat → Prop} {nY : Y → Nat}
  {tag : Nat} {orig : List Nat} {D : Nat} {tm : Bool}

/-- a tree with no white space behind it -/
theorem Read.leaf {ev : Eval} {st' : St} (t : X) (hd : st'.depth = D) (ht : st'.sexTime = tm)
    (hr : orig = rX t ++ st'.rest) (he : eX t = ev) (hl : lX tag tm t st'.rest)
    (hn : D ≤ MAX_EXPR_DEPTH → nX t + D ≤ MAX_EXPR_DEPTH) : Read rX eX lX nX tag orig D tm (ev, st') :=
  ⟨hd, ht, t, [], IsWs.nil, hr, he, hl, hn⟩

theorem Read.suf {x : Eval × St} (h : Read rX eX lX nX tag orig D tm x) : Suf x.2.rest orig := by
  obtain ⟨_, _, t, wsT, _, hr, _⟩ := h
  exact ⟨rX t ++ wsT, by rw [hr, List.append_assoc]⟩

/-- white space behind what was read belongs to what was read -/
theorem Read.skipWs {x : Eval × St} (h : Read rX eX lX nX tag orig D tm x) :
    Read rX eX lX nX tag orig D tm (x.1, x.2.skipWs) := by
  obtain ⟨hd, htm, t, wsT, hwsT, hr, he, hl, hn⟩ := h
  obtain ⟨ws, hws, hws'⟩ := skipWs_spec x.2
  refine ⟨hd, htm, t, wsT ++ ws, IsWs.append hwsT hws', ?_, he, ?_, hn⟩
  · rw [hr, hws, List.append_assoc]
  · rw [hws, ← List.append_assoc] at hl
    exact hl

variable (rX eX lX nX rY eY lY nY) in
/-- `node l ws u` is the tree of `l ws c u` in a left-associative level `X` over operands `Y`: rendering, evaluation,
lexical condition and nesting are those of the binary operator `c` that computes `op`. -/
def IsNode (c : Nat) (op : Fl → Fl → Fl) (node : X → List Nat → Y → X) : Prop :=
  ∀ l ws u, rX (node l ws u) = rX l ++ (ws ++ c :: rY u) ∧ eX (node l ws u) = orFlags (eX l) (eY u) (op (eX l).1 (eY u).1) ∧
    nX (node l ws u) = max (nX l) (nY u) ∧
    ∀ tag tm k, lX tag tm (node l ws u) k ↔ lX tag tm l (ws ++ c :: (rY u ++ k)) ∧ IsWs ws ∧ lY tag tm u k

/-- behind what was read stands the operator `c`, behind that an operand was read: the node was read -/
theorem Read.bin {x y : Eval × St} {c : Nat} {r : List Nat} {op : Fl → Fl → Fl} {node : X → List Nat → Y → X}
    (hx : Read rX eX lX nX tag orig D tm x) (heq : x.2.rest = c :: r)
    (hy : Read rY eY lY nY tag r D tm y) (hnode : IsNode rX eX lX nX rY eY lY nY c op node) :
    Read rX eX lX nX tag orig D tm (orFlags x.1 y.1 (op x.1.1 y.1.1), y.2) := by
  obtain ⟨_, _, l, wsL, hwsL, hl, hle, hlex, hnest⟩ := hx
  obtain ⟨hyd, hyt, u, wsT, hwsT, hur, hue, hul, hun⟩ := hy
  obtain ⟨hnr, hne, hnn, hnl⟩ := hnode l wsL u
  rw [heq, hur] at hl hlex
  refine ⟨hyd, hyt, node l wsL u, wsT, hwsT, ?_, by rw [hne, hle, hue], (hnl _ _ _).2 ⟨hlex, hwsL, hul⟩, fun h => ?_⟩
  · rw [hl, hnr]
    simp only [List.append_assoc, List.cons_append]
  · have := hnest h
    have := hun h
    rw [hnn]
    omega

/-- The `loop` of a left-associative level (`term`, `expr`), whatever the operand function `sub` is: a function `loop`
that unfolds as the two in the model do (`hloop`, by `rfl` for both) keeps `Read`: entered behind a tree of the level, it
ends behind the same tree or a longer one. -/
theorem loop_does {lf c1 c2 : Nat} {op1 op2 : Fl → Fl → Fl} {node1 node2 : X → List Nat → Y → X}
    {sub : St → Res (Eval × St)} {loop : Nat → Eval → St → Res (Eval × St)}
    (hloop : ∀ k v uu sp st0, loop (k + 1) (v, uu, sp) st0 =
      match st0.skipWs.rest with
        | [] => .ok ((v, uu, sp), st0.skipWs)
        | c :: r =>
          if c == c1 then
            (sub (st0.skipWs.adv c r)).bind fun x => loop k (op1 v x.1.1, uu || x.1.2.1, sp || x.1.2.2) x.2
          else if c == c2 then
            (sub (st0.skipWs.adv c r)).bind fun x => loop k (op2 v x.1.1, uu || x.1.2.1, sp || x.1.2.2) x.2
          else .ok ((v, uu, sp), st0.skipWs))
    (h1 : IsNode rX eX lX nX rY eY lY nY c1 op1 node1) (h2 : IsNode rX eX lX nX rY eY lY nY c2 op2 node2)
    (hsub : ∀ st : St, st.depth = D → st.sexTime = tm → Fits ap lf st.rest →
      Does ap D (Read rY eY lY nY tag st.rest D tm) (sub st))
    (k : Nat) (x : Eval × St) (hx : Read rX eX lX nX tag orig D tm x) (hf : Fits ap lf x.2.rest)
    (hk : x.2.rest.length < k) : Does ap D (Read rX eX lX nX tag orig D tm) (loop k x.1 x.2) := by
  induction k generalizing x with
  | zero => omega
  | succ k ih =>
    obtain ⟨⟨v, uu, sp⟩, st0⟩ := x
    rw [hloop]
    have hs := skipWs_rest st0
    have stop := hx.skipWs
    simp only [] at hf hk stop ⊢
    generalize st0.skipWs = st at hs stop ⊢
    have step : ∀ (c : Nat) (r : List Nat) (op : Fl → Fl → Fl) (node : X → List Nat → Y → X), st.rest = c :: r →
        IsNode rX eX lX nX rY eY lY nY c op node → Does ap D (Read rX eX lX nX tag orig D tm)
          ((sub (st.adv c r)).bind fun x => loop k (op v x.1.1, uu || x.1.2.1, sp || x.1.2.2) x.2) := by
      intro c r op node heq hnode
      have hr : Suf r st0.rest := Suf.trans ⟨[c], heq⟩ hs
      have hrl := hs.length_le
      rw [heq, List.length_cons] at hrl
      refine Does.bind (hsub (st.adv c r) stop.1 stop.2.1 (hf.suf hr)) fun y hy => ?_
      have hyl : y.2.rest.length ≤ r.length := hy.suf.length_le
      exact ih _ (stop.bin heq hy hnode) ((hf.suf hr).suf hy.suf) (show y.2.rest.length < k by omega)
    split
    · exact stop
    · rename_i c r heq
      split
      · rename_i hc
        exact step c r op1 node1 heq (eq_of_beq hc ▸ h1)
      · split
        · rename_i hc
          exact step c r op2 node2 heq (eq_of_beq hc ▸ h2)
        · exact stop

end Level

/-- what the recursive call is entitled to: a state one level deeper, within the guard, with bytes that cannot panic
(unless allowed) and shorter than the loop fuel -/
def EDoes (ap : Bool) (tag lf : Nat) (E : St → Res (Eval × St)) (D : Nat) : Prop :=
  D < MAX_EXPR_DEPTH → ∀ st1 : St, st1.depth = D + 1 → Fits ap lf st1.rest →
    Does ap (D + 1) (ReadE tag st1.rest (D + 1) st1.sexTime) (E st1)

theorem enter_does (st3 : St) :
    Does ap st3.depth (fun st1 => st1 = { st3 with depth := st3.depth + 1 } ∧ st3.depth < MAX_EXPR_DEPTH)
      (St.enter st3) := by
  have : MAX_EXPR_DEPTH = 256 := rfl
  unfold St.enter
  split
  · exact Nat.le_refl _
  · split
    · omega
    · exact ⟨rfl, by omega⟩

/-- `let r = E st1; self.exit(); r?` behind a call that ran one level deeper -/
theorem exitAfter_does {D : Nat} {P : Eval × St → Prop} {r : Res (Eval × St)} (h : Does ap (D + 1) P r)
    (hP : ∀ a, P a → a.2.depth = D + 1) :
    Does ap D (fun x => ∃ st2, P (x.1, st2) ∧ x.2 = { st2 with depth := D }) (exitAfter r) := by
  cases r with
  | ok a =>
    obtain ⟨ev, st2⟩ := a
    have hd : st2.depth = D + 1 := hP _ h
    simp only [exitAfter, St.exit, hd, Nat.add_eq_zero_iff, Nat.succ_ne_self, and_false, beq_iff_eq, ↓reduceIte,
      Res.bind, Nat.add_sub_cancel, Does]
    exact ⟨st2, h, rfl⟩
  | err e d =>
    have h : D + 1 ≤ d := h
    have hne : (d == 0) = false := by simp only [beq_eq_false_iff_ne, ne_eq]; omega
    simp only [exitAfter, hne, Bool.false_eq_true, ↓reduceIte, Does]
    omega
  | panic s => exact h
  | fuel => exact h

theorem closeParen_does (e : RErr) (ev : Eval) (st6 : St) :
    Does ap st6.depth (fun x => x.1 = ev ∧ st6.rest = 41 :: x.2.rest ∧ x.2.depth = st6.depth ∧ x.2.sexTime = st6.sexTime)
      (closeParen e ev st6) := by
  unfold closeParen
  split
  · rename_i r' heq
    exact ⟨rfl, heq, rfl, rfl⟩
  · exact Nat.le_refl _
  · exact Nat.le_refl _

theorem bracket_does (tag lf : Nat) (E : St → Res (Eval × St)) (restore : St → St) (f : Eval → Eval) (e : RErr)
    (st3 : St) (tm : Bool) (hE : EDoes ap tag lf E st3.depth) (hf : Fits ap lf st3.rest)
    (hr : ∀ s, (restore s).rest = s.rest ∧ (restore s).depth = s.depth)
    (ht : ∀ s, s.sexTime = st3.sexTime → (restore s).sexTime = tm) :
    Does ap st3.depth (fun x => x.2.depth = st3.depth ∧ x.2.sexTime = tm ∧ ∃ (t : Expr) (ws' : List Nat), IsWs ws' ∧
      st3.rest = t.render ++ (ws' ++ 41 :: x.2.rest) ∧ x.1 = f t.eval ∧
      t.lexOk tag st3.sexTime (ws' ++ 41 :: x.2.rest) ∧ t.nest + 1 + st3.depth ≤ MAX_EXPR_DEPTH)
      (bracket E restore f e st3) := by
  refine Does.bind (enter_does st3) ?_
  rintro st1 ⟨rfl, hlt⟩
  refine Does.bind (exitAfter_does (hE hlt _ rfl hf) (fun a h => h.1)) ?_
  rintro ⟨ev, st2'⟩ ⟨st2, ⟨h2d, h2t, t, wsT, hwsT, hor, hev, hlex, hnest⟩, rfl⟩
  obtain ⟨ws2, hws2, hws2'⟩ := skipWs_spec (restore { st2 with depth := st3.depth })
  have hdep : (restore { st2 with depth := st3.depth }).skipWs.depth = st3.depth := by
    rw [skipWs_depth, (hr _).2]
  have hcl := closeParen_does (ap := ap) e (f ev) (restore { st2 with depth := st3.depth }).skipWs
  rw [hdep] at hcl
  refine hcl.mono ?_
  rintro x ⟨hx1, hx2, hx3, hx4⟩
  rw [(hr _).1, hx2] at hws2
  have hws2 : st2.rest = ws2 ++ 41 :: x.2.rest := hws2
  have hnest := hnest (by omega)
  refine ⟨hx3, by rw [hx4, skipWs_sexTime]; exact ht _ h2t, t, wsT ++ ws2, IsWs.append hwsT hws2', ?_, by rw [hx1, hev], ?_,
    by omega⟩
  · show st3.rest = _
    rw [hor, hws2, List.append_assoc]
  · rw [hws2, ← List.append_assoc] at hlex
    exact hlex

theorem unitCall_does (tag lf : Nat) (E : St → Res (Eval × St)) (isDeg : Bool) (st1 : St)
    (hE : EDoes ap tag lf E st1.depth) (hf : Fits ap lf st1.rest) :
    Does ap st1.depth (fun x => x.2.depth = st1.depth ∧ x.2.sexTime = st1.sexTime ∧
      ∃ (ws1 : List Nat) (t : Expr) (ws' : List Nat), IsWs ws1 ∧ IsWs ws' ∧
      st1.rest = ws1 ++ 40 :: (t.render ++ (ws' ++ 41 :: x.2.rest)) ∧
      x.1 = unitVal isDeg t.eval ∧
      t.lexOk tag false (ws' ++ 41 :: x.2.rest) ∧ t.nest + 1 + st1.depth ≤ MAX_EXPR_DEPTH)
      (unitCall E isDeg st1) := by
  obtain ⟨ws1, hws1, hws1'⟩ := skipWs_spec st1
  unfold unitCall
  simp only []
  split
  · rename_i r heq
    have h3 : Suf r st1.rest := ⟨ws1 ++ [40], by rw [hws1, heq]; simp⟩
    refine (bracket_does tag lf E (fun s => { s with sexTime := st1.skipWs.sexTime }) (unitVal isDeg) .expectedRParenFn
      { st1.skipWs.adv 40 r with sexTime := false } st1.sexTime hE (hf.suf h3) (fun _ => ⟨rfl, rfl⟩) (fun _ _ => rfl)).mono ?_
    rintro x ⟨hx1, hx2, t, ws', hws', hr, hev, hlex, hnest⟩
    refine ⟨hx1, hx2, ws1, t, ws', hws1', hws', ?_, hev, hlex, hnest⟩
    rw [hws1, heq]
    exact congrArg (fun l => ws1 ++ 40 :: l) hr
  · exact Nat.le_refl _
  · exact Nat.le_refl _

theorem parseIdentOrSpecial_does (tag lf : Nat) (E : St → Res (Eval × St)) (ws : List Nat) (hws : IsWs ws) (st : St)
    (hE : EDoes ap tag lf E st.depth) (hf : Fits ap lf st.rest)
    (hh : ∃ c r, st.rest = c :: r ∧ isIdentStart c = true) :
    Does ap st.depth (ReadP tag (ws ++ st.rest) st.depth st.sexTime) (parseIdentOrSpecial E st) := by
  rw [parseIdentOrSpecial_eq]
  obtain ⟨tok, rest', htok, hid, hstop, hil⟩ := identLoop_spec st.pre st.rest []
  rw [hil]
  split
  · -- `&self.s[start..self.i]` is on char boundaries unless panics are allowed
    rename_i hb
    cases hf.1 with
    | inl h' => exact h'
    | inr hadj =>
      exfalso
      obtain ⟨c, r, hr, hc⟩ := hh
      obtain ⟨hcc, hnc, _⟩ := identStart_facts c hc
      have hne : tok ≠ [] := by
        rintro rfl
        rw [hstop c r (htok.symm.trans hr)] at hcc
        cases hcc
      have h1 : boundaryAhead st.rest 0 = true :=
        boundaryAhead_zero (by rw [hr]; exact Head.cons hnc)
      have h2 : boundaryAhead rest' 0 = true := by
        apply boundaryAhead_zero
        intro b q hbq
        rw [htok, hbq] at hadj
        exact AdjOk.after_ascii tok b q hadj hne fun x hx => identCont_lt x (hid x hx)
      rw [h1, h2] at hb
      exact absurd hb (by decide)
  · simp only [List.append_nil, List.reverse_reverse]
    generalize hst1 : ({ st with pre := tok.reverse ++ st.pre, rest := rest' } : St) = st1
    have h1r : rest' = st1.rest := by rw [← hst1]
    have h1d : st1.depth = st.depth := by rw [← hst1]
    have h1t : st1.sexTime = st.sexTime := by rw [← hst1]
    rw [h1r] at htok
    have hs : Suf st1.rest st.rest := ⟨tok, htok⟩
    rcases identTail_cases E (tok.map lowerByte) st1 with ⟨c, hname, hc⟩ | ⟨isDeg, hname, hc⟩ | hc
    · rw [hc]
      refine Read.leaf (Primary.const ws tok c) h1d h1t ?_ rfl ⟨hws, hname⟩ (fun h => by simpa [Primary.nest] using h)
      rw [htok, Primary.render, List.append_assoc]
    · rw [hc, ← h1d]
      refine (unitCall_does tag lf E isDeg st1 (by rw [h1d]; exact hE) (hf.suf hs)).mono ?_
      rintro x ⟨hx1, hx2, ws1, t, ws', hws1, hws', hr, hev, hlex, hnest⟩
      refine Read.leaf (Primary.fn ws isDeg tok ws1 t ws') hx1 (hx2.trans h1t) ?_ hev.symm
        ⟨hws, hws1, hws', hname, hlex⟩ ?_
      · rw [htok, hr]
        simp [Primary.render]
      · intro _
        simp only [Primary.nest]
        omega
    · rw [hc]
      exact Nat.le_of_eq h1d.symm

theorem parseNumberOrSpecial_does (tag : Nat) (ws : List Nat) (hws : IsWs ws) (st : St)
    (hc : ∃ c r, st.rest = c :: r ∧ (isDigit c = true ∨ c = 46)) :
    Does ap st.depth (ReadP tag (ws ++ st.rest) st.depth st.sexTime) (parseNumberOrSpecial tag st) := by
  refine (parseNumberOrSpecial_good tag st hc).with_eq.mono ?_
  rintro ⟨ev, st'⟩ ⟨⟨⟨tok, htok⟩, hdep, hsex, _⟩, h⟩
  refine Read.leaf (Primary.atom ws tok ev) hdep hsex ?_ rfl ⟨hws, ?_, st.pre, st.depth, st'.pre, ?_⟩
    (fun h => by simpa [Primary.nest] using h)
  · simp [Primary.render, htok]
  · rw [← htok]; exact hc
  · rw [← htok]
    have e2 : (⟨st'.pre, st'.rest, st.depth, st.sexTime⟩ : St) = st' := by
      cases st'; simp_all
    rw [e2]; exact h

theorem primary_does (tag lf : Nat) (E : St → Res (Eval × St)) (st0 : St)
    (hE : EDoes ap tag lf E st0.depth) (hf : Fits ap lf st0.rest) :
    Does ap st0.depth (ReadP tag st0.rest st0.depth st0.sexTime) (primary tag E st0) := by
  obtain ⟨ws, hws, hws'⟩ := skipWs_spec st0
  have hs : Suf st0.skipWs.rest st0.rest := ⟨ws, hws⟩
  cases hr : st0.skipWs.rest with
  | nil =>
    unfold primary
    simp only [hr]
    exact Nat.le_refl _
  | cons c r =>
    rw [hr] at hws
    by_cases hc : c = 40
    · subst hc
      rw [primary_paren tag E st0 r hr]
      have hr3 : Suf r st0.rest := ⟨ws ++ [40], by rw [hws]; simp⟩
      refine (bracket_does tag lf E id id .expectedRParen (st0.skipWs.adv 40 r) st0.sexTime hE (hf.suf hr3) (fun _ => ⟨rfl, rfl⟩) (fun _ h => h)).mono ?_
      rintro x ⟨hx1, hx2, t, ws2, hws2, hx, hev, hlex, hnest⟩
      have hx : r = t.render ++ (ws2 ++ 41 :: x.2.rest) := hx
      refine Read.leaf (Primary.paren ws t ws2) hx1 hx2 ?_ hev.symm ⟨hws', hws2, hlex⟩ (fun _ => hnest)
      rw [hws, hx]
      simp [Primary.render]
    · unfold primary
      have hc' : (c == 40) = false := by simpa using hc
      simp only [hr, hc', Bool.false_eq_true, ↓reduceIte]
      split
      · rename_i hcd
        have := parseNumberOrSpecial_does (ap := ap) tag ws hws' st0.skipWs
          ⟨c, r, hr, by simpa [Bool.or_eq_true] using hcd⟩
        rw [hr, ← hws] at this
        exact this
      · split
        · rename_i hci
          have := parseIdentOrSpecial_does tag lf E ws hws' st0.skipWs hE (hf.suf hs) ⟨c, r, hr, hci⟩
          rw [hr, ← hws] at this
          exact this
        · exact Nat.le_refl _

theorem unary_does (tag lf : Nat) (E : St → Res (Eval × St)) (st0 : St)
    (hE : EDoes ap tag lf E st0.depth) (hf : Fits ap lf st0.rest) :
    Does ap st0.depth (ReadU tag st0.rest st0.depth st0.sexTime) (unary tag E st0) := by
  unfold unary
  simp only []
  obtain ⟨ws, hws, hws'⟩ := skipWs_spec st0
  obtain ⟨signs, hsg, hsv⟩ := signLoop_spec st0.skipWs.pre st0.skipWs.rest ONE
  generalize signLoop st0.skipWs.pre st0.skipWs.rest ONE = sl at hsg hsv ⊢
  have hs : Suf sl.2.1 st0.rest := ⟨ws ++ signs.map (fun b => if b then 45 else 43), by rw [hws, hsg]; simp⟩
  refine Does.bind (primary_does tag lf E ⟨sl.1, sl.2.1, st0.skipWs.depth, st0.skipWs.sexTime⟩ hE (hf.suf hs)) ?_
  rintro ⟨⟨v, uu, sp⟩, st'⟩ ⟨h1, h2, p, wsT, hwsT, hpr, hpe, hpl, hpn⟩
  refine ⟨h1, h2, Unary.mk ws signs p, wsT, hwsT, ?_, ?_, ⟨hws', hpl⟩, hpn⟩
  · have hpr : sl.2.1 = p.render ++ (wsT ++ st'.rest) := hpr
    simp only [Unary.render, List.append_assoc]
    rw [hws, hsg, hpr]
  · simp only [Unary.eval, hpe, signValue, hsv]

theorem termLoop_does (tag lf : Nat) (E : St → Res (Eval × St)) (k : Nat) (x : Eval × St) (orig : List Nat) (D : Nat)
    (tm : Bool) (hx : ReadT tag orig D tm x) (hE : EDoes ap tag lf E D) (hf : Fits ap lf x.2.rest)
    (hk : x.2.rest.length < k) : Does ap D (ReadT tag orig D tm) (termLoop tag E k x.1 x.2) :=
  loop_does (node1 := Term.mul) (node2 := Term.div) (fun _ _ _ _ _ => rfl)
    (fun _ _ _ => ⟨rfl, rfl, rfl, fun _ _ _ => Iff.rfl⟩) (fun _ _ _ => ⟨rfl, rfl, rfl, fun _ _ _ => Iff.rfl⟩)
    (fun st hd ht hf => by subst hd ht; exact unary_does tag lf E st hE hf) k x hx hf hk

theorem term_does (tag lf : Nat) (E : St → Res (Eval × St)) (st0 : St)
    (hE : EDoes ap tag lf E st0.depth) (hf : Fits ap lf st0.rest) :
    Does ap st0.depth (ReadT tag st0.rest st0.depth st0.sexTime) (term tag lf E st0) := by
  refine Does.bind (unary_does tag lf E st0 hE hf) fun x hx => ?_
  obtain ⟨k1, k2, u, wsT, hwsT, hur, hue, hul, hun⟩ := id hx
  exact termLoop_does tag lf E lf x _ _ _ ⟨k1, k2, Term.un u, wsT, hwsT, hur, hue, hul, hun⟩ hE (hf.suf hx.suf)
    (Nat.lt_of_le_of_lt hx.suf.length_le hf.2)

theorem exprLoop_does (tag lf : Nat) (E : St → Res (Eval × St)) (k : Nat) (x : Eval × St) (orig : List Nat) (D : Nat)
    (tm : Bool) (hx : ReadE tag orig D tm x) (hE : EDoes ap tag lf E D) (hf : Fits ap lf x.2.rest)
    (hk : x.2.rest.length < k) : Does ap D (ReadE tag orig D tm) (exprLoop tag lf E k x.1 x.2) :=
  loop_does (node1 := Expr.add) (node2 := Expr.sub) (fun _ _ _ _ _ => rfl)
    (fun _ _ _ => ⟨rfl, rfl, rfl, fun _ _ _ => Iff.rfl⟩) (fun _ _ _ => ⟨rfl, rfl, rfl, fun _ _ _ => Iff.rfl⟩)
    (fun st hd ht hf => by subst hd ht; exact term_does tag lf E st hE hf) k x hx hf hk

/-- the body of `expr` over any recursive call that does its part -/
theorem exprBody_does (tag lf : Nat) (E : St → Res (Eval × St)) (st : St) (hE : EDoes ap tag lf E st.depth)
    (hf : Fits ap lf st.rest) :
    Does ap st.depth (ReadE tag st.rest st.depth st.sexTime)
      ((term tag lf E st).bind fun x => exprLoop tag lf E lf x.1 x.2) := by
  refine Does.bind (term_does tag lf E st hE hf) fun x hx => ?_
  obtain ⟨k1, k2, t, wsT, hwsT, htr, hte, htl, htn⟩ := id hx
  exact exprLoop_does tag lf E lf x _ _ _ ⟨k1, k2, Expr.term t, wsT, hwsT, htr, hte, htl, htn⟩ hE (hf.suf hx.suf)
    (Nat.lt_of_le_of_lt hx.suf.length_le hf.2)

theorem expr_does (tag lf : Nat) (n : Nat) (st : St) (hdn : MAX_EXPR_DEPTH ≤ st.depth + n)
    (hf : Fits ap lf st.rest) :
    Does ap st.depth (ReadE tag st.rest st.depth st.sexTime) (expr tag lf (n + 1) st) := by
  induction n generalizing st with
  | zero => exact exprBody_does tag lf _ st (fun hlt => by omega) hf
  | succ n ih =>
    refine exprBody_does tag lf _ st ?_ hf
    intro hlt st1 hd1 hf1
    have := ih st1 (by omega) hf1
    rw [hd1] at this
    exact this

theorem neg_neg (x : Fl) : neg (neg x) = x := by
  cases x <;> simp [neg]

theorem signFold (signs : List Bool) (s : Fl) :
    signs.foldl (fun s b => if b then neg s else s) s =
      if (signs.count true) % 2 = 1 then neg s else s := by
  induction signs generalizing s with
  | nil => simp
  | cons b r ih =>
    simp only [List.foldl_cons]
    rw [ih]
    cases b
    · simp
    · simp only [↓reduceIte, List.count_cons_self, neg_neg]
      by_cases h : List.count true r % 2 = 1
      · have : ¬ (List.count true r + 1) % 2 = 1 := by omega
        simp [h, this]
      · have : (List.count true r + 1) % 2 = 1 := by omega
        simp [h, this]

/-- The scalar `s` is the rendering of tree `e` between white space, lexically well-formed in time mode,
nested no deeper than the guard allows. -/
def Parses (tag : Nat) (s : List Nat) (e : Expr) : Prop :=
  ∃ wsL wsR : List Nat, s = wsL ++ (e.render ++ wsR) ∧ IsWs wsL ∧ IsWs wsR ∧ e.lexOk tag true wsR ∧
    e.nest ≤ MAX_EXPR_DEPTH

/-- the whole evaluation: a value is the reference evaluation of a tree of the scalar, finished by the tag rule -/
theorem evalExpr_does (tag : Nat) (s : List Nat) (hn : ap = true ∨ AdjOk s) :
    Does ap 0 (fun v => ∃ e : Expr, Parses tag s e ∧ topValue tag e.eval = some v) (evalExpr tag s) := by
  rw [evalExpr_eq]
  obtain ⟨wsL, hwsL, hwsL'⟩ := skipWs_spec { pre := [], rest := s, depth := 0, sexTime := true }
  generalize hst0 : (St.skipWs { pre := [], rest := s, depth := 0, sexTime := true }) = st0 at hwsL ⊢
  have hwsL : s = wsL ++ st0.rest := hwsL
  have h0d : st0.depth = 0 := by rw [← hst0]; rfl
  have h0t : st0.sexTime = true := by rw [← hst0]; rfl
  have hs : Suf st0.rest s := ⟨wsL, hwsL⟩
  have := expr_does (ap := ap) tag (s.length + 1) MAX_EXPR_DEPTH st0 (by omega)
    ⟨hn.imp_right (·.suf hs), Nat.lt_succ_of_le hs.length_le⟩
  rw [h0d, h0t] at this
  refine Does.bind this fun x h1 => ?_
  obtain ⟨_, _, e, wsR, hwsR, her, hev, hlex, hnest⟩ := h1.skipWs
  simp only [] at her hev hlex
  unfold evalFinish
  split
  · exact Nat.zero_le _
  · rename_i hemp
    have hemp' : x.2.skipWs.rest = [] := by simpa using hemp
    rw [hemp', List.append_nil] at her hlex
    rw [← hev]
    cases ht : topValue tag e.eval with
    | none => exact Nat.zero_le _
    | some v =>
      exact ⟨e, ⟨wsL, wsR, by rw [hwsL, her], hwsL', hwsR, hlex, by have := hnest (Nat.zero_le _); omega⟩, ht⟩

theorem evalExpr_sound (tag : Nat) (s : List Nat) (v : Fl) (h : evalExpr tag s = .ok v) :
    ∃ e : Expr, Parses tag s e ∧ topValue tag e.eval = some v := by
  have := evalExpr_does (ap := true) tag s (Or.inl rfl)
  rw [h] at this
  exact this

end SaphyrVerif.Lemmas.C19
