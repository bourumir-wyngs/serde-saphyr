import SaphyrVerif.Lemmas.C19StepsErase
import SaphyrVerif.Lemmas.C19Total
/-!
C19: the cost of the instrumented evaluator (`Lemmas/C19Steps.lean`), `evalExprT_cost`: `steps ≤ 48 · length + 48` (work
linear in the input: every loop iteration and every call is paid for by a byte that is consumed) and
`frames ≤ 5 · (MAX_EXPR_DEPTH + 1) + 4` (bounded recursion).  One statement per function (`Cost`) says that the copy
computes the model's result and what it costs; a loop is a `BdH`.  The look-aheads of `try_parse_sexagesimal` and
`parse_number_or_special` go over the leading run of digits and underscores (`duRun`) before it is consumed: they are
accounted for from behind the run (`Cost.ofRun`).
-/
namespace SaphyrVerif.Lemmas.C19S
open SaphyrVerif SaphyrVerif.F64 SaphyrVerif.Robotics SaphyrVerif.Lemmas.C19

/-! ## loops: one iteration per byte consumed, and the one that stops -/

theorem skipWsLS_steps (pre rest : List Nat) :
    (skipWsLS pre rest).2 + (skipWsLS pre rest).1.2.length = rest.length + 1 ∧ 1 ≤ (skipWsLS pre rest).2 := by
  induction rest generalizing pre with
  | nil => exact ⟨rfl, Nat.le_refl _⟩
  | cons c r ih =>
    unfold skipWsLS
    split
    · have := ih (c :: pre)
      simp only [List.length_cons]
      omega
    · simp only [List.length_cons]; omega

theorem skipWsT_steps (st : St) :
    (skipWsT st).steps + (skipWsT st).val.rest.length = st.rest.length + 1 ∧ 1 ≤ (skipWsT st).steps :=
  skipWsLS_steps _ _

theorem signLoopS_steps (pre rest : List Nat) (s : Fl) :
    (signLoopS pre rest s).2 + (signLoopS pre rest s).1.2.1.length = rest.length + 1 ∧ 1 ≤ (signLoopS pre rest s).2 := by
  induction rest generalizing pre s with
  | nil => exact ⟨rfl, Nat.le_refl _⟩
  | cons c r ih =>
    unfold signLoopS
    split
    · have := ih (c :: pre) s
      simp only [List.length_cons]
      omega
    · split
      · have := ih (c :: pre) (neg s)
        simp only [List.length_cons]
        omega
      · simp only [List.length_cons]; omega

theorem identLoopS_steps (pre rest acc : List Nat) :
    (identLoopS pre rest acc).2 + (identLoopS pre rest acc).1.2.1.length = rest.length + 1 ∧
      1 ≤ (identLoopS pre rest acc).2 := by
  induction rest generalizing pre acc with
  | nil => exact ⟨rfl, Nat.le_refl _⟩
  | cons c r ih =>
    unfold identLoopS
    split
    · have := ih (c :: pre) (c :: acc)
      simp only [List.length_cons]
      omega
    · simp only [List.length_cons]; omega

namespace T
variable {α β : Type}
@[simp] theorem ofLoop_steps (x : α × Nat) : (ofLoop x).steps = x.2 := rfl
@[simp] theorem ret_steps (a : α) : (ret a).steps = 0 := rfl
@[simp] theorem tick_steps (n : Nat) (x : T α) : (tick n x).steps = x.steps + n := rfl
@[simp] theorem call_steps (x : T α) : (call x).steps = x.steps + 1 := rfl
@[simp] theorem lift_steps (d : Nat) (x : T (HRes α)) : (lift d x).steps = x.steps := rfl
@[simp] theorem ofLoop_frames (x : α × Nat) : (ofLoop x).frames = 0 := rfl
@[simp] theorem ret_frames (a : α) : (ret a).frames = 0 := rfl
@[simp] theorem tick_frames (n : Nat) (x : T α) : (tick n x).frames = x.frames := rfl
@[simp] theorem call_frames (x : T α) : (call x).frames = x.frames + 1 := rfl
@[simp] theorem lift_frames (d : Nat) (x : T (HRes α)) : (lift d x).frames = x.frames := rfl

theorem bind_steps (x : T (Res α)) (k : α → T (Res β)) :
    (x.bind k).steps = x.steps + (match x.val with | .ok a => (k a).steps | _ => 0) := by
  unfold bind
  cases x.val <;> rfl

theorem bind_frames (x : T (Res α)) (k : α → T (Res β)) :
    (x.bind k).frames = max x.frames (match x.val with | .ok a => (k a).frames | _ => 0) := by
  unfold bind
  cases x.val <;> simp
end T

/-- bytes left after a successful step -/
def remOk {α} (rem : α → Nat) : Res α → Nat
  | .ok a => rem a
  | _ => 0

def remOkH {α} (rem : α → Nat) : HRes α → Nat
  | .ok a => rem a
  | _ => 0

/-- `x`, started with `len` bytes ahead, costs at most `A` per byte consumed plus `B`:
`steps + A · (bytes left) ≤ A · len + B` (on failure nothing is left: `steps ≤ A · len + B`). -/
def Bd {α} (A B len : Nat) (rem : α → Nat) (x : T (Res α)) : Prop :=
  x.steps + A * remOk rem x.val ≤ A * len + B ∧ remOk rem x.val ≤ len

def BdH {α} (A B len : Nat) (rem : α → Nat) (x : T (HRes α)) : Prop :=
  x.steps + A * remOkH rem x.val ≤ A * len + B ∧ remOkH rem x.val ≤ len

theorem Bd.lift {α} {A B len : Nat} {rem : α → Nat} {x : T (HRes α)} (d : Nat) (h : BdH A B len rem x) :
    Bd A B len rem (T.lift d x) := by
  unfold Bd BdH at *
  simp only [T.lift_steps, T.lift_val]
  cases hx : x.val <;> simp only [hx, remOkH, remOk, HRes.lift] at h ⊢ <;> exact h

theorem BdH.call {α} {A B len : Nat} {rem : α → Nat} {x : T (HRes α)} (h : BdH A B len rem x) :
    BdH A (B + 1) len rem (T.call x) := by
  unfold BdH at *
  simp only [T.call_steps, T.call_val]
  exact ⟨by omega, h.2⟩

theorem Bd.bind {α β} {A B1 B2 len : Nat} {rem1 : α → Nat} {rem2 : β → Nat} {x : T (Res α)} {k : α → T (Res β)}
    (hx : Bd A B1 len rem1 x) (hk : ∀ a, x.val = .ok a → Bd A B2 (rem1 a) rem2 (k a)) :
    Bd A (B1 + B2) len rem2 (x.bind k) := by
  unfold Bd at *
  rw [T.bind_steps, T.bind_val]
  cases hv : x.val with
  | ok a =>
    obtain ⟨h1, h2⟩ := hk a hv
    rw [hv] at hx
    simp only [remOk] at hx
    show (x.steps + (k a).steps) + A * remOk rem2 (k a).val ≤ A * len + (B1 + B2) ∧ remOk rem2 (k a).val ≤ len
    have := Nat.mul_le_mul_left A h2
    exact ⟨by omega, by omega⟩
  | err e d => simp only [hv, remOk, Res.bind] at hx ⊢; exact ⟨by omega, by omega⟩
  | panic s => simp only [hv, remOk, Res.bind] at hx ⊢; exact ⟨by omega, by omega⟩
  | fuel => simp only [hv, remOk, Res.bind] at hx ⊢; exact ⟨by omega, by omega⟩

theorem Bd.tick {α} {A B len n : Nat} {rem : α → Nat} {x : T (Res α)} (h : Bd A B len rem x) :
    Bd A (B + n) len rem (T.tick n x) := by
  unfold Bd at *
  simp only [T.tick_steps, T.tick_val]
  exact ⟨by omega, h.2⟩

theorem Bd.call {α} {A B len : Nat} {rem : α → Nat} {x : T (Res α)} (h : Bd A B len rem x) :
    Bd A (B + 1) len rem (T.call x) := by
  unfold Bd at *
  simp only [T.call_steps, T.call_val]
  exact ⟨by omega, h.2⟩

theorem Bd.mono {α} {A B B' len len' : Nat} {rem : α → Nat} {x : T (Res α)} (h : Bd A B len rem x)
    (hB : B ≤ B') (hl : len ≤ len') : Bd A B' len' rem x := by
  unfold Bd at *
  have := Nat.mul_le_mul_left A hl
  exact ⟨by omega, by omega⟩

theorem Bd.monoA {α} {A A' B len : Nat} {rem : α → Nat} {x : T (Res α)} (h : Bd A B len rem x)
    (hA : A ≤ A') : Bd A' B len rem x := by
  unfold Bd at *
  obtain ⟨h1, h2⟩ := h
  refine ⟨?_, h2⟩
  obtain ⟨e, rfl⟩ : ∃ e, A' = A + e := ⟨A' - A, by omega⟩
  have := Nat.mul_le_mul_left e h2
  simp only [Nat.add_mul]
  omega

theorem Bd.ret {α} {A B len : Nat} {rem : α → Nat} (r : Res α) (h : remOk rem r ≤ len) : Bd A B len rem (T.ret r) := by
  refine ⟨?_, h⟩
  have := Nat.mul_le_mul_left A h
  simp only [T.ret_steps, T.ret_val]
  omega

theorem frames_bind_le {α β} {N : Nat} {x : T (Res α)} {k : α → T (Res β)} (hx : x.frames ≤ N)
    (hk : ∀ a, x.val = .ok a → (k a).frames ≤ N) : (x.bind k).frames ≤ N := by
  rw [T.bind_frames]
  cases h : x.val with
  | ok a => exact Nat.max_le.mpr ⟨hx, hk a h⟩
  | err e d => exact Nat.max_le.mpr ⟨hx, Nat.zero_le _⟩
  | panic s => exact Nat.max_le.mpr ⟨hx, Nat.zero_le _⟩
  | fuel => exact Nat.max_le.mpr ⟨hx, Nat.zero_le _⟩

/-- The instrumented `x` computes the model's result `r`, within `Bd` and at most `N` frames below (and including) the
call. -/
def Cost {α} (A B N len : Nat) (rem : α → Nat) (x : T (Res α)) (r : Res α) : Prop :=
  x.val = r ∧ Bd A B len rem x ∧ x.frames ≤ N

namespace Cost
variable {α β : Type} {A B B' N N' len len' : Nat} {rem : α → Nat} {x : T (Res α)} {r : Res α}

theorem bind {B1 B2 : Nat} {rem2 : β → Nat} {k : α → T (Res β)} {k' : α → Res β} (hx : Cost A B1 N len rem x r)
    (hk : ∀ a, r = .ok a → Cost A B2 N (rem a) rem2 (k a) (k' a)) :
    Cost A (B1 + B2) N len rem2 (x.bind k) (r.bind k') := by
  have hk' : ∀ a, x.val = .ok a → Cost A B2 N (rem a) rem2 (k a) (k' a) := fun a h => hk a (hx.1.symm.trans h)
  refine ⟨?_, Bd.bind hx.2.1 fun a h => (hk' a h).2.1, frames_bind_le hx.2.2 fun a h => (hk' a h).2.2⟩
  rw [T.bind_val, hx.1]
  cases r with
  | ok a => exact (hk a rfl).1
  | err e d => rfl
  | panic s => rfl
  | fuel => rfl

theorem ret (r : Res α) (h : remOk rem r ≤ len) : Cost A B N len rem (T.ret r) r :=
  ⟨rfl, Bd.ret r h, Nat.zero_le _⟩

theorem ret_err (st : St) (e : RErr) : Cost A B N len rem (T.ret (st.err e : Res α)) (st.err e) := ret _ (Nat.zero_le _)

theorem call (h : Cost A B N len rem x r) : Cost A (B + 1) (N + 1) len rem (T.call x) r :=
  ⟨h.1, Bd.call h.2.1, Nat.succ_le_succ h.2.2⟩

theorem tick {n : Nat} (h : Cost A B N len rem x r) : Cost A (B + n) N len rem (T.tick n x) r :=
  ⟨h.1, h.2.1.tick, h.2.2⟩

/-- `n` steps in front of `x`, paid for by the bytes consumed before `x` starts -/
theorem pay {n : Nat} (h : Cost A B N len' rem x r) (hn : n + A * len' + B ≤ A * len + B') (hl : len' ≤ len) :
    Cost A B' N len rem (T.tick n x) r := by
  obtain ⟨hv, ⟨h1, h2⟩, h3⟩ := h
  refine ⟨hv, ⟨?_, Nat.le_trans h2 hl⟩, h3⟩
  simp only [T.tick_steps, T.tick_val]
  omega

theorem mono (h : Cost A B N len rem x r) (hB : B ≤ B') (hN : N ≤ N') (hl : len ≤ len') :
    Cost A B' N' len' rem x r :=
  ⟨h.1, Bd.mono h.2.1 hB hl, Nat.le_trans h.2.2 hN⟩

theorem monoA {A' : Nat} (h : Cost A B N len rem x r) (hA : A ≤ A') : Cost A' B N len rem x r :=
  ⟨h.1, h.2.1.monoA hA, h.2.2⟩

theorem lift {y : T (HRes α)} {s : HRes α} (hv : y.val = s) (h : BdH A B len rem y) (hf : y.frames ≤ N) (d : Nat) :
    Cost A B N len rem (T.lift d y) (HRes.lift d s) :=
  ⟨by rw [T.lift_val, hv], Bd.lift d h, hf⟩

/-- The run form.  `len` is not tied to the bytes really ahead, nor is `B` a numeral: a function that reads the leading run
of digits and underscores (`du` bytes) is accounted for as if it started behind the run, with the run in its constant,
`Cost A (C * du + B) N (len - du)`.  Then "the run was consumed" is `Bd`'s second component, a look-ahead over the run
(`T.tick n`, `n ≤ du + 1`) is paid by raising `C`, and `Cost.bind` composes as ever. -/
theorem run {du : Nat} (h : Cost A B N len rem x r) (hr : ∀ a, r = .ok a → du + rem a ≤ len) (hdu : du ≤ len) :
    Cost A (A * du + B) N (len - du) rem x r := by
  obtain ⟨hv, ⟨h1, _⟩, h3⟩ := h
  have hr' : du + remOk rem x.val ≤ len := by
    rw [hv]
    cases r with
    | ok a => exact hr a rfl
    | err e d => exact hdu
    | panic s => exact hdu
    | fuel => exact hdu
  obtain ⟨m, rfl⟩ : ∃ m, len = du + m := ⟨len - du, by omega⟩
  rw [Nat.mul_add] at h1
  rw [Nat.add_sub_cancel_left]
  exact ⟨hv, ⟨by omega, by omega⟩, h3⟩

/-- Leaving the run form: a cost proportional to a run that was consumed is a price per byte. -/
theorem ofRun {C du : Nat} (h : Cost A (C * du + B) N (len - du) rem x r) (hA : A ≤ C) (hdu : du ≤ len) :
    Cost C B N len rem x r := by
  obtain ⟨hv, ⟨h1, h2⟩, h3⟩ := h
  refine ⟨hv, ⟨?_, by omega⟩, h3⟩
  obtain ⟨e, rfl⟩ : ∃ e, C = A + e := ⟨C - A, by omega⟩
  obtain ⟨m, rfl⟩ : ∃ m, len = du + m := ⟨len - du, by omega⟩
  rw [Nat.add_sub_cancel_left] at h1 h2
  have := Nat.mul_le_mul_left e h2
  simp only [Nat.add_mul, Nat.mul_add] at h1 ⊢
  omega

/-- a potential of `c` per byte at price one (`pot` below) is price `c` per byte -/
theorem ofPot {c : Nat} (h : Cost 1 B N (c * len) (fun a => c * rem a) x r) (hc : 0 < c) : Cost c B N len rem x r := by
  obtain ⟨hv, ⟨h1, h2⟩, h3⟩ := h
  have e : remOk (fun a => c * rem a) x.val = c * remOk rem x.val := by cases x.val <;> rfl
  rw [e] at h1 h2
  exact ⟨hv, ⟨by omega, Nat.le_of_mul_le_mul_left h2 hc⟩, h3⟩

end Cost

/-- length of the maximal run of digits and underscores at the front -/
def duRun : List Nat → Nat
  | [] => 0
  | c :: r => if isDigit c || c == 95 then duRun r + 1 else 0

theorem duRun_le (l : List Nat) : duRun l ≤ l.length := by
  induction l with
  | nil => exact Nat.le_refl _
  | cons c r ih =>
    unfold duRun
    split
    · simp only [List.length_cons]; omega
    · omega

/-- What a digit loop of `parse_number_or_special` leaves to pay with: two steps per byte ahead (one for the iteration
that consumes it, one for the final `from_str`, which reads it again in `buf`) and one per byte already in `buf`. -/
def pot (ns : NumSt) : Nat := 2 * ns.rest.length + ns.bufR.length

/-- a digit loop pays one step per byte out of `pot`; on success the whole run of digits and underscores was consumed -/
theorem numLoopS_bd (eU : RErr) (pre rest : List Nat) (k seen : Nat) (bufR : List Nat) (hv : Bool) :
    BdH 1 1 (2 * rest.length + bufR.length) pot (T.ofLoop (numLoopS eU pre rest k seen bufR hv)) ∧
    ∀ ns, (numLoopS eU pre rest k seen bufR hv).1 = .ok ns → duRun rest + ns.rest.length ≤ rest.length := by
  unfold BdH
  simp only [T.ofLoop_steps, T.ofLoop_val]
  induction rest generalizing pre k seen bufR hv with
  | nil =>
    refine ⟨by simp only [numLoopS, remOkH, pot, List.length_nil]; omega, fun ns h => ?_⟩
    simp only [numLoopS, HRes.ok.injEq] at h
    subst h
    exact Nat.le_refl _
  | cons c r ih =>
    have fail : ∀ (x : HRes NumSt), (∀ ns, x ≠ .ok ns) →
        (1 + 1 * remOkH pot x ≤ 1 * (2 * (r.length + 1) + bufR.length) + 1 ∧
          remOkH pot x ≤ 2 * (r.length + 1) + bufR.length) ∧
        ∀ ns, x = .ok ns → duRun (c :: r) + ns.rest.length ≤ r.length + 1 := by
      intro x hx
      refine ⟨?_, fun ns h => absurd h (hx ns)⟩
      cases x with
      | ok ns => exact absurd rfl (hx ns)
      | err e => exact ⟨by simp only [remOkH]; omega, Nat.zero_le _⟩
      | panic s => exact ⟨by simp only [remOkH]; omega, Nat.zero_le _⟩
    simp only [numLoopS, List.length_cons]
    by_cases hc : isDigit c = true
    · simp only [hc, ↓reduceIte]
      by_cases hcap : MAX_NUM_DIGITS < seen + 1
      · simp only [hcap, ↓reduceIte]
        exact fail _ nofun
      · simp only [hcap, ↓reduceIte]
        obtain ⟨h1, h2⟩ := ih (c :: pre) (k + 1) (seen + 1) (c :: bufR) true
        simp only [List.length_cons] at h1
        refine ⟨by omega, fun ns h => ?_⟩
        have := h2 ns h
        simp only [duRun, hc, Bool.true_or, ↓reduceIte]
        omega
    · by_cases hu : (c == 95) = true
      · simp only [hc, hu, ↓reduceIte, Bool.false_eq_true]
        cases prevIsDigit pre k with
        | ok p =>
          simp only []
          by_cases hb : (!p || !nextIsDigit r) = true
          · simp only [hb, ↓reduceIte]
            exact fail _ nofun
          · simp only [hb, ↓reduceIte, Bool.false_eq_true]
            by_cases hcap : MAX_NUM_DIGITS < seen
            · simp only [hcap, ↓reduceIte]
              exact fail _ nofun
            · simp only [hcap, ↓reduceIte]
              obtain ⟨h1, h2⟩ := ih (c :: pre) (k + 1) seen bufR hv
              refine ⟨by omega, fun ns h => ?_⟩
              have := h2 ns h
              simp only [duRun, hu, Bool.or_true, ↓reduceIte]
              omega
        | err e => exact fail _ nofun
        | panic s => exact fail _ nofun
      · simp only [hc, hu, ↓reduceIte, Bool.false_eq_true]
        refine ⟨by simp only [remOkH, pot, List.length_cons]; omega, fun ns h => ?_⟩
        cases h
        simp [duRun, hc, hu]

theorem numLoop_run {eU : RErr} {pre rest : List Nat} {k seen : Nat} {bufR : List Nat} {hv : Bool} {ns : NumSt}
    (h : numLoop eU pre rest k seen bufR hv = .ok ns) : duRun rest + ns.rest.length ≤ rest.length :=
  (numLoopS_bd eU pre rest k seen bufR hv).2 ns (by rw [numLoopS_fst]; exact h)

/-- the look-ahead stays inside the run of digits and underscores -/
theorem sexaLookS_steps (rest : List Nat) (sd lu : Bool) : (sexaLookS rest sd lu).2 ≤ duRun rest + 1 := by
  induction rest generalizing sd lu with
  | nil => simp [sexaLookS]
  | cons c r ih =>
    unfold sexaLookS duRun
    split
    · rename_i hc
      have := ih true false
      simp only [hc, Bool.true_or, ↓reduceIte]
      omega
    · rename_i hc
      split
      · rename_i hu
        simp only [hu, Bool.or_true, ↓reduceIte]
        split
        · omega
        · have := ih sd true
          simp only []
          omega
      · omega

/-- bytes left after a field reader -/
def restOf {α β : Type} (a : List Nat × List Nat × α × β) : Nat := a.2.1.length

/-- `read_uint_unders_to_f64`: one step per byte consumed; on success the whole run of digits and underscores was consumed -/
theorem readUintS_bd (pre rest : List Nat) (v : Fl) (d : Nat) (p : Bool) :
    BdH 1 1 rest.length restOf (T.ofLoop (readUintS pre rest v d p)) ∧
    ∀ a, (readUintS pre rest v d p).1 = .ok a → duRun rest + restOf a = rest.length := by
  unfold BdH
  simp only [T.ofLoop_steps, T.ofLoop_val]
  induction rest generalizing pre v d p with
  | nil =>
    by_cases hd : (d == 0) = true <;> simp [readUintS, hd, remOkH, restOf, duRun]
  | cons c r ih =>
    simp only [readUintS, duRun, List.length_cons]
    by_cases hc : isDigit c = true
    · simp only [hc, ↓reduceIte, Bool.true_or]
      by_cases hcap : MAX_NUM_DIGITS < d + 1
      · simp only [hcap, ↓reduceIte, remOkH]
        exact ⟨by omega, fun a h => nomatch h⟩
      · simp only [hcap, ↓reduceIte]
        obtain ⟨h1, h3⟩ := ih (c :: pre) (add F (mul F v TEN) (ofNat F (c - 48))) (d + 1) true
        exact ⟨by omega, fun a h => by have := h3 a h; omega⟩
    · by_cases hu : (c == 95) = true
      · simp only [hc, hu, ↓reduceIte, Bool.false_eq_true, Bool.or_true]
        by_cases hb : (!p || !nextIsDigit r) = true
        · simp only [hb, ↓reduceIte, remOkH]
          exact ⟨by omega, fun a h => nomatch h⟩
        · simp only [hb, ↓reduceIte, Bool.false_eq_true]
          by_cases hcap : MAX_NUM_DIGITS < d
          · simp only [hcap, ↓reduceIte, remOkH]
            exact ⟨by omega, fun a h => nomatch h⟩
          · simp only [hcap, ↓reduceIte]
            obtain ⟨h1, h3⟩ := ih (c :: pre) v d false
            exact ⟨by omega, fun a h => by have := h3 a h; omega⟩
      · simp only [hc, hu, ↓reduceIte, Bool.false_eq_true, Bool.or_self]
        by_cases hd : (d == 0) = true
        · simp only [hd, ↓reduceIte, remOkH]
          exact ⟨by omega, fun a h => nomatch h⟩
        · simp only [hd, ↓reduceIte, Bool.false_eq_true, remOkH, restOf, List.length_cons]
          exact ⟨by omega, fun a h => by cases h; simp⟩

theorem readUint_run {pre rest : List Nat} {v : Fl} {d : Nat} {p : Bool} {a : List Nat × List Nat × Fl × Nat}
    (h : readUint pre rest v d p = .ok a) : duRun rest + restOf a = rest.length :=
  (readUintS_bd pre rest v d p).2 a (by rw [readUintS_fst]; exact h)

theorem readFracS_bd (pre rest : List Nat) (num sc : Fl) (d : Nat) (p : Bool) :
    BdH 1 1 rest.length restOf (T.ofLoop (readFracS pre rest num sc d p)) := by
  unfold BdH
  simp only [T.ofLoop_steps, T.ofLoop_val]
  induction rest generalizing pre num sc d p with
  | nil =>
    by_cases hd : (d == 0) = true <;> simp [readFracS, hd, remOkH, restOf]
  | cons c r ih =>
    simp only [readFracS, List.length_cons]
    by_cases hc : isDigit c = true
    · simp only [hc, ↓reduceIte]
      by_cases hcap : MAX_NUM_DIGITS < d + 1
      · simp only [hcap, ↓reduceIte, remOkH]
        omega
      · simp only [hcap, ↓reduceIte]
        have := ih (c :: pre)
          (if d < MAX_FRAC_DIGITS then add F (mul F num TEN) (ofNat F (c - 48)) else num)
          (if d < MAX_FRAC_DIGITS then mul F sc TEN else sc) (d + 1) true
        omega
    · by_cases hu : (c == 95) = true
      · simp only [hc, hu, ↓reduceIte, Bool.false_eq_true]
        by_cases hb : (!p || !nextIsDigit r) = true
        · simp only [hb, ↓reduceIte, remOkH]
          omega
        · simp only [hb, ↓reduceIte, Bool.false_eq_true]
          by_cases hcap : MAX_NUM_DIGITS < d
          · simp only [hcap, ↓reduceIte, remOkH]
            omega
          · simp only [hcap, ↓reduceIte]
            have := ih (c :: pre) num sc d false
            omega
      · simp only [hc, hu, ↓reduceIte, Bool.false_eq_true]
        by_cases hd : (d == 0) = true
        · simp only [hd, ↓reduceIte, remOkH]
          omega
        · simp only [hd, ↓reduceIte, Bool.false_eq_true, remOkH, restOf, List.length_cons]
          omega

/-- `read_uint_unders_to_f64` reads the leading run of digits and underscores and nothing else -/
theorem readUintT_cost (d : Nat) (pre rest : List Nat) :
    Cost 1 (duRun rest + 2) 1 (rest.length - duRun rest) restOf (T.lift d (readUintT pre rest))
      (HRes.lift d (readUint pre rest (zero F false) 0 false)) :=
  ((Cost.lift (readUintT_val pre rest) (readUintS_bd pre rest (zero F false) 0 false).1.call (Nat.le_refl _) d).run
    (fun _ h => Nat.le_of_eq (readUint_run (hlift_ok h))) (duRun_le rest)).mono (by omega) (Nat.le_refl _) (Nat.le_refl _)

theorem readU32T_bd (pre rest : List Nat) : BdH 1 3 rest.length restOf (readU32T pre rest) := by
  have h : BdH 1 2 rest.length restOf (readUintT pre rest) := (readUintS_bd pre rest (zero F false) 0 false).1.call
  obtain ⟨h1, h2⟩ := h
  unfold readU32T BdH
  simp only [T.call_steps, T.call_val]
  cases hx : (readUintT pre rest).val with
  | ok a =>
    obtain ⟨p1, r1, v, d⟩ := a
    simp only [hx, remOkH, restOf] at h1 h2 ⊢
    by_cases hg : gt v U32MAX = true <;> simp only [hg, Bool.false_eq_true, ↓reduceIte] <;> omega
  | err e => simp only [hx, remOkH] at h1 h2 ⊢; omega
  | panic s => simp only [hx, remOkH] at h1 h2 ⊢; omega

theorem readFracT_bd (pre rest : List Nat) : BdH 1 2 rest.length restOf (readFracT pre rest) :=
  (readFracS_bd pre rest (zero F false) ONE 0 false).call

theorem readU32T_cost (d : Nat) (pre rest : List Nat) :
    Cost 1 3 2 rest.length restOf (T.lift d (readU32T pre rest)) (HRes.lift d (readU32 pre rest)) :=
  Cost.lift (readU32T_val pre rest) (readU32T_bd pre rest) (Nat.le_refl _) d

theorem readFracT_cost (d : Nat) (pre rest : List Nat) :
    Cost 1 2 1 rest.length restOf (T.lift d (readFracT pre rest))
      (HRes.lift d (readFrac pre rest (zero F false) ONE 0 false)) :=
  Cost.lift (readFracT_val pre rest) (readFracT_bd pre rest) (Nat.le_refl _) d

/-- bytes left after a sexagesimal form; `n` when it was declined (`Ok(None)`) -/
def remO (n : Nat) : Option (Eval × St) → Nat
  | some p => p.2.rest.length
  | none => n

theorem sexaSecsT_cost (st : St) (d12 : Nat) (pre2 rest2 : List Nat) :
    Cost 1 5 2 rest2.length restOf (sexaSecsT st d12 pre2 rest2) (sexaSecs st d12 pre2 rest2) := by
  unfold sexaSecsT sexaSecs
  split
  · rename_i rest2'
    refine Cost.mono (len := rest2'.length) ?_ (Nat.le_refl _) (Nat.le_refl _) (by simp)
    refine Cost.bind (B1 := 3) (B2 := 2) (readU32T_cost _ _ _) ?_
    rintro ⟨pre3, rest3, secsU, d3⟩ _
    simp only []
    split
    · exact Cost.ret_err _ _
    · split
      · rename_i rest3' _
        refine Cost.mono (len := rest3'.length) ?_ (Nat.le_refl _) (Nat.le_refl _) (by simp [restOf])
        exact Cost.bind (B1 := 2) (B2 := 0) ((readFracT_cost _ _ _).mono (Nat.le_refl _) (Nat.le_succ _) (Nat.le_refl _))
          fun y _ => Cost.ret _ (Nat.le_refl _)
      · rename_i hne
        split
        · exact absurd rfl (hne _)
        · exact Cost.ret _ (Nat.le_refl _)
  · rename_i hne
    split
    · exact absurd rfl (hne _)
    · exact Cost.ret _ (Nat.le_refl _)

/-- the part of `try_parse_sexagesimal` behind `D:` (it never declines) -/
theorem sexaMinsT_cost (n tag : Nat) (st : St) (pre1 rest1' : List Nat) (degWhole : Fl) (d1 : Nat) :
    Cost 1 8 2 rest1'.length (remO n) (sexaMinsT tag st pre1 rest1' degWhole d1)
      (sexaMins tag st pre1 rest1' degWhole d1) := by
  refine Cost.bind (B1 := 3) (B2 := 5) (readU32T_cost _ _ _) fun x _ => ?_
  split
  · exact Cost.ret_err _ _
  · refine Cost.bind (B1 := 5) (B2 := 0) (sexaSecsT_cost _ _ _ _) fun y _ => ?_
    rw [sexaFinishT_eq]
    refine Cost.ret _ ?_
    rw [sexaFinish_eq]
    split
    · exact Nat.zero_le _
    · exact Nat.le_refl _

/-- `try_parse_sexagesimal` in run form: the look-ahead and `read_uint_unders_to_f64` go over the run once each.  Declining
(`Ok(None)`) counts as having consumed the run: whatever reads the run next is charged from behind it, so the bytes of the
run pay for both. -/
theorem trySexagesimalT_cost (tag : Nat) (st : St) :
    Cost 1 (2 * duRun st.rest + 12) 3 (st.rest.length - duRun st.rest) (remO (st.rest.length - duRun st.rest))
      (trySexagesimalT tag st) (trySexagesimal tag st) := by
  have hlk := sexaLookS_steps st.rest false false
  rw [trySexagesimalT_eq, trySexagesimal_eq, ← sexaLookS_fst]
  refine Cost.call (Cost.pay (B := duRun st.rest + 10) (N := 2) ?_ (by omega) (Nat.le_refl _))
  split
  · exact Cost.ret _ (Nat.le_refl _)
  split
  · exact Cost.ret _ (Nat.le_refl _)
  refine Cost.bind (B2 := 8) ((readUintT_cost _ _ _).mono (Nat.le_refl _) (Nat.le_succ _) (Nat.le_refl _)) ?_
  rintro ⟨pre1, rest1, degWhole, d1⟩ h
  have hrun : duRun st.rest + rest1.length = st.rest.length := readUint_run (hlift_ok h)
  simp only []
  split
  · exact (sexaMinsT_cost _ tag st pre1 _ degWhole d1).mono (Nat.le_refl _) (Nat.le_refl _) (Nat.le_succ _)
  · rename_i hne
    split
    · exact absurd rfl (hne _)
    · exact Cost.ret _ (by show _ - _ ≤ rest1.length; omega)

theorem numFracS_bd (n1 : NumSt) : BdH 1 1 (pot n1) pot (T.ofLoop (numFracS n1)) := by
  obtain ⟨p, rest, seen, bufR, hd⟩ := n1
  unfold numFracS
  simp only []
  split
  · rename_i r
    have := (numLoopS_bd RErr.underscoreFraction (46 :: p) r 0 seen (46 :: bufR) false).1
    unfold BdH at this ⊢
    simp only [pot, List.length_cons] at this ⊢
    omega
  · unfold BdH
    simp only [T.ofLoop_steps, T.ofLoop_val, remOkH]
    omega

theorem expMarker_len (c : Nat) (pre r bufR : List Nat) :
    (expMarker c pre r bufR).2.1.length ≤ r.length ∧
    (expMarker c pre r bufR).2.2.length + (expMarker c pre r bufR).2.1.length = bufR.length + 1 + r.length := by
  cases r with
  | nil => simp [expMarker]
  | cons sg r2 =>
    by_cases h : (sg == 43 || sg == 45) = true
    · simp only [expMarker, h, ↓reduceIte, List.length_cons]; omega
    · simp [expMarker, h]

theorem numExpS_bd (n2 : NumSt) : BdH 1 1 (pot n2) pot (T.ofLoop (numExpS n2)) := by
  obtain ⟨p, rest, seen, bufR, hd⟩ := n2
  have stay : BdH 1 1 (pot ⟨p, rest, seen, bufR, hd⟩) pot (T.ofLoop (HRes.ok ⟨p, rest, seen, bufR, hd⟩, 0)) := by
    unfold BdH
    simp only [T.ofLoop_steps, T.ofLoop_val, remOkH]
    omega
  unfold numExpS
  simp only []
  split
  · rename_i c r
    split
    · -- the marker (and its sign) went to `buf`: each pays the one step of its own and one for `from_str`
      obtain ⟨e1, e2⟩ := expMarker_len c p r bufR
      have := (numLoopS_bd RErr.underscoreExponent (expMarker c p r bufR).1 (expMarker c p r bufR).2.1 0
        seen (expMarker c p r bufR).2.2 false).1
      unfold BdH at this ⊢
      simp only [T.ofLoop_steps, T.ofLoop_val, pot, List.length_cons] at this ⊢
      cases hx : (numLoopS RErr.underscoreExponent (expMarker c p r bufR).1 (expMarker c p r bufR).2.1 0
        seen (expMarker c p r bufR).2.2 false).1 with
      | ok n3 =>
        simp only [hx, remOkH] at this ⊢
        by_cases hh : (!n3.hadDigit) = true <;> simp only [hh, Bool.false_eq_true, ↓reduceIte] <;> omega
      | err e => simp only [hx, remOkH] at this ⊢; omega
      | panic s => simp only [hx, remOkH] at this ⊢; omega
    · exact stay
  · exact stay

/-- bytes left behind a parser function -/
def remS (p : Eval × St) : Nat := p.2.rest.length

/-- The three digit loops of `parse_number_or_special`, in front of a continuation `k` that does not move the cursor back,
consume the leading run of digits and underscores. -/
theorem numChain_run {d : Nat} {pre rest : List Nat} {k : NumSt → Res (Eval × St)} {p : Eval × St}
    (hk : ∀ n3 p, k n3 = .ok p → remS p ≤ n3.rest.length)
    (h : ((HRes.lift d (numLoop .underscoreNumber pre rest 0 0 [] false)).bind fun n1 =>
      (HRes.lift d (numFrac n1)).bind fun n2 => (HRes.lift d (numExp n2)).bind k) = .ok p) :
    duRun rest + remS p ≤ rest.length := by
  obtain ⟨n1, e1, h⟩ := C19.bind_ok h
  obtain ⟨n2, e2, h⟩ := C19.bind_ok h
  obtain ⟨n3, e3, h⟩ := C19.bind_ok h
  have d1 := numLoop_run (hlift_ok e1)
  have d2 := numFrac_good (ap := true) n1
  rw [hlift_ok e2] at d2
  have d3 := numExp_good (ap := true) n2
  rw [hlift_ok e3] at d3
  have := hk n3 p h
  have := Suf.length_le d2.1
  have := Suf.length_le d3.1
  omega

theorem advN_bd {A : Nat} (n : Nat) (pre rest : List Nat) :
    BdH A 0 rest.length (fun x : List Nat × List Nat => x.2.length) (T.ret (advN n pre rest)) := by
  have h : remOkH (fun x : List Nat × List Nat => x.2.length) (advN n pre rest) ≤ rest.length := by
    induction n generalizing pre rest with
    | zero => exact Nat.le_refl _
    | succ n ih =>
      cases rest with
      | nil => exact Nat.zero_le _
      | cons c r => exact Nat.le_succ_of_le (ih (c :: pre) r)
  exact ⟨by simpa using Nat.mul_le_mul_left A h, h⟩

/-- `parse_number_or_special`: at most four steps per byte of the token, plus a constant.  A sexagesimal form that was
declined has been over the run twice, the digit loops and `from_str` go over the token twice. -/
theorem parseNumberOrSpecialT_cost (tag : Nat) (st : St)
    (hc : ∃ c r, st.rest = c :: r ∧ (isDigit c = true ∨ c = 46)) :
    Cost 4 32 4 st.rest.length remS (parseNumberOrSpecialT tag st) (parseNumberOrSpecial tag st) := by
  have special : ∀ ev : Eval, Cost 4 0 3 st.rest.length remS
      ((T.lift st.depth (T.ret (advN 4 st.pre st.rest))).bind fun (x : List Nat × List Nat) =>
        T.ret (.ok (ev, ({ st with pre := x.1, rest := x.2 } : St))))
      ((HRes.lift st.depth (advN 4 st.pre st.rest)).bind fun x => .ok (ev, { st with pre := x.1, rest := x.2 })) :=
    fun ev => Cost.bind (B1 := 0) (B2 := 0) (Cost.lift rfl (advN_bd 4 _ _) (Nat.zero_le _) _) fun x _ =>
      Cost.ret _ (Nat.le_refl _)
  unfold parseNumberOrSpecialT parseNumberOrSpecial
  refine Cost.call (Cost.tick (B := 27) ?_)
  split
  · exact (special _).mono (Nat.zero_le _) (Nat.le_refl _) (Nat.le_refl _)
  refine Cost.tick (B := 23) ?_
  split
  · exact (special _).mono (Nat.zero_le _) (Nat.le_refl _) (Nat.le_refl _)
  refine Cost.ofRun (A := 2) (du := duRun st.rest) ?_ (by omega) (duRun_le _)
  refine (Cost.bind (B2 := 2 * duRun st.rest + 4) ((trySexagesimalT_cost tag st).monoA (Nat.le_succ 1)) ?_).mono
    (by omega) (Nat.le_refl _) (Nat.le_refl _)
  rintro (_ | res) _
  · show Cost 2 _ 3 (st.rest.length - duRun st.rest) remS _ _
    refine (Cost.ofPot ?_ (Nat.zero_lt_succ 1)).run (fun p => numChain_run fun n3 p hp => ?_) (duRun_le _)
    · refine Cost.bind (B1 := 1) (B2 := 3)
        (Cost.lift (numLoopS_fst _ _ _ _ _ _ _) (numLoopS_bd _ _ _ _ _ _ _).1 (Nat.zero_le _) _) fun n1 e1 => ?_
      refine Cost.bind (B1 := 1) (B2 := 2) (Cost.lift (numFracS_fst n1) (numFracS_bd n1) (Nat.zero_le _) _) fun n2 e2 => ?_
      refine Cost.bind (B1 := 1) (B2 := 1) (Cost.lift (numExpS_fst n2) (numExpS_bd n2) (Nat.zero_le _) _) fun n3 e3 => ?_
      have hne := buf_nonempty st.pre st.rest n1 n2 n3 hc (hlift_ok e1) (hlift_ok e2) (hlift_ok e3)
      simp only [hne, Bool.false_eq_true, ↓reduceIte]
      -- `from_str` reads `buf` once more: paid out of `pot`
      refine Cost.call (N := 2) (Cost.pay (len' := 2 * n3.rest.length) (B := 0) ?_ (by simp only [pot]; omega)
        (by simp only [pot]; omega))
      cases fromStr F n3.bufR.reverse with
      | some v => exact Cost.ret _ (Nat.le_refl _)
      | none => exact Cost.ret_err _ _
    · -- every successful exit of the tail leaves the state behind the digit loops
      simp only [] at hp
      split at hp
      · split at hp
        · cases hp
        · split at hp
          · cases hp; exact Nat.le_refl _
          · cases hp
      · split at hp
        · cases hp; exact Nat.le_refl _
        · cases hp
  · exact Cost.ret _ (Nat.le_refl _)

/-! ## the parser

48 steps per byte.  Constants: `primary` 35, `unary` 38, `term` 41, `expr` 44, each `loop` 2; frames: five
per nesting level (`expr`, `term`, `unary`, `primary`, `parse_ident_or_special`); at the deepest level the four
scanner functions (`parse_number_or_special`, `try_parse_sexagesimal`, `read_uint_unders_to_u32` → `…_f64`) stand
in the place of `parse_ident_or_special`, three more; the entry function adds the last one (`5n + 3`, then `+ 1`). -/

theorem exitAfterT_cost {A B N len : Nat} {x : T (Res (Eval × St))} {r : Res (Eval × St)}
    (h : Cost A B N len remS x r) : Cost A (B + 1) N len remS (exitAfterT x) (exitAfter r) := by
  refine ⟨by rw [exitAfterT_val, h.1], ?_, h.2.2⟩
  have h := h.2.1
  unfold Bd exitAfterT at *
  simp only []
  cases hx : x.val with
  | ok a =>
    obtain ⟨ev, st⟩ := a
    simp only [hx, remOk, remS] at h
    simp only [exitAfter, St.exit]
    by_cases hd : (st.depth == 0) = true
    · simp only [hd, ↓reduceIte, Res.bind, remOk]; omega
    · simp only [hd, Bool.false_eq_true, ↓reduceIte, Res.bind, remOk, remS]; omega
  | err e d =>
    simp only [hx, remOk] at h
    simp only [exitAfter]
    split <;> (simp only [remOk]; omega)
  | panic s => simp only [hx, remOk] at h; simp only [exitAfter, remOk]; omega
  | fuel => simp only [hx, remOk] at h; simp only [exitAfter, remOk]; omega

theorem enterT_cost {A N : Nat} (st : St) :
    Cost A 1 N st.rest.length (fun s : St => s.rest.length) (T.tick 1 (T.ret (St.enter st))) (St.enter st) := by
  refine Cost.tick (B := 0) (Cost.ret _ ?_)
  cases he : St.enter st with
  | ok st1 => rw [(enter_ok he).1]; exact Nat.le_refl _
  | err e d => exact Nat.zero_le _
  | panic s => exact Nat.zero_le _
  | fuel => exact Nat.zero_le _

theorem closeParen_rem (e : RErr) (ev : Eval) (st : St) : remOk remS (closeParen e ev st) ≤ st.rest.length := by
  obtain ⟨p, r, d, t⟩ := st
  unfold closeParen
  simp only []
  split
  · simp [remOk, remS, St.adv]
  · exact Nat.zero_le _
  · exact Nat.zero_le _

/-- the hypothesis on the recursive call: `ET` is the instrumented `E` and keeps the budget of `expr` -/
def ECost (ET : St → T (Res (Eval × St))) (E : St → Res (Eval × St)) (N : Nat) : Prop :=
  ∀ st1, Cost 48 44 N st1.rest.length remS (ET st1) (E st1)

variable {ET : St → T (Res (Eval × St))} {E : St → Res (Eval × St)} {N : Nat}

theorem bracketT_cost (hE : ECost ET E N) (restore : St → St) (hr : ∀ s, (restore s).rest = s.rest) (f : Eval → Eval)
    (e : RErr) (st : St) :
    Cost 48 48 N st.rest.length remS (bracketT ET restore f e st) (bracket E restore f e st) := by
  refine Cost.bind (B1 := 1) (B2 := 47) (enterT_cost st) fun st1 _ => ?_
  refine Cost.bind (B1 := 45) (B2 := 2) (exitAfterT_cost (hE st1)) fun x _ => ?_
  have hs := skipWsT_steps (restore x.2)
  rw [hr] at hs
  rw [closeParenT_eq, ← skipWsT_val]
  refine Cost.pay (B := 0) (Cost.ret _ (closeParen_rem _ _ _)) ?_ ?_
  · show _ ≤ 48 * x.2.rest.length + 2
    omega
  · show _ ≤ x.2.rest.length
    omega

theorem unitCallT_cost (hE : ECost ET E N) (isDeg : Bool) (st1 : St) :
    Cost 48 2 N st1.rest.length remS (unitCallT ET isDeg st1) (unitCall E isDeg st1) := by
  have hs := skipWsT_steps st1
  unfold unitCallT unitCall
  rw [← skipWsT_val]
  generalize skipWsT st1 = sw at hs ⊢
  obtain ⟨⟨p2, r2, d2, t2⟩, n, fr⟩ := sw
  simp only [] at hs ⊢
  split
  · rename_i r
    simp only [List.length_cons] at hs
    have hb := bracketT_cost hE (fun s => { s with sexTime := t2 }) (fun _ => rfl) (unitVal isDeg) .expectedRParenFn
      { pre := 40 :: p2, rest := r, depth := d2, sexTime := false }
    exact Cost.pay hb (by simp only []; omega) (by simp only []; omega)
  · rename_i c r hc
    refine Cost.pay (len' := 0) (B := 0) ?_ (by omega) (Nat.zero_le _)
    split
    · rename_i h; cases h; exact absurd rfl hc
    · rename_i h; cases h; exact Cost.ret_err _ _
    · rename_i h; cases h
  · exact Cost.pay (len' := 0) (B := 0) (Cost.ret_err _ _) (by omega) (Nat.zero_le _)

theorem identTailT_cost (hE : ECost ET E N) (ident : List Nat) (st1 : St) :
    Cost 48 2 N st1.rest.length remS (identTailT ET ident st1) (identTail E ident st1) := by
  unfold identTailT identTail
  by_cases h1 : (ident == [112, 105]) = true
  · simp only [h1, ↓reduceIte]; exact Cost.ret _ (Nat.le_refl _)
  by_cases h2 : (ident == [116, 97, 117]) = true
  · simp only [h1, h2, ↓reduceIte]; exact Cost.ret _ (Nat.le_refl _)
  by_cases h3 : (ident == [105, 110, 102]) = true
  · simp only [h1, h2, h3, ↓reduceIte]; exact Cost.ret _ (Nat.le_refl _)
  by_cases h4 : (ident == [110, 97, 110]) = true
  · simp only [h1, h2, h3, h4, ↓reduceIte]; exact Cost.ret _ (Nat.le_refl _)
  by_cases h5 : (ident == [100, 101, 103] || ident == [114, 97, 100]) = true
  · simp only [h1, h2, h3, h4, h5, ↓reduceIte]; exact unitCallT_cost hE _ _
  · simp only [h1, h2, h3, h4, h5]; exact Cost.ret_err _ _

theorem parseIdentOrSpecialT_cost (hE : ECost ET E N) (st : St) :
    Cost 48 10 (N + 1) st.rest.length remS (parseIdentOrSpecialT ET st) (parseIdentOrSpecial E st) := by
  have hil := identLoopS_steps st.pre st.rest []
  rw [parseIdentOrSpecialT_eq, parseIdentOrSpecial_eq, ← identLoopS_fst]
  generalize identLoopS st.pre st.rest [] = ilx at hil ⊢
  obtain ⟨⟨ip, ir, iacc⟩, n⟩ := ilx
  simp only [] at hil ⊢
  refine Cost.call (Cost.pay (len' := ir.length) (B := 2) ?_ (by omega) (by omega))
  split
  · exact Cost.ret _ (Nat.zero_le _)
  · exact identTailT_cost hE _ _

theorem primaryT_cost (tag : Nat) (hE : ECost ET E N) (st0 : St) :
    Cost 48 35 (max 5 (N + 2)) st0.rest.length remS (primaryT tag ET st0) (primary tag E st0) := by
  have hs := skipWsT_steps st0
  cases hr : (skipWsT st0).val.rest with
  | nil =>
    unfold primaryT primary
    rw [← skipWsT_val]
    simp only [hr]
    exact (Cost.call (Cost.pay (len' := 0) (B := 0) (N := 0) (Cost.ret_err _ _) (by omega) (Nat.zero_le _))).mono
      (B := 34) (by omega) (by omega) (Nat.le_refl _)
  | cons c r =>
    rw [hr, List.length_cons] at hs
    by_cases hc : c = 40
    · subst hc
      rw [primaryT_paren tag ET st0 r hr, primary_paren tag E st0 r (by rw [← skipWsT_val]; exact hr), ← skipWsT_val]
      exact (Cost.call (Cost.pay (B' := 2) (bracketT_cost hE id (fun _ => rfl) id _ _)
        (by simp only [St.adv]; omega) (by simp only [St.adv]; omega))).mono (by omega) (by omega) (Nat.le_refl _)
    · unfold primaryT primary
      rw [← skipWsT_val]
      have hc' : (c == 40) = false := by simpa using hc
      simp only [hr, hc', Bool.false_eq_true, ↓reduceIte]
      have hst : (skipWsT st0).val.rest.length = r.length + 1 := by rw [hr]; rfl
      split
      · rename_i hcd
        have hb := (parseNumberOrSpecialT_cost tag (skipWsT st0).val
          ⟨c, r, hr, by simpa [Bool.or_eq_true] using hcd⟩).monoA (A' := 48) (by omega)
        exact (Cost.call (Cost.pay (B' := 34) hb (by omega) (by omega))).mono (Nat.le_refl _) (by omega) (Nat.le_refl _)
      · split
        · exact (Cost.call (Cost.pay (B' := 12) (parseIdentOrSpecialT_cost hE _) (by omega) (by omega))).mono
            (by omega) (by omega) (Nat.le_refl _)
        · exact (Cost.call (Cost.pay (len' := 0) (B := 0) (N := 0) (Cost.ret_err _ _) (by omega) (Nat.zero_le _))).mono
            (B := 34) (by omega) (by omega) (Nat.le_refl _)

theorem unaryT_cost (tag : Nat) (hE : ECost ET E N) (st0 : St) :
    Cost 48 38 (max 5 (N + 2) + 1) st0.rest.length remS (unaryT tag ET st0) (unary tag E st0) := by
  have hs := skipWsT_steps st0
  unfold unaryT unary
  simp only []
  rw [← skipWsT_val]
  generalize skipWsT st0 = sw at hs ⊢
  obtain ⟨⟨p, r0, d, t⟩, n, fr⟩ := sw
  simp only [] at hs ⊢
  have hl := signLoopS_steps p r0 ONE
  rw [← signLoopS_fst]
  generalize signLoopS p r0 ONE = slx at hl ⊢
  obtain ⟨⟨sp, sr, sv⟩, m⟩ := slx
  simp only [] at hl ⊢
  refine Cost.call (Cost.pay (len' := sr.length) (B := 35) ?_ (by omega) (by omega))
  exact Cost.bind (B2 := 0) (primaryT_cost tag hE ⟨sp, sr, d, t⟩) fun a _ => Cost.ret _ (Nat.le_refl _)

/-- The `loop`s of `term` and `expr`: white space (`n` steps, ending in `st`), then the end of the loop, or an operator
`c1` / `c2` and an operand `sub` (costing `B ≤ 44`: the operator byte pays for the operand's constant) and the next
iteration `next`. -/
theorem loopT_cost {N' B n c1 c2 : Nat} {st0 st : St} {v : Fl} {uu sp : Bool}
    {subT : St → T (Res (Eval × St))} {sub : St → Res (Eval × St)} {op1 op2 : Fl → Fl → Fl}
    {nextT : Eval → St → T (Res (Eval × St))} {next : Eval → St → Res (Eval × St)}
    (hs : n + st.rest.length = st0.rest.length + 1 ∧ 1 ≤ n) (hB : B ≤ 44)
    (hsub : ∀ st, Cost 48 B N' st.rest.length remS (subT st) (sub st))
    (hnext : ∀ ev st, Cost 48 2 N' st.rest.length remS (nextT ev st) (next ev st)) :
    Cost 48 2 N' st0.rest.length remS
      (T.tick (n + 1) (match st.rest with
        | [] => T.ret (.ok ((v, uu, sp), st))
        | c :: r =>
          if c == c1 then (subT (st.adv c r)).bind fun x => nextT (op1 v x.1.1, uu || x.1.2.1, sp || x.1.2.2) x.2
          else if c == c2 then (subT (st.adv c r)).bind fun x => nextT (op2 v x.1.1, uu || x.1.2.1, sp || x.1.2.2) x.2
          else T.ret (.ok ((v, uu, sp), st))))
      (match st.rest with
        | [] => .ok ((v, uu, sp), st)
        | c :: r =>
          if c == c1 then (sub (st.adv c r)).bind fun x => next (op1 v x.1.1, uu || x.1.2.1, sp || x.1.2.2) x.2
          else if c == c2 then (sub (st.adv c r)).bind fun x => next (op2 v x.1.1, uu || x.1.2.1, sp || x.1.2.2) x.2
          else .ok ((v, uu, sp), st)) := by
  obtain ⟨p0, r0, d0, t0⟩ := st
  simp only [] at hs
  have stop : Cost 48 2 N' st0.rest.length remS (T.tick (n + 1) (T.ret (.ok ((v, uu, sp), ⟨p0, r0, d0, t0⟩))))
      (.ok ((v, uu, sp), ⟨p0, r0, d0, t0⟩)) :=
    Cost.pay (B := 0) (Cost.ret _ (Nat.le_refl _)) (by simp only [remOk, remS]; omega) (by simp only [remOk, remS]; omega)
  cases r0 with
  | nil => exact stop
  | cons c r =>
    simp only [List.length_cons] at hs
    have step : ∀ op : Fl → Fl → Fl, Cost 48 2 N' st0.rest.length remS
        (T.tick (n + 1) ((subT (St.adv ⟨p0, c :: r, d0, t0⟩ c r)).bind fun x =>
          nextT (op v x.1.1, uu || x.1.2.1, sp || x.1.2.2) x.2))
        ((sub (St.adv ⟨p0, c :: r, d0, t0⟩ c r)).bind fun x => next (op v x.1.1, uu || x.1.2.1, sp || x.1.2.2) x.2) :=
      fun op => Cost.pay (Cost.bind (hsub _) fun a _ => hnext _ a.2) (by simp only [St.adv]; omega)
        (by simp only [St.adv]; omega)
    simp only []
    split
    · exact step op1
    · split
      · exact step op2
      · exact stop

theorem termLoopT_cost (tag : Nat) (hE : ECost ET E N) (k : Nat) (ev : Eval) (st0 : St) :
    Cost 48 2 (max 5 (N + 2) + 1) st0.rest.length remS (termLoopT tag ET k ev st0) (termLoop tag E k ev st0) := by
  induction k generalizing ev st0 with
  | zero => exact Cost.ret _ (Nat.zero_le _)
  | succ k ih =>
    obtain ⟨v, uu, sp⟩ := ev
    unfold termLoopT termLoop
    simp only []
    rw [← skipWsT_val]
    exact loopT_cost (skipWsT_steps st0) (by omega) (unaryT_cost tag hE) ih

theorem termT_cost (tag lf : Nat) (hE : ECost ET E N) (st : St) :
    Cost 48 41 (max 5 (N + 2) + 2) st.rest.length remS (termT tag lf ET st) (term tag lf E st) :=
  Cost.call (Cost.bind (unaryT_cost tag hE st) fun a _ => termLoopT_cost tag hE lf a.1 a.2)

theorem exprLoopT_cost (tag lf : Nat) (hE : ECost ET E N) (k : Nat) (ev : Eval) (st0 : St) :
    Cost 48 2 (max 5 (N + 2) + 2) st0.rest.length remS (exprLoopT tag lf ET k ev st0) (exprLoop tag lf E k ev st0) := by
  induction k generalizing ev st0 with
  | zero => exact Cost.ret _ (Nat.zero_le _)
  | succ k ih =>
    obtain ⟨v, uu, sp⟩ := ev
    unfold exprLoopT exprLoop
    simp only []
    rw [← skipWsT_val]
    exact loopT_cost (skipWsT_steps st0) (by omega) (termT_cost tag lf hE) ih

/-- `n` nested activations of `expr` -/
theorem exprT_cost (tag lf n : Nat) : ECost (exprT tag lf n) (expr tag lf n) (5 * n + 3) := by
  induction n with
  | zero => exact fun st => Cost.ret _ (Nat.zero_le _)
  | succ n ih =>
    intro st
    unfold exprT expr
    exact (Cost.call (Cost.bind (termT_cost tag lf ih st) fun a _ => exprLoopT_cost tag lf ih lf a.1 a.2)).mono
      (Nat.le_refl _) (by omega) (Nat.le_refl _)

theorem evalExprT_cost (tag : Nat) (s : List Nat) :
    (evalExprT tag s).val = evalExpr tag s ∧ (evalExprT tag s).steps ≤ 48 * s.length + 48 ∧
      (evalExprT tag s).frames ≤ 5 * (MAX_EXPR_DEPTH + 1) + 4 := by
  have hs : _ = s.length + 1 ∧ _ := skipWsT_steps { pre := [], rest := s, depth := 0, sexTime := true }
  have h : Cost 48 48 (5 * (MAX_EXPR_DEPTH + 1) + 4) s.length (fun _ : Fl => 0) (evalExprT tag s) (evalExpr tag s) := by
    unfold evalExprT evalExpr
    simp only []
    rw [← skipWsT_val]
    refine Cost.call (Cost.pay (B := 46) (B' := 47) (Cost.bind (B2 := 2) (exprT_cost tag _ _ _) fun x _ => ?_)
      (by omega) (by omega))
    have h2 := skipWsT_steps x.2
    rw [← skipWsT_val]
    refine Cost.pay (len' := 0) (B := 0) ?_ (by simp only [remS]; omega) (Nat.zero_le _)
    split
    · exact Cost.ret_err _ _
    · split
      · exact Cost.ret _ (Nat.zero_le _)
      · split
        · exact Cost.ret_err _ _
        · exact Cost.ret _ (Nat.zero_le _)
  exact ⟨h.1, Nat.le_trans (Nat.le_add_right _ _) h.2.1.1, h.2.2⟩

end SaphyrVerif.Lemmas.C19S
