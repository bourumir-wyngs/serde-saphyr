import SaphyrVerif.Lemmas.C11_Typed2Fail
import SaphyrVerif.Lemmas.C11_Typed2Stream
/-!
Typed multi-document theorems (C11): the streaming iterator inside a document in which the
pump fails.  `soloRounds` is the loop of `ReadIter::next` on a LIVE cursor until the iterator leaves the current
document — by an error of its own `peek` (the iterator is finished) or by an error item followed by the recovery —
with its items; it is meant to be evaluated on the document ON ITS OWN (the one-document stream).  `iter_lock`: the
iterator inside the same document in ANY stream makes exactly these rounds and yields exactly these items
(the same values, the same errors), by the lock-step pass `Lemmas.Lock.lA`.
-/
namespace SaphyrVerif.Lemmas.C11B
open SaphyrVerif SaphyrVerif.Scalars SaphyrVerif.Pump SaphyrVerif.De SaphyrVerif.Spec SaphyrVerif.Budget SaphyrVerif.Entry
open SaphyrVerif.Lemmas.C11T (Item evIsNull)

/-- one round of the iterator after its `peek` has seen the event `ev` and left the cursor `c` (`rec` = the
following rounds); the flag of the result (not that of `docRounds`, see `Rounds`): `true` = the document is left
through the recovery after an error item, `false` = the iterator is finished -/
def roundTail (cfg : Cfg) (ty : Ty) (rec : Pump → List RawItem → Option Rounds) (ev : Ev) (c : Cur) : Option Rounds :=
  match ev, c with
  | .seqEnd l, .live _ _ => some ([.error ⟨"UnexpectedSequenceEnd", l, 0⟩], true, 1)
  | .mapEnd l, .live _ _ => some ([.error ⟨"UnexpectedMappingEnd", l, 0⟩], true, 1)
  | .seqEnd _, _ => none
  | .mapEnd _, _ => none
  | ev, c =>
    if evIsNull ev then
      match c.next with
      | .ok _ (.live p inp) => (rec p inp).map (Rounds.push [])
      | .err e _ => some ([.error e], false, 1)
      | _ => none
    else
      match deser (fuelFor 100000) cfg ty false false c with
      | .ok v (.live p inp) => (rec p inp).map (Rounds.push [.ok v])
      | .err e (.live _ _) => some ([.error e], true, 1)
      | _ => none

def soloRounds (cfg : Cfg) (ty : Ty) : Nat → Pump → List RawItem → Option Rounds
  | 0, _, _ => none
  | n + 1, p, inp =>
    match Cur.peek (.live p inp) with
    | .err e _ => some ([.error e], false, 1)
    | .ok none _ => none
    | .ok (some ev) c => roundTail cfg ty (soloRounds cfg ty n) ev c

theorem soloRounds_last (cfg : Cfg) (ty : Ty) : ∀ (N : Nat) (p : Pump) (inp : List RawItem) (r : Rounds),
    soloRounds cfg ty N p inp = some r → ∃ init e, r.1 = init ++ [.error e] := by
  intro N
  induction N with
  | zero => intro p inp r h; simp [soloRounds] at h
  | succ n ih =>
    intro p inp r h
    have hpush : ∀ (x : List Item) (p2 : Pump) (i2 : List RawItem),
        (soloRounds cfg ty n p2 i2).map (Rounds.push x) = some r → ∃ init e, r.1 = init ++ [.error e] := by
      intro x p2 i2 hx
      obtain ⟨r2, hr2, rfl⟩ := Option.map_eq_some_iff.mp hx
      obtain ⟨init, e, he⟩ := ih p2 i2 r2 hr2
      exact ⟨x ++ init, e, by simp [Rounds.push, he]⟩
    simp only [soloRounds] at h
    split at h
    · cases h; exact ⟨[], _, rfl⟩
    · cases h
    · rename_i ev c hpk
      unfold roundTail at h
      split at h
      · cases h; exact ⟨[], _, rfl⟩
      · cases h; exact ⟨[], _, rfl⟩
      · cases h
      · cases h
      · split at h
        · split at h
          · exact hpush _ _ _ h
          · cases h; exact ⟨[], _, rfl⟩
          · cases h
        · split at h
          · exact hpush _ _ _ h
          · cases h; exact ⟨[], _, rfl⟩
          · cases h

theorem roundTail_open (cfg : Cfg) (ty : Ty) (rec : Pump → List RawItem → Option Rounds) {ev : Ev}
    (hopen : Lemmas.C05.Ev.isOpen ev = true) (c : Cur) :
    roundTail cfg ty rec ev c =
      (if evIsNull ev then
        match c.next with
        | .ok _ (.live p inp) => (rec p inp).map (Rounds.push [])
        | .err e _ => some ([.error e], false, 1)
        | _ => none
      else
        match deser (fuelFor 100000) cfg ty false false c with
        | .ok v (.live p inp) => (rec p inp).map (Rounds.push [.ok v])
        | .err e (.live _ _) => some ([.error e], true, 1)
        | _ => none) := by
  cases ev <;> first | rfl | simp [Lemmas.C05.Ev.isOpen] at hopen

section
variable {L : AliasLimits} {ob : Option Limits} {X X0 : List RawItem} {le : Loc} (Y : List RawItem) (b' : Bool)
  (hX : X = .ev .docEnd le :: X0) (cfg : Cfg) (ty : Ty)
include hX

theorem tail_lock (n : Nat)
    (ih : ∀ (p : Pump) (inp : List RawItem) (r : Rounds), FailInv L ob X (.live p inp) →
      soloRounds cfg ty n (withFlags p true b') (swapSuf X Y inp) = some r →
      Left L ob cfg ty X0 (fun m acc => iterLoop cfg ty (m + r.2.2) p inp acc) r.1 r.2.1)
    {ev : Ev} {dL : Cur} (hI : FailInv L ob X dL)
    (r : Rounds) (hr : roundTail cfg ty (soloRounds cfg ty n) ev (swapCur X Y b' dL) = some r)
    {p : Pump} {inp : List RawItem} (hpk : Cur.peek (.live p inp) = .ok (some ev) dL) :
    Left L ob cfg ty X0 (fun m acc => iterLoop cfg ty (m + r.2.2) p inp acc) r.1 r.2.1 := by
  have hcl := closed_failP L ob X Y b' (by rw [hX]; exact List.cons_ne_nil _ _)
  obtain ⟨pL, iL, rfl, hstL, hJL⟩ := hI.err
  have hopenCase : Lemmas.C05.Ev.isOpen ev = true →
      Left L ob cfg ty X0 (fun m acc => iterLoop cfg ty (m + r.2.2) p inp acc) r.1 r.2.1 := by
    intro hopen
    rw [roundTail_open cfg ty _ hopen] at hr
    have hloop := iterLoop_open cfg ty hpk hopen
    by_cases hnull : evIsNull ev = true
    · simp only [hnull, if_true] at hr hloop
      rcases hcl.next_cases (P := failP L ob X Y b') hI with ⟨o, d', hn, hn', hI'⟩ | ⟨e, d', hn, hn', hE'⟩
      · obtain ⟨p2, i2, rfl, -, -⟩ := hI'.err
        have hn'' : (swapCur X Y b' (.live pL iL)).next = .ok o (.live (withFlags p2 true b') (swapSuf X Y i2)) := hn'
        rw [hn''] at hr
        rw [hn] at hloop
        obtain ⟨r2, hr2, rfl⟩ := Option.map_eq_some_iff.mp hr
        exact (ih p2 i2 r2 hI' hr2).push [] fun m acc => by rw [List.append_nil]; exact hloop (m + r2.2.2) acc
      · have hn'' : (swapCur X Y b' (.live pL iL)).next = .err e (swapCur X Y b' d') := hn'
        rw [hn''] at hr
        cases hr
        exact Left.stop fun m acc => by rw [hloop, hn]
    · have hnull' : evIsNull ev = false := by simpa using hnull
      simp only [hnull', Bool.false_eq_true, if_false] at hr hloop
      have hlr := (Lemmas.Lock.lA hcl (fuelFor 100000)).deser cfg ty false false hI
      cases hL : deser (fuelFor 100000) cfg ty false false (.live pL iL) with
      | ok v d' =>
        obtain ⟨hR, hI'⟩ := hlr.fwd_ok hL
        obtain ⟨p2, i2, rfl, -, -⟩ := hI'.err
        have hR' : deser (fuelFor 100000) cfg ty false false (swapCur X Y b' (.live pL iL)) =
            .ok v (.live (withFlags p2 true b') (swapSuf X Y i2)) := hR
        rw [hR'] at hr
        rw [hL] at hloop
        obtain ⟨r2, hr2, rfl⟩ := Option.map_eq_some_iff.mp hr
        exact (ih p2 i2 r2 hI' hr2).push [.ok v] fun m acc => hloop (m + r2.2.2) acc
      | err e d' =>
        obtain ⟨hR, hE'⟩ := hlr.fwd_err hL
        obtain ⟨q3, inq3, rfl, hst3, hJ3⟩ := hE'
        have hR' : deser (fuelFor 100000) cfg ty false false (swapCur X Y b' (.live pL iL)) =
            .err e (.live (withFlags q3 true b') (swapSuf X Y inq3)) := hR
        rw [hR'] at hr
        cases hr
        exact Left.of_skip hst3 (hX ▸ hJ3) fun m acc => by rw [hloop, hL]
  cases ev with
  | scalar v tg rt st a l => exact hopenCase rfl
  | seqStart a tg rt l => exact hopenCase rfl
  | mapStart a l => exact hopenCase rfl
  | seqEnd l =>
    cases hr
    exact Left.of_skip hstL (hX ▸ hJL) (iterLoop_seqEnd cfg ty hpk)
  | mapEnd l =>
    cases hr
    exact Left.of_skip hstL (hX ▸ hJL) (iterLoop_mapEnd cfg ty hpk)

theorem iter_lock : ∀ (n : Nat) (p : Pump) (inp : List RawItem) (r : Rounds), FailInv L ob X (.live p inp) →
    soloRounds cfg ty n (withFlags p true b') (swapSuf X Y inp) = some r →
    Left L ob cfg ty X0 (fun m acc => iterLoop cfg ty (m + r.2.2) p inp acc) r.1 r.2.1 := by
  have hcl := closed_failP L ob X Y b' (by rw [hX]; exact List.cons_ne_nil _ _)
  intro n
  induction n with
  | zero => intro p inp r _ hr; simp [soloRounds] at hr
  | succ n ih =>
    intro p inp r hI hr
    simp only [soloRounds] at hr
    rcases hcl.peek_cases (P := failP L ob X Y b') hI with ⟨o, d, hp, hp', hI'⟩ | ⟨e, d, hp, hp', hE'⟩
    · have hp'' : Cur.peek (.live (withFlags p true b') (swapSuf X Y inp)) = .ok o (swapCur X Y b' d) := hp'
      rw [hp''] at hr
      cases o with
      | none => cases hr
      | some ev => exact tail_lock Y b' hX cfg ty n ih hI' r hr hp
    · have hp'' : Cur.peek (.live (withFlags p true b') (swapSuf X Y inp)) = .err e (swapCur X Y b' d) := hp'
      rw [hp''] at hr
      cases hr
      exact Left.stop fun m acc => by simp only [iterLoop, hp]

end

end SaphyrVerif.Lemmas.C11B
