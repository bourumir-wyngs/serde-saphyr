import SaphyrVerif.Lemmas.C11_TypedIter
import SaphyrVerif.Lemmas.C07
/-!
Typed multi-document theorems (C11): live cursors WITH a per-document budget enforcer.

`StatB L ob p`: `ob = none` = no enforcer; `ob = some lim` = an enforcer with the limits
`lim` under the per-document policy (the fields of the enforcer that no call ever changes: its limits, its
policy, and the document counter, which the per-document policy never touches).  `next_impl` and
`skip_to_next_document` keep it — whatever they answer, also on errors —, and a `DocumentStart` observed under the
per-document policy (also through `begin_document_at` on the recovery path) puts the enforcer into the state
`startEnf lim`: everything forgotten, the marker counted as the first event of the new document.
`LiveInvB` is the invariant of the live cursor inside a document over such a pump.
-/
namespace SaphyrVerif.Lemmas.C11B
open SaphyrVerif SaphyrVerif.Scalars SaphyrVerif.Pump SaphyrVerif.De SaphyrVerif.Spec SaphyrVerif.Budget
open SaphyrVerif.Lemmas.C11T (RunP J)
open SaphyrVerif.Lemmas.CurSim (live_peek live_next look_peek look_next nextImpl_look_none)

def EnfStat (lim : Limits) (E : Enf) : Prop :=
  E.lim = lim ∧ E.perDocument = true ∧ E.report.documents = 0 ∧ 1 ≤ lim.maxEvents

theorem enfStat_new (lim : Limits) (h1 : 1 ≤ lim.maxEvents) : EnfStat lim (Enf.new lim true) := ⟨rfl, rfl, rfl, h1⟩

def startEnf (lim : Limits) : Enf := Lemmas.C07.docStartState lim 0

theorem enfStat_start (lim : Limits) (h1 : 1 ≤ lim.maxEvents) : EnfStat lim (startEnf lim) := ⟨rfl, rfl, rfl, h1⟩

theorem observe_stat {lim : Limits} {E E' : Enf} {r : Raw} (h : EnfStat lim E) (ho : E.observe r = .ok E') :
    EnfStat lim E' := by
  obtain ⟨rfl, -⟩ := Lemmas.C07.observe_ok ho
  obtain ⟨h1, h2, h3, h4⟩ := h
  exact ⟨by simp [h1], by simp [h2], by rw [Lemmas.C07.next_documents_pd h2, h3], h4⟩

theorem aliasReplayed_stat {lim : Limits} {E E' : Enf} (h : EnfStat lim E) (ho : E.observeAliasReplayed = .ok E') :
    EnfStat lim E' := by
  obtain ⟨rfl, -, -⟩ := Lemmas.C07.aliasReplayed_ok ho
  exact h

theorem occupies_stat {lim : Limits} {E : Enf} (h : EnfStat lim E) : EnfStat lim E.aliasOccupiesPosition := h

/-- a `DocumentStart` marker observed under the per-document policy: whatever was counted before, the enforcer is
in the state `startEnf` (`Props.C07.perdoc_position_independent`) -/
theorem observe_docStart_stat {lim : Limits} {E : Enf} (h : EnfStat lim E) (x : Bool) :
    E.observe (.docStart x) = .ok (startEnf lim) := by
  obtain ⟨h1, h2, h3, h4⟩ := h
  rw [Lemmas.C07.observe_docStart_pd x h2, h1, h3]
  rw [if_neg (by omega)]
  rfl

def BudStat : Option Limits → Option Enf → Prop
  | none, none => True
  | some lim, some E => EnfStat lim E
  | _, _ => False

theorem BudStat.cases {ob : Option Limits} {b : Option Enf} (h : BudStat ob b) :
    (ob = none ∧ b = none) ∨ ∃ lim E, ob = some lim ∧ b = some E ∧ EnfStat lim E := by
  cases ob <;> cases b <;> first | exact h.elim | exact .inl ⟨rfl, rfl⟩ | exact .inr ⟨_, _, rfl, rfl, h⟩

theorem budStat_max1 {ob : Option Limits} {b : Option Enf} (h : BudStat ob b) :
    ∀ lim, ob = some lim → 1 ≤ lim.maxEvents := by
  intro lim hl
  subst hl
  cases b with
  | none => exact h.elim
  | some E => exact h.2.2.2

def freshBud (ob : Option Limits) : Option Enf := ob.map startEnf

/-- the budget part of the `DocumentStart` arm of `skip_to_next_document` (`begin_document_at`) -/
theorem skipBudget_stat {ob : Option Limits} {b : Option Enf} (h : BudStat ob b) (x : Bool) :
    skipBudget b (.docStart x) = some (freshBud ob) := by
  rcases h.cases with ⟨rfl, rfl⟩ | ⟨lim, E, rfl, rfl, hE⟩
  · rfl
  · simp [skipBudget, Enf.beginDocumentAt, hE.2.1, observe_docStart_stat hE x, freshBud]

theorem budStat_fresh (ob : Option Limits) (hmax : ∀ lim, ob = some lim → 1 ≤ lim.maxEvents) :
    BudStat ob (freshBud ob) := by
  cases ob
  · trivial
  · exact enfStat_start _ (hmax _ rfl)

theorem budgetInv_budStat (ob : Option Limits) : BudgetInv (BudStat ob) := by
  cases ob with
  | none => exact ⟨fun h _ => h.elim, fun h _ => h.elim, fun h => h.elim⟩
  | some lim => exact ⟨observe_stat, aliasReplayed_stat, occupies_stat⟩

theorem budStat_observe {ob : Option Limits} {b bud : Option Enf} {raw : Raw} (h : BudStat ob b)
    (hx : (match b with
      | none => (Except.ok none : Except Breach (Option Enf))
      | some enf =>
        match raw with
        | .alias _ => enf.observeAliasReplayed.map some
        | _ => (enf.observe raw).map some) = .ok bud) : BudStat ob bud :=
  (budgetInv_budStat ob).step h ((budgetStep_item b raw).symm.trans hx)

structure StatB (L : AliasLimits) (ob : Option Limits) (p : Pump) : Prop where
  bud : BudStat ob p.budget
  rip : p.recursiveInProgress = []
  lim : p.limits = L
  sade : p.stopAtDocEnd = false

theorem nextImpl_statB {L : AliasLimits} {ob : Option Limits} {p : Pump} (h : StatB L ob p) (inp : List RawItem) :
    StatB L ob (nextImpl p inp).2.1 :=
  ⟨nextImpl_budgetInv (budgetInv_budStat ob) p inp h.bud, (nextImpl_rip p inp).trans h.rip,
    (nextImpl_limits p inp).trans h.lim, (nextImpl_sade p inp).trans h.sade⟩

theorem nextImpl_sade_eq {p p' : Pump} {inp inp' : List RawItem} {s : Step} (hn : nextImpl p inp = (s, p', inp')) :
    p'.stopAtDocEnd = p.stopAtDocEnd := by
  have := nextImpl_sade p inp
  rwa [hn] at this

theorem nextImpl_inDoc {L : AliasLimits} {ob : Option Limits} {R : List RawItem} {q q' : Pump} {inq inq' : List RawItem}
    {s : Step} (hst : StatB L ob q) (hJ : J R inq) (hn : nextImpl q inq = (s, q', inq')) (hR : R <:+ inq') :
    StatB L ob q' ∧ J R inq' := by
  have h1 := nextImpl_statB hst inq
  have h2 := nextImpl_suffix q inq
  rw [hn] at h1 h2
  exact ⟨h1, hJ.step h2 hR⟩

/-- the live cursor inside one document, for a pump with the optional per-document enforcer `ob`: it serves the
events `l` still to come of the CURRENT document and then is in a `Kp` state (nothing is said about what follows),
the remaining parser items being node items of the document followed by the rest `R` of the stream; either the
look-ahead slot is empty and the pump runs over `l`, or it holds the head of `l` -/
def LiveInvB (L : AliasLimits) (ob : Option Limits) (R : List RawItem) (Kp : Pump → List RawItem → Prop)
    (d : Cur) (l : List Ev) : Prop :=
  ∃ q inq, d = .live q inq ∧ StatB L ob q ∧ J R inq ∧
    ((q.look = none ∧ RunP Kp q inq l) ∨
     (∃ e l' q0, l = e :: l' ∧ q0.look = none ∧ q0.lastLoc = e.loc ∧ q = { q0 with look := some e } ∧
        RunP Kp q0 inq l'))

theorem liveInvB_step {L : AliasLimits} {ob : Option Limits} {R : List RawItem} {Kp : Pump → List RawItem → Prop}
    (hK : ∀ p inp, Kp p inp → inp = R) :
    ∀ d e l, LiveInvB L ob R Kp d (e :: l) →
      (∃ d1, d.peek = .ok (some e) d1 ∧ LiveInvB L ob R Kp d1 (e :: l)) ∧
      (∃ d2, d.next = .ok (some e) d2 ∧ LiveInvB L ob R Kp d2 l) := by
  rintro d e l ⟨q, inq, rfl, hst, hJ, h⟩
  rcases h with ⟨hl, hr⟩ | ⟨e', l', q0, hel, hl0, hloc, rfl, hr⟩
  · cases hr with
    | @ev _ _ _ q' inq' _ hn hr' =>
      obtain ⟨hst', hJ'⟩ := nextImpl_inDoc hst hJ hn (hr'.suffix hK)
      have hl' := nextImpl_look_none hl hn
      exact ⟨⟨_, live_peek hl hn, _, _, rfl, ⟨hst'.bud, hst'.rip, hst'.lim, hst'.sade⟩, hJ',
          .inr ⟨e, l, q', rfl, hl', (nextImpl_event hn).1, rfl, hr'⟩⟩,
        ⟨_, live_next hl hn, q', inq', rfl, hst', hJ', .inl ⟨hl', hr'⟩⟩⟩
  · cases hel
    have hst0 : StatB L ob q0 := ⟨hst.bud, hst.rip, hst.lim, hst.sade⟩
    exact ⟨⟨_, look_peek inq hloc, _, _, rfl, hst, hJ, .inr ⟨e, l, q0, rfl, hl0, hloc, rfl, hr⟩⟩,
      ⟨_, look_next inq hl0 hloc, q0, inq, rfl, hst0, hJ, .inl ⟨hl0, hr⟩⟩⟩

theorem liveInvB_nil {L : AliasLimits} {ob : Option Limits} {R : List RawItem} {Kp : Pump → List RawItem → Prop}
    {d : Cur} (h : LiveInvB L ob R Kp d []) : ∃ q inq, d = .live q inq ∧ StatB L ob q ∧ q.look = none ∧ Kp q inq := by
  obtain ⟨q, inq, rfl, hst, -, h⟩ := h
  rcases h with ⟨hl, hr⟩ | ⟨e', l', q0, hel, -⟩
  · cases hr with
    | done hk => exact ⟨q, inq, rfl, hst, hl, hk⟩
  · cases hel

end SaphyrVerif.Lemmas.C11B

