import SaphyrVerif.Lemmas.C18
/-! Helper lemmas for C18: the path recorder over an abstract traversal (`Visit` of `Model/PathMap.lean`: the shape of
what the Serde visitor asks for, not a run of the typed deserializer of `Model/De.lean`).  `RecPost` is the contract of one
recorder run; it is closed under the ways runs are put together (an entry inserted at the current path
before the run, `container`; a run one level down seen from above, `under` — the two make up entering a
segment, `step`; one run after another until the first failure, `seq`), so a single walk over the traversal
establishes it. -/
namespace SaphyrVerif.PathMap

variable {α : Type}

@[simp] theorem enter_current (r : Recorder α) (s : Seg) (loc : α) :
    (r.enter s loc).current = r.current ++ [s] := rfl
@[simp] theorem enter_map (r : Recorder α) (s : Seg) (loc : α) :
    (r.enter s loc).map = insert r.map (r.current ++ [s]) loc := rfl

theorem mem_remove {m : Map α} {p : Path} {e : Path × α} : e ∈ remove m p ↔ e ∈ m ∧ e.1 ≠ p := by
  unfold remove
  simp [List.mem_filter]

theorem mem_keys_remove {m : Map α} {p q : Path} :
    q ∈ (remove m p).map (·.1) ↔ q ∈ m.map (·.1) ∧ q ≠ p := by
  simp only [List.mem_map]
  constructor
  · rintro ⟨e, he, rfl⟩
    obtain ⟨h1, h2⟩ := mem_remove.mp he
    exact ⟨⟨e, h1, rfl⟩, h2⟩
  · rintro ⟨⟨e, he, rfl⟩, h2⟩
    exact ⟨e, mem_remove.mpr ⟨he, h2⟩, rfl⟩

theorem remove_keysNodup {m : Map α} (hm : KeysNodup m) (p : Path) : KeysNodup (remove m p) := by
  unfold KeysNodup remove at *
  exact List.Nodup.sublist (List.Sublist.map _ List.filter_sublist) hm

/-- what both loops do with one value under the segment `s`: enter, deserialize, put the current path back -/
def recordStep (s : Seg) (loc : α) (v : Visit α) (r : Recorder α) : Bool × Recorder α :=
  ((record v (r.enter s loc)).1, { (record v (r.enter s loc)).2 with current := r.current })

/-- one run after another, the second only if the first succeeded (the loops stop at the first `Err`) -/
def andRec (a b : Bool × Recorder α) : Bool × Recorder α := if a.1 then b else (false, a.2)

theorem recordItems_cons (loc : α) (v : Visit α) (rest : List (α × Visit α)) (idx : Nat) (r : Recorder α) :
    recordItems ((loc, v) :: rest) idx r =
      andRec (recordStep (idxSeg idx) loc v r) (recordItems rest (idx + 1) (recordStep (idxSeg idx) loc v r).2) := by
  rw [recordItems]
  rfl

theorem recordEntries_cons_some (seg : List Char) (loc : α) (v : Visit α)
    (rest : List (Option (List Char) × α × Visit α)) (r : Recorder α) :
    recordEntries ((some seg, loc, v) :: rest) r =
      andRec (recordStep (keySeg seg) loc v r) (recordEntries rest (recordStep (keySeg seg) loc v r).2) := by
  rw [recordEntries]
  rfl

theorem recordEntries_cons_none (loc : α) (v : Visit α) (rest : List (Option (List Char) × α × Visit α))
    (r : Recorder α) :
    recordEntries ((none, loc, v) :: rest) r = andRec (v.succeeds, r) (recordEntries rest r) := by
  rw [recordEntries]
  rfl

/-- the positions one value contributes under the segment `s` -/
def positionsStep (s : Seg) (loc : α) (v : Visit α) : List (Path × α) :=
  if v.isIgnored then [] else ([s], loc) :: (positions v).map (fun e => (s :: e.1, e.2))

theorem positionsItems_cons (loc : α) (v : Visit α) (rest : List (α × Visit α)) (idx : Nat) :
    positionsItems ((loc, v) :: rest) idx = positionsStep (idxSeg idx) loc v ++ positionsItems rest (idx + 1) := by
  rw [positionsItems]
  rfl

theorem positionsEntries_cons_some (seg : List Char) (loc : α) (v : Visit α)
    (rest : List (Option (List Char) × α × Visit α)) :
    positionsEntries ((some seg, loc, v) :: rest) = positionsStep (keySeg seg) loc v ++ positionsEntries rest := by
  rw [positionsEntries]
  rfl

/-- a path is not its own extension by a non-empty path: when `[]` is not among the ignored suffixes, no `p ++ q`
with `q` ignored is `p` itself (used for: the key entered last survives what follows) -/
theorem append_ne_of_nil_not_mem {ign : List Path} (h : [] ∉ ign) (p : Path) :
    ∀ q ∈ ign, p ≠ p ++ q := by
  intro q hq heq
  rw [List.self_eq_append_right.mp heq] at hq
  exact h hq

/-- what the recorder added: an entry is old, or sits at `current ++ q` for a position `q` of `ps` -/
def AddedFrom (ps : List (Path × α)) (r : Recorder α) (m : Map α) : Prop :=
  ∀ e ∈ m, e ∈ r.map ∨ ∃ q, e.1 = r.current ++ q ∧ (q, e.2) ∈ ps

theorem AddedFrom.refl (ps : List (Path × α)) (r : Recorder α) : AddedFrom ps r r.map :=
  fun _ he => Or.inl he

theorem AddedFrom.append {ps ps' : List (Path × α)} {r r' : Recorder α} {m : Map α}
    (h : AddedFrom ps r r'.map) (hc : r'.current = r.current) (h' : AddedFrom ps' r' m) :
    AddedFrom (ps ++ ps') r m := by
  intro e he
  rcases h' e he with h1 | ⟨q, h1, h2⟩
  · rcases h e h1 with h0 | ⟨q, h1, h2⟩
    · exact Or.inl h0
    · exact Or.inr ⟨q, h1, List.mem_append_left _ h2⟩
  · exact Or.inr ⟨q, hc ▸ h1, List.mem_append_right _ h2⟩

/-- What a run `res` of the recorder started at `r` guarantees, when the part of the traversal it covers
consumes the positions `ps`, hands the values at the paths `ign` to `IgnoredAny` and succeeds iff `ok`
(all paths relative to `r.current`). -/
structure RecPost (ps : List (Path × α)) (ign : List Path) (ok : Bool) (r : Recorder α)
    (res : Bool × Recorder α) : Prop where
  fst : res.1 = ok
  current : res.2.current = r.current
  nodup : KeysNodup r.map → KeysNodup res.2.map
  added : AddedFrom ps r res.2.map
  /-- a key survives unless it is the path of an ignored value -/
  keeps : ∀ p, p ∈ r.map.map (·.1) → (∀ q ∈ ign, p ≠ r.current ++ q) → p ∈ res.2.map.map (·.1)
  /-- on success a consumed position has its key in the map, if that path is not also an ignored one -/
  complete : res.1 = true → ∀ q ∈ ps.map (·.1), q ∉ ign → r.current ++ q ∈ res.2.map.map (·.1)

theorem RecPost.skip (ok : Bool) (r : Recorder α) : RecPost [] [] ok r (ok, r) :=
  ⟨rfl, rfl, id, .refl _ r, fun _ h _ => h, fun _ _ h => nomatch h⟩

/-- one run after another (`h2` is used only if the first run succeeds) -/
theorem RecPost.seq {ps ps' : List (Path × α)} {ign ign' : List Path} {ok ok' : Bool} {r : Recorder α}
    {a b : Bool × Recorder α} (h1 : RecPost ps ign ok r a) (h2 : RecPost ps' ign' ok' a.2 b) :
    RecPost (ps ++ ps') (ign ++ ign') (ok && ok') r (andRec a b) := by
  have keeps1 : ∀ p, p ∈ r.map.map (·.1) → (∀ q ∈ ign ++ ign', p ≠ r.current ++ q) → p ∈ a.2.map.map (·.1) :=
    fun p hp hq => h1.keeps p hp fun q hq' => hq q (List.mem_append_left _ hq')
  unfold andRec
  cases ha : a.1 with
  | false =>
    rw [if_neg Bool.false_ne_true]
    exact ⟨by rw [← h1.fst, ha]; rfl, h1.current, h1.nodup, h1.added.append h1.current (.refl _ _), keeps1,
      fun h => nomatch h⟩
  | true =>
    rw [if_pos rfl]
    have keeps2 : ∀ p, p ∈ a.2.map.map (·.1) → (∀ q ∈ ign', p ≠ r.current ++ q) → p ∈ b.2.map.map (·.1) :=
      fun p hp hq => h2.keeps p hp (h1.current ▸ hq)
    refine ⟨by rw [← h1.fst, ha, h2.fst]; rfl, h2.current.trans h1.current, fun h => h2.nodup (h1.nodup h),
      h1.added.append h1.current h2.added,
      fun p hp hq => keeps2 p (keeps1 p hp hq) fun q hq' => hq q (List.mem_append_right _ hq'), ?_⟩
    intro hb q hq hi
    rw [List.mem_append, not_or] at hi
    rw [List.map_append, List.mem_append] at hq
    rcases hq with hq | hq
    · -- recorded by the first run; the second forgets only the paths it ignores
      exact keeps2 _ (h1.complete ha q hq hi.1) fun q' hq' heq => hi.2 (List.append_cancel_left heq ▸ hq')
    · exact h1.current ▸ h2.complete hb q hq hi.2

/-- the container's own entry, inserted before its entries are read -/
theorem RecPost.container {ps : List (Path × α)} {ign : List Path} {ok : Bool} {r : Recorder α} {c : α}
    {res : Bool × Recorder α} (h : RecPost ps ign ok { r with map := insert r.map r.current c } res) :
    RecPost (([], c) :: ps) ign ok r res := by
  refine ⟨h.fst, h.current, fun hm => h.nodup (insert_keysNodup hm _ _), ?_,
    fun p hp hq => h.keeps p (mem_keys_insert hp) hq, ?_⟩
  · intro e he
    rcases h.added e he with h1 | ⟨q, e1, e2⟩
    · rcases mem_insert h1 with h1 | h1
      · exact Or.inl h1
      · exact Or.inr ⟨[], by rw [h1, List.append_nil], by rw [h1]; exact List.mem_cons_self⟩
    · exact Or.inr ⟨q, e1, List.mem_cons_of_mem _ e2⟩
  · intro hok q hq hi
    rw [List.map_cons, List.mem_cons] at hq
    rcases hq with rfl | hq
    · rw [List.append_nil]
      exact h.keeps _ (self_mem_keys_insert _ _ _) (append_ne_of_nil_not_mem hi _)
    · exact h.complete hok q hq hi

theorem positions_of_ignored {v : Visit α} (h : v.isIgnored = true) : positions v = [] := by
  cases v <;> simp [Visit.isIgnored] at h
  simp [positions]

theorem ignored_removes {v : Visit α} (h : v.isIgnored = true) (r : Recorder α) :
    ∀ e ∈ (record v r).2.map, e.1 ≠ r.current := by
  cases v <;> simp [Visit.isIgnored] at h
  intro e he
  simp only [record] at he
  exact (mem_remove.mp he).2

theorem RecPost.under {ps : List (Path × α)} {ign : List Path} {ok : Bool} {r : Recorder α} {s : Seg}
    {res : Bool × Recorder α} (h : RecPost ps ign ok { r with current := r.current ++ [s] } res) :
    RecPost (ps.map fun e => (s :: e.1, e.2)) (ign.map (s :: ·)) ok r (res.1, { res.2 with current := r.current }) := by
  have app : ∀ q, (r.current ++ [s]) ++ q = r.current ++ s :: q := fun q => List.append_assoc _ [s] q
  refine ⟨h.fst, rfl, h.nodup, ?_, ?_, ?_⟩
  · intro e he
    rcases h.added e he with h1 | ⟨q, h1, h2⟩
    · exact Or.inl h1
    · exact Or.inr ⟨s :: q, h1.trans (app q), List.mem_map.mpr ⟨(q, e.2), h2, rfl⟩⟩
  · intro p hp hq
    exact h.keeps p hp fun q hq' heq => hq (s :: q) (List.mem_map_of_mem hq') (heq.trans (app q))
  · intro hok q hq hi
    rw [List.map_map] at hq
    obtain ⟨e, he, rfl⟩ := List.mem_map.mp hq
    exact app e.1 ▸ h.complete hok e.1 (List.mem_map_of_mem he) fun h' => hi (List.mem_map_of_mem h')

/-- entering a segment is the container's insertion one level down -/
theorem RecPost.step {s : Seg} {loc : α} {v : Visit α} {r : Recorder α}
    (h : RecPost (positions v) (ignoredAt v) v.succeeds (r.enter s loc) (record v (r.enter s loc))) :
    RecPost (positionsStep s loc v) ((ignoredAt v).map (s :: ·)) v.succeeds r (recordStep s loc v r) := by
  have hu : RecPost (([s], loc) :: (positions v).map fun e => (s :: e.1, e.2)) ((ignoredAt v).map (s :: ·))
      v.succeeds r (recordStep s loc v r) :=
    (h.container (r := { r with current := r.current ++ [s] })).under
  unfold positionsStep
  split
  · next hv =>
    -- an ignored value has no positions, and what was entered for it is forgotten again
    rw [positions_of_ignored hv] at hu
    refine ⟨hu.fst, hu.current, hu.nodup, fun e he => Or.inl ?_, hu.keeps, fun _ _ h => nomatch h⟩
    rcases hu.added e he with h1 | ⟨q, h1, h2⟩
    · exact h1
    · cases List.mem_singleton.mp h2
      exact absurd h1 (ignored_removes hv _ e he)
  · exact hu

mutual
theorem record_post : ∀ (v : Visit α) (r : Recorder α), RecPost (positions v) (ignoredAt v) v.succeeds r (record v r)
  | .leaf ok, r => by rw [record, positions, ignoredAt, Visit.succeeds]; exact .skip ok r
  | .seq items, r => by rw [record, positions, ignoredAt, Visit.succeeds]; exact recordItems_post items 0 r
  | .map c es, r => by rw [record, positions, ignoredAt, Visit.succeeds]; exact (recordEntries_post es _).container
  | .ignored w, r => by
    rw [record, positions, ignoredAt, Visit.succeeds]
    exact ⟨rfl, rfl, fun h => remove_keysNodup h _, fun e he => Or.inl (mem_remove.mp he).1,
      fun p hp hq => mem_keys_remove.mpr ⟨hp, fun e => hq [] List.mem_cons_self (e.trans (List.append_nil _).symm)⟩,
      fun _ _ h => nomatch h⟩
termination_by structural v => v
theorem recordItems_post : ∀ (items : List (α × Visit α)) (idx : Nat) (r : Recorder α),
    RecPost (positionsItems items idx) (ignoredItems items idx) (Visit.succeeds.succeedsItems items) r
      (recordItems items idx r)
  | [], _, r => by rw [recordItems, positionsItems, ignoredItems, Visit.succeeds.succeedsItems]; exact .skip true r
  | (loc, v) :: rest, idx, r => by
    rw [recordItems_cons, positionsItems_cons, ignoredItems, Visit.succeeds.succeedsItems]
    exact (record_post v _).step.seq (recordItems_post rest (idx + 1) _)
termination_by structural items => items
theorem recordEntries_post : ∀ (es : List (Option (List Char) × α × Visit α)) (r : Recorder α),
    RecPost (positionsEntries es) (ignoredEntries es) (Visit.succeeds.succeedsEntries es) r (recordEntries es r)
  | [], r => by rw [recordEntries, positionsEntries, ignoredEntries, Visit.succeeds.succeedsEntries]; exact .skip true r
  | (none, _, v) :: rest, r => by
    rw [recordEntries_cons_none, positionsEntries, ignoredEntries, Visit.succeeds.succeedsEntries]
    exact (RecPost.skip v.succeeds r).seq (recordEntries_post rest r)
  | (some seg, loc, v) :: rest, r => by
    rw [recordEntries_cons_some, positionsEntries_cons_some, ignoredEntries, Visit.succeeds.succeedsEntries]
    exact (record_post v _).step.seq (recordEntries_post rest _)
termination_by structural es => es
end

theorem recordItems_fst :
    ∀ (items : List (α × Visit α)) (idx : Nat) (r : Recorder α),
      (recordItems items idx r).1 = Visit.succeeds.succeedsItems items :=
  fun items idx r => (recordItems_post items idx r).fst

theorem recordEntries_fst :
    ∀ (es : List (Option (List Char) × α × Visit α)) (r : Recorder α),
      (recordEntries es r).1 = Visit.succeeds.succeedsEntries es :=
  fun es r => (recordEntries_post es r).fst

theorem recordItems_added :
    ∀ (items : List (α × Visit α)) (idx : Nat) (r : Recorder α),
      AddedFrom (positionsItems items idx) r (recordItems items idx r).2.map :=
  fun items idx r => (recordItems_post items idx r).added

theorem recordEntries_added :
    ∀ (es : List (Option (List Char) × α × Visit α)) (r : Recorder α),
      AddedFrom (positionsEntries es) r (recordEntries es r).2.map :=
  fun es r => (recordEntries_post es r).added

theorem recordItems_keysNodup : ∀ (items : List (α × Visit α)) (idx : Nat) (r : Recorder α),
    KeysNodup r.map → KeysNodup (recordItems items idx r).2.map :=
  fun items idx r => (recordItems_post items idx r).nodup

theorem recordEntries_keysNodup : ∀ (es : List (Option (List Char) × α × Visit α)) (r : Recorder α),
    KeysNodup r.map → KeysNodup (recordEntries es r).2.map :=
  fun es r => (recordEntries_post es r).nodup

theorem recordEntries_complete : ∀ (es : List (Option (List Char) × α × Visit α)) (r : Recorder α),
    (recordEntries es r).1 = true →
    (∀ q ∈ (positionsEntries es).map (·.1), q ∉ ignoredEntries es) →
    ∀ q ∈ (positionsEntries es).map (·.1), r.current ++ q ∈ (recordEntries es r).2.map.map (·.1) :=
  fun es r hok hdis q hq => (recordEntries_post es r).complete hok q hq (hdis q hq)

end SaphyrVerif.PathMap
