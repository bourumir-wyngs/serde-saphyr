import SaphyrVerif.Lemmas.C05_Spec
import SaphyrVerif.Lemmas.C03_Collect
import SaphyrVerif.Lemmas.C05_Mono
/-!
C05: key capture, value skipping and merge-value expansion on a replay cursor inside a larger buffer, from the
lemmas of C03 / C04.
-/
namespace SaphyrVerif.Lemmas.C05
open SaphyrVerif SaphyrVerif.Scalars SaphyrVerif.Pump SaphyrVerif.De SaphyrVerif.Spec

theorem capture_drop {buf : List Ev} {i : Nat} {t : ENode} {rest : List Ev} (ref : Option Loc)
    (h : buf.drop i = eflatten t ++ rest) :
    Evt fun fuel =>
      capture fuel (.replay buf i ref) = .ok ⟨fpOf t, eflatten t, t.loc⟩ (.replay buf (i + (eflatten t).length) ref) :=
  ⟨_, fun _ hf => C04.capture_exact_drop t ref h hf⟩

theorem skip_drop {buf : List Ev} {i : Nat} {t : ENode} {rest : List Ev} (ref : Option Loc)
    (h : buf.drop i = eflatten t ++ rest) :
    Evt fun fuel =>
      skipOneNode fuel (.replay buf i ref) = .ok () (.replay buf (i + (eflatten t).length) ref) :=
  ⟨_, fun _ hf => C04.skipOneNode_exact_drop t ref h hf⟩

/-- the entries recorded do not depend on the fuel: `∃ ps` stands outside `Evt` -/
theorem pendingFromLive_spec (src : ENode) {buf : List Ev} {i : Nat} (ref : Option Loc) (mref : Loc) {rest : List Ev}
    (h : buf.drop i = eflatten src ++ rest) :
    match sourceEntries src with
    | some es => ∃ ps, PRel ps es ∧ Evt fun fuel =>
        pendingFromLive fuel (.replay buf i ref) mref = .ok ps (.replay buf (i + (eflatten src).length) ref)
    | none => Evt fun fuel => IsErr (pendingFromLive fuel (.replay buf i ref) mref) := by
  have hall := fun fuel => (C03.all_ok fuel).2.1 src buf i rest ref mref h
  cases hs : sourceEntries src with
  | some es =>
    obtain ⟨ps, hps, hrel⟩ := (hall _ (Nat.le_refl (2 * (eflatten src).length + 1))).1 es hs
    exact ⟨ps, hrel, _, fun fuel hf => pendingFromLive_mono_le hf hps⟩
  | none => exact ⟨_, fun fuel hf => (hall fuel hf).2 hs⟩

end SaphyrVerif.Lemmas.C05
