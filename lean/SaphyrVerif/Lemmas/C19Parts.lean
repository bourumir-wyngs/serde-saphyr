import SaphyrVerif.Spec.Robotics
/-!
C19: the two long functions of the evaluator model, `try_parse_sexagesimal` and `parse_ident_or_special`,
cut into named pieces (`trySexagesimal_eq`, `parseIdentOrSpecial_eq`), and the sequence shared by a
parenthesis and a unit function call (`bracket`: `enter`, the recursive `expr`, `exit`, white space, `)`);
the end of `evalExpr` as the tag rule of the specification (`evalExpr_eq`).
The lemmas of the other `C19*` files are stated per piece.
-/
namespace SaphyrVerif.Lemmas.C19
open SaphyrVerif SaphyrVerif.F64 SaphyrVerif.Robotics SaphyrVerif.Spec.Robotics

theorem bind_ok {α β} {r : Res α} {g : α → Res β} {b : β} (h : r.bind g = .ok b) :
    ∃ a, r = .ok a ∧ g a = .ok b := by
  cases r with
  | ok a => exact ⟨a, rfl, h⟩
  | err e d => cases h
  | panic s => cases h
  | fuel => cases h

theorem Res.ok_bind {α β} (a : α) (g : α → Res β) : (Res.ok a).bind g = g a := rfl
theorem lift_ok_eq {α} (d : Nat) (a : α) : HRes.lift d (HRes.ok a) = Res.ok a := rfl

theorem hlift_ok {α} {d : Nat} {r : HRes α} {a : α} (h : HRes.lift d r = .ok a) : r = .ok a := by
  cases r with
  | ok b => cases h; rfl
  | err e => cases h
  | panic s => cases h

theorem parsePlain_cases (f : Fmt) (s : List Char) : (∃ v, parsePlain f s = .ok v) ∨ parsePlain f s = .invalid := by
  unfold parsePlain
  simp only []
  split
  · exact Or.inl ⟨_, rfl⟩
  · split
    · exact Or.inl ⟨_, rfl⟩
    · split
      · exact Or.inl ⟨_, rfl⟩
      · split
        · exact Or.inl ⟨_, rfl⟩
        · exact Or.inr rfl

theorem enter_ok {st st1 : St} (h : St.enter st = .ok st1) :
    st1 = { st with depth := st.depth + 1 } ∧ st.depth < MAX_EXPR_DEPTH := by
  unfold St.enter at h
  split at h
  · cases h
  · split at h
    · cases h
    · rename_i h1 _
      cases h
      exact ⟨rfl, by omega⟩

def closeParen (e : RErr) (ev : Eval) (st : St) : Res (Eval × St) :=
  match st.rest with
  | 41 :: r' => .ok (ev, st.adv 41 r')
  | c :: r' => (st.adv c r').err e
  | [] => st.err e

/-- `enter`, the recursive `expr`, `exit`, white space, `)`; `restore` puts the sexagesimal mode back and
`f` is applied to the value of the argument -/
def bracket (E : St → Res (Eval × St)) (restore : St → St) (f : Eval → Eval) (e : RErr) (st : St) :
    Res (Eval × St) :=
  (St.enter st).bind fun st1 =>
  (exitAfter (E st1)).bind fun x => closeParen e (f x.1) (restore x.2).skipWs

theorem primary_paren (tag : Nat) (E : St → Res (Eval × St)) (st0 : St) (r : List Nat)
    (h : st0.skipWs.rest = 40 :: r) :
    primary tag E st0 = bracket E id id .expectedRParen (st0.skipWs.adv 40 r) := by
  unfold primary
  simp only [h]
  rfl

/-- what `deg(..)` / `rad(..)` make of the evaluation of their argument -/
def unitVal (isDeg : Bool) (ev : Eval) : Eval := (if isDeg then mul F ev.1 DEG2RAD else ev.1, true, false)

/-- `deg` / `rad` behind the identifier: white space, `(`, the argument in angle mode, `)` -/
def unitCall (E : St → Res (Eval × St)) (isDeg : Bool) (st1 : St) : Res (Eval × St) :=
  let st2 := st1.skipWs
  match st2.rest with
  | 40 :: r =>
    bracket E (fun s => { s with sexTime := st2.sexTime }) (unitVal isDeg) .expectedRParenFn
      { st2.adv 40 r with sexTime := false }
  | c :: r => (st2.adv c r).err .expectedLParenFn
  | [] => st2.err .expectedLParenFn

/-- `parse_ident_or_special` behind the identifier scan: `ident` is the identifier in lower case -/
def identTail (E : St → Res (Eval × St)) (ident : List Nat) (st1 : St) : Res (Eval × St) :=
  if ident == [112, 105] then .ok ((PI, false, true), st1)
  else if ident == [116, 97, 117] then .ok ((mul F TWO PI, false, true), st1)
  else if ident == [105, 110, 102] then .ok ((.inf false, false, true), st1)
  else if ident == [110, 97, 110] then .ok ((.nan, false, true), st1)
  else if ident == [100, 101, 103] || ident == [114, 97, 100] then unitCall E (ident == [100, 101, 103]) st1
  else st1.err .unknownIdent

theorem identTail_cases (E : St → Res (Eval × St)) (ident : List Nat) (st1 : St) :
    (∃ c : Const, ident = c.name ∧ identTail E ident st1 = .ok ((c.value, false, true), st1)) ∨
    (∃ isDeg : Bool, ident = (if isDeg then [100, 101, 103] else [114, 97, 100]) ∧
      identTail E ident st1 = unitCall E isDeg st1) ∨
    identTail E ident st1 = st1.err .unknownIdent := by
  unfold identTail
  by_cases h1 : (ident == [112, 105]) = true
  · rw [if_pos h1]; exact Or.inl ⟨.pi, eq_of_beq h1, rfl⟩
  rw [if_neg h1]
  by_cases h2 : (ident == [116, 97, 117]) = true
  · rw [if_pos h2]; exact Or.inl ⟨.tau, eq_of_beq h2, rfl⟩
  rw [if_neg h2]
  by_cases h3 : (ident == [105, 110, 102]) = true
  · rw [if_pos h3]; exact Or.inl ⟨.inf, eq_of_beq h3, rfl⟩
  rw [if_neg h3]
  by_cases h4 : (ident == [110, 97, 110]) = true
  · rw [if_pos h4]; exact Or.inl ⟨.nan, eq_of_beq h4, rfl⟩
  rw [if_neg h4]
  by_cases hd : (ident == [100, 101, 103]) = true
  · rw [if_pos (by rw [hd]; rfl), hd]; exact Or.inr (Or.inl ⟨true, eq_of_beq hd, rfl⟩)
  have hd' : (ident == [100, 101, 103]) = false := by simpa using hd
  rw [hd', Bool.false_or]
  by_cases hr : (ident == [114, 97, 100]) = true
  · rw [if_pos hr]; exact Or.inr (Or.inl ⟨false, eq_of_beq hr, rfl⟩)
  · rw [if_neg hr]; exact Or.inr (Or.inr rfl)

theorem identTail_const (E : St → Res (Eval × St)) (c : Const) (st1 : St) :
    identTail E c.name st1 = .ok ((c.value, false, true), st1) := by
  cases c <;> rfl

theorem identTail_unit (E : St → Res (Eval × St)) (isDeg : Bool) (st1 : St) :
    identTail E (if isDeg then [100, 101, 103] else [114, 97, 100]) st1 = unitCall E isDeg st1 := by
  cases isDeg <;> rfl

theorem parseIdentOrSpecial_eq (E : St → Res (Eval × St)) (st : St) :
    parseIdentOrSpecial E st =
      if !(boundaryAhead st.rest 0 && boundaryAhead (identLoop st.pre st.rest []).2.1 0) then .panic .strSlice
      else identTail E ((identLoop st.pre st.rest []).2.2.reverse.map lowerByte)
        { st with pre := (identLoop st.pre st.rest []).1, rest := (identLoop st.pre st.rest []).2.1 } := by
  unfold parseIdentOrSpecial identTail unitCall
  simp only []
  generalize identLoop st.pre st.rest [] = il
  generalize hb : (il.2.2.reverse.map lowerByte == [100, 101, 103]) = b
  cases b <;> rfl

/-- the end of `try_parse_sexagesimal`: the digit cap, degrees or seconds by mode and tag; `x` = (pre, rest, seconds, digits) -/
def sexaFinish (tag : Nat) (st : St) (degWhole : Fl) (minsU : Nat) (x : List Nat × List Nat × Fl × Nat) :
    Res (Option (Eval × St)) :=
  if MAX_NUM_DIGITS < x.2.2.2 then st.err .tooManyDigitsSexa
  else
    let stE : St := { st with pre := x.1, rest := x.2.1 }
    let degrees := add F (add F degWhole (div F (ofNat F minsU) SIXTY)) (div F x.2.2.1 C3600)
    let seconds := add F (add F (mul F degWhole C3600) (mul F (ofNat F minsU) SIXTY)) x.2.2.1
    if st.sexTime then
      if tag == TAG_DEGREES || tag == TAG_RADIANS then .ok (some ((mul F degrees DEG2RAD, true, false), stE))
      else .ok (some ((seconds, true, false), stE))
    else if tag == TAG_TIMESTAMP then .ok (some ((seconds, true, false), stE))
    else .ok (some ((degrees, true, false), stE))

/-- what `D:M:S` denotes: degrees `D + M/60 + S/3600` or seconds `D·3600 + M·60 + S`, by mode and tag -/
def sexaValue (tag : Nat) (tm : Bool) (degWhole : Fl) (minsU : Nat) (secs : Fl) : Fl :=
  let degrees := add F (add F degWhole (div F (ofNat F minsU) SIXTY)) (div F secs C3600)
  let seconds := add F (add F (mul F degWhole C3600) (mul F (ofNat F minsU) SIXTY)) secs
  if tm then
    if tag == TAG_DEGREES || tag == TAG_RADIANS then mul F degrees DEG2RAD else seconds
  else if tag == TAG_TIMESTAMP then seconds else degrees

theorem sexaFinish_eq (tag : Nat) (st : St) (degWhole : Fl) (minsU : Nat) (x : List Nat × List Nat × Fl × Nat) :
    sexaFinish tag st degWhole minsU x =
      if MAX_NUM_DIGITS < x.2.2.2 then st.err .tooManyDigitsSexa
      else .ok (some ((sexaValue tag st.sexTime degWhole minsU x.2.2.1, true, false),
        { st with pre := x.1, rest := x.2.1 })) := by
  unfold sexaFinish sexaValue
  split
  · rfl
  · split <;> split <;> rfl

theorem sexaFinish_ok {tag : Nat} {st : St} {degWhole : Fl} {minsU : Nat} {x : List Nat × List Nat × Fl × Nat}
    {o : Option (Eval × St)} (h : sexaFinish tag st degWhole minsU x = .ok o) :
    o = some ((sexaValue tag st.sexTime degWhole minsU x.2.2.1, true, false), { st with pre := x.1, rest := x.2.1 }) := by
  rw [sexaFinish_eq] at h
  split at h
  · cases h
  · cases h; rfl

/-- the optional `:ss[.frac]` behind the minutes; `d12` = digits read so far -/
def sexaSecs (st : St) (d12 : Nat) (pre2 rest2 : List Nat) : Res (List Nat × List Nat × Fl × Nat) :=
  match rest2 with
  | 58 :: rest2' =>
    (HRes.lift st.depth (readU32 (58 :: pre2) rest2')).bind fun x =>
    if 59 < x.2.2.1 then st.err .secondsRange
    else
      match x.2.1 with
      | 46 :: rest3' =>
        (HRes.lift st.depth (readFrac (46 :: x.1) rest3' (zero F false) ONE 0 false)).bind fun y =>
          .ok (y.1, y.2.1, add F (ofNat F x.2.2.1) y.2.2.1, d12 + x.2.2.2 + y.2.2.2)
      | _ => .ok (x.1, x.2.1, ofNat F x.2.2.1, d12 + x.2.2.2)
  | _ => .ok (pre2, rest2, zero F false, d12)

/-- behind `D:` -/
def sexaMins (tag : Nat) (st : St) (pre1 rest1' : List Nat) (degWhole : Fl) (d1 : Nat) :
    Res (Option (Eval × St)) :=
  (HRes.lift st.depth (readU32 (58 :: pre1) rest1')).bind fun x =>
  if 59 < x.2.2.1 then st.err .minutesRange
  else (sexaSecs st (d1 + x.2.2.2) x.1 x.2.1).bind (sexaFinish tag st degWhole x.2.2.1)

theorem sexaMins_some {tag : Nat} {st : St} {pre1 rest1' : List Nat} {degWhole : Fl} {d1 : Nat} {o : Option (Eval × St)}
    (h : sexaMins tag st pre1 rest1' degWhole d1 = .ok o) : o ≠ none := by
  obtain ⟨x, _, h⟩ := bind_ok h
  split at h
  · cases h
  · obtain ⟨y, _, h⟩ := bind_ok h
    rw [sexaFinish_ok h]
    exact Option.some_ne_none _

theorem trySexagesimal_eq (tag : Nat) (st : St) :
    trySexagesimal tag st =
      if !(sexaLook st.rest false false).1 || (sexaLook st.rest false false).2.1 then .ok none
      else if (sexaLook st.rest false false).2.2 != some 58 then .ok none
      else
        (HRes.lift st.depth (readUint st.pre st.rest (zero F false) 0 false)).bind fun x =>
        match x.2.1 with
        | 58 :: rest1' => sexaMins tag st x.1 rest1' x.2.2.1 x.2.2.2
        | _ => .ok none :=
  rfl

/-- the end of `evalExpr`: behind the expression only white space may follow, and the tag rule (`topValue`) finishes -/
def evalFinish (tag : Nat) (x : Eval × St) : Res Fl :=
  if !x.2.skipWs.rest.isEmpty then x.2.skipWs.err .trailing
  else match topValue tag x.1 with
    | some v => .ok v
    | none => x.2.skipWs.err .ambiguousMix

theorem evalExpr_eq (tag : Nat) (s : List Nat) :
    evalExpr tag s =
      (expr tag (s.length + 1) (MAX_EXPR_DEPTH + 1) (St.skipWs ⟨[], s, 0, true⟩)).bind (evalFinish tag) := by
  unfold evalExpr
  simp only []
  congr 1
  funext ⟨⟨v, used, plain⟩, st1⟩
  simp only [evalFinish, topValue]
  split
  · rfl
  · cases used <;> cases plain <;> by_cases ht : tag = TAG_DEGREES <;> simp [ht]

end SaphyrVerif.Lemmas.C19
