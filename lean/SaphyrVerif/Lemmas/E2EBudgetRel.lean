import SaphyrVerif.Lemmas.E2EBudget
import Lean.Elab.Tactic
/-!
End-to-end composition with the budget enforcer (cursor level): the relation `BR` between the result of
an operation on a live cursor WITH a budget enforcer and the result of the same operation on the cursor
WITHOUT it (`strip`): same answer and the same successor cursor up to the enforcer, or the budgeted side
reports a breach.  Parametrised by an invariant of the budgeted cursor and by whether a breach may happen at
all, so that the same pass over the typed deserializer yields both "a budget can only reject" (`Inv` = the
synthesized-null invariant, breaches allowed) and "within the limits the budget is invisible" (`Inv` = the
enforcer accepts everything that is still to come, no breach).
-/
namespace SaphyrVerif.Lemmas.E2EBudget
set_option linter.unusedSimpArgs false
open SaphyrVerif SaphyrVerif.Scalars SaphyrVerif.Pump SaphyrVerif.Budget SaphyrVerif.De

/-- the cursor without the budget enforcer of its pump -/
def strip : Cur → Cur
  | .live p inp => .live (stripP p) inp
  | .replay b i r => .replay b i r

@[simp] theorem strip_lastLoc (c : Cur) : (strip c).lastLoc = c.lastLoc := by cases c <;> rfl
@[simp] theorem strip_refLoc (c : Cur) : (strip c).refLoc = c.refLoc := by cases c <;> rfl
@[simp] theorem strip_atAlias (c : Cur) : (strip c).atAlias = c.atAlias := by cases c <;> rfl
@[simp] theorem strip_tagUseSite (c : Cur) (l : Loc) : tagUseSite (strip c) l = tagUseSite c l := by simp [tagUseSite]
@[simp] theorem strip_eofErr (c : Cur) : eofErr (strip c) = eofErr c := by simp [eofErr]
@[simp] theorem strip_replay (b : List Ev) (i : Nat) (r : Option Loc) : strip (.replay b i r) = .replay b i r := rfl

/-- the error kinds a budget breach can surface as: `Error::Budget`, or — when the breach is reported while
an alias is replayed inside a sequence element / mapping value / enum payload — the `AliasError` that
`attach_alias_locations_if_missing` wraps it into -/
def budgetish (e : DErr) : Prop := e.kind = "Budget" ∨ e.kind = "AliasError"

theorem budgetish_attach {e : DErr} (h : budgetish e) (ref defined : Loc) : budgetish (attachAlias e ref defined) := by
  unfold attachAlias
  split
  · exact h
  · split
    · exact .inr rfl
    · split
      · exact h
      · exact h

theorem budgetish_ite {e : DErr} (h : budgetish e) (b : Bool) (ref defined : Loc) :
    budgetish (if b then e else attachAlias e ref defined) := by
  cases b
  · exact budgetish_attach h ref defined
  · exact h

theorem budgetish_ofPErr (b : Breach) (l : Loc) : budgetish (ofPErr (.budget b l)) := .inl rfl

/-- the pump of the cursor did not synthesize the null of an empty stream -/
def noSyn : Cur → Prop
  | .live p _ => p.synthesizedNull = false
  | .replay .. => True

/-- parameters of the comparison: the invariant of the budgeted cursor, and whether breaches may occur -/
structure BP where
  Inv : Cur → Prop
  ab : Prop

/-- budgeted result versus budget-free result -/
inductive BR (P : BP) {α : Type} : R α → R α → Prop
  | ok {a : α} {d : Cur} : P.Inv d → BR P (.ok a d) (.ok a (strip d))
  | err {e : DErr} {d : Cur} : BR P (.err e d) (.err e (strip d))
  | breach {e : DErr} {d : Cur} {y : R α} : P.ab → budgetish e → noSyn d → BR P (.err e d) y

theorem BR.fwd_ok {P : BP} {α : Type} {x y : R α} {a : α} {d : Cur} (heq : x = .ok a d) (h : BR P x y) :
    y = .ok a (strip d) ∧ P.Inv d := by
  cases h with
  | ok hi => cases heq; exact ⟨rfl, hi⟩
  | err => cases heq
  | breach => cases heq

theorem BR.fwd_err {P : BP} {α : Type} {x y : R α} {e : DErr} {d : Cur} (heq : x = .err e d) (h : BR P x y) :
    y = .err e (strip d) ∨ (P.ab ∧ budgetish e ∧ noSyn d) := by
  cases h with
  | ok hi => cases heq
  | err => cases heq; exact .inl rfl
  | breach hab hb hns => cases heq; exact .inr ⟨hab, hb, hns⟩

def Closed (P : BP) : Prop := ∀ c, P.Inv c → BR P c.peek (strip c).peek ∧ BR P c.next (strip c).next

theorem Closed.peek_cases {P : BP} (hcl : Closed P) {c : Cur} (h : P.Inv c) :
    (∃ o d, c.peek = .ok o d ∧ (strip c).peek = .ok o (strip d) ∧ P.Inv d) ∨
    (∃ e d, c.peek = .err e d ∧ (strip c).peek = .err e (strip d)) ∨
    (∃ e d, c.peek = .err e d ∧ P.ab ∧ budgetish e ∧ noSyn d) := by
  have hx := (hcl c h).1
  revert hx
  generalize c.peek = x
  generalize (strip c).peek = y
  intro hx
  cases hx with
  | ok hi => exact .inl ⟨_, _, rfl, rfl, hi⟩
  | err => exact .inr (.inl ⟨_, _, rfl, rfl⟩)
  | breach hab hb hns => exact .inr (.inr ⟨_, _, rfl, hab, hb, hns⟩)

theorem Closed.next_cases {P : BP} (hcl : Closed P) {c : Cur} (h : P.Inv c) :
    (∃ o d, c.next = .ok o d ∧ (strip c).next = .ok o (strip d) ∧ P.Inv d) ∨
    (∃ e d, c.next = .err e d ∧ (strip c).next = .err e (strip d)) ∨
    (∃ e d, c.next = .err e d ∧ P.ab ∧ budgetish e ∧ noSyn d) := by
  have hx := (hcl c h).2
  revert hx
  generalize c.next = x
  generalize (strip c).next = y
  intro hx
  cases hx with
  | ok hi => exact .inl ⟨_, _, rfl, rfl, hi⟩
  | err => exact .inr (.inl ⟨_, _, rfl, rfl⟩)
  | breach hab hb hns => exact .inr (.inr ⟨_, _, rfl, hab, hb, hns⟩)

/-- the synthesized-null invariant of a live cursor -/
def InvJ : Cur → Prop
  | .live p inp => J p inp
  | .replay .. => True

/-- "a budget can only reject": every cursor whose pump satisfies `J`, breaches allowed -/
def P1 : BP := ⟨InvJ, True⟩

theorem next_strip {p : Pump} {inp : List RawItem} {s : Step} {p' : Pump} {rest : List RawItem}
    (hJ : J p inp) (h : Pump.next p inp = (s, p', rest)) :
    J p' rest ∧ (Pump.next (stripP p) inp = (s, stripP p', rest) ∨ (IsBreach s ∧ p'.synthesizedNull = false)) := by
  unfold Pump.next at h ⊢
  cases hl : p.look with
  | some ev =>
    rw [hl] at h
    simp only [Prod.mk.injEq] at h
    obtain ⟨rfl, rfl, rfl⟩ := h
    exact ⟨hJ, .inl (by simp [hl])⟩
  | none =>
    rw [hl] at h
    simp only at h
    obtain ⟨hJ', hb⟩ := nextImpl_J hJ h
    refine ⟨hJ', ?_⟩
    rcases nextImpl_strip p inp h with h1 | ⟨hbr, -⟩
    · exact .inl (by simp [hl, h1])
    · exact .inr ⟨hbr, hb hbr⟩

theorem peek_strip {p : Pump} {inp : List RawItem} {s : Step} {p' : Pump} {rest : List RawItem}
    (hJ : J p inp) (h : Pump.peek p inp = (s, p', rest)) :
    J p' rest ∧ (Pump.peek (stripP p) inp = (s, stripP p', rest) ∨ (IsBreach s ∧ p'.synthesizedNull = false)) := by
  unfold Pump.peek at h ⊢
  cases hl : p.look with
  | some ev =>
    rw [hl] at h
    simp only [Prod.mk.injEq] at h
    obtain ⟨rfl, rfl, rfl⟩ := h
    exact ⟨hJ, .inl (by simp [hl])⟩
  | none =>
    rw [hl] at h
    simp only at h
    rcases hn : nextImpl p inp with ⟨s1, p1, r1⟩
    rw [hn] at h
    obtain ⟨hJ', hb⟩ := nextImpl_J hJ hn
    rcases nextImpl_strip p inp hn with h1 | ⟨hbr, -⟩
    · cases s1 with
      | event ev =>
        simp only [Prod.mk.injEq] at h
        obtain ⟨rfl, rfl, rfl⟩ := h
        exact ⟨hJ', .inl (by simp [hl, h1])⟩
      | eof =>
        simp only [Prod.mk.injEq] at h
        obtain ⟨rfl, rfl, rfl⟩ := h
        exact ⟨hJ', .inl (by simp [hl, h1])⟩
      | error er =>
        simp only [Prod.mk.injEq] at h
        obtain ⟨rfl, rfl, rfl⟩ := h
        exact ⟨hJ', .inl (by simp [hl, h1])⟩
    · obtain ⟨b, l, rfl⟩ := hbr
      simp only [Prod.mk.injEq] at h
      obtain ⟨rfl, rfl, rfl⟩ := h
      exact ⟨hJ', .inr ⟨⟨b, l, rfl⟩, hb ⟨b, l, rfl⟩⟩⟩

theorem closed_P1 : Closed P1 := by
  intro c hc
  cases c with
  | replay b i r =>
    constructor
    · exact BR.ok (P := P1) (d := .replay b i r) trivial
    · simp only [Cur.next, strip]
      split
      · exact BR.ok (P := P1) (d := .replay b (i + 1) r) trivial
      · exact BR.ok (P := P1) (d := .replay b i r) trivial
  | live p inp =>
    have hJ : J p inp := hc
    constructor
    · simp only [Cur.peek, strip]
      rcases hp : Pump.peek p inp with ⟨s, p', rest⟩
      obtain ⟨hJ', h2⟩ := peek_strip hJ hp
      rcases h2 with h2 | ⟨⟨b, l, rfl⟩, hs⟩
      · rw [h2]
        cases s with
        | event e => exact BR.ok (P := P1) (d := .live p' rest) hJ'
        | eof => exact BR.ok (P := P1) (d := .live p' rest) hJ'
        | error e => exact BR.err (d := .live p' rest)
      · exact BR.breach (d := .live p' rest) trivial (budgetish_ofPErr b l) hs
    · simp only [Cur.next, strip]
      rcases hp : Pump.next p inp with ⟨s, p', rest⟩
      obtain ⟨hJ', h2⟩ := next_strip hJ hp
      rcases h2 with h2 | ⟨⟨b, l, rfl⟩, hs⟩
      · rw [h2]
        cases s with
        | event e => exact BR.ok (P := P1) (d := .live p' rest) hJ'
        | eof => exact BR.ok (P := P1) (d := .live p' rest) hJ'
        | error e => exact BR.err (d := .live p' rest)
      · exact BR.breach (d := .live p' rest) trivial (budgetish_ofPErr b l) hs

/-! The step tactic for goals stated directly in `BR` (the walk over the deserializer, `Lemmas/GSim*.lean`, has its own: `g_step`). -/

set_option linter.unusedVariables false

-- Whether the delivered event is case-split: `inspected` = some `match` on this call has an alternative for a particular
-- event (`altNumParams != #[2, 2]` excludes the matches whose only alternatives are `.err e c` and `.ok x c`, two variables
-- each); `direct` = the call is the discriminant of some `match` at all.  A call that no `match` looks at directly
-- (`!direct`) is split as well, to be safe.
open Lean Elab Tactic Meta in
/-- advance the budgeted cursor and its stripped twin: for a hypothesis `P.Inv c` such that `c.next` (or
`c.peek`) occurs in the goal, distinguish the three outcomes of the primitive (same answer / same error /
breach) and rewrite both calls; if some `match` on the call distinguishes the delivered event, distinguish the
event kinds so that both sides take the same branch -/
elab "b_step" : tactic => withMainContext do
  let tgt ← instantiateMVars (← getMainTarget)
  let env ← getEnv
  for ldecl in (← getLCtx) do
    if ldecl.isImplementationDetail then continue
    let ty ← instantiateMVars ldecl.type
    if ty.isAppOfArity ``BP.Inv 2 then
      let c := ty.getArg! 1
      for (op, lem) in [(``SaphyrVerif.De.Cur.next, ``Closed.next_cases), (``SaphyrVerif.De.Cur.peek, ``Closed.peek_cases)] do
        let t := mkApp (mkConst op) c
        if (tgt.find? (· == t)).isSome then
          let inspected := (tgt.find? fun e =>
            match e.getAppFn with
            | .const n _ =>
              match Lean.Meta.getMatcherInfoCore? env n with
              | some info =>
                let args := e.getAppArgs
                let pos := info.getFirstDiscrPos
                pos < args.size && args[pos]! == t && info.altNumParams != #[2, 2]
              | none => false
            | _ => false).isSome
          let direct := (tgt.find? fun e =>
            match e.getAppFn with
            | .const n _ =>
              match Lean.Meta.getMatcherInfoCore? env n with
              | some info =>
                let args := e.getAppArgs
                let pos := info.getFirstDiscrPos
                pos < args.size && args[pos]! == t
              | none => false
            | _ => false).isSome
          let hstx ← Term.exprToSyntax ldecl.toExpr
          if inspected || !direct then
            evalTactic (← `(tactic| (
              have hx := $(mkIdent lem) ‹Closed _› $hstx
              rcases hx with ⟨o, _, h1, h2, _⟩ | ⟨_, _, h1, h2⟩ | ⟨_, _, h1, hab, _, _⟩ <;>
                first
                | (rw [h1, h2]
                   clear h1 h2
                   try (rcases o with _ | (_ | _ | _ | _ | _)))
                | (have _ := hab
                   rw [h1]
                   clear h1))))
          else
            evalTactic (← `(tactic| (
              have hx := $(mkIdent lem) ‹Closed _› $hstx
              rcases hx with ⟨_, _, h1, h2, _⟩ | ⟨_, _, h1, h2⟩ | ⟨_, _, h1, hab, _, _⟩ <;>
                first
                | (rw [h1, h2]
                   clear h1 h2)
                | (have _ := hab
                   rw [h1]
                   clear h1))))
          return
  throwError "b_step: no cursor operation to advance"

end SaphyrVerif.Lemmas.E2EBudget
