import SaphyrVerif.Lemmas.C09
/-! The ring reader (C09): `RInv` — what was handed out plus the stash is what was taken from the inner reader, which is
otherwise intact — is kept by `read` and by the read-ahead of `get_recent`; a run of operations returns the bytes that
`out` collects. -/
namespace SaphyrVerif.Lemmas.C09
open SaphyrVerif SaphyrVerif.Reader

theorem pushRing_frame (r : Ring) (bs : List Nat) (off : Nat) :
    ∃ ring o l, pushRingBytes r bs off = { r with ring := ring, ringStartOffset := o, ringStartLine := l } := by
  fun_induction pushRingBytes r bs off
  case case1 => exact ⟨_, _, _, rfl⟩
  case case2 r b bs off r1 r2 ih =>
    obtain ⟨ring, o, l, h⟩ := ih
    have h1 : ∃ o, r1 = { r with ringStartOffset := o } := by
      simp only [r1]; split <;> exact ⟨_, rfl⟩
    have h2 : ∃ ring o l, r2 = { r with ring := ring, ringStartOffset := o, ringStartLine := l } := by
      obtain ⟨o1, h1⟩ := h1
      simp only [r2]; rw [h1]
      split
      · split <;> exact ⟨_, _, _, rfl⟩
      · exact ⟨_, _, _, rfl⟩
    obtain ⟨ring2, o2, l2, h2⟩ := h2
    rw [h, h2]
    exact ⟨_, _, _, rfl⟩

/-- the transparency invariant; `total` is the whole inner stream -/
def RInv (total : List Nat) (r : Ring) : Prop :=
  r.out ++ r.stash = r.pulledBytes ∧ r.pulledBytes ++ flat r.inner = total ∧ r.stash.length ≤ r.ahead

/-- a call of the inner reader that hands over no byte leaves the invariant alone -/
theorem RInv.inner {total : List Nat} {r : Ring} {s : Sched} (h : RInv total r) (hf : flat s = flat r.inner) :
    RInv total { r with inner := s } :=
  ⟨h.1, (congrArg (r.pulledBytes ++ ·) hf).trans h.2.1, h.2.2⟩

theorem pushBackN_room {n : Nat} {l : List Nat} (b : Nat) (h : l.length < n) : pushBackN n l b = l ++ [b] := by
  unfold pushBackN
  have : (l.length == n) = false := by simp; omega
  simp [this]

theorem stashAll_room {n : Nat} : ∀ (bs st : List Nat), st.length + bs.length ≤ n → stashAll n st bs = st ++ bs := by
  intro bs
  induction bs with
  | nil => intro st _; simp [stashAll]
  | cons b bs ih =>
    intro st h
    simp only [stashAll]
    rw [pushBackN_room b (by simp at h; omega), ih _ (by simp at h ⊢; omega)]
    simp

theorem read_RInv {total : List Nat} (r : Ring) (n : Nat) (h : RInv total r) :
    RInv total (r.read n).2 ∧ (r.read n).2.ahead = r.ahead ∧
    (∀ bs, (r.read n).1 = .ok bs → (r.read n).2.out = r.out ++ bs) ∧
    (∀ k, (r.read n).1 = .err k → (r.read n).2.out = r.out) := by
  have ⟨h1, h2, h3⟩ := h
  fun_cases Ring.read r n
  case case1 hn => exact ⟨h, rfl, by simp, by simp⟩
  case case2 hn hs got =>
    refine ⟨⟨?_, h2, ?_⟩, rfl, by simp [got], by simp⟩
    · show (r.out ++ got) ++ r.stash.drop n = r.pulledBytes
      rw [List.append_assoc]; simp only [got]; rw [List.take_append_drop]; exact h1
    · show (r.stash.drop n).length ≤ r.ahead
      simp; omega
  case case3 hn hs k s hr => exact ⟨h.inner ((readCall_flat hr).2 k rfl), rfl, by simp, by simp⟩
  case case4 hn hs s hr => exact ⟨h.inner ((readCall_flat hr).1 [] rfl).1, rfl, by simp, by simp⟩
  case case5 hn hs chunk s hne hr r1 r2 =>
    have hf := readCall_flat hr
    have hfl := (hf.1 chunk rfl).1
    have hse : r.stash = [] := by simpa using hs
    obtain ⟨ring, o, l, q⟩ : ∃ ring o l, r2 = { r1 with ring := ring, ringStartOffset := o, ringStartLine := l } :=
      pushRing_frame r1 chunk r1.returnedTotal
    rw [q]
    refine ⟨⟨?_, ?_, h3⟩, rfl, ?_, by simp⟩
    · show (r.out ++ chunk) ++ r.stash = r.pulledBytes ++ chunk
      rw [hse] at h1 ⊢; simp at h1 ⊢; exact h1
    · show (r.pulledBytes ++ chunk) ++ flat s = total
      rw [List.append_assoc, hfl]; exact h2
    · intro bs hb
      simp at hb
      show r.out ++ chunk = r.out ++ bs
      rw [hb]

theorem readAheadF_RInv {total : List Nat} (fuel : Nat) (r : Ring) (remaining : Nat) :
    RInv total r → r.stash.length + remaining ≤ r.ahead →
    RInv total (readAheadF fuel r remaining).2 ∧ (readAheadF fuel r remaining).2.ahead = r.ahead ∧
    (readAheadF fuel r remaining).2.out = r.out := by
  fun_induction readAheadF fuel r remaining
  case case1 r rem => intro h _; exact ⟨h, rfl, rfl⟩
  case case2 fuel r rem h0 => intro h _; exact ⟨h, rfl, rfl⟩
  case case3 fuel r rem h0 want k s hr => intro h _; exact ⟨h.inner ((readCall_flat hr).2 k rfl), rfl, rfl⟩
  case case4 fuel r rem h0 want s hr => intro h _; exact ⟨h.inner ((readCall_flat hr).1 [] rfl).1, rfl, rfl⟩
  case case5 fuel r rem h0 want b bs s hr chunk absStart r1 r2 ih =>
    intro h hroom
    obtain ⟨h1, h2, h3⟩ := h
    have hf := readCall_flat hr
    obtain ⟨hfl, hlen⟩ := hf.1 (b :: bs) rfl
    have hlen2 : chunk.length ≤ rem := by
      have : min rem SCRATCH ≤ rem := Nat.min_le_left _ _
      simp only [chunk, want] at hlen ⊢
      omega
    have hst : stashAll r.ahead r.stash chunk = r.stash ++ chunk :=
      stashAll_room chunk r.stash (by omega)
    obtain ⟨ring, o, l, q⟩ : ∃ ring o l, r2 = { r1 with ring := ring, ringStartOffset := o, ringStartLine := l } :=
      pushRing_frame r1 chunk absStart
    have hinv : RInv total r2 := by
      rw [q]
      refine ⟨?_, ?_, ?_⟩
      · show r.out ++ stashAll r.ahead r.stash chunk = r.pulledBytes ++ chunk
        rw [hst, ← List.append_assoc, h1]
      · show (r.pulledBytes ++ chunk) ++ flat s = total
        rw [List.append_assoc]; rw [← hfl] at h2; exact h2
      · show (stashAll r.ahead r.stash chunk).length ≤ r.ahead
        rw [hst]; simp; omega
    have hroom2 : r2.stash.length + (rem - chunk.length) ≤ r2.ahead := by
      rw [q]
      show (stashAll r.ahead r.stash chunk).length + (rem - chunk.length) ≤ r.ahead
      rw [hst]; simp; omega
    obtain ⟨i1, i2, i3⟩ := ih hinv hroom2
    exact ⟨i1, by rw [i2, q], by rw [i3, q]⟩

theorem getRecent_snd (r : Ring) :
    r.getRecent.2 = (if r.ahead - r.stash.length > 0 then readAheadAtMost r (r.ahead - r.stash.length) else (none, r)).2 := by
  unfold Ring.getRecent
  dsimp only
  generalize (if r.ahead - r.stash.length > 0 then readAheadAtMost r (r.ahead - r.stash.length) else (none, r)) = x
  obtain ⟨_ | k, r'⟩ := x <;> rfl

theorem getRecent_RInv {total : List Nat} (r : Ring) (h : RInv total r) :
    RInv total r.getRecent.2 ∧ r.getRecent.2.ahead = r.ahead ∧ r.getRecent.2.out = r.out := by
  rw [getRecent_snd]
  split
  · exact readAheadF_RInv _ r _ h (by have := h.2.2; omega)
  · exact ⟨h, rfl, rfl⟩

/-- bytes handed to the consumer by the `read` operations of a run -/
def returned : List (RingOut × Ring) → List Nat
  | [] => []
  | (.read (.ok bs), _) :: rest => bs ++ returned rest
  | _ :: rest => returned rest

theorem returned_cons (x : RingOut × Ring) (rest : List (RingOut × Ring)) :
    returned (x :: rest) = returned [x] ++ returned rest := by
  obtain ⟨_ | _, _⟩ := x
  · rename_i res; cases res <;> simp [returned]
  · simp [returned]

theorem step_RInv {total : List Nat} (r : Ring) (op : RingOp) (h : RInv total r) :
    RInv total (r.step op).2 ∧ (r.step op).2.ahead = r.ahead ∧ (r.step op).2.out = r.out ++ returned [r.step op] := by
  cases op with
  | read n =>
    obtain ⟨hi, ha, ho, he⟩ := read_RInv r n h
    refine ⟨hi, ha, ?_⟩
    show (r.read n).2.out = r.out ++ returned [(RingOut.read (r.read n).1, (r.read n).2)]
    cases hres : (r.read n).1 with
    | ok bs => rw [ho bs hres]; simp [returned]
    | err k => rw [he k hres]; simp [returned]
  | recent =>
    obtain ⟨hi, ha, ho⟩ := getRecent_RInv r h
    exact ⟨hi, ha, ho.trans (List.append_nil _).symm⟩

theorem run_returned {total : List Nat} : ∀ (ops : List RingOp) (r : Ring), RInv total r →
    (r.after ops).out = r.out ++ returned (r.run ops) ∧ RInv total (r.after ops) ∧ (r.after ops).ahead = r.ahead
  | [], r, h => ⟨(List.append_nil _).symm, h, rfl⟩
  | op :: ops, r, h => by
    obtain ⟨hs, ha, ho⟩ := step_RInv r op h
    obtain ⟨i1, i2, i3⟩ := run_returned ops (r.step op).2 hs
    refine ⟨?_, i2, i3.trans ha⟩
    show ((r.step op).2.after ops).out = r.out ++ returned (r.step op :: (r.step op).2.run ops)
    rw [i1, ho, returned_cons _ ((r.step op).2.run ops), List.append_assoc]

end SaphyrVerif.Lemmas.C09
