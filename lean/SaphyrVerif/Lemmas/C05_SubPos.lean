import SaphyrVerif.Spec.SubPos
import SaphyrVerif.Lemmas.C05_Main
/-!
C05: a failing sub-position makes every enclosing position fail (`subPos_interp_none`) — specification level,
by induction on the derivation of `SubPos`.
-/
namespace SaphyrVerif.Lemmas.C05
open SaphyrVerif SaphyrVerif.Scalars SaphyrVerif.Pump SaphyrVerif.De SaphyrVerif.Spec

theorem listFrom_none_of_mem (f : NodeFn) {items : List ENode} {it : ENode} (hm : it ∈ items) (hf : f it = none) :
    listFrom f items = none := by
  rw [listFrom_eq_mapM]; exact mapM_none_of_mem hm hf

theorem tupleFrom_none_of_zip (cfg : Cfg) {ts : List Ty} {items : List ENode} {te : Ty} {it : ENode}
    (hm : (te, it) ∈ ts.zip items) (hf : interp cfg te it = none) : tupleFrom (interpFns cfg ts) items = none := by
  induction ts generalizing items with
  | nil => simp at hm
  | cons t ts ih =>
    cases items with
    | nil => simp at hm
    | cons x xs =>
      rw [interpFns_cons, tupleFrom_cons]
      simp only [List.zip_cons_cons, List.mem_cons, Prod.mk.injEq] at hm
      rcases hm with ⟨rfl, rfl⟩ | hm'
      · simp [hf]
      · rw [ih hm']
        cases interp cfg t x <;> rfl

theorem pairsFrom_none_of_mem (kf vf : NodeFn) {es : List (ENode × ENode)} {k v : ENode} (hm : (k, v) ∈ es)
    (hf : kf k = none ∨ vf v = none) : pairsFrom kf vf es = none := by
  rw [pairsFrom_eq_mapM]
  refine mapM_none_of_mem hm ?_
  simp only [pairFn]
  rcases hf with hf | hf
  · rw [hf]
  · rw [hf]; cases kf k <;> rfl

theorem fieldEntriesFrom_none_of_mem (cfg : Cfg) (fs : FieldFns) (deny : Bool) {es : List (ENode × ENode)} {k v : ENode}
    {name : List Char} {fname : String} {o : Bool} {vf : NodeFn} (hm : (k, v) ∈ es) (hid : identOf cfg k = some name)
    (hfind : fs.find? (fun f => f.1.toList == name) = some (fname, o, vf)) (hf : vf v = none) :
    ∀ acc, fieldEntriesFrom cfg fs deny es acc = none := by
  induction es with
  | nil => cases hm
  | cons e es ih =>
    obtain ⟨k0, v0⟩ := e
    intro acc
    rw [fieldEntriesFrom_cons]
    rcases List.mem_cons.mp hm with h | hm'
    · cases h
      simp only [hid, hfind, hf]
      split <;> rfl
    · have ih' := ih hm'
      cases identOf cfg k0 with
      | none => rfl
      | some nm =>
        simp only []
        cases fs.find? (fun f => f.1.toList == nm) with
        | some q =>
          obtain ⟨qn, qo, qf⟩ := q
          simp only []
          split
          · rfl
          · cases qf v0 with
            | none => rfl
            | some val => exact ih' _
        | none =>
          simp only []
          split
          · rfl
          · cases interpAny cfg (depthOf v0) v0 with
            | none => rfl
            | some _ => exact ih' _

theorem variantSel_none (cfg : Cfg) (vn : String) {vty : VTy} {pty : Ty} (hp : payloadTy vty = some pty) (p : ENode) (tg : Bool)
    (hf : interp cfg pty p = none) : variantSel cfg vn vty (some p) tg = none := by
  rw [variantSel_payload hp, hf]; rfl

theorem effEntries_nil (dup : DupPolicy) : effEntries dup [] = some [] := by
  cases dup <;> rfl

/-- a mapping that has an effective entry is not the empty mapping -/
theorem solid_map_of_eff_mem {dup : DupPolicy} {a : Nat} {l el : Loc} {entries es : List (ENode × ENode)} {e : ENode × ENode}
    (he : effEntries dup entries = some es) (hm : e ∈ es) : solid (.map a l el entries) = true := by
  cases entries with
  | nil => rw [effEntries_nil] at he; cases he; cases hm
  | cons e r => rfl

theorem subPos_solid {cfg : Cfg} {ty ty' : Ty} {n n' : ENode} (h : SubPos cfg ty n ty' n') (hs : solid n' = true) :
    solid n = true := by
  induction h with
  | here => exact hs
  | newtype _ ih => exact ih hs
  | option _ ih => exact ih hs
  | seqItem => rfl
  | tupleItem => rfl
  | mapKey he hm _ _ => exact solid_map_of_eff_mem he hm
  | mapValue he hm _ _ => exact solid_map_of_eff_mem he hm
  | field he hm _ _ _ _ => exact solid_map_of_eff_mem he hm
  | variantMap => rfl
  | variantTagged => rfl

/-- only the empty mapping is read as a key in another way than as a value -/
theorem keyFn_of_solid {cfg : Cfg} {kt : Ty} {k : ENode} (h : solid k = true) : keyFn cfg kt k = interp cfg kt k := by
  unfold keyFn
  split
  · cases h
  · rfl

theorem subPos_interp_none {cfg : Cfg} {ty ty' : Ty} {n n' : ENode} (h : SubPos cfg ty n ty' n') (hs : Spec.solid n' = true)
    (hf : interp cfg ty' n' = none) : interp cfg ty n = none := by
  induction h with
  | here => exact hf
  | newtype _ ih => rw [interp]; exact ih hs hf
  | @option t n ty' n' hsub ih =>
    have hn := subPos_solid hsub hs
    have := ih hs hf
    cases n with
    | scalar => simp [Spec.solid] at hn
    | seq => rw [interp]; simp [this]
    | map => rw [interp]; simp [this]
  | seqItem hm _ ih =>
    rw [interp_seq_seq, listFrom_none_of_mem _ hm (ih hs hf)]; rfl
  | tupleItem hm _ ih =>
    rw [interp_tuple]
    simp only [tupleNode]
    rw [tupleFrom_none_of_zip cfg hm (ih hs hf)]; rfl
  | @mapKey kt vt a l el entries es k v ty' n' he hm hsub ih =>
    rw [interp_map_map, he]
    simp only [Option.bind_some]
    rw [pairsFrom_none_of_mem _ _ hm (Or.inl ((keyFn_of_solid (subPos_solid hsub hs)).trans (ih hs hf)))]; rfl
  | @mapValue kt vt a l el entries es k v ty' n' he hm hsub ih =>
    rw [interp_map_map, he]
    simp only [Option.bind_some]
    rw [pairsFrom_none_of_mem _ _ hm (Or.inr (ih hs hf))]; rfl
  | @field fields deny a l el entries es k v name fname fty ty' n' he hm hid hfind hsub ih =>
    rw [interp, structNode_map, he]
    simp only [Option.bind_some]
    rw [fieldEntriesFrom_none_of_mem cfg _ deny hm hid (by rw [find?_fieldFns, hfind]; rfl) (ih hs hf)]; rfl
  | @variantMap name variants a l el kv ktag krt kst ka kl payload vn vty pty ty' n' hfind hp hsub ih =>
    rw [interp, enumFrom_map_scalarKey]
    simp only [List.isEmpty_nil, if_true]
    split
    · rfl
    · rw [variantFrom_eq_find, hfind]
      exact variantSel_none cfg vn hp payload false (ih hs hf)
  | @variantTagged name variants a tag rt l el items tn vn vty pty ty' n' htn hfind hp hsub ih =>
    rw [interp]
    simp only [enumFrom, htn]
    split
    · rw [variantFrom_eq_find, hfind]
      exact variantSel_none cfg vn hp _ true (ih hs hf)
    · rfl

#print axioms subPos_interp_none

end SaphyrVerif.Lemmas.C05
