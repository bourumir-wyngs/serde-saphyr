import SaphyrVerif.Model.De
/-!
`Val.beq` decides equality of typed values: a `DecidableEq Val` instance, so that concrete results of the
typed deserializer can be checked by kernel evaluation (`decide +kernel`) in the non-vacuity examples.
-/
namespace SaphyrVerif.Lemmas.CurSim
open SaphyrVerif SaphyrVerif.De


mutual
def Val.beq : Val → Val → Bool
  | .unit, .unit => true
  | .bool a, .bool b => a == b
  | .int a, .int b => a == b
  | .float w a, .float w' b => w == w' && a == b
  | .char a, .char b => a == b
  | .str a, .str b => a == b
  | .bytes a, .bytes b => a == b
  | .none, .none => true
  | .some a, .some b => Val.beq a b
  | .seq a, .seq b => Val.beqL a b
  | .map a, .map b => Val.beqE a b
  | .struct a, .struct b => Val.beqF a b
  | .variant n a, .variant n' b => n == n' && Val.beq a b
  | _, _ => false
def Val.beqL : List Val → List Val → Bool
  | [], [] => true
  | a :: as, b :: bs => Val.beq a b && Val.beqL as bs
  | _, _ => false
def Val.beqE : List (Val × Val) → List (Val × Val) → Bool
  | [], [] => true
  | (k1, v1) :: as, (k2, v2) :: bs => Val.beq k1 k2 && Val.beq v1 v2 && Val.beqE as bs
  | _, _ => false
def Val.beqF : List (String × Val) → List (String × Val) → Bool
  | [], [] => true
  | (n1, v1) :: as, (n2, v2) :: bs => n1 == n2 && Val.beq v1 v2 && Val.beqF as bs
  | _, _ => false
end

/-- By the induction principle of the test itself: one case per clause of the four definitions, in their
order.  The last clause of each (cases 14, 17, 20, 23) is the fall-through, where the test answers `false`;
so the square of constructor pairs never appears. -/
theorem Val.eq_of_beq :
    (∀ a b : Val, Val.beq a b = true → a = b) ∧ (∀ a b : List (String × Val), Val.beqF a b = true → a = b) ∧
    (∀ a b : List (Val × Val), Val.beqE a b = true → a = b) ∧ (∀ a b : List Val, Val.beqL a b = true → a = b) := by
  apply Val.beq.mutual_induct
  case case14 | case17 | case20 | case23 =>
    intros
    rename_i h
    simp only [Val.beq, Val.beqF, Val.beqE, Val.beqL, *] at h
    cases h
  all_goals intros
  all_goals simp_all only [Val.beq, Val.beqF, Val.beqE, Val.beqL, Bool.and_eq_true, beq_iff_eq]

mutual
theorem Val.beq_refl : ∀ a : Val, Val.beq a a = true
  | .unit | .none => by rw [Val.beq]
  | .bool _ | .int _ | .float _ _ | .char _ | .str _ | .bytes _ => by simp [Val.beq]
  | .some a => by rw [Val.beq]; exact Val.beq_refl a
  | .seq a => by rw [Val.beq]; exact Val.beqL_refl a
  | .map a => by rw [Val.beq]; exact Val.beqE_refl a
  | .struct a => by rw [Val.beq]; exact Val.beqF_refl a
  | .variant n a => by simp [Val.beq, Val.beq_refl a]
theorem Val.beqL_refl : ∀ a : List Val, Val.beqL a a = true
  | [] => by rw [Val.beqL]
  | x :: xs => by simp [Val.beqL, Val.beq_refl x, Val.beqL_refl xs]
theorem Val.beqE_refl : ∀ a : List (Val × Val), Val.beqE a a = true
  | [] => by rw [Val.beqE]
  | (k, v) :: xs => by simp [Val.beqE, Val.beq_refl k, Val.beq_refl v, Val.beqE_refl xs]
theorem Val.beqF_refl : ∀ a : List (String × Val), Val.beqF a a = true
  | [] => by rw [Val.beqF]
  | (_, v) :: xs => by simp [Val.beqF, Val.beq_refl v, Val.beqF_refl xs]
end

theorem Val.beq_iff : ∀ (a b : Val), Val.beq a b = true ↔ a = b :=
  fun a b => ⟨Val.eq_of_beq.1 a b, fun h => h ▸ Val.beq_refl a⟩
theorem Val.beqL_iff : ∀ (a b : List Val), Val.beqL a b = true ↔ a = b :=
  fun a b => ⟨Val.eq_of_beq.2.2.2 a b, fun h => h ▸ Val.beqL_refl a⟩
theorem Val.beqE_iff : ∀ (a b : List (Val × Val)), Val.beqE a b = true ↔ a = b :=
  fun a b => ⟨Val.eq_of_beq.2.2.1 a b, fun h => h ▸ Val.beqE_refl a⟩
theorem Val.beqF_iff : ∀ (a b : List (String × Val)), Val.beqF a b = true ↔ a = b :=
  fun a b => ⟨Val.eq_of_beq.2.1 a b, fun h => h ▸ Val.beqF_refl a⟩

instance : DecidableEq Val := fun a b => decidable_of_iff _ (Val.beq_iff a b)

end SaphyrVerif.Lemmas.CurSim
