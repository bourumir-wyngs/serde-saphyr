import SaphyrVerif.Lemmas.C11_TypedDoc
import SaphyrVerif.Lemmas.C11_Iter
/-!
Typed multi-document theorems (C11): the items of the streaming iterator and their specification
document by document; a document that consists of an alias only.  (The iterator over a stream of good documents
is the case "no enforcer, one round per document" of `Lemmas/C11_Typed2Stream.lean`.)
-/
namespace SaphyrVerif.Lemmas.C11T
open SaphyrVerif SaphyrVerif.Scalars SaphyrVerif.Pump SaphyrVerif.De SaphyrVerif.Spec SaphyrVerif.Entry
open SaphyrVerif.Lemmas.C11 (Boundary Doc)
open SaphyrVerif.Props.C11 (docsStream)

def DocsOk (L : AliasLimits) : List Doc → List (List Ev) → Prop
  | [], [] => True
  | d :: ds, evs :: evss => DocOk L d.1 evs ∧ DocsOk L ds evss
  | _, _ => False

theorem docsStream_cons (t : LNode) (ex : Bool) (ls le : Loc) (ds : List Doc) (Y : List RawItem) :
    docsStream ((t, ex, ls, le) :: ds) ++ Y =
      .ev (.docStart ex) ls :: (itemsOf t ++ .ev .docEnd le :: (docsStream ds ++ Y)) := by
  simp [docsStream]

theorem docsStream_mid (pre : List Doc) (t : LNode) (ex : Bool) (ls le : Loc) (post : List Doc) (Z : List RawItem) :
    docsStream (pre ++ (t, ex, ls, le) :: post) ++ Z =
      docsStream pre ++ .ev (.docStart ex) ls :: (itemsOf t ++ .ev .docEnd le :: (docsStream post ++ Z)) := by
  induction pre with
  | nil => simp [docsStream]
  | cons d pre ih =>
    obtain ⟨t0, ex0, ls0, le0⟩ := d
    simp [docsStream] at ih ⊢
    exact ih

abbrev Item := Except DErr Val

theorem iterLoop_congr (cfg : Cfg) (ty : Ty) {p p' : Pump} {inp inp' : List RawItem}
    (h : Cur.peek (.live p inp) = Cur.peek (.live p' inp')) (fuel : Nat) (acc : List Item) :
    iterLoop cfg ty fuel p inp acc = iterLoop cfg ty fuel p' inp' acc := by
  cases fuel with
  | zero => rfl
  | succ n => simp only [iterLoop, h]

theorem perDoc_cons (cfg : Cfg) (ty : Ty) (e0 : Ev) (tl : List Ev) :
    perDoc cfg ty (e0 :: tl) =
      if evIsNull e0 then .skipped else
        match deser (fuelFor 100000) cfg ty false false (.replay (e0 :: tl) 0 none) with
        | .err _ _ => .failed
        | .ok v c =>
          match c.peek with
          | .ok none _ => .clean v
          | _ => .leftover v := by
  cases e0 <;> rfl

/-- two items agree: the same value, or both are errors (the error payloads are not compared) -/
def sameItem : Item → Item → Prop
  | .ok v, .ok w => v = w
  | .error _, .error _ => True
  | _, _ => False

/-- two item lists agree item by item (an inductive predicate: stating it about a concrete stream must not
make the elaborator evaluate the stream) -/
inductive sameItems : List Item → List Item → Prop
  | nil : sameItems [] []
  | cons {a b : Item} {as bs : List Item} : sameItem a b → sameItems as bs → sameItems (a :: as) (b :: bs)

theorem sameItem.refl (a : Item) : sameItem a a := by cases a <;> simp [sameItem]
theorem sameItem.symm {a b : Item} (h : sameItem a b) : sameItem b a := by
  cases a <;> cases b <;> simp_all [sameItem]
theorem sameItem.trans {a b c : Item} (h1 : sameItem a b) (h2 : sameItem b c) : sameItem a c := by
  cases a <;> cases b <;> cases c <;> simp_all [sameItem]

theorem sameItems.refl : ∀ a : List Item, sameItems a a
  | [] => .nil
  | x :: xs => .cons (sameItem.refl x) (sameItems.refl xs)
theorem sameItems.symm {a b : List Item} (h : sameItems a b) : sameItems b a := by
  induction h with
  | nil => exact .nil
  | cons h1 _ ih => exact .cons h1.symm ih
theorem sameItems.trans {a b c : List Item} (h1 : sameItems a b) (h2 : sameItems b c) : sameItems a c := by
  induction h1 generalizing c with
  | nil => exact h2
  | cons hx _ ih =>
    cases h2 with
    | cons hy h2' => exact .cons (hx.trans hy) (ih h2')
theorem sameItems.append {a b c d : List Item} (h1 : sameItems a b) (h2 : sameItems c d) :
    sameItems (a ++ c) (b ++ d) := by
  induction h1 with
  | nil => exact h2
  | cons hx _ ih => exact .cons hx ih
theorem sameItems.length {a b : List Item} (h : sameItems a b) : a.length = b.length := by
  induction h with
  | nil => rfl
  | cons _ _ ih => simp [ih]

/-- the items a document contributes, by `perDoc` (a failed document: one error item, payload unspecified) -/
def docItems : DocRes → List Item
  | .skipped => []
  | .clean v => [.ok v]
  | .failed => [.error default]
  | .leftover v => [.ok v]

def specItems (cfg : Cfg) (ty : Ty) : List (List Ev) → List Item
  | [] => []
  | evs :: rest => docItems (perDoc cfg ty evs) ++ specItems cfg ty rest

def DocRes.isLeftover : DocRes → Bool
  | .leftover _ => true
  | _ => false

/-- at a document boundary every anchor table is empty: a document whose root is an alias fails at its very
first event, with `UnknownAnchor` at the alias — whatever earlier documents defined -/
theorem alias_root_peek {L : AliasLimits} {q : Pump} (hq : Boundary L q) (hl : q.look = none)
    (h1 : 1 ≤ L.maxAliasExpansionsPerAnchor) (h2 : 1 ≤ L.maxReplayStackDepth)
    (ex : Bool) (ls : Loc) (id : Nat) (aloc : Loc) (Z : List RawItem) :
    ∃ c, Cur.peek (.live q (.ev (.docStart ex) ls :: .ev (.alias id) aloc :: Z)) =
      .err ⟨"UnknownAnchor", aloc, 0⟩ c := by
  have h1' : L.maxAliasExpansionsPerAnchor ≠ 0 := by omega
  have h2' : L.maxReplayStackDepth ≠ 0 := by omega
  obtain ⟨hb, hr, hi, hrs, ha, hp, ht, hlim, hs⟩ := hq
  cases q
  simp only at hb hr hi hrs ha hp ht hlim hs hl
  subst hb hr hi hrs ha hp ht hlim hs hl
  simp [Cur.peek, Pump.peek, nextImpl, serveInject, parserLoop, Pump.resetDocumentState, lookupCount, lookupAnchor,
    ofPErr, Budget.USIZE_MAX, h1', h2']

/-- the iterator reports that error and is finished: later documents are never read -/
theorem iter_alias_root {L : AliasLimits} {q : Pump} (hq : Boundary L q) (hl : q.look = none)
    (h1 : 1 ≤ L.maxAliasExpansionsPerAnchor) (h2 : 1 ≤ L.maxReplayStackDepth)
    (ex : Bool) (ls : Loc) (id : Nat) (aloc : Loc) (Z : List RawItem) (cfg : Cfg) (ty : Ty) (m : Nat) (acc : List Item) :
    iterLoop cfg ty (m + 1) q (.ev (.docStart ex) ls :: .ev (.alias id) aloc :: Z) acc =
      acc ++ [.error ⟨"UnknownAnchor", aloc, 0⟩] := by
  obtain ⟨c, hc⟩ := alias_root_peek hq hl h1 h2 ex ls id aloc Z
  simp only [iterLoop, hc]

end SaphyrVerif.Lemmas.C11T
