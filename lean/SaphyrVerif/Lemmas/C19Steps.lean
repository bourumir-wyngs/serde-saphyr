import SaphyrVerif.Model.Robotics
/-!
C19, "no unbounded work, no unbounded recursion": an INSTRUMENTED COPY of the evaluator model
(`Model/Robotics.lean`).  Every function of the copy has the text of the model function and returns, next
to the model's result (`val`), two counters:

* `steps`  — one step per function call, one per iteration of every loop (white-space skip, sign loop,
  digit loops, identifier scan, sexagesimal look-ahead, field readers, the `loop`s of `expr`/`term`),
  four per `starts_ci`, six for the keyword comparisons of an identifier, and the length of `buf` for the
  final `f64::from_str`;
* `frames` — the depth of the call tree below (and including) the function: a call adds one frame,
  a sequence takes the maximum.

That `val` is the model's result is proved in `Lemmas/C19StepsErase.lean` for the loops and the field readers and, together
with `steps ≤ c · length + c'` and `frames ≤ 5 · (MAX_EXPR_DEPTH + 1) + c''`, in `Lemmas/C19StepsBound.lean` for the functions.
-/
namespace SaphyrVerif.Lemmas.C19S
open SaphyrVerif SaphyrVerif.F64 SaphyrVerif.Robotics

/-- a result with its cost -/
structure T (α : Type) where
  val : α
  steps : Nat
  frames : Nat

namespace T
variable {α β : Type}

/-- a loop (no call): value and iterations -/
def ofLoop (x : α × Nat) : T α := ⟨x.1, x.2, 0⟩
def ret (a : α) : T α := ⟨a, 0, 0⟩
def tick (n : Nat) (x : T α) : T α := ⟨x.val, x.steps + n, x.frames⟩
/-- a function call: one step, one stack frame -/
def call (x : T α) : T α := ⟨x.val, x.steps + 1, x.frames + 1⟩

/-- `?`-sequencing: steps add up, frames take the maximum -/
def bind (x : T (Res α)) (k : α → T (Res β)) : T (Res β) :=
  match x.val with
  | .ok a => ⟨(k a).val, x.steps + (k a).steps, max x.frames (k a).frames⟩
  | .err e d => ⟨.err e d, x.steps, x.frames⟩
  | .panic s => ⟨.panic s, x.steps, x.frames⟩
  | .fuel => ⟨.fuel, x.steps, x.frames⟩

/-- `HRes.lift` -/
def lift (d : Nat) (x : T (HRes α)) : T (Res α) := ⟨HRes.lift d x.val, x.steps, x.frames⟩

end T

/-! ## loops (value, iterations) -/

def skipWsLS : List Nat → List Nat → (List Nat × List Nat) × Nat
  | pre, [] => ((pre, []), 1)
  | pre, c :: r =>
    if isWs c then let x := skipWsLS (c :: pre) r; (x.1, x.2 + 1) else ((pre, c :: r), 1)

/-- `skip_ws` (inlined: no frame) -/
def skipWsT (st : St) : T St :=
  let x := skipWsLS st.pre st.rest
  ⟨{ st with pre := x.1.1, rest := x.1.2 }, x.2, 0⟩

def signLoopS : List Nat → List Nat → Fl → (List Nat × List Nat × Fl) × Nat
  | pre, [], sign => ((pre, [], sign), 1)
  | pre, c :: r, sign =>
    if c == 43 then let x := signLoopS (c :: pre) r sign; (x.1, x.2 + 1)
    else if c == 45 then let x := signLoopS (c :: pre) r (neg sign); (x.1, x.2 + 1)
    else ((pre, c :: r, sign), 1)

def identLoopS : List Nat → List Nat → List Nat → (List Nat × List Nat × List Nat) × Nat
  | pre, [], acc => ((pre, [], acc), 1)
  | pre, c :: r, acc =>
    if isIdentCont c then let x := identLoopS (c :: pre) r (c :: acc); (x.1, x.2 + 1)
    else ((pre, c :: r, acc), 1)

def numLoopS (eU : RErr) : List Nat → List Nat → Nat → Nat → List Nat → Bool → HRes NumSt × Nat
  | pre, [], _, seen, bufR, hv => (.ok ⟨pre, [], seen, bufR, hv⟩, 1)
  | pre, c :: r, k, seen, bufR, hv =>
    if isDigit c then
      if MAX_NUM_DIGITS < seen + 1 then (.err .tooManyDigits, 1)
      else let x := numLoopS eU (c :: pre) r (k + 1) (seen + 1) (c :: bufR) true; (x.1, x.2 + 1)
    else if c == 95 then
      match prevIsDigit pre k with
      | .ok p =>
        if !p || !nextIsDigit r then (.err eU, 1)
        else if MAX_NUM_DIGITS < seen then (.err .tooManyDigits, 1)
        else let x := numLoopS eU (c :: pre) r (k + 1) seen bufR hv; (x.1, x.2 + 1)
      | .err e => (.err e, 1)
      | .panic s => (.panic s, 1)
    else (.ok ⟨pre, c :: r, seen, bufR, hv⟩, 1)

def sexaLookS : List Nat → Bool → Bool → (Bool × Bool × Option Nat) × Nat
  | [], sd, lu => ((sd, lu, none), 1)
  | c :: r, sd, lu =>
    if isDigit c then let x := sexaLookS r true false; (x.1, x.2 + 1)
    else if c == 95 then
      (if !sd || lu then ((sd, lu, some c), 1) else let x := sexaLookS r sd true; (x.1, x.2 + 1))
    else ((sd, lu, some c), 1)

def readUintS : List Nat → List Nat → Fl → Nat → Bool → HRes (List Nat × List Nat × Fl × Nat) × Nat
  | pre, [], v, d, _ => (if d == 0 then .err .expectedDigits else .ok (pre, [], v, d), 1)
  | pre, c :: r, v, d, p =>
    if isDigit c then
      if MAX_NUM_DIGITS < d + 1 then (.err .tooManyDigitsInt, 1)
      else let x := readUintS (c :: pre) r (add F (mul F v TEN) (ofNat F (c - 48))) (d + 1) true; (x.1, x.2 + 1)
    else if c == 95 then
      if !p || !nextIsDigit r then (.err .underscoreIntField, 1)
      else if MAX_NUM_DIGITS < d then (.err .tooManyDigitsInt, 1)
      else let x := readUintS (c :: pre) r v d false; (x.1, x.2 + 1)
    else (if d == 0 then .err .expectedDigits else .ok (pre, c :: r, v, d), 1)

def readFracS : List Nat → List Nat → Fl → Fl → Nat → Bool → HRes (List Nat × List Nat × Fl × Nat) × Nat
  | pre, [], num, sc, d, _ =>
    (if d == 0 then .err .expectedFracDigits else .ok (pre, [], div F num sc, d), 1)
  | pre, c :: r, num, sc, d, p =>
    if isDigit c then
      let num' := if d < MAX_FRAC_DIGITS then add F (mul F num TEN) (ofNat F (c - 48)) else num
      let sc' := if d < MAX_FRAC_DIGITS then mul F sc TEN else sc
      if MAX_NUM_DIGITS < d + 1 then (.err .tooManyDigitsFrac, 1)
      else let x := readFracS (c :: pre) r num' sc' (d + 1) true; (x.1, x.2 + 1)
    else if c == 95 then
      if !p || !nextIsDigit r then (.err .underscoreFraction, 1)
      else if MAX_NUM_DIGITS < d then (.err .tooManyDigitsFrac, 1)
      else let x := readFracS (c :: pre) r num sc d false; (x.1, x.2 + 1)
    else (if d == 0 then .err .expectedFracDigits else .ok (pre, c :: r, div F num sc, d), 1)

/-! ## functions -/

/-- `read_uint_unders_to_f64` -/
def readUintT (pre rest : List Nat) : T (HRes (List Nat × List Nat × Fl × Nat)) :=
  T.call (T.ofLoop (readUintS pre rest (zero F false) 0 false))

/-- `read_uint_unders_to_u32` (calls `read_uint_unders_to_f64`) -/
def readU32T (pre rest : List Nat) : T (HRes (List Nat × List Nat × Nat × Nat)) :=
  T.call <|
  let x := readUintT pre rest
  ⟨(match x.val with
    | .ok (pre', rest', v, d) =>
      if gt v U32MAX then .err .fieldTooLarge else .ok (pre', rest', toU32 v, d)
    | .err e => .err e
    | .panic s => .panic s), x.steps, x.frames⟩

/-- `read_frac_part_unders` -/
def readFracT (pre rest : List Nat) : T (HRes (List Nat × List Nat × Fl × Nat)) :=
  T.call (T.ofLoop (readFracS pre rest (zero F false) ONE 0 false))

/-- `try_parse_sexagesimal` -/
def trySexagesimalT (tag : Nat) (st : St) : T (Res (Option (Eval × St))) :=
  T.call <|
  let lk := sexaLookS st.rest false false
  let look := lk.1
  T.tick lk.2 <|
  if !look.1 || look.2.1 then T.ret (.ok none)
  else if look.2.2 != some 58 then T.ret (.ok none)
  else
    (T.lift st.depth (readUintT st.pre st.rest)).bind fun (pre1, rest1, degWhole, d1) =>
    match rest1 with
    | 58 :: rest1' =>
      (T.lift st.depth (readU32T (58 :: pre1) rest1')).bind fun (pre2, rest2, minsU, d2) =>
      if 59 < minsU then T.ret (st.err .minutesRange)
      else
        let mins := ofNat F minsU
        let tail : T (Res (List Nat × List Nat × Fl × Nat)) :=
          match rest2 with
          | 58 :: rest2' =>
            (T.lift st.depth (readU32T (58 :: pre2) rest2')).bind fun (pre3, rest3, secsU, d3) =>
            if 59 < secsU then T.ret (st.err .secondsRange)
            else
              match rest3 with
              | 46 :: rest3' =>
                (T.lift st.depth (readFracT (46 :: pre3) rest3')).bind
                  fun (pre4, rest4, frac, df) =>
                    T.ret (.ok (pre4, rest4, add F (ofNat F secsU) frac, d1 + d2 + d3 + df))
              | _ => T.ret (.ok (pre3, rest3, ofNat F secsU, d1 + d2 + d3))
          | _ => T.ret (.ok (pre2, rest2, zero F false, d1 + d2))
        tail.bind fun (preE, restE, secs, total) =>
          if MAX_NUM_DIGITS < total then T.ret (st.err .tooManyDigitsSexa)
          else
            let stE : St := { st with pre := preE, rest := restE }
            let degrees := add F (add F degWhole (div F mins SIXTY)) (div F secs C3600)
            let seconds := add F (add F (mul F degWhole C3600) (mul F mins SIXTY)) secs
            if st.sexTime then
              if tag == TAG_DEGREES || tag == TAG_RADIANS then
                T.ret (.ok (some ((mul F degrees DEG2RAD, true, false), stE)))
              else T.ret (.ok (some ((seconds, true, false), stE)))
            else if tag == TAG_TIMESTAMP then T.ret (.ok (some ((seconds, true, false), stE)))
            else T.ret (.ok (some ((degrees, true, false), stE)))
    | _ => T.ret (.ok none)

/-- the fraction of `parse_number_or_special` (inline) -/
def numFracS (n1 : NumSt) : HRes NumSt × Nat :=
  match n1.rest with
  | 46 :: r => numLoopS .underscoreFraction (46 :: n1.pre) r 0 n1.seen (46 :: n1.bufR) false
  | _ => (.ok n1, 0)

/-- the exponent of `parse_number_or_special` (inline) -/
def numExpS (n2 : NumSt) : HRes NumSt × Nat :=
  match n2.rest with
  | c :: r =>
    if c == 101 || c == 69 then
      let em := expMarker c n2.pre r n2.bufR
      let x := numLoopS .underscoreExponent em.1 em.2.1 0 n2.seen em.2.2 false
      (match x.1 with
       | .ok n3 => if !n3.hadDigit then .err .malformedExponent else .ok n3
       | .err e => .err e
       | .panic s => .panic s, x.2 + 1)
    else (.ok n2, 0)
  | [] => (.ok n2, 0)

/-- `parse_number_or_special` -/
def parseNumberOrSpecialT (tag : Nat) (st : St) : T (Res (Eval × St)) :=
  T.call <| T.tick 4 <|
  if startsCi st.rest [46, 105, 110, 102] then
    (T.lift st.depth (T.ret (advN 4 st.pre st.rest))).bind fun (p, r) =>
      T.ret (.ok ((.inf false, false, true), { st with pre := p, rest := r }))
  else
  T.tick 4 <|
  if startsCi st.rest [46, 110, 97, 110] then
    (T.lift st.depth (T.ret (advN 4 st.pre st.rest))).bind fun (p, r) =>
      T.ret (.ok ((.nan, false, true), { st with pre := p, rest := r }))
  else
  (trySexagesimalT tag st).bind fun sx =>
  match sx with
  | some res => T.ret (.ok res)
  | none =>
    (T.lift st.depth (T.ofLoop (numLoopS .underscoreNumber st.pre st.rest 0 0 [] false))).bind fun n1 =>
    (T.lift st.depth (T.ofLoop (numFracS n1))).bind fun n2 =>
    (T.lift st.depth (T.ofLoop (numExpS n2))).bind fun n3 =>
    let stE : St := { st with pre := n3.pre, rest := n3.rest }
    if n3.bufR.isEmpty then
      let k := n3.pre.length - st.pre.length
      if !(boundaryAhead st.rest 0 && boundaryAhead n3.rest 0) then T.ret (.panic .strSlice)
      else T.call <| T.tick k <| match fromStr F (n3.pre.take k).reverse with
        | some v => T.ret (.ok ((v, false, true), stE))
        | none => T.ret (st.err .invalidFloat)
    else
      -- `f64::from_str(buf)`: one call, linear in `buf`
      T.call <| T.tick n3.bufR.length <| match fromStr F n3.bufR.reverse with
      | some v => T.ret (.ok ((v, false, true), stE))
      | none => T.ret (st.err .invalidFloat)

/-- `let r = self.expr(); self.exit(); r?` -/
def exitAfterT {α} (r : T (Res (α × St))) : T (Res (α × St)) := ⟨exitAfter r.val, r.steps + 1, r.frames⟩

/-- `parse_ident_or_special`; `E` = the recursive `expr` -/
def parseIdentOrSpecialT (E : St → T (Res (Eval × St))) (st : St) : T (Res (Eval × St)) :=
  T.call <|
  let ilx := identLoopS st.pre st.rest []
  let il := ilx.1
  -- the scan, the slice, six keyword comparisons
  T.tick (ilx.2 + 6) <|
  if !(boundaryAhead st.rest 0 && boundaryAhead il.2.1 0) then T.ret (.panic .strSlice) else
  let ident := il.2.2.reverse.map lowerByte
  let st1 : St := { st with pre := il.1, rest := il.2.1 }
  if ident == [112, 105] then T.ret (.ok ((PI, false, true), st1))
  else if ident == [116, 97, 117] then T.ret (.ok ((mul F TWO PI, false, true), st1))
  else if ident == [105, 110, 102] then T.ret (.ok ((.inf false, false, true), st1))
  else if ident == [110, 97, 110] then T.ret (.ok ((.nan, false, true), st1))
  else if ident == [100, 101, 103] || ident == [114, 97, 100] then
    let sw2 := skipWsT st1
    let st2 := sw2.val
    T.tick (sw2.steps + 1) <|
    match st2.rest with
    | 40 :: r =>
      let st3 := st2.adv 40 r
      let old := st3.sexTime
      (T.tick 1 (T.ret (St.enter { st3 with sexTime := false }))).bind fun st4 =>
      (exitAfterT (E st4)).bind fun ((v, _, _), st5) =>
      let sw6 := skipWsT { st5 with sexTime := old }
      let st6 := sw6.val
      T.tick (sw6.steps + 1) <|
      match st6.rest with
      | 41 :: r' =>
        let st7 := st6.adv 41 r'
        if ident == [100, 101, 103] then T.ret (.ok ((mul F v DEG2RAD, true, false), st7))
        else T.ret (.ok ((v, true, false), st7))
      | c :: r' => T.ret ((st6.adv c r').err .expectedRParenFn)
      | [] => T.ret (st6.err .expectedRParenFn)
    | c :: r => T.ret ((st2.adv c r).err .expectedLParenFn)
    | [] => T.ret (st2.err .expectedLParenFn)
  else T.ret (st1.err .unknownIdent)

/-- `primary` -/
def primaryT (tag : Nat) (E : St → T (Res (Eval × St))) (st0 : St) : T (Res (Eval × St)) :=
  T.call <|
  let sw := skipWsT st0
  let st := sw.val
  T.tick (sw.steps + 1) <|
  match st.rest with
  | [] => T.ret (st.err .unexpectedEnd)
  | c :: r =>
    if c == 40 then
      (T.tick 1 (T.ret (St.enter (st.adv c r)))).bind fun st1 =>
      (exitAfterT (E st1)).bind fun (ev, st2) =>
      let sw3 := skipWsT st2
      let st3 := sw3.val
      T.tick (sw3.steps + 1) <|
      match st3.rest with
      | 41 :: r' => T.ret (.ok (ev, st3.adv 41 r'))
      | c' :: r' => T.ret ((st3.adv c' r').err .expectedRParen)
      | [] => T.ret (st3.err .expectedRParen)
    else if isDigit c || c == 46 then parseNumberOrSpecialT tag st
    else if isIdentStart c then parseIdentOrSpecialT E st
    else T.ret (st.err .expectedPrimary)

/-- `unary` -/
def unaryT (tag : Nat) (E : St → T (Res (Eval × St))) (st0 : St) : T (Res (Eval × St)) :=
  T.call <|
  let sw := skipWsT st0
  let st := sw.val
  let slx := signLoopS st.pre st.rest ONE
  let sl := slx.1
  T.tick (sw.steps + slx.2) <|
  (primaryT tag E { st with pre := sl.1, rest := sl.2.1 }).bind fun ((v, uu, sp), st') =>
    T.ret (.ok ((mul F sl.2.2 v, uu, sp), st'))

/-- the `loop` of `term`: one step per iteration -/
def termLoopT (tag : Nat) (E : St → T (Res (Eval × St))) : Nat → Eval → St → T (Res (Eval × St))
  | 0, _, _ => T.ret .fuel
  | k + 1, (v, uu, sp), st0 =>
    let sw := skipWsT st0
    let st := sw.val
    T.tick (sw.steps + 1) <|
    match st.rest with
    | [] => T.ret (.ok ((v, uu, sp), st))
    | c :: r =>
      if c == 42 then
        (unaryT tag E (st.adv c r)).bind fun ((rhs, u2, s2), st') =>
          termLoopT tag E k (mul F v rhs, uu || u2, sp || s2) st'
      else if c == 47 then
        (unaryT tag E (st.adv c r)).bind fun ((rhs, u2, s2), st') =>
          termLoopT tag E k (div F v rhs, uu || u2, sp || s2) st'
      else T.ret (.ok ((v, uu, sp), st))

/-- `term` -/
def termT (tag : Nat) (lf : Nat) (E : St → T (Res (Eval × St))) (st : St) : T (Res (Eval × St)) :=
  T.call <| (unaryT tag E st).bind fun (ev, st') => termLoopT tag E lf ev st'

/-- the `loop` of `expr` -/
def exprLoopT (tag : Nat) (lf : Nat) (E : St → T (Res (Eval × St))) : Nat → Eval → St → T (Res (Eval × St))
  | 0, _, _ => T.ret .fuel
  | k + 1, (v, uu, sp), st0 =>
    let sw := skipWsT st0
    let st := sw.val
    T.tick (sw.steps + 1) <|
    match st.rest with
    | [] => T.ret (.ok ((v, uu, sp), st))
    | c :: r =>
      if c == 43 then
        (termT tag lf E (st.adv c r)).bind fun ((rhs, u2, s2), st') =>
          exprLoopT tag lf E k (add F v rhs, uu || u2, sp || s2) st'
      else if c == 45 then
        (termT tag lf E (st.adv c r)).bind fun ((rhs, u2, s2), st') =>
          exprLoopT tag lf E k (sub F v rhs, uu || u2, sp || s2) st'
      else T.ret (.ok ((v, uu, sp), st))

/-- `expr` -/
def exprT (tag : Nat) (lf : Nat) : Nat → St → T (Res (Eval × St))
  | 0, _ => T.ret .fuel
  | n + 1, st =>
    T.call <| (termT tag lf (exprT tag lf n) st).bind fun (ev, st') => exprLoopT tag lf (exprT tag lf n) lf ev st'

/-- `parse_yaml12_float_angle_converting::<f64>` -/
def evalExprT (tag : Nat) (s : List Nat) : T (Res Fl) :=
  T.call <|
  let sw0 := skipWsT { pre := [], rest := s, depth := 0, sexTime := true }
  T.tick sw0.steps <|
  (exprT tag (s.length + 1) (MAX_EXPR_DEPTH + 1) sw0.val).bind fun ((v, used, plain), st1) =>
  let sw2 := skipWsT st1
  let st2 := sw2.val
  T.tick sw2.steps <|
  if !st2.rest.isEmpty then T.ret (st2.err .trailing)
  else if !used then
    T.ret (.ok (if tag == TAG_DEGREES then mul F v DEG2RAD else v))
  else if tag == TAG_DEGREES && plain then T.ret (st2.err .ambiguousMix)
  else T.ret (.ok v)

end SaphyrVerif.Lemmas.C19S
