/-!
Evaluating `"…".toList` for a string literal takes time that grows with at least the square of its length, in the
kernel and in `Meta.whnf` alike (a `String` is a validated byte array; the characters are decoded position by position).
A literal is by definition `String.ofList [c₁, …, cₙ]`, and `String.toList_ofList` gives its characters without decoding.
-/

/-- Replace every `"…".toList` of the goal by the list of its characters, before the goal is evaluated. -/
macro "char_lits" : tactic => `(tactic| repeat rw [String.toList_ofList])

-- `decide +kernel` on a test vector `f x = .ok y`: the kernel evaluates once, with no `Meta`-level pass as `rfl` has.
deriving instance DecidableEq for Except
