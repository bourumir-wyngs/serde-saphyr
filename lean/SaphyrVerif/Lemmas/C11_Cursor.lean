import SaphyrVerif.Lemmas.C11_Measure
import SaphyrVerif.Lemmas.LookAhead
/-!
Helper lemmas for C11: the progress order on cursors.  `Le c c'` = `c'` is of the same kind as `c` (live / replay) and its
measure (parser items left, then `pumpB`; both 0 for a replay cursor) is not larger — the LATER cursor is the second
argument; `Lt` = strictly smaller.  The order compares two numbers and says nothing of how `c'` is obtained from `c`:
reachability by `peek` / `next` is `Adv` (`Lemmas/C11_TypedAdv.lean`).
-/
namespace SaphyrVerif.Lemmas.C11
open SaphyrVerif SaphyrVerif.Scalars SaphyrVerif.Pump SaphyrVerif.De

theorem next_measure (p : Pump) (inp : List RawItem) :
    (Pump.next p inp).2.2.length < inp.length ∨
      ((Pump.next p inp).2.2.length = inp.length ∧
        pumpB (Pump.next p inp).2.1 + evt (Pump.next p inp).1 ≤ pumpB p) := by
  unfold Pump.next
  split
  · rename_i ev hl
    right
    refine ⟨rfl, ?_⟩
    simp [pumpB, lookBit, prodBit, evt, hl]
    omega
  · exact nextImpl_measure p inp

theorem peek_measure (p : Pump) (inp : List RawItem) :
    (Pump.peek p inp).2.2.length < inp.length ∨
      ((Pump.peek p inp).2.2.length = inp.length ∧ pumpB (Pump.peek p inp).2.1 ≤ pumpB p) := by
  unfold Pump.peek
  split
  · rename_i ev hl
    right
    refine ⟨rfl, ?_⟩
    simp [pumpB, lookBit, prodBit, hl]
  · rename_i hl
    have h1 := nextImpl_look p inp
    have h2 := nextImpl_measure p inp
    split
    · rename_i ev p' rest hn
      rw [hn] at h1 h2
      simp only at h1 h2 ⊢
      rcases h2 with h2 | ⟨h2, h3⟩
      · exact Or.inl h2
      · right
        refine ⟨h2, ?_⟩
        rw [hl] at h1
        simp [pumpB, lookBit, prodBit, evt, h1] at h3 ⊢
        omega
    · rcases h2 with h2 | ⟨h2, h3⟩
      · exact Or.inl h2
      · exact Or.inr ⟨h2, by omega⟩

def curK : Cur → Nat
  | .live .. => 1
  | .replay .. => 0

def curA : Cur → Nat
  | .live _ inp => inp.length
  | .replay .. => 0

def curB : Cur → Nat
  | .live p _ => pumpB p
  | .replay .. => 0

def Le (c c' : Cur) : Prop :=
  curK c' = curK c ∧ (curA c' < curA c ∨ (curA c' = curA c ∧ curB c' ≤ curB c))

def Lt (c c' : Cur) : Prop :=
  curK c' = curK c ∧ (curA c' < curA c ∨ (curA c' = curA c ∧ curB c' < curB c))

theorem Le.refl (c : Cur) : Le c c := ⟨rfl, Or.inr ⟨rfl, Nat.le_refl _⟩⟩

theorem Le.trans {a b c : Cur} (h1 : Le a b) (h2 : Le b c) : Le a c := by
  unfold Le at *; omega

theorem Lt.le {a b : Cur} (h : Lt a b) : Le a b := by unfold Le Lt at *; omega

theorem Lt.trans_le {a b c : Cur} (h1 : Lt a b) (h2 : Le b c) : Lt a c := by
  unfold Le Lt at *; omega

theorem Le.trans_lt {a b c : Cur} (h1 : Le a b) (h2 : Lt b c) : Lt a c := by
  unfold Le Lt at *; omega

def rcur {α : Type} : R α → Cur
  | .ok _ c => c
  | .err _ c => c

@[simp] theorem rcur_ok {α : Type} (a : α) (c : Cur) : rcur (R.ok a c) = c := rfl
@[simp] theorem rcur_err {α : Type} (e : DErr) (c : Cur) : rcur (R.err e c : R α) = c := rfl

theorem next_le (c : Cur) : Le c (rcur c.next) := by
  cases c with
  | live p inp =>
    have h := next_measure p inp
    simp only [Cur.next]
    rcases hn : Pump.next p inp with ⟨s, p', r⟩
    rw [hn] at h
    cases s <;> refine ⟨rfl, ?_⟩ <;> simp only [rcur, curA, curB] <;> simp only [evt] at h <;> omega
  | replay buf idx ref =>
    simp only [Cur.next]
    split <;> simp [rcur, Le, curK, curA, curB]

theorem peek_le (c : Cur) : Le c (rcur c.peek) := by
  cases c with
  | live p inp =>
    have h := peek_measure p inp
    simp only [Cur.peek]
    rcases hn : Pump.peek p inp with ⟨s, p', r⟩
    rw [hn] at h
    cases s <;> refine ⟨rfl, ?_⟩ <;> simp only [rcur, curA, curB] <;> simp only at h <;> omega
  | replay buf idx ref => simp [Cur.peek, rcur, Le, curK, curA, curB]

def curLook : Cur → Option Ev
  | .live p _ => p.look
  | .replay .. => none

theorem peek_of_look {c : Cur} {ev : Ev} (h : curLook c = some ev) :
    ∃ c', c.peek = .ok (some ev) c' ∧ c'.peek = .ok (some ev) c' ∧ curLook c' = some ev ∧ Le c c' := by
  cases c with
  | live p inp =>
    simp only [curLook] at h
    refine ⟨.live { p with lastLoc := ev.loc } inp, by simp [Cur.peek, Pump.peek, h],
      by simp [Cur.peek, Pump.peek, h], h, ?_⟩
    simp [Le, curK, curA, curB, pumpB, lookBit, prodBit]
  | replay buf idx ref => simp [curLook] at h

theorem look_of_peek {p : Pump} {inp : List RawItem} {ev : Ev} {c : Cur}
    (h : Cur.peek (.live p inp) = .ok (some ev) c) : curLook c = some ev := by
  obtain ⟨p', rest, rfl, hp⟩ := LookAhead.live_peek_inv p inp ev c h
  exact LookAhead.pump_peek_look p inp ev p' rest hp

/-- the one source of strict progress: `next` empties the filled look-ahead slot -/
theorem next_of_look {c : Cur} {ev : Ev} (h : curLook c = some ev) :
    ∃ c', c.next = .ok (some ev) c' ∧ Lt c c' := by
  cases c with
  | live p inp =>
    simp only [curLook] at h
    refine ⟨.live { p with look := none, lastLoc := ev.loc } inp, by simp [Cur.next, Pump.next, h], ?_⟩
    simp [Lt, curK, curA, curB, pumpB, lookBit, prodBit, h]
  | replay buf idx ref => simp [curLook] at h

end SaphyrVerif.Lemmas.C11
