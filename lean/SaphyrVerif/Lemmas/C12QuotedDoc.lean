import SaphyrVerif.Lemmas.C12Quoted
import SaphyrVerif.Lemmas.C12Frame
/-!
Helper lemmas for C12: quoted scalars at node level (the readers continue with whatever follows the
closing quote), and with that the quoted styles as one-line scalars (`OneLine.dq`, `OneLine.sq`).
-/
namespace SaphyrVerif.Lemmas.C12
open SaphyrVerif SaphyrVerif.SerScalar SaphyrVerif.Spec.Read

/-- the key sink's quoted form -/
def keyQuoted (s : List Char) : List Char := '"' :: (s.flatMap keyEscape ++ ['"'])

theorem startKind_quote (flow col0 : Bool) (t : List Char) :
    startKind flow col0 ('"' :: t) = .dq ∧ startKind flow col0 ('\'' :: t) = .sq := by
  have hm : ∀ q, q = '"' ∨ q = '\'' → isDocMarker (q :: t) = false := by
    rintro q (rfl | rfl) <;> exact isDocMarker_head _ _ (by decide) (by decide)
  cases flow <;> cases col0 <;> simp [startKind, hm, isFlowInd]

theorem readNode_dq_of {f : Char → List Char} (hf : ∀ c, Esc c (f c)) (p : Spec.Read.Pos) (s : List Char)
    (col0 : Bool) (parent : Int) :
    readNode p ('"' :: (s.flatMap f ++ ['"']) ++ lineEnd p) col0 parent = some (.double, s) := by
  simp only [readNode, List.cons_append, (startKind_quote _ _ _).1, readDq, List.append_assoc, List.nil_append,
    dq_body hf, List.reverse_nil, Option.bind_some]
  exact finishLine_lineEnd p .double s

theorem readNode_dq (p : Spec.Read.Pos) (s : List Char) (col0 : Bool) (parent : Int) :
    readNode p (writeQuoted s ++ lineEnd p) col0 parent = some (.double, s) :=
  readNode_dq_of dqEscape_esc p s col0 parent

theorem readNode_keydq (p : Spec.Read.Pos) (s : List Char) (col0 : Bool) (parent : Int) :
    readNode p (keyQuoted s ++ lineEnd p) col0 parent = some (.double, s) :=
  readNode_dq_of keyEscape_esc p s col0 parent

theorem readNode_sq (p : Spec.Read.Pos) (s : List Char) (col0 : Bool) (parent : Int)
    (h : needsDoubleQuotes s = false) :
    readNode p (writeSingleQuoted s ++ lineEnd p) col0 parent = some (.single, s) := by
  simp only [readNode, writeSingleQuoted, List.cons_append, (startKind_quote _ _ _).2, readSq, List.append_assoc]
  show (sqRun false (List.flatMap sqEsc s ++ '\'' :: lineEnd p) []).bind _ = _
  rw [sq_body s (lineEnd p) [] (fun c hc => (needsDq_false h c hc).2) (lineEnd_facts p).2.2.2.1]
  exact finishLine_lineEnd p .single s

theorem OneLine.dq {f : Char → List Char} (hf : ∀ c, Esc c (f c)) (p : Spec.Read.Pos) (s : List Char) :
    OneLine p ('"' :: (s.flatMap f ++ ['"'])) .double s :=
  ⟨⟨'"', _, rfl, by decide, by decide, by decide, dq_noNul hf s⟩, readNode_dq_of hf p s⟩

theorem OneLine.sq (p : Spec.Read.Pos) {s : List Char} (h : needsDoubleQuotes s = false) :
    OneLine p (writeSingleQuoted s) .single s :=
  ⟨⟨'\'', _, rfl, by decide, by decide, by decide, sq_noNul s h⟩, fun col0 parent => readNode_sq p s col0 parent h⟩

end SaphyrVerif.Lemmas.C12
