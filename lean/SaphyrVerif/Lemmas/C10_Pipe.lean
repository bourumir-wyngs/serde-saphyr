import SaphyrVerif.Lemmas.C10_Gate
import SaphyrVerif.Spec.Utf8
/-! Helper lemmas for the reader pipeline after fixes cbb7ef9 / 784e913 (C10): the gate owns the size limit,
`ChunkedChars` behind it has none.  (1) a gate with a cap the input fits behaves as a gate without a cap;
(2) the beginning of a well-formed text, possibly cut inside a character, never decodes to a malformed sequence, so
`ChunkedChars` over it followed by a failing call records exactly that failure (`C09.collectRaw_fault`). -/
namespace SaphyrVerif.Lemmas.C10Pipe
open SaphyrVerif SaphyrVerif.Reader SaphyrVerif.Spec.Utf8 SaphyrVerif.Lemmas.C09 SaphyrVerif.Lemmas.C10Gate

theorem noteAll_limit (bs : List Nat) (g : Gate) (l : Option Nat) :
    ({ g with limit := l } : Gate).noteAll bs = { g.noteAll bs with limit := l } := by
  obtain ⟨a1, a2, a3, a4, _⟩ := noteAll_fields bs { g with limit := l }
  obtain ⟨b1, _, b3, b4, _⟩ := noteAll_fields bs g
  have hc : core (({ g with limit := l } : Gate).noteAll bs) = core (g.noteAll bs) := noteAll_core bs rfl
  generalize ({ g with limit := l } : Gate).noteAll bs = x at *
  generalize g.noteAll bs = y at *
  cases x; cases y
  simp only [core, Prod.mk.injEq] at hc
  simp only [Gate.mk.injEq]
  exact ⟨a1.trans b1.symm, a2, hc.1, a3.trans b3.symm, hc.2.1, hc.2.2.1, hc.2.2.2.1, hc.2.2.2.2, a4.trans b4.symm⟩

theorem plain_limit (g : Gate) (l : Option Nat) (want : Nat) :
    ({ g with limit := l } : Gate).plain want = ((g.plain want).1, { (g.plain want).2 with limit := l }) := by
  cases h : readCall want g.inner with
  | mk r s =>
    rw [plain_eq (g := { g with limit := l }) h, plain_eq h]
    refine Prod.ext ?_ (noteAll_limit (okBytes r) { g with inner := s, taken := g.taken + (okBytes r).length } l)
    exact congrArg (if r = .ok [] then · else r)
      (atEnd_core (g := { g with limit := l, inner := s }) (h := { g with inner := s }) rfl)

theorem read_fits (g : Gate) (cap n : Nat) (hn : 0 < n) (hl : g.limit = some cap) (ht : g.tripped = false)
    (hfit : g.pulled + (flat g.inner).length ≤ cap) :
    g.read n = g.plain n ∧ (g.plain n).2.limit = some cap ∧ (g.plain n).2.tripped = false ∧
    (g.plain n).2.pulled + (flat (g.plain n).2.inner).length ≤ cap := by
  obtain ⟨f1, f2, f3, _, _, f6⟩ := plain_moves g n
  refine ⟨read_eq_plain g n hn ht fun c h => ?_, f1.trans hl, f2.trans ht, ?_⟩
  · rw [hl] at h; cases h; exact hfit
  · rw [← f6, List.length_append] at hfit
    rw [f3]; omega

theorem run_cap_inactive (cap : Nat) : ∀ (reqs : List Nat) (g : Gate), (∀ n ∈ reqs, 0 < n) → g.limit = some cap →
    g.tripped = false → g.pulled + (flat g.inner).length ≤ cap →
    (g.run reqs).1 = (({ g with limit := none } : Gate).run reqs).1
  | [], _, _, _, _, _ => rfl
  | n :: reqs, g, hpos, hl, ht, hfit => by
    have hn := hpos n (by simp)
    obtain ⟨h1, h2, h3, h4⟩ := read_fits g cap n hn hl ht hfit
    have hnone : ({ g with limit := none } : Gate).read n = ((g.plain n).1, { (g.plain n).2 with limit := none }) := by
      rw [read_eq_plain { g with limit := none } n hn ht (fun _ h => by cases h), plain_limit]
    have ih := run_cap_inactive cap reqs (g.plain n).2 (fun m hm => hpos m (by simp [hm])) h2 h3 h4
    simp only [Gate.run, h1, hnone]
    rw [ih]

theorem flatDecode_prefix_ok : ∀ (fuel : Nat) (cs : List Char) (bs tail : List Nat), bs ++ tail = encode cs →
    bs.length < fuel → (flatDecode fuel bs).2.1 ≠ some kInvalidData
  | 0, _, _, _, _, hl => by omega
  | fuel + 1, cs, [], tail, _, _ => by simp [flatDecode, flatStep]
  | fuel + 1, [], b :: t, tail, h, _ => by simp [encode] at h
  | fuel + 1, c :: cs, b :: t, tail, h, hl => by
    obtain ⟨b', r, he, hn'⟩ := encodeChar_shape c
    simp only [encode, he, List.cons_append, List.cons.injEq] at h
    obtain ⟨hb, ht⟩ := h
    subst hb
    simp only [flatDecode, flatStep, hn']
    by_cases hlt : t.length < r.length + 1 - 1
    · have hlt' : t.length < r.length := by omega
      simp [hlt', kInvalidData, kUnexpectedEof]
    · have hge : r.length ≤ t.length := by omega
      have htake : t.take (r.length + 1 - 1) = r := by
        have : (t ++ tail).take r.length = r := by rw [ht]; simp
        rw [List.take_append_of_le_length hge] at this
        simpa using this
      have hdec := decode1_encodeChar c
      rw [he] at hdec
      simp only [hlt, if_false, htake, hdec]
      have hrest : t.drop (r.length + 1 - 1) ++ tail = encode cs := by
        have : (t ++ tail).drop r.length = encode cs := by rw [ht]; simp
        rw [List.drop_append_of_le_length hge] at this
        simpa using this
      exact flatDecode_prefix_ok fuel cs _ tail hrest (by simp at hl ⊢; omega)

theorem flat_map_data : ∀ (chunks : List (List Nat)), flat (chunks.map .data) = chunks.flatten
  | [] => rfl
  | c :: cs => by simp only [List.map_cons, flat, List.flatten_cons]; rw [flat_map_data cs]

theorem flat_asSched_errs (k : IoKind) : ∀ (m : Nat), flat (asSched (List.replicate m (.err k))) = []
  | 0 => rfl
  | m + 1 => by simp only [List.replicate_succ, asSched, flat]; exact flat_asSched_errs k m

end SaphyrVerif.Lemmas.C10Pipe
