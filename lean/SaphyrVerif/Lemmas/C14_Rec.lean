import SaphyrVerif.Lemmas.C14_De
/-!
C14, recursive wrappers: a cell `&a { plain fields and back references *a }` under `RcRecursive` /
`ArcRecursive` is built as a placeholder that is stored before its payload is read.  Here: while the
payload is read, every back reference (read through `RcRecursion` / `ArcRecursion`) resolves to that very
placeholder and the state is left as it was.
-/
namespace SaphyrVerif.Lemmas.C14
open SaphyrVerif.Anchors

/-- a field of the payload of a recursive cell: a plain scalar or a back reference to the cell -/
inductive RecItem where
  | plain (k : LeafKind)
  | back
deriving Repr, DecidableEq

def recDoc (a : Nat) : RecItem → Out
  | .plain k => .leaf 0 k
  | .back => .alias a

def recTy (kind : Kind) (tid : Nat) : RecItem → Ty
  | .plain _ => .leaf false
  | .back => .weak kind tid

def recVal (kind : Kind) (q : Ptr) : RecItem → RVal
  | .plain k => .leaf k
  | .back => .weak kind q

/-- what the recording frames receive: back references are delivered as the anchored null placeholder -/
def recExp (a : Nat) : RecItem → Out
  | .plain k => .leaf 0 k
  | .back => .leaf a .null

theorem rec_in_progress (s : DeSt) (kind : Kind) (hk : kind.isRec = true) (a : Nat)
    (h : s.stack.head? = some (kind, a)) : recursiveAnchorInProgress s a = true := by
  cases hs : s.stack with
  | nil => rw [hs] at h; cases h
  | cons e es =>
    rw [hs] at h
    simp only [List.head?_cons, Option.some.injEq] at h
    subst h
    cases kind with
    | rc => cases hk
    | arc => cases hk
    | rcRec => simp [recursiveAnchorInProgress, hs]
    | arcRec => simp [recursiveAnchorInProgress, hs]

theorem rec_items (kind : Kind) (hk : kind.isRec = true) (tid a : Nat) (ha : a ≠ 0) (q : Ptr) :
    ∀ (items : List RecItem) (t : DeSt),
      t.stack.head? = some (kind, a) → t.store.lookup (kind, a) = some (q, tid) → t.opn.contains a = true →
      deList onAliasLive true (items.map (recTy kind tid)) (items.map (recDoc a)) t =
        .ok (items.map (recVal kind q), items.map (recExp a), t) := by
  intro items
  induction items with
  | nil => intro t _ _ _; rfl
  | cons it its ih =>
    intro t h1 h2 h3
    have e1 : deCore onAliasLive true (recTy kind tid it) (recDoc a it) t =
        .ok (recVal kind q it, recExp a it, t) := by
      cases it with
      | plain k => rfl
      | back =>
        have hres : resolveAlias t a = .ok (.leaf a .null) := by
          simp only [resolveAlias, h3, if_true, rec_in_progress t kind hk a h1]
        exact de_alias_ok.mpr ⟨_, hres, deE_weak_stored kind tid (.leaf a .null) (fun _ => nofun) ha t q h2⟩
    exact deList_cons_ok.mpr ⟨_, _, _, _, _, e1, ih t h1 h2 h3, rfl, rfl⟩

end SaphyrVerif.Lemmas.C14
