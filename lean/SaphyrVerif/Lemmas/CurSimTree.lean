import SaphyrVerif.Spec.Expand
import SaphyrVerif.Spec.Interp
import SaphyrVerif.Lemmas.ExpandEqns
/-!
Cursor simulation: the bridge between the two specifications.  The events of an expansion
(`Spec/Expand.lean`: the document with every alias replaced by the recorded buffer of its anchor) are the
flattening of a tree of logical events (`Spec/Interp.lean`: `ENode`, `eflatten`), and `treeOf` recovers
that tree.
-/
namespace SaphyrVerif.Lemmas.CurSim
open SaphyrVerif SaphyrVerif.Scalars SaphyrVerif.Pump SaphyrVerif.De SaphyrVerif.Spec
open SaphyrVerif.Lemmas.C02 (bind2_ok wrap_ok expand_alias_ok expand_seq expand_map expandL_cons expandE_cons)

theorem eflatten_head (n : ENode) :
    ∃ e tl, eflatten n = e :: tl ∧ (∀ l, e ≠ .seqEnd l) ∧ (∀ l, e ≠ .mapEnd l) := by
  cases n with
  | scalar v tag rt st a l =>
    refine ⟨_, _, by rw [eflatten], ?_, ?_⟩ <;> (intro l h; cases h)
  | seq a tag rt l el items =>
    refine ⟨_, _, by rw [eflatten], ?_, ?_⟩ <;> (intro l h; cases h)
  | map a l el entries =>
    refine ⟨_, _, by rw [eflatten], ?_, ?_⟩ <;> (intro l h; cases h)

theorem eflatten_length_pos (n : ENode) : 1 ≤ (eflatten n).length := by
  obtain ⟨e, tl, h, -, -⟩ := eflatten_head n
  rw [h]; simp

mutual
theorem parseNode_eflatten : ∀ (n : ENode) (rest : List Ev) (fuel : Nat), (eflatten n).length ≤ fuel →
    parseNode fuel (eflatten n ++ rest) = some (n, rest)
  | .scalar v tag rt st a l, rest, fuel, h => by
    rw [eflatten] at h ⊢
    obtain ⟨f, rfl⟩ : ∃ f, fuel = f + 1 := ⟨fuel - 1, by simp at h; omega⟩
    simp [parseNode]
  | .seq a tag rt l el items, rest, fuel, h => by
    rw [eflatten] at h ⊢
    obtain ⟨f, rfl⟩ : ∃ f, fuel = f + 1 := ⟨fuel - 1, by simp at h; omega⟩
    have := parseItems_eflatten items el rest f (by simp at h; omega)
    simp only [List.cons_append, List.append_assoc, List.nil_append, parseNode]
    rw [this]
  | .map a l el entries, rest, fuel, h => by
    rw [eflatten] at h ⊢
    obtain ⟨f, rfl⟩ : ∃ f, fuel = f + 1 := ⟨fuel - 1, by simp at h; omega⟩
    have := parseEntries_eflatten entries el rest f (by simp at h; omega)
    simp only [List.cons_append, List.append_assoc, List.nil_append, parseNode]
    rw [this]
theorem parseItems_eflatten : ∀ (ns : List ENode) (el : Loc) (rest : List Ev) (fuel : Nat),
    (eflattenL ns).length + 1 ≤ fuel →
    parseItems fuel (eflattenL ns ++ .seqEnd el :: rest) = some (ns, el, rest)
  | [], el, rest, fuel, h => by
    obtain ⟨f, rfl⟩ : ∃ f, fuel = f + 1 := ⟨fuel - 1, by omega⟩
    simp [eflattenL, parseItems]
  | n :: ns, el, rest, fuel, h => by
    obtain ⟨f, rfl⟩ : ∃ f, fuel = f + 1 := ⟨fuel - 1, by omega⟩
    rw [eflattenL] at h ⊢
    have hpos := eflatten_length_pos n
    simp only [List.length_append] at h
    have h1 := parseNode_eflatten n (eflattenL ns ++ .seqEnd el :: rest) f (by omega)
    have h2 := parseItems_eflatten ns el rest f (by omega)
    obtain ⟨e, tl, he, hne, -⟩ := eflatten_head n
    rw [List.append_assoc]
    rw [parseItems]
    · rw [h1]
      simp only []
      rw [h2]
    · intro el' rest' heq
      rw [he] at heq
      simp only [List.cons_append, List.cons.injEq] at heq
      exact hne _ heq.1
theorem parseEntries_eflatten : ∀ (es : List (ENode × ENode)) (el : Loc) (rest : List Ev) (fuel : Nat),
    (eflattenE es).length + 1 ≤ fuel →
    parseEntries fuel (eflattenE es ++ .mapEnd el :: rest) = some (es, el, rest)
  | [], el, rest, fuel, h => by
    obtain ⟨f, rfl⟩ : ∃ f, fuel = f + 1 := ⟨fuel - 1, by omega⟩
    simp [eflattenE, parseEntries]
  | (k, v) :: es, el, rest, fuel, h => by
    obtain ⟨f, rfl⟩ : ∃ f, fuel = f + 1 := ⟨fuel - 1, by omega⟩
    rw [eflattenE] at h ⊢
    have hk := eflatten_length_pos k
    have hv := eflatten_length_pos v
    simp only [List.length_append] at h
    have h1 := parseNode_eflatten k (eflatten v ++ (eflattenE es ++ .mapEnd el :: rest)) f (by omega)
    have h2 := parseNode_eflatten v (eflattenE es ++ .mapEnd el :: rest) f (by omega)
    have h3 := parseEntries_eflatten es el rest f (by omega)
    obtain ⟨e, tl, he, -, hne⟩ := eflatten_head k
    rw [List.append_assoc, List.append_assoc]
    rw [parseEntries]
    · rw [h1]
      simp only []
      rw [h2]
      simp only []
      rw [h3]
    · intro el' rest' heq
      rw [he] at heq
      simp only [List.cons_append, List.cons.injEq] at heq
      exact hne _ heq.1
end

theorem treeOf_eflatten (n : ENode) : treeOf (eflatten n) = some n := by
  have := parseNode_eflatten n [] ((eflatten n).length + 1) (by omega)
  rw [List.append_nil] at this
  simp [treeOf, this]

def TabTree (σ : Tab) : Prop := ∀ x ∈ σ, ∃ n : ENode, x.2 = eflatten n

theorem TabTree_nil : TabTree [] := by intro x hx; cases hx

theorem TabTree_set {σ : Tab} (h : TabTree σ) (a : Nat) (n : ENode) : TabTree (setAnchor σ a (eflatten n)) := by
  intro x hx
  simp only [setAnchor, List.mem_cons] at hx
  rcases hx with rfl | hx
  · exact ⟨n, rfl⟩
  · exact h x hx

theorem TabTree_lookup {σ : Tab} (h : TabTree σ) {id : Nat} {buf : List Ev} (hl : lookupAnchor σ id = some buf) :
    ∃ n : ENode, buf = eflatten n := by
  unfold lookupAnchor at hl
  cases hf : σ.find? (fun p => p.1 == id) with
  | none => simp [hf] at hl
  | some x =>
    simp [hf] at hl
    subst hl
    exact h x (List.mem_of_find?_eq_some hf)

mutual
theorem expand_tree : ∀ (t : LNode) (σ : Tab) (opn : List Nat) (r : Exp), TabTree σ → expand σ opn t = .ok r →
    (∃ n : ENode, r.evs = eflatten n) ∧ TabTree r.tab
  | .scalar v st a tag loc, σ, opn, r, hσ, h => by
    simp only [expand] at h
    cases h
    refine ⟨⟨.scalar v (tagCode tag) tag (normStyle v st a) a loc, by simp [eflatten, scalarEv]⟩, ?_⟩
    simp only
    split
    · exact TabTree_set hσ a (.scalar v (tagCode tag) tag (normStyle v st a) a loc)
    · exact hσ
  | .alias id loc, σ, opn, r, hσ, h => by
    obtain ⟨hb, ht⟩ := expand_alias_ok h
    exact ⟨TabTree_lookup hσ hb, ht ▸ hσ⟩
  | .seq a tag loc eloc items, σ, opn, r, hσ, h => by
    rw [expand_seq] at h
    obtain ⟨r1, h1, rfl⟩ := wrap_ok h
    obtain ⟨⟨ns, hns⟩, ht⟩ := expandL_tree items σ _ r1 hσ h1
    have hw : Ev.seqStart a (tagCode tag) tag loc :: (r1.evs ++ [Ev.seqEnd eloc]) =
        eflatten (.seq a (tagCode tag) tag loc eloc ns) := by rw [eflatten, hns]
    refine ⟨⟨_, hw⟩, ?_⟩
    simp only
    split
    · rw [hw]; exact TabTree_set ht a _
    · exact ht
  | .map a tag loc eloc entries, σ, opn, r, hσ, h => by
    rw [expand_map] at h
    obtain ⟨r1, h1, rfl⟩ := wrap_ok h
    obtain ⟨⟨es, hes⟩, ht⟩ := expandE_tree entries σ _ r1 hσ h1
    have hw : Ev.mapStart a loc :: (r1.evs ++ [Ev.mapEnd eloc]) = eflatten (.map a loc eloc es) := by
      rw [eflatten, hes]
    refine ⟨⟨_, hw⟩, ?_⟩
    simp only
    split
    · rw [hw]; exact TabTree_set ht a _
    · exact ht
theorem expandL_tree : ∀ (ts : List LNode) (σ : Tab) (opn : List Nat) (r : Exp), TabTree σ →
    expandL σ opn ts = .ok r → (∃ ns : List ENode, r.evs = eflattenL ns) ∧ TabTree r.tab
  | [], σ, opn, r, hσ, h => by
    simp only [expandL] at h
    cases h
    exact ⟨⟨[], by simp [eflattenL]⟩, hσ⟩
  | t :: ts, σ, opn, r, hσ, h => by
    rw [expandL_cons] at h
    obtain ⟨r1, r2, h1, h2, rfl⟩ := bind2_ok h
    obtain ⟨⟨n, hn⟩, ht1⟩ := expand_tree t σ opn r1 hσ h1
    obtain ⟨⟨ns, hns⟩, ht2⟩ := expandL_tree ts r1.tab opn r2 ht1 h2
    exact ⟨⟨n :: ns, by simp only [eflattenL]; rw [hn, hns]⟩, ht2⟩
theorem expandE_tree : ∀ (es : List (LNode × LNode)) (σ : Tab) (opn : List Nat) (r : Exp), TabTree σ →
    expandE σ opn es = .ok r → (∃ es' : List (ENode × ENode), r.evs = eflattenE es') ∧ TabTree r.tab
  | [], σ, opn, r, hσ, h => by
    simp only [expandE] at h
    cases h
    exact ⟨⟨[], by simp [eflattenE]⟩, hσ⟩
  | (k, v) :: es, σ, opn, r, hσ, h => by
    rw [expandE_cons] at h
    obtain ⟨_, r3, h12, h3, rfl⟩ := bind2_ok h
    obtain ⟨r1, r2, h1, h2, rfl⟩ := bind2_ok h12
    obtain ⟨⟨nk, hnk⟩, ht1⟩ := expand_tree k σ opn r1 hσ h1
    obtain ⟨⟨nv, hnv⟩, ht2⟩ := expand_tree v r1.tab opn r2 ht1 h2
    obtain ⟨⟨es', hes⟩, ht3⟩ := expandE_tree es r2.tab opn r3 ht2 h3
    exact ⟨⟨(nk, nv) :: es', by simp only [eflattenE]; rw [hnk, hnv, hes]⟩, ht3⟩
end

theorem expand_treeOf (t : LNode) (r : Exp) (h : expand [] [] t = .ok r) :
    ∃ n : ENode, treeOf r.evs = some n ∧ r.evs = eflatten n := by
  obtain ⟨⟨n, hn⟩, -⟩ := expand_tree t [] [] r TabTree_nil h
  exact ⟨n, by rw [hn]; exact treeOf_eflatten n, hn⟩

end SaphyrVerif.Lemmas.CurSim
