import SaphyrVerif.Model.SerScalar
import SaphyrVerif.Spec.Scalars
import SaphyrVerif.Lemmas.C12Plain
import SaphyrVerif.Lemmas.Text
/-!
Helper lemmas for C12, integers: Rust's `Display` text of an integer denotes that integer in the
notation of `Spec/Scalars.lean` (`intNotation` / `uintNotation`), so C06's exactness theorems give the round trip.
-/
namespace SaphyrVerif.Lemmas.C12
open SaphyrVerif SaphyrVerif.SerScalar SaphyrVerif.Scalars SaphyrVerif.Spec

def dchar (d : Nat) : Char := Char.ofNat (48 + d)

/-- a digit character: its value; no separator, no whitespace, no sign, not the letter of a radix prefix -/
theorem dchar_facts : ∀ d, d < 10 →
    digitOf 10 (dchar d) = some d ∧ (dchar d != '_') = true ∧ isWhitespace (dchar d) = false ∧
    dchar d ∉ ['x', 'X', 'o', 'O', 'b', 'B', '-', '+'] := by decide +kernel

def IsDigits (l : List Char) : Prop := ∀ c ∈ l, ∃ d, d < 10 ∧ c = dchar d

theorem natDigits_digits (n : Nat) : IsDigits (natDigits n) := by
  induction n using Nat.strongRecOn with
  | _ n ih =>
    rw [natDigits]
    by_cases h : n < 10
    · rw [if_pos h]
      intro c hc
      simp only [List.mem_singleton] at hc
      exact ⟨n, h, hc⟩
    · rw [if_neg h]
      intro c hc
      simp only [List.mem_append, List.mem_singleton] at hc
      rcases hc with hc | hc
      · exact ih (n / 10) (by omega) c hc
      · exact ⟨n % 10, by omega, hc⟩

theorem natDigits_ne_nil (n : Nat) : natDigits n ≠ [] := by
  rw [natDigits]
  by_cases h : n < 10
  · rw [if_pos h]; simp
  · rw [if_neg h]; simp

def valOf (ds : List Char) : Option Nat :=
  (ds.mapM (digitOf 10)).map (List.foldl (fun a d => a * 10 + d) 0)

theorem mapM_snoc (l : List Char) (c : Char) :
    (l ++ [c]).mapM (digitOf 10) = (l.mapM (digitOf 10)).bind (fun vs => (digitOf 10 c).map (fun d => vs ++ [d])) := by
  induction l with
  | nil => cases h : digitOf 10 c <;> simp [List.mapM_cons, h]
  | cons a l ih =>
    simp only [List.cons_append, List.mapM_cons, ih]
    cases ha : digitOf 10 a with
    | none => simp
    | some va =>
      cases hl : l.mapM (digitOf 10) with
      | none => simp
      | some vl => cases hc : digitOf 10 c <;> simp

theorem valOf_natDigits (n : Nat) : valOf (natDigits n) = some n := by
  induction n using Nat.strongRecOn with
  | _ n ih =>
    rw [natDigits]
    by_cases h : n < 10
    · rw [if_pos h]
      obtain ⟨hd, _⟩ := dchar_facts n h
      show valOf [dchar n] = some n
      simp [valOf, List.mapM_cons, hd]
    · rw [if_neg h]
      have hi := ih (n / 10) (by omega)
      obtain ⟨hd, _⟩ := dchar_facts (n % 10) (by omega)
      unfold valOf at hi ⊢
      show ((natDigits (n / 10) ++ [dchar (n % 10)]).mapM (digitOf 10)).map _ = some n
      rw [mapM_snoc, hd]
      cases hm : (natDigits (n / 10)).mapM (digitOf 10) with
      | none => rw [hm] at hi; simp at hi
      | some vs =>
        rw [hm] at hi
        simp only [Option.map_some, Option.some.injEq] at hi
        simp only [Option.map_some, Option.bind_some, List.foldl_append, List.foldl_cons, List.foldl_nil, hi, Option.some.injEq]
        omega

theorem filter_digits (l : List Char) (h : IsDigits l) : l.filter (fun c => c != '_') = l := by
  apply List.filter_eq_self.mpr
  intro c hc
  obtain ⟨d, hd, e⟩ := h c hc
  subst e
  exact (dchar_facts d hd).2.1

theorem digitsValue_natDigits (n : Nat) : digitsValue? 10 (natDigits n) = some n := by
  unfold digitsValue?
  simp only [filter_digits _ (natDigits_digits n)]
  have hne := natDigits_ne_nil n
  have : (natDigits n).isEmpty = false := by
    cases h : natDigits n with
    | nil => exact absurd h hne
    | cons a b => rfl
  rw [this]
  exact valOf_natDigits n

/-- a digit string has no radix prefix (legacy octal off: a leading zero does not matter) -/
theorem radix_digits (l : List Char) (h : IsDigits l) : radixAndDigits false l = (10, l) := by
  unfold radixAndDigits
  split <;> first
    | rfl
    | (rename_i c r; obtain ⟨d, hd, e⟩ := h _ (List.mem_cons_of_mem _ (List.mem_cons_self ..))
       exact absurd (e ▸ by simp) (dchar_facts d hd).2.2.2)

theorem IsDigits.no_ws {l : List Char} (h : IsDigits l) : ∀ c ∈ l, isWhitespace c = false := by
  intro c hc
  obtain ⟨d, hd, rfl⟩ := h c hc
  exact (dchar_facts d hd).2.2.1

theorem notation_digits (l : List Char) (hne : l ≠ []) (h : IsDigits l) :
    uintNotation false l = digitsValue? 10 l ∧ intNotation false l = (digitsValue? 10 l).map Int.ofNat ∧
      intNotation false ('-' :: l) = (digitsValue? 10 l).map fun m => - Int.ofNat m := by
  have hws : ∀ c ∈ '-' :: l, isWhitespace c = false := by
    intro c hc
    rcases List.mem_cons.mp hc with rfl | hc
    · decide
    · exact h.no_ws c hc
  unfold uintNotation intNotation
  rw [trim_of_no_ws h.no_ws, trim_of_no_ws hws]
  obtain ⟨c, r, rfl⟩ := List.exists_cons_of_ne_nil hne
  obtain ⟨d, hd, rfl⟩ := h c (List.mem_cons_self ..)
  have h1 : dchar d ≠ '-' := fun e => (dchar_facts d hd).2.2.2 (by rw [e]; decide)
  have h2 : dchar d ≠ '+' := fun e => (dchar_facts d hd).2.2.2 (by rw [e]; decide)
  refine ⟨?_, ?_, ?_⟩ <;> dsimp only
  · split
    · rename_i heq; exact absurd (List.cons.inj heq).1 h1
    · split
      · rename_i heq; exact absurd (List.cons.inj heq).1 h2
      · simp only [radix_digits _ h]
  · split
    · rename_i heq; exact absurd (List.cons.inj heq).1 h2
    · rename_i heq; exact absurd (List.cons.inj heq).1 h1
    · simp only [radix_digits _ h, Bool.false_eq_true, if_false]
  · simp only [radix_digits _ h, if_true]

theorem uintNotation_natDigits (n : Nat) : uintNotation false (natDigits n) = some n := by
  rw [(notation_digits _ (natDigits_ne_nil n) (natDigits_digits n)).1, digitsValue_natDigits]

theorem intNotation_showInt (v : Int) : intNotation false (showInt v) = some v := by
  obtain ⟨-, hpos, hneg⟩ := notation_digits _ (natDigits_ne_nil v.natAbs) (natDigits_digits v.natAbs)
  unfold showInt
  split
  · rw [hneg, digitsValue_natDigits, Option.map_some, Int.ofNat_eq_natCast]; congr 1; omega
  · rw [hpos, digitsValue_natDigits, Option.map_some, Int.ofNat_eq_natCast]; congr 1; omega

end SaphyrVerif.Lemmas.C12
