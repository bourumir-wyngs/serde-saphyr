import SaphyrVerif.Lemmas.C11_Root
import SaphyrVerif.Lemmas.C11_Iter
import SaphyrVerif.Lemmas.C11_Skip
/-!
Helper lemmas for C11: the iterator loop stabilises.  One iteration either finishes (whatever
the remaining fuel) or continues from a strictly smaller cursor; the order is well-founded.
-/
namespace SaphyrVerif.Lemmas.C11
open SaphyrVerif SaphyrVerif.Scalars SaphyrVerif.Pump SaphyrVerif.De SaphyrVerif.Entry

theorem lt_induction (P : Cur → Prop) (hstep : ∀ c, (∀ c', Lt c c' → P c') → P c) : ∀ c, P c := by
  have key : ∀ a b c, curA c = a → curB c = b → P c := by
    intro a
    induction a using Nat.strongRecOn with
    | _ a iha =>
      intro b
      induction b using Nat.strongRecOn with
      | _ b ihb =>
        intro c ha hb
        apply hstep
        intro c' hlt
        rcases hlt.2 with h | ⟨h1, h2⟩
        · exact iha (curA c') (by omega) (curB c') c' rfl rfl
        · exact ihb (curB c') (by omega) c' (by omega) rfl
  intro c
  exact key _ _ c rfl rfl

abbrev Items := List (Except DErr Val)

/-- what one iteration of the iterator does, for every amount of remaining fuel `m`: it stops with further items
`x`, or goes on with `x` appended from a strictly smaller cursor -/
def StepOutcome (cfg : Cfg) (ty : Ty) (c0 : Cur) (F : Nat → Items → Items) : Prop :=
  (∃ x : Items, ∀ m acc, F m acc = acc ++ x) ∨
  (∃ (p' : Pump) (inp' : List RawItem) (x : Items), Lt c0 (.live p' inp') ∧
    ∀ m acc, F m acc = iterLoop cfg ty m p' inp' (acc ++ x))

theorem step_cases (cfg : Cfg) (ty : Ty) (p : Pump) (inp : List RawItem) :
    StepOutcome cfg ty (.live p inp) (fun m acc => iterLoop cfg ty (m + 1) p inp acc) := by
  -- recovery after an error item: skip to the next document
  have hskip : ∀ (e : DErr) (p2 : Pump) (inp2 : List RawItem), Le (.live p inp) (.live p2 inp2) →
      StepOutcome cfg ty (.live p inp) (fun m acc =>
        let (found, p, inp) := Pump.skipToNextDocument p2 inp2
        if found then iterLoop cfg ty m p inp (acc ++ [.error e]) else acc ++ [.error e]) := by
    intro e p2 inp2 hle
    have hlen := skipLoop_length inp2 { p2 with look := none, inject := [], recStack := [] }
    rcases hs : Pump.skipToNextDocument p2 inp2 with ⟨found, p3, inp3⟩
    unfold Pump.skipToNextDocument at hs
    rw [hs] at hlen
    cases found with
    | false => exact Or.inl ⟨[.error e], fun m acc => by simp⟩
    | true =>
      refine Or.inr ⟨p3, inp3, [.error e], ?_, fun m acc => by simp⟩
      have h3 := hlen rfl
      refine ⟨rfl, Or.inl ?_⟩
      have := hle.2
      simp only [curA] at h3 this ⊢
      omega
  cases hpk : Cur.peek (.live p inp) with
  | err e c => exact Or.inl ⟨[.error e], fun m acc => by simp only [iterLoop, hpk]⟩
  | ok o c =>
    have hple : Le (.live p inp) c := by have := peek_le (.live p inp); rwa [hpk] at this
    obtain ⟨p1, inp1, rfl⟩ := live_of_le hple
    cases o with
    | none =>
      refine Or.inl ⟨match finishCur (.live p1 inp1) with
        | some e => [.error e]
        | none => [], fun m acc => ?_⟩
      simp only [iterLoop, hpk]
      cases finishCur (.live p1 inp1) <;> simp
    | some ev =>
      have hlook := look_of_peek hpk
      by_cases hopen : Lemmas.C05.Ev.isOpen ev = true
      · simp only [Lemmas.C11B.iterLoop_open cfg ty hpk hopen]
        by_cases hnull : Lemmas.C11T.evIsNull ev = true
        · -- a null-like root scalar is skipped
          simp only [hnull, if_true]
          obtain ⟨c2, hn, hlt⟩ := next_of_look hlook
          obtain ⟨p2, inp2, rfl⟩ := live_of_curK (c := c2) (by rw [hlt.1, hple.1]; rfl)
          exact Or.inr ⟨p2, inp2, [], hple.trans_lt hlt, fun m acc => by simp only [hn, List.append_nil]⟩
        · -- the typed deserializer (never on a container end)
          simp only [hnull, if_false, Bool.false_eq_true]
          have hne : isEndEv ev = false := by
            cases ev <;> first | rfl | simp [Lemmas.C05.Ev.isOpen] at hopen
          have hroot := deser_root (fuelFor 100000) cfg ty false false (.live p1 inp1) ev hlook
            (fun h => by rw [hne] at h; cases h)
          have hle2 := (allLe (fuelFor 100000)).deser cfg ty false false (.live p1 inp1)
          cases hr : deser (fuelFor 100000) cfg ty false false (.live p1 inp1) with
          | ok v c2 =>
            rw [hr] at hroot
            obtain ⟨p2, inp2, rfl⟩ := deser_live hr
            exact Or.inr ⟨p2, inp2, [.ok v], hple.trans_lt hroot, fun m acc => rfl⟩
          | err e c2 =>
            rw [hr] at hle2
            obtain ⟨p2, inp2, rfl⟩ := live_of_le (c := c2) hle2
            exact hskip e p2 inp2 (hple.trans hle2)
      · -- a container end where a document should start: error item, then the recovery
        cases ev with
        | seqEnd l =>
          simp only [Lemmas.C11B.iterLoop_seqEnd cfg ty hpk]
          exact hskip _ p1 inp1 hple
        | mapEnd l =>
          simp only [Lemmas.C11B.iterLoop_mapEnd cfg ty hpk]
          exact hskip _ p1 inp1 hple
        | _ => simp [Lemmas.C05.Ev.isOpen] at hopen

theorem iter_stabilises (cfg : Cfg) (ty : Ty) (p : Pump) (inp : List RawItem) :
    ∃ n, ∀ k acc, iterLoop cfg ty (n + k) p inp acc = iterLoop cfg ty n p inp acc := by
  have key : ∀ c : Cur, ∀ p inp, c = .live p inp →
      ∃ n, ∀ k acc, iterLoop cfg ty (n + k) p inp acc = iterLoop cfg ty n p inp acc := by
    intro c
    induction c using lt_induction with
    | hstep c ih =>
      intro p inp hc
      subst hc
      rcases step_cases cfg ty p inp with ⟨x, hT⟩ | ⟨p', inp', x, hlt, hrec⟩
      · refine ⟨1, fun k acc => ?_⟩
        have h1 := hT k acc
        have h2 := hT 0 acc
        simp only at h1 h2
        rw [Nat.add_comm 1 k, h1]
        exact h2.symm
      · obtain ⟨n', hn'⟩ := ih _ hlt p' inp' rfl
        refine ⟨n' + 1, fun k acc => ?_⟩
        have h1 := hrec (n' + k) acc
        have h2 := hrec n' acc
        simp only at h1 h2
        rw [show n' + 1 + k = n' + k + 1 by omega, h1, h2]
        exact hn' k (acc ++ x)
  exact key _ p inp rfl

end SaphyrVerif.Lemmas.C11

namespace SaphyrVerif.Lemmas.C11T
open SaphyrVerif SaphyrVerif.Pump SaphyrVerif.De SaphyrVerif.Entry

theorem iterLoop_extends (cfg : Cfg) (ty : Ty) : ∀ (fuel : Nat) (p : Pump) (inp : List RawItem)
    (acc : List (Except DErr Val)), ∃ tail, iterLoop cfg ty fuel p inp acc = acc ++ tail
  | 0, _, _, acc => ⟨[], by simp [iterLoop]⟩
  | n + 1, p, inp, acc => by
    rcases Lemmas.C11.step_cases cfg ty p inp with ⟨x, h⟩ | ⟨p', inp', x, -, h⟩
    · exact ⟨x, h n acc⟩
    · obtain ⟨t, ht⟩ := iterLoop_extends cfg ty n p' inp' (acc ++ x)
      exact ⟨x ++ t, by rw [← List.append_assoc, ← ht]; exact h n acc⟩

end SaphyrVerif.Lemmas.C11T
