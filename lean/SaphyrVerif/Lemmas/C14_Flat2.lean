import SaphyrVerif.Lemmas.C14_Flat
/-!
C14, records with one level of sharing: the field-by-field simulation between the serializer's pointer
table and the deserializer's store.
-/
namespace SaphyrVerif.Lemmas.C14
open SaphyrVerif.Anchors SaphyrVerif.Spec.Anchors

theorem cell_afterDefine_self (D : DeSt) (k : Kind) (id tid : Nat) (o : Out) (pv : RVal) :
    (afterDefine D k id tid o pv).cell D.nextPtr = some pv := by
  cases hk : k.isRec <;> simp [DeSt.cell, afterDefine, hk]

theorem cell_afterDefine_other (D : DeSt) (k : Kind) (id tid : Nat) (o : Out) (pv : RVal) (q : Ptr)
    (h : q ≠ D.nextPtr) : (afterDefine D k id tid o pv).cell q = D.cell q := by
  cases hk : k.isRec <;> simp [DeSt.cell, afterDefine, hk, lookup_cons_ne h]

theorem Inv.store_fresh {H : Heap} {kindOf : Ptr → Kind × Nat} {S : SerSt} {D : DeSt} (inv : Inv H kindOf S D)
    (k : Kind) : D.store.lookup (k, S.next) = none := by
  cases hs : D.store.lookup (k, S.next) with
  | none => rfl
  | some v => exact absurd (inv.keys _ v hs).1 (Nat.lt_irrefl _)

theorem inv_define (H : Heap) (kindOf : Ptr → Kind × Nat) (S : SerSt) (D : DeSt) (inv : Inv H kindOf S D)
    (p : Ptr) (k : Kind) (tid : Nat) (hk : kindOf p = (k, tid)) (payload : Val)
    (hl : H.lookup p = some payload) (hp : plainV payload = true) (ht : takesRoot payload = true)
    (hfresh : S.anchors.lookup p = none) :
    let S1 := SerSt.mk ((p, S.next) :: S.anchors) (S.next + 1) none []
    let D1 := afterDefine D k S.next tid (plainOut S.next payload) (plainOf payload)
    Inv H kindOf S1 D1 ∧ Ext S D S1 D1 ∧ S1.anchors.lookup p = some S.next ∧
      D1.store.lookup (k, S.next) = some (D.nextPtr, tid) := by
  intro S1 D1
  have hstore : D1.store = ((k, S.next), (D.nextPtr, tid)) :: D.store := rfl
  have hdefs : D1.defs = (S.next, plainOut S.next payload) :: D.defs := rfl
  have hanch : S1.anchors = (p, S.next) :: S.anchors := rfl
  have old_key_ne : ∀ key v, D.store.lookup key = some v → key ≠ (k, S.next) := by
    intro key v h e
    rw [e, inv.store_fresh k] at h
    cases h
  refine ⟨⟨rfl, rfl, tableOK_cons p inv.tab (Nat.le_succ _) inv.next1 (Nat.lt_succ_self _),
    tableInj_alloc _ _ p inv.tinj inv.tab,
    Nat.le_succ_of_le inv.next1, inv.stack, inv.opn, ?_, ?_, ?_⟩, ⟨?_, ?_, ?_, Nat.le_succ _⟩,
    List.lookup_cons_self, List.lookup_cons_self⟩
  · -- stored
    intro p' id' h'
    rw [hanch] at h'
    by_cases hpp : p' = p
    · subst hpp
      rw [List.lookup_cons_self] at h'
      cases h'
      refine ⟨D.nextPtr, payload, hl, ht, hp, ?_, cell_afterDefine_self .., ?_⟩
      · rw [hk, hstore, List.lookup_cons_self]
      · rw [hdefs, List.lookup_cons_self]
    · rw [lookup_cons_ne hpp] at h'
      obtain ⟨q0, payload0, a1, a2, a3, a4, a5, a6⟩ := inv.stored p' id' h'
      have hid : id' ≠ S.next := Nat.ne_of_lt (tableOK_lookup inv.tab h').2
      refine ⟨q0, payload0, a1, a2, a3, ?_, ?_, ?_⟩
      · rw [hstore, lookup_cons_ne (old_key_ne _ _ a4)]
        exact a4
      · rw [cell_afterDefine_other _ _ _ _ _ _ _ (Nat.ne_of_lt (inv.keys _ _ a4).2)]
        exact a5
      · rw [hdefs, lookup_cons_ne hid]
        exact a6
  · -- keys
    intro key v h
    rw [hstore] at h
    by_cases hkey : key = (k, S.next)
    · subst hkey
      rw [List.lookup_cons_self] at h
      cases h
      exact ⟨Nat.lt_succ_self _, Nat.lt_succ_self _⟩
    · rw [lookup_cons_ne hkey] at h
      have := inv.keys key v h
      exact ⟨Nat.lt_succ_of_lt this.1, Nat.lt_succ_of_lt this.2⟩
  · -- qinj
    exact lookup_inj_cons Prod.fst inv.qinj (fun k' v h => Nat.ne_of_lt (inv.keys k' v h).2)
  · -- Ext: table
    intro p0 id0 h0
    have : p0 ≠ p := by
      intro e
      rw [e, hfresh] at h0
      cases h0
    rw [hanch, lookup_cons_ne this]
    exact h0
  · -- Ext: store
    intro key v h
    rw [hstore, lookup_cons_ne (old_key_ne key v h)]
    exact h
  · -- Ext: cells
    intro q0 c hq hc
    rw [cell_afterDefine_other _ _ _ _ _ _ _ (Nat.ne_of_lt hq)]
    exact hc

theorem flat_step_plain (H : Heap) (fuel' : Nat) (it : Val) (hp : plainV it = true) (S : SerSt)
    (hpend : S.pending = none) (D : DeSt) (o : Out) (S' : SerSt) (hser : Ser H S it o S')
    (ty : Ty) (hty : tyOf fuel' H it = some ty) : S' = S ∧ de ty o D = .ok (plainOf it, o, D) := by
  obtain ⟨e1, e2⟩ := hser.plain hp (Or.inl hpend)
  rw [hpend, Option.getD_none] at e1
  rw [SerSt.pending_none_eta S hpend] at e2
  have := tyOf_plain H fuel' it ty hp hty
  subst e1 e2 this
  exact ⟨rfl, by rw [de, de_plain onAliasLive true it 0 D hp, recordDef_zero]⟩

/-- one field: serializer step, type of the field, deserializer step.  Reading the field back succeeds
and keeps the invariant — unless the field is a live weak edge whose owner has not been written yet: then
the definition lands on the weak field, and reading it back fails. -/
theorem flat_step_cases (H : Heap) (kindOf : Ptr → Kind × Nat) (fuel' : Nat) (it : Val)
    (hit : FlatItem H kindOf it) (S : SerSt) (D : DeSt) (inv : Inv H kindOf S D)
    (o : Out) (S' : SerSt) (hser : Ser H S it o S')
    (ty : Ty) (hty : tyOf fuel' H it = some ty) :
    (∃ rv e D', de ty o D = .ok (rv, e, D') ∧
      Inv H kindOf S' D' ∧ Ext S D S' D' ∧ FieldRel H S' D' it rv) ∨
    ((∃ k tid p, it = .weak k tid p ∧ H.lookup p ≠ none ∧ S.anchors.lookup p = none) ∧
      ∀ r, de ty o D ≠ .ok r) := by
  cases it with
  | leaf lk =>
    obtain ⟨rfl, hde⟩ := flat_step_plain H fuel' _ rfl S inv.pend D o S' hser ty hty
    exact Or.inl ⟨_, _, _, hde, inv, Ext.refl _ _, rfl⟩
  | node m items =>
    obtain ⟨rfl, hde⟩ := flat_step_plain H fuel' (.node m items) hit S inv.pend D o S' hser ty hty
    exact Or.inl ⟨_, _, _, hde, inv, Ext.refl _ _, rfl⟩
  | strong k tid p =>
    obtain ⟨hk, payload, hl, hp, ht⟩ := hit
    have hty' := tyOf_strong fuel' H k tid p payload hl hp ty hty
    subst hty'
    rcases ser_edge_flat .strong hl hp ht inv.pend inv.held hser with ⟨id, h1, rfl, rfl⟩ | ⟨h1, rfl, rfl⟩
    · -- alias to a stored pointer
      obtain ⟨q, payload0, a1, a2, a3, a4, a5, a6⟩ := inv.stored p id h1
      rw [hl] at a1
      cases a1
      rw [hk] at a4
      have hid : id ≠ 0 := Nat.ne_of_gt (tableOK_lookup inv.tab h1).1
      exact Or.inl ⟨_, _, _, de_strong_alias k tid id hid payload hp ht D inv.opn a6 q a4, inv, Ext.refl _ _,
        id, q, h1, a4, rfl⟩
    · -- definition
      obtain ⟨b1, b2, b3, b4⟩ := inv_define H kindOf S D inv p k tid hk payload hl hp ht h1
      exact Or.inl ⟨_, _, _, de_strong_fresh k tid S.next (Nat.ne_of_gt inv.next1) payload hp ht D inv.stack
        (inv.store_fresh k), b1, b2, S.next, D.nextPtr, b3, b4, rfl⟩
  | weak k tid p =>
    obtain ⟨hk, hpl⟩ := hit
    have hty' := tyOf_weak fuel' H k tid p ty hty
    subst hty'
    cases hl : H.lookup p with
    | none =>
      cases hser with
      | dangling =>
        rw [inv.pend, SerSt.pending_none_eta S inv.pend]
        exact Or.inl ⟨_, _, _, de_weak_dangling k tid D, inv, Ext.refl _ _, Or.inl ⟨hl, rfl⟩⟩
      | alias he hc => cases he; rw [hl] at hc; cases hc
      | define he hc => cases he; rw [hl] at hc; cases hc
    | some payload =>
      obtain ⟨hp, ht⟩ := hpl _ hl
      rcases ser_edge_flat .weak hl hp ht inv.pend inv.held hser with ⟨id, h1, rfl, rfl⟩ | ⟨h1, rfl, rfl⟩
      · obtain ⟨q, payload0, a1, a2, a3, a4, a5, a6⟩ := inv.stored p id h1
        rw [hk] at a4
        have hid : id ≠ 0 := Nat.ne_of_gt (tableOK_lookup inv.tab h1).1
        exact Or.inl ⟨_, _, _, de_weak_alias k tid id hid payload0 a2 D inv.opn a6 q a4, inv, Ext.refl _ _,
          Or.inr ⟨by rw [hl]; nofun, id, q, h1, a4, rfl⟩⟩
      · -- the definition lands on the weak field
        have hra := rootAnchor_plainOut S.next _ ht
        refine Or.inr ⟨⟨k, tid, p, rfl, by rw [hl]; nofun, h1⟩, ?_⟩
        exact weak_unstored_fails onAliasLive true k tid _ (plainOut_not_alias _ _)
          (by rw [hra]; exact Nat.ne_of_gt inv.next1) D (by rw [hra]; exact inv.store_fresh k)

theorem Ext.known {S : SerSt} {D : DeSt} {S' : SerSt} {D' : DeSt} (h : Ext S D S' D') {p : Ptr}
    (hp : S.anchors.lookup p ≠ none) : S'.anchors.lookup p ≠ none := by
  cases hs : S.anchors.lookup p with
  | none => exact absurd hs hp
  | some id =>
    rw [h.tab p id hs]
    nofun

/-- the fields of a record, one after the other: reading them back succeeds and keeps the invariant, or a
live weak field comes before every strong field of its pointer (`seen`: pointers the table already knows)
and reading fails -/
theorem flat_list (H : Heap) (kindOf : Ptr → Kind × Nat) (fuel' : Nat) :
    ∀ (items : List Val), (∀ it ∈ items, FlatItem H kindOf it) →
    ∀ (S : SerSt) (D : DeSt), Inv H kindOf S D →
    ∀ (outs : List Out) (S' : SerSt), SerL H S items outs S' →
    ∀ (tys : List Ty), items.mapM (fun x => tyOf fuel' H x) = some tys →
    (∃ vs es D', deList onAliasLive true tys outs D = .ok (vs, es, D') ∧
      Inv H kindOf S' D' ∧ Ext S D S' D' ∧ FieldsRel H S' D' items vs) ∨
    ((∀ seen, (∀ p ∈ seen, S.anchors.lookup p ≠ none) → weaksAfterStrong H seen items = false) ∧
      ∀ r, deList onAliasLive true tys outs D ≠ .ok r) := by
  intro items
  induction items with
  | nil =>
    intro _ S D inv outs S' hser tys hty
    cases hser
    cases hty
    exact Or.inl ⟨[], [], D, rfl, inv, Ext.refl _ _, trivial⟩
  | cons x xs ih =>
    intro hflat S D inv outs S' hser tys hty
    cases hser with | cons hx hxs =>
    rename_i o1 S1 os
    obtain ⟨t1, ts, htx, htxs, rfl⟩ := mapM_cons_some.mp hty
    rcases flat_step_cases H kindOf fuel' x (hflat x (List.mem_cons_self ..)) S D inv o1 S1 hx t1 htx with
      ⟨v1, e1, D1, hd1, inv1, ext1, rel1⟩ | ⟨⟨k, tid, p, rfl, hl, hnone⟩, hfail⟩
    · rcases ih (fun it h => hflat it (List.mem_cons_of_mem _ h)) S1 D1 inv1 os S' hxs ts htxs with
        ⟨vs, es, D', hd, inv', ext', rel'⟩ | ⟨hws, hfail⟩
      · exact Or.inl ⟨v1 :: vs, e1 :: es, D', deList_cons_ok.mpr ⟨v1, e1, D1, vs, es, hd1, hd, rfl, rfl⟩, inv',
          ext1.trans ext', FieldRel.ext ext' x v1 rel1, rel'⟩
      · refine Or.inr ⟨fun seen hseen => ?_, fun r hr => ?_⟩
        · have hkeep : ∀ p ∈ seen, S1.anchors.lookup p ≠ none := fun p hp => ext1.known (hseen p hp)
          cases x with
          | leaf lk => exact hws seen hkeep
          | node m its => exact hws seen hkeep
          | weak k tid p0 => simp only [weaksAfterStrong, hws seen hkeep, Bool.and_false]
          | strong k tid p0 =>
            refine hws (p0 :: seen) fun p hp => ?_
            rcases List.mem_cons.mp hp with rfl | hp
            · obtain ⟨id, q, h1, _, _⟩ := rel1
              rw [h1]
              nofun
            · exact hkeep p hp
        · obtain ⟨v, e, D1', vs, es, h1, h2, _, _⟩ := deList_cons_ok.mp hr
          cases hd1.symm.trans h1
          exact hfail _ h2
    · -- the owner of a live weak field is not in the table
      refine Or.inr ⟨fun seen hseen => ?_, fun r hr => ?_⟩
      · have hl' : (H.lookup p).isNone = false := by
          cases h : H.lookup p with
          | none => exact absurd h hl
          | some _ => rfl
        have hs : seen.contains p = false := by
          cases h : seen.contains p with
          | false => rfl
          | true => exact absurd hnone (hseen p (by simpa using h))
        simp only [weaksAfterStrong, hl', hs, Bool.or_self, Bool.false_and]
      · obtain ⟨v, e, D1', vs, es, h1, _, _, _⟩ := deList_cons_ok.mp hr
        exact hfail _ h1

theorem inv_init (H : Heap) (kindOf : Ptr → Kind × Nat) : Inv H kindOf {} {} := by
  refine ⟨rfl, rfl, ?_, ?_, Nat.le_refl 1, rfl, rfl, ?_, ?_, ?_⟩
  · intro p id h; simp at h
  · intro p q id h; simp [List.lookup] at h
  · intro p id h; simp [List.lookup] at h
  · intro key v h; simp [List.lookup] at h
  · intro k1 k2 v1 v2 h; simp [List.lookup] at h

end SaphyrVerif.Lemmas.C14
