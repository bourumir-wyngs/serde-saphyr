import SaphyrVerif.Model.Tls
/-!
Helper lemmas for C15 (`Props/C15.lean`): what `tight` programs do to the fallback cell, what a top-level call
does to the thread-local state, and that `exec` only ever appends to the trace (`TP`).
-/
namespace SaphyrVerif.Tls

/-- the value the cell will hold once the innermost map access is dropped -/
def restoreVal (s : Slot) (f : Option Loc) : Option Loc :=
  match s with
  | some prev => prev
  | none => f

@[simp] theorem restoreVal_none (f : Option Loc) : restoreVal none f = f := rfl
@[simp] theorem restoreVal_some (p f : Option Loc) : restoreVal (some p) f = p := rfl

/-- a computation leaves the slot of the enclosing map access and the fallback cell as it found them -/
def Keeps (f : Slot → St → Out × Slot × St) : Prop :=
  ∀ s st, (f s st).2.1 = s ∧ (f s st).2.2.fallback = st.fallback

theorem Keeps.comp {f} (h : Keeps f) (g : St → St) (hg : ∀ st, (g st).fallback = st.fallback) :
    Keeps (fun s st => f s (g st)) :=
  fun s st => ⟨(h s (g st)).1, (h s (g st)).2.trans (hg st)⟩

theorem andThen_keeps {r : Out × Slot × St} {post : St → St} {s : Slot}
    {k : Slot → St → Out × Slot × St} {fb : Option Loc}
    (hk : Keeps k) (hp : (post r.2.2).fallback = fb) :
    (andThen r post s k).2.1 = s ∧ (andThen r post s k).2.2.fallback = fb := by
  unfold andThen
  cases r.1 with
  | ok => exact hp ▸ hk s (post r.2.2)
  | err l => exact ⟨rfl, hp⟩
  | panic => exact ⟨rfl, hp⟩

theorem scopeThen_keeps {r : Out × Slot × St} {st : St} {cont : Bool} {s : Slot}
    {k : Slot → St → Out × Slot × St} (hk : Keeps k) :
    (scopeThen r st cont s k).2.1 = s ∧ (scopeThen r st cont s k).2.2.fallback = st.fallback := by
  unfold scopeThen
  cases r.1 with
  | ok => exact hk s { r.2.2 with anchors := st.anchors, fallback := st.fallback }
  | err l =>
    cases cont with
    | false => exact ⟨rfl, rfl⟩
    | true => exact hk s { r.2.2 with anchors := st.anchors, fallback := st.fallback, ptrs := st.ptrs }
  | panic => exact ⟨rfl, rfl⟩

/-- `tight false p`: `p` has no key and no map access of its own (they sit in guard bodies) -/
theorem exec_keeps (p : Prog) : tight false p = true → Keeps (exec p) := by
  -- `tight` and `exec` compute on the head constructor
  induction p with
  | done => intro _ s st; exact ⟨rfl, rfl⟩
  | probe k ih => intro h s st; exact ih h s _
  | scope cont body k _ ihk => intro h s st; exact scopeThen_keeps (ihk h)
  | ctx kind anchor body k ihb ihk =>
    intro h s st
    obtain ⟨hb, hk⟩ := Bool.and_eq_true_iff.mp h
    cases anchor with
    | none => exact andThen_keeps (ihk hk) (ihb hb none st).2
    | some id => exact andThen_keeps (ihk hk) (ihb hb none _).2
  | strong kind body k ihb ihk =>
    intro h s st
    obtain ⟨hb, hk⟩ := Bool.and_eq_true_iff.mp h
    have hb := ihb hb none
    have hk := ihk hk
    rw [exec]
    split
    · exact andThen_keeps (hk.comp _ (fun _ => rfl)) (hb st).2
    · split
      · exact andThen_keeps (hk.comp _ (fun _ => rfl)) (hb st).2
      · split
        · exact ⟨rfl, rfl⟩
        · split
          · exact andThen_keeps (hk.comp _ (fun _ => rfl)) (hb _).2
          · exact andThen_keeps (hk.comp _ (fun _ => rfl)) (hb st).2
  | weak kind body k ihb ihk =>
    intro h s st
    obtain ⟨hb, hk⟩ := Bool.and_eq_true_iff.mp h
    rw [exec]
    split
    · exact ⟨rfl, rfl⟩
    · refine andThen_keeps (k := fun s st1 => _) ?_ (ihb hb none st).2
      intro s' st'
      simp only []
      split
      · exact ihk hk s' _
      · exact ⟨rfl, rfl⟩
  | guard loc body k _ ihk => intro h s st; exact andThen_keeps (ihk h) rfl
  | ma leak body k => intro h; cases h
  | key loc k => intro h; cases h
  | serr => intro _ s st; exact ⟨rfl, rfl⟩
  | err loc => intro _ s st; exact ⟨rfl, rfl⟩
  | panic => intro _ s st; exact ⟨rfl, rfl⟩
  | nest body k ihb ihk =>
    intro h s st
    obtain ⟨hb, hk⟩ := Bool.and_eq_true_iff.mp h
    have hb := (ihb hb none { anchors := st.anchors, fallback := st.fallback }).2
    exact ⟨(ihk hk s _).1, (ihk hk s _).2.trans hb⟩
  | recAlias id loc k ih =>
    intro h s st
    rw [exec]
    split
    · exact ih h s st
    · exact ⟨rfl, rfl⟩

def St.withTls (st : St) (a : Anchors) (f : Option Loc) : St := { st with anchors := a, fallback := f }

/-- A top-level call neither reads nor (in the end) changes the thread-locals it is entered with: run from
ANY entry value `(a, f)` it does what it does from `st`, and hands `(a, f)` back. -/
theorem exec_entry_tls (p : Prog) : isEntry p = true → ∀ (s : Slot) (st : St) (a : Anchors) (f : Option Loc),
    exec p s (st.withTls a f) = ((exec p s st).1, (exec p s st).2.1, (exec p s st).2.2.withTls a f) := by
  induction p with
  | done => intro _ s st a f; simp [exec, St.withTls]
  | err loc => intro _ s st a f; simp [exec, St.withTls]
  | scope cont body k _ ihk =>
    intro h s st a f
    simp only [isEntry] at h
    simp only [exec]
    show scopeThen (exec body none { st with anchors := .empty, fallback := none }) (st.withTls a f) cont s (exec k) = _
    unfold scopeThen
    cases (exec body none { st with anchors := .empty, fallback := none }).1 with
    | ok =>
      exact ihk h s { (exec body none { st with anchors := .empty, fallback := none }).2.2 with
        anchors := st.anchors, fallback := st.fallback } a f
    | err l =>
      cases cont with
      | false => rfl
      | true =>
        exact ihk h s { (exec body none { st with anchors := .empty, fallback := none }).2.2 with
          anchors := st.anchors, fallback := st.fallback, ptrs := st.ptrs } a f
    | panic => rfl
  | probe | ctx | strong | weak | guard | ma | key | serr | panic | nest | recAlias => intro h; simp [isEntry] at h

def St.pre (pre : List Item) (st : St) : St := { st with trace := pre ++ st.trace }

def addPre (pre : List Item) (r : Out × Slot × St) : Out × Slot × St := (r.1, r.2.1, r.2.2.pre pre)

/-- "trace prefix": a continuation only appends to the trace — started with `pre` already in the trace it does what it
does without, with `pre` in front (`addPre`) -/
def TP (k : Slot → St → Out × Slot × St) : Prop := ∀ pre s st, k s (st.pre pre) = addPre pre (k s st)

theorem andThen_tp {pre : List Item} {r r' : Out × Slot × St} {post post' : St → St} {s : Slot}
    {k : Slot → St → Out × Slot × St} (hr : r' = addPre pre r)
    (hp : post' (r.2.2.pre pre) = (post r.2.2).pre pre) (hk : TP k) :
    andThen r' post' s k = addPre pre (andThen r post s k) := by
  subst hr
  unfold andThen
  simp only [addPre, hp]
  cases r.1 with
  | ok => exact hk pre s _
  | err l => rfl
  | panic => rfl

theorem scopeThen_tp {pre : List Item} {r r' : Out × Slot × St} {st : St} {cont : Bool} {s : Slot}
    {k : Slot → St → Out × Slot × St} (hr : r' = addPre pre r) (hk : TP k) :
    scopeThen r' (st.pre pre) cont s k = addPre pre (scopeThen r st cont s k) := by
  subst hr
  obtain ⟨o, sl, rs⟩ := r
  cases o with
  | ok => exact hk pre s { rs with anchors := st.anchors, fallback := st.fallback }
  | err l =>
    cases cont with
    | false => rfl
    | true => exact hk pre s { rs with anchors := st.anchors, fallback := st.fallback, ptrs := st.ptrs }
  | panic => rfl

theorem TP.comp {k} (h : TP k) (g : St → St) (hg : ∀ pre st, g (st.pre pre) = (g st).pre pre) :
    TP (fun s st => k s (g st)) := by
  intro pre s st
  show k s (g (st.pre pre)) = addPre pre (k s (g st))
  rw [hg]
  exact h pre s (g st)

theorem exec_tp (p : Prog) : TP (exec p) := by
  -- `exec` computes on the head constructor; a state update that leaves the trace alone commutes with `St.pre`
  induction p with
  | done => intro pre s st; rfl
  | probe k ih =>
    intro pre s st
    have := ih pre s { st with trace := st.trace ++ [.obs st.anchors st.fallback] }
    simpa [exec, St.pre, List.append_assoc] using this
  | scope cont body k ihb ihk =>
    intro pre s st
    exact scopeThen_tp (ihb pre none { st with anchors := .empty, fallback := none }) ihk
  | ctx kind anchor body k ihb ihk =>
    intro pre s st
    cases anchor with
    | none => exact andThen_tp (ihb pre none st) rfl ihk
    | some id => exact andThen_tp (ihb pre none { st with anchors := st.anchors.push (kind, id) }) rfl ihk
  | strong kind body k ihb ihk =>
    intro pre s st
    rw [exec, exec, show (St.pre pre st).anchors = st.anchors from rfl]
    cases st.anchors.current kind with
    | none =>
      dsimp only
      exact andThen_tp (ihb pre none st) rfl (ihk.comp _ (by intros; rfl))
    | some id =>
      dsimp only
      cases st.anchors.get (kind, id) with
      | some p =>
        dsimp only
        exact andThen_tp (ihb pre none st) rfl (ihk.comp _ (by intros; rfl))
      | none =>
        dsimp only
        cases st.anchors.reentrant (kind, id) with
        | true => rfl
        | false =>
          rw [if_neg Bool.false_ne_true, if_neg Bool.false_ne_true]
          cases kind.isRec with
          | true =>
            rw [if_pos rfl, if_pos rfl]
            exact andThen_tp
              (ihb pre none { st with next := st.next + 1, anchors := st.anchors.put (kind, id) st.next }) rfl
              (ihk.comp _ (by intros; rfl))
          | false =>
            rw [if_neg Bool.false_ne_true, if_neg Bool.false_ne_true]
            exact andThen_tp (ihb pre none st) rfl (ihk.comp _ (by intros; rfl))
  | weak kind body k ihb ihk =>
    intro pre s st
    rw [exec, exec, show (St.pre pre st).anchors = st.anchors from rfl]
    cases st.anchors.current kind with
    | none => rfl
    | some id =>
      refine andThen_tp (ihb pre none st) rfl ?_
      intro pre' s' st'
      dsimp only
      rw [show (St.pre pre' st').anchors = st'.anchors from rfl]
      cases st'.anchors.get (kind, id) with
      | some p => exact ihk pre' s' { st' with ptrs := st'.ptrs ++ [p] }
      | none => rfl
  | guard loc body k ihb ihk =>
    intro pre s st
    exact andThen_tp (ihb pre none { st with fallback := some loc }) rfl ihk
  | ma leak body k ihb ihk =>
    intro pre s st
    exact andThen_tp (ihb pre none st) rfl ihk
  | key loc k ih =>
    intro pre s st
    cases s with
    | none => exact ih pre (some st.fallback) { st with fallback := some loc }
    | some p => exact ih pre (some p) { st with fallback := some loc }
  | serr => intro pre s st; rfl
  | err loc => intro pre s st; rfl
  | panic => intro pre s st; rfl
  | nest body k _ ihk =>
    intro pre s st
    simp only [exec]
    have := ihk pre s
      { st with anchors := (exec body none { anchors := st.anchors, fallback := st.fallback }).2.2.anchors,
                fallback := (exec body none { anchors := st.anchors, fallback := st.fallback }).2.2.fallback,
                trace := st.trace ++ [.nestBegin] ++ (exec body none { anchors := st.anchors, fallback := st.fallback }).2.2.trace ++
                  [.nestEnd (exec body none { anchors := st.anchors, fallback := st.fallback }).1
                    (exec body none { anchors := st.anchors, fallback := st.fallback }).2.2.ptrs] }
    simpa [St.pre, List.append_assoc] using this
  | recAlias id loc k ih =>
    intro pre s st
    simp only [exec]
    rw [show (St.pre pre st).anchors = st.anchors from rfl]
    cases st.anchors.recInProgress id with
    | true => exact ih pre s st
    | false => rfl

theorem exec_trace_irrelevant (p : Prog) (s : Slot) (st : St) (tr : List Item) :
    (exec p s { st with trace := tr }).1 = (exec p s st).1 ∧
    (exec p s { st with trace := tr }).2.2.ptrs = (exec p s st).2.2.ptrs ∧
    (exec p s { st with trace := tr }).2.2.anchors = (exec p s st).2.2.anchors ∧
    (exec p s { st with trace := tr }).2.2.fallback = (exec p s st).2.2.fallback := by
  -- both runs are the run from the empty trace with a prefix put in front
  have h := fun tr => exec_tp p tr s { st with trace := [] }
  simp only [St.pre, List.append_nil] at h
  rw [h tr, show exec p s st = _ from h st.trace]
  exact ⟨rfl, rfl, rfl, rfl⟩

end SaphyrVerif.Tls
