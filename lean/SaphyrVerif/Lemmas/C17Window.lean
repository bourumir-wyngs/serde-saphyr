import SaphyrVerif.Lemmas.C17Crop
/-!
C17: `find('\n')`, one line of the line loops, a loop over `nextLine` as a fold over the lines of the text
(`lineLoop_run`), and its first instance: the loop of `crop_window_text` folds `iterState` (`cwtLoop_run`).
-/
namespace SaphyrVerif.Lemmas.C17
open SaphyrVerif SaphyrVerif.Snippet

theorem findNl_of_not_mem (s : List Char) (h : '\n' ∉ s) : findNl s = none := by
  induction s with
  | nil => rfl
  | cons c cs ih =>
    rw [findNl, if_neg (fun hc => h (by rw [hc]; exact List.mem_cons_self ..)),
      ih (fun hm => h (List.mem_cons_of_mem _ hm))]
    rfl

theorem findNl_append_nl (pre post : List Char) (h : '\n' ∉ pre) : findNl (pre ++ '\n' :: post) = some (blen pre) := by
  induction pre with
  | nil => rw [List.nil_append, findNl, if_pos rfl]; rfl
  | cons c cs ih =>
    rw [List.cons_append, findNl, if_neg (fun hc => h (by rw [hc]; exact List.mem_cons_self ..)),
      ih (fun hm => h (List.mem_cons_of_mem _ hm)), blen_cons, Nat.add_comm]
    rfl

theorem findNl_none (s : List Char) (h : findNl s = none) : '\n' ∉ s := by
  obtain ⟨pre, T, e, hn, hT⟩ := split_first_line s
  rcases hT with rfl | ⟨post, rfl⟩
  · rwa [e, List.append_nil]
  · rw [e, findNl_append_nl _ _ hn] at h; cases h

theorem findNl_some (s : List Char) (i : Nat) (h : findNl s = some i) :
    ∃ pre post, s = pre ++ '\n' :: post ∧ '\n' ∉ pre ∧ i = blen pre := by
  obtain ⟨pre, T, e, hn, hT⟩ := split_first_line s
  rcases hT with rfl | ⟨post, rfl⟩
  · rw [e, List.append_nil, findNl_of_not_mem _ hn] at h; cases h
  · rw [e, findNl_append_nl _ _ hn] at h
    exact ⟨pre, post, e, hn, (Option.some.inj h).symm⟩

theorem nextLine_last (p pre : List Char) (site : String) (hn : '\n' ∉ pre) :
    nextLine (p ++ pre) (blen p) site = .ok (pre, false, blen (p ++ pre) - blen p) := by
  unfold nextLine
  rw [slice_from p pre]
  simp only [res_bind_ok, findNl_of_not_mem pre hn, Option.map_none]
  rfl

theorem nextLine_row (p pre post : List Char) (site : String) (hn : '\n' ∉ pre) :
    nextLine (p ++ (pre ++ '\n' :: post)) (blen p) site = .ok (pre, true, blen pre + 1) := by
  unfold nextLine
  rw [slice_from p _]
  simp only [res_bind_ok, findNl_append_nl pre post hn, Option.map_some]
  rw [← List.append_assoc, slice_append3 p pre ('\n' :: post)]
  simp only [res_bind_ok, res_pure, Nat.add_sub_cancel_left]

/-- a loop that reads the text `w` line by line from a byte position (`nextLine`) is a fold over the lines of the rest
of the text and never panics. Stated over what one iteration can do: stop at the end of the text (`done`), take a last
line without line break (`last`), take a line with its line break and go on behind it (`row`); `I` ties the position to
the state, `fin` reads the result off it. -/
theorem lineLoop_run {σ τ : Type} (w : List Char) (loop : Nat → Nat → σ → Res τ) (step : σ → List Char → Bool → σ)
    (fin : σ → τ) (I : Nat → σ → Prop)
    (done : ∀ fuel st, I (blen w) st → loop fuel (blen w) st = .ok (fin st))
    (last : ∀ fuel p pre st, w = p ++ pre → pre ≠ [] → '\n' ∉ pre → I (blen p) st →
      loop (fuel + 1) (blen p) st = .ok (fin (step st pre false)))
    (row : ∀ fuel p pre post st, w = p ++ (pre ++ '\n' :: post) → '\n' ∉ pre → I (blen p) st →
      loop (fuel + 1) (blen p) st = loop fuel (blen p + blen pre + 1) (step st pre true) ∧
        I (blen p + blen pre + 1) (step st pre true)) :
    ∀ (fuel : Nat) (p rest : List Char) (st : σ), w = p ++ rest → blen rest ≤ fuel → I (blen p) st →
      loop fuel (blen p) st = .ok (fin (foldLines step st rest)) := by
  intro fuel p rest
  have h1nl : utf8LenChar '\n' = 1 := by decide
  induction rest using lines_induction generalizing fuel p with
  | nil =>
    intro st hwp _ hI
    rw [List.append_nil] at hwp
    subst hwp
    rw [done _ _ hI]; rfl
  | last pre hnp hne =>
    intro st hwp hfuel hI
    obtain ⟨f, rfl⟩ : ∃ f, fuel = f + 1 := ⟨fuel - 1, by have := blen_pos_of_ne_nil _ hne; omega⟩
    rw [last f p pre st hwp hne hnp hI, foldLines_last step st pre hnp hne]
  | row pre post hnp ih =>
    intro st hwp hfuel hI
    rw [blen_append, blen_cons] at hfuel
    obtain ⟨f, rfl⟩ : ∃ f, fuel = f + 1 := ⟨fuel - 1, by omega⟩
    obtain ⟨h1, h2⟩ := row f p pre post st hwp hnp hI
    have e2 : blen p + blen pre + 1 = blen (p ++ pre ++ ['\n']) := by
      simp only [blen_append, blen_cons, blen_nil, h1nl]
    rw [h1, foldLines_row step st pre post hnp, e2]
    exact ih f (p ++ pre ++ ['\n']) _ (by rw [hwp]; simp) (by omega) (by rw [← e2]; exact h2)

/-- the pieces of `split_inclusive('\n')` put together are the text: every piece is a contiguous part of it -/
theorem splitInclusive_flatten (s : List Char) : (splitInclusive s).flatten = s := by
  induction s with
  | nil => rfl
  | cons c cs ih =>
    unfold splitInclusive
    by_cases hc : c = '\n'
    · rw [if_pos hc, List.flatten_cons, ih]; rfl
    · rw [if_neg hc]
      cases hq : splitInclusive cs with
      | nil => rw [hq] at ih; rw [← ih]; rfl
      | cons l ls => rw [hq] at ih; rw [← ih]; rfl

theorem splitInclusive_infix (s piece : List Char) (h : piece ∈ splitInclusive s) : piece <:+: s := by
  have := List.infix_of_mem_flatten h
  rwa [splitInclusive_flatten] at this

theorem blen_le_of_infix {a b : List Char} (h : a <:+: b) : blen a ≤ blen b := by
  obtain ⟨p, q, rfl⟩ := h
  rw [blen_append, blen_append]; omega

theorem stripCR_prefix (l : List Char) : stripCR l <+: l := by
  unfold stripCR
  split
  · exact List.dropLast_prefix l
  · exact List.prefix_refl l

theorem stripNL_prefix (l : List Char) : stripNL l <+: l := by
  unfold stripNL
  split
  · exact List.dropLast_prefix l
  · exact List.prefix_refl l

theorem stripCR_length_le (l : List Char) : (stripCR l).length ≤ l.length := (stripCR_prefix l).length_le

/-- rendered line and crop metadata of one iteration -/
def iterCrop (doCrop : Bool) (l r : Nat) (line : List Char) : List Char × LineCrop :=
  if doCrop then cropLinePure line l r else (line, ⟨0, 0⟩)

/-- the state after one iteration of the loop of `crop_window_text` on the line `pre`, which is followed by a
line break (`hadNl`) or by the end of the window text -/
def iterState (erow : Nat) (doCrop : Bool) (l r ls le : Nat) (st : CwtState) (pre : List Char) (hadNl : Bool) :
    CwtState :=
  let line := stripCR pre
  let rc := iterCrop doCrop l r line
  let lineStartNew := blen st.out
  let out := st.out ++ rc.1 ++ (if hadNl then ['\n'] else [])
  let st1 : CwtState :=
    if st.row = erow then
      let s0 := min (ls - st.oldPos) (blen line) - rc.2.startByte
      let e0 := min (le - st.oldPos) (blen line) - rc.2.startByte
      let mx := lineStartNew + blen rc.1
      let ns := min (lineStartNew + rc.2.prefixBytes + s0) mx
      let ne := min (lineStartNew + rc.2.prefixBytes + e0) mx
      { st with newStart := ns, newEnd := if ne < ns then ns else ne, rebased := true }
    else st
  { st1 with oldPos := st.oldPos + blen pre + (if hadNl then 1 else 0), row := st.row + 1, out := out }

theorem renderLine_eq (doCrop : Bool) (line : List Char) (l r : Nat) (hn : line.length + 1 ≤ usizeMax)
    (hlr : l ≤ satAdd r 1) : renderLine doCrop line l r = .ok (iterCrop doCrop l r line) := by
  unfold iterCrop renderLine
  cases doCrop with
  | false => rfl
  | true => simp only [if_true]; exact cropLine_eq line l r hn hlr

theorem cwtLoop_done (w : List Char) (erow : Nat) (doCrop : Bool) (l r ls le : Nat) (fuel : Nat) (st : CwtState)
    (h : ¬ st.oldPos < blen w) : cwtLoop w erow doCrop l r ls le fuel st = .ok st := by
  cases fuel with
  | zero => rw [cwtLoop, if_neg h]
  | succ f => rw [cwtLoop, if_neg h]

/-- one iteration of the loop of `crop_window_text`, once `nextLine` has delivered the line `pre` -/
theorem cwtLoop_line (w : List Char) (erow : Nat) (doCrop : Bool) (l r ls le : Nat) (hlr : l ≤ satAdd r 1)
    (fuel : Nat) (st : CwtState) (pre : List Char) (b : Bool) (c : Nat) (hlt : st.oldPos < blen w)
    (hnl : nextLine w st.oldPos "crop_window_text" = .ok (pre, b, c)) (hc : c = blen pre + (if b then 1 else 0))
    (hn : pre.length + 1 ≤ usizeMax) :
    cwtLoop w erow doCrop l r ls le (fuel + 1) st =
      if b then cwtLoop w erow doCrop l r ls le fuel (iterState erow doCrop l r ls le st pre b)
      else .ok (iterState erow doCrop l r ls le st pre b) := by
  subst hc
  rw [cwtLoop, if_pos hlt, hnl]
  simp only [res_bind_ok]
  rw [renderLine_eq doCrop _ l r (by have := stripCR_length_le pre; omega) hlr]
  cases b <;> rfl

theorem cwtLoop_run (w : List Char) (erow : Nat) (doCrop : Bool) (l r ls le : Nat)
    (hw : w.length + 1 ≤ usizeMax) (hlr : l ≤ satAdd r 1)
    (fuel : Nat) (st : CwtState) (p rest : List Char) (hwp : w = p ++ rest) (hpos : st.oldPos = blen p)
    (hfuel : blen rest ≤ fuel) :
    cwtLoop w erow doCrop l r ls le fuel st = .ok (foldLines (iterState erow doCrop l r ls le) st rest) := by
  refine lineLoop_run w (fun fuel _ st => cwtLoop w erow doCrop l r ls le fuel st) (iterState erow doCrop l r ls le) id
    (fun pos st => st.oldPos = pos)
    (fun fuel st hI => cwtLoop_done _ _ _ _ _ _ _ _ _ (by rw [hI]; omega))
    ?_ ?_ fuel p rest st hwp hfuel hpos
  · intro fuel q pre st hwq hne hnp hI
    have hlt : st.oldPos < blen w := by
      rw [hwq, hI, blen_append]; have := blen_pos_of_ne_nil _ hne; omega
    have hnl := nextLine_last q pre "crop_window_text" hnp
    rw [← hwq, ← hI] at hnl
    exact cwtLoop_line w erow doCrop l r ls le hlr fuel st pre false _ hlt hnl
      (by rw [hwq, hI, blen_append, if_neg Bool.false_ne_true]; omega) (by rw [hwq, List.length_append] at hw; omega)
  · intro fuel q pre post st hwq hnp hI
    have hlt : st.oldPos < blen w := by
      rw [hwq, hI, blen_append, blen_append, blen_cons]; have := utf8LenChar_pos '\n'; omega
    have hnl := nextLine_row q pre post "crop_window_text" hnp
    rw [← hwq, ← hI] at hnl
    exact ⟨cwtLoop_line w erow doCrop l r ls le hlr fuel st pre true _ hlt hnl rfl
      (by rw [hwq] at hw; simp only [List.length_append] at hw; omega), by simp only [iterState, if_true, hI]⟩

end SaphyrVerif.Lemmas.C17
