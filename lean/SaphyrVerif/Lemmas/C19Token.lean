import SaphyrVerif.Lemmas.C19Literal
/-!
C19: decimal number tokens with digit separators (`Spec.Robotics.NumTok`): the token scanner consumes
exactly the token and yields the correctly rounded value of the same number written without separators
(`parseNumberOrSpecial_tok`).  In front of it the layer that `C19Sexa` rests on as well: digit groups byte by byte
(`Sep`, `Sep.groups`) and what a digit loop does on them (`numLoop_sep`, `sexaLook_sep`; `readUint_sep`, `readFrac_sep`
are in `C19Sexa`).  `Stops` (what may follow the digits) is from `C19Literal`, `TokenOk` / `StopsToken` from `Spec/Robotics.lean`.
-/
namespace SaphyrVerif.Lemmas.C19L
open SaphyrVerif SaphyrVerif.F64 SaphyrVerif.Robotics SaphyrVerif.Spec.Robotics SaphyrVerif.Lemmas.C19

theorem groups_digits_cons (g : List Nat) (gs : Groups) : Groups.digits (g :: gs) = g ++ Groups.digits gs := by
  simp [Groups.digits]

theorem groups_wf_tail {g : List Nat} {gs : Groups} (h : Groups.WF (g :: gs)) : Groups.WF gs :=
  fun x hx => h x (List.mem_cons_of_mem _ hx)

theorem groups_render_head {gs : Groups} (h : gs.WF) (hne : gs ≠ []) (rest : List Nat) :
    ∃ d r, gs.render ++ rest = d :: r ∧ isDigit d = true := by
  obtain ⟨g, gs, rfl⟩ := List.exists_cons_of_ne_nil hne
  obtain ⟨hgne, hdig⟩ := h g List.mem_cons_self
  obtain ⟨d, r, rfl⟩ := List.exists_cons_of_ne_nil hgne
  have hd := hdig d List.mem_cons_self
  cases gs with
  | nil => exact ⟨d, r ++ rest, by simp [Groups.render], hd⟩
  | cons g' gs' => exact ⟨d, r ++ 95 :: (Groups.render (g' :: gs') ++ rest), by simp [Groups.render], hd⟩

theorem nextIsDigit_groups {gs : Groups} (h : gs.WF) (hne : gs ≠ []) (rest : List Nat) :
    nextIsDigit (gs.render ++ rest) = true := by
  obtain ⟨d', r', hhead, hd'⟩ := groups_render_head h hne rest
  rw [hhead]
  exact hd'

theorem groups_digits_ne {gs : Groups} (hg : gs.WF) (hne : gs ≠ []) : gs.digits ≠ [] := by
  obtain ⟨g, gs', rfl⟩ := List.exists_cons_of_ne_nil hne
  rw [groups_digits_cons]
  exact fun h => (hg g List.mem_cons_self).1 (List.append_eq_nil_iff.mp h).1

/-- What a digit loop of the scanner accepts, byte by byte: `inp` is `rest` behind the digits `ds`, written with single
underscores, each behind a digit and in front of one, and `rest` does not go on with a digit or an underscore.  `b`: the byte
in front of `inp` is a digit (only then may `inp` begin with an underscore).  Every loop is one induction over this. -/
inductive Sep : Bool → List Nat → List Nat → List Nat → Prop
  | stop {b : Bool} {rest : List Nat} (hs : Stops rest) : Sep b rest [] rest
  | digit {b : Bool} {c : Nat} {r ds rest : List Nat} (hc : isDigit c = true) (h : Sep true r ds rest) :
      Sep b (c :: r) (c :: ds) rest
  | us {r ds rest : List Nat} (hn : nextIsDigit r = true) (h : Sep false r ds rest) : Sep true (95 :: r) ds rest

theorem Sep.run {g r ds rest : List Nat} (hd : Digits g) (h : Sep true r ds rest) : Sep true (g ++ r) (g ++ ds) rest := by
  induction g with
  | nil => exact h
  | cons c g ih => exact .digit (hd c List.mem_cons_self) (ih hd.tail)

theorem Sep.groups {gs : Groups} {rest : List Nat} (hg : gs.WF) (hs : Stops rest) (b : Bool) :
    Sep b (gs.render ++ rest) gs.digits rest := by
  induction gs generalizing b with
  | nil => exact .stop hs
  | cons g gs ih =>
    obtain ⟨hne, hdig⟩ := hg g List.mem_cons_self
    have hgs := groups_wf_tail hg
    -- behind the first group: the end, or an underscore in front of the next group
    have htail : ∃ T, Groups.render (g :: gs) ++ rest = g ++ T ∧ Sep true T (Groups.digits gs) rest := by
      cases gs with
      | nil => exact ⟨rest, by simp [Groups.render], ih hgs true⟩
      | cons g2 gs' =>
        exact ⟨95 :: (Groups.render (g2 :: gs') ++ rest), by simp [Groups.render],
          .us (nextIsDigit_groups hgs (List.cons_ne_nil _ _) rest) (ih hgs false)⟩
    obtain ⟨T, hT, hsep⟩ := htail
    obtain ⟨c, g', rfl⟩ := List.exists_cons_of_ne_nil hne
    rw [hT, groups_digits_cons]
    exact .digit (hdig c List.mem_cons_self) (Sep.run (Digits.tail hdig) hsep)

theorem Sep.next {inp ds rest : List Nat} (h : Sep false inp ds rest) (hne : ds ≠ []) : nextIsDigit inp = true := by
  cases h with
  | stop _ => exact absurd rfl hne
  | digit hc _ => exact hc

theorem numLoop_stop (eU : RErr) (pre rest : List Nat) (k seen : Nat) (bufR : List Nat) (hv : Bool) (hs : Stops rest) :
    numLoop eU pre rest k seen bufR hv = .ok ⟨pre, rest, seen, bufR, hv⟩ := by
  cases rest with
  | nil => rfl
  | cons c r =>
    obtain ⟨h1, h2⟩ := hs c r rfl
    have h2' : (c == 95) = false := by simpa using h2
    simp [numLoop, h1, h2']

/-- an underscore between two digits is skipped; it does not go to `buf` -/
theorem numLoop_us (eU : RErr) (pre r : List Nat) (k seen : Nat) (bufR : List Nat) (hv : Bool)
    (hp : prevIsDigit pre k = .ok true) (hn : nextIsDigit r = true) (hcap : ¬ MAX_NUM_DIGITS < seen) :
    numLoop eU pre (95 :: r) k seen bufR hv = numLoop eU (95 :: pre) r (k + 1) seen bufR hv := by
  have h95 : isDigit 95 = false := by decide
  simp only [numLoop, h95, hp, hn, hcap, Bool.false_eq_true, ↓reduceIte, beq_self_eq_true, Bool.not_true,
    Bool.or_self]

/-- `hp`: the look-behind of the separator test sees the digit that `b` speaks of -/
theorem numLoop_sep (eU : RErr) {b : Bool} {inp ds rest : List Nat} (h : Sep b inp ds rest) (pre : List Nat) (k seen : Nat)
    (bufR : List Nat) (hv : Bool) (hp : b = true → prevIsDigit pre k = .ok true)
    (hcap : seen + ds.length ≤ MAX_NUM_DIGITS) :
    ∃ pre', numLoop eU pre inp k seen bufR hv =
      .ok ⟨pre', rest, seen + ds.length, ds.reverse ++ bufR, hv || !ds.isEmpty⟩ := by
  induction h generalizing pre k seen bufR hv with
  | stop hs => exact ⟨pre, by simp [numLoop_stop eU pre _ k seen bufR hv hs]⟩
  | @digit _ c _ ds _ hc _ ih =>
    simp only [List.length_cons] at hcap
    have hnot : ¬ MAX_NUM_DIGITS < seen + 1 := by omega
    obtain ⟨pre', e⟩ := ih (c :: pre) (k + 1) (seen + 1) (c :: bufR) true (fun _ => by simp [prevIsDigit, hc]) (by omega)
    refine ⟨pre', ?_⟩
    simp only [numLoop, hc, ↓reduceIte, hnot, e]
    simp [Nat.add_assoc, Nat.add_comm 1]
  | us hn _ ih =>
    rw [numLoop_us eU pre _ k seen bufR hv (hp rfl) hn (by omega)]
    exact ih _ _ _ _ _ nofun hcap

theorem numFrac_skip (n1 : NumSt) (h : Head (· ≠ 46) n1.rest) : numFrac n1 = .ok n1 := by
  unfold numFrac
  split
  · rename_i r heq; exact absurd rfl (h 46 r heq)
  · rfl

theorem numFrac_dot {inp ds rest : List Nat} (hsep : Sep false inp ds rest) (n1 : NumSt) (hr : n1.rest = 46 :: inp)
    (hcap : n1.seen + ds.length ≤ MAX_NUM_DIGITS) :
    ∃ pre', numFrac n1 = .ok ⟨pre', rest, n1.seen + ds.length, ds.reverse ++ 46 :: n1.bufR, !ds.isEmpty⟩ := by
  obtain ⟨pre', hn⟩ := numLoop_sep .underscoreFraction hsep (46 :: n1.pre) 0 n1.seen (46 :: n1.bufR) false nofun hcap
  exact ⟨pre', by simp only [numFrac, hr, hn, Bool.false_or]⟩

/-- the exponent marker `c` and an optional sign in front of a digit: both go to `buf` -/
theorem expMarker_sign (c : Nat) (sg : Option Bool) (pre r bufR : List Nat) (hn : nextIsDigit r = true) :
    expMarker c pre (signBytes sg ++ r) bufR =
      ((signBytes sg).reverse ++ c :: pre, r, (signBytes sg).reverse ++ c :: bufR) := by
  cases sg with
  | some b => cases b <;> rfl
  | none =>
    cases r with
    | nil => cases hn
    | cons d r' =>
      have h1 : (d == 43 || d == 45) = false := by
        simp only [nextIsDigit, isDigit, Bool.and_eq_true, decide_eq_true_eq] at hn
        simp only [Bool.or_eq_false_iff, beq_eq_false_iff_ne, ne_eq]
        omega
      simp [expMarker, signBytes, h1]

theorem numExp_skip (n2 : NumSt) (h : Head (fun c => c ≠ 101 ∧ c ≠ 69) n2.rest) : numExp n2 = .ok n2 := by
  unfold numExp
  cases hr : n2.rest with
  | nil => rfl
  | cons c r =>
    obtain ⟨h1, h2⟩ := h c r hr
    simp [h1, h2]

/-- `hne`: behind the marker and the sign the scanner insists on a digit (`malformedExponent` otherwise) -/
theorem numExp_mark {inp ds rest : List Nat} (hsep : Sep false inp ds rest) (hne : ds ≠ []) (c : Nat)
    (hc : (c == 101 || c == 69) = true) (sg : Option Bool) (n2 : NumSt) (hr : n2.rest = c :: (signBytes sg ++ inp))
    (hcap : n2.seen + ds.length ≤ MAX_NUM_DIGITS) :
    ∃ pre', numExp n2 =
      .ok ⟨pre', rest, n2.seen + ds.length, ds.reverse ++ ((signBytes sg).reverse ++ c :: n2.bufR), true⟩ := by
  obtain ⟨pre', hn⟩ := numLoop_sep .underscoreExponent hsep ((signBytes sg).reverse ++ c :: n2.pre) 0 n2.seen
    ((signBytes sg).reverse ++ c :: n2.bufR) false nofun hcap
  have hde : ds.isEmpty = false := List.isEmpty_eq_false_iff.mpr hne
  exact ⟨pre', by simp only [numExp, hr, hc, ↓reduceIte, expMarker_sign _ sg _ _ _ (hsep.next hne), hn, hde,
    Bool.not_false, Bool.or_true, Bool.not_true, Bool.false_eq_true]⟩

theorem sexaLook_stop (rest : List Nat) (sd lu : Bool) (hs : Stops rest) : sexaLook rest sd lu = (sd, lu, rest.head?) := by
  cases rest with
  | nil => rfl
  | cons c r =>
    obtain ⟨h1, h2⟩ := hs c r rfl
    have h2' : (c == 95) = false := by simpa using h2
    simp [sexaLook, h1, h2']

/-- an underscore between two digits is looked past; the digit behind it clears the mark -/
theorem sexaLook_us (r : List Nat) (hn : nextIsDigit r = true) :
    sexaLook (95 :: r) true false = sexaLook r true false := by
  cases r with
  | nil => cases hn
  | cons d r' =>
    have h95 : isDigit 95 = false := by decide
    have hd : isDigit d = true := hn
    simp only [sexaLook, h95, hd, Bool.false_eq_true, ↓reduceIte, beq_self_eq_true, Bool.not_true, Bool.or_self]

theorem sexaLook_sep {b : Bool} {inp ds rest : List Nat} (h : Sep b inp ds rest) (sd lu : Bool)
    (hb : b = true → sd = true ∧ lu = false) :
    sexaLook inp sd lu = (sd || !ds.isEmpty, lu && ds.isEmpty, rest.head?) := by
  induction h generalizing sd lu with
  | stop hs => simp [sexaLook_stop _ sd lu hs]
  | digit hc _ ih => simp [sexaLook, hc, ih true false fun _ => ⟨rfl, rfl⟩]
  | us hn _ ih =>
    obtain ⟨rfl, rfl⟩ := hb rfl
    rw [sexaLook_us _ hn]
    exact ih true false nofun

theorem sexaLook_groups (gs : Groups) (rest : List Nat) (hg : gs.WF) (hne : gs ≠ []) (hs : Stops rest) (sd : Bool) :
    sexaLook (gs.render ++ rest) sd false = (true, false, rest.head?) := by
  have : gs.digits.isEmpty = false := List.isEmpty_eq_false_iff.mpr (groups_digits_ne hg hne)
  simp [sexaLook_sep (Sep.groups hg hs false) sd false nofun, this]

def fracR (t : NumTok) : List Nat := match t.frac with | none => [] | some g => 46 :: g.render
def expR (t : NumTok) : List Nat :=
  match t.exp with
  | none => []
  | some (up, sg, g) => (if up then 69 else 101) :: (signBytes sg ++ g.render)

theorem render_eq (t : NumTok) : t.render = t.ip.render ++ (fracR t ++ expR t) := by
  obtain ⟨ip, frac, exp⟩ := t
  cases frac <;> cases exp <;> simp [NumTok.render, fracR, expR]

theorem stopsToken_stops {k : List Nat} (h : StopsToken k) : Stops k :=
  fun c r hc => ⟨(h c r hc).1, (h c r hc).2.1⟩

theorem expR_head (t : NumTok) : expR t = [] ∨ ∃ c r, expR t = c :: r ∧ (c = 69 ∨ c = 101) := by
  unfold expR
  split
  · exact Or.inl rfl
  · rename_i up sg g _
    exact Or.inr ⟨_, _, rfl, by cases up <;> simp⟩

theorem stops_expR_k (t : NumTok) {k : List Nat} (hk : StopsToken k) :
    Head (fun c => isDigit c = false ∧ c ≠ 95 ∧ c ≠ 46 ∧ c ≠ 58) (expR t ++ k) := by
  intro c r h
  rcases expR_head t with he | ⟨c', r', he, hc'⟩
  · rw [he, List.nil_append] at h
    obtain ⟨h1, h2, h3, h4, _⟩ := hk c r h
    exact ⟨h1, h2, h3, h4⟩
  · rw [he] at h
    cases h
    rcases hc' with h | h <;> (subst h; decide)

theorem stops_fracR (t : NumTok) {k : List Nat} (hk : StopsToken k) :
    Head (fun c => isDigit c = false ∧ c ≠ 95 ∧ c ≠ 58) (fracR t ++ (expR t ++ k)) := by
  intro c r h
  unfold fracR at h
  split at h
  · rw [List.nil_append] at h
    obtain ⟨h1, h2, _, h4⟩ := stops_expR_k t hk c r h
    exact ⟨h1, h2, h4⟩
  · cases h; decide

theorem numFrac_tok (t : NumTok) (hwf : t.WF) (k : List Nat) (hk : StopsToken k) (n1 : NumSt)
    (h : n1.rest = fracR t ++ (expR t ++ k))
    (hcap : n1.seen + t.plain.fracDigits.length ≤ MAX_NUM_DIGITS) :
    ∃ n2, numFrac n1 = .ok n2 ∧ n2.rest = expR t ++ k ∧ n2.seen = n1.seen + t.plain.fracDigits.length ∧
      n2.bufR = t.plain.fracBytes.reverse ++ n1.bufR := by
  unfold fracR at h
  cases hf : t.frac with
  | none =>
    rw [hf, List.nil_append] at h
    have hp : t.plain.fracDigits = [] ∧ t.plain.fracBytes = [] := by
      simp [NumTok.plain, PlainLit.fracDigits, PlainLit.fracBytes, hf]
    refine ⟨n1, numFrac_skip n1 ?_, h, by rw [hp.1]; rfl, by rw [hp.2]; rfl⟩
    rw [h]
    exact (stops_expR_k t hk).mono fun c hc => hc.2.2.1
  | some g =>
    rw [hf] at h
    have hp : t.plain.fracDigits = g.digits ∧ t.plain.fracBytes = 46 :: g.digits := by
      simp [NumTok.plain, PlainLit.fracDigits, PlainLit.fracBytes, hf]
    have hst : Stops (expR t ++ k) := (stops_expR_k t hk).mono fun c h => ⟨h.1, h.2.1⟩
    obtain ⟨pre', hn⟩ := numFrac_dot (Sep.groups (hwf.fp g hf) hst false) n1 h (by rw [← hp.1]; exact hcap)
    exact ⟨_, hn, rfl, by rw [hp.1], by rw [hp.2]; simp⟩

theorem numExp_tok (t : NumTok) (hwf : t.WF) (k : List Nat) (hk : StopsToken k) (n2 : NumSt)
    (h : n2.rest = expR t ++ k)
    (hcap : n2.seen + t.plain.expDigits.length ≤ MAX_NUM_DIGITS) :
    ∃ n3, numExp n2 = .ok n3 ∧ n3.rest = k ∧ n3.bufR = t.plain.expBytes.reverse ++ n2.bufR := by
  unfold expR at h
  cases he : t.exp with
  | none =>
    rw [he, List.nil_append] at h
    have hp : t.plain.expBytes = [] := by simp [NumTok.plain, PlainLit.expBytes, he]
    refine ⟨n2, numExp_skip n2 ?_, h, by rw [hp]; rfl⟩
    rw [h]
    exact fun c r hkk => ⟨(hk c r hkk).2.2.2.2.2, (hk c r hkk).2.2.2.2.1⟩
  | some x =>
    obtain ⟨up, sg, g⟩ := x
    rw [he] at h
    have hpe : t.plain.exp = some (up, sg, g.digits) := by simp [NumTok.plain, he]
    have hds : t.plain.expDigits = g.digits := by simp [PlainLit.expDigits, hpe]
    have hpb : t.plain.expBytes = (if up then 69 else 101) :: (signBytes sg ++ g.digits) := by
      simp [PlainLit.expBytes, hpe]
    have hdne : g.digits ≠ [] := by rw [← hds]; exact hwf.plain.expNonempty (by simp [hpe])
    rw [hds] at hcap
    obtain ⟨pre', hn⟩ := numExp_mark (Sep.groups (hwf.ed up sg g he) (stopsToken_stops hk) false) hdne
      (if up then 69 else 101) (by cases up <;> rfl) sg n2 (by rw [h]; simp) hcap
    exact ⟨_, hn, rfl, by rw [hpb]; simp⟩


theorem groups_render_bytes (gs : Groups) (hg : gs.WF) : ∀ c ∈ gs.render, isDigit c = true ∨ c = 95 := by
  induction gs with
  | nil => intro c hc; cases hc
  | cons g gs ih =>
    obtain ⟨_, hdig⟩ := hg g (List.mem_cons_self)
    cases gs with
    | nil => intro c hc; exact Or.inl (hdig c hc)
    | cons g' gs' =>
      intro c hc
      simp only [Groups.render, List.mem_append, List.mem_cons] at hc
      rcases hc with h | h | h
      · exact Or.inl (hdig c h)
      · exact Or.inr h
      · exact ih (groups_wf_tail hg) c h

theorem tok_render_ascii (t : NumTok) (hwf : t.WF) : ∀ c ∈ t.render, c < 128 := by
  have hgb : ∀ (gs : Groups), gs.WF → ∀ c ∈ gs.render, c < 128 := by
    intro gs hg c hc
    rcases groups_render_bytes gs hg c hc with h | h
    · simp only [isDigit, Bool.and_eq_true, decide_eq_true_eq] at h; omega
    · omega
  intro c hc
  rw [render_eq] at hc
  simp only [List.mem_append] at hc
  rcases hc with h | h | h
  · exact hgb _ hwf.ip c h
  · unfold fracR at h
    cases hf : t.frac with
    | none => rw [hf] at h; cases h
    | some g =>
      rw [hf] at h
      cases h with
      | head => decide
      | tail _ h => exact hgb g (hwf.fp g hf) c h
  · unfold expR at h
    cases he : t.exp with
    | none => rw [he] at h; cases h
    | some x =>
      obtain ⟨up, sg, g⟩ := x
      rw [he] at h
      simp only [List.mem_cons, List.mem_append] at h
      rcases h with h | h | h
      · subst h; cases up <;> decide
      · have := allowed_lt c (allowed_signBytes sg c h); exact this
      · exact hgb g (hwf.ed up sg g he) c h

theorem lowerByte_digit (c : Nat) (h : isDigit c = true) : lowerByte c = c := by
  simp only [isDigit, Bool.and_eq_true, decide_eq_true_eq] at h
  unfold lowerByte
  have : ¬ (65 ≤ c ∧ c ≤ 90) := by omega
  simp [this]

theorem startsCi_cons (c : Nat) (r : List Nat) (k : Nat) (kw : List Nat) :
    startsCi (c :: r) (k :: kw) = (lowerByte c == k && startsCi r kw) := by
  unfold startsCi
  by_cases h : r.length < kw.length <;> simp [h]

/-- a text starting with a digit, or with '.' and a digit, does not start with a keyword `.` `k1` … (`.inf`, `.nan`) -/
theorem startsCi_head {rest : List Nat} {k1 : Nat} (kw : List Nat) (h1 : isDigit k1 = false)
    (hh : ∃ c r, rest = c :: r ∧ (isDigit c = true ∨ (c = 46 ∧ ∃ d r', r = d :: r' ∧ isDigit d = true))) :
    startsCi rest (46 :: k1 :: kw) = false := by
  obtain ⟨c, r, rfl, hc⟩ := hh
  rw [startsCi_cons]
  rcases hc with hd | ⟨rfl, d, r', rfl, hd⟩
  · have : (c == 46) = false := by rw [beq_eq_false_iff_ne]; rintro rfl; cases hd
    rw [lowerByte_digit c hd, this, Bool.false_and]
  · have : (d == k1) = false := by rw [beq_eq_false_iff_ne]; rintro rfl; rw [hd] at h1; cases h1
    rw [startsCi_cons, lowerByte_digit d hd, this, Bool.false_and, Bool.and_false]

theorem tok_head (t : NumTok) (hwf : t.WF) (k : List Nat) :
    ∃ c r, t.render ++ k = c :: r ∧ (isDigit c = true ∨ (c = 46 ∧ ∃ d r', r = d :: r' ∧ isDigit d = true)) := by
  rw [render_eq]
  by_cases hip : t.ip = []
  · -- no integer part: the digit that the mantissa must have is the first of the fraction
    have hm := hwf.plain.mant
    have hpi : t.plain.ip = [] := by simp [NumTok.plain, hip, Groups.digits]
    rw [hpi] at hm
    simp only [List.length_nil, Nat.zero_add] at hm
    cases hf : t.frac with
    | none =>
      have : t.plain.fracDigits = [] := by simp [NumTok.plain, PlainLit.fracDigits, hf]
      rw [this] at hm; exact absurd rfl hm
    | some g =>
      have hfd : t.plain.fracDigits = g.digits := by simp [NumTok.plain, PlainLit.fracDigits, hf]
      rw [hfd] at hm
      have hgne : g ≠ [] := fun h0 => hm (by rw [h0]; rfl)
      obtain ⟨d, r, hh, hd⟩ := groups_render_head (hwf.fp _ hf) hgne (expR t ++ k)
      refine ⟨46, d :: r, ?_, Or.inr ⟨rfl, d, r, rfl, hd⟩⟩
      simp only [hip, Groups.render, List.nil_append, fracR, hf, List.cons_append, List.append_assoc]
      rw [← hh]
  · obtain ⟨d, r, hh, hd⟩ := groups_render_head hwf.ip hip (fracR t ++ expR t ++ k)
    exact ⟨d, r, by simpa using hh, Or.inl hd⟩

theorem trySexagesimal_tok (tag : Nat) (t : NumTok) (hwf : t.WF) (k : List Nat) (hk : StopsToken k)
    (pre : List Nat) (d : Nat) (tm : Bool) :
    trySexagesimal tag ⟨pre, t.render ++ k, d, tm⟩ = .ok none := by
  have hb : t.render ++ k = t.ip.render ++ (fracR t ++ (expR t ++ k)) := by rw [render_eq]; simp
  have hst : Stops (fracR t ++ (expR t ++ k)) := (stops_fracR t hk).mono fun c h => ⟨h.1, h.2.1⟩
  have hcolon : ((fracR t ++ (expR t ++ k)).head? != some 58) = true := by
    cases hh : fracR t ++ (expR t ++ k) with
    | nil => rfl
    | cons c r =>
      have := (stops_fracR t hk c r hh).2.2
      simp [this]
  have hlook := sexaLook_sep (Sep.groups hwf.ip hst false) false false nofun
  rw [← hb, Bool.false_and] at hlook
  unfold trySexagesimal
  simp only [hlook, hcolon, Bool.or_false, ↓reduceIte, ite_self]

theorem parseNumberOrSpecial_tok (tag : Nat) (t : NumTok) (hwf : t.WF) (hcap : t.plain.digitCount ≤ MAX_NUM_DIGITS)
    (k : List Nat) (hk : StopsToken k) (pre : List Nat) (d : Nat) (tm : Bool) :
    ∃ pre', parseNumberOrSpecial tag ⟨pre, t.render ++ k, d, tm⟩ =
      .ok ((t.plain.value binary64, false, true), ⟨pre', k, d, tm⟩) := by
  unfold PlainLit.digitCount at hcap
  have hpip : t.plain.ip = t.ip.digits := rfl
  rw [hpip] at hcap
  have hh := tok_head t hwf k
  unfold parseNumberOrSpecial
  simp only []
  rw [startsCi_head [110, 102] rfl hh, startsCi_head [97, 110] rfl hh]
  simp only [Bool.false_eq_true, ↓reduceIte]
  rw [trySexagesimal_tok tag t hwf k hk]
  simp only [Res.bind]
  have hb : t.render ++ k = t.ip.render ++ (fracR t ++ (expR t ++ k)) := by rw [render_eq]; simp
  have hst : Stops (fracR t ++ (expR t ++ k)) := (stops_fracR t hk).mono fun c h => ⟨h.1, h.2.1⟩
  rw [hb]
  obtain ⟨p1, hn1⟩ := numLoop_sep .underscoreNumber (Sep.groups hwf.ip hst false) pre 0 0 [] false nofun (by omega)
  rw [hn1]
  simp only [HRes.lift]
  obtain ⟨n2, hn2, h2r, h2s, h2b⟩ := numFrac_tok t hwf k hk
    ⟨p1, fracR t ++ (expR t ++ k), 0 + t.ip.digits.length, t.ip.digits.reverse ++ [], false || !t.ip.digits.isEmpty⟩ rfl
    (by simp only []; omega)
  rw [hn2]
  simp only []
  obtain ⟨n3, hn3, h3r, h3b⟩ := numExp_tok t hwf k hk n2 h2r (by rw [h2s]; simp only []; omega)
  rw [hn3]
  simp only []
  have hbuf : n3.bufR.reverse = t.plain.body := by
    rw [h3b, h2b]; simp [PlainLit.body, hpip]
  have hne : n3.bufR.isEmpty = false := by
    obtain ⟨c, r, hbd, _⟩ := body_head t.plain hwf.plain
    cases hbr : n3.bufR with
    | nil => rw [hbr] at hbuf; rw [← hbuf] at hbd; cases hbd
    | cons _ _ => rfl
  simp only [hne, Bool.false_eq_true, ↓reduceIte]
  have hpr : t.plain.render = t.plain.body := by simp [PlainLit.render, NumTok.plain, signBytes]
  rw [hbuf, ← hpr, fromStr_lit binary64 t.plain hwf.plain]
  exact ⟨n3.pre, by rw [h3r]⟩


theorem advN_four (a b c d : Nat) (pre k : List Nat) :
    advN 4 pre (a :: b :: c :: d :: k) = .ok (d :: c :: b :: a :: pre, k) := by
  simp [advN]

theorem dotInf_tok (tag : Nat) (a b c d : Nat) (hl : [a, b, c, d].map lowerByte = [46, 105, 110, 102])
    (k : List Nat) (pre : List Nat) (dp : Nat) (tm : Bool) :
    parseNumberOrSpecial tag ⟨pre, a :: b :: c :: d :: k, dp, tm⟩ =
      .ok ((.inf false, false, true), ⟨d :: c :: b :: a :: pre, k, dp, tm⟩) := by
  unfold parseNumberOrSpecial
  simp only []
  have h1 : startsCi (a :: b :: c :: d :: k) [46, 105, 110, 102] = true :=
    (startsCi_append [a, b, c, d] k [46, 105, 110, 102] rfl).trans (by rw [hl]; rfl)
  rw [h1]
  simp only [HRes.lift, Res.bind, ↓reduceIte, advN_four]

theorem dotNan_tok (tag : Nat) (a b c d : Nat) (hl : [a, b, c, d].map lowerByte = [46, 110, 97, 110])
    (k : List Nat) (pre : List Nat) (dp : Nat) (tm : Bool) :
    parseNumberOrSpecial tag ⟨pre, a :: b :: c :: d :: k, dp, tm⟩ =
      .ok ((.nan, false, true), ⟨d :: c :: b :: a :: pre, k, dp, tm⟩) := by
  unfold parseNumberOrSpecial
  simp only []
  have h0 : startsCi (a :: b :: c :: d :: k) [46, 105, 110, 102] = false :=
    (startsCi_append [a, b, c, d] k [46, 105, 110, 102] rfl).trans (by rw [hl]; rfl)
  have h1 : startsCi (a :: b :: c :: d :: k) [46, 110, 97, 110] = true :=
    (startsCi_append [a, b, c, d] k [46, 110, 97, 110] rfl).trans (by rw [hl]; rfl)
  rw [h0]
  simp only [Bool.false_eq_true, ↓reduceIte]
  rw [h1]
  simp only [HRes.lift, Res.bind, ↓reduceIte, advN_four]

end SaphyrVerif.Lemmas.C19L
