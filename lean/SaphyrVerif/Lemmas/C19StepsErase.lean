import SaphyrVerif.Lemmas.C19Steps
import SaphyrVerif.Lemmas.C19Parts
/-!
C19: the value component of the instrumented copy (`Lemmas/C19Steps.lean`) IS the evaluator model, for the byte loops
(`(fS args).1 = f args`) and the field readers (`(fT args).val = f args`); every function above them gets value and cost in one
statement in `Lemmas/C19StepsBound.lean`.  Also here: the long functions of the copy cut into the pieces of
`Lemmas/C19Parts.lean`.
-/
namespace SaphyrVerif.Lemmas.C19S
open SaphyrVerif SaphyrVerif.F64 SaphyrVerif.Robotics SaphyrVerif.Lemmas.C19

namespace T
variable {α β : Type}
@[simp] theorem ofLoop_val (x : α × Nat) : (ofLoop x).val = x.1 := rfl
@[simp] theorem ret_val (a : α) : (ret a).val = a := rfl
@[simp] theorem tick_val (n : Nat) (x : T α) : (tick n x).val = x.val := rfl
@[simp] theorem call_val (x : T α) : (call x).val = x.val := rfl
@[simp] theorem lift_val (d : Nat) (x : T (HRes α)) : (lift d x).val = HRes.lift d x.val := rfl

theorem bind_val (x : T (Res α)) (k : α → T (Res β)) : (x.bind k).val = x.val.bind (fun a => (k a).val) := by
  unfold bind
  cases x.val <;> rfl
end T

theorem skipWsLS_fst (pre rest : List Nat) : (skipWsLS pre rest).1 = skipWsL pre rest := by
  induction rest generalizing pre with
  | nil => rfl
  | cons c r ih => simp only [skipWsLS, skipWsL, apply_ite Prod.fst, ih]

@[simp] theorem skipWsT_val (st : St) : (skipWsT st).val = st.skipWs := by
  simp only [skipWsT, St.skipWs, skipWsLS_fst]

theorem signLoopS_fst (pre rest : List Nat) (s : Fl) : (signLoopS pre rest s).1 = signLoop pre rest s := by
  induction rest generalizing pre s with
  | nil => rfl
  | cons c r ih => simp only [signLoopS, signLoop, apply_ite Prod.fst, ih]

theorem identLoopS_fst (pre rest acc : List Nat) : (identLoopS pre rest acc).1 = identLoop pre rest acc := by
  induction rest generalizing pre acc with
  | nil => rfl
  | cons c r ih => simp only [identLoopS, identLoop, apply_ite Prod.fst, ih]

theorem numLoopS_fst (eU : RErr) (pre rest : List Nat) (k seen : Nat) (bufR : List Nat) (hv : Bool) :
    (numLoopS eU pre rest k seen bufR hv).1 = numLoop eU pre rest k seen bufR hv := by
  induction rest generalizing pre k seen bufR hv with
  | nil => rfl
  | cons c r ih =>
    simp only [numLoopS, numLoop]
    cases prevIsDigit pre k <;> simp only [apply_ite Prod.fst, ih]

theorem sexaLookS_fst (rest : List Nat) (sd lu : Bool) : (sexaLookS rest sd lu).1 = sexaLook rest sd lu := by
  induction rest generalizing sd lu with
  | nil => rfl
  | cons c r ih => simp only [sexaLookS, sexaLook, apply_ite Prod.fst, ih]

theorem readUintS_fst (pre rest : List Nat) (v : Fl) (d : Nat) (p : Bool) :
    (readUintS pre rest v d p).1 = readUint pre rest v d p := by
  induction rest generalizing pre v d p with
  | nil => rfl
  | cons c r ih => simp only [readUintS, readUint, apply_ite Prod.fst, ih]

theorem readFracS_fst (pre rest : List Nat) (num sc : Fl) (d : Nat) (p : Bool) :
    (readFracS pre rest num sc d p).1 = readFrac pre rest num sc d p := by
  induction rest generalizing pre num sc d p with
  | nil => rfl
  | cons c r ih => simp only [readFracS, readFrac, apply_ite Prod.fst, ih]

@[simp] theorem readUintT_val (pre rest : List Nat) :
    (readUintT pre rest).val = readUint pre rest (zero F false) 0 false := by
  simp [readUintT, readUintS_fst]

@[simp] theorem readU32T_val (pre rest : List Nat) : (readU32T pre rest).val = readU32 pre rest := by
  simp only [readU32T, readU32, T.call_val, readUintT_val]
  cases readUint pre rest (zero F false) 0 false with
  | ok a => obtain ⟨p1, r1, v, d⟩ := a; rfl
  | err e => rfl
  | panic s => rfl

@[simp] theorem readFracT_val (pre rest : List Nat) :
    (readFracT pre rest).val = readFrac pre rest (zero F false) ONE 0 false := by
  simp [readFracT, readFracS_fst]

def sexaFinishT (tag : Nat) (st : St) (degWhole : Fl) (minsU : Nat) (x : List Nat × List Nat × Fl × Nat) :
    T (Res (Option (Eval × St))) :=
  if MAX_NUM_DIGITS < x.2.2.2 then T.ret (st.err .tooManyDigitsSexa)
  else
    let stE : St := { st with pre := x.1, rest := x.2.1 }
    let degrees := add F (add F degWhole (div F (ofNat F minsU) SIXTY)) (div F x.2.2.1 C3600)
    let seconds := add F (add F (mul F degWhole C3600) (mul F (ofNat F minsU) SIXTY)) x.2.2.1
    if st.sexTime then
      if tag == TAG_DEGREES || tag == TAG_RADIANS then T.ret (.ok (some ((mul F degrees DEG2RAD, true, false), stE)))
      else T.ret (.ok (some ((seconds, true, false), stE)))
    else if tag == TAG_TIMESTAMP then T.ret (.ok (some ((seconds, true, false), stE)))
    else T.ret (.ok (some ((degrees, true, false), stE)))

def sexaSecsT (st : St) (d12 : Nat) (pre2 rest2 : List Nat) : T (Res (List Nat × List Nat × Fl × Nat)) :=
  match rest2 with
  | 58 :: rest2' =>
    (T.lift st.depth (readU32T (58 :: pre2) rest2')).bind fun x =>
    if 59 < x.2.2.1 then T.ret (st.err .secondsRange)
    else
      match x.2.1 with
      | 46 :: rest3' =>
        (T.lift st.depth (readFracT (46 :: x.1) rest3')).bind fun y =>
          T.ret (.ok (y.1, y.2.1, add F (ofNat F x.2.2.1) y.2.2.1, d12 + x.2.2.2 + y.2.2.2))
      | _ => T.ret (.ok (x.1, x.2.1, ofNat F x.2.2.1, d12 + x.2.2.2))
  | _ => T.ret (.ok (pre2, rest2, zero F false, d12))

def sexaMinsT (tag : Nat) (st : St) (pre1 rest1' : List Nat) (degWhole : Fl) (d1 : Nat) :
    T (Res (Option (Eval × St))) :=
  (T.lift st.depth (readU32T (58 :: pre1) rest1')).bind fun x =>
  if 59 < x.2.2.1 then T.ret (st.err .minutesRange)
  else (sexaSecsT st (d1 + x.2.2.2) x.1 x.2.1).bind (sexaFinishT tag st degWhole x.2.2.1)

theorem trySexagesimalT_eq (tag : Nat) (st : St) :
    trySexagesimalT tag st =
      T.call (T.tick (sexaLookS st.rest false false).2 (
        if !(sexaLookS st.rest false false).1.1 || (sexaLookS st.rest false false).1.2.1 then T.ret (.ok none)
        else if (sexaLookS st.rest false false).1.2.2 != some 58 then T.ret (.ok none)
        else
          (T.lift st.depth (readUintT st.pre st.rest)).bind fun x =>
          match x.2.1 with
          | 58 :: rest1' => sexaMinsT tag st x.1 rest1' x.2.2.1 x.2.2.2
          | _ => T.ret (.ok none))) :=
  rfl

theorem sexaFinishT_eq (tag : Nat) (st : St) (degWhole : Fl) (minsU : Nat) (x : List Nat × List Nat × Fl × Nat) :
    sexaFinishT tag st degWhole minsU x = T.ret (sexaFinish tag st degWhole minsU x) := by
  simp only [sexaFinishT, sexaFinish, apply_ite T.ret]

theorem numFracS_fst (n1 : NumSt) : (numFracS n1).1 = numFrac n1 := by
  obtain ⟨p, rest, seen, bufR, hd⟩ := n1
  unfold numFracS numFrac
  simp only []
  split
  · exact numLoopS_fst _ _ _ _ _ _ _
  · rename_i hne
    split
    · exact absurd rfl (hne _)
    · rfl

theorem numExpS_fst (n2 : NumSt) : (numExpS n2).1 = numExp n2 := by
  obtain ⟨p, rest, seen, bufR, hd⟩ := n2
  unfold numExpS numExp
  simp only []
  split
  · split
    · rename_i hc
      simp only [numLoopS_fst, hc, ↓reduceIte]
      cases numLoop RErr.underscoreExponent _ _ 0 seen _ false <;> rfl
    · rename_i hc
      simp only [hc, Bool.false_eq_true, ↓reduceIte]
  · rfl

@[simp] theorem exitAfterT_val {α} (r : T (Res (α × St))) : (exitAfterT r).val = exitAfter r.val := rfl

def closeParenT (e : RErr) (ev : Eval) (st : St) : T (Res (Eval × St)) :=
  match st.rest with
  | 41 :: r' => T.ret (.ok (ev, st.adv 41 r'))
  | c :: r' => T.ret ((st.adv c r').err e)
  | [] => T.ret (st.err e)

theorem closeParenT_eq (e : RErr) (ev : Eval) (st : St) : closeParenT e ev st = T.ret (closeParen e ev st) := by
  obtain ⟨p, r, d, t⟩ := st
  unfold closeParenT closeParen
  simp only []
  split
  · rfl
  · rename_i c r' hc
    split
    · rename_i h; cases h; exact absurd rfl hc
    · rename_i h; cases h; rfl
    · rename_i h; cases h
  · rfl

def bracketT (ET : St → T (Res (Eval × St))) (restore : St → St) (f : Eval → Eval) (e : RErr) (st : St) :
    T (Res (Eval × St)) :=
  (T.tick 1 (T.ret (St.enter st))).bind fun st1 =>
  (exitAfterT (ET st1)).bind fun x =>
    T.tick ((skipWsT (restore x.2)).steps + 1) (closeParenT e (f x.1) (skipWsT (restore x.2)).val)

theorem primaryT_paren (tag : Nat) (ET : St → T (Res (Eval × St))) (st0 : St) (r : List Nat)
    (h : (skipWsT st0).val.rest = 40 :: r) :
    primaryT tag ET st0 =
      T.call (T.tick ((skipWsT st0).steps + 1) (bracketT ET id id .expectedRParen ((skipWsT st0).val.adv 40 r))) := by
  unfold primaryT
  simp only [h]
  rfl

def unitCallT (ET : St → T (Res (Eval × St))) (isDeg : Bool) (st1 : St) : T (Res (Eval × St)) :=
  T.tick ((skipWsT st1).steps + 1) <|
  match (skipWsT st1).val.rest with
  | 40 :: r =>
    bracketT ET (fun s => { s with sexTime := (skipWsT st1).val.sexTime })
      (unitVal isDeg) .expectedRParenFn { (skipWsT st1).val.adv 40 r with sexTime := false }
  | c :: r => T.ret (((skipWsT st1).val.adv c r).err .expectedLParenFn)
  | [] => T.ret ((skipWsT st1).val.err .expectedLParenFn)

def identTailT (ET : St → T (Res (Eval × St))) (ident : List Nat) (st1 : St) : T (Res (Eval × St)) :=
  if ident == [112, 105] then T.ret (.ok ((PI, false, true), st1))
  else if ident == [116, 97, 117] then T.ret (.ok ((mul F TWO PI, false, true), st1))
  else if ident == [105, 110, 102] then T.ret (.ok ((.inf false, false, true), st1))
  else if ident == [110, 97, 110] then T.ret (.ok ((.nan, false, true), st1))
  else if ident == [100, 101, 103] || ident == [114, 97, 100] then unitCallT ET (ident == [100, 101, 103]) st1
  else T.ret (st1.err .unknownIdent)

theorem parseIdentOrSpecialT_eq (ET : St → T (Res (Eval × St))) (st : St) :
    parseIdentOrSpecialT ET st =
      T.call (T.tick ((identLoopS st.pre st.rest []).2 + 6) (
        if !(boundaryAhead st.rest 0 && boundaryAhead (identLoopS st.pre st.rest []).1.2.1 0) then
          T.ret (.panic .strSlice)
        else identTailT ET ((identLoopS st.pre st.rest []).1.2.2.reverse.map lowerByte)
          { st with pre := (identLoopS st.pre st.rest []).1.1, rest := (identLoopS st.pre st.rest []).1.2.1 })) := by
  unfold parseIdentOrSpecialT identTailT unitCallT
  simp only []
  generalize identLoopS st.pre st.rest [] = ilx
  generalize hb : (ilx.1.2.2.reverse.map lowerByte == [100, 101, 103]) = b
  cases b <;> rfl

end SaphyrVerif.Lemmas.C19S
