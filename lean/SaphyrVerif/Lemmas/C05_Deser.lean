import SaphyrVerif.Lemmas.C05_Scalars
import SaphyrVerif.Lemmas.C05_Spec
import SaphyrVerif.Lemmas.C04_Capture
/-!
C05, `deser` at the leaves (scalar targets, strings, unit, bytes, the absent payload of a scalar-form variant) and
through the `newtype` / `Option` wrappers; first the rules by which all the `C05_*` files build and take apart a `NodeOut`.
-/
namespace SaphyrVerif.Lemmas.C05
open SaphyrVerif SaphyrVerif.Scalars SaphyrVerif.Pump SaphyrVerif.De SaphyrVerif.Spec

theorem NodeOut.of_expect {α : Type} {buf : List Ev} {ref : Option Loc} {i L : Nat} {df : Bool} {exp : Option α} {x : R α}
    (h : Expect x exp (.replay buf (i + L) ref)) : NodeOut buf ref i L df exp x := by
  cases exp with
  | some v => exact h
  | none => exact Or.inl h

theorem NodeOut.of_err {α : Type} {buf : List Ev} {ref : Option Loc} {i L : Nat} {df : Bool} {x : R α}
    (h : IsErr x) : NodeOut buf ref i L df none x := Or.inl h

/-- the three outcomes, each with the equation that rewrites the enclosing function -/
theorem NodeOut.cases {α : Type} {buf : List Ev} {ref : Option Loc} {i L : Nat} {df : Bool} {exp : Option α} {x : R α}
    (h : NodeOut buf ref i L df exp x) :
    (∃ v, exp = some v ∧ x = .ok v (.replay buf (i + L) ref)) ∨ (exp = none ∧ ∃ e c, x = .err e c) ∨
      (exp = none ∧ df = true ∧ ∃ v j, x = .ok v (.replay buf j ref) ∧ i < j ∧ j < i + L) := by
  cases exp with
  | some v => exact Or.inl ⟨v, rfl, h⟩
  | none =>
    rcases h with h | ⟨h1, h2⟩
    · exact Or.inr (Or.inl ⟨rfl, h⟩)
    · exact Or.inr (Or.inr ⟨rfl, h1, h2⟩)

theorem NodeOut.ok {α : Type} {buf : List Ev} {ref : Option Loc} {i L : Nat} {df : Bool} {v : α} :
    NodeOut buf ref i L df (some v) (.ok v (.replay buf (i + L) ref)) := rfl

theorem NodeOut.deficit {α : Type} {buf : List Ev} {ref : Option Loc} {i L : Nat} {df : Bool} {v : α} {j : Nat}
    (hd : df = true) (h1 : i < j) (h2 : j < i + L) : NodeOut buf ref i L df none (.ok v (.replay buf j ref)) :=
  Or.inr ⟨hd, v, j, rfl, h1, h2⟩

/-- a call `x` with outcome `NodeOut`, then a step that stays where `x` stopped and passes its errors on: the outcome of
the two, `y` (a deficit left by `x` remains one, or becomes an error).  `y` is the model's `match x with …`, and the
hypotheses are proved by rewriting in it: a rule that contained the `match` would be about another matcher constant
than the model's and could not be applied. -/
theorem NodeOut.bind_expect {α β : Type} {buf : List Ev} {ref : Option Loc} {i L : Nat} {df : Bool} {exp : Option α} {x : R α}
    (hx : NodeOut buf ref i L df exp x) {g : α → Option β} {y : R β} (hok : ∀ a c, x = .ok a c → Expect y (g a) c)
    (herr : ∀ e c, x = .err e c → y = .err e c) : NodeOut buf ref i L df (exp.bind g) y := by
  rcases hx.cases with ⟨v, hv, he⟩ | ⟨hv, e, c, he⟩ | ⟨hv, hd, v, j, he, h1, h2⟩ <;> subst hv
  · exact NodeOut.of_expect (hok v _ he)
  · exact NodeOut.of_err ⟨e, c, herr e c he⟩
  · have := hok v _ he
    cases hg : g v with
    | none => exact NodeOut.of_err (this.err hg)
    | some b => rw [this.ok hg]; exact NodeOut.deficit hd h1 h2

/-- the key flags matter only for an `Option` key on the explicit-empty-key path -/
theorem deser_flags (cfg : Cfg) : ∀ (fuel : Nat) (ty : Ty) (ik km : Bool) (c : Cur),
    ((ik && km) = false ∨ isOptionKeyTy ty = false) →
    deser fuel cfg ty ik km c = deser fuel cfg ty false false c := by
  intro fuel
  induction fuel with
  | zero => intro ty ik km c _; rw [deser, deser]
  | succ fuel ih =>
    intro ty ik km c h
    cases ty with
    | newtype t =>
      rw [deser, deser]
      exact ih t ik km c (by simpa [isOptionKeyTy] using h)
    | option t =>
      have h' : (ik && km) = false := by simpa [isOptionKeyTy] using h
      have ih' : ∀ c, deser fuel cfg t ik km c = deser fuel cfg t false false c := fun c => ih t ik km c (Or.inl h')
      rw [deser, deser]
      simp only [h', ih', Bool.false_eq_true, if_false, Bool.and_self]
    | _ => rw [deser, deser]

/-! the absent payload of a scalar-form variant is `deser` on the empty buffer -/

theorem deserSeqLike_nil (fuel : Nat) (cfg : Cfg) (shape : Ty ⊕ List Ty) {buf : List Ev} {i : Nat} (ref : Option Loc)
    (h : buf.drop i = []) : IsErr (deserSeqLike fuel cfg shape (.replay buf i ref)) := by
  cases fuel with
  | zero => rw [deserSeqLike]; simp
  | succ fuel => rw [deserSeqLike]; simp [Cursor.peek_replay_of_drop_nil ref h, Cursor.next_replay_of_drop_nil ref h]

theorem deserMapLike_nil (fuel : Nat) (cfg : Cfg) (shape : (Ty × Ty) ⊕ (List (String × Ty) × Bool)) {buf : List Ev} {i : Nat}
    (ref : Option Loc) (h : buf.drop i = []) : IsErr (deserMapLike fuel cfg shape (.replay buf i ref)) := by
  cases fuel with
  | zero => rw [deserMapLike]; simp
  | succ fuel => rw [deserMapLike]; simp [Cursor.peek_replay_of_drop_nil ref h, Cursor.next_replay_of_drop_nil ref h]

theorem deserEnum_nil (fuel : Nat) (cfg : Cfg) (name : String) (vs : List (String × VTy)) {buf : List Ev} {i : Nat}
    (ref : Option Loc) (h : buf.drop i = []) : IsErr (deserEnum fuel cfg name vs (.replay buf i ref)) := by
  cases fuel with
  | zero => rw [deserEnum]; simp
  | succ fuel => rw [deserEnum]; simp [Cursor.peek_replay_of_drop_nil ref h]

theorem deser_absent (cfg : Cfg) : ∀ (t : Ty), Evt fun fuel =>
    Expect (deser fuel cfg t false false (.replay [] 0 none)) (interpAbsent t) (.replay [] 0 none)
  | .newtype t => Evt.succ ((deser_absent cfg t).mono fun fuel h => by
    rw [deser]
    simpa [interpAbsent] using h)
  | .option _ | .unit | .any => Evt.succ (Evt.of_forall fun fuel => by
    rw [deser]; simp [Cursor.peek_replay_of_drop_nil (buf := []) (idx := 0) none rfl, interpAbsent])
  | .bool | .int _ _ | .float _ | .char => Evt.succ (Evt.of_forall fun fuel => by
    rw [deser]; simpa [interpAbsent] using deserScalarTyped_nil none cfg _ rfl)
  | .string => Evt.succ (Evt.of_forall fun fuel => by
    rw [deser]; simpa [interpAbsent] using deserString_nil none cfg rfl)
  | .bytes => Evt.succ (Evt.of_forall fun fuel => by
    rw [deser]; simp [Cursor.peek_replay_of_drop_nil (buf := []) (idx := 0) none rfl, interpAbsent])
  | .seq _ | .tuple _ => Evt.succ (Evt.of_forall fun fuel => by
    rw [deser]; simpa [interpAbsent] using deserSeqLike_nil fuel cfg _ none rfl)
  | .map _ _ | .struct _ _ => Evt.succ (Evt.of_forall fun fuel => by
    rw [deser]; simpa [interpAbsent] using deserMapLike_nil fuel cfg _ none rfl)
  | .enum name vs => Evt.succ (Evt.of_forall fun fuel => by
    rw [deser]; simpa [interpAbsent] using deserEnum_nil fuel cfg name vs none rfl)

theorem drop_scalar {buf : List Ev} {i : Nat} {rest : List Ev} {v : List Char} {tag : Nat} {rt : Option (List Char)}
    {st : Style} {a : Nat} {l : Loc} (h : buf.drop i = eflatten (.scalar v tag rt st a l) ++ rest) :
    buf.drop i = .scalar v tag rt st a l :: rest := by simpa [eflatten] using h

theorem drop_seq {buf : List Ev} {i : Nat} {rest : List Ev} {a tag : Nat} {rt : Option (List Char)} {l el : Loc}
    {items : List ENode} (h : buf.drop i = eflatten (.seq a tag rt l el items) ++ rest) :
    buf.drop i = .seqStart a tag rt l :: (eflattenL items ++ .seqEnd el :: rest) := by simpa [eflatten] using h

theorem drop_map {buf : List Ev} {i : Nat} {rest : List Ev} {a : Nat} {l el : Loc}
    {entries : List (ENode × ENode)} (h : buf.drop i = eflatten (.map a l el entries) ++ rest) :
    buf.drop i = .mapStart a l :: (eflattenE entries ++ .mapEnd el :: rest) := by simpa [eflatten] using h

theorem ref_of_scalarTyped (df : Bool) (cfg : Cfg) (ty : Ty)
    (hd : ∀ fuel ik km c, deser (fuel + 1) cfg ty ik km c = deserScalarTyped cfg ty c)
    (hi : ∀ n, interp cfg ty n = match n with
      | .scalar v tag _ st _ _ => scalarTyped cfg ty v tag st
      | _ => none) (t : ENode) : Ref df cfg ty t := by
  intro buf i ref rest h
  refine Evt.succ (Evt.of_forall fun fuel => ?_)
  rw [hd, hi]
  cases t with
  | scalar v tag rt st a l =>
    have := deserScalarTyped_scalar ref cfg ty (drop_scalar h)
    exact NodeOut.of_expect (by simpa using this)
  | seq a tag rt l el items => exact NodeOut.of_err (deserScalarTyped_other ref cfg ty (drop_seq h) rfl)
  | map a l el es => exact NodeOut.of_err (deserScalarTyped_other ref cfg ty (drop_map h) rfl)

theorem ref_bool (df : Bool) (cfg : Cfg) (t : ENode) : Ref df cfg .bool t :=
  ref_of_scalarTyped df cfg .bool (fun _ _ _ _ => by rw [deser]) (fun n => by rw [interp]; rfl) t
theorem ref_int (df : Bool) (cfg : Cfg) (s : Bool) (w : Nat) (t : ENode) : Ref df cfg (.int s w) t :=
  ref_of_scalarTyped df cfg (.int s w) (fun _ _ _ _ => by rw [deser]) (fun n => by rw [interp]; rfl) t
theorem ref_float (df : Bool) (cfg : Cfg) (w : Nat) (t : ENode) : Ref df cfg (.float w) t :=
  ref_of_scalarTyped df cfg (.float w) (fun _ _ _ _ => by rw [deser]) (fun n => by rw [interp]; rfl) t
theorem ref_char (df : Bool) (cfg : Cfg) (t : ENode) : Ref df cfg .char t :=
  ref_of_scalarTyped df cfg .char (fun _ _ _ _ => by rw [deser]) (fun n => by rw [interp]; rfl) t

theorem ref_string (df : Bool) (cfg : Cfg) (t : ENode) : Ref df cfg .string t := by
  intro buf i ref rest h
  refine Evt.succ (Evt.of_forall fun fuel => ?_)
  rw [deser, interp]
  cases t with
  | scalar v tag rt st a l =>
    have := deserString_scalar ref cfg (drop_scalar h)
    exact NodeOut.of_expect (by simpa using this)
  | seq a tag rt l el items => exact NodeOut.of_err (deserString_other ref cfg (drop_seq h) rfl)
  | map a l el es => exact NodeOut.of_err (deserString_other ref cfg (drop_map h) rfl)

theorem ref_unit (df : Bool) (cfg : Cfg) (t : ENode) : Ref df cfg .unit t := by
  intro buf i ref rest h
  refine Evt.succ (Evt.of_forall fun fuel => ?_)
  rw [deser, interp]
  cases t with
  | scalar v tag rt st a l =>
    have h' := drop_scalar h
    simp only [Cursor.peek_replay_of_drop ref h', Cursor.next_replay_of_drop ref h']
    apply NodeOut.of_expect
    split <;> simp
  | seq a tag rt l el items =>
    simp only [Cursor.peek_replay_of_drop ref (drop_seq h)]
    exact NodeOut.of_err (by simp)
  | map a l el es =>
    simp only [Cursor.peek_replay_of_drop ref (drop_map h)]
    exact NodeOut.of_err (by simp)

theorem ref_newtype {df : Bool} {cfg : Cfg} {ty : Ty} {t : ENode} (h : Ref df cfg ty t) : Ref df cfg (.newtype ty) t := by
  intro buf i ref rest hb
  refine Evt.succ (Evt.mono (h buf i ref rest hb) fun fuel hn => ?_)
  rw [deser, interp]
  exact hn

theorem ref_option {df : Bool} {cfg : Cfg} {ty : Ty} {t : ENode} (h : Ref df cfg ty t) : Ref df cfg (.option ty) t := by
  intro buf i ref rest hb
  refine Evt.succ (Evt.mono (h buf i ref rest hb) fun fuel hsub => ?_)
  rw [deser, interp]
  simp only [Bool.and_self, Bool.false_eq_true, if_false]
  have key : NodeOut buf ref i (eflatten t).length df ((interp cfg ty t).map Val.some)
      (match deser fuel cfg ty false false (.replay buf i ref) with
        | .err e c => .err e c
        | .ok v c => .ok (.some v) c) := by
    rw [Option.map_eq_bind]
    exact hsub.bind_expect (fun v c hx => by rw [hx]; rfl) (fun e c hx => by rw [hx])
  cases t with
  | scalar v tag rt st a l =>
    have h' := drop_scalar hb
    simp only [Cursor.peek_replay_of_drop ref h', Cursor.next_replay_of_drop ref h']
    split
    · exact NodeOut.of_expect (by simp)
    · exact key
  | seq a tag rt l el items =>
    simp only [Cursor.peek_replay_of_drop ref (drop_seq hb)]
    exact key
  | map a l el es =>
    simp only [Cursor.peek_replay_of_drop ref (drop_map hb)]
    exact key

/-- one element of an untagged byte sequence -/
def byteFn (cfg : Cfg) (it : ENode) : Option Nat :=
  match it with
  | .scalar v _ _ _ _ _ => parseIntUnsigned 8 cfg.legacyOctal v
  | _ => none

theorem bytesLoop_spec (cfg : Cfg) (items : List ENode) :
    ∀ {buf : List Ev} {i : Nat} (ref : Option Loc) {el : Loc} {rest : List Ev},
    buf.drop i = eflattenL items ++ .seqEnd el :: rest →
    Evt fun fuel => ∀ acc,
      Expect (bytesLoop fuel cfg (.replay buf i ref) acc) ((items.mapM (byteFn cfg)).map (fun bs => .bytes (acc ++ bs)))
        (.replay buf (i + (eflattenL items).length + 1) ref) := by
  induction items with
  | nil =>
    intro buf i ref el rest h
    refine Evt.succ (Evt.of_forall fun fuel acc => ?_)
    simp only [eflattenL_nil, List.nil_append] at h
    rw [bytesLoop]
    simp [Cursor.peek_replay_of_drop ref h, Cursor.next_replay_of_drop ref h]
  | cons x xs ih =>
    intro buf i ref el rest h
    simp only [eflattenL_cons, List.append_assoc] at h
    refine Evt.succ (Evt.mono (ih ref (Cursor.drop_add_of_drop_eq_append h)) fun fuel hn acc => ?_)
    rw [bytesLoop]
    cases x with
    | scalar v tag rt st a l =>
      have h' : buf.drop i = .scalar v tag rt st a l :: (eflattenL xs ++ .seqEnd el :: rest) := by simpa [eflatten] using h
      have hs := deserScalarTyped_scalar ref cfg (.int false 8) h'
      simp only [Cursor.peek_replay_of_drop ref h', List.mapM_cons, byteFn]
      simp only [scalarTyped] at hs
      cases hp : parseIntUnsigned 8 cfg.legacyOctal v with
      | none =>
        simp only [hp, Option.map_none, expect_none] at hs
        obtain ⟨e, c, he⟩ := hs
        simp [he]
      | some u =>
        simp only [hp, Option.map_some, expect_some] at hs
        simp only [hs]
        have := hn (acc ++ [u])
        simp only [C04.eflatten_scalar_length] at this
        have hidx : i + 1 + (eflattenL xs).length + 1 = i + ((eflatten (.scalar v tag rt st a l)).length + (eflattenL xs).length) + 1 := by
          simp; omega
        rw [hidx] at this
        have htn : (Int.ofNat u).toNat = u := by simp
        simp only [htn]
        cases hm : xs.mapM (byteFn cfg) with
        | none => simpa [hm] using this
        | some bs =>
          simp only [hm, Option.map_some, expect_some] at this
          simp [this]
    | seq a tag rt l el' items =>
      have h' := drop_seq (rest := eflattenL xs ++ .seqEnd el :: rest) (by simpa using h)
      obtain ⟨e, c, he⟩ := deserScalarTyped_other ref cfg (.int false 8) h' rfl
      simp [Cursor.peek_replay_of_drop ref h', he, byteFn]
    | map a l el' es =>
      have h' := drop_map (rest := eflattenL xs ++ .seqEnd el :: rest) (by simpa using h)
      obtain ⟨e, c, he⟩ := deserScalarTyped_other ref cfg (.int false 8) h' rfl
      simp [Cursor.peek_replay_of_drop ref h', he, byteFn]

theorem ref_bytes (df : Bool) (cfg : Cfg) (t : ENode) : Ref df cfg .bytes t := by
  intro buf i ref rest h
  cases t with
  | scalar v tag rt st a l =>
    refine Evt.succ (Evt.of_forall fun fuel => ?_)
    rw [deser, interp]
    have h' := drop_scalar h
    simp only [Cursor.peek_replay_of_drop ref h', Cursor.next_replay_of_drop ref h']
    apply NodeOut.of_expect
    split
    · cases Base64.decode (utf8Bytes v) <;> simp
    · simp
  | seq a tag rt l el items =>
    have h' := drop_seq h
    refine Evt.succ (Evt.mono (bytesLoop_spec cfg items ref (Cursor.drop_succ_of_drop_eq_cons h')) fun fuel hn => ?_)
    rw [deser, interp]
    simp only [Cursor.peek_replay_of_drop ref h', Cursor.next_replay_of_drop ref h']
    apply NodeOut.of_expect
    have := hn []
    simp only [List.nil_append] at this
    have e : i + (eflatten (.seq a tag rt l el items)).length = i + 1 + (eflattenL items).length + 1 := by
      simp; omega
    rw [e]
    exact this
  | map a l el es =>
    refine Evt.succ (Evt.of_forall fun fuel => ?_)
    rw [deser, interp]
    simp only [Cursor.peek_replay_of_drop ref (drop_map h)]
    exact NodeOut.of_err (by simp)

end SaphyrVerif.Lemmas.C05
