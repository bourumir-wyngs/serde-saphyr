import SaphyrVerif.Lemmas.C05_Cursor
import SaphyrVerif.Lemmas.C03
/-!
C05, specification side: "for all large enough fuel" (`Evt`), the types and trees the refinement covers (`tfree`,
`kfree`), the induction it runs on (`depth_size_induction`), and the depth bound under which the entries of a
mapping — own or delivered by a merge value — are positions that induction may appeal to (`EntOK`, `AllOK`).
-/
namespace SaphyrVerif.Lemmas.C05
open SaphyrVerif SaphyrVerif.Scalars SaphyrVerif.Pump SaphyrVerif.De SaphyrVerif.Spec

/-! The refinement statements have the form `∃ n, ∀ fuel, n ≤ fuel → p fuel`.  They compose without naming the
bounds: one more unit of fuel for the call that is unfolded (`succ`), the larger bound for two sub-calls (`and`). -/

abbrev Evt (p : Nat → Prop) : Prop := ∃ n, ∀ fuel, n ≤ fuel → p fuel

theorem Evt.of_forall {p : Nat → Prop} (h : ∀ fuel, p fuel) : Evt p := ⟨0, fun fuel _ => h fuel⟩

theorem Evt.mono {p q : Nat → Prop} (h : Evt p) (hpq : ∀ fuel, p fuel → q fuel) : Evt q := by
  obtain ⟨n, hn⟩ := h
  exact ⟨n, fun fuel hf => hpq fuel (hn fuel hf)⟩

theorem Evt.and {p q : Nat → Prop} (hp : Evt p) (hq : Evt q) : Evt fun fuel => p fuel ∧ q fuel := by
  obtain ⟨n, hn⟩ := hp
  obtain ⟨m, hm⟩ := hq
  exact ⟨max n m, fun fuel hf => ⟨hn fuel (by omega), hm fuel (by omega)⟩⟩

theorem Evt.shift {p : Nat → Prop} (h : Evt p) : Evt fun fuel => p (fuel + 1) := by
  obtain ⟨n, hn⟩ := h
  exact ⟨n, fun fuel hf => hn (fuel + 1) (by omega)⟩

theorem Evt.succ {p : Nat → Prop} (h : Evt fun fuel => p (fuel + 1)) : Evt p := by
  obtain ⟨n, hn⟩ := h
  refine ⟨n + 1, fun fuel hf => ?_⟩
  obtain ⟨fuel, rfl⟩ : ∃ f, fuel = f + 1 := ⟨fuel - 1, by omega⟩
  exact hn fuel (by omega)

/-! Copies of the predicates of Props/C05 (shown equal there: `tupleFree_eq`, `noKemnKeys_eq`):
`tfree` = `Props.C05.tupleFree` (no tuple position in the type); `kfree` with `keyShapeOK` = `Props.C05.noKemnKeys`
(no mapping key is a one-entry mapping whose own key is null-like — the `key_empty_map_node` case of `de.rs`). -/

mutual
def tfree : Ty → Bool
  | .tuple _ => false
  | .option t | .seq t | .newtype t => tfree t
  | .map k v => tfree k && tfree v
  | .struct fs _ => tfreeF fs
  | .enum _ vs => tfreeV vs
  | _ => true
def tfreeF : List (String × Ty) → Bool
  | [] => true
  | (_, t) :: r => tfree t && tfreeF r
def tfreeV : List (String × VTy) → Bool
  | [] => true
  | (_, .unit) :: r => tfreeV r
  | (_, .newtype t) :: r => tfree t && tfreeV r
  | (_, .tuple _) :: _ => false
  | (_, .struct fs) :: r => tfreeF fs && tfreeV r
end

def keyShapeOK (k : ENode) : Bool :=
  match k with
  | .map _ _ _ [(.scalar sv stag _ _ _ _, _)] => !fpNullish sv stag
  | _ => true

mutual
def kfree : ENode → Bool
  | .scalar .. => true
  | .seq _ _ _ _ _ items => kfreeL items
  | .map _ _ _ entries => kfreeE entries
def kfreeL : List ENode → Bool
  | [] => true
  | n :: ns => kfree n && kfreeL ns
def kfreeE : List (ENode × ENode) → Bool
  | [] => true
  | (k, v) :: es => keyShapeOK k && kfree k && kfree v && kfreeE es
end

@[simp] theorem kfreeL_nil : kfreeL [] = true := by rw [kfreeL]
@[simp] theorem kfreeL_cons (n : ENode) (ns : List ENode) : kfreeL (n :: ns) = (kfree n && kfreeL ns) := by rw [kfreeL]
@[simp] theorem kfreeE_nil : kfreeE [] = true := by rw [kfreeE]
@[simp] theorem kfreeE_cons (k v : ENode) (es : List (ENode × ENode)) :
    kfreeE ((k, v) :: es) = (keyShapeOK k && kfree k && kfree v && kfreeE es) := by rw [kfreeE]
@[simp] theorem kfree_seq (a tag : Nat) (rt : Option (List Char)) (l el : Loc) (items : List ENode) :
    kfree (.seq a tag rt l el items) = kfreeL items := by rw [kfree]
@[simp] theorem kfree_map (a : Nat) (l el : Loc) (es : List (ENode × ENode)) : kfree (.map a l el es) = kfreeE es := by
  rw [kfree]

theorem kfreeL_mem {items : List ENode} (h : kfreeL items = true) {n : ENode} (hn : n ∈ items) : kfree n = true :=
  mem_of_andCons kfreeL_cons h hn

@[simp] theorem depthOfL_nil : depthOfL [] = 0 := by rw [depthOfL]
@[simp] theorem depthOfL_cons (n : ENode) (ns : List ENode) : depthOfL (n :: ns) = max (depthOf n) (depthOfL ns) := by
  rw [depthOfL]
@[simp] theorem depthOfE_nil : depthOfE [] = 0 := by rw [depthOfE]
@[simp] theorem depthOfE_cons (k v : ENode) (es : List (ENode × ENode)) :
    depthOfE ((k, v) :: es) = max (max (depthOf k) (depthOf v)) (depthOfE es) := by rw [depthOfE]
@[simp] theorem depthOf_scalar (v : List Char) (tag : Nat) (rt : Option (List Char)) (st : Style) (a : Nat) (l : Loc) :
    depthOf (.scalar v tag rt st a l) = 1 := by rw [depthOf]
@[simp] theorem depthOf_seq (a tag : Nat) (rt : Option (List Char)) (l el : Loc) (items : List ENode) :
    depthOf (.seq a tag rt l el items) = depthOfL items + 1 := by rw [depthOf]
@[simp] theorem depthOf_map (a : Nat) (l el : Loc) (es : List (ENode × ENode)) :
    depthOf (.map a l el es) = depthOfE es + 1 := by rw [depthOf]

theorem depthOf_pos (t : ENode) : 0 < depthOf t := by cases t <;> simp

theorem depthOfL_mem {items : List ENode} {n : ENode} (hn : n ∈ items) : depthOf n ≤ depthOfL items := by
  induction items with
  | nil => cases hn
  | cons x xs ih =>
    rcases List.mem_cons.mp hn with rfl | hm
    · simp; omega
    · have := ih hm; simp; omega

theorem depthOfE_mem {es : List (ENode × ENode)} {e : ENode × ENode} (he : e ∈ es) :
    depthOf e.1 ≤ depthOfE es ∧ depthOf e.2 ≤ depthOfE es := by
  induction es with
  | nil => cases he
  | cons x xs ih =>
    obtain ⟨k, v⟩ := x
    rcases List.mem_cons.mp he with rfl | hm
    · simp; omega
    · have := ih hm; simp; omega

/-- induction on the size of a type (`Ty` is a nested inductive type; a wrapper is bigger than what it wraps) -/
theorem size_induction {P : Ty → Prop} (step : ∀ ty, (∀ ty', sizeOf ty' < sizeOf ty → P ty') → P ty) (ty : Ty) : P ty :=
  (measure (sizeOf : Ty → Nat)).wf.induction ty step

/-- lexicographic: the nesting depth of the node, then the size of the target type -/
theorem depth_size_induction {P : Ty → ENode → Prop}
    (step : ∀ ty t, (∀ ty' t', depthOf t' < depthOf t → P ty' t') →
      (∀ ty' t', sizeOf ty' < sizeOf ty → depthOf t' ≤ depthOf t → P ty' t') → P ty t) (ty : Ty) (t : ENode) : P ty t := by
  suffices ∀ d s ty t, depthOf t ≤ d → sizeOf ty ≤ s → P ty t from this _ _ ty t (Nat.le_refl _) (Nat.le_refl _)
  intro d
  induction d with
  | zero => intro s ty t hd; have := depthOf_pos t; omega
  | succ d ihd =>
    intro s
    induction s with
    | zero => intro ty t _ hs; cases ty <;> simp at hs
    | succ s ihs =>
      intro ty t hd hs
      exact step ty t (fun ty' t' h => ihd _ ty' t' (by omega) (Nat.le_refl _))
        (fun ty' t' h1 h2 => ihs ty' t' (by omega) (by omega))

def EntOK (d : Nat) (e : ENode × ENode) : Prop :=
  depthOf e.1 < d ∧ depthOf e.2 < d ∧ kfree e.1 = true ∧ kfree e.2 = true ∧ keyShapeOK e.1 = true

def AllOK (d : Nat) (es : List (ENode × ENode)) : Prop := ∀ e ∈ es, EntOK d e

theorem AllOK.nil (d : Nat) : AllOK d [] := fun _ h => by cases h

theorem AllOK.mono {d d' : Nat} {es : List (ENode × ENode)} (h : AllOK d es) (hd : d ≤ d') : AllOK d' es := by
  intro e he
  obtain ⟨h1, h2, h3⟩ := h e he
  exact ⟨by omega, by omega, h3⟩

theorem AllOK.append {d : Nat} {a b : List (ENode × ENode)} (ha : AllOK d a) (hb : AllOK d b) : AllOK d (a ++ b) := by
  intro e he
  rcases List.mem_append.mp he with h | h
  · exact ha e h
  · exact hb e h

theorem AllOK.tail {d : Nat} {e : ENode × ENode} {es : List (ENode × ENode)} (h : AllOK d (e :: es)) : AllOK d es :=
  fun x hx => h x (List.mem_cons_of_mem _ hx)

theorem AllOK.head {d : Nat} {e : ENode × ENode} {es : List (ENode × ENode)} (h : AllOK d (e :: es)) : EntOK d e :=
  h e (List.mem_cons_self ..)

theorem kfreeE_mem {es : List (ENode × ENode)} (h : kfreeE es = true) {e : ENode × ENode} (he : e ∈ es) :
    keyShapeOK e.1 = true ∧ kfree e.1 = true ∧ kfree e.2 = true := by
  have := mem_of_andCons (f := fun e => keyShapeOK e.1 && kfree e.1 && kfree e.2) (fun ⟨k, v⟩ es => kfreeE_cons k v es) h he
  simpa [and_assoc] using this

theorem allOK_of_kfreeE {es : List (ENode × ENode)} (h : kfreeE es = true) : AllOK (depthOfE es + 1) es := by
  intro e he
  obtain ⟨h1, h2, h3⟩ := kfreeE_mem h he
  obtain ⟨d1, d2⟩ := depthOfE_mem he
  exact ⟨by omega, by omega, h2, h3, h1⟩

theorem depth_seq (d : Nat) (a tag : Nat) (rt : Option (List Char)) (l el : Loc) (items : List ENode)
    (h : depthOf (.seq a tag rt l el items) ≤ d) : ∀ it ∈ items, depthOf it ≤ d := by
  intro it hit
  simp only [depthOf_seq] at h
  have := depthOfL_mem hit
  omega

theorem depth_map (d : Nat) (a : Nat) (l el : Loc) (es : List (ENode × ENode)) (h : depthOf (.map a l el es) ≤ d) :
    ∀ e ∈ es, if isMergeKeyNode e.1 then depthOf e.2 ≤ d else depthOf e.1 < d ∧ depthOf e.2 < d := by
  intro e he
  simp only [depthOf_map] at h
  obtain ⟨d1, d2⟩ := depthOfE_mem he
  split
  · omega
  · exact ⟨by omega, by omega⟩

/-- the invariant `Q` of `C03.sourceEntries_forall` under which a merge value delivers admissible entries -/
def Below (d : Nat) (n : ENode) : Prop := kfree n = true ∧ depthOf n ≤ d

theorem below_seq (d : Nat) (a tag : Nat) (rt : Option (List Char)) (l el : Loc) (items : List ENode)
    (h : Below d (.seq a tag rt l el items)) : ∀ it ∈ items, Below d it := by
  intro it hit
  obtain ⟨hk, hd⟩ := h
  simp only [kfree_seq] at hk
  simp only [depthOf_seq] at hd
  have := depthOfL_mem hit
  exact ⟨kfreeL_mem hk hit, by omega⟩

theorem below_map (d : Nat) (a : Nat) (l el : Loc) (es : List (ENode × ENode)) (h : Below d (.map a l el es)) :
    ∀ e ∈ es, if isMergeKeyNode e.1 then Below d e.2 else EntOK d e := by
  intro e he
  obtain ⟨hk, hd⟩ := h
  simp only [kfree_map] at hk
  simp only [depthOf_map] at hd
  obtain ⟨h1, h2, h3, h4, h5⟩ := allOK_of_kfreeE hk e he
  split
  · exact ⟨h4, by omega⟩
  · exact ⟨by omega, by omega, h3, h4, h5⟩

theorem sourceEntries_ok (n : ENode) (es : List (ENode × ENode)) (hk : kfree n = true) (h : sourceEntries n = some es) :
    AllOK (depthOf n) es :=
  C03.sourceEntries_forall (below_seq _) (below_map _) n es ⟨hk, Nat.le_refl _⟩ h

theorem mapSourceEntries_ok : ∀ (entries es : List (ENode × ENode)), kfreeE entries = true →
    mapSourceEntries entries = some es → AllOK (depthOfE entries + 1) es :=
  fun entries es hk h => C03.mapSourceEntries_forall (below_seq _) (below_map _) entries es
    (below_map _ 0 0 0 entries ⟨by simpa using hk, by simp⟩) h

theorem seqSourceEntries_ok : ∀ (items : List ENode) (es : List (ENode × ENode)), kfreeL items = true →
    seqSourceEntries items = some es → AllOK (depthOfL items + 1) es :=
  fun items es hk h => C03.seqSourceEntries_forall (below_seq _) (below_map _) items es
    (below_seq _ 0 0 none 0 0 items ⟨by simpa using hk, by simp⟩) h

theorem allOK_source {d : Nat} {e : ENode × ENode} (he : EntOK d e) {b : List (ENode × ENode)}
    (hb : sourceEntries e.2 = some b) : AllOK d b :=
  (sourceEntries_ok e.2 b he.2.2.2.1 hb).mono (by have := he.2.1; omega)

theorem interpFns_nil (cfg : Cfg) : interpFns cfg [] = [] := by rw [interpFns]
theorem interpFns_cons (cfg : Cfg) (t : Ty) (ts : List Ty) : interpFns cfg (t :: ts) = interp cfg t :: interpFns cfg ts := by
  rw [interpFns]

theorem interpFns_eq_map (cfg : Cfg) (ts : List Ty) : interpFns cfg ts = ts.map (interp cfg) := by
  induction ts with
  | nil => rw [interpFns_nil]; rfl
  | cons t ts ih => rw [interpFns_cons, ih]; rfl

theorem interpFns_length (cfg : Cfg) (ts : List Ty) : (interpFns cfg ts).length = ts.length := by
  rw [interpFns_eq_map, List.length_map]

theorem tupleFrom_length_ne (fs : List NodeFn) (ns : List ENode) (h : ns.length ≠ fs.length) : tupleFrom fs ns = none := by
  induction fs generalizing ns with
  | nil => cases ns with
    | nil => simp at h
    | cons n ns => simp [tupleFrom]
  | cons f fs ih => cases ns with
    | nil => simp [tupleFrom]
    | cons n ns =>
      have := ih ns (by simpa using h)
      simp only [tupleFrom, this]
      split <;> simp_all

theorem variantFrom_unknown (cfg : Cfg) (vs : List (String × VarFn)) (v : List Char) (p : Option ENode) (tg : Bool)
    (h : ∀ q ∈ vs, q.1.toList ≠ v) : variantFrom cfg vs v p tg = none := by
  induction vs with
  | nil => simp [variantFrom]
  | cons q vs ih =>
    obtain ⟨n, vf⟩ := q
    have h1 : n.toList ≠ v := h (n, vf) (by simp)
    rw [variantFrom.eq_def]
    simp only [bne_iff_ne, ne_eq, h1, not_false_eq_true, if_true]
    exact ih (fun q hq => h q (by simp [hq]))

end SaphyrVerif.Lemmas.C05
