import SaphyrVerif.Lemmas.C02_Frames
import SaphyrVerif.Lemmas.ExpandEqns
/-!
Helper lemmas for C02: the replay stack holds at most one frame; erasing anchor marks of an
alias-free tree only erases the ids of the delivered events.
-/
namespace SaphyrVerif.Lemmas.C02
open SaphyrVerif SaphyrVerif.Scalars SaphyrVerif.Pump SaphyrVerif.Spec SaphyrVerif.Budget

theorem served_inject_le {p : Pump} {fs : List InjectFrame} {r : Option Step} {p' : Pump} (h : Served p fs r p') :
    p'.inject.length ≤ fs.length := by
  cases h with
  | fall => exact Nat.zero_le _
  | _ => subst ‹fs = _›; simp only [List.length_append, List.length_cons]; omega

theorem item_inject {p : Pump} {loc : Loc} {raw : Raw} {o : ItemOut} (h : Item p loc raw o) (hi : p.inject = []) :
    o.pump.inject.length ≤ 1 := by
  have nil : ∀ {l : List InjectFrame}, l = [] → l.length ≤ 1 := fun hl => by rw [hl]; exact Nat.zero_le 1
  cases h with
  | replay id buf hc hd ho hl hs =>
    refine Nat.le_trans (served_inject_le hs) ?_
    simp only [pushed, hi, List.length_cons, List.length_nil, Nat.le_refl]
  | spentAlias | docStart | docEndStop | docEnd => exact nil rfl
  | _ => exact nil hi

theorem loop_inject {p : Pump} {inp : List RawItem} {s : Step} {p' : Pump} {rest : List RawItem}
    (h : Loop p inp s p' rest) (hi : p.inject = []) : p'.inject.length ≤ 1 := by
  induction h with
  | null | eof | scan | breach => rw [hi]; exact Nat.zero_le 1
  | ret rest hb h => exact item_inject h hi
  | stop rest hb h => exact item_inject h hi
  | pass hb h _ ih => exact ih (h.cont_inject hi)

theorem nextImpl_inject (p : Pump) (inp : List RawItem) (h : p.inject.length ≤ 1) :
    (nextImpl p inp).2.1.inject.length ≤ 1 := by
  rcases hn : nextImpl p inp with ⟨s, p', rest⟩
  cases call_of hn with
  | served hs => exact Nat.le_trans (served_inject_le hs) h
  | loop _ hl => exact loop_inject hl rfl


mutual
theorem erase_node (t : LNode) (haf : aliasFree t = true)
    (σ σ' : Tab) (opn opn' : List Nat) (r r' : Exp)
    (h1 : expand σ opn t = .ok r) (h2 : expand σ' opn' (eraseAnchors t) = .ok r') :
    r'.evs = r.evs.map Ev.eraseAnchor := by
  match t with
  | .scalar v st a tag loc =>
    simp only [eraseAnchors, expand, Except.ok.injEq] at h1 h2
    subst h1 h2
    simp [scalarEv, Ev.eraseAnchor, normStyle]
  | .alias id loc => simp [aliasFree] at haf
  | .seq a tag loc eloc items =>
    simp only [aliasFree] at haf
    rw [expand_seq] at h1
    rw [eraseAnchors, expand_seq] at h2
    obtain ⟨rL, hL, rfl⟩ := wrap_ok h1
    obtain ⟨rL', hL', rfl⟩ := wrap_ok h2
    simp [erase_nodes items haf _ _ _ _ _ _ hL hL', Ev.eraseAnchor]
  | .map a tag loc eloc entries =>
    simp only [aliasFree] at haf
    rw [expand_map] at h1
    rw [eraseAnchors, expand_map] at h2
    obtain ⟨rL, hL, rfl⟩ := wrap_ok h1
    obtain ⟨rL', hL', rfl⟩ := wrap_ok h2
    simp [erase_entries entries haf _ _ _ _ _ _ hL hL', Ev.eraseAnchor]
theorem erase_nodes (ts : List LNode) (haf : aliasFreeL ts = true)
    (σ σ' : Tab) (opn opn' : List Nat) (r r' : Exp)
    (h1 : expandL σ opn ts = .ok r) (h2 : expandL σ' opn' (eraseAnchorsL ts) = .ok r') :
    r'.evs = r.evs.map Ev.eraseAnchor := by
  match ts with
  | [] =>
    simp only [eraseAnchorsL, expandL, Except.ok.injEq] at h1 h2
    subst h1 h2
    rfl
  | t :: ts =>
    simp only [aliasFreeL, Bool.and_eq_true] at haf
    rw [expandL_cons] at h1
    rw [eraseAnchorsL, expandL_cons] at h2
    obtain ⟨ra, rb, ha, hb, rfl⟩ := bind2_ok h1
    obtain ⟨ra', rb', ha', hb', rfl⟩ := bind2_ok h2
    simp [erase_node t haf.1 _ _ _ _ _ _ ha ha', erase_nodes ts haf.2 _ _ _ _ _ _ hb hb']
theorem erase_entries (es : List (LNode × LNode)) (haf : aliasFreeE es = true)
    (σ σ' : Tab) (opn opn' : List Nat) (r r' : Exp)
    (h1 : expandE σ opn es = .ok r) (h2 : expandE σ' opn' (eraseAnchorsE es) = .ok r') :
    r'.evs = r.evs.map Ev.eraseAnchor := by
  match es with
  | [] =>
    simp only [eraseAnchorsE, expandE, Except.ok.injEq] at h1 h2
    subst h1 h2
    rfl
  | (k, v) :: es =>
    simp only [aliasFreeE, Bool.and_eq_true] at haf
    rw [expandE_cons] at h1
    rw [eraseAnchorsE, expandE_cons] at h2
    obtain ⟨_, rc, hab, hc, rfl⟩ := bind2_ok h1
    obtain ⟨ra, rb, ha, hb, rfl⟩ := bind2_ok hab
    obtain ⟨_, rc', hab', hc', rfl⟩ := bind2_ok h2
    obtain ⟨ra', rb', ha', hb', rfl⟩ := bind2_ok hab'
    simp [erase_node k haf.1.1 _ _ _ _ _ _ ha ha', erase_node v haf.1.2 _ _ _ _ _ _ hb hb',
      erase_entries es haf.2 _ _ _ _ _ _ hc hc']
end

end SaphyrVerif.Lemmas.C02
