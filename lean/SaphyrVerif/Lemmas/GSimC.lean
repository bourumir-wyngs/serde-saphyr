import SaphyrVerif.Lemmas.GSimFam
import SaphyrVerif.Lemmas.DeEqns
/-!
Guarded simulation (`GA`), induction steps of the deserializer proper, sequences and
mappings.
-/
namespace SaphyrVerif.Lemmas
open SaphyrVerif SaphyrVerif.Scalars SaphyrVerif.Pump SaphyrVerif.De


variable {X : GSim}

theorem deser_gStep {fuel : Nat} (ih : GA X fuel) :
    ∀ cfg ty ik km {k c c'}, X.At k c c' → X.In c →
      RG X Eq (De.deser (fuel + 1) cfg ty ik km c) (De.deser (fuel + 1) cfg ty ik km c') := by
  intro cfg ty ik km k c c' hs hin
  replace hs := GSim.At.zero hs.s
  cases ty <;> rw [De.deser, De.deser]
  case option t =>
    -- the two forms read the cursor differently (`next` / `peek`): choose the form before the cursor is stepped
    by_cases h : (ik && km) = true
    · simp only [h, ↓reduceIte]
      g_loop
    · simp only [h, ↓reduceIte, Bool.false_eq_true]
      g_loop
  all_goals g_loop

theorem mapNull_g (shape : (Ty × Ty) ⊕ (List (String × Ty) × Bool)) {c c' : Cur} {k : Int} (hs : X.At k c c') (hin : X.In c) :
    RG X Eq (mapNull shape c) (mapNull shape c') := by
  replace hs := GSim.At.zero hs.s
  unfold mapNull
  g_loop

theorem mapProper_g {fuel : Nat} (ih : GA X fuel) (cfg : Cfg) (shape : (Ty × Ty) ⊕ (List (String × Ty) × Bool)) {c c' : Cur} {k : Int} (hs : X.At k c c') (hin : X.In c) :
    RG X Eq (mapProper fuel cfg shape c) (mapProper fuel cfg shape c') := by
  replace hs := GSim.At.zero hs.s
  unfold mapProper
  g_loop

theorem deserMapLike_gStep {fuel : Nat} (ih : GA X fuel) :
    ∀ cfg shape {k c c'}, X.At k c c' → X.In c →
      RG X Eq (De.deserMapLike (fuel + 1) cfg shape c) (De.deserMapLike (fuel + 1) cfg shape c') := by
  intro cfg shape k c c' hs hin
  replace hs := GSim.At.zero hs.s
  rw [deserMapLike_succ, deserMapLike_succ]
  g_loop
  all_goals first
    | exact mapNull_g shape (by assumption) (by assumption)
    | exact mapProper_g ih cfg shape (by assumption) (by assumption)


theorem seqProper_g {fuel : Nat} (ih : GA X fuel) (cfg : Cfg) (shape : Ty ⊕ List Ty) {c c' : Cur}
    {k : Int} (hs : X.At k c c') (hin : X.In c) :
    RG X Eq (seqProper fuel cfg shape c) (seqProper fuel cfg shape c') := by
  replace hs := GSim.At.zero hs.s
  unfold seqProper
  cases shape
  · g_loop
  · g_loop

theorem seqHead_g {fuel : Nat} (ih : GA X fuel) (cfg : Cfg) (shape : Ty ⊕ List Ty) (pk : Option Ev) {c c' : Cur}
    {k : Int} (hs : X.At k c c') (hin : X.In c) :
    RG X Eq (seqHead fuel cfg shape pk c) (seqHead fuel cfg shape pk c') := by
  replace hs := GSim.At.zero hs.s
  unfold seqHead
  split
  · both_ite
    · g_loop
    both_ite
    · g_loop
    · exact seqProper_g ih cfg shape hs hin
  · exact seqProper_g ih cfg shape hs hin

theorem deserSeqLike_gStep {fuel : Nat} (ih : GA X fuel) :
    ∀ cfg shape {k c c'}, X.At k c c' → X.In c →
      RG X Eq (De.deserSeqLike (fuel + 1) cfg shape c) (De.deserSeqLike (fuel + 1) cfg shape c') := by
  intro cfg shape k c c' hs hin
  replace hs := GSim.At.zero hs.s
  rw [deserSeqLike_succ, deserSeqLike_succ]
  g_loop
  all_goals exact seqHead_g ih cfg shape _ (by assumption) (by assumption)

end SaphyrVerif.Lemmas
