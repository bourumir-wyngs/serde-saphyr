import SaphyrVerif.Lemmas.C11_TypedPump
import SaphyrVerif.Lemmas.C11_TypedMain
/-!
Typed multi-document theorems (C11): one document of a stream — a good document (`DocOk`: its expansion exists within
the alias limits; a pump without enforcer delivers it completely, `C11B.docServe_none`), and the specification `perDoc`
of what one document contributes on its own (at the end of the file under the names of `Props/C11_Typed.lean`:
`Props.C11.perDoc`, and `valuesOf`, the values of a stream, so that the batch lemmas speak of the same definitions).
-/
namespace SaphyrVerif.Lemmas.C11T
open SaphyrVerif SaphyrVerif.Scalars SaphyrVerif.Pump SaphyrVerif.De SaphyrVerif.Spec SaphyrVerif.Entry
open SaphyrVerif.Lemmas.C02 (noFoldedIndent)
open SaphyrVerif.Lemmas.Frame (Ctx FSim pos)

structure DocOk (L : AliasLimits) (t : LNode) (evs : List Ev) : Prop where
  nf : noFoldedIndent t = true
  depth : 1 ≤ L.maxReplayStackDepth
  exp : ∃ r, expand [] [] t = .ok r ∧ r.evs = evs ∧ r.replayed ≤ L.maxTotalReplayedEvents
  cnt : ∀ id, aliasCount id t ≤ L.maxAliasExpansionsPerAnchor

theorem DocOk.tree {L : AliasLimits} {t : LNode} {evs : List Ev} (h : DocOk L t evs) :
    ∃ n : ENode, evs = eflatten n := by
  obtain ⟨r, hr, rfl, -⟩ := h.exp
  obtain ⟨n, -, hn⟩ := Lemmas.CurSim.expand_treeOf t r hr
  exact ⟨n, hn⟩

theorem DocOk.head {L : AliasLimits} {t : LNode} {evs : List Ev} (h : DocOk L t evs) :
    ∃ e0 tl, evs = e0 :: tl ∧ Lemmas.C05.Ev.isOpen e0 = true ∧
      (∀ v tg rt st a l, e0 = .scalar v tg rt st a l → tl = []) := by
  obtain ⟨n, hn⟩ := h.tree
  obtain ⟨e0, tl, hcons, hopen, -⟩ := Lemmas.C05.eflatten_cons n
  refine ⟨e0, tl, hn.trans hcons, hopen, ?_⟩
  intro v tg rt st a l he
  subst he
  cases n <;> simp [eflatten] at hcons
  exact hcons.2

theorem DocOk.ne {L : AliasLimits} {t : LNode} {evs : List Ev} (h : DocOk L t evs) : 0 < evs.length := by
  obtain ⟨n, rfl⟩ := h.tree
  exact Lemmas.C05.eflatten_length_pos n

theorem peek_congr {p p' : Pump} {inp inp' : List RawItem} (hl : p.look = none) (hl' : p'.look = none)
    (h : nextImpl p inp = nextImpl p' inp') : Cur.peek (.live p inp) = Cur.peek (.live p' inp') := by
  simp only [Cur.peek, Pump.peek, hl, hl', h]

theorem fsim_peek_none {K : Ctx} {c d : Cur} (hs : FSim K c d) :
    (∃ c2, c.peek = .ok none c2) ↔ pos c = K.buf.length := by
  have heq := hs.eq
  have hle := hs.le
  generalize pos c = i at heq hle
  subst heq
  simp only [Cur.peek, R.ok.injEq, exists_and_left, exists_eq', and_true]
  rw [List.getElem?_eq_none_iff]
  omega

/-- what a document contributes -/
inductive DocRes where
  /-- the root is a null-like scalar: the document is skipped -/
  | skipped
  /-- the value, built from exactly the events of the document -/
  | clean (v : Val)
  /-- deserialization fails -/
  | failed
  /-- deserialization succeeds but stops before the end of the document -/
  | leftover (v : Val)
deriving Inhabited

/-- one document with (expansion) events `evs`, on its own: a null-like root scalar is skipped; otherwise the
typed deserializer is run on a replay cursor over `evs` — nothing else — with the fuel the entry points use -/
def perDoc (cfg : Cfg) (ty : Ty) (evs : List Ev) : DocRes :=
  let run : DocRes :=
    match deser (fuelFor 100000) cfg ty false false (.replay evs 0 none) with
    | .err _ _ => .failed
    | .ok v c =>
      match c.peek with
      | .ok none _ => .clean v
      | _ => .leftover v
  match evs.head? with
  | some (.scalar v _ _ st _ _) => if scalarIsNullish v st then .skipped else run
  | _ => run

end SaphyrVerif.Lemmas.C11T

namespace SaphyrVerif.Props.C11
open SaphyrVerif SaphyrVerif.Pump SaphyrVerif.De
open SaphyrVerif.Lemmas.C11T (DocRes)

/-- one document with (expansion) events `evs`, on its own (see `Lemmas.C11T.perDoc`): `skipped` (null-like
root scalar), `clean v` (value from exactly the events of the document), `failed`, or `leftover v`
(success before the end of the document) -/
abbrev perDoc (cfg : Cfg) (ty : Ty) (evs : List Ev) : DocRes := Lemmas.C11T.perDoc cfg ty evs

/-- the values of the documents that are read completely, in order -/
def valuesOf (cfg : Cfg) (ty : Ty) (evss : List (List Ev)) : List Val :=
  evss.filterMap fun evs => match perDoc cfg ty evs with
    | .clean v => some v
    | _ => none

end SaphyrVerif.Props.C11
