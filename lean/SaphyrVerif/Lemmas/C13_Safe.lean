import SaphyrVerif.Lemmas.C13_Emit
import SaphyrVerif.Lemmas.C13_Quoted
import SaphyrVerif.Lemmas.C13_Plain
/-!
What `serialize_str` writes when no block style is involved (one token),
and the contracts of the SAFE leaf class: for scalar-text functions that satisfy `SafeContract`, safe
strings are written plain — under `quote_all` string values and the names of variants with data in
single quotes — and these tokens read back.
-/
namespace SaphyrVerif.Emit

variable {o : Opts} {f : ScalarFns}

/-- does `serialize_str` select a block style (literal / folded) automatically for `v` in block
context? (the guard of the auto-selection at the head of `serialize_str`) -/
def autoBlock (o : Opts) (f : ScalarFns) (v : List Char) : Bool :=
  !o.quoteAll && o.preferBlockScalars &&
    (if v.contains '\n' then
      (decide (v.length > o.foldedWrapCol) && (!(v.any fun c => isControl c && c != '\n' && c != '\t') && !(trimEndNl v).isEmpty)) ||
        f.isPlainValueSafe ((trimEndNl v).map fun c => if c == '\n' then ' ' else c) o.yaml12 false
     else f.isPlainValueSafe v o.yaml12 false && decide (v.length > o.foldedWrapCol))

/-- the token `serialize_str` writes for `v` in block context when no block style is involved -/
def strTok (o : Opts) (f : ScalarFns) (v : List Char) : List Char :=
  if v == ['.'] || v == ['#'] || v == ['-'] then '\'' :: v ++ ['\''] else plainOrQuotedValue o f false v

/-- the auto-selection of a block style at the head of `serialize_str`: letter for letter the first `let` of the model's
`serStr` (`Model/Emitter.lean`), so that `serStr_token` / `serStr_of_autoSel_block` can rewrite that sub-term of the model by a
hypothesis about `autoSel` -/
def autoSel (o : Opts) (f : ScalarFns) (v : List Char) (s : St) : St :=
    if s.pendingStrStyle.isNone && s.inFlow == 0 && !o.quoteAll then
      if v.contains '\n' then
        if o.preferBlockScalars then
          let blockOk := !(v.any fun c => isControl c && c != '\n' && c != '\t') && !(trimEndNl v).isEmpty
          if v.length > o.foldedWrapCol && blockOk then
            { s with pendingStrStyle := some .literal, pendingStrFromAuto := true }
          else
            let trimmed := trimEndNl v
            let normalized := trimmed.map fun c => if c == '\n' then ' ' else c
            if f.isPlainValueSafe normalized o.yaml12 false then
              { s with pendingStrStyle := some .literal, pendingStrFromAuto := true }
            else s
        else s
      else if o.preferBlockScalars then
        let needsQuoting := !f.isPlainValueSafe v o.yaml12 false
        if !needsQuoting && v.length > o.foldedWrapCol then
          { s with pendingStrStyle := some .folded, pendingStrFromAuto := true }
        else s
      else s
    else s

theorem serToken_eq (tok : List Char) (s : St) :
    serToken o tok s = writeEndOfScalar ((indentIfLineStart o (writeSpaceIfPending s)).write tok) := rfl

theorem writeSpaceIfPending_inFlow (s : St) : (writeSpaceIfPending s).inFlow = s.inFlow := by
  unfold writeSpaceIfPending; split <;> rfl

theorem writeIndent_inFlow (s : St) (d : Nat) : (writeIndent o s d).inFlow = s.inFlow := by
  unfold writeIndent St.write
  split
  · split
    · split <;> rfl
    · rfl
  · rfl

theorem inFlow_indent (s : St) : (indentIfLineStart o (writeSpaceIfPending s)).inFlow = s.inFlow := by
  unfold indentIfLineStart
  split
  · rw [writeIndent_inFlow, writeSpaceIfPending_inFlow]
  · exact writeSpaceIfPending_inFlow s

theorem ite_ite_or {α : Type} (a b : Bool) (x y : α) : (if a then x else if b then x else y) = if a || b then x else y := by
  cases a <;> cases b <;> rfl

/-- the auto-selection in closed form: `autoBlock` is its guard (given no pending style, block context), a line break in the
string decides between the two styles -/
theorem autoSel_eq (v : List Char) (s : St) :
    autoSel o f v s =
      if s.pendingStrStyle.isNone && s.inFlow == 0 && autoBlock o f v then
        { s with pendingStrStyle := some (if v.contains '\n' then .literal else .folded), pendingStrFromAuto := true }
      else s := by
  unfold autoSel autoBlock
  cases s.pendingStrStyle.isNone && s.inFlow == 0
  · simp
  cases o.quoteAll
  rotate_left
  · simp
  cases o.preferBlockScalars
  · simp
  cases v.contains '\n'
  · simp
  · -- with a line break two tests lead to the literal style
    simp only [Bool.true_and, Bool.not_false, if_true]
    exact ite_ite_or _ _ _ _

/-- without a pending style, in block context and when no block style is selected, `serialize_str` writes one token -/
theorem serStr_token {v : List Char} {s : St} (h1 : s.pendingStrStyle = none) (h2 : s.inFlow = 0)
    (ha : autoBlock o f v = false) : serStr o f v s = serToken o (strTok o f v) s := by
  have h : autoSel o f v s = s := by simp [autoSel_eq, ha]
  simp only [autoSel] at h
  have h0 : decide ((indentIfLineStart o (writeSpaceIfPending s)).inFlow > 0) = false := by simp [inFlow_indent, h2]
  rw [serToken_eq]
  simp only [serStr, h]
  simp only [h1, h0, strTok]
  by_cases hp : (v == ['.'] || v == ['#'] || v == ['-']) = true
  · simp only [hp, if_true]
  · simp only [hp, Bool.false_eq_true, if_false]

/-- the tokens of the safe class: a safe string is written as itself; under `quote_all` string values
(hence unit variants) and the names of variants with data are single-quoted, string keys stay plain
(`KeyScalarSink` does not look at `quote_all`); under `tagged_enums` a unit variant is `!!Enum variant` -/
def safeToks (o : Opts) : Toks :=
  Toks.ofStr (fun s => if o.quoteAll then singleQuoted s else s) (fun s => s)
    (fun s => if o.quoteAll then singleQuoted s else s)
    (fun e n =>
      if o.taggedEnums then '!' :: '!' :: e ++ ' ' :: (if o.quoteAll then singleQuoted n else n)
      else if o.quoteAll then singleQuoted n else n)

/-- `serialize_unit_variant` under `tagged_enums`: the tag, a blank and the variant name by the value rule,
as one token -/
theorem ser_unit_tagged (ht : o.taggedEnums = true) (e n : List Char) {s : St} (h2 : s.inFlow = 0) :
    ser o f (.unitVariant e n) s = .ok (serToken o ('!' :: '!' :: e ++ ' ' :: plainOrQuotedValue o f false n) s) := by
  have h0 : decide ((indentIfLineStart o (writeSpaceIfPending s)).inFlow > 0) = false := by simp [inFlow_indent, h2]
  rw [ser, serToken_eq]
  simp only [ht, if_true, serTaggedScalar, h0]
  simp

/-- `serialize_unit_variant` without `tagged_enums`: the variant name as a string -/
theorem ser_unit_untagged (ht : o.taggedEnums = false) (e n : List Char) (st : St) :
    ser o f (.unitVariant e n) st = .ok (serStr o f n st) := by
  rw [ser]; simp [ht]

theorem safeToks_plain (hq : o.quoteAll = false) (ht : o.taggedEnums = false) : safeToks o = plainToks := by
  simp [safeToks, plainToks, hq, ht]

theorem needsDoubleQuotes_safe {s : List Char} (h : isSafeStr s = true) : needsDoubleQuotes s = false := by
  simp only [needsDoubleQuotes, List.any_eq_false]
  intro c hc
  have hc' := safe_chars h c hc
  have h1 : c ≠ '\'' := by rintro rfl; exact absurd hc' (by decide)
  have h2 : c ≠ '\\' := by rintro rfl; exact absurd hc' (by decide)
  have h3 : isControl c = false := by
    simp only [isLowerAlnum, isLowerAlpha, Bool.or_eq_true, Bool.and_eq_true, decide_eq_true_eq] at hc'
    simp only [isControl, Bool.or_eq_false_iff, Bool.and_eq_false_iff, decide_eq_false_iff_not]
    rcases hc' with ⟨h, h'⟩ | ⟨h, h'⟩
    · have : (97 : Nat) ≤ c.toNat := Char.le_def.mp h
      have : c.toNat ≤ 122 := Char.le_def.mp h'
      refine ⟨by omega, Or.inl (by omega)⟩
    · have : (48 : Nat) ≤ c.toNat := Char.le_def.mp h
      have : c.toNat ≤ 57 := Char.le_def.mp h'
      exact ⟨by omega, Or.inl (by omega)⟩
  simp [h1, h2, h3]

theorem pqv_safe (hf : SafeContract f) {v : List Char} (hs : isSafeStr v = true) :
    plainOrQuotedValue o f false v = (safeToks o).str v := by
  simp only [plainOrQuotedValue, needsDoubleQuotes_safe hs, safeToks, hf.value v o.yaml12 false hs, hf.shape v hs,
    Bool.not_false, Bool.and_self, if_true, Bool.false_eq_true, if_false, Toks.ofStr_str]

theorem strTok_safe (hf : SafeContract f) {v : List Char} (hs : isSafeStr v = true) : strTok o f v = (safeToks o).str v := by
  simp only [strTok, isSafeStr_not_punct hs, Bool.false_eq_true, if_false, pqv_safe hf hs]

theorem autoBlock_line {s : List Char} (hnl : s.contains '\n' = false) (hl : s.length ≤ o.foldedWrapCol) :
    autoBlock o f s = false := by
  have hlen : ¬ (o.foldedWrapCol < s.length) := by omega
  have hnm : '\n' ∉ s := by simpa using hnl
  simp [autoBlock, hnm, hlen]

theorem autoBlock_safe {v : List Char} (hs : isSafeStr v = true) (hl : v.length ≤ o.foldedWrapCol) : autoBlock o f v = false :=
  autoBlock_line (isSafeStr_no_nl hs) hl

theorem safe_write (hf : SafeContract f) : WriteContract o f (safePred o) (safeToks o) :=
  WriteContract.ofTok (Toks.ofStr_isTok _ _ _ _)
  (fun s hs st h1 h2 => by
    simp only [safePred, Bool.and_eq_true, decide_eq_true_eq] at hs
    rw [serStr_token h1 h2 (autoBlock_safe hs.1 hs.2), strTok_safe hf hs.1])
  (fun e n hs st h1 h2 => by
    simp only [safePred, Bool.and_eq_true, decide_eq_true_eq] at hs
    cases ht : o.taggedEnums
    · rw [ser_unit_untagged ht, serStr_token h1 h2 (autoBlock_safe hs.1.1 hs.1.2), strTok_safe hf hs.1.1]
      simp [safeToks, ht]
    · rw [ser_unit_tagged ht e n h2, pqv_safe hf hs.1.1]
      simp [safeToks, ht])
  (fun s hs => by
    simp only [safePred] at hs
    simp [keyStrText, safeToks, hf.plain s hs, hf.value s o.yaml12 true hs, hf.shape s hs])
  (fun n hs => by
    simp only [safePred] at hs
    simp [plainOrQuoted, safeToks, needsDoubleQuotes_safe hs, hf.plain n hs, hf.value n o.yaml12 true hs, hf.shape n hs])

theorem safe_plainVal {s : List Char} (h : isSafeStr s = true) : PlainVal s (.str s) := by
  rw [← resolvePlain_safe h]
  refine (safe_plainTok h).plainVal fun cs e => ?_
  -- a safe string starts with a letter
  obtain ⟨c, cs', e', hc, _⟩ := safe_cons h
  rw [e] at e'
  cases e'
  exact absurd hc (by decide)

theorem safe_keyTok {s : List Char} (h : isSafeStr s = true) : KeyTok s s :=
  (safe_plainVal h).keyTok fun x hx => isTokChar_ne ((safe_plainTok h).chars x hx) ':' (by decide)

theorem safe_coreTok {s : List Char} (h : isSafeStr s = true) : CoreTok s (.str s) := (safe_plainVal h).coreTok

/-- the token of a safe string in value position (single-quoted under `quote_all`, else the string itself) may follow a
tag -/
theorem safeStr_coreTok (o : Opts) {s : List Char} (hs : isSafeStr s = true) : CoreTok ((safeToks o).str s) (.str s) := by
  cases hq : o.quoteAll
  · simpa [safeToks, hq] using safe_coreTok hs
  · simpa [safeToks, hq] using singleQuoted_coreTok (needsDoubleQuotes_safe hs)

/-- … and is a key token: the name of a variant with data is written by the value rule -/
theorem safeStr_keyTok (o : Opts) {s : List Char} (hs : isSafeStr s = true) : KeyTok ((safeToks o).str s) s := by
  cases hq : o.quoteAll
  · simpa [safeToks, hq] using safe_keyTok hs
  · simpa [safeToks, hq] using singleQuoted_keyTok (needsDoubleQuotes_safe hs)

theorem safe_read (o : Opts) (k : Nat) : ReadContract (safePred o) (safeToks o) k :=
  ReadContract.ofTok (Toks.ofStr_isTok _ _ _ _)
  (fun s hs => by
    simp only [safePred, Bool.and_eq_true] at hs
    exact (safeStr_coreTok o hs.1).toScalarTok)
  (fun e n hs => by
    simp only [safePred, Bool.and_eq_true] at hs
    have hn := safeStr_coreTok o hs.1.1
    cases ht : o.taggedEnums
    · simpa [safeToks, ht] using hn.toScalarTok
    · simpa [safeToks, ht] using tagged_scalarTok (by simpa [ht] using hs.2) hn)
  (fun s hs => by simpa [safeToks] using safe_keyTok hs)
  (fun n hs => safeStr_keyTok o hs)
  k

end SaphyrVerif.Emit
