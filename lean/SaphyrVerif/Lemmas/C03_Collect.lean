import SaphyrVerif.Lemmas.C04_Capture
import SaphyrVerif.Lemmas.C03
/-!
C03, model level: the merge expansion functions `pendingFromEvents`, `mergeSeqBatches`, `pendingFromLive`,
`collectEntriesFromMap`, `collectLoop` on replay cursors compute `sourceEntries` (entry by entry: fingerprints
and recorded events, `PRel`), and fail exactly when it does (`all_ok`: one induction on the fuel for the five of them,
since each calls the others with one unit less).
-/
namespace SaphyrVerif.Lemmas.C05
open SaphyrVerif SaphyrVerif.Scalars SaphyrVerif.Pump SaphyrVerif.De SaphyrVerif.Spec

def entProj (p : PendingEntry) : FP × List Ev × FP × List Ev := (p.key.fp, p.key.events, p.value.fp, p.value.events)
def nodeProj (e : ENode × ENode) : FP × List Ev × FP × List Ev := (fpOf e.1, eflatten e.1, fpOf e.2, eflatten e.2)

def PRel (ps : List PendingEntry) (es : List (ENode × ENode)) : Prop := ps.map entProj = es.map nodeProj

theorem PRel.nil : PRel [] [] := rfl

theorem PRel.append {a b : List PendingEntry} {x y : List (ENode × ENode)} (h1 : PRel a x) (h2 : PRel b y) :
    PRel (a ++ b) (x ++ y) := by
  simp only [PRel, List.map_append] at *; rw [h1, h2]

theorem PRel.nil_right {ps : List PendingEntry} (h : PRel ps []) : ps = [] := by
  simpa [PRel] using h

theorem PRel.nil_left {es : List (ENode × ENode)} (h : PRel [] es) : es = [] := by
  cases es with
  | nil => rfl
  | cons e es => simp [PRel] at h

theorem PRel.cons_right {ps : List PendingEntry} {e : ENode × ENode} {es : List (ENode × ENode)} (h : PRel ps (e :: es)) :
    ∃ p ps', ps = p :: ps' ∧ entProj p = nodeProj e ∧ PRel ps' es := by
  cases ps with
  | nil => simp [PRel] at h
  | cons p ps' =>
    simp only [PRel, List.map_cons, List.cons.injEq] at h
    exact ⟨p, ps', rfl, h.1, h.2⟩

theorem PRel.isEmpty {ps : List PendingEntry} {es : List (ENode × ENode)} (h : PRel ps es) : ps.isEmpty = es.isEmpty := by
  cases es with
  | nil => rw [h.nil_right]; rfl
  | cons e es => obtain ⟨p, ps', rfl, -, -⟩ := h.cons_right; rfl

end SaphyrVerif.Lemmas.C05

namespace SaphyrVerif.Lemmas.C03
open SaphyrVerif SaphyrVerif.Scalars SaphyrVerif.Pump SaphyrVerif.De SaphyrVerif.Spec
open SaphyrVerif.Lemmas.Cursor SaphyrVerif.Lemmas.C04
open SaphyrVerif.Lemmas.C05 (Ev.isOpen peek_replay_node eflatten_length_pos entProj nodeProj PRel)

theorem foldl_app_acc {α} (l : List (List α)) : ∀ init : List α,
    l.foldl (fun acc b => acc ++ b) init = init ++ l.foldl (fun acc b => acc ++ b) [] := by
  induction l with
  | nil => intro init; simp
  | cons b l ih => intro init; simp only [List.foldl_cons, List.nil_append]; rw [ih (init ++ b), ih b]; simp

theorem foldl_app_cons {α} (b : List α) (l : List (List α)) :
    (b :: l).foldl (fun acc b => acc ++ b) [] = b ++ l.foldl (fun acc b => acc ++ b) [] := by
  simp only [List.foldl_cons, List.nil_append]; exact foldl_app_acc l b

theorem foldl_rev_snoc {α} (l : List (List α)) (b : List α) :
    (l ++ [b]).foldl (fun acc b => b ++ acc) [] = b ++ l.foldl (fun acc b => b ++ acc) [] := by
  simp [List.foldl_append]

theorem isMergeKey_capture (k : ENode) : isMergeKey ⟨fpOf k, eflatten k, k.loc⟩ = isMergeKeyNode k := by
  cases k with
  | scalar v tag rt st a l => simp [isMergeKey, isMergeKeyNode, eflatten]
  | seq a tag rt l el items => simp [isMergeKey, isMergeKeyNode, eflatten]
  | map a l el es => simp [isMergeKey, isMergeKeyNode, eflatten]

/-! The heads of the two collecting loops on any cursor, in the manner of `captureSeq_end` / `captureSeq_item`
(`Lemmas/C04_Capture.lean`); the item arms `msItem`, `clItem` are those of `Lemmas/DeEqnsLoops.lean`, `clEntry` that of
`Lemmas/DeEqns.lean`. -/

theorem mergeSeqBatches_end {c c1 : Cur} {l : Loc} (h : c.peek = .ok (some (.seqEnd l)) c1) (f : Nat)
    (batches : List (List PendingEntry)) :
    mergeSeqBatches (f + 1) c batches =
      match c1.next with
      | .err e c => .err e c
      | .ok _ c => .ok batches c := by
  rw [mergeSeqBatches_succ, h]
  rfl

theorem mergeSeqBatches_item {c c1 : Cur} {e : Ev} (h : c.peek = .ok (some e) c1) (he : Ev.isOpen e = true) (f : Nat)
    (batches : List (List PendingEntry)) : mergeSeqBatches (f + 1) c batches = msItem f c1 batches := by
  rw [mergeSeqBatches_succ, h]
  cases e <;> first | rfl | simp [Ev.isOpen] at he

theorem collectLoop_end {c c1 : Cur} {l : Loc} (h : c.peek = .ok (some (.mapEnd l)) c1) (f : Nat) (ref : Loc)
    (fields : List PendingEntry) (merges : List (List PendingEntry)) :
    collectLoop (f + 1) c ref fields merges =
      match c1.next with
      | .err e c => .err e c
      | .ok _ c => .ok (fields ++ merges.foldl (fun acc b => acc ++ b) []) c := by
  rw [collectLoop_item, h]
  rfl

theorem collectLoop_entry {c c1 : Cur} {e : Ev} (h : c.peek = .ok (some e) c1) (he : Ev.isOpen e = true) (f : Nat)
    (ref : Loc) (fields : List PendingEntry) (merges : List (List PendingEntry)) :
    collectLoop (f + 1) c ref fields merges = clItem f c1 ref fields merges := by
  rw [collectLoop_item, h]
  cases e <;> first | rfl | simp [Ev.isOpen] at he

/-! One statement per function for the induction `all_ok`.  Fuel: `LiveOk` is `EventsOk` one call later (`pendingFromLive` hands
the captured node to `pendingFromEvents`), `MapOk` is `LoopOk` one call later (the `.mapStart`).  Order: `mergeSeqBatches` returns
its batches in order and its callers fold `b ++ acc`; `collectLoop` pushes in front (`es :: merges`) and folds `acc ++ b`
itself: either way a later merge source comes first. -/

def EventsOk (f : Nat) : Prop :=
  ∀ (src : ENode) (loc ref : Loc), 2 * (eflatten src).length ≤ f →
    (∀ es, sourceEntries src = some es →
      ∃ ps, pendingFromEvents f (eflatten src) loc ref = .ok ps ∧ PRel ps es) ∧
    (sourceEntries src = none → ∃ e, pendingFromEvents f (eflatten src) loc ref = .error e)

def LiveOk (f : Nat) : Prop :=
  ∀ (v : ENode) (buf : List Ev) (idx : Nat) (rest : List Ev) (cref : Option Loc) (mref : Loc),
    buf.drop idx = eflatten v ++ rest → 2 * (eflatten v).length + 1 ≤ f →
    (∀ es, sourceEntries v = some es →
      ∃ ps, pendingFromLive f (.replay buf idx cref) mref = .ok ps (.replay buf (idx + (eflatten v).length) cref) ∧
        PRel ps es) ∧
    (sourceEntries v = none → ∃ e c, pendingFromLive f (.replay buf idx cref) mref = .err e c)

def SeqOk (f : Nat) : Prop :=
  ∀ (items : List ENode) (el : Loc) (buf : List Ev) (idx : Nat) (rest : List Ev) (cref : Option Loc)
    (batches : List (List PendingEntry)),
    buf.drop idx = eflattenL items ++ .seqEnd el :: rest → 2 * (eflattenL items).length + 1 ≤ f →
    (∀ es, seqSourceEntries items = some es →
      ∃ bs, mergeSeqBatches f (.replay buf idx cref) batches =
          .ok bs (.replay buf (idx + ((eflattenL items).length + 1)) cref) ∧
        (bs.foldl (fun acc b => b ++ acc) []).map entProj =
          es.map nodeProj ++ (batches.foldl (fun acc b => b ++ acc) []).map entProj) ∧
    (seqSourceEntries items = none → ∃ e c, mergeSeqBatches f (.replay buf idx cref) batches = .err e c)

def LoopOk (f : Nat) : Prop :=
  ∀ (es : List (ENode × ENode)) (el : Loc) (buf : List Ev) (idx : Nat) (rest : List Ev) (cref : Option Loc)
    (ref : Loc) (fields : List PendingEntry) (merges : List (List PendingEntry)),
    buf.drop idx = eflattenE es ++ .mapEnd el :: rest → 2 * (eflattenE es).length + 1 ≤ f →
    (∀ m, seqSourceEntries (splitEntries es).2 = some m →
      ∃ ps, collectLoop f (.replay buf idx cref) ref fields merges =
          .ok ps (.replay buf (idx + ((eflattenE es).length + 1)) cref) ∧
        ps.map entProj = fields.map entProj ++ ((splitEntries es).1.map nodeProj ++ (m.map nodeProj ++
          (merges.foldl (fun acc b => acc ++ b) []).map entProj))) ∧
    (seqSourceEntries (splitEntries es).2 = none →
      ∃ e c, collectLoop f (.replay buf idx cref) ref fields merges = .err e c)

def MapOk (f : Nat) : Prop :=
  ∀ (a : Nat) (l el : Loc) (es : List (ENode × ENode)) (ref : Loc), 2 * (eflattenE es).length + 2 ≤ f →
    (∀ r, mapSourceEntries es = some r →
      ∃ ps c, collectEntriesFromMap f (.replay (eflatten (.map a l el es)) 0 (some ref)) ref = .ok ps c ∧
        PRel ps r) ∧
    (mapSourceEntries es = none →
      ∃ e c, collectEntriesFromMap f (.replay (eflatten (.map a l el es)) 0 (some ref)) ref = .err e c)

theorem eventsOk_succ {f : Nat} (hS : SeqOk f) (hM : MapOk f) : EventsOk (f + 1) := by
  intro src loc ref hf
  cases src with
  | scalar v tag rt st a l =>
    rw [pendingFromEvents]
    by_cases hn : mergeScalarIsNull v st tag = true
    · simp [eflatten, sourceEntries, hn, PRel]
    · simp [eflatten, sourceEntries, hn]
  | map a l el es =>
    simp only [eflatten_map_length] at hf
    obtain ⟨h1, h2⟩ := hM a l el es ref (by omega)
    rw [pendingFromEvents]
    simp only [eflatten, List.head?_cons, sourceEntries]
    simp only [eflatten] at h1 h2
    refine ⟨fun r hr => ?_, fun hr => ?_⟩
    · obtain ⟨ps, c, hc, hps⟩ := h1 r hr
      exact ⟨ps, by rw [hc], hps⟩
    · obtain ⟨e, c, hc⟩ := h2 hr
      exact ⟨e, by rw [hc]⟩
  | seq a tag rt l el items =>
    simp only [eflatten_seq_length] at hf
    have hd : (eflatten (.seq a tag rt l el items)).drop 1 = eflattenL items ++ .seqEnd el :: [] := by
      simp [eflatten]
    obtain ⟨h1, h2⟩ := hS items el _ 1 [] (some ref) [] hd (by omega)
    rw [pendingFromEvents]
    simp only [eflatten, List.head?_cons, sourceEntries, next_replay_cons_zero]
    simp only [eflatten] at h1 h2
    refine ⟨fun r hr => ?_, fun hr => ?_⟩
    · obtain ⟨bs, hc, hps⟩ := h1 r hr
      exact ⟨_, by rw [hc], by simpa [PRel] using hps⟩
    · obtain ⟨e, c, hc⟩ := h2 hr
      exact ⟨e, by rw [hc]⟩

theorem mapOk_succ {f : Nat} (hL : LoopOk f) : MapOk (f + 1) := by
  intro a l el es ref hf
  have hd : (eflatten (.map a l el es)).drop 1 = eflattenE es ++ .mapEnd el :: [] := by
    simp [eflatten]
  obtain ⟨h1, h2⟩ := hL es el _ 1 [] (some ref) ref [] [] hd (by omega)
  rw [collectEntriesFromMap]
  simp only [eflatten, next_replay_cons_zero]
  simp only [eflatten] at h1 h2
  rw [mapSource_alt]
  refine ⟨fun r hr => ?_, fun hr => ?_⟩
  · simp only [Option.map_eq_some_iff] at hr
    obtain ⟨m, hm, rfl⟩ := hr
    obtain ⟨ps, hc, hps⟩ := h1 m hm
    exact ⟨ps, _, hc, by simpa [PRel] using hps⟩
  · simp only [Option.map_eq_none_iff] at hr
    exact h2 hr

theorem liveOk_succ {f : Nat} (hA : EventsOk f) (hS : SeqOk f) : LiveOk (f + 1) := by
  intro v buf idx rest cref mref h hf
  cases v with
  | scalar v tag rt st a l =>
    simp only [eflatten, List.cons_append, List.nil_append] at h
    rw [pendingFromLive, peek_replay_of_drop cref h]
    by_cases hn : mergeScalarIsNull v st tag = true
    · simp [eflatten, sourceEntries, hn, next_replay_of_drop cref h, PRel]
    · simp [sourceEntries, hn]
  | map a l el es =>
    have hpos : (eflatten (.map a l el es)).length ≤ f := by omega
    have hcap := capture_exact_drop (.map a l el es) cref h hpos
    obtain ⟨h1, h2⟩ := hA (.map a l el es) (ENode.loc (.map a l el es)) mref (by omega)
    have h' : buf.drop idx = .mapStart a l :: (eflattenE es ++ [.mapEnd el] ++ rest) := by
      rw [h]; simp [eflatten]
    rw [pendingFromLive, peek_replay_of_drop cref h']
    simp only [hcap]
    refine ⟨fun r hr => ?_, fun hr => ?_⟩
    · obtain ⟨ps, hc, hps⟩ := h1 r hr
      exact ⟨ps, by rw [hc], hps⟩
    · obtain ⟨e, hc⟩ := h2 hr
      exact ⟨e, _, by rw [hc]⟩
  | seq a tag rt l el items =>
    have h' : buf.drop idx = .seqStart a tag rt l :: (eflattenL items ++ .seqEnd el :: rest) := by
      rw [h]; simp [eflatten]
    simp only [eflatten_seq_length] at hf ⊢
    obtain ⟨h1, h2⟩ := hS items el buf (idx + 1) rest cref [] (drop_succ_of_drop_eq_cons h') (by omega)
    rw [pendingFromLive, peek_replay_of_drop cref h']
    simp only [next_replay_of_drop cref h', sourceEntries]
    refine ⟨fun r hr => ?_, fun hr => ?_⟩
    · obtain ⟨bs, hc, hps⟩ := h1 r hr
      refine ⟨bs.foldl (fun acc b => b ++ acc) [], ?_, by simpa [PRel] using hps⟩
      rw [hc]; simp only [R.ok.injEq, true_and]; congr 1; omega
    · obtain ⟨e, c, hc⟩ := h2 hr
      exact ⟨e, c, by rw [hc]⟩

theorem seqOk_succ {f : Nat} (hA : EventsOk f) (hS : SeqOk f) : SeqOk (f + 1) := by
  intro items el buf idx rest cref batches h hf
  cases items with
  | nil =>
    simp only [eflattenL, List.nil_append] at h
    rw [mergeSeqBatches_end (peek_replay_of_drop cref h), next_replay_of_drop cref h]
    simp [seqSourceEntries, eflattenL]
  | cons n ns =>
    have h' : buf.drop idx = eflatten n ++ (eflattenL ns ++ .seqEnd el :: rest) := by
      rw [h]; simp [eflattenL]
    simp only [eflattenL_cons_length] at hf ⊢
    have hpos := eflatten_length_pos n
    have hcap := capture_exact_drop n cref h' (show (eflatten n).length ≤ f by omega)
    obtain ⟨hA1, hA2⟩ := hA n n.loc (Cur.refLoc (.replay buf idx cref)) (by omega)
    obtain ⟨e, hpk, he, -⟩ := peek_replay_node cref h'
    rw [mergeSeqBatches_item hpk he, msItem]
    simp only [hcap, seqSourceEntries]
    cases hb : sourceEntries n with
    | none =>
      obtain ⟨e', hc⟩ := hA2 hb
      refine ⟨fun r hr => by simp at hr, fun _ => ⟨e', _, by rw [hc]⟩⟩
    | some b =>
      obtain ⟨pb, hc, (hpb : pb.map entProj = b.map nodeProj)⟩ := hA1 b hb
      rw [hc]
      simp only
      obtain ⟨hS1, hS2⟩ := hS ns el buf _ rest cref (batches ++ [pb]) (drop_add_of_drop_eq_append h') (by omega)
      cases hr : seqSourceEntries ns with
      | none =>
        refine ⟨fun r hr' => by simp at hr', fun _ => hS2 hr⟩
      | some r =>
        refine ⟨fun r' hr' => ?_, fun hr' => by simp at hr'⟩
        simp only [Option.some.injEq] at hr'
        subst hr'
        obtain ⟨bs, hc2, hbs⟩ := hS1 r hr
        refine ⟨bs, by rw [hc2]; simp only [R.ok.injEq, true_and]; congr 1; omega, ?_⟩
        rw [hbs, foldl_rev_snoc]
        simp [hpb]

theorem loopOk_succ {f : Nat} (hB : LiveOk f) (hL : LoopOk f) : LoopOk (f + 1) := by
  intro es el buf idx rest cref ref fields merges h hf
  cases es with
  | nil =>
    simp only [eflattenE, List.nil_append] at h
    rw [collectLoop_end (peek_replay_of_drop cref h), next_replay_of_drop cref h]
    simp [splitEntries, eflattenE]
  | cons kv es =>
    obtain ⟨k, v⟩ := kv
    have h' : buf.drop idx = eflatten k ++ (eflatten v ++ (eflattenE es ++ .mapEnd el :: rest)) := by
      rw [h]; simp [eflattenE]
    simp only [eflattenE_cons_length] at hf ⊢
    have hposk := eflatten_length_pos k
    have hposv := eflatten_length_pos v
    have h2 := drop_add_of_drop_eq_append h'
    have h3 := drop_add_of_drop_eq_append h2
    have hcapk := capture_exact_drop k cref h' (show (eflatten k).length ≤ f by omega)
    obtain ⟨e, hpk, he, -⟩ := peek_replay_node cref h'
    rw [collectLoop_entry hpk he, clItem]
    simp only [hcapk, clEntry, isMergeKey_capture, peek_replay]
    by_cases hk : isMergeKeyNode k = true
    · simp only [splitEntries_cons, hk, if_true, seqSourceEntries]
      obtain ⟨hB1, hB2⟩ := hB v buf _ _ cref (Cur.refLoc (.replay buf (idx + (eflatten k).length) cref)) h2 (by omega)
      cases hb : sourceEntries v with
      | none =>
        obtain ⟨e', c', hc⟩ := hB2 hb
        refine ⟨fun r hr => by simp at hr, fun _ => ⟨e', c', by rw [hc]⟩⟩
      | some b =>
        obtain ⟨pb, hc, (hpb : pb.map entProj = b.map nodeProj)⟩ := hB1 b hb
        rw [hc]
        simp only
        obtain ⟨hL1, hL2⟩ := hL es el buf _ rest cref ref fields (pb :: merges) h3 (by omega)
        cases hr : seqSourceEntries (splitEntries es).2 with
        | none =>
          refine ⟨fun r hr' => by simp at hr', fun _ => hL2 hr⟩
        | some r =>
          refine ⟨fun r' hr' => ?_, fun hr' => by simp at hr'⟩
          simp only [Option.some.injEq] at hr'
          subst hr'
          obtain ⟨ps, hc2, hps⟩ := hL1 r hr
          refine ⟨ps, by rw [hc2]; simp only [R.ok.injEq, true_and]; congr 1; omega, ?_⟩
          rw [hps, foldl_app_cons]
          simp [hpb]
    · simp only [splitEntries_cons, hk, Bool.false_eq_true, if_false]
      have hcapv := capture_exact_drop v cref h2 (show (eflatten v).length ≤ f by omega)
      simp only [hcapv]
      obtain ⟨hL1, hL2⟩ := hL es el buf _ rest cref ref
        (fields ++ [⟨⟨fpOf k, eflatten k, k.loc⟩, ⟨fpOf v, eflatten v, v.loc⟩, ref⟩]) merges h3 (by omega)
      refine ⟨fun r hr => ?_, fun hr => hL2 hr⟩
      obtain ⟨ps, hc2, hps⟩ := hL1 r hr
      refine ⟨ps, by rw [hc2]; simp only [R.ok.injEq, true_and]; congr 1; omega, ?_⟩
      rw [hps]
      simp [entProj, nodeProj]

theorem all_ok (f : Nat) : EventsOk f ∧ LiveOk f ∧ SeqOk f ∧ LoopOk f ∧ MapOk f := by
  induction f with
  | zero =>
    refine ⟨?_, ?_, ?_, ?_, ?_⟩
    · intro src _ _ hf; have := eflatten_length_pos src; omega
    · intro _ _ _ _ _ _ _ hf; omega
    · intro _ _ _ _ _ _ _ _ hf; omega
    · intro _ _ _ _ _ _ _ _ _ _ hf; omega
    · intro _ _ _ _ _ hf; omega
  | succ f ih =>
    obtain ⟨hA, hB, hS, hL, hM⟩ := ih
    exact ⟨eventsOk_succ hS hM, liveOk_succ hA hS, seqOk_succ hA hS, loopOk_succ hB hL, mapOk_succ hL⟩

theorem pendingFromEvents_spec (src : ENode) (loc ref : Loc) {fuel : Nat} (hf : 2 * (eflatten src).length ≤ fuel) :
    (∀ es, sourceEntries src = some es →
      ∃ ps, pendingFromEvents fuel (eflatten src) loc ref = .ok ps ∧ PRel ps es) ∧
    (sourceEntries src = none → ∃ e, pendingFromEvents fuel (eflatten src) loc ref = .error e) :=
  (all_ok fuel).1 src loc ref hf

end SaphyrVerif.Lemmas.C03
