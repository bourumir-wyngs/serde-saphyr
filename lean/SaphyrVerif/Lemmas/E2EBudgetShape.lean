import SaphyrVerif.Lemmas.E2EBudgetObs
import SaphyrVerif.Lemmas.C07
/-!
End-to-end composition with the budget enforcer: what the observations of a call amount to.  `Accounts c O E` says that the
list of observations `O` is accounted for by the parser items `c` consumed and the events `E` delivered: as many alias calls as
alias items, no `alias_occupies_position`, the anchors of the raw node items (a replayed event is shown without its anchor),
and — anchors and tags erased, for items of a node — the delivered events.  It is additive (`Accounts.append`), holds of
every item passed over or delivering, hence of every delivering call.
-/
namespace SaphyrVerif.Lemmas.E2EBudget
open SaphyrVerif.Pump SaphyrVerif.Spec
open SaphyrVerif.Lemmas.C07 (defAfter defAfter_append defIns_zero)

/-- the observation of a parser item (scan errors are not shown to the enforcer) -/
def itemObs : RawItem → List Obs
  | .ev r _ => [obsItem r]
  | .err _ _ => []

def itemsObs : List RawItem → List Obs
  | [] => []
  | it :: rest => itemObs it ++ itemsObs rest

theorem itemsObs_append (a b : List RawItem) : itemsObs (a ++ b) = itemsObs a ++ itemsObs b := by
  induction a with
  | nil => rfl
  | cons x xs ih => simp [itemsObs, ih, List.append_assoc]

/-- the events shown through `observe` -/
def rawsOf : List Obs → List Raw
  | [] => []
  | .raw r :: os => r :: rawsOf os
  | _ :: os => rawsOf os

/-- number of `observe_alias_to_be_replayed` calls -/
def nAl : List Obs → Nat
  | [] => 0
  | .aliasReplayed :: os => nAl os + 1
  | _ :: os => nAl os

/-- no `alias_occupies_position` call (recursion wrappers not in use) -/
def noOcc : List Obs → Bool
  | [] => true
  | .occupies :: _ => false
  | _ :: os => noOcc os

/-- an event without anchor and tag (what `observe_budget_for_replay` re-synthesises) -/
def erase : Raw → Raw
  | .scalar v st _ _ => .scalar v st 0 none
  | .seqStart _ _ => .seqStart 0 none
  | .mapStart _ _ => .mapStart 0 none
  | r => r

theorem rawsOf_append (a b : List Obs) : rawsOf (a ++ b) = rawsOf a ++ rawsOf b := by
  induction a with
  | nil => rfl
  | cons x xs ih => cases x <;> simp [rawsOf, ih]

theorem nAl_append (a b : List Obs) : nAl (a ++ b) = nAl a + nAl b := by
  induction a with
  | nil => simp [nAl]
  | cons x xs ih => cases x <;> simp [nAl, ih] <;> omega

theorem noOcc_append (a b : List Obs) : noOcc (a ++ b) = (noOcc a && noOcc b) := by
  induction a with
  | nil => simp [noOcc]
  | cons x xs ih => cases x <;> simp [noOcc, ih]

def nAliasItems : List RawItem → Nat
  | [] => 0
  | .ev (.alias _) _ :: rest => nAliasItems rest + 1
  | _ :: rest => nAliasItems rest

/-- the raw events of the non-alias items -/
def itemRaws : List RawItem → List Raw
  | [] => []
  | .ev (.alias _) _ :: rest => itemRaws rest
  | .ev r _ :: rest => r :: itemRaws rest
  | .err _ _ :: rest => itemRaws rest

/-- a node / end item or an alias item (what the items of a node consist of) -/
def nodeOrAlias : RawItem → Bool
  | .ev (.scalar ..) _ | .ev (.seqStart ..) _ | .ev .seqEnd _ | .ev (.mapStart ..) _ | .ev .mapEnd _
  | .ev (.alias _) _ => true
  | _ => false

theorem nAliasItems_append (a b : List RawItem) : nAliasItems (a ++ b) = nAliasItems a + nAliasItems b := by
  induction a with
  | nil => simp [nAliasItems]
  | cons x xs ih =>
    rcases x with ⟨r, l⟩ | ⟨u, l⟩
    · cases r <;> simp [nAliasItems, ih] <;> omega
    · simp [nAliasItems, ih]

theorem itemRaws_append (a b : List RawItem) : itemRaws (a ++ b) = itemRaws a ++ itemRaws b := by
  induction a with
  | nil => rfl
  | cons x xs ih =>
    rcases x with ⟨r, l⟩ | ⟨u, l⟩
    · cases r <;> simp [itemRaws, ih]
    · simp [itemRaws, ih]

theorem erase_replayRaw (e : Ev) : erase (replayRaw e) = replayRaw e := by cases e <;> rfl

theorem anchorOf_replayRaw (e : Ev) : anchorOf (replayRaw e) = 0 := by cases e <;> rfl

structure Accounts (c : List RawItem) (O : List Obs) (E : List Ev) : Prop where
  aliases : nAl O = nAliasItems c
  noOcc : noOcc O = true
  anchors : ∀ bs, defAfter bs (rawsOf O) = defAfter bs (itemRaws c)
  events : (∀ it ∈ c, nodeOrAlias it = true) → (rawsOf O).map erase = E.map replayRaw

theorem Accounts.nil : Accounts [] [] [] := ⟨rfl, rfl, fun _ => rfl, fun _ => rfl⟩

theorem Accounts.append {c1 c2 : List RawItem} {O1 O2 : List Obs} {E1 E2 : List Ev} (h1 : Accounts c1 O1 E1)
    (h2 : Accounts c2 O2 E2) : Accounts (c1 ++ c2) (O1 ++ O2) (E1 ++ E2) where
  aliases := by rw [nAl_append, nAliasItems_append, h1.aliases, h2.aliases]
  noOcc := by rw [noOcc_append, h1.noOcc, h2.noOcc]; rfl
  anchors bs := by rw [rawsOf_append, defAfter_append, h1.anchors, h2.anchors, itemRaws_append, defAfter_append]
  events hall := by
    rw [rawsOf_append, List.map_append, List.map_append,
      h1.events fun it hit => hall it (List.mem_append_left _ hit),
      h2.events fun it hit => hall it (List.mem_append_right _ hit)]

theorem Accounts.replayed (e : Ev) : Accounts [] [.raw (replayRaw e)] [e] :=
  ⟨rfl, rfl, fun bs => by simp only [rawsOf, defAfter, anchorOf_replayRaw, defIns_zero, itemRaws],
    fun _ => by simp only [rawsOf, List.map_cons, List.map_nil, erase_replayRaw]⟩

structure Plain0 (q : Pump) : Prop where
  bud : q.budget = none
  rip : q.recursiveInProgress = []
  sade : q.stopAtDocEnd = false

theorem Plain0.step {q : Pump} (h : Plain0 q) {inp : List RawItem} {s : Step} {q' : Pump} {rest : List RawItem}
    (hn : nextImpl q inp = (s, q', rest)) : Plain0 q' := by
  have h2 := nextImpl_rip q inp
  have h3 := nextImpl_sade q inp
  rw [hn] at h2 h3
  exact ⟨budget_none_step h.bud hn, h2.trans h.rip, h3.trans h.sade⟩

theorem item_accounts {q : Pump} {loc : Loc} {raw : Raw} {o : ItemOut} (h : Item q loc raw o) (hq : q.budget = none)
    (hrip : q.recursiveInProgress = []) :
    match o with
    | .ret (.event e) _ => Accounts [.ev raw loc] (obsItem raw :: insideObs q raw loc) [e]
    | .cont _ => Accounts [.ev raw loc] (obsItem raw :: insideObs q raw loc) []
    | _ => True := by
  -- an item that is no part of a node: the last clause asks nothing
  have marker : ∀ {r : Raw}, nodeOrAlias (.ev r loc) = false → obsItem r = .raw r → itemRaws [.ev r loc] = [r] →
      nAliasItems [.ev r loc] = 0 → Accounts [.ev r loc] [obsItem r] [] := fun hn ho hr ha =>
    ⟨by rw [ho, ha]; rfl, by rw [ho]; rfl, fun bs => by rw [ho, hr]; rfl,
      fun hall => by rw [hall _ (List.mem_singleton_self _)] at hn; cases hn⟩
  cases h with
  | scalar | seqStart | mapStart | seqEnd | mapEnd => exact ⟨rfl, rfl, fun _ => rfl, fun _ => rfl⟩
  | placeholder id h1 h2 h3 h4 => rw [hrip] at h4; cases h4
  | replay id buf h1 h2 h3 h5 hs =>
    have hin : insideObs q (.alias id) loc = obsServe (pushed q id loc) (pushed q id loc).inject := by
      simp only [insideObs, Nat.not_lt.mpr h1, Nat.not_lt.mpr h2, h3, h5, ↓reduceIte, Bool.false_eq_true]
    rw [served_obs (q := pushed q id loc) hq hs] at hin
    have ha : Accounts [.ev (.alias id) loc] [.aliasReplayed] [] := ⟨rfl, rfl, fun _ => rfl, fun _ => rfl⟩
    cases hs with
    | event => rw [hin]; exact ha.append (Accounts.replayed _)
    | _ => trivial
  | spentAlias id buf h1 h2 h3 h5 hs =>
    have hin : insideObs q (.alias id) loc = [] := by
      simp only [insideObs, Nat.not_lt.mpr h1, Nat.not_lt.mpr h2, h3, h5, ↓reduceIte, Bool.false_eq_true]
      exact served_obs_fall (q := pushed q id loc) (.fall hs)
    rw [hin]
    exact ⟨rfl, rfl, fun _ => rfl, fun _ => rfl⟩
  | docStart | docEnd | streamStart | streamEnd | nothing => exact marker rfl rfl rfl rfl
  | _ => trivial

theorem loop_accounts {q : Pump} {inp : List RawItem} {s : Step} {q' : Pump} {rest : List RawItem}
    (h : Loop q inp s q' rest) (hp : Plain0 q) (e : Ev) (hs : s = .event e) (hrest : rest ≠ []) :
    ∃ c, inp = c ++ rest ∧ Accounts c (obsLoop q inp) [e] := by
  induction h with
  | null => exact absurd rfl hrest
  | eof | scan | breach => cases hs
  | @ret q raw loc rest bud s q' hb hi =>
    subst hs
    rw [item_free hp.bud hb] at hi
    refine ⟨[_], rfl, ?_⟩
    rw [obsLoop_item hi rest]
    exact (item_accounts hi hp.bud hp.rip).append .nil
  | @stop q raw loc rest bud q' hb hi =>
    rw [item_free hp.bud hb] at hi
    cases hi with
    | docEndStop h => rw [hp.sade] at h; cases h
  | @pass q raw loc rest bud q1 s q' rest' hb hi _ ih =>
    rw [item_free hp.bud hb] at hi
    have hf := hi.frame
    obtain ⟨c, hc, ha⟩ := ih ⟨hi.budgetInv budgetInv_none hp.bud, (congrArg (·.2.2.1) hf).trans hp.rip,
      (congrArg (·.2.2.2) hf).trans hp.sade⟩ hs hrest
    refine ⟨_ :: c, by rw [hc]; rfl, ?_⟩
    rw [obsLoop_item hi rest]
    exact (item_accounts hi hp.bud hp.rip).append ha

theorem nextImpl_accounts {q : Pump} {inp : List RawItem} {e : Ev} {q' : Pump} {rest : List RawItem}
    (h : nextImpl q inp = (.event e, q', rest)) (hp : Plain0 q) (hrest : rest ≠ []) :
    ∃ c, inp = c ++ rest ∧ Accounts c (obsCall q inp) [e] := by
  unfold obsCall
  cases call_of h with
  | served hs =>
    rw [hs.eq, List.append_nil, served_obs hp.bud hs]
    exact ⟨[], rfl, Accounts.replayed e⟩
  | loop hsp hl =>
    rw [(Served.fall hsp).eq, served_obs_fall (.fall hsp), List.nil_append]
    exact loop_accounts hl ⟨hp.bud, hp.rip, hp.sade⟩ e rfl hrest

end SaphyrVerif.Lemmas.E2EBudget
