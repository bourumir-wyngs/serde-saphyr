import SaphyrVerif.Lemmas.C17Source
import SaphyrVerif.Lemmas.C17Breaks
/-!
C17: `line_col_to_byte_offset_with_starts`, `next_char_boundary`, and the window / span computation shared by both
renderers (`prepare`) as far as its own text goes: it falls back or every guard passes (`prepare_guards`), and then it is
ONE call of `crop_window_text` (`prepare_eq`).  What the result satisfies (`prepare_ok`, `prepare_safe`, `prepare_caret`)
needs the marker lemmas and is in `C17Caret`.
-/
namespace SaphyrVerif.Lemmas.C17
open SaphyrVerif SaphyrVerif.Snippet
open SaphyrVerif.Spec.Snippet (clean takeRows dropRows row visibleLine)

theorem stripCR_eq (l : List Char) : stripCR l = Spec.Snippet.stripCr l := rfl

theorem byteAt_append (A B : List Char) (i : Nat) : byteAt (A ++ B) (blen A + i) = byteAt B i := by
  induction A with
  | nil => simp
  | cons c cs ih =>
    rw [List.cons_append, byteAt, blen_cons, if_neg (by omega)]
    have : utf8LenChar c + blen cs + i - utf8LenChar c = blen cs + i := by omega
    rw [this, ih]

theorem byteAt_cons_lt (c : Char) (B : List Char) (i : Nat) (h : i < utf8LenChar c) :
    byteAt (c :: B) i = (utf8Bytes c)[i]? := by
  rw [byteAt, if_pos h]

theorem byteAt_body_end (P body T : List Char) (hb : body ≠ []) :
    byteAt (P ++ body ++ T) (blen P + blen body - 1) = some 0x0D ↔ body.getLast? = some '\r' := by
  rcases List.eq_nil_or_concat body with h | ⟨init, c, h⟩
  · exact absurd h hb
  · subst h
    rw [List.concat_eq_append]
    have hpos := utf8LenChar_pos c
    have e1 : P ++ (init ++ [c]) ++ T = (P ++ init) ++ (c :: T) := by simp
    have e2 : blen P + blen (init ++ [c]) - 1 = blen (P ++ init) + (utf8LenChar c - 1) := by
      rw [blen_append, blen_append, blen_cons, blen_nil]; omega
    rw [e1, e2, byteAt_append, byteAt_cons_lt _ _ _ (by omega), ← utf8Bytes_length, ← List.getLast?_eq_getElem?,
      List.getLast?_concat, Option.some.injEq]
    exact utf8Bytes_getLast_ascii c '\r' (by decide)

theorem blen_dropLast_cr (body : List Char) (h : body.getLast? = some '\r') :
    blen body = blen body.dropLast + 1 ∧ body = body.dropLast ++ ['\r'] := by
  rcases List.eq_nil_or_concat body with h0 | ⟨init, c, h0⟩
  · subst h0; cases h
  · subst h0
    rw [List.concat_eq_append] at h ⊢
    have : c = '\r' := by simpa using h
    subst this
    rw [List.dropLast_concat, blen_append]
    exact ⟨rfl, rfl⟩

/-- the line slice of `line_col_to_byte_offset_with_starts`: from the start of the row to its end `e`, or to one byte
before it when that byte is a CR — the row `body` without its CR -/
theorem slice_visible {s P body T : List Char} (hs : s = P ++ body ++ T) {e : Nat} (he : e = blen P + blen body)
    (site : String) :
    slice s (blen P) (if e > blen P ∧ byteAt s (e - 1) = some 0x0D then e - 1 else e) site = .ok (stripCR body) := by
  subst hs he
  have hslice : ∀ (v rest : List Char) (x : Nat), body = v ++ rest → x = blen P + blen v →
      slice (P ++ body ++ T) (blen P) x site = .ok v :=
    fun v rest x hb hx => slice_eq (q := rest ++ T) (by rw [hb]; simp) rfl hx site
  unfold stripCR
  by_cases hbe : body = []
  · subst hbe
    rw [if_neg (fun h => by have := h.1; simp at this), hslice [] [] _ rfl rfl]
    rfl
  · have hpos := blen_pos_of_ne_nil body hbe
    have hbyte := byteAt_body_end P body T hbe
    by_cases hcr : body.getLast? = some '\r'
    · obtain ⟨hl, hbd⟩ := blen_dropLast_cr body hcr
      rw [if_pos ⟨by omega, hbyte.mpr hcr⟩, if_pos hcr, hslice body.dropLast ['\r'] _ hbd (by omega)]
    · rw [if_neg (fun h => hcr (hbyte.mp h.2)), if_neg hcr, hslice body [] _ (by simp) rfl]

/-- (boundary) `line_col_to_byte_offset_with_starts` with `starts = line_starts(text)`: never panics;
the answer is the byte length of everything before the row plus the first `col − 1` characters of the
visible line — hence a character boundary of the text — for `1 ≤ col ≤ len + 1`, and `None` otherwise -/
theorem lineColToByte_spec (text : List Char) (ht : text ≠ []) (row col : Nat) (h1 : 1 ≤ row)
    (h2 : row ≤ text.count '\n' + 1) :
    lineColToByte text (lineStarts text) row col =
      .ok ((colToByte (visibleLine text row) col).map (blen (takeRows (row - 1) text) + ·)) := by
  unfold lineColToByte
  by_cases hc0 : col = 0
  · subst hc0
    rw [if_pos (.inr rfl)]
    simp [colToByte]
  · rw [if_neg (by omega)]
    have hse : (lineStarts text).isEmpty = false := by
      cases hq : (lineStarts text).isEmpty with
      | false => rfl
      | true => exact absurd ((lineStarts_nil_iff text).mp hq) ht
    rw [hse]
    simp only [Bool.false_eq_true, if_false]
    rw [lineStarts_length text ht, if_neg (by omega), idx_lineStarts text ht (row - 1) (by omega)]
    simp only [res_bind_ok]
    obtain ⟨body, T, hd, hnb, hvis, hT⟩ := row_split text row h1
    have htext : text = takeRows (row - 1) text ++ body ++ T := by
      rw [List.append_assoc, ← hd, takeRows_append_dropRows]
    rw [hvis]
    -- the end of the row before the CR check is `blen (rows before) + blen body` in both cases
    rcases hT with ⟨hT0, hcnt⟩ | ⟨_, hcnt, htr⟩
    · rw [if_neg (by omega)]
      simp only [res_bind_ok, res_pure]
      rw [slice_visible htext (by conv => lhs; rw [htext, hT0, List.append_nil, blen_append])]
      rfl
    · rw [if_pos (by omega)]
      have e3 : row - 1 + 1 = row := by omega
      rw [e3, idx_lineStarts text ht row (by omega), htr]
      simp only [res_bind_ok, res_pure]
      rw [slice_visible htext (by
        simp only [blen_append, blen_cons, blen_nil]
        have : utf8LenChar '\n' = 1 := by decide
        omega)]
      rfl

/-- the offset found is a character boundary of the text -/
theorem lineColToByte_boundary (text : List Char) (row col : Nat) (h1 : 1 ≤ row) :
    ∃ rest, text = (takeRows (row - 1) text ++ (visibleLine text row).take (col - 1)) ++ rest := by
  obtain ⟨body, T, hd, _, hvis, _⟩ := row_split text row h1
  have htext : text = takeRows (row - 1) text ++ body ++ T := by
    rw [List.append_assoc, ← hd, takeRows_append_dropRows]
  obtain ⟨r2, hr2⟩ := stripCR_prefix body
  refine ⟨(visibleLine text row).drop (col - 1) ++ r2 ++ T, ?_⟩
  conv => lhs; rw [htext, ← hr2, ← hvis]
  conv => lhs; rw [← List.take_append_drop (col - 1) (visibleLine text row)]
  simp only [List.append_assoc]

theorem nextCharBoundary_spec (A B : List Char) :
    nextCharBoundary (A ++ B) (blen A) =
      .ok (match B with
           | [] => none
           | c :: _ => some (blen A + utf8LenChar c)) := by
  unfold nextCharBoundary
  cases B with
  | nil => simp
  | cons c rest =>
    have hpos := utf8LenChar_pos c
    rw [if_neg (by rw [blen_append, blen_cons]; omega), slice_from A (c :: rest)]
    simp only [res_bind_ok, res_pure]
    cases rest with
    | nil => simp [blen_append, blen_cons]
    | cons d ds => rfl

/-- the end of the minimal primary span, for a start at a character boundary -/
theorem spanEnd_spec (A B : List Char) : ∃ e, spanEnd (A ++ B) (blen A) = .ok e ∧ blen A ≤ e := by
  unfold spanEnd
  simp only []
  split
  · exact ⟨_, rfl, Nat.le_refl _⟩
  · rw [nextCharBoundary_spec A B]
    cases B <;> exact ⟨_, rfl, by simp⟩

structure PreparedOk (loc : Snippet.Loc) (m : Mapping) (p : Prepared) : Prop where
  clean : clean p.windowText = true
  span_ordered : p.localStart ≤ p.localEnd
  span_inside : p.localEnd ≤ blen p.windowText
  row_rel : relativeRow m loc.line = some p.row
  ws_pos : 1 ≤ p.windowStartRow
  ws_le : p.windowStartRow ≤ p.row
  row_le : p.row ≤ p.windowEndRow
  height : p.windowEndRow - p.windowStartRow ≤ 2 * ctxLines
  display : p.displayStartRow = absoluteRow m p.windowStartRow

/-- the guards of `prepare` pass for the text `text` (line breaks normalised): the location is known and refers to the
existing row `rw_`, and its column is on that row's visible line or right after it -/
structure PrepareGuards (text : List Char) (loc : Snippet.Loc) (m : Mapping) (rw_ : Nat) : Prop where
  known : loc.isUnknown = false
  rel : relativeRow m loc.line = some rw_
  ne : text ≠ []
  row_pos : 1 ≤ rw_
  row_le : rw_ ≤ text.count '\n' + 1
  col : 1 ≤ loc.column ∧ loc.column - 1 ≤ (visibleLine text rw_).length

/-- the successful path of `prepare`, as one equation: with `text` the input after `normalize_line_breaks`, the window
rows `ws..=we` around row `rw_`, the end `endB` of the primary span (not before its start), and the result as
`crop_window_text` of the window with the span taken relative to it -/
theorem prepare_eq (text0 text : List Char) (hT : normBreaks text0 = text) (loc : Snippet.Loc) (m : Mapping) (r : Nat)
    (hlen : text0.length + 1 ≤ usizeMax) (rw_ : Nat) (g : PrepareGuards text loc m rw_) :
    ∃ endB ws we, WindowRows rw_ (text.count '\n' + 1) ws we ∧
      blen (takeRows (rw_ - 1) text) + blen ((visibleLine text rw_).take (loc.column - 1)) ≤ endB ∧
      prepare text0 loc m r =
        (cropWindowText (takeRows (we - (ws - 1)) (dropRows (ws - 1) text)) ws rw_ loc.column r
          (min (blen (takeRows (rw_ - 1) text) + blen ((visibleLine text rw_).take (loc.column - 1)) -
                blen (takeRows (ws - 1) text)) (blen (takeRows (we - (ws - 1)) (dropRows (ws - 1) text))))
          (min (endB - blen (takeRows (ws - 1) text)) (blen (takeRows (we - (ws - 1)) (dropRows (ws - 1) text))))).bind
          (fun x => .ok (some ⟨x.1, x.2.1, x.2.2, rw_, ws, we, text.count '\n' + 1, absoluteRow m ws⟩)) := by
  obtain ⟨hu, hrel, hne, hr1, hr2, hcc⟩ := g
  have h1 : ¬ (lineStarts text).isEmpty = true := fun h => hne ((lineStarts_nil_iff _).mp h)
  -- the end of the primary span: at or after its start, which is a character boundary
  obtain ⟨B, hAB⟩ := lineColToByte_boundary text rw_ loc.column hr1
  obtain ⟨endB, hendeq, hendle⟩ :=
    spanEnd_spec (takeRows (rw_ - 1) text ++ (visibleLine text rw_).take (loc.column - 1)) B
  rw [← hAB, blen_append] at hendeq
  rw [blen_append] at hendle
  have hrel_le : rw_ ≤ usizeMax := by
    have h3 : text.count '\n' ≤ text.length := List.count_le_length
    have h4 : text.length = text0.length := by rw [← hT, normBreaks_length]
    omega
  obtain ⟨ws, we, hwr, W, hwb, hsl⟩ := window_cut text hne rw_ hr1 hr2 hrel_le "fmt" "fmt:text[window_start..window_end]"
  refine ⟨endB, ws, we, W, hendle, ?_⟩
  unfold prepare
  rw [if_neg (by rw [hu]; simp), hrel, hT]
  simp only []
  rw [if_neg h1, lineStarts_length _ hne, if_neg (by omega),
    lineColToByte_spec text hne rw_ loc.column hr1 hr2]
  simp only [res_bind_ok]
  rw [colToByte_eq, if_pos hcc]
  simp only [Option.map_some]
  rw [hendeq]
  simp only [res_bind_ok]
  rw [hwr]
  simp only []
  rw [hwb]
  simp only [res_bind_ok]
  rw [hsl]
  simp only [res_bind_ok]
  cases cropWindowText (takeRows (we - (ws - 1)) (dropRows (ws - 1) text)) ws rw_ loc.column r _ _ with
  | ok x => rfl
  | panic s => rfl

/-- `prepare` takes the plain-message fallback, or every guard passes for the text after `normalize_line_breaks` -/
theorem prepare_guards (text0 text : List Char) (hT : normBreaks text0 = text) (loc : Snippet.Loc) (m : Mapping) (r : Nat) :
    prepare text0 loc m r = .ok none ∨ ∃ rw_, PrepareGuards text loc m rw_ := by
  -- one walk down the guards of `prepare`: each either fails, and the fallback is taken, or yields a field of `PrepareGuards`
  unfold prepare
  by_cases hu : loc.isUnknown = true
  · exact .inl (if_pos hu)
  rw [if_neg hu, hT]
  cases hrel : relativeRow m loc.line with
  | none => exact .inl rfl
  | some rw_ =>
    simp only []
    by_cases hne : text = []
    · left; rw [hne]; rfl
    have h1 : ¬ (lineStarts text).isEmpty = true := fun h => hne ((lineStarts_nil_iff _).mp h)
    rw [if_neg h1, lineStarts_length _ hne]
    by_cases h2 : rw_ = 0 ∨ rw_ > text.count '\n' + 1
    · exact .inl (if_pos h2)
    rw [if_neg h2, lineColToByte_spec text hne rw_ loc.column (by omega) (by omega), colToByte_eq]
    by_cases hcc : 1 ≤ loc.column ∧ loc.column - 1 ≤ (visibleLine text rw_).length
    · exact .inr ⟨rw_, by simpa using hu, hrel, hne, by omega, by omega, hcc⟩
    · left; rw [if_neg hcc]; rfl

end SaphyrVerif.Lemmas.C17
