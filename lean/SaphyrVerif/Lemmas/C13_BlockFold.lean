import SaphyrVerif.Lemmas.C12Fold
import SaphyrVerif.Model.Emitter
/-!
Block scalars: `write_folded_block` of the emitter model (`Emit.foldedLine`) is
the function C12 proved `fold_inverse` for (`SerScalar.foldLine`: the same Rust loop, transcribed with explicit
slice panics).  Simulation: as long as the C12 transcription does not panic the two loop states agree; C12's
`foldLine_spec` says it does not.  Result: `foldedLine_spec` — a line that is not empty and does not start with a
blank is written as indented segments whose join by single blanks is the line.
-/
namespace SaphyrVerif.Emit

/-- the loop state of the C12 transcription as a loop state of the emitter model -/
def toScan (st : SerScalar.FoldSt) : FoldScan :=
  { acc := st.out, start := st.start, col := st.col, lastSpaceRun := st.last, inSpaceRun := st.inRun,
    runStart := st.runStart, runLen := st.runLen, stopped := st.broke }

/-- the two halves of one iteration of the emitter's loop (the text of `foldStep`), named as in the C12 transcription -/
def trackScan (st : FoldScan) (i : Nat) (ch : Char) : FoldScan :=
  let st := if st.inSpaceRun && ch != ' '
    then { st with lastSpaceRun := some (st.runStart, i, st.runLen), inSpaceRun := false, runLen := 0 }
    else st
  if ch == ' ' then
    (if !st.inSpaceRun then { st with inSpaceRun := true, runStart := i, runLen := 1 }
     else { st with runLen := st.runLen + 1 })
  else st

def breakScan (indentStr line : List Char) (wrapCol : Nat) (st : FoldScan) : FoldScan :=
  if st.col > wrapCol then
    match st.lastSpaceRun with
    | none => { st with stopped := true }
    | some (wsStart, wsEnd, wsLen) =>
      { st with acc := st.acc ++ indentStr ++ (line.drop st.start).take (wsStart - st.start) ++ spaces (wsLen - 1) ++ ['\n'],
                start := wsEnd, col := 0, lastSpaceRun := none }
  else st

theorem foldStep_eq (ind L : List Char) (w : Nat) (st : FoldScan) (i : Nat) (ch : Char) :
    foldStep ind L w st i ch =
      if st.stopped then st else breakScan ind L w { trackScan st i ch with col := (trackScan st i ch).col + 1 } := rfl

theorem trackRun_sim (st : SerScalar.FoldSt) (i : Nat) (ch : Char) :
    toScan (SerScalar.trackRun st i ch) = trackScan (toScan st) i ch := by
  cases hr : st.inRun <;> by_cases h : ch = ' ' <;> simp [SerScalar.trackRun, trackScan, toScan, hr, h]

/-- the only difference between the two transcriptions: the slice `line[start..ws_start]`, which panics in C12's when
`start > ws_start` and is a `drop` / `take` in the emitter model -/
theorem breakStep_sim (L ind : List Char) (w : Nat) (st : SerScalar.FoldSt)
    (hq : (SerScalar.breakStep L ind w st).panicked = false) :
    toScan (SerScalar.breakStep L ind w st) = breakScan ind L w (toScan st) := by
  unfold SerScalar.breakStep at hq ⊢
  unfold breakScan
  by_cases hc : st.col > w
  · simp only [hc, if_true, toScan] at hq ⊢
    cases hl : st.last with
    | none => rfl
    | some abn =>
      obtain ⟨a, b, n⟩ := abn
      simp only [hl, SerScalar.slice?] at hq ⊢
      by_cases hs : (decide (st.start ≤ a) && decide (a ≤ L.length)) = true
      · simp only [hs, if_true]; rfl
      · simp only [hs] at hq; exact absurd hq (by simp)
  · simp only [hc, if_false, toScan]

theorem foldStep_sim (L ind : List Char) (w : Nat) (st : SerScalar.FoldSt) (i : Nat) (ch : Char)
    (hp : st.panicked = false) (hq : (SerScalar.foldStep L ind w st i ch).panicked = false) :
    toScan (SerScalar.foldStep L ind w st i ch) = foldStep ind L w (toScan st) i ch := by
  rw [foldStep_eq]
  unfold SerScalar.foldStep at hq ⊢
  cases hb : st.broke
  · simp only [hb, hp, Bool.or_self, Bool.false_eq_true, if_false] at hq ⊢
    rw [breakStep_sim _ _ _ _ hq, ← trackRun_sim]
    simp [toScan, hb]
  · simp [hb, toScan]

theorem foldStep_ok {L ind : List Char} {w : Nat} {st : SerScalar.FoldSt} {i : Nat} {ch : Char}
    (h : (SerScalar.foldStep L ind w st i ch).panicked = false) : st.panicked = false := by
  cases hp : st.panicked
  · rfl
  · simp [SerScalar.foldStep, hp] at h

/-- a panic stays: a loop that ends without one started without one -/
theorem foldLoop_ok (L ind : List Char) (w : Nat) : ∀ (rest : List Char) (i : Nat) (st : SerScalar.FoldSt),
    (SerScalar.foldLoop L ind w rest i st).panicked = false → st.panicked = false
  | [], _, _, h => h
  | ch :: rest, i, st, h => by
    rw [SerScalar.foldLoop] at h
    exact foldStep_ok (foldLoop_ok L ind w rest (i + 1) _ h)

theorem foldLoop_sim (L ind : List Char) (w : Nat) : ∀ (rest : List Char) (i : Nat) (st : SerScalar.FoldSt),
    (SerScalar.foldLoop L ind w rest i st).panicked = false →
    toScan (SerScalar.foldLoop L ind w rest i st) = foldScanLoop ind L w (toScan st) i rest
  | [], _, _, _ => rfl
  | ch :: rest, i, st, h => by
    rw [SerScalar.foldLoop] at h ⊢
    have hq := foldLoop_ok L ind w rest (i + 1) _ h
    rw [foldScanLoop, ← foldStep_sim L ind w st i ch (foldStep_ok hq) hq]
    exact foldLoop_sim L ind w rest (i + 1) _ h

theorem foldedLine_of_foldLine (L ind : List Char) (w : Nat) (t : List Char)
    (h : SerScalar.foldLine L ind w = .ok t) : foldedLine ind w L = t := by
  unfold SerScalar.foldLine at h
  unfold foldedLine
  by_cases he : L.isEmpty = true
  · simp only [he, if_true] at h ⊢
    injection h
  · simp only [he, Bool.false_eq_true, if_false] at h ⊢
    by_cases hh : (L.head? == some ' ') = true
    · simp only [hh, if_true] at h ⊢
      injection h
    · simp only [hh, Bool.false_eq_true, if_false] at h ⊢
      by_cases hp : (SerScalar.foldLoop L ind w L 0 {}).panicked = true
      · simp [hp] at h
      · have hp' : (SerScalar.foldLoop L ind w L 0 {}).panicked = false := by simpa using hp
        simp only [hp', Bool.false_eq_true, if_false] at h
        have hsim := foldLoop_sim L ind w L 0 {} hp'
        have h0 : toScan {} = {} := rfl
        rw [h0] at hsim
        rw [← hsim]
        simp only [SerScalar.slice?] at h
        by_cases hs : (decide ((SerScalar.foldLoop L ind w L 0 {}).start ≤ L.length) && decide (L.length ≤ L.length)) = true
        · simp only [hs, if_true] at h
          injection h with h
          rw [← h]
          simp only [toScan]
          have : List.take (L.length - (SerScalar.foldLoop L ind w L 0 {}).start) (List.drop (SerScalar.foldLoop L ind w L 0 {}).start L) =
              List.drop (SerScalar.foldLoop L ind w L 0 {}).start L := by
            apply List.take_of_length_le; simp
          rw [this]
        · simp only [hs] at h
          exact absurd h (by simp)

open SaphyrVerif.Lemmas.C12 in
/-- `fold_inverse` for the emitter model -/
theorem foldedLine_spec (L ind : List Char) (w : Nat) (hne : L ≠ []) (hhead : L.head? ≠ some ' ') :
    ∃ segs, foldedLine ind w L = joinLines (segs.map (ind ++ ·)) ∧ joinSp segs = L ∧ segs ≠ [] ∧
      ∀ e ∈ segs, e ≠ [] ∧ e.head? ≠ some ' ' := by
  obtain ⟨segs, h1, h2, h3, h4⟩ := foldLine_spec L ind w hne hhead
  exact ⟨segs, foldedLine_of_foldLine L ind w _ h1, h2, h3, h4⟩

end SaphyrVerif.Emit
