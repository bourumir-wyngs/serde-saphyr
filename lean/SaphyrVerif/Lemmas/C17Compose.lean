import SaphyrVerif.Lemmas.C17Yaml
/-!
C17: composing what `with_snippet` stores (`crop_source_window`) with the
rendering of the stored region — the rows of a stored window are lines of the text under the YAML
line-break rule, at the row offset the region's first line number stands for.
-/
namespace SaphyrVerif.Lemmas.C17
open SaphyrVerif SaphyrVerif.Snippet
open SaphyrVerif.Spec.Snippet (takeRows dropRows row visibleLine yamlLines yamlLine)

theorem normBreaks_suffix (a b : List Char) (h : normBreaks (a ++ b) = a ++ b) : normBreaks b = b := by
  induction a with
  | nil => exact h
  | cons c cs ih =>
    rw [List.cons_append, normBreaks_cons] at h
    exact ih (List.cons.inj h).2

theorem normBreaks_prefix (a b : List Char) (h : normBreaks (a ++ b) = a ++ b)
    (ha : a = [] ∨ a.getLast? = some '\n') : normBreaks a = a := by
  rw [normBreaks_append a b (ha.imp_right .inl)] at h
  exact (List.append_inj h (normBreaks_length a)).1

theorem normBreaks_takeRows (k : Nat) (s : List Char) (h : normBreaks s = s) :
    normBreaks (takeRows k s) = takeRows k s := by
  have hs := takeRows_append_dropRows k s
  by_cases hk : k ≤ s.count '\n'
  · exact normBreaks_prefix _ (dropRows k s) (by rw [hs]; exact h) (takeRows_ends k s hk)
  · rw [takeRows_all k s (by omega)]; exact h

theorem normBreaks_dropRows (k : Nat) (s : List Char) (h : normBreaks s = s) :
    normBreaks (dropRows k s) = dropRows k s :=
  normBreaks_suffix (takeRows k s) _ (by rw [takeRows_append_dropRows]; exact h)

/-- (rows of a stored window are YAML lines) row `rel − ws + 1` of the window `ws..=we` cut out of a
normalised text `T`, read under the YAML rule, is the visible line `rel` of `T` -/
theorem window_yaml_line (T : List Char) (hT : normBreaks T = T) (ws we rel : Nat)
    (W : WindowRows rel (T.count '\n' + 1) ws we) :
    yamlLine (takeRows (we - (ws - 1)) (dropRows (ws - 1) T)) (rel - ws + 1) = some (visibleLine T rel) := by
  have hw := normBreaks_takeRows (we - (ws - 1)) _ (normBreaks_dropRows (ws - 1) T hT)
  obtain ⟨R, body, X, d1, d2, d3, d4, d5, d6, _⟩ := window_rows_decomp T ws we rel W
  rw [d1] at hw ⊢
  -- the rows before row `rel` are complete lines; row `rel` is the first line of what follows them
  have hlenR : (yamlLines R).length = rel - ws + 1 := by rw [yamlLines_length, normBreaks_prefix R _ hw d3, d2]
  have hcut := yamlLine_append R (body ++ X) (d3.imp_right .inl) 1 (Nat.le_refl 1)
  rw [hlenR, Nat.add_sub_cancel] at hcut
  rw [hcut, yamlLine_eq_visible _ 1 (Nat.le_refl 1) (by omega), normBreaks_suffix R _ hw, d6]
  unfold visibleLine Spec.Snippet.row
  rw [Nat.sub_self, dropRows_zero, stripNl_takeRows_one body X d4 d5]
  rfl

theorem linesOf_blen_le (w : List Char) : ∀ l ∈ linesOf w, blen (stripCR l) ≤ blen w := by
  intro l hl
  unfold linesOf at hl
  obtain ⟨p, hp, rfl⟩ := List.mem_map.mp hl
  refine Nat.le_trans (blen_le_of_infix (List.IsPrefix.isInfix ?_)) (blen_le_of_infix (splitInclusive_infix w p hp))
  split
  · exact ((stripCR_prefix _).trans (stripCR_prefix _)).trans (List.dropLast_prefix p)
  · exact stripCR_prefix p

theorem storeWindow_small (loc : Snippet.Loc) (m : Mapping) (r rel ws : Nat) (w : List Char)
    (hsmall : blen w ≤ storageCropLine) : storeWindow loc m r rel ws w = .ok (w, absoluteRow m ws) := by
  unfold storeWindow
  by_cases hr0 : r = 0
  · rw [if_pos hr0]; rfl
  · have hle : storageCropLine ≤ storageCropTotal := by decide
    have hneeds : (decide (blen w > storageCropTotal) ||
        (linesOf w).any (fun l => decide (blen (stripCR l) > storageCropLine))) = false := by
      rw [Bool.or_eq_false_iff]
      constructor
      · simp only [decide_eq_false_iff_not]; omega
      · rw [List.any_eq_false]
        intro l hl
        have := linesOf_blen_le w l hl
        simp only [decide_eq_true_eq]; omega
    rw [if_neg hr0, hneeds, if_pos (by simp)]
    rfl

/-- `crop_source_window` on a text of at most 4 KiB (no line reaches the storage-crop threshold) and a
location on an existing row: the window is stored verbatim — the rows `ws..=we` of the normalised,
BOM-stripped text — and it is not empty -/
theorem cropSourceWindow_small (text0 : List Char) (loc : Snippet.Loc) (m : Mapping) (r rel : Nat)
    (hlen : text0.length + 1 ≤ usizeMax) (hsmall : blen text0 ≤ storageCropLine)
    (hu : loc.isUnknown = false) (hrel : relativeRow m loc.line = some rel)
    (hne : stripBom text0 ≠ []) (hr1 : 1 ≤ rel) (hr2 : rel ≤ (normBreaks (stripBom text0)).count '\n' + 1) :
    ∃ ws we, WindowRows rel ((normBreaks (stripBom text0)).count '\n' + 1) ws we ∧
      takeRows (we - (ws - 1)) (dropRows (ws - 1) (normBreaks (stripBom text0))) ≠ [] ∧
      cropSourceWindow text0 loc m r =
        .ok (takeRows (we - (ws - 1)) (dropRows (ws - 1) (normBreaks (stripBom text0))), absoluteRow m ws) := by
  obtain ⟨ws, we, W, heq⟩ := cropSourceWindow_eq text0 _ loc m r rel rfl hlen hu hrel hne hr1 hr2
  have hneT : normBreaks (stripBom text0) ≠ [] := fun h0 => hne ((normBreaks_eq_nil _).mp h0)
  refine ⟨ws, we, W, window_ne_nil _ hneT ws we rel W, ?_⟩
  rw [heq]
  exact storeWindow_small loc m r rel ws _ (Nat.le_trans (window_blen_le _ _ text0) hsmall)

/-- `push_region_for_location` where `crop_source_window` yields `(out, sl)` -/
theorem regionFor_eq {text : List Char} {loc : Snippet.Loc} {m : Mapping} {r : Nat} {out : List Char} {sl : Nat}
    (h : cropSourceWindow text loc m r = .ok (out, sl)) :
    regionFor text loc m r =
      .ok (if r = 0 ∨ loc.isUnknown = true ∨ out = [] then none else some ⟨out, sl, regionEndLine text m loc⟩) := by
  unfold regionFor
  by_cases h0 : r = 0 ∨ loc.isUnknown = true
  · rw [if_pos h0, if_pos (h0.imp_right .inl)]
  · rw [if_neg h0, h]
    simp only [res_bind_ok, List.isEmpty_iff]
    by_cases he : out = []
    · rw [if_pos he, if_pos (.inr (.inr he))]; rfl
    · have h1 : ¬ (r = 0 ∨ loc.isUnknown = true ∨ out = []) :=
        fun hc => hc.elim (h0 ∘ .inl) fun hc => hc.elim (h0 ∘ .inr) he
      rw [if_neg he, if_neg h1]; rfl

theorem renderPrepare_single (reg : Region) (loc : Snippet.Loc) (r : Nat) (hr : r ≠ 0) (hu : loc.isUnknown = false) :
    renderPrepare [reg] loc r = prepare reg.text loc (some reg.startLine) r := by
  have hpick : pickRegion [reg] loc = some reg := by
    unfold pickRegion
    cases hcov : reg.covers loc <;> simp [hcov]
  unfold renderPrepare
  rw [if_neg (by rw [hu]; simp [hr]), hpick]

end SaphyrVerif.Lemmas.C17
