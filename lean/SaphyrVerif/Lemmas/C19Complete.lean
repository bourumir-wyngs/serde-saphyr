import SaphyrVerif.Lemmas.C19Pre
/-!
C19: COMPLETENESS of the evaluator model for the AST grammar of `Spec/Robotics.lean` — the converse of
`Lemmas/C19Ast.lean`: on the rendering of every lexically well-formed syntax tree (nested within the
depth guard) each parser function succeeds, consumes exactly the rendering and returns the reference
evaluation of the tree.  Consequently all trees of a scalar have the same evaluation (`parses_eval_unique`; that
they differ only in where white space is attached is not proved), and `mixed_units_rejected` holds in the converse
direction.

The two loop levels are stated in loop form (`TComp`, `EComp`: the first operand and `ops t` iterations consume `t`),
which is what an induction along the left spine of a left-associative tree needs; `term_of_TComp` / `expr_of_EComp` turn
that into a statement about `term` / `expr`.
-/
namespace SaphyrVerif.Lemmas.C19
open SaphyrVerif SaphyrVerif.F64 SaphyrVerif.Robotics SaphyrVerif.Spec.Robotics

/-- bytes that may follow a primary / unary (after white space): a binary operator or `)` -/
def stopU (c : Nat) : Bool := c == 43 || c == 45 || c == 42 || c == 47 || c == 41
/-- bytes that may follow a complete term: `+`, `-`, `)` -/
def stopT (c : Nat) : Bool := c == 43 || c == 45 || c == 41
/-- bytes that may follow a complete expression: `)` -/
def stopE (c : Nat) : Bool := c == 41

def StopHead (stop : Nat → Bool) (k : List Nat) : Prop := k = [] ∨ ∃ c r, k = c :: r ∧ stop c = true

/-- `k` is white space followed by the end of the input or by a byte of class `stop` -/
def Fol (stop : Nat → Bool) (k : List Nat) : Prop :=
  ∃ ws k', k = ws ++ k' ∧ IsWs ws ∧ StopHead stop k'

theorem stopT_U {c : Nat} (h : stopT c = true) : stopU c = true := by
  simp only [stopT, stopU, Bool.or_eq_true, beq_iff_eq] at h ⊢
  omega

theorem stopE_T {c : Nat} (h : stopE c = true) : stopT c = true := by
  simp only [stopT, stopE, Bool.or_eq_true, beq_iff_eq] at h ⊢
  omega

theorem StopHead.mono {s1 s2 : Nat → Bool} (hs : ∀ c, s1 c = true → s2 c = true) {k : List Nat}
    (h : StopHead s1 k) : StopHead s2 k := by
  rcases h with h | ⟨c, r, h, hc⟩
  · exact Or.inl h
  · exact Or.inr ⟨c, r, h, hs c hc⟩

theorem stopU_facts {c : Nat} (h : stopU c = true) :
    isWs c = false ∧ isIdentCont c = false ∧ isCont c = false := by
  simp only [stopU, Bool.or_eq_true, beq_iff_eq] at h
  rcases h with (((h | h) | h) | h) | h <;> subst h <;> decide

theorem isWs_facts {c : Nat} (h : isWs c = true) :
    isIdentCont c = false ∧ isCont c = false ∧ c ≠ 43 ∧ c ≠ 45 ∧ c ≠ 42 ∧ c ≠ 47 ∧ c ≠ 41 ∧ c ≠ 40 := by
  simp only [isWs, Bool.or_eq_true, beq_iff_eq] at h
  rcases h with ((h | h) | h) | h <;> subst h <;> decide

theorem StopHead.head {stop : Nat → Bool} {k : List Nat} (h : StopHead stop k) : Head (fun c => stop c = true) k := by
  rcases h with h | ⟨c, r, h, hc⟩
  · subst h; exact Head.nil
  · subst h; exact Head.cons hc

theorem Fol.head {stop : Nat → Bool} {k : List Nat} (h : Fol stop k) : Head (fun c => isWs c = true ∨ stop c = true) k := by
  obtain ⟨ws, k', rfl, hws, hk'⟩ := h
  exact Head.append (fun w hw => Or.inl (hws w hw)) (hk'.head.mono fun _ => Or.inr)

theorem StopHead.nonWs {stop : Nat → Bool} (hs : ∀ c, stop c = true → isWs c = false) {k : List Nat}
    (h : StopHead stop k) : Head (fun c => isWs c = false) k := h.head.mono hs

theorem stopU_nonWs (c : Nat) (h : stopU c = true) : isWs c = false := (stopU_facts h).1
theorem stopT_nonWs (c : Nat) (h : stopT c = true) : isWs c = false := stopU_nonWs c (stopT_U h)
theorem stopE_nonWs (c : Nat) (h : stopE c = true) : isWs c = false := stopT_nonWs c (stopE_T h)

theorem lower_alpha {x y : Nat} (h : lowerByte x = y) (hy : 97 ≤ y ∧ y ≤ 122) : isAlpha x = true := by
  unfold lowerByte at h
  simp only [isAlpha, Bool.or_eq_true, Bool.and_eq_true, decide_eq_true_eq]
  split at h
  · rename_i hc
    simp only [Bool.and_eq_true, decide_eq_true_eq] at hc
    omega
  · omega

/-- a token spelled (in any letter case) like a lower-case keyword consists of letters -/
theorem lower_alpha_list (tok name : List Nat) (h : tok.map lowerByte = name) (hn : ∀ y ∈ name, 97 ≤ y ∧ y ≤ 122) :
    ∀ x ∈ tok, isAlpha x = true := by
  intro x hx
  have : lowerByte x ∈ name := by rw [← h]; exact List.mem_map_of_mem hx
  exact lower_alpha rfl (hn _ this)

theorem alpha_facts {x : Nat} (h : isAlpha x = true) :
    isIdentCont x = true ∧ isIdentStart x = true ∧ isCont x = false ∧ isWs x = false ∧ isDigit x = false ∧
      x ≠ 40 ∧ x ≠ 46 ∧ x ≠ 43 ∧ x ≠ 45 := by
  simp only [isAlpha, Bool.or_eq_true, Bool.and_eq_true, decide_eq_true_eq] at h
  simp only [isIdentCont, isIdentStart, isAlpha, isCont, isWs, isDigit, Bool.or_eq_true, Bool.and_eq_true,
    decide_eq_true_eq, beq_iff_eq, Bool.or_eq_false_iff, Bool.and_eq_false_iff, decide_eq_false_iff_not,
    beq_eq_false_iff_ne, ne_eq]
  omega

theorem const_name_range (c : Const) : ∀ y ∈ c.name, 97 ≤ y ∧ y ≤ 122 := by
  cases c <;> simp [Const.name]

theorem termLoop_stop (tag : Nat) (E : St → Res (Eval × St)) (j : Nat) (ev : Eval) (ws k' pre : List Nat)
    (d : Nat) (tm : Bool) (hws : IsWs ws) (hk : StopHead stopT k') :
    termLoop tag E (j + 1) ev ⟨pre, ws ++ k', d, tm⟩ = .ok (ev, ⟨ws.reverse ++ pre, k', d, tm⟩) := by
  obtain ⟨v, uu, sp⟩ := ev
  unfold termLoop
  simp only []
  rw [skipWs_ws ws hws _ _ _ _ (hk.nonWs stopT_nonWs)]
  rcases hk with h | ⟨c, r, h, hc⟩
  · subst h; rfl
  · subst h
    simp only [stopT, Bool.or_eq_true, beq_iff_eq] at hc
    have h1 : (c == 42) = false := by simp only [beq_eq_false_iff_ne, ne_eq]; omega
    have h2 : (c == 47) = false := by simp only [beq_eq_false_iff_ne, ne_eq]; omega
    simp only [h1, h2, Bool.false_eq_true, ↓reduceIte]

theorem exprLoop_stop (tag lf : Nat) (E : St → Res (Eval × St)) (j : Nat) (ev : Eval) (k' pre : List Nat)
    (d : Nat) (tm : Bool) (hk : StopHead stopE k') :
    exprLoop tag lf E (j + 1) ev ⟨pre, k', d, tm⟩ = .ok (ev, ⟨pre, k', d, tm⟩) := by
  obtain ⟨v, uu, sp⟩ := ev
  unfold exprLoop
  simp only []
  rw [skipWs_stop _ _ _ _ (hk.nonWs stopE_nonWs)]
  rcases hk with h | ⟨c, r, h, hc⟩
  · subst h; rfl
  · subst h
    simp only [stopE, beq_iff_eq] at hc
    subst hc
    rfl

theorem termLoop_step (tag : Nat) (E : St → Res (Eval × St)) (j : Nat) (ev : Eval)
    (ws : List Nat) (c : Nat) (r' pre : List Nat) (d : Nat) (tm : Bool) (hws : IsWs ws) (hc : c = 42 ∨ c = 47) :
    termLoop tag E (j + 1) ev ⟨pre, ws ++ c :: r', d, tm⟩ =
      (unary tag E ⟨c :: (ws.reverse ++ pre), r', d, tm⟩).bind fun x =>
        termLoop tag E j (orFlags ev x.1 (if c = 42 then mul F ev.1 x.1.1 else div F ev.1 x.1.1)) x.2 := by
  obtain ⟨v, uu, sp⟩ := ev
  conv => lhs; unfold termLoop
  simp only []
  rw [skipWs_ws ws hws _ _ _ _ (Head.cons (by rcases hc with h | h <;> subst h <;> rfl))]
  rcases hc with h | h <;> subst h <;> simp [St.adv, orFlags]

theorem exprLoop_step (tag lf : Nat) (E : St → Res (Eval × St)) (j : Nat) (ev : Eval)
    (c : Nat) (r' pre : List Nat) (d : Nat) (tm : Bool) (hc : c = 43 ∨ c = 45) :
    exprLoop tag lf E (j + 1) ev ⟨pre, c :: r', d, tm⟩ =
      (term tag lf E ⟨c :: pre, r', d, tm⟩).bind fun x =>
        exprLoop tag lf E j (orFlags ev x.1 (if c = 43 then add F ev.1 x.1.1 else sub F ev.1 x.1.1)) x.2 := by
  obtain ⟨v, uu, sp⟩ := ev
  conv => lhs; unfold exprLoop
  simp only []
  rw [skipWs_stop _ _ _ _ (Head.cons (by rcases hc with h | h <;> subst h <;> rfl))]
  rcases hc with h | h <;> subst h <;> simp [St.adv, orFlags]

/-- number of `+`/`-` at the top level of an expression = iterations of the `loop` of `expr` -/
def opsE : Expr → Nat
  | .term _ => 0
  | .add l _ _ => opsE l + 1
  | .sub l _ _ => opsE l + 1

/-- number of `*`/`/` at the top level of a term = iterations of the `loop` of `term` -/
def opsT : Term → Nat
  | .un _ => 0
  | .mul l _ _ => opsT l + 1
  | .div l _ _ => opsT l + 1

theorem opsE_le : ∀ e : Expr, opsE e ≤ e.render.length
  | .term _ => by simp [opsE]
  | .add l ws r => by
    have := opsE_le l
    simp only [opsE, Expr.render, List.length_append, List.length_cons]
    omega
  | .sub l ws r => by
    have := opsE_le l
    simp only [opsE, Expr.render, List.length_append, List.length_cons]
    omega

theorem opsT_le : ∀ t : Term, opsT t ≤ t.render.length
  | .un _ => by simp [opsT]
  | .mul l ws r => by
    have := opsT_le l
    simp only [opsT, Term.render, List.length_append, List.length_cons]
    omega
  | .div l ws r => by
    have := opsT_le l
    simp only [opsT, Term.render, List.length_append, List.length_cons]
    omega

/-! The completeness statements, one per grammar level: `expr tag lf n` is the recursive call (`n` levels of recursion
fuel left); `lf` is the loop fuel. -/

def PComp (tag lf : Nat) (p : Primary) : Prop :=
  ∀ (n d : Nat) (tm : Bool) (k pre : List Nat), p.nest ≤ n → p.nest + d ≤ MAX_EXPR_DEPTH →
    p.lexOk tag tm k → Fol stopU k → p.render.length < lf →
    ∃ pre', primary tag (expr tag lf n) ⟨pre, p.render ++ k, d, tm⟩ = .ok (p.eval, ⟨pre', k, d, tm⟩)

def UComp (tag lf : Nat) (u : Unary) : Prop :=
  ∀ (n d : Nat) (tm : Bool) (k pre : List Nat), u.nest ≤ n → u.nest + d ≤ MAX_EXPR_DEPTH →
    u.lexOk tag tm k → Fol stopU k → u.render.length < lf →
    ∃ pre', unary tag (expr tag lf n) ⟨pre, u.render ++ k, d, tm⟩ = .ok (u.eval, ⟨pre', k, d, tm⟩)

/-- the first `unary` and `opsT t` iterations of the loop of `term` consume `t` -/
def TComp (tag lf : Nat) (t : Term) : Prop :=
  ∀ (n d : Nat) (tm : Bool) (k pre : List Nat) (j : Nat), t.nest ≤ n → t.nest + d ≤ MAX_EXPR_DEPTH →
    t.lexOk tag tm k → Fol stopU k → t.render.length < lf →
    ∃ pre', (unary tag (expr tag lf n) ⟨pre, t.render ++ k, d, tm⟩).bind
        (fun x => termLoop tag (expr tag lf n) (j + opsT t) x.1 x.2) =
      termLoop tag (expr tag lf n) j t.eval ⟨pre', k, d, tm⟩

/-- the first `term` and `opsE e` iterations of the loop of `expr` consume `e` (and the white space
behind it) -/
def EComp (tag lf : Nat) (e : Expr) : Prop :=
  ∀ (n d : Nat) (tm : Bool) (ws k' pre : List Nat) (j : Nat), e.nest ≤ n → e.nest + d ≤ MAX_EXPR_DEPTH →
    e.lexOk tag tm (ws ++ k') → IsWs ws → StopHead stopT k' → e.render.length < lf →
    ∃ pre', (term tag lf (expr tag lf n) ⟨pre, e.render ++ (ws ++ k'), d, tm⟩).bind
        (fun x => exprLoop tag lf (expr tag lf n) (j + opsE e) x.1 x.2) =
      exprLoop tag lf (expr tag lf n) j e.eval ⟨pre', k', d, tm⟩

theorem term_eq (tag lf : Nat) (E : St → Res (Eval × St)) (st : St) :
    term tag lf E st = (unary tag E st).bind (fun x => termLoop tag E lf x.1 x.2) := rfl

theorem expr_eq (tag lf n : Nat) (st : St) :
    expr tag lf (n + 1) st =
      (term tag lf (expr tag lf n) st).bind (fun x => exprLoop tag lf (expr tag lf n) lf x.1 x.2) := rfl

theorem term_of_TComp {tag lf : Nat} {t : Term} (h : TComp tag lf t) (n d : Nat) (tm : Bool) (ws k' pre : List Nat)
    (hn : t.nest ≤ n) (hd : t.nest + d ≤ MAX_EXPR_DEPTH) (hlex : t.lexOk tag tm (ws ++ k')) (hws : IsWs ws)
    (hk : StopHead stopT k') (hl : t.render.length < lf) :
    ∃ pre', term tag lf (expr tag lf n) ⟨pre, t.render ++ (ws ++ k'), d, tm⟩ = .ok (t.eval, ⟨pre', k', d, tm⟩) := by
  have hops := opsT_le t
  obtain ⟨j, hj⟩ : ∃ j, lf = (j + 1) + opsT t := ⟨lf - opsT t - 1, by omega⟩
  obtain ⟨p1, h1⟩ := h n d tm (ws ++ k') pre (j + 1) hn hd hlex ⟨ws, k', rfl, hws, hk.mono (fun _ => stopT_U)⟩ hl
  rw [← hj] at h1
  rw [term_eq, h1, termLoop_stop tag _ j t.eval ws k' p1 d tm hws hk]
  exact ⟨_, rfl⟩

theorem expr_of_EComp {tag lf : Nat} {e : Expr} (h : EComp tag lf e) (n d : Nat) (tm : Bool) (ws k' pre : List Nat)
    (hn : e.nest ≤ n) (hd : e.nest + d ≤ MAX_EXPR_DEPTH) (hlex : e.lexOk tag tm (ws ++ k')) (hws : IsWs ws)
    (hk : StopHead stopE k') (hl : e.render.length < lf) :
    ∃ pre', expr tag lf (n + 1) ⟨pre, e.render ++ (ws ++ k'), d, tm⟩ = .ok (e.eval, ⟨pre', k', d, tm⟩) := by
  have hops := opsE_le e
  obtain ⟨j, hj⟩ : ∃ j, lf = (j + 1) + opsE e := ⟨lf - opsE e - 1, by omega⟩
  obtain ⟨p1, h1⟩ := h n d tm ws k' pre (j + 1) hn hd hlex hws (hk.mono (fun _ => stopE_T)) hl
  rw [← hj] at h1
  rw [expr_eq, h1, exprLoop_stop tag lf _ j e.eval k' p1 d tm hk]
  exact ⟨_, rfl⟩

theorem TComp_un {tag lf : Nat} {u : Unary} (hu : UComp tag lf u) : TComp tag lf (.un u) := by
  intro n d tm k pre j hn hd hlex hk hl
  obtain ⟨p1, h1⟩ := hu n d tm k pre hn hd hlex hk hl
  refine ⟨p1, ?_⟩
  show (unary tag (expr tag lf n) ⟨pre, u.render ++ k, d, tm⟩).bind _ = _
  rw [h1]
  rfl

/-- `t` is `l`, white space, the operator byte `c`, `r`: as far as `render`, `nest`, `opsT`, `lexOk` and `eval` can tell, and the
proof looks at nothing else, so `mul` and `div` are two instances (each hypothesis holds by `rfl`). -/
theorem TComp_bin {tag lf : Nat} {t l : Term} {r : Unary} {ws : List Nat} {c : Nat} (hc : c = 42 ∨ c = 47)
    (hren : t.render = l.render ++ (ws ++ c :: r.render)) (hnest : t.nest = max l.nest r.nest)
    (hops : opsT t = opsT l + 1)
    (hlex : ∀ tm k, t.lexOk tag tm k → l.lexOk tag tm (ws ++ c :: (r.render ++ k)) ∧ IsWs ws ∧ r.lexOk tag tm k)
    (hev : t.eval = orFlags l.eval r.eval (if c = 42 then mul F l.eval.1 r.eval.1 else div F l.eval.1 r.eval.1))
    (hl : TComp tag lf l) (hr : UComp tag lf r) : TComp tag lf t := by
  intro n d tm k pre j hn hd hlx hk hlen
  obtain ⟨hll, hws, hrl⟩ := hlex tm k hlx
  rw [hnest] at hn hd
  rw [hren] at hlen
  simp only [List.length_append, List.length_cons] at hlen
  obtain ⟨p1, h1⟩ := hl n d tm (ws ++ c :: (r.render ++ k)) pre (j + 1) (by omega) (by omega) hll
    ⟨ws, _, rfl, hws, Or.inr ⟨c, _, rfl, by rcases hc with h | h <;> subst h <;> rfl⟩⟩ (by omega)
  obtain ⟨p2, h2⟩ := hr n d tm k (c :: (ws.reverse ++ p1)) (by omega) (by omega) hrl hk (by omega)
  refine ⟨p2, ?_⟩
  have hren' : t.render ++ k = l.render ++ (ws ++ c :: (r.render ++ k)) := by rw [hren]; simp
  rw [hren', hops, show j + (opsT l + 1) = j + 1 + opsT l by omega, h1,
    termLoop_step tag _ j l.eval ws c _ p1 d tm hws hc, h2, Res.ok_bind, hev]

theorem EComp_term {tag lf : Nat} {t : Term} (ht : TComp tag lf t) : EComp tag lf (.term t) := by
  intro n d tm ws k' pre j hn hd hlex hws hk hl
  obtain ⟨p1, h1⟩ := term_of_TComp ht n d tm ws k' pre hn hd hlex hws hk hl
  refine ⟨p1, ?_⟩
  show (term tag lf (expr tag lf n) ⟨pre, t.render ++ (ws ++ k'), d, tm⟩).bind _ = _
  rw [h1]
  rfl

/-- `TComp_bin` one level up: `add` and `sub` -/
theorem EComp_bin {tag lf : Nat} {e l : Expr} {r : Term} {wsl : List Nat} {c : Nat} (hc : c = 43 ∨ c = 45)
    (hren : e.render = l.render ++ (wsl ++ c :: r.render)) (hnest : e.nest = max l.nest r.nest)
    (hops : opsE e = opsE l + 1)
    (hlex : ∀ tm k, e.lexOk tag tm k → l.lexOk tag tm (wsl ++ c :: (r.render ++ k)) ∧ IsWs wsl ∧ r.lexOk tag tm k)
    (hev : e.eval = orFlags l.eval r.eval (if c = 43 then add F l.eval.1 r.eval.1 else sub F l.eval.1 r.eval.1))
    (hl : EComp tag lf l) (hr : TComp tag lf r) : EComp tag lf e := by
  intro n d tm ws k' pre j hn hd hlx hws hk hlen
  obtain ⟨hll, hwsl, hrl⟩ := hlex tm (ws ++ k') hlx
  rw [hnest] at hn hd
  rw [hren] at hlen
  simp only [List.length_append, List.length_cons] at hlen
  obtain ⟨p1, h1⟩ := hl n d tm wsl (c :: (r.render ++ (ws ++ k'))) pre (j + 1) (by omega) (by omega) hll hwsl
    (Or.inr ⟨c, _, rfl, by rcases hc with h | h <;> subst h <;> rfl⟩) (by omega)
  obtain ⟨p2, h2⟩ := term_of_TComp hr n d tm ws k' (c :: p1) (by omega) (by omega) hrl hws hk (by omega)
  refine ⟨p2, ?_⟩
  have hren' : e.render ++ (ws ++ k') = l.render ++ (wsl ++ c :: (r.render ++ (ws ++ k'))) := by rw [hren]; simp
  rw [hren', hops, show j + (opsE l + 1) = j + 1 + opsE l by omega, h1,
    exprLoop_step tag lf _ j l.eval c _ p1 d tm hc, h2, Res.ok_bind, hev]

theorem digit_facts {c : Nat} (h : isDigit c = true ∨ c = 46) :
    isWs c = false ∧ c ≠ 43 ∧ c ≠ 45 ∧ (c == 40) = false ∧ (isDigit c || c == 46) = true := by
  rcases h with h | h
  · simp only [isDigit, Bool.and_eq_true, decide_eq_true_eq] at h
    simp only [isWs, isDigit, Bool.or_eq_false_iff, beq_eq_false_iff_ne, ne_eq, Bool.or_eq_true, Bool.and_eq_true,
      decide_eq_true_eq, beq_iff_eq]
    omega
  · subst h; decide

theorem kw_head (tok name : List Nat) (h : tok.map lowerByte = name) (hn : ∀ y ∈ name, 97 ≤ y ∧ y ≤ 122) (hne : name ≠ []) :
    ∃ x tok', tok = x :: tok' ∧ isAlpha x = true := by
  cases tok with
  | nil => simp at h; exact absurd h.symm hne.symm
  | cons x tok' => exact ⟨x, tok', rfl, lower_alpha_list _ _ h hn x (by simp)⟩

theorem const_name_ne (c : Const) : c.name ≠ [] := by cases c <;> simp [Const.name]

theorem primary_render_head (tag : Nat) (tm : Bool) (p : Primary) (k : List Nat) (h : p.lexOk tag tm k) :
    ∃ wsp c r, p.render ++ k = wsp ++ c :: r ∧ IsWs wsp ∧ isWs c = false ∧ c ≠ 43 ∧ c ≠ 45 := by
  cases p with
  | atom ws tok ev =>
    obtain ⟨hws, ⟨c, r, htk, hc⟩, _⟩ := h
    obtain ⟨hnw, h43, h45, _⟩ := digit_facts hc
    exact ⟨ws, c, r, by simp [Primary.render, htk], hws, hnw, h43, h45⟩
  | const ws tok c =>
    obtain ⟨hws, hname⟩ := h
    obtain ⟨x, tok', rfl, hx⟩ := kw_head tok c.name hname (const_name_range c) (const_name_ne c)
    obtain ⟨_, _, _, hnw, _, _, _, h43, h45⟩ := alpha_facts hx
    exact ⟨ws, x, tok' ++ k, by simp [Primary.render], hws, hnw, h43, h45⟩
  | paren ws e ws' =>
    exact ⟨ws, 40, e.render ++ (ws' ++ 41 :: k), by simp [Primary.render], h.1, by decide, by decide, by decide⟩
  | fn ws isDeg name ws1 e ws' =>
    obtain ⟨hws, _, _, hname, _⟩ := h
    obtain ⟨x, tok', rfl, hx⟩ := kw_head name _ hname (by cases isDeg <;> simp) (by cases isDeg <;> simp)
    obtain ⟨_, _, _, hnw, _, _, _, h43, h45⟩ := alpha_facts hx
    exact ⟨ws, x, tok' ++ (ws1 ++ 40 :: (e.render ++ (ws' ++ 41 :: k))), by simp [Primary.render], hws, hnw, h43, h45⟩

theorem primary_ws (tag : Nat) (E : St → Res (Eval × St)) (ws : List Nat) (hws : IsWs ws) (pre rest : List Nat)
    (d : Nat) (tm : Bool) :
    primary tag E ⟨pre, ws ++ rest, d, tm⟩ = primary tag E ⟨ws.reverse ++ pre, rest, d, tm⟩ := by
  unfold primary
  simp only [skipWs_append ws hws]

theorem UComp_mk {tag lf : Nat} {p : Primary} (ws : List Nat) (signs : List Bool) (hp : PComp tag lf p) :
    UComp tag lf (.mk ws signs p) := by
  intro n d tm k pre hn hd hlex hk hl
  obtain ⟨hws, hplex⟩ : IsWs ws ∧ p.lexOk tag tm k := hlex
  obtain ⟨wsp, c, r, hrh, hwsp, hcw, hc43, hc45⟩ := primary_render_head tag tm p k hplex
  have hlen : p.render.length < lf := by simp [Unary.render] at hl; omega
  have hren : (Unary.mk ws signs p).render ++ k =
      ws ++ (signs.map (fun s => if s then 45 else 43) ++ (p.render ++ k)) := by simp [Unary.render]
  have key : ∀ pre1, ∃ pre', (primary tag (expr tag lf n) ⟨pre1, p.render ++ k, d, tm⟩).bind
      (fun x => (Res.ok ((mul F (signValue signs) x.1.1, x.1.2.1, x.1.2.2), x.2) : Res (Eval × St))) =
      .ok ((Unary.mk ws signs p).eval, ⟨pre', k, d, tm⟩) := by
    intro pre1
    obtain ⟨p2, h2⟩ := hp n d tm k pre1 hn hd hplex hk hlen
    exact ⟨p2, by rw [h2]; rfl⟩
  unfold unary
  simp only []
  rw [hren]
  cases signs with
  | nil =>
    simp only [List.map_nil, List.nil_append]
    rw [hrh, ← List.append_assoc, skipWs_ws (ws ++ wsp) (IsWs.append hws hwsp) _ _ _ _ (Head.cons hcw)]
    simp only []
    have hs := signLoop_run [] ((ws ++ wsp).reverse ++ pre) (c :: r) ONE (Head.cons ⟨hc43, hc45⟩)
    simp only [List.map_nil, List.nil_append, List.foldl_nil, List.reverse_nil] at hs
    rw [hs]
    simp only []
    rw [List.reverse_append, List.append_assoc, ← primary_ws tag _ wsp hwsp, ← hrh]
    exact key _
  | cons b signs =>
    have hnw : Head (fun c => isWs c = false)
        ((b :: signs).map (fun s => if s then 45 else 43) ++ (p.render ++ k)) :=
      Head.cons (c := if b then 45 else 43) (by cases b <;> rfl)
    rw [skipWs_ws ws hws _ _ _ _ hnw]
    simp only []
    rw [signLoop_run (b :: signs) (ws.reverse ++ pre) (p.render ++ k) ONE (by
      rw [hrh]
      exact Head.append (fun w hw => ⟨(isWs_facts (hwsp w hw)).2.2.1, (isWs_facts (hwsp w hw)).2.2.2.1⟩)
        (Head.cons ⟨hc43, hc45⟩))]
    simp only []
    exact key _

theorem PComp_atom {tag lf : Nat} (ws tok : List Nat) (ev : Eval) : PComp tag lf (.atom ws tok ev) := by
  intro n d tm k pre hn hd hlex hk hl
  obtain ⟨hws, htok⟩ : IsWs ws ∧ TokenOk tag tm tok k ev := hlex
  obtain ⟨c, r, htk, hc⟩ := htok.1
  obtain ⟨hnw, _, _, h40, hnum⟩ := digit_facts hc
  have hren : (Primary.atom ws tok ev).render ++ k = ws ++ (tok ++ k) := by simp [Primary.render]
  obtain ⟨p2, h2⟩ := TokenOk.any htok (ws.reverse ++ pre) d
  refine ⟨p2, ?_⟩
  rw [hren, primary_ws tag _ ws hws]
  unfold primary
  simp only []
  rw [skipWs_stop _ _ _ _ (by rw [htk]; exact Head.cons hnw)]
  rw [htk] at h2 ⊢
  simp only [h40, hnum, Bool.false_eq_true, ↓reduceIte]
  exact h2

theorem fol_head_facts {k : List Nat} (hk : Fol stopU k) :
    Head (fun c => isIdentCont c = false ∧ isCont c = false) k :=
  hk.head.mono fun _ h => h.elim (fun hw => ⟨(isWs_facts hw).1, (isWs_facts hw).2.1⟩)
    fun hs => ⟨(stopU_facts hs).2.1, (stopU_facts hs).2.2⟩

theorem primary_ident (tag : Nat) (E : St → Res (Eval × St)) (x : Nat) (r pre : List Nat) (d : Nat) (tm : Bool)
    (hx : isAlpha x = true) :
    primary tag E ⟨pre, x :: r, d, tm⟩ = parseIdentOrSpecial E ⟨pre, x :: r, d, tm⟩ := by
  obtain ⟨_, hstart, _, hnw, hnd, h40, h46, _, _⟩ := alpha_facts hx
  unfold primary
  simp only []
  rw [skipWs_stop _ _ _ _ (Head.cons hnw)]
  have h40 : (x == 40) = false := by simpa using h40
  have h46 : (x == 46) = false := by simpa using h46
  simp only [h40, h46, hnd, hstart, Bool.false_eq_true, ↓reduceIte, Bool.or_self]

theorem parseIdentOrSpecial_run (E : St → Res (Eval × St)) (tok R pre : List Nat) (d : Nat) (tm : Bool)
    (hal : ∀ x ∈ tok, isAlpha x = true) (hne : tok ≠ [])
    (hR : Head (fun c => isIdentCont c = false ∧ isCont c = false) R) :
    parseIdentOrSpecial E ⟨pre, tok ++ R, d, tm⟩ = identTail E (tok.map lowerByte) ⟨tok.reverse ++ pre, R, d, tm⟩ := by
  rw [parseIdentOrSpecial_eq]
  simp only []
  rw [identLoop_run tok _ R [] (fun y hy => (alpha_facts (hal y hy)).1) (hR.mono fun _ h => h.1)]
  have hb1 : boundaryAhead (tok ++ R) 0 = true := by
    apply boundaryAhead_zero
    intro c' r' h
    cases tok with
    | nil => exact absurd rfl hne
    | cons x tok' => cases h; exact (alpha_facts (hal c' (by simp))).2.2.1
  have hb2 : boundaryAhead R 0 = true := boundaryAhead_zero (hR.mono fun _ h => h.2)
  simp only [hb1, hb2, Bool.and_self, Bool.not_true, Bool.false_eq_true, ↓reduceIte, List.append_nil,
    List.reverse_reverse]

theorem primary_kw (tag : Nat) (E : St → Res (Eval × St)) (ws tok name R pre : List Nat) (d : Nat) (tm : Bool)
    (hws : IsWs ws) (hname : tok.map lowerByte = name) (hn : ∀ y ∈ name, 97 ≤ y ∧ y ≤ 122) (hne : name ≠ [])
    (hR : Head (fun c => isIdentCont c = false ∧ isCont c = false) R) :
    primary tag E ⟨pre, ws ++ (tok ++ R), d, tm⟩ = identTail E name ⟨tok.reverse ++ (ws.reverse ++ pre), R, d, tm⟩ := by
  obtain ⟨x, tok', htok, hx⟩ := kw_head tok name hname hn hne
  have htk : tok ++ R = x :: (tok' ++ R) := by rw [htok]; rfl
  rw [primary_ws tag _ ws hws, htk, primary_ident tag _ x _ _ d tm hx, ← htk,
    parseIdentOrSpecial_run _ tok R _ d tm (lower_alpha_list tok name hname hn) (by rw [htok]; simp) hR, hname]

theorem PComp_const {tag lf : Nat} (ws tok : List Nat) (c : Const) : PComp tag lf (.const ws tok c) := by
  intro n d tm k pre hn hd hlex hk hl
  obtain ⟨hws, hname⟩ : IsWs ws ∧ tok.map lowerByte = c.name := hlex
  have hren : (Primary.const ws tok c).render ++ k = ws ++ (tok ++ k) := by simp [Primary.render]
  rw [hren, primary_kw tag _ ws tok _ k pre d tm hws hname (const_name_range c) (const_name_ne c) (fol_head_facts hk),
    identTail_const]
  exact ⟨_, rfl⟩

theorem enter_ok_eq (pre rest : List Nat) (d : Nat) (tm : Bool) (hd : d < MAX_EXPR_DEPTH) :
    St.enter ⟨pre, rest, d, tm⟩ = .ok ⟨pre, rest, d + 1, tm⟩ := by
  have : MAX_EXPR_DEPTH = 256 := rfl
  unfold St.enter
  simp only []
  rw [if_neg (by omega), if_neg (by omega)]

theorem exitAfter_ok_eq {α} (a : α) (pre rest : List Nat) (d : Nat) (tm : Bool) :
    exitAfter (.ok (a, (⟨pre, rest, d + 1, tm⟩ : St))) = .ok (a, ⟨pre, rest, d, tm⟩) := by
  simp [exitAfter, St.exit, Res.bind]

theorem bracket_run {tag lf : Nat} {e : Expr} (he : EComp tag lf e) (restore : St → St) (f : Eval → Eval)
    (err : RErr) (m d : Nat) (tmIn tmOut : Bool) (ws' k pre : List Nat)
    (hr : ∀ p r d, restore ⟨p, r, d, tmIn⟩ = ⟨p, r, d, tmOut⟩)
    (hn : e.nest ≤ m) (hd : e.nest + 1 + d ≤ MAX_EXPR_DEPTH) (hlex : e.lexOk tag tmIn (ws' ++ 41 :: k))
    (hws' : IsWs ws') (hlen : e.render.length < lf) :
    ∃ p1, bracket (expr tag lf (m + 1)) restore f err ⟨pre, e.render ++ (ws' ++ 41 :: k), d, tmIn⟩ =
      .ok (f e.eval, ⟨41 :: p1, k, d, tmOut⟩) := by
  obtain ⟨p1, h1⟩ := expr_of_EComp he m (d + 1) tmIn ws' (41 :: k) pre hn (by omega) hlex hws'
    (Or.inr ⟨41, k, rfl, rfl⟩) hlen
  refine ⟨p1, ?_⟩
  unfold bracket
  rw [enter_ok_eq _ _ _ _ (by omega), Res.ok_bind, h1, exitAfter_ok_eq, Res.ok_bind]
  simp only [hr]
  rw [skipWs_stop _ _ _ _ (Head.cons rfl)]
  rfl

theorem PComp_paren {tag lf : Nat} {e : Expr} (ws ws' : List Nat) (he : EComp tag lf e) :
    PComp tag lf (.paren ws e ws') := by
  intro n d tm k pre hn hd hlex hk hl
  obtain ⟨hws, hws', helex⟩ : IsWs ws ∧ IsWs ws' ∧ e.lexOk tag tm (ws' ++ 41 :: k) := hlex
  simp only [Primary.nest] at hn hd
  obtain ⟨m, rfl⟩ : ∃ m, n = m + 1 := ⟨n - 1, by omega⟩
  have hren : (Primary.paren ws e ws').render ++ k = ws ++ 40 :: (e.render ++ (ws' ++ 41 :: k)) := by
    simp [Primary.render]
  have hlen : e.render.length < lf := by simp [Primary.render] at hl; omega
  rw [hren, primary_ws tag _ ws hws,
    primary_paren tag _ _ _ (by rw [skipWs_stop _ _ _ _ (Head.cons rfl)]), skipWs_stop _ _ _ _ (Head.cons rfl)]
  obtain ⟨p1, h1⟩ := bracket_run he id id .expectedRParen m d tm tm ws' k (40 :: (ws.reverse ++ pre))
    (fun _ _ _ => rfl) (by omega) (by omega) helex hws' hlen
  exact ⟨41 :: p1, h1⟩

theorem PComp_fn {tag lf : Nat} {e : Expr} (ws : List Nat) (isDeg : Bool) (name ws1 ws' : List Nat)
    (he : EComp tag lf e) : PComp tag lf (.fn ws isDeg name ws1 e ws') := by
  intro n d tm k pre hn hd hlex hk hl
  obtain ⟨hws, hws1, hws', hname, helex⟩ : IsWs ws ∧ IsWs ws1 ∧ IsWs ws' ∧
      name.map lowerByte = (if isDeg then [100, 101, 103] else [114, 97, 100]) ∧
      e.lexOk tag false (ws' ++ 41 :: k) := hlex
  simp only [Primary.nest] at hn hd
  obtain ⟨m, rfl⟩ : ∃ m, n = m + 1 := ⟨n - 1, by omega⟩
  have hren : (Primary.fn ws isDeg name ws1 e ws').render ++ k =
      ws ++ (name ++ (ws1 ++ 40 :: (e.render ++ (ws' ++ 41 :: k)))) := by
    simp [Primary.render]
  have hlen : e.render.length < lf := by simp [Primary.render] at hl; omega
  generalize hR : ws1 ++ 40 :: (e.render ++ (ws' ++ 41 :: k)) = R at hren
  have hRh : Head (fun c => isIdentCont c = false ∧ isCont c = false) R := by
    rw [← hR]
    exact Head.append (fun w hw => ⟨(isWs_facts (hws1 w hw)).1, (isWs_facts (hws1 w hw)).2.1⟩) (Head.cons (by decide))
  rw [hren, primary_kw tag _ ws name _ R pre d tm hws hname (by cases isDeg <;> simp) (by cases isDeg <;> simp) hRh,
    identTail_unit]
  unfold unitCall
  simp only []
  rw [← hR, skipWs_ws ws1 hws1 _ _ _ _ (Head.cons rfl)]
  obtain ⟨p1, h1⟩ := bracket_run he (fun s => { s with sexTime := tm }) (unitVal isDeg) .expectedRParenFn m d false tm ws' k
    (40 :: (ws1.reverse ++ (name.reverse ++ (ws.reverse ++ pre)))) (fun _ _ _ => rfl) (by omega) (by omega)
    helex hws' hlen
  exact ⟨41 :: p1, h1⟩

mutual
  theorem Expr.comp (tag lf : Nat) : ∀ e : Expr, EComp tag lf e
    | .term t => EComp_term (Term.comp tag lf t)
    | .add l _ r => EComp_bin (.inl rfl) rfl rfl rfl (fun _ _ h => h) rfl (Expr.comp tag lf l) (Term.comp tag lf r)
    | .sub l _ r => EComp_bin (.inr rfl) rfl rfl rfl (fun _ _ h => h) rfl (Expr.comp tag lf l) (Term.comp tag lf r)
  theorem Term.comp (tag lf : Nat) : ∀ t : Term, TComp tag lf t
    | .un u => TComp_un (Unary.comp tag lf u)
    | .mul l _ r => TComp_bin (.inl rfl) rfl rfl rfl (fun _ _ h => h) rfl (Term.comp tag lf l) (Unary.comp tag lf r)
    | .div l _ r => TComp_bin (.inr rfl) rfl rfl rfl (fun _ _ h => h) rfl (Term.comp tag lf l) (Unary.comp tag lf r)
  theorem Unary.comp (tag lf : Nat) : ∀ u : Unary, UComp tag lf u
    | .mk ws signs p => UComp_mk ws signs (Primary.comp tag lf p)
  theorem Primary.comp (tag lf : Nat) : ∀ p : Primary, PComp tag lf p
    | .atom ws tok ev => PComp_atom ws tok ev
    | .const ws tok c => PComp_const ws tok c
    | .paren ws e ws' => PComp_paren ws ws' (Expr.comp tag lf e)
    | .fn ws isDeg name ws1 e ws' => PComp_fn ws isDeg name ws1 ws' (Expr.comp tag lf e)
end

/-- `unary` begins with `skip_ws`: it sees only `st.skipWs` -/
theorem unary_congr (tag : Nat) (E : St → Res (Eval × St)) {st st' : St} (h : st.skipWs = st'.skipWs) :
    unary tag E st = unary tag E st' := by
  unfold unary
  simp only [h]

theorem expr_congr (tag lf n : Nat) {st st' : St} (h : st.skipWs = st'.skipWs) :
    expr tag lf n st = expr tag lf n st' := by
  cases n with
  | zero => rfl
  | succ n => simp only [expr, term, unary_congr tag _ h]

theorem expr_complete_top (tag : Nat) (s : List Nat) (e : Expr) (h : Parses tag s e) :
    ∃ p1, expr tag (s.length + 1) (MAX_EXPR_DEPTH + 1) ⟨[], s, 0, true⟩ = .ok (e.eval, ⟨p1, [], 0, true⟩) := by
  obtain ⟨wsL, wsR, hs, hwsL, hwsR, hlex, hnest⟩ := h
  have hlen : e.render.length < s.length + 1 := by rw [hs]; simp; omega
  obtain ⟨p1, h1⟩ := expr_of_EComp (Expr.comp tag (s.length + 1) e) MAX_EXPR_DEPTH 0 true wsR [] (wsL.reverse ++ [])
    hnest (by omega) (by simpa using hlex) hwsR (Or.inl rfl) hlen
  refine ⟨p1, ?_⟩
  rw [← h1]
  exact expr_congr tag _ _ (by rw [hs, skipWs_append wsL hwsL]; simp only [List.append_nil])

theorem parses_eval_unique (tag : Nat) (s : List Nat) (e e' : Expr) (h : Parses tag s e) (h' : Parses tag s e') :
    e.eval = e'.eval := by
  obtain ⟨p1, h1⟩ := expr_complete_top tag s e h
  obtain ⟨p2, h2⟩ := expr_complete_top tag s e' h'
  rw [h1] at h2
  simp only [Res.ok.injEq, Prod.mk.injEq] at h2
  exact h2.1

/-- on a scalar of the grammar the evaluator returns the reference evaluation of the tree finished by `topValue`:
a value, or the `ambiguous mix` error exactly when `topValue` is `none` -/
theorem evalExpr_complete (tag : Nat) (s : List Nat) (e : Expr) (h : Parses tag s e) :
    evalExpr tag s = match topValue tag e.eval with
      | some v => .ok v
      | none => .err .ambiguousMix 0 := by
  obtain ⟨p1, h1⟩ := expr_complete_top tag s e h
  rw [evalExpr_eq, expr_congr tag _ _ (skipWs_idem _), h1, Res.ok_bind, evalFinish, skipWs_stop _ _ _ _ Head.nil]
  cases topValue tag e.eval <;> rfl

/-- What an outcome of `evalExpr tag s` says about the scalar: a value is the reference evaluation of every
tree of `s` (and there is one); an error on a scalar of the grammar is the `ambiguous mix` rejection of the
tag rule; a panic needs bytes that are not those of a `str` and no tree; fuel is never exhausted. -/
def Run (tag : Nat) (s : List Nat) : Res Fl → Prop
  | .ok v => (∃ e, Parses tag s e) ∧ ∀ e, Parses tag s e → topValue tag e.eval = some v
  | .err er d => ∀ e, Parses tag s e → topValue tag e.eval = none ∧ er = .ambiguousMix ∧ d = 0
  | .panic _ => ¬ AdjOk s ∧ ∀ e, ¬ Parses tag s e
  | .fuel => False

/-- totality and soundness (`evalExpr_does`) and completeness (`evalExpr_complete`) in one statement -/
theorem evalExpr_run (tag : Nat) (s : List Nat) : Run tag s (evalExpr tag s) := by
  -- completeness, read as a statement about the outcome
  have hc : ∀ e, Parses tag s e → ∀ r, evalExpr tag s = r → match r with
      | .ok v => topValue tag e.eval = some v
      | .err er d => topValue tag e.eval = none ∧ er = .ambiguousMix ∧ d = 0
      | _ => False := by
    intro e hp r hr
    rw [evalExpr_complete tag s e hp] at hr
    subst hr
    cases topValue tag e.eval <;> simp
  cases h : evalExpr tag s with
  | ok v =>
    obtain ⟨e, hp, _⟩ := evalExpr_sound tag s v h
    exact ⟨⟨e, hp⟩, fun e' hp' => hc e' hp' _ h⟩
  | err er d => exact fun e hp => hc e hp _ h
  | panic p =>
    refine ⟨fun hadj => ?_, fun e hp => hc e hp _ h⟩
    have := evalExpr_does (ap := false) tag s (Or.inr hadj)
    rw [h] at this
    cases this
  | fuel =>
    have := evalExpr_does (ap := true) tag s (Or.inl rfl)
    rw [h] at this
    exact this

end SaphyrVerif.Lemmas.C19
