import SaphyrVerif.Lemmas.C05_Weak2
/-!
`Stays` for `bytesLoop`, and the outcome `NKPost` of `nextKey` (what the key side of the map access does to the cursor,
while reading the mapping and while flushing merged entries), piece by piece along `Lemmas/DeEqns.lean`.
-/
namespace SaphyrVerif.Lemmas.C05
open SaphyrVerif SaphyrVerif.Scalars SaphyrVerif.Pump SaphyrVerif.De SaphyrVerif.Spec
variable {cfg : Cfg} {buf : List Ev} {ref : Option Loc}

section
variable {fuel : Nat} {cfg : Cfg} {buf : List Ev} {i : Nat} {ref : Option Loc} {c' : Cur}

theorem bytesLoop_weak {acc : List Nat} {v : Val}
    (h : bytesLoop fuel cfg (.replay buf i ref) acc = .ok v c') : Stays buf ref i 1 c' := by
  induction fuel generalizing i acc with
  | zero => rw [bytesLoop] at h; contradiction
  | succ fuel ih =>
    have item : ∀ {i acc}, blItem fuel cfg (.replay buf i ref) acc = .ok v c' → Stays buf ref i 1 c' := by
      intro i acc h
      unfold blItem at h
      split at h
      · contradiction
      · rename_i hq
        exact (deserScalarTyped_weak hq).trans (fun j hj => by subst hj; exact ih h) (by omega)
      · contradiction
    rw [bytesLoop_succ] at h
    weak_ev
    all_goals first | weak_leaf | exact item h

end

theorem enqueue_flushing (m : MA) : (enqueueNextMergeBatch m).2.flushingMerges = m.flushingMerges := by
  unfold enqueueNextMergeBatch
  rfl

/-- the key side has read the last event of the mapping itself: the access is done, or delivers a merged entry (still
flushing, its recorded value pending) -/
def Closing (step : KeyStep) (m' : MA) : Prop :=
  step = .done ∨ (m'.flushingMerges = true ∧ m'.pendingValue.isSome = true)

/-- outcome of `nextKey` started at index `i` with `flushingMerges = fl`.  Started while the merge stack is flushed the
cursor stays where it is.  Started live, either the access is still live and only whole nodes were read, or the last thing
read was the closing `.mapEnd`. -/
def NKPost (buf : List Ev) (ref : Option Loc) (i : Nat) (fl : Bool) (step : KeyStep) (m' : MA) (c' : Cur) : Prop :=
  match fl with
  | true => c' = .replay buf i ref ∧ Closing step m'
  | false => (m'.flushingMerges = false ∧ Stays buf ref i 0 c') ∨ (Stays buf ref i 1 c' ∧ Closing step m')

theorem NKPost.deliver_pending {i : Nat} {fl : Bool} {step : KeyStep} {m' : MA}
    (h1 : m'.flushingMerges = fl) (h2 : m'.pendingValue.isSome = true) :
    NKPost buf ref i fl step m' (.replay buf i ref) := by
  cases fl with
  | true => exact ⟨rfl, .inr ⟨h1, h2⟩⟩
  | false => exact .inl ⟨h1, Stays.refl (Int.le_refl 0)⟩

theorem NKPost.done_flushing {i : Nat} {m' : MA} : NKPost buf ref i true .done m' (.replay buf i ref) :=
  ⟨rfl, .inl rfl⟩

theorem NKPost.live {i : Nat} {step : KeyStep} {m' : MA} (h1 : m'.flushingMerges = false) :
    NKPost buf ref i false step m' (.replay buf i ref) :=
  .inl ⟨h1, Stays.refl (Int.le_refl 0)⟩

theorem NKPost.after {i : Nat} {step : KeyStep} {m' : MA} {c₁ c' : Cur}
    (h1 : Stays buf ref i 0 c₁) (h2 : ∀ j, c₁ = .replay buf j ref → NKPost buf ref j false step m' c') :
    NKPost buf ref i false step m' c' := by
  have ⟨j, hc, _⟩ := h1
  have tr : ∀ {k : Int}, Stays buf ref j k c' → Stays buf ref i k c' := fun hs =>
    h1.trans (fun j' hj' => by cases hc.symm.trans hj'; exact hs) (by omega)
  exact (h2 j hc).imp (fun h => ⟨h.1, tr h.2⟩) (fun h => ⟨tr h.1, h.2⟩)

/-- the closing `.mapEnd` has been taken, and what follows does not touch the cursor -/
theorem NKPost.mapEnd {i : Nat} {l : Loc} {step : KeyStep} {m' : MA} {c' : Cur}
    (hb : buf[i]? = some (.mapEnd l)) (h : NKPost buf ref (i + 1) true step m' c') :
    NKPost buf ref i false step m' c' :=
  .inr ⟨h.1 ▸ Stays.one hb (by simp only [Ev.delta]; omega) (by omega), h.2⟩

/-! `nextKey`, piece by piece (`Lemmas/DeEqns.lean`); `ih` is the statement for the recursive calls -/
section pieces
variable {fuel : Nat}
  (ih : ∀ {kseed : Ty ⊕ Unit} {i : Nat} {m m' : MA} {step : KeyStep} {c' : Cur},
    nextKey fuel cfg kseed (.replay buf i ref) m = .ok (step, m') c' → NKPost buf ref i m.flushingMerges step m' c')
  {ks : Ty ⊕ Unit} {i : Nat} {m m' : MA} {step : KeyStep} {c' : Cur}
include ih

/-- an entry is pending: the cursor is not touched -/
theorem nkPending_post {e : PendingEntry} (h : nkPending fuel cfg ks (.replay buf i ref) m e = .ok (step, m') c') :
    NKPost buf ref i m.flushingMerges step m' c' := by
  simp only [nkPending] at h
  repeat' (first
    | contradiction
    | exact ih h
    | (cases h; exact NKPost.deliver_pending rfl rfl)
    | split at h)

theorem nkFlush_post (hfl : m.flushingMerges = true)
    (h : nkFlush fuel cfg ks (.replay buf i ref) m = .ok (step, m') c') : NKPost buf ref i true step m' c' := by
  simp only [nkFlush] at h
  split at h
  · have := ih h
    rw [enqueue_flushing, hfl] at this
    exact this
  · cases h; exact NKPost.done_flushing

theorem nkEnd_post {l : Loc} (hb : buf[i]? = some (.mapEnd l))
    (h : nkEnd fuel cfg ks (.replay buf (i + 1) ref) m = .ok (step, m') c') : NKPost buf ref i false step m' c' := by
  simp only [nkEnd] at h
  split at h
  · cases h; exact NKPost.mapEnd hb NKPost.done_flushing
  · exact NKPost.mapEnd hb (nkFlush_post ih rfl h)

theorem nkMerge_post (hfl : m.flushingMerges = false)
    (h : nkMerge fuel cfg ks (.replay buf i ref) m = .ok (step, m') c') : NKPost buf ref i false step m' c' := by
  simp only [nkMerge, peek_replay] at h
  split at h
  · contradiction
  rename_i entries c₂ hq
  refine NKPost.after (pendingFromLive_weak hq) (fun j hj => ?_)
  subst hj
  have := ih h
  have he : (if entries.isEmpty = true then m else { m with mergeStack := entries :: m.mergeStack }).flushingMerges
      = false := by
    split <;> exact hfl
  rw [he] at this
  exact this

theorem nkDeliver_post {kn : KeyNode} (hfl : m.flushingMerges = false)
    (h : nkDeliver fuel cfg ks (.replay buf i ref) m kn = .ok (step, m') c') : NKPost buf ref i false step m' c' := by
  simp only [nkDeliver, peek_replay] at h
  repeat' (first
    | contradiction
    | (cases h; exact NKPost.live hfl)
    | split at h)
  rename_i hq
  refine NKPost.after (capture_weak hq) (fun j hj => ?_)
  subst hj
  have := ih h
  simp only [hfl] at this
  exact this

theorem nkKey_post {ia : Bool} {kn : KeyNode} (hfl : m.flushingMerges = false)
    (h : nkKey fuel cfg ks (.replay buf i ref) m ia kn = .ok (step, m') c') : NKPost buf ref i false step m' c' := by
  simp only [nkKey] at h
  -- the three ways of the duplicate policy: reject, skip the value and go on, deliver
  weak_if
  · contradiction
  weak_if
  · split at h
    · contradiction
    rename_i hq
    refine NKPost.after (skipOneNode_weak hq) (fun j hj => ?_)
    subst hj
    exact hfl ▸ ih h
  · exact nkDeliver_post ih hfl h

/-- nothing pending, not flushing: only here the cursor is read -/
theorem nkLive_post (hfl : m.flushingMerges = false)
    (h : nkLive fuel cfg ks (.replay buf i ref) m = .ok (step, m') c') : NKPost buf ref i false step m' c' := by
  simp only [nkLive, peek_replay] at h
  split at h
  · contradiction
  · contradiction
  · rename_i hpk
    injection hpk with hb hc
    subst hc
    simp only [Cursor.next_replay_of_getElem? ref hb] at h
    exact nkEnd_post ih hb h
  · rename_i _ hpk
    injection hpk with hb hc
    subst hc
    split at h
    · contradiction
    rename_i keyNode c₁ hq
    refine NKPost.after (capture_weak hq) (fun j hj => ?_)
    subst hj
    split at h
    · exact nkMerge_post ih hfl h
    · exact nkKey_post ih hfl h

end pieces

theorem nextKey_post (fuel : Nat) : ∀ {kseed : Ty ⊕ Unit} {i : Nat} {m m' : MA} {step : KeyStep} {c' : Cur},
    nextKey fuel cfg kseed (.replay buf i ref) m = .ok (step, m') c' →
    NKPost buf ref i m.flushingMerges step m' c' := by
  induction fuel with
  | zero => intro kseed i m m' step c' h; rw [nextKey] at h; contradiction
  | succ fuel ih =>
    intro kseed i m m' step c' h
    rw [nextKey_succ] at h
    split at h
    · have := nkPending_post ih h
      exact this
    · split at h
      · rename_i hfl
        rw [hfl]
        exact nkFlush_post ih hfl h
      · rename_i hfl
        have hfl : m.flushingMerges = false := by simpa using hfl
        rw [hfl]
        exact nkLive_post ih hfl h

end SaphyrVerif.Lemmas.C05
