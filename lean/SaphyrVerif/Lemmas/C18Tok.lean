import SaphyrVerif.Model.PathMap
/-! The index-faithful tokenizer loop never hits an out-of-range index and computes `tokenizePiece`. -/
namespace SaphyrVerif.PathMap

theorem lowerAscii_isEmpty (l : List Char) : (lowerAscii l).isEmpty = l.isEmpty := by
  cases l <;> rfl

/-- `cur` of the structural version = `chars[start..i]` reversed -/
def curOf (cs : List Char) (start i : Nat) : List Char := ((cs.drop start).take (i - start)).reverse

theorem curOf_isEmpty {cs : List Char} {start i : Nat} (h1 : start < i) (h2 : i ≤ cs.length) :
    (curOf cs start i).isEmpty = false := by
  apply List.isEmpty_eq_false_iff.mpr
  apply List.ne_nil_of_length_pos
  unfold curOf
  rw [List.length_reverse, List.length_take, List.length_drop]
  exact Nat.lt_min.mpr ⟨Nat.sub_pos_of_lt h1, Nat.sub_pos_of_lt (Nat.lt_of_lt_of_le h1 h2)⟩

/-- the token pushed at a boundary is not empty -/
theorem tok_isEmpty {cs : List Char} {start i : Nat} (h1 : start < i) (h2 : i ≤ cs.length) :
    (lowerAscii (curOf cs start i).reverse).isEmpty = false := by
  rw [lowerAscii_isEmpty, List.isEmpty_reverse, curOf_isEmpty h1 h2]

theorem slice?_curOf {cs : List Char} {start i : Nat} (h1 : start < i) (h2 : i ≤ cs.length) :
    slice? cs start i = some (curOf cs start i).reverse := by
  unfold slice? curOf
  rw [if_pos ⟨Nat.le_of_lt h1, h2⟩, List.reverse_reverse]

theorem curOf_succ {cs : List Char} {start i : Nat} (h1 : start ≤ i) (h2 : i < cs.length) :
    curOf cs start (i + 1) = cs[i] :: curOf cs start i := by
  unfold curOf
  rw [Nat.sub_add_comm h1, List.take_add_one, List.getElem?_drop, Nat.add_sub_of_le h1,
    List.getElem?_eq_getElem h2, List.reverse_append]
  rfl

theorem curOf_self_succ {cs : List Char} {i : Nat} (h2 : i < cs.length) : curOf cs i (i + 1) = [cs[i]] := by
  unfold curOf
  rw [Nat.add_sub_cancel_left, List.drop_eq_getElem_cons h2]
  rfl

/-- the loop entered with `i = j + 1` (so `prev = chars[j]`) and `start ≤ j` -/
theorem loop_inv (cs : List Char) :
    ∀ (fuel j start : Nat) (toks : List (List Char)) (hj : j + 1 + fuel = cs.length) (_hs : start ≤ j),
      pieceFinishIdx cs (pieceLoopIdx cs fuel (j + 1) start toks) =
        some (toks ++ pieceTokens (cs[j]'(by omega)) (cs.drop (j + 1)) (curOf cs start (j + 1)))
  | 0, j, start, toks, hj, hs => by
    have hs : start < cs.length := hj ▸ Nat.lt_succ_of_le hs
    rw [pieceLoopIdx, pieceFinishIdx, if_pos hs, slice?_curOf hs (Nat.le_refl _), hj, List.drop_length, pieceTokens]
    simp only [tok_isEmpty hs (Nat.le_refl _), curOf_isEmpty hs (Nat.le_refl _), Bool.false_eq_true, if_false]
  | fuel + 1, j, start, toks, hj, hs => by
    have hs : start < j + 1 := Nat.lt_succ_of_le hs
    have hil : j + 1 < cs.length := hj ▸ Nat.lt_add_of_pos_right (Nat.succ_pos fuel)
    have hfuel : j + 1 + 1 + fuel = cs.length := (Nat.add_right_comm (j + 1) 1 fuel).trans hj
    rw [pieceLoopIdx, Nat.add_sub_cancel, List.getElem?_eq_getElem (Nat.lt_of_succ_lt hil),
      List.getElem?_eq_getElem hil, List.drop_eq_getElem_cons hil, pieceTokens, List.head?_drop]
    simp only []
    rw [if_pos hs, slice?_curOf hs (Nat.le_of_lt hil)]
    simp only [tok_isEmpty hs (Nat.le_of_lt hil), curOf_isEmpty hs (Nat.le_of_lt hil), Bool.false_eq_true, if_false]
    split
    · rw [loop_inv cs fuel (j + 1) (j + 1) _ hfuel (Nat.le_refl _), curOf_self_succ hil, List.append_assoc]
    · rw [loop_inv cs fuel (j + 1) start toks hfuel (Nat.le_of_lt hs), curOf_succ (Nat.le_of_lt hs) hil]

end SaphyrVerif.PathMap
