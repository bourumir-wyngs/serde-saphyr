import SaphyrVerif.Lemmas.E2EBudgetObs
/-!
End-to-end composition with the budget enforcer (pump level): the pump with a budget enforcer and the
same pump without one (`stripP`) make the same steps — same step, same successor state up to the enforcer —
until the first breach; a breach is the only way the enforcer shows (`nextImpl_strip`: `nextImpl_obs` of
`Lemmas/E2EBudgetObs.lean`, where `withBud`, `feedObs`, `obsCall` are defined, read from the budgeted side).  Also
(over `Loop` / `call_of`, the list of what a call can do in `Lemmas/PumpStep.lean`): the null scalar of a stream
without content is synthesized at most once, at the very end (`J`), so a breach is never reported by a pump
whose `synthesized_null` flag is set.
-/
namespace SaphyrVerif.Lemmas.E2EBudget
open SaphyrVerif.Pump SaphyrVerif.Budget

@[reducible] def stripP (p : Pump) : Pump := { p with budget := none }

def IsBreach (s : Step) : Prop := ∃ b l, s = .error (.budget b l)

/-! ### only the synthesized null sets `synthesized_null` -/

theorem loop_syn {p : Pump} {inp : List RawItem} {s : Step} {p' : Pump} {rest : List RawItem}
    (h : Loop p inp s p' rest) (hi : p.inject = []) :
    p'.synthesizedNull = p.synthesizedNull ∨
      ((∃ e, s = .event e) ∧ rest = [] ∧ p'.inject = [] ∧ p'.producedAny = true) := by
  induction h with
  | null p h => exact .inr ⟨⟨_, rfl⟩, rfl, hi, rfl⟩
  | eof | scan | breach => exact .inl rfl
  | ret rest hb h => exact .inl h.syn
  | stop rest hb h => exact .inl h.syn
  | pass hb h _ ih =>
    exact (ih (h.cont_inject hi)).imp_left (·.trans h.syn)

theorem nextImpl_syn (p : Pump) (inp : List RawItem) {s : Step} {p' : Pump} {rest : List RawItem}
    (h : nextImpl p inp = (s, p', rest)) :
    p'.synthesizedNull = p.synthesizedNull ∨
      ((∃ e, s = .event e) ∧ rest = [] ∧ p'.inject = [] ∧ p'.producedAny = true) := by
  cases call_of h with
  | served hs => exact .inl hs.syn
  | loop _ hl => exact (loop_syn hl rfl :)

theorem withBud_stripP {p : Pump} {b : Enf} (h : p.budget = some b) : withBud (stripP p) b = p := by
  cases p
  cases h
  rfl

theorem stripP_of_none {p : Pump} (h : p.budget = none) : stripP p = p := by
  cases p
  cases h
  rfl

theorem withBud_budget_none {q : Pump} (hq : q.budget = none) (b : Enf) : stripP (withBud q b) = q := by
  cases q
  cases hq
  rfl

/-- `nextImpl_obs` read from the budgeted side -/
theorem nextImpl_withBud_inv {q : Pump} {inp : List RawItem} (hq : q.budget = none) (b : Enf)
    {s : Step} {p' : Pump} {rest : List RawItem} (h : nextImpl (withBud q b) inp = (s, p', rest)) :
    (∃ q' b', nextImpl q inp = (s, q', rest) ∧ q'.budget = none ∧ p' = withBud q' b' ∧
      feedObs b (obsCall q inp) = .ok b') ∨ IsBreach s := by
  rcases h0 : nextImpl q inp with ⟨s0, q', r0⟩
  have ho := nextImpl_obs q inp hq b h0
  cases hf : feedObs b (obsCall q inp) with
  | ok b' =>
    simp only [hf] at ho
    cases h.symm.trans ho
    exact .inl ⟨q', b', rfl, budget_none_step hq h0, rfl, rfl⟩
  | error br =>
    simp only [hf] at ho
    obtain ⟨l, p1, r1, ho⟩ := ho
    cases h.symm.trans ho
    exact .inr ⟨br, l, rfl⟩

theorem nextImpl_strip (p : Pump) (inp : List RawItem) {s : Step} {p' : Pump} {rest : List RawItem}
    (h : nextImpl p inp = (s, p', rest)) :
    nextImpl (stripP p) inp = (s, stripP p', rest) ∨ (IsBreach s ∧ p'.synthesizedNull = p.synthesizedNull) := by
  cases hb : p.budget with
  | none =>
    rw [stripP_of_none hb, stripP_of_none (budget_none_step hb h)]
    exact .inl h
  | some b =>
    have h2 : nextImpl (withBud (stripP p) b) inp = (s, p', rest) := by rw [withBud_stripP hb]; exact h
    rcases nextImpl_withBud_inv (q := stripP p) rfl b h2 with ⟨q', b', h0, hq', rfl, -⟩ | hbr
    · exact .inl (by rw [withBud_budget_none hq']; exact h0)
    · refine .inr ⟨hbr, (nextImpl_syn p inp h).resolve_right ?_⟩
      rintro ⟨⟨e, rfl⟩, -⟩
      obtain ⟨br, l, he⟩ := hbr
      cases he

/-- once the null scalar of a stream without content was synthesized, the input is exhausted, no replay is
pending and the pump has produced something: from then on `next_impl` only reports end of input -/
def J (p : Pump) (inp : List RawItem) : Prop :=
  p.synthesizedNull = true → inp = [] ∧ p.inject = [] ∧ p.producedAny = true

theorem nextImpl_J {p : Pump} {inp : List RawItem} {s : Step} {p' : Pump} {rest : List RawItem}
    (hJ : J p inp) (h : nextImpl p inp = (s, p', rest)) :
    J p' rest ∧ (IsBreach s → p'.synthesizedNull = false) := by
  by_cases hsyn : p.synthesizedNull = true
  · obtain ⟨rfl, hinj, hpa⟩ := hJ hsyn
    rw [nextImpl_done hinj hpa] at h
    cases h
    refine ⟨fun _ => ⟨rfl, hinj, hpa⟩, ?_⟩
    rintro ⟨b, l, hb⟩
    cases hb
  · rcases nextImpl_syn p inp h with h1 | ⟨⟨e, rfl⟩, rfl, h2, h3⟩
    · refine ⟨fun h' => absurd (h1 ▸ h') hsyn, fun _ => ?_⟩
      rw [h1]; simpa using hsyn
    · refine ⟨fun _ => ⟨rfl, h2, h3⟩, ?_⟩
      rintro ⟨b, l, hb⟩
      cases hb


end SaphyrVerif.Lemmas.E2EBudget
