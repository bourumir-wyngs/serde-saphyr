import SaphyrVerif.Lemmas.C11_DeserFam
/-!
Progress of the typed deserializer, needed for the termination of the streaming iterator: at a document root (the
look-ahead holds the event the iterator has just peeked) a successful `deser` consumes at least that event — unless the
event is a container end and the target type accepts it without consuming (`()` / `Option<_>`, possibly behind newtypes).
-/
namespace SaphyrVerif.Lemmas.C11
open SaphyrVerif SaphyrVerif.Scalars SaphyrVerif.Pump SaphyrVerif.De

/-- types whose `deserialize` returns successfully on a container-end event without consuming it -/
def acceptsEnd : Ty → Bool
  | .unit => true
  | .option _ => true
  | .newtype t => acceptsEnd t
  | _ => false

def isEndEv : Ev → Bool
  | .seqEnd _ | .mapEnd _ => true
  | _ => false

def RLt {α : Type} (c : Cur) (r : R α) : Prop :=
  match r with
  | .ok _ c' => Lt c c'
  | .err _ _ => True

@[grind =] theorem RLt_ok {α : Type} (c c' : Cur) (a : α) : RLt c (R.ok a c') = Lt c c' := rfl
@[grind =] theorem RLt_err {α : Type} (c c' : Cur) (e : DErr) : RLt c (R.err e c' : R α) = True := rfl

theorem Lt.trans_le_root {a b c : Cur} (_h0 : Root a) (h1 : Lt a b) (h2 : Le b c) : Lt a c := h1.trans_le h2
theorem Le.trans_lt_root {a b c : Cur} (_h0 : Root a) (h1 : Le a b) (h2 : Lt b c) : Lt a c := h1.trans_lt h2
theorem RLt.of_le {α : Type} {a b : Cur} {r : R α} (_h0 : Root a) (h1 : Le a b) (h2 : RLt b r) : RLt a r := by
  cases r with
  | ok v c => exact h1.trans_lt h2
  | err e c => trivial
theorem RLt.of_lt {α : Type} {a b : Cur} {r : R α} (_h0 : Root a) (h1 : Lt a b) (h2 : RLe b r) : RLt a r := by
  cases r with
  | ok v c => exact h1.trans_le h2
  | err e c => trivial
grind_pattern Lt.trans_le_root => Root a, Lt a b, Le b c
grind_pattern Le.trans_lt_root => Root a, Le a b, Lt b c
grind_pattern RLt.of_le => Root a, Le a b, RLt b r
grind_pattern RLt.of_lt => Root a, Lt a b, RLe b r

theorem RLt.ite {α : Type} {p : Prop} [Decidable p] {c : Cur} {a b : R α} (ha : RLt c a) (hb : RLt c b) :
    RLt c (if p then a else b) := by
  by_cases hp : p
  · rw [if_pos hp]; exact ha
  · rw [if_neg hp]; exact hb

section
variable {c : Cur} {ev : Ev} (h : curLook c = some ev)
include h

theorem rlt_takeStringScalar (cfg : Cfg) : RLt c (takeStringScalar cfg c) := by
  obtain ⟨c2, hn, hlt⟩ := next_of_look h
  have hroot : Root c := trivial
  simp only [takeStringScalar]
  grind
theorem rlt_deserScalarTyped (cfg : Cfg) (ty : Ty) : RLt c (deserScalarTyped cfg ty c) := by
  obtain ⟨c1, hp, hpp, hl1, hle1⟩ := peek_of_look h
  obtain ⟨c2, hn, hlt⟩ := next_of_look h
  obtain ⟨c3, hn1, hlt1⟩ := next_of_look hl1
  have hroot : Root c := trivial
  simp only [deserScalarTyped]
  grind (splits := 40)

theorem rlt_deserString (cfg : Cfg) : RLt c (deserString cfg c) := by
  obtain ⟨c1, hp, hpp, hl1, hle1⟩ := peek_of_look h
  obtain ⟨c3, hn1, hlt1⟩ := next_of_look hl1
  have ht := rlt_takeStringScalar hl1 cfg
  have hroot : Root c := trivial
  simp only [deserString]
  grind (splits := 40)

theorem rlt_deserAnyScalar (cfg : Cfg) (v : List Char) (tag : Nat) (st : Style) (l : Loc) :
    RLt c (deserAnyScalar cfg c v tag st l) := by
  obtain ⟨c2, hn, hlt⟩ := next_of_look h
  have ht := rlt_takeStringScalar h cfg
  unfold deserAnyScalar
  simp only [hn]
  -- every branch ends in the cursor after that `next`, in an error, or in the result of `takeStringScalar`
  repeat' (first
    | exact hlt
    | trivial
    | (rename_i heq; rw [heq] at ht; exact ht)
    | refine RLt.ite ?_ ?_
    | split)

theorem rlt_deserSeqLike (n : Nat) (cfg : Cfg) (sh : Ty ⊕ List Ty) : RLt c (deserSeqLike n cfg sh c) := by
  cases n with
  | zero => simp [deserSeqLike, RLt]
  | succ n =>
    obtain ⟨c1, hp, hpp, hl1, hle1⟩ := peek_of_look h
    obtain ⟨c3, hn1, hlt1⟩ := next_of_look hl1
    have i12 := (allLe n).seqElems
    have i13 := (allLe n).tupleElems
    have hroot : Root c := trivial
    simp only [deserSeqLike]
    grind (splits := 40) (gen := 40) (ematch := 40)

theorem rlt_deserMapLike (n : Nat) (cfg : Cfg) (sh : (Ty × Ty) ⊕ (List (String × Ty) × Bool)) :
    RLt c (deserMapLike n cfg sh c) := by
  cases n with
  | zero => simp [deserMapLike, RLt]
  | succ n =>
    obtain ⟨c1, hp, hpp, hl1, hle1⟩ := peek_of_look h
    obtain ⟨c3, hn1, hlt1⟩ := next_of_look hl1
    have i15 := (allLe n).mapEntries
    have i16 := (allLe n).structEntries
    have hroot : Root c := trivial
    simp only [deserMapLike]
    grind (splits := 40) (gen := 40) (ematch := 40)

theorem rlt_deserEnum (n : Nat) (cfg : Cfg) (name : String) (vs : List (String × VTy)) :
    RLt c (deserEnum n cfg name vs c) := by
  cases n with
  | zero => simp [deserEnum, RLt]
  | succ n =>
    obtain ⟨c1, hp, hpp, hl1, hle1⟩ := peek_of_look h
    obtain ⟨c3, hn1, hlt1⟩ := next_of_look hl1
    have i20 := (allLe n).collectTaggedSeq
    have i21 := (allLe n).variantPayload
    have hroot : Root c := trivial
    simp only [deserEnum]
    grind (splits := 40) (gen := 40) (ematch := 40)
end

theorem deser_root (fuel : Nat) : ∀ (cfg : Cfg) (ty : Ty) (ik k : Bool) (c : Cur) (ev : Ev),
    curLook c = some ev → (isEndEv ev = true → acceptsEnd ty = false) →
    RLt c (deser fuel cfg ty ik k c) := by
  induction fuel with
  | zero => intro cfg ty ik k c ev _ _; simp [deser, RLt]
  | succ n ih =>
    intro cfg ty ik k c ev h hacc
    obtain ⟨c1, hp, hpp, hl1, hle1⟩ := peek_of_look h
    obtain ⟨c2, hn, hlt⟩ := next_of_look h
    obtain ⟨c3, hn1, hlt1⟩ := next_of_look hl1
    have hroot : Root c := trivial
    cases ty with
    | bool => simp only [deser]; exact rlt_deserScalarTyped h cfg _
    | int s w => simp only [deser]; exact rlt_deserScalarTyped h cfg _
    | float w => simp only [deser]; exact rlt_deserScalarTyped h cfg _
    | char => simp only [deser]; exact rlt_deserScalarTyped h cfg _
    | string => simp only [deser]; exact rlt_deserString h cfg
    | newtype t =>
      simp only [deser]
      exact ih cfg t ik k c ev h (by simpa [acceptsEnd] using hacc)
    | unit =>
      simp only [deser]
      cases ev <;> simp [isEndEv, acceptsEnd] at hacc <;> grind
    | option t =>
      simp only [deser]
      have i9 := (allLe n).deser
      cases ev with
      | seqEnd l => simp [isEndEv, acceptsEnd] at hacc
      | mapEnd l => simp [isEndEv, acceptsEnd] at hacc
      | scalar v tg rt st a l =>
        have ih1 := ih cfg t ik k c1 _ hl1 (by simp [isEndEv])
        grind
      | seqStart a tg rt l =>
        have ih1 := ih cfg t ik k c1 _ hl1 (by simp [isEndEv])
        grind
      | mapStart a l =>
        have ih1 := ih cfg t ik k c1 _ hl1 (by simp [isEndEv])
        grind
    | bytes =>
      simp only [deser]
      have i10 := (allLe n).bytesLoop
      grind
    | seq t => simp only [deser]; exact rlt_deserSeqLike h n cfg _
    | tuple ts => simp only [deser]; exact rlt_deserSeqLike h n cfg _
    | map kt vt => simp only [deser]; exact rlt_deserMapLike h n cfg _
    | struct fields deny => simp only [deser]; exact rlt_deserMapLike h n cfg _
    | enum name vs => simp only [deser]; exact rlt_deserEnum h n cfg name vs
    | any =>
      simp only [deser]
      have h1 := fun v tag st l => rlt_deserAnyScalar hl1 cfg v tag st l
      have h2 := rlt_deserSeqLike hl1 n cfg (.inl .any)
      have h3 := rlt_deserMapLike hl1 n cfg (.inl (.any, .any))
      grind

end SaphyrVerif.Lemmas.C11
