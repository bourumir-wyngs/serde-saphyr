import SaphyrVerif.Lemmas.C03_TypedB
import SaphyrVerif.Lemmas.C05_Main
/-!
C03 at the level of typed values, what the main induction (`C03_TypedD`) needs about `interp`: its list helpers give
the same result on entry lists related by `VRel` (same keys, values written out) when the item functions do on
the items; the side conditions `enumFree`, `enumStable` pass to sub-terms and to the entries a merge delivers.
-/
namespace SaphyrVerif.Lemmas.C03T
open SaphyrVerif SaphyrVerif.Scalars SaphyrVerif.Pump SaphyrVerif.De SaphyrVerif.Spec
open SaphyrVerif.Lemmas.C04 (keys)

theorem VRel.length_eq {dup : DupPolicy} {es es' : List (ENode × ENode)} (h : VRel dup es es') : es.length = es'.length := by
  induction h with
  | nil => rfl
  | cons _ _ ih => simp [ih]

theorem writeOut_isNullish (dup : DupPolicy) (t : ENode) : isNullishNode t = isNullishNode (writeOut dup t) := by
  cases t with
  | scalar v tag rt st a l => rw [writeOut_scalar]
  | seq a tag rt l el items => rw [writeOut_seq]; rfl
  | map a l el entries => rw [writeOut_map]; split <;> rfl

theorem enumFree_option (t : Ty) : enumFree (.option t) = enumFree t := by rw [enumFree]
theorem enumFree_newtype (t : Ty) : enumFree (.newtype t) = enumFree t := by rw [enumFree]
theorem enumFree_seq (t : Ty) : enumFree (.seq t) = enumFree t := by rw [enumFree]
theorem enumFree_tuple (ts : List Ty) : enumFree (.tuple ts) = enumFreeL ts := by rw [enumFree]
theorem enumFree_map (k v : Ty) : enumFree (.map k v) = enumFree v := by rw [enumFree]
theorem enumFree_struct (fs : List (String × Ty)) (d : Bool) : enumFree (.struct fs d) = enumFreeF fs := by rw [enumFree]
theorem enumFree_enum (n : String) (vs : List (String × VTy)) : enumFree (.enum n vs) = false := by rw [enumFree]
theorem enumFree_any : enumFree .any = true := by simp [enumFree]

theorem enumFreeL_mem {ts : List Ty} (h : enumFreeL ts = true) {t : Ty} (ht : t ∈ ts) : enumFree t = true :=
  mem_of_andCons (fun t ts => by rw [enumFreeL]) h ht

theorem enumFreeF_mem {fs : List (String × Ty)} (h : enumFreeF fs = true) {nt : String × Ty} (ht : nt ∈ fs) :
    enumFree nt.2 = true :=
  mem_of_andCons (f := fun nt => enumFree nt.2) (fun ⟨n, t⟩ r => by rw [enumFreeF]) h ht

theorem enumStable_seq (dup : DupPolicy) (a tag : Nat) (rt : Option (List Char)) (l el : Loc) (items : List ENode) :
    enumStable dup (.seq a tag rt l el items) = enumStableL dup items := by rw [enumStable]
theorem enumStable_map (dup : DupPolicy) (a : Nat) (l el : Loc) (entries : List (ENode × ENode)) :
    enumStable dup (.map a l el entries) = (shapeStable dup entries && enumStableE dup entries) := by rw [enumStable]
theorem enumStableSrc_seq (dup : DupPolicy) (a tag : Nat) (rt : Option (List Char)) (l el : Loc) (items : List ENode) :
    enumStableSrc dup (.seq a tag rt l el items) = enumStableSrcL dup items := by rw [enumStableSrc]
theorem enumStableSrc_map (dup : DupPolicy) (a : Nat) (l el : Loc) (entries : List (ENode × ENode)) :
    enumStableSrc dup (.map a l el entries) = enumStableE dup entries := by rw [enumStableSrc]
theorem enumStableE_cons (dup : DupPolicy) (k v : ENode) (rest : List (ENode × ENode)) :
    enumStableE dup ((k, v) :: rest) =
      ((if isMergeKeyNode k then enumStableSrc dup v else enumStable dup v) && enumStableE dup rest) := by
  rw [enumStableE]

theorem enumStableL_mem {dup : DupPolicy} {items : List ENode} (h : enumStableL dup items = true) {n : ENode}
    (hn : n ∈ items) : enumStable dup n = true :=
  mem_of_andCons (fun n ns => by rw [enumStableL]) h hn

theorem enumStableE_mem {dup : DupPolicy} {es : List (ENode × ENode)} (h : enumStableE dup es = true) {e : ENode × ENode}
    (he : e ∈ es) : (if isMergeKeyNode e.1 then enumStableSrc dup e.2 else enumStable dup e.2) = true :=
  mem_of_andCons (f := fun e => if isMergeKeyNode e.1 then enumStableSrc dup e.2 else enumStable dup e.2)
    (fun ⟨k, v⟩ r => enumStableE_cons dup k v r) h he

theorem enumStableSrcL_mem {dup : DupPolicy} {items : List ENode} (h : enumStableSrcL dup items = true) {n : ENode}
    (hn : n ∈ items) : enumStableSrc dup n = true :=
  mem_of_andCons (fun n ns => by rw [enumStableSrcL]) h hn

/-- stability of merge sources is an invariant in the sense of `C03.sourceEntries_forall` -/
theorem enumStableSrc_inv_seq (dup : DupPolicy) (a tag : Nat) (rt : Option (List Char)) (l el : Loc) (items : List ENode)
    (h : enumStableSrc dup (.seq a tag rt l el items) = true) : ∀ it ∈ items, enumStableSrc dup it = true := by
  rw [enumStableSrc_seq] at h
  exact fun it hit => enumStableSrcL_mem h hit

theorem enumStableSrc_inv_map (dup : DupPolicy) (a : Nat) (l el : Loc) (es : List (ENode × ENode))
    (h : enumStableSrc dup (.map a l el es) = true) :
    ∀ e ∈ es, if isMergeKeyNode e.1 then enumStableSrc dup e.2 = true else enumStable dup e.2 = true := by
  rw [enumStableSrc_map] at h
  intro e he
  have := enumStableE_mem h he
  split <;> simp_all

theorem enumStableSrc_entries (dup : DupPolicy) (n : ENode) (b : List (ENode × ENode)) (hs : enumStableSrc dup n = true)
    (h : sourceEntries n = some b) : ∀ e ∈ b, enumStable dup e.2 = true :=
  C03.sourceEntries_forall (Q := fun m => enumStableSrc dup m = true) (enumStableSrc_inv_seq dup) (enumStableSrc_inv_map dup) n b hs h

theorem enumStableSrcL_entries (dup : DupPolicy) : ∀ (items : List ENode) (b : List (ENode × ENode)),
    enumStableSrcL dup items = true → seqSourceEntries items = some b → ∀ e ∈ b, enumStable dup e.2 = true :=
  fun items b hs h => C03.seqSourceEntries_forall (Q := fun m => enumStableSrc dup m = true) (enumStableSrc_inv_seq dup) (enumStableSrc_inv_map dup) items b
    (fun _ hit => enumStableSrcL_mem hs hit) h

theorem enumStableE_entries (dup : DupPolicy) : ∀ (entries b : List (ENode × ENode)),
    enumStableE dup entries = true → mapSourceEntries entries = some b → ∀ e ∈ b, enumStable dup e.2 = true :=
  fun entries b hs h => C03.mapSourceEntries_forall (Q := fun m => enumStableSrc dup m = true) (enumStableSrc_inv_seq dup) (enumStableSrc_inv_map dup) entries b
    (enumStableSrc_inv_map dup 0 0 0 entries (by rw [enumStableSrc_map]; exact hs)) h

theorem enumStable_eff {dup dup' : DupPolicy} {entries es : List (ENode × ENode)} (hs : enumStableE dup entries = true)
    (h : effEntries dup' entries = some es) : ∀ e ∈ es, enumStable dup e.2 = true := by
  intro e he
  rcases C03.eff_mem h e he with ho | ⟨src, hsrc, hm⟩
  · have := enumStableE_mem hs (C03.splitEntries_own_mem entries e ho)
    simpa [C03.splitEntries_own_no_merge entries e ho] using this
  · refine C03.seqSourceEntries_forall (Q := fun m => enumStableSrc dup m = true) (enumStableSrc_inv_seq dup) (enumStableSrc_inv_map dup) _ src (fun n hn => ?_) hsrc e hm
    obtain ⟨k, hk, hkm⟩ := C03.splitEntries_merge_mem entries n hn
    simpa [hkm] using enumStableE_mem hs hk

theorem mapM_writeOutL {β : Type} {dup : DupPolicy} {g : ENode → Option β} : ∀ (items : List ENode),
    (∀ n ∈ items, g n = g (writeOut dup n)) → items.mapM g = (writeOutL dup items).mapM g := by
  intro items
  induction items with
  | nil => intro _; rw [writeOutL_nil]
  | cons n ns ih =>
    intro hg
    rw [writeOutL_cons, List.mapM_cons, List.mapM_cons, hg n (List.mem_cons_self ..),
      ih (fun m hm => hg m (List.mem_cons_of_mem _ hm))]

theorem listFrom_writeOutL {dup : DupPolicy} {f : NodeFn} {items : List ENode}
    (hf : ∀ n ∈ items, f n = f (writeOut dup n)) : listFrom f items = listFrom f (writeOutL dup items) := by
  rw [C05.listFrom_eq_mapM, C05.listFrom_eq_mapM]
  exact mapM_writeOutL items hf

theorem tupleFrom_writeOutL {dup : DupPolicy} : ∀ (items : List ENode) (fs : List NodeFn),
    (∀ f ∈ fs, ∀ n ∈ items, f n = f (writeOut dup n)) → tupleFrom fs items = tupleFrom fs (writeOutL dup items) := by
  intro items
  induction items with
  | nil => intro fs _; rw [writeOutL_nil]
  | cons n ns ih =>
    intro fs hf
    rw [writeOutL_cons]
    cases fs with
    | nil => simp [tupleFrom]
    | cons f fs =>
      rw [C05.tupleFrom_cons, C05.tupleFrom_cons, hf f (List.mem_cons_self ..) n (List.mem_cons_self ..),
        ih fs (fun g hg m hm => hf g (List.mem_cons_of_mem _ hg) m (List.mem_cons_of_mem _ hm))]

theorem pairsFrom_congr {dup : DupPolicy} {kf vf : NodeFn} {es es' : List (ENode × ENode)} (h : VRel dup es es')
    (hf : ∀ e ∈ es, vf e.2 = vf (writeOut dup e.2)) : pairsFrom kf vf es = pairsFrom kf vf es' := by
  induction h with
  | nil => rfl
  | @cons k v v' es es' hv _ ih =>
    subst hv
    rw [C05.pairsFrom_cons, C05.pairsFrom_cons, hf (k, v) (List.mem_cons_self ..),
      ih (fun e he => hf e (List.mem_cons_of_mem _ he))]

theorem fieldEntriesFrom_congr {dup : DupPolicy} (cfg : Cfg) (fs : FieldFns) (deny : Bool) {es es' : List (ENode × ENode)}
    (h : VRel dup es es')
    (hf : ∀ f ∈ fs, ∀ e ∈ es, f.2.2 e.2 = f.2.2 (writeOut dup e.2))
    (hany : ∀ e ∈ es, interpAny cfg (depthOf e.2) e.2 =
      interpAny cfg (depthOf (writeOut dup e.2)) (writeOut dup e.2)) :
    ∀ acc, fieldEntriesFrom cfg fs deny es acc = fieldEntriesFrom cfg fs deny es' acc := by
  induction h with
  | nil => intro acc; rfl
  | @cons k v v' es es' hv _ ih =>
    intro acc
    subst hv
    have ih' := ih (fun f hf' e he => hf f hf' e (List.mem_cons_of_mem _ he)) (fun e he => hany e (List.mem_cons_of_mem _ he))
    rw [C05.fieldEntriesFrom_cons, C05.fieldEntriesFrom_cons]
    cases identOf cfg k with
    | none => rfl
    | some name =>
      simp only []
      cases hfind : fs.find? (fun f => f.1.toList == name) with
      | none =>
        simp only []
        rw [hany (k, v) (List.mem_cons_self ..), ih' acc]
      | some f =>
        obtain ⟨fname, isOpt, g⟩ := f
        simp only []
        have hmem := List.mem_of_find?_eq_some hfind
        have := hf _ hmem (k, v) (List.mem_cons_self ..)
        simp only at this
        rw [this]
        split
        · rfl
        · cases g (writeOut dup v) with
          | none => rfl
          | some val => exact ih' _

theorem interpFns_mem (cfg : Cfg) (ts : List Ty) : ∀ f ∈ interpFns cfg ts, ∃ t ∈ ts, f = interp cfg t := by
  rw [C05.interpFns_eq_map]
  exact fun f hf => (List.mem_map.1 hf).imp fun t h => ⟨h.1, h.2.symm⟩

theorem fieldFns_mem (cfg : Cfg) (fs : List (String × Ty)) : ∀ f ∈ fieldFns cfg fs,
    ∃ nt ∈ fs, f = (nt.1, isOptionTy nt.2, interp cfg nt.2) := by
  rw [C05.fieldFns_eq_map]
  exact fun f hf => (List.mem_map.1 hf).imp fun nt h => ⟨h.1, h.2.symm⟩

theorem interp_newtype (cfg : Cfg) (t : Ty) (n : ENode) : interp cfg (.newtype t) n = interp cfg t n := by rw [interp]

theorem interp_option_seq (cfg : Cfg) (t : Ty) (a tag : Nat) (rt : Option (List Char)) (l el : Loc) (items : List ENode) :
    interp cfg (.option t) (.seq a tag rt l el items) = (interp cfg t (.seq a tag rt l el items)).map .some := by
  rw [interp]

theorem interp_option_map (cfg : Cfg) (t : Ty) (a : Nat) (l el : Loc) (es : List (ENode × ENode)) :
    interp cfg (.option t) (.map a l el es) = (interp cfg t (.map a l el es)).map .some := by
  rw [interp]

theorem interp_struct (cfg : Cfg) (fs : List (String × Ty)) (deny : Bool) (n : ENode) :
    interp cfg (.struct fs deny) n = structNode cfg (fieldFns cfg fs) deny n := by rw [interp]

theorem interp_enum (cfg : Cfg) (name : String) (vs : List (String × VTy)) (n : ENode) :
    interp cfg (.enum name vs) n = enumFrom cfg name (variantFns cfg vs) n := by rw [interp]

theorem interp_bytes_seq (cfg : Cfg) (a tag : Nat) (rt : Option (List Char)) (l el : Loc) (items : List ENode) :
    interp cfg .bytes (.seq a tag rt l el items) = (items.mapM (C05.byteFn cfg)).map .bytes := by
  rw [interp]; rfl

theorem byteFn_writeOut (dup : DupPolicy) (cfg : Cfg) (n : ENode) : C05.byteFn cfg n = C05.byteFn cfg (writeOut dup n) := by
  cases n with
  | scalar v tag rt st a l => rw [writeOut_scalar]
  | seq a tag rt l el items => rw [writeOut_seq]; rfl
  | map a l el entries => rw [writeOut_map]; split <;> rfl

/-- the payload of the selected variant is a position of type `payloadTy` (`C05.variantSel_payload`), smaller than the enum -/
theorem variant_payload_congr (cfg : Cfg) (name : String) (vs : List (String × VTy)) (nm : List Char) (p p' : ENode)
    (tg : Bool) (hnull : isNullishNode p = isNullishNode p')
    (ih : ∀ ty, sizeOf ty < sizeOf (Ty.enum name vs) → interp cfg ty p = interp cfg ty p') :
    variantFrom cfg (variantFns cfg vs) nm (some p) tg = variantFrom cfg (variantFns cfg vs) nm (some p') tg := by
  rw [C05.variantFrom_eq_find, C05.variantFrom_eq_find]
  cases hf : vs.find? (fun q => q.1.toList == nm) with
  | none => rfl
  | some q =>
    obtain ⟨n, vt⟩ := q
    simp only [Option.bind_some]
    cases hp : payloadTy vt with
    | some pty =>
      rw [C05.variantSel_payload hp, C05.variantSel_payload hp,
        ih pty (C05.sizeOf_payloadTy (List.mem_of_find?_eq_some hf) hp)]
    | none =>
      cases vt <;> simp only [payloadTy, reduceCtorEq] at hp
      simp only [C05.variantSel, hnull]

theorem enumFrom_map_not_singleton (cfg : Cfg) (name : String) (vs : List (String × VarFn)) (a : Nat) (l el : Loc)
    (entries : List (ENode × ENode)) (h : entries.length ≠ 1) : enumFrom cfg name vs (.map a l el entries) = none := by
  cases entries with
  | nil => exact C05.enumFrom_map_nil ..
  | cons e more =>
    obtain ⟨k, p⟩ := e
    cases more with
    | nil => simp at h
    | cons e2 more =>
      cases k with
      | scalar => rw [C05.enumFrom_map_scalarKey]; simp
      | seq => exact C05.enumFrom_map_seqKey ..
      | map => exact C05.enumFrom_map_mapKey ..

theorem eff_singleton (dup : DupPolicy) (k v : ENode) (hk : isMergeKeyNode k = false) :
    effEntries dup [(k, v)] = some [(k, v)] := by
  apply eff_of_no_merge
  · simp [hk]
  · cases dup <;> simp [applyPolicy]

theorem shapeStable_cases {dup : DupPolicy} {entries es : List (ENode × ENode)} (hst : shapeStable dup entries = true)
    (hes : effEntries dup entries = some es) :
    (∃ k p, entries = [(k, p)] ∧ isMergeKeyNode k = false ∧ es = [(k, p)]) ∨ (entries.length ≠ 1 ∧ es.length ≠ 1) := by
  by_cases hlen : entries.length = 1
  · obtain ⟨⟨k, p⟩, rfl⟩ := List.length_eq_one_iff.1 hlen
    have hk : isMergeKeyNode k = false := by simpa [shapeStable] using hst
    rw [eff_singleton _ k p hk] at hes
    cases hes
    exact Or.inl ⟨k, p, rfl, hk, rfl⟩
  · refine Or.inr ⟨hlen, ?_⟩
    unfold shapeStable at hst
    split at hst
    · simp at hlen
    · simpa [hes] using hst

end SaphyrVerif.Lemmas.C03T
