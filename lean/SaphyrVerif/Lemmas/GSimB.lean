import SaphyrVerif.Lemmas.GSimFam
import SaphyrVerif.Lemmas.DeEqnsLoops
/-!
Guarded simulation (`GA`), induction steps of the merge machinery.
-/
namespace SaphyrVerif.Lemmas
open SaphyrVerif SaphyrVerif.Scalars SaphyrVerif.Pump SaphyrVerif.De

variable {X : GSim}

theorem pendingFromEvents_gStep {fuel : Nat} (ihS : GA (GSim.sim X.ex) fuel) :
    ∀ events {loc loc' ref ref'}, X.Q loc loc' → X.Q ref ref' →
      EG X CurSim.PL (De.pendingFromEvents (fuel + 1) events loc ref)
        (De.pendingFromEvents (fuel + 1) events loc' ref') := by
  intro events loc loc' ref ref' hloc href
  -- the two sides read the same recorded events, with their own reference locations
  have hs := GSim.sim_replay (ex := X.ex) events 0 (GSim.Q.some href)
  have hin := GSim.In.of_off (X := GSim.sim X.ex) id
  rw [De.pendingFromEvents, De.pendingFromEvents]
  cases hh : events.head? with
  | none => exact EG.err (GSim.Q.derr hloc)
  | some ev =>
    cases ev with
    | mapStart a l =>
      simp only []
      have h := ihS.collectEntriesFromMap hs (hin _) href
      revert h
      generalize De.collectEntriesFromMap fuel _ ref = x
      generalize De.collectEntriesFromMap fuel _ ref' = x'
      intro h
      cases h with
      | ok hr hq _ => exact EG.ok ⟨hr, hq⟩
      | err he _ => exact EG.err he
      | brk hb => exact hb.elim
    | seqStart a t r l =>
      simp only []
      refine hs.next (hin _) (fun o d d' h1 h2 hat _ => ?_) (fun _ _ _ _ h1 h2 he _ => ?_) (fun _ _ _ hb => hb.elim)
      · rw [h1, h2]
        simp only []
        have h := ihS.mergeSeqBatches (k := 1) ⟨hat.1, fun h => h.elim⟩ (Int.le_refl 1) (GSim.PLL.refl [])
        revert h
        generalize De.mergeSeqBatches fuel d [] = x
        generalize De.mergeSeqBatches fuel d' [] = x'
        intro h
        cases h with
        | ok hr hq _ => exact EG.ok (GSim.PLL.foldl_pre (X := X) ⟨hr, hq⟩ (GSim.PL.refl []))
        | err he _ => exact EG.err he
        | brk hb => exact hb.elim
      · rw [h1, h2]
        exact EG.err he
    | _ =>
      simp only []
      g_loop

theorem msItem_g {fuel : Nat} (ih : GA X fuel) {b b' c c'} {k : Int} (hs : X.At k c c') (hd : 1 ≤ k) (hb : X.PLL b b') :
    RG X CurSim.PLL (msItem fuel c b) (msItem fuel c' b') := by
  unfold msItem
  g_loop

theorem mergeSeqBatches_gStep {fuel : Nat} (ih : GA X fuel) :
    ∀ {k b b' c c'}, X.At k c c' → 1 ≤ k → X.PLL b b' →
      RG X CurSim.PLL (De.mergeSeqBatches (fuel + 1) c b) (De.mergeSeqBatches (fuel + 1) c' b') := by
  intro b b' k c c' hs hd hb
  rw [mergeSeqBatches_succ, mergeSeqBatches_succ]
  g_loop
  all_goals exact msItem_g ih (by assumption) (by assumption) hb

theorem pendingFromLive_gStep {fuel : Nat} (ih : GA X fuel) :
    ∀ {r r' k c c'}, X.At k c c' → X.In c → X.Q r r' →
      RG X CurSim.PL (De.pendingFromLive (fuel + 1) c r) (De.pendingFromLive (fuel + 1) c' r') := by
  intro r r' k c c' hs hin hr
  replace hs := GSim.At.zero hs.s
  rw [De.pendingFromLive, De.pendingFromLive]
  g_loop

theorem collectEntriesFromMap_gStep {fuel : Nat} (ih : GA X fuel) :
    ∀ {r r' k c c'}, X.At k c c' → X.In c → X.Q r r' →
      RG X CurSim.PL (De.collectEntriesFromMap (fuel + 1) c r) (De.collectEntriesFromMap (fuel + 1) c' r') := by
  intro r r' k c c' hs hin hr
  replace hs := GSim.At.zero hs.s
  rw [De.collectEntriesFromMap, De.collectEntriesFromMap]
  g_loop

theorem clEntry_g {fuel : Nat} (ih : GA X fuel) {r r' : Loc} {f f' : List PendingEntry}
    {m m' : List (List PendingEntry)} (key : KeyNode) {c c' : Cur} {k : Int} (hs : X.At k c c') (hd : 1 ≤ k)
    (hr : X.Q r r') (hf : X.PL f f') (hm : X.PLL m m') :
    RG X CurSim.PL (clEntry fuel c r f m key) (clEntry fuel c' r' f' m' key) := by
  unfold clEntry
  both_ite
  · g_loop
  · g_loop

theorem clItem_g {fuel : Nat} (ih : GA X fuel) {r r' f f' m m' c c'} {k : Int} (hs : X.At k c c') (hd : 1 ≤ k)
    (hr : X.Q r r') (hf : X.PL f f') (hm : X.PLL m m') : RG X CurSim.PL (clItem fuel c r f m) (clItem fuel c' r' f' m') := by
  unfold clItem
  g_loop
  all_goals exact clEntry_g ih _ (by assumption) (by g_arith) hr hf hm

theorem collectLoop_gStep {fuel : Nat} (ih : GA X fuel) :
    ∀ {r r' k f f' m m' c c'}, X.At k c c' → 1 ≤ k → X.Q r r' → X.PL f f' → X.PLL m m' →
      RG X CurSim.PL (De.collectLoop (fuel + 1) c r f m) (De.collectLoop (fuel + 1) c' r' f' m') := by
  intro r r' k f f' m m' c c' hs hd hr hf hm
  rw [collectLoop_item, collectLoop_item]
  g_loop
  all_goals exact clItem_g ih (by assumption) (by assumption) hr hf hm

end SaphyrVerif.Lemmas
