import SaphyrVerif.Lemmas.C02_Node
/-!
Helper lemmas for C02: the node lemma by mutual structural induction over the tree, and the
run over a whole single-document stream.
-/
namespace SaphyrVerif.Lemmas.C02
open SaphyrVerif SaphyrVerif.Scalars SaphyrVerif.Pump SaphyrVerif.Spec SaphyrVerif.Budget

theorem Post.refl {p : Pump} (hg : Good p) : Post p p ⟨[], p.anchors, 0⟩ (fun _ => 0) where
  good := hg
  anchors := rfl
  frames := by simp
  tot := rfl
  cnt i := Nat.le_refl _
  lim := rfl
  sade := rfl
  prod h := h.elim id (absurd rfl)

theorem Steps.nil_inv {p inp p' inp'} (h : Steps p inp [] p' inp') : p = p' ∧ inp = inp' := by
  generalize hes : ([] : List Ev) = es at h
  cases h with
  | refl => exact ⟨rfl, rfl⟩
  | cons _ _ => cases hes

theorem Steps.ne_nil_of_items {t : LNode} {p : Pump} {rest : List RawItem} {es : List Ev} {p' : Pump}
    (h : Steps p (itemsOf t ++ rest) es p' rest) : es ≠ [] := by
  rintro rfl
  have hlen := congrArg List.length (Steps.nil_inv h).2
  cases t <;> simp [itemsOf] at hlen <;> omega

mutual
theorem pump_node (t : LNode) (p : Pump) (hg : Good p) (rest : List RawItem) :
    Outcome p (itemsOf t ++ rest) rest (fun id => aliasCount id t) (noFoldedIndent t)
      (expand p.anchors (p.recStack.map (·.id)) t) := by
  match t with
  | .scalar v st a tag loc =>
    have h := node_scalar hg v st a tag loc rest
    simp only [itemsOf, aliasCount, noFoldedIndent, expand, List.singleton_append]
    exact h
  | .alias id loc =>
    have h := node_alias hg id loc rest
    simp only [itemsOf, aliasCount, noFoldedIndent, List.singleton_append]
    exact h
  | .seq a tag loc eloc items =>
    have h := node_container hg a (.seqStart a (tagCode tag) tag loc) (.seqEnd eloc)
      (.ev (.seqStart a tag) loc) (.ev .seqEnd eloc) (itemsOfL items) rest
      (fun id => aliasCountL id items) (noFoldedIndentL items)
      (expandL p.anchors (if a != 0 then a :: p.recStack.map (·.id) else p.recStack.map (·.id)) items)
      (nextImpl_good_ret hg (.seqStart a tag))
      (fun p2 hg2 => nextImpl_good_ret hg2 (.seqEnd _ _ (bumpDepthOnEnd_pos _ _ (DepthPos_recordL _ hg2.dep))))
      (fun p1 hg1 ha hr => by
        have := pump_nodes items p1 hg1 (.ev .seqEnd eloc :: rest)
        rw [ha, hr, ids_startFrames] at this
        exact this)
    simp only [itemsOf, aliasCount, noFoldedIndent, expand_seq]
    exact h
  | .map a tag loc eloc entries =>
    have h := node_container hg a (.mapStart a loc) (.mapEnd eloc)
      (.ev (.mapStart a tag) loc) (.ev .mapEnd eloc) (itemsOfE entries) rest
      (fun id => aliasCountE id entries) (noFoldedIndentE entries)
      (expandE p.anchors (if a != 0 then a :: p.recStack.map (·.id) else p.recStack.map (·.id)) entries)
      (nextImpl_good_ret hg (.mapStart a tag))
      (fun p2 hg2 => nextImpl_good_ret hg2 (.mapEnd _ _ (bumpDepthOnEnd_pos _ _ (DepthPos_recordL _ hg2.dep))))
      (fun p1 hg1 ha hr => by
        have := pump_entries entries p1 hg1 (.ev .mapEnd eloc :: rest)
        rw [ha, hr, ids_startFrames] at this
        exact this)
    simp only [itemsOf, aliasCount, noFoldedIndent, expand_map]
    exact h
theorem pump_nodes (ts : List LNode) (p : Pump) (hg : Good p) (rest : List RawItem) :
    Outcome p (itemsOfL ts ++ rest) rest (fun id => aliasCountL id ts) (noFoldedIndentL ts)
      (expandL p.anchors (p.recStack.map (·.id)) ts) := by
  match ts with
  | [] =>
    simp only [itemsOfL, aliasCountL, noFoldedIndentL, expandL, List.nil_append]
    exact Or.inl ⟨p, Steps.refl _ _, Post.refl hg⟩
  | t :: ts =>
    have h1 := pump_node t p hg (itemsOfL ts ++ rest)
    have h := Outcome.comp h1 (fun σ' => expandL σ' (p.recStack.map (·.id)) ts)
      (fun p1 r1 hg1 _ ha hr => by
        have := pump_nodes ts p1 hg1 rest
        rw [ha, hr, ids_recordL] at this
        exact this)
    simp only [itemsOfL, aliasCountL, noFoldedIndentL, expandL_cons]
    exact h
theorem pump_entries (es : List (LNode × LNode)) (p : Pump) (hg : Good p) (rest : List RawItem) :
    Outcome p (itemsOfE es ++ rest) rest (fun id => aliasCountE id es) (noFoldedIndentE es)
      (expandE p.anchors (p.recStack.map (·.id)) es) := by
  match es with
  | [] =>
    simp only [itemsOfE, aliasCountE, noFoldedIndentE, expandE, List.nil_append]
    exact Or.inl ⟨p, Steps.refl _ _, Post.refl hg⟩
  | (k, v) :: es =>
    have h1 := pump_node k p hg (itemsOf v ++ (itemsOfE es ++ rest))
    have h12 := Outcome.comp h1 (fun σ' => expand σ' (p.recStack.map (·.id)) v)
      (fun p1 r1 hg1 _ ha hr => by
        have := pump_node v p1 hg1 (itemsOfE es ++ rest)
        rw [ha, hr, ids_recordL] at this
        exact this)
    have h := Outcome.comp h12 (fun σ' => expandE σ' (p.recStack.map (·.id)) es)
      (fun p2 r hg2 _ ha hr => by
        have := pump_entries es p2 hg2 rest
        rw [ha, hr, ids_recordL] at this
        exact this)
    simp only [itemsOfE, aliasCountE, noFoldedIndentE, expandE_cons]
    exact h
end

theorem node_within {p : Pump} (hg : Good p) (ha : p.anchors = []) (hr : p.recStack = []) (t : LNode)
    (rest : List RawItem) {r : Exp} (hexp : expand [] [] t = .ok r) (hnf : noFoldedIndent t = true)
    (hx : ¬ Exceeds p r.replayed (fun id => aliasCount id t)) :
    ∃ p1, Steps p (itemsOf t ++ rest) r.evs p1 rest ∧ Post p p1 r (fun id => aliasCount id t) := by
  have h := pump_node t p hg rest
  rw [ha, hr] at h
  change Outcome _ _ _ _ _ (expand [] [] t) at h
  rw [hexp] at h
  rcases h with h | ⟨_, _, _, _, _, _, hx'⟩ | ⟨hf, _⟩
  · exact h
  · exact absurd hx' hx
  · rw [hnf] at hf
    cases hf

/-- the run over a whole document stream: it ends after the events of the expansion, stops with the error of the
specification, or is `Bad` (that a limit error means a limit too small for the document is `doc_steps`) -/
def DocOutcome (p : Pump) (inp : List RawItem) (fo : Bool) (res : Except ExpErr Exp) : Prop :=
  (∃ r p', res = .ok r ∧ Ends p inp r.evs p') ∨ (∃ e es p', res = .error e ∧ Stops p inp es (errOf e) p') ∨
    Bad p inp (fun es => ∀ r, res = .ok r → es <+: r.evs) True fo

def afterDocStart (L : AliasLimits) (l1 : Loc) : Pump := { limits := L, lastLoc := l1 }

theorem good_afterDocStart (L : AliasLimits) (l1 : Loc) : Good (afterDocStart L l1) := by
  constructor
  · rfl
  · rfl
  · intro fr hfr; cases hfr
  · intro f hf; cases hf
  · exact TabNe_nil

theorem doc_start (L : AliasLimits) (l0 l1 : Loc) (X : List RawItem) :
    nextImpl { limits := L } (.ev .streamStart l0 :: .ev (.docStart false) l1 :: X) =
      nextImpl (afterDocStart L l1) X := by
  rw [nextImpl_of_inject_nil rfl, nextImpl_of_inject_nil rfl]
  exact (Loop.pass rfl .streamStart (Loop.pass rfl (.docStart false) (parserLoop_loop _ X))).eq

def closed (p : Pump) (l3 : Loc) : Pump := { (clr p).resetDocumentState with seenDocEnd := true, lastLoc := l3 }

theorem doc_end {p : Pump} (hg : Good p) (hs : p.stopAtDocEnd = false) (hp : p.producedAny = true) (l2 l3 : Loc) :
    nextImpl p [.ev .docEnd l2, .ev .streamEnd l3] = (.eof, closed p l3, []) := by
  have hb := budgetStep_of_none (show (clr p).budget = none from hg.bud)
  rw [nextImpl_good hg]
  exact (Loop.pass (hb _) (.docEnd hs) (Loop.pass (hb _) .streamEnd (Loop.eof _ hp))).eq

theorem closed_eof {p : Pump} (hp : p.producedAny = true) (l3 : Loc) :
    nextImpl (closed p l3) [] = (.eof, closed p l3, []) :=
  (Call.loop (p := closed p l3) (List.forall_mem_nil _) (Loop.eof _ hp)).eq

theorem doc_steps (L : AliasLimits) (t : LNode) (l1 : Loc) (r : Exp) (tail : List RawItem)
    (hnf : noFoldedIndent t = true) (hexp : expand [] [] t = .ok r)
    (hL1 : 1 ≤ L.maxReplayStackDepth) (hL2 : r.replayed ≤ L.maxTotalReplayedEvents)
    (hL3 : ∀ id, aliasCount id t ≤ L.maxAliasExpansionsPerAnchor) :
    ∃ p1, Steps (afterDocStart L l1) (itemsOf t ++ tail) r.evs p1 tail ∧
      Post (afterDocStart L l1) p1 r (fun id => aliasCount id t) ∧ r.evs ≠ [] := by
  obtain ⟨p1, hs, hpost⟩ := node_within (good_afterDocStart L l1) rfl rfl t tail hexp hnf (by
    rintro (hx | hx | ⟨id, hx⟩)
    · exact absurd hL1 (Nat.not_le.mpr hx)
    · exact absurd hL2 (Nat.not_le.mpr (by simpa [afterDocStart] using hx))
    · exact absurd (hL3 id) (Nat.not_le.mpr (by simpa [afterDocStart, lookupCount] using hx)))
  exact ⟨p1, hs, hpost, hs.ne_nil_of_items⟩

theorem doc_outcome (L : AliasLimits) (t : LNode) (l0 l1 l2 l3 : Loc) :
    DocOutcome { limits := L } (docStream t l0 l1 l2 l3) (noFoldedIndent t) (expand [] [] t) := by
  have hg := good_afterDocStart L l1
  have h := pump_node t (afterDocStart L l1) hg [.ev .docEnd l2, .ev .streamEnd l3]
  have heq : nextImpl { limits := L } (docStream t l0 l1 l2 l3) =
      nextImpl (afterDocStart L l1) (itemsOf t ++ [.ev .docEnd l2, .ev .streamEnd l3]) := by
    unfold docStream
    exact doc_start L l0 l1 _
  change Outcome _ _ _ _ _ (expand [] [] t) at h
  generalize expand [] [] t = res at h ⊢
  cases res with
  | error e =>
    rcases h with ⟨es, p', hs⟩ | hb
    · exact .inr (.inl ⟨e, es, p', rfl, Stops.of_eq heq hs⟩)
    · exact .inr (.inr (Bad.of_eq heq (hb.mono (fun _ _ r hr => by cases hr) id id)))
  | ok r =>
    rcases h with ⟨p', hs, hpost⟩ | hb
    · have hn := doc_end hpost.good (by rw [hpost.sade]; rfl) (hpost.prod (Or.inr hs.ne_nil_of_items)) l2 l3
      exact .inl ⟨r, _, rfl, Ends.of_eq heq ⟨p', _, _, hs, hn⟩⟩
    · exact .inr (.inr (Bad.of_eq heq (hb.mono (fun _ h r' hr' => by cases hr'; exact h) (fun _ => trivial) id)))

end SaphyrVerif.Lemmas.C02
