import SaphyrVerif.Lemmas.E2EBudgetObs
import SaphyrVerif.Lemmas.C07
/-!
End-to-end composition with the budget enforcer (enforcer level): the counters only grow along a list of
observations (all-content policy), and acceptance depends on the limits only through "every counter of the
FINAL state is within its limit": an accepted list of observations is accepted under any other limits that
bound the final counters, with the same final state.
-/
namespace SaphyrVerif.Lemmas.E2EBudget
open SaphyrVerif.Budget SaphyrVerif.Spec
open SaphyrVerif.Lemmas.C07


def withLim (e : Enf) (lim : Limits) : Enf := { e with lim := lim }

/-- all-content policy, scalar bytes not above the saturation bound -/
def EnfOk (e : Enf) : Prop := e.perDocument = false ∧ e.report.totalScalarBytes ≤ USIZE_MAX

def LeC (e e' : Enf) : Prop :=
  e.report.events ≤ e'.report.events ∧ e.report.aliases ≤ e'.report.aliases ∧ e.defined.length ≤ e'.defined.length ∧
  e.report.maxDepth ≤ e'.report.maxDepth ∧ e.report.documents ≤ e'.report.documents ∧
  e.report.nodes ≤ e'.report.nodes ∧ e.report.totalScalarBytes ≤ e'.report.totalScalarBytes ∧
  e.report.mergeKeys ≤ e'.report.mergeKeys

theorem LeC.refl (e : Enf) : LeC e e := by simp [LeC]

theorem LeC.trans {a b c : Enf} (h1 : LeC a b) (h2 : LeC b c) : LeC a c := by
  simp only [LeC] at *
  omega

theorem within_of_leC {e e' : Enf} (lim : Limits) (h : LeC e e') (hw : Within (withLim e' lim)) :
    Within (withLim e lim) := by
  simp only [LeC, Within, withLim] at *
  omega

theorem next_withLim (e : Enf) (lim : Limits) (ev : Raw) : next (withLim e lim) ev = withLim (next e ev) lim := by
  simp only [next, withLim]
  by_cases hc : (e.perDocument && isDocStart ev) = true
  · simp [hc]
  · by_cases hf : (e.perDocument && isStreamFrame ev) = true <;> simp [hc, hf]

theorem next_leC {e : Enf} (ho : EnfOk e) (ev : Raw) : LeC e (next e ev) ∧ EnfOk (next e ev) := by
  obtain ⟨hpd, hb⟩ := ho
  have hd := defIns_length_ge e.defined (anchorOf ev)
  refine ⟨?_, ?_, ?_⟩
  · simp only [LeC, next, hpd, Bool.false_and, Bool.false_eq_true, if_false]
    refine ⟨by omega, by omega, hd, ?_, by omega, by omega, ?_, by omega⟩
    · split <;> omega
    · cases ev <;> simp only [satAdd_eq_min] <;> omega
  · simp [next, hpd]
  · simp only [next, hpd, Bool.false_and, Bool.false_eq_true, if_false]
    cases ev <;> simp only [satAdd_eq_min] <;> omega

theorem observe_ok_balanced {e e' : Enf} {ev : Raw} (h : e.observe ev = .ok e') (he : isEnd ev = true) :
    e.depth ≠ 0 ∧ wf e.containers ev = true :=
  (observe_ok_checked h).2.2.1 he

/-- the converse of `C07.observe_ok` (all-content policy) -/
theorem observe_of_within {e : Enf} {ev : Raw} (hpd : e.perDocument = false) (hw : Within (next e ev))
    (hbal : isEnd ev = true → e.depth ≠ 0 ∧ wf e.containers ev = true) : e.observe ev = .ok (next e ev) := by
  cases h2 : e.observe ev with
  | ok e2 => rw [(observe_ok h2).1]
  | error br =>
    exfalso
    have hs := observe_err h2
    rw [pro_of_not_pd ev hpd] at hs
    rw [next_counted (countedEv_of_not_pd hpd ev)] at hw
    refine breach_not_within hs ?_ ?_ hw
    · rintro a n rfl
      exact Bool.false_ne_true (hpd.symm.trans hs.1)
    · rintro rfl
      obtain ⟨h4, h5⟩ := hbal hs.1
      rcases hs.2 with h3 | h3
      · exact h4 h3
      · rw [h5] at h3; cases h3

theorem observe_withLim {e e' : Enf} {ev : Raw} (lim : Limits) (ho : EnfOk e) (h : e.observe ev = .ok e')
    (hw : Within (withLim e' lim)) : (withLim e lim).observe ev = .ok (withLim e' lim) := by
  obtain ⟨rfl, -⟩ := observe_ok h
  rw [← next_withLim]
  have hbal : isEnd ev = true → e.depth ≠ 0 ∧ wf e.containers ev = true := observe_ok_balanced h
  exact observe_of_within (e := withLim e lim) ho.1 (by rw [next_withLim]; exact hw) hbal

theorem observe_leC {e e' : Enf} {ev : Raw} (ho : EnfOk e) (h : e.observe ev = .ok e') : LeC e e' ∧ EnfOk e' := by
  obtain ⟨rfl, -⟩ := observe_ok h
  exact next_leC ho ev

theorem aliasReplayed_leC {e e' : Enf} (ho : EnfOk e) (h : e.observeAliasReplayed = .ok e') : LeC e e' ∧ EnfOk e' := by
  obtain ⟨rfl, -, -⟩ := aliasReplayed_ok h
  exact ⟨by simp [LeC], ho⟩

theorem aliasReplayed_withLim {e e' : Enf} (lim : Limits) (h : e.observeAliasReplayed = .ok e')
    (hw : Within (withLim e' lim)) : (withLim e lim).observeAliasReplayed = .ok (withLim e' lim) := by
  obtain ⟨rfl, -, -⟩ := aliasReplayed_ok h
  simp only [Within, withLim] at hw
  exact aliasReplayed_of_within (e := withLim e lim) (by simp only [withLim]; omega) (by simp only [withLim]; omega)

theorem obsStep_mono {e e' : Enf} {o : Obs} (ho : EnfOk e) (h : obsStep e o = .ok e') :
    LeC e e' ∧ EnfOk e' ∧ ∀ lim, Within (withLim e' lim) → obsStep (withLim e lim) o = .ok (withLim e' lim) := by
  cases o with
  | raw r => exact ⟨(observe_leC ho h).1, (observe_leC ho h).2, fun lim => observe_withLim lim ho h⟩
  | aliasReplayed =>
    exact ⟨(aliasReplayed_leC ho h).1, (aliasReplayed_leC ho h).2, fun lim => aliasReplayed_withLim lim h⟩
  | occupies =>
    simp only [obsStep, Except.ok.injEq] at h
    subst h
    exact ⟨by simp [LeC, Enf.aliasOccupiesPosition], ho, fun _ _ => rfl⟩

/-- the counters of every prefix are below the final ones (`within_of_leC`), so limits that bound the final counters
accept every step -/
theorem feedObs_mono {e e' : Enf} {os : List Obs} (ho : EnfOk e) (h : feedObs e os = .ok e') :
    LeC e e' ∧ EnfOk e' ∧ ∀ lim, Within (withLim e' lim) → feedObs (withLim e lim) os = .ok (withLim e' lim) := by
  induction os generalizing e with
  | nil => cases h; exact ⟨LeC.refl _, ho, fun _ _ => rfl⟩
  | cons o os ih =>
    simp only [feedObs] at h
    cases h1 : obsStep e o with
    | error b => rw [h1] at h; cases h
    | ok e1 =>
      rw [h1] at h
      obtain ⟨a1, a2, a3⟩ := obsStep_mono ho h1
      obtain ⟨b1, b2, b3⟩ := ih a2 h
      refine ⟨a1.trans b1, b2, fun lim hw => ?_⟩
      simp only [feedObs, a3 lim (within_of_leC lim b1 hw)]
      exact b3 lim hw

end SaphyrVerif.Lemmas.E2EBudget
