import SaphyrVerif.Lemmas.GSimFam
import SaphyrVerif.Lemmas.DeEqnsLoops
/-!
Guarded simulation (`GA`), induction steps of the map access (`nextKey`, `nextValue`) and the two entry loops.
The two sides may hold different reference locations in their pending entries, merge batches and buffered value; everything
the access decides (duplicate detection, merge order, which events are handed to the key / value deserializer) depends on
fingerprints and recorded events only.  The cursor is only touched while the access is not flushing merged entries and no
recorded value is pending; where that leaves a framed cursor comes from `Lemmas.C05.nextKey_post` / `nextValue_weak'`.
-/
namespace SaphyrVerif.Lemmas
open SaphyrVerif SaphyrVerif.Scalars SaphyrVerif.Pump SaphyrVerif.De
open SaphyrVerif.Lemmas.CurSim (KM VM)


variable {X : GSim}

/-- where `nextKey` leaves the left cursor when it delivers a key: deep enough for the value and for the next key, unless
the access now serves a merged entry (recorded value pending, still flushing) and does not touch the cursor for either -/
theorem nextKey_moved {fuel : Nat} {cfg : Cfg} {ks : Ty ⊕ Unit} {c c' d d' : Cur} {m m1 : MA} {kv : Val} {fp : FP}
    {k : Int} (hs : X.At k c c') (h : nextKey fuel cfg ks c m = .ok (.key kv fp, m1) d) (hs1 : X.S d d')
    (hpre : m.flushingMerges = false → 1 ≤ k) :
    ∃ k1, X.At k1 d d' ∧ (m1.pendingValue.isSome = false → 1 ≤ k1) ∧ (m1.flushingMerges = false → 1 ≤ k1) := by
  by_cases hon : X.on
  · refine ⟨X.dep d, ⟨hs1, fun _ => Int.le_refl _⟩, ?_⟩
    have h' := h
    rw [X.rep hon hs.1] at h'
    have hp := Lemmas.C05.nextKey_post fuel h'
    have hvac : ∀ {p : Prop}, Lemmas.C05.Closing (.key kv fp) m1 →
        (m1.pendingValue.isSome = false → p) ∧ (m1.flushingMerges = false → p) := by
      intro p hx
      rcases hx with hx | ⟨h1, h2⟩
      · cases hx
      · exact ⟨fun h => (by rw [h2] at h; cases h), fun h => (by rw [h1] at h; cases h)⟩
    cases hfl : m.flushingMerges with
    | true => rw [hfl] at hp; exact hvac hp.2
    | false =>
      rw [hfl] at hp
      rcases hp with ⟨-, j, hd, hij, ha⟩ | ⟨-, hx⟩
      · subst hd
        have := ha.right hij
        have h1 := hs.2 hon
        have h2 := hpre hfl
        have : 1 ≤ X.dep (.replay X.buf j X.ref) := by
          show 1 ≤ Lemmas.C05.depthAt X.buf j
          unfold GSim.dep at h1
          omega
        exact ⟨fun _ => this, fun _ => this⟩
      · exact hvac hx
  · exact ⟨1, ⟨hs1, fun h => (hon h).elim⟩, fun _ => Int.le_refl _, fun _ => Int.le_refl _⟩

theorem nextValue_moved {fuel : Nat} {cfg : Cfg} {vt : Ty} {c c' d d' : Cur} {m m2 : MA} {v : Val} {k : Int}
    (hs : X.At k c c') (h : nextValue fuel cfg vt c m = .ok (v, m2) d) (hs2 : X.S d d')
    (hfl : m.flushingMerges = false → 1 ≤ k) :
    ∃ k2, X.At k2 d d' ∧ (m2.flushingMerges = false → 1 ≤ k2) := by
  by_cases hon : X.on
  · refine ⟨X.dep d, ⟨hs2, fun _ => Int.le_refl _⟩, fun h2 => ?_⟩
    have h' := h
    rw [X.rep hon hs.1] at h'
    obtain ⟨⟨j, hd, hij, ha⟩, hm, -⟩ := Lemmas.C05.nextValue_weak' h'
    subst hd
    have h1 := hfl (hm ▸ h2)
    have h3 := hs.2 hon
    have := ha.right hij
    show 1 ≤ Lemmas.C05.depthAt X.buf j
    unfold GSim.dep at h3
    omega
  · exact ⟨1, ⟨hs2, fun h => (hon h).elim⟩, fun _ => Int.le_refl _⟩

theorem mapEntries_gStep {fuel : Nat} (ih : GA X fuel) :
    ∀ cfg kt vt acc {k c c' m m'}, X.At k c c' → (m.flushingMerges = false → 1 ≤ k) → X.MRel m m' →
      RG X Eq (De.mapEntries (fuel + 1) cfg kt vt c m acc) (De.mapEntries (fuel + 1) cfg kt vt c' m' acc) := by
  intro cfg kt vt acc k c c' m m' hs hpre hm
  rw [De.mapEntries, De.mapEntries]
  refine (ih.nextKey cfg (.inl kt) hs hpre hm).elim (fun r r' d d' hL hR hrel hs1 => ?_)
    (fun _ _ _ _ hL hR hq hse => by rw [hL, hR]; exact RG.err hq hse) (fun _ _ hL hb => by rw [hL]; exact RG.brk hb)
  obtain ⟨step, m1⟩ := r
  obtain ⟨step', m1'⟩ := r'
  obtain ⟨rfl, hm1⟩ := GSim.KM.cases hrel
  rw [hL, hR]
  cases step with
  | done => exact RG.ok GSim.Rel.rfl hs1
  | key kv fp =>
    simp only []
    obtain ⟨k1, hs1, hmv1, hmv2⟩ := nextKey_moved hs hL hs1 hpre
    refine (ih.nextValue cfg vt hs1 hmv1 hm1).elim (fun r2 r2' d2 d2' hL2 hR2 hrel2 hs2 => ?_)
      (fun _ _ _ _ hL hR hq hse => by rw [hL, hR]; exact RG.err hq hse) (fun _ _ hL hb => by rw [hL]; exact RG.brk hb)
    obtain ⟨v, m2⟩ := r2
    obtain ⟨v', m2'⟩ := r2'
    obtain ⟨rfl, hm2⟩ := GSim.VM.cases hrel2
    rw [hL2, hR2]
    obtain ⟨k2, hs2, hmv3⟩ := nextValue_moved hs1 hL2 hs2 hmv2
    exact ih.mapEntries cfg kt vt _ hs2 hmv3 hm2

theorem structEntries_gStep {fuel : Nat} (ih : GA X fuel) :
    ∀ cfg fields deny acc {k c c' m m'}, X.At k c c' → (m.flushingMerges = false → 1 ≤ k) → X.MRel m m' →
      RG X Eq (De.structEntries (fuel + 1) cfg fields deny c m acc)
        (De.structEntries (fuel + 1) cfg fields deny c' m' acc) := by
  intro cfg fields deny acc k c c' m m' hs hpre hm
  rw [De.structEntries, De.structEntries]
  refine (ih.nextKey cfg (.inr ()) hs hpre hm).elim (fun r r' d d' hL hR hrel hs1 => ?_)
    (fun _ _ _ _ hL hR hq hse => by rw [hL, hR]; exact RG.err hq hse) (fun _ _ hL hb => by rw [hL]; exact RG.brk hb)
  obtain ⟨step, m1⟩ := r
  obtain ⟨step', m1'⟩ := r'
  obtain ⟨rfl, hm1⟩ := GSim.KM.cases hrel
  rw [hL, hR]
  cases step with
  | done => exact RG.ok GSim.Rel.rfl hs1
  | key kv fp =>
    have hse1 := X.se hs1
    obtain ⟨k1, hs1, hmv1, hmv2⟩ := nextKey_moved hs hL hs1 hpre
    -- the value (of the field's type, or ignored), then the rest of the loop
    have hval : ∀ (t : Ty) (F : Val → List (String × Val)),
        RG X Eq
          (match nextValue fuel cfg t d m1 with
            | .err e c => .err e c
            | .ok (v, m) c => De.structEntries fuel cfg fields deny c m (F v))
          (match nextValue fuel cfg t d' m1' with
            | .err e c => .err e c
            | .ok (v, m) c => De.structEntries fuel cfg fields deny c m (F v)) := by
      intro t F
      refine (ih.nextValue cfg t hs1 hmv1 hm1).elim (fun r2 r2' d2 d2' hL2 hR2 hrel2 hs2 => ?_)
        (fun _ _ _ _ hL hR hq hse => by rw [hL, hR]; exact RG.err hq hse) (fun _ _ hL hb => by rw [hL]; exact RG.brk hb)
      obtain ⟨v, m2⟩ := r2
      obtain ⟨v', m2'⟩ := r2'
      obtain ⟨rfl, hm2⟩ := GSim.VM.cases hrel2
      rw [hL2, hR2]
      obtain ⟨k2, hs2, hmv3⟩ := nextValue_moved hs1 hL2 hs2 hmv2
      exact ih.structEntries cfg fields deny _ hs2 hmv3 hm2
    cases kv with
    | str name =>
      simp only []
      cases hlf : lookupField fields name with
      | some p =>
        obtain ⟨i, t⟩ := p
        simp only []
        split
        · exact RG.err (GSim.Q.refl _) hse1
        · exact hval t (fun v => acc ++ [(String.ofList name, v)])
      | none =>
        simp only []
        split
        · exact RG.err (GSim.Q.refl _) hse1
        · exact hval .any (fun _ => acc)
    | _ => exact RG.err (GSim.Q.refl _) hse1

theorem nextValue_gStep {fuel : Nat} (ih : GA X fuel) (ihS : GA (GSim.sim X.ex) fuel) :
    ∀ cfg vt {k c c' m m'}, X.At k c c' → (m.pendingValue.isSome = false → 1 ≤ k) → X.MRel m m' →
      RG X VM (De.nextValue (fuel + 1) cfg vt c m) (De.nextValue (fuel + 1) cfg vt c' m') := by
  intro cfg vt k c c' m m' hs hpre hm
  obtain ⟨hk, seen, pend, pend', ms, ms', fl, pv, pv', rfl, rfl, hp, hms, hpv⟩ := GSim.MRel.cases hm
  rw [De.nextValue, De.nextValue]
  cases hk
  · exact RG.err (by g_q) (X.se hs.s)
  · rcases GSim.PV.cases hpv with ⟨rfl, rfl⟩ | ⟨evs, ref, ref', rfl, rfl, href⟩
    · have hd : 1 ≤ k := hpre rfl
      simp only [Bool.not_true, Bool.false_eq_true, ↓reduceIte]
      g_loop
    · -- the recorded value is read from a private replay cursor, on each side with its own reference location
      have hrc := GSim.sim_replay (ex := X.ex) evs 0 (GSim.Q.some href)
      simp only [Bool.not_true, Bool.false_eq_true, ↓reduceIte]
      g_loop


/-! `nextKey`, piece by piece (`Lemmas/DeEqns.lean`) -/

/-- a pending entry (own field buffered for a one-entry-null key, or a merged entry): the cursor is not touched -/
theorem nkPending_g {fuel : Nat} (ih : GA X fuel) (cfg : Cfg) (ks : Ty ⊕ Unit) {c c' : Cur} {k : Int} (hs : X.At k c c')
    (hk : Bool) (seen : List FP) (kn vn : KeyNode) (r r' : Loc) {rest rest' : List PendingEntry}
    {ms ms' : List (List PendingEntry)} (fl : Bool) (hpre : fl = false → 1 ≤ k)
    {pv pv' : Option (List Ev × Loc)}
    (hr : X.Q r r') (hrest : X.PL rest rest') (hms : X.PLL ms ms') (hpv : X.PV pv pv') :
    RG X KM (nkPending fuel cfg ks c ⟨hk, seen, rest, ms, fl, pv⟩ ⟨kn, vn, r⟩)
      (nkPending fuel cfg ks c' ⟨hk, seen, rest', ms', fl, pv'⟩ ⟨kn, vn, r'⟩) := by
  unfold nkPending
  g_loop

/-- nothing pending, merges being flushed: the cursor is not touched -/
theorem nkFlush_g {fuel : Nat} (ih : GA X fuel) (cfg : Cfg) (ks : Ty ⊕ Unit) {c c' : Cur} {k : Int} (hs : X.At k c c')
    (hk : Bool) (seen : List FP) {ms ms' : List (List PendingEntry)} {pv pv' : Option (List Ev × Loc)}
    (hms : X.PLL ms ms') (hpv : X.PV pv pv') :
    RG X KM (nkFlush fuel cfg ks c ⟨hk, seen, [], ms, true, pv⟩) (nkFlush fuel cfg ks c' ⟨hk, seen, [], ms', true, pv'⟩) := by
  obtain ⟨hA1, hA2⟩ := GSim.enq_rel (GSim.MRel.mk' (hk := hk) (seen := seen) (fl := true) (GSim.PL.refl []) hms hpv)
  replace hA1 := hA1.symm
  unfold nkFlush
  g_loop

section live
variable {fuel : Nat} (ih : GA X fuel) (cfg : Cfg) (ks : Ty ⊕ Unit) {c c' : Cur} {k : Int} (hs : X.At k c c')
  (hd : 1 ≤ k)
  (hk : Bool) (seen : List FP) {ms ms' : List (List PendingEntry)} {pv pv' : Option (List Ev × Loc)}
  (hms : X.PLL ms ms') (hpv : X.PV pv pv')
include ih hs hd hms hpv

omit hd in
/-- the mapping has ended: the cursor may be back at the depth of the frame, and is not touched any more -/
theorem nkEnd_g :
    RG X KM (nkEnd fuel cfg ks c ⟨hk, seen, [], ms, false, pv⟩) (nkEnd fuel cfg ks c' ⟨hk, seen, [], ms', false, pv'⟩) := by
  have hie : ms'.isEmpty = ms.isEmpty := (GSim.PLL.isEmpty hms).symm
  unfold nkEnd
  g_loop
  all_goals exact nkFlush_g ih cfg ks hs hk seen hms hpv

theorem nkMerge_g :
    RG X KM (nkMerge fuel cfg ks c ⟨hk, seen, [], ms, false, pv⟩) (nkMerge fuel cfg ks c' ⟨hk, seen, [], ms', false, pv'⟩) := by
  unfold nkMerge
  g_loop

theorem nkDeliver_g (keyNode : KeyNode) :
    RG X KM (nkDeliver fuel cfg ks c ⟨hk, seen, [], ms, false, pv⟩ keyNode)
      (nkDeliver fuel cfg ks c' ⟨hk, seen, [], ms', false, pv'⟩ keyNode) := by
  simp only [nkDeliver]
  both_ite
  all_goals g_loop

theorem nkKey_g {a a' : Bool} (ha : X.Q a a') (keyNode : KeyNode) :
    RG X KM (nkKey fuel cfg ks c ⟨hk, seen, [], ms, false, pv⟩ a keyNode)
      (nkKey fuel cfg ks c' ⟨hk, seen, [], ms', false, pv'⟩ a' keyNode) := by
  unfold nkKey
  g_loop
  all_goals exact nkDeliver_g ih cfg ks hs hd hk seen hms hpv keyNode

theorem nkItem_g :
    RG X KM (nkItem fuel cfg ks c ⟨hk, seen, [], ms, false, pv⟩) (nkItem fuel cfg ks c' ⟨hk, seen, [], ms', false, pv'⟩) := by
  unfold nkItem
  g_loop
  all_goals first
    | exact nkMerge_g ih cfg ks (by assumption) (by g_arith) hk seen hms hpv
    | exact nkKey_g ih cfg ks (by assumption) (by g_arith) hk seen hms hpv (by g_q) _

theorem nkLive_g :
    RG X KM (nkLive fuel cfg ks c ⟨hk, seen, [], ms, false, pv⟩) (nkLive fuel cfg ks c' ⟨hk, seen, [], ms', false, pv'⟩) := by
  rw [nkLive_item, nkLive_item]
  g_loop
  all_goals first
    | exact nkEnd_g ih cfg ks (by assumption) hk seen hms hpv
    | exact nkItem_g ih cfg ks (by assumption) (by assumption) hk seen hms hpv

end live

theorem nextKey_gStep {fuel : Nat} (ih : GA X fuel) :
    ∀ cfg ks {k c c' m m'}, X.At k c c' → (m.flushingMerges = false → 1 ≤ k) → X.MRel m m' →
      RG X KM (De.nextKey (fuel + 1) cfg ks c m) (De.nextKey (fuel + 1) cfg ks c' m') := by
  intro cfg ks k c c' m m' hs hpre hm
  obtain ⟨hk, seen, pend, pend', ms, ms', fl, pv, pv', rfl, rfl, hp, hms, hpv⟩ := GSim.MRel.cases hm
  rcases pend with _ | ⟨⟨kn, vn, r⟩, rest⟩
  · rw [GSim.PL.nil_left hp]
    cases fl
    · rw [nextKey_live_eq, nextKey_live_eq]
      exact nkLive_g ih cfg ks hs (hpre rfl) hk seen hms hpv
    · rw [nextKey_flush_eq, nextKey_flush_eq]
      exact nkFlush_g ih cfg ks hs hk seen hms hpv
  · obtain ⟨r', rest', rfl, hr, hrest⟩ := GSim.PL.cons_left hp
    rw [nextKey_pending_eq, nextKey_pending_eq]
    exact nkPending_g ih cfg ks hs hk seen kn vn r r' fl hpre hr hrest hms hpv

end SaphyrVerif.Lemmas
