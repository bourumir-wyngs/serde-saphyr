import SaphyrVerif.Lemmas.C11_TypedAdv
import SaphyrVerif.Lemmas.C11_TypedPump
import SaphyrVerif.Lemmas.C11_Iter
/-!
Typed multi-document theorems (C11): a successful run of the batch loop has pulled the event source
to its end without meeting an error — so `from_multiple` can only succeed on a stream the pump delivers
completely.
-/
namespace SaphyrVerif.Lemmas.C11T
open SaphyrVerif SaphyrVerif.Scalars SaphyrVerif.Pump SaphyrVerif.De SaphyrVerif.Spec SaphyrVerif.Entry
open SaphyrVerif.Lemmas.C02 (Steps Ends)

/-- the pump of a live cursor without its look-ahead slot: an event in the slot has been taken from the parser
already, `last_location` then is its location -/
def under (p : Pump) : Pump :=
  match p.look with
  | some e => { p with look := none, lastLoc := e.loc }
  | none => p

def EndsC (c : Cur) : Prop := ∃ p inp, c = .live p inp ∧ ∃ es pf, Ends (under p) inp es pf

theorem under_of_look_none {p : Pump} (h : p.look = none) : under p = p := by simp [under, h]

/-- a successful `peek` / `next` of a live cursor, seen from the pump under the look-ahead slot: that pump reports
the end of its input; or nothing happens to it (the slot was filled: `peek` leaves it, `next` empties it); or one call
of `next_impl` delivers an event (which `peek` puts into the slot) -/
theorem under_step {p : Pump} {inp : List RawItem} {o : Option Ev} {c1 : Cur}
    (h : Cur.peek (.live p inp) = .ok o c1 ∨ Cur.next (.live p inp) = .ok o c1) :
    (o = none ∧ ∃ p' rest, nextImpl (under p) inp = (.eof, p', rest)) ∨
    ∃ e p1 inp1, o = some e ∧ c1 = .live p1 inp1 ∧
      ((under p1 = under p ∧ inp1 = inp) ∨ nextImpl (under p) inp = (.event e, under p1, inp1)) := by
  simp only [Cur.peek, Pump.peek, Cur.next, Pump.next] at h
  cases hl : p.look with
  | some e =>
    rw [hl] at h
    simp only [R.ok.injEq] at h
    rcases h with ⟨rfl, rfl⟩ | ⟨rfl, rfl⟩ <;> exact .inr ⟨e, _, _, rfl, rfl, .inl ⟨by simp [under, hl], rfl⟩⟩
  | none =>
    rw [hl] at h
    rw [under_of_look_none hl]
    rcases hn : nextImpl p inp with ⟨s, p', rest⟩
    rw [hn] at h
    cases s with
    | error e => simp at h
    | eof =>
      simp only [R.ok.injEq, or_self] at h
      exact .inl ⟨h.1.symm, p', rest, rfl⟩
    | event e =>
      have hl' := Lemmas.CurSim.nextImpl_look_none hl hn
      simp only [R.ok.injEq] at h
      rcases h with ⟨rfl, rfl⟩ | ⟨rfl, rfl⟩
      · refine .inr ⟨e, _, _, rfl, rfl, .inr ?_⟩
        rw [show under { p' with look := some e, lastLoc := e.loc } = p' from
          Lemmas.CurSim.pump_eta_look hl' (nextImpl_event hn).1]
      · exact .inr ⟨e, _, _, rfl, rfl, .inr (by rw [under_of_look_none hl'])⟩

theorem endsC_step_back {c c1 : Cur} {o : Option Ev} (h : c.peek = .ok o c1 ∨ c.next = .ok o c1) (h1 : EndsC c1) :
    EndsC c := by
  cases c with
  | replay buf idx ref =>
    -- a replay cursor stays one
    obtain ⟨p, inp, hc, -⟩ := h1
    simp only [Cur.peek, Cur.next] at h
    rcases h with h | h
    · simp only [R.ok.injEq] at h; rw [← h.2] at hc; cases hc
    · split at h <;> (simp only [R.ok.injEq] at h; rw [← h.2] at hc; cases hc)
  | live p inp =>
    rcases under_step h with ⟨-, p', rest, hn⟩ | ⟨e, p1, inp1, -, rfl, hcase⟩
    · exact ⟨p, inp, rfl, [], p', _, _, rest, Steps.refl _ _, hn⟩
    · obtain ⟨_, _, hc1, es, pf, hends⟩ := h1
      cases hc1
      rcases hcase with ⟨hu, hi⟩ | hn
      · exact ⟨p, inp, rfl, es, pf, hu ▸ hi ▸ hends⟩
      · obtain ⟨q, inq, inq2, hs, hf⟩ := hends
        exact ⟨p, inp, rfl, e :: es, pf, q, inq, inq2, Steps.cons hn hs, hf⟩

theorem endsC_back {c c' : Cur} (h : Adv c c') (h1 : EndsC c') : EndsC c := by
  induction h with
  | refl => exact h1
  | peek hp _ ih => exact endsC_step_back (.inl hp) (ih h1)
  | next hn _ ih => exact endsC_step_back (.inr hn) (ih h1)

theorem multi_ok_ends (cfg : Cfg) (ty : Ty) : ∀ (fuel : Nat) (p : Pump) (inp : List RawItem) (acc vs : List Val),
    multiLoop cfg ty fuel (.live p inp) acc = .ok vs → EndsC (.live p inp) := by
  intro fuel
  induction fuel with
  | zero => intro p inp acc vs h; simp [multiLoop] at h
  | succ n ih =>
    intro p inp acc vs h
    obtain ⟨o, p1, inp1, hpk, hcase⟩ := Lemmas.C11.multiLoop_ok_round cfg ty h
    cases o with
    | none =>
      rcases under_step (.inl hpk) with ⟨-, p', rest, hn⟩ | ⟨_, _, _, ho, -⟩
      · exact ⟨p, inp, rfl, [], p', _, _, rest, Steps.refl _ _, hn⟩
      · cases ho
    | some ev =>
      apply endsC_step_back (.inl hpk)
      rcases hcase.2 with ⟨-, o2, p2, inp2, hnx, hrec⟩ | ⟨-, v, p2, inp2, hd, hrec⟩
      · exact endsC_step_back (.inr hnx) (ih p2 inp2 acc vs hrec)
      · have hadv := (allAdv (fuelFor 100000)).deser cfg ty false false (.live p1 inp1)
        rw [hd] at hadv
        exact endsC_back hadv (ih p2 inp2 _ vs hrec)

end SaphyrVerif.Lemmas.C11T
