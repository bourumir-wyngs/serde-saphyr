import SaphyrVerif.Lemmas.C13_Read
import SaphyrVerif.Lemmas.Lines
/-!
After the reader theorem of `C13_Read`: the text of a layout splits back into its lines (`toLines ∘ renderLines`),
no structure line of the fragment (`GoodLine`) is a document marker, a directive, a comment or blank, the body
lines of block scalars (`BodyLine`) are indented; the `%YAML 1.2` / `---` prologue in front of the lines
(`readDoc_of_lines_pro`).
-/
namespace SaphyrVerif.Emit

/-- characters that occur in the layout of the SAFE fragment -/
def layChar (c : Char) : Bool :=
  isTokChar c || c == ' ' || c == ':' || c == '[' || c == ']' || c == '{' || c == '}' || c == ',' || c == '?'

/-- a structure line of a layout (not a body line of a block scalar) -/
structure GoodLine (l : Line) : Prop where
  ne : l.text ≠ []
  head : l.text.head? ≠ some ' ' ∧ l.text.head? ≠ some '#' ∧ l.text.head? ≠ some '%'
  chars : ∀ x ∈ l.text, lineChar x = true
  noMarker : isDocMarker ⟨0, l.text⟩ "---".toList = false ∧ isDocMarker ⟨0, l.text⟩ "...".toList = false

theorem layChar_lineChar {c : Char} (h : layChar c = true) : lineChar c = true := by
  have h1 : c ≠ '\n' := by rintro rfl; exact absurd h (by decide)
  have h2 : c ≠ '\r' := by rintro rfl; exact absurd h (by decide)
  have h3 : c ≠ Char.ofNat 0 := by rintro rfl; exact absurd h (by decide)
  simp [lineChar, h1, h2, h3]

theorem tok_layChar {c : Char} (h : isTokChar c = true) : layChar c = true := by simp [layChar, h]

theorem lineChar_ne {c : Char} (h : lineChar c = true) : c ≠ '\n' ∧ c ≠ '\r' ∧ c ≠ Char.ofNat 0 := by
  simpa [lineChar, and_assoc] using h

def AllLay (h : List Char) : Prop := ∀ x ∈ h, lineChar x = true

def LayLine (l : Line) : Prop := GoodLine l ∨ BodyLine l

/-- every line satisfies `Q` (`Q` = `GoodLine`: layouts without block scalars; `Q` = `LayLine`: all layouts) -/
def AllQ (Q : Line → Prop) (ls : List Line) : Prop := ∀ l ∈ ls, Q l
/-- every line is a structure line OR a body line of a block scalar (not: every line a `GoodLine`) -/
abbrev AllGood (ls : List Line) : Prop := AllQ LayLine ls

theorem AllLay.append {a b : List Char} (ha : AllLay a) (hb : AllLay b) : AllLay (a ++ b) := by
  intro x hx; rcases List.mem_append.mp hx with h | h
  · exact ha x h
  · exact hb x h
theorem AllQ.append {Q : Line → Prop} {a b : List Line} (ha : AllQ Q a) (hb : AllQ Q b) : AllQ Q (a ++ b) := by
  intro x hx; rcases List.mem_append.mp hx with h | h
  · exact ha x h
  · exact hb x h
theorem AllQ.cons {Q : Line → Prop} {l : Line} {ls : List Line} (hl : Q l) (hs : AllQ Q ls) : AllQ Q (l :: ls) := by
  intro x hx; rcases List.mem_cons.mp hx with rfl | h
  · exact hl
  · exact hs x h
theorem allQ_nil {Q : Line → Prop} : AllQ Q [] := fun _ h => absurd h (by simp)
theorem AllQ.mono {Q Q' : Line → Prop} (h : ∀ l, Q l → Q' l) {ls : List Line} (hs : AllQ Q ls) : AllQ Q' ls :=
  fun l hl => h l (hs l hl)
theorem AllGood.append {a b : List Line} (ha : AllGood a) (hb : AllGood b) : AllGood (a ++ b) := AllQ.append ha hb
theorem AllGood.cons {l : Line} {ls : List Line} (hl : GoodLine l) (hs : AllGood ls) : AllGood (l :: ls) :=
  AllQ.cons (Or.inl hl) hs
theorem allGood_nil : AllGood [] := allQ_nil
theorem AllGood.ofBody {ls : List Line} (h : ∀ l ∈ ls, BodyLine l) : AllGood ls := fun l hl => Or.inr (h l hl)

/-- the lines after the string leaves / unit variants of a class satisfy `Q` -/
def BodyQ (Q : Line → Prop) (P : LeafPred) (T : Toks) (k : Nat) : Prop :=
  (∀ pos s, P.str s = true → AllQ Q (T.strAt k pos s).2) ∧ (∀ pos e n, P.unit e n = true → AllQ Q (T.unitAt k pos e n).2)

theorem BodyQ.ofTok {Q : Line → Prop} {P : LeafPred} {T : Toks} (ht : T.IsTok) (k : Nat) : BodyQ Q P T k :=
  ⟨fun pos s _ => by rw [ht.1]; exact allQ_nil, fun pos e n _ => by rw [ht.2]; exact allQ_nil⟩
theorem allLay_nil : AllLay [] := fun _ h => absurd h (by simp)
theorem allLay_safe {s : List Char} (h : isSafeStr s = true) : AllLay s :=
  fun x hx => tok_lineChar (alnum_tok (safe_chars h x hx))
theorem allLay_tok {t : List Char} (h : PlainTok t) : AllLay t := fun x hx => tok_lineChar (h.chars x hx)
theorem allLay_lit (t : List Char) (h : t.all lineChar = true) : AllLay t := fun x hx => List.all_eq_true.mp h x hx
theorem allLay_scalar {t : List Char} {p : PVal} (h : ScalarTok t p) : AllLay t := h.chars
theorem allLay_key {K k : List Char} (h : KeyTok K k) : AllLay K := h.chars

theorem indLine_good {i : Nat} (c : Char) {h : List Char} (hc : c = '-' ∨ c = '?' ∨ c = ':') (hl : AllLay h) :
    GoodLine ⟨i, c :: ' ' :: h⟩ := by
  have hcl : lineChar c = true := by rcases hc with rfl | rfl | rfl <;> decide
  refine ⟨by simp, ?_, ?_, ?_⟩
  · simp only [List.head?_cons, ne_eq, Option.some.injEq]
    rcases hc with rfl | rfl | rfl <;> decide
  · intro x hx
    simp only [List.mem_cons] at hx
    rcases hx with rfl | rfl | hx
    · exact hcl
    · decide
    · exact hl x hx
  · refine notMarker_head (c := c) (cs := ' ' :: h) rfl ?_ ?_ 0
    · exact Or.inr ⟨' ', h, rfl, by decide⟩
    · rcases hc with rfl | rfl | rfl <;> decide

theorem dashLine_good {i : Nat} {h : List Char} (hl : AllLay h) : GoodLine ⟨i, '-' :: ' ' :: h⟩ :=
  indLine_good '-' (Or.inl rfl) hl

theorem keyLine_good {i : Nat} {K k h : List Char} (hk : KeyTok K k) (hl : AllLay h) : GoodLine ⟨i, K ++ ':' :: h⟩ := by
  obtain ⟨c, cs, e, hc⟩ := hk.start
  refine ⟨by simp, ?_, ?_, hk.noMarker h⟩
  · subst e
    simp only [List.cons_append, List.head?_cons, ne_eq, Option.some.injEq]
    exact ⟨keyStart_ne hc ' ' (by decide), keyStart_ne hc '#' (by decide), keyStart_ne hc '%' (by decide)⟩
  · exact (allLay_key hk).append (fun x hx => by
      simp only [List.mem_cons] at hx
      rcases hx with rfl | hx
      · decide
      · exact hl x hx)

theorem questionLine_good {i : Nat} {h : List Char} (hl : AllLay h) : GoodLine ⟨i, '?' :: ' ' :: h⟩ :=
  indLine_good '?' (Or.inr (Or.inl rfl)) hl

theorem colonLine_good {i : Nat} {h : List Char} (hl : AllLay h) : GoodLine ⟨i, ':' :: ' ' :: h⟩ :=
  indLine_good ':' (Or.inr (Or.inr rfl)) hl

theorem bracketLine_good {i : Nat} {t : List Char} (hs : ∃ cs, t = '[' :: cs ∨ t = '{' :: cs) (hl : AllLay t) : GoodLine ⟨i, t⟩ := by
  obtain ⟨cs, h | h⟩ := hs <;> subst h
  · exact ⟨by simp, by simp, hl, notMarker_head rfl (Or.inl (by decide)) (by decide) 0⟩
  · exact ⟨by simp, by simp, hl, notMarker_head rfl (Or.inl (by decide)) (by decide) 0⟩

theorem scalarLine_good {i : Nat} {t : List Char} {p : PVal} (h : ScalarTok t p) : GoodLine ⟨i, t⟩ :=
  ⟨h.ne, h.head, h.chars, h.noMarker⟩

theorem LeafOK.goodLine {n : Nat} {r : List Char × List Line} {p : PVal} (h : LeafOK n r p) (i : Nat) : GoodLine ⟨i, r.1⟩ :=
  ⟨h.ne, h.head, h.chars, h.noMarker⟩

theorem seqValOf_good {Q : Line → Prop} (e : Bool) {items : List Line} (h : AllQ Q items) :
    AllLay (seqValOf e items).1 ∧ AllQ Q (seqValOf e items).2.1 := by
  cases e <;> simp only [seqValOf, if_true, if_false, Bool.false_eq_true]
  · exact ⟨allLay_nil, h⟩
  · exact ⟨allLay_lit _ (by decide), allQ_nil⟩

theorem mapValOf_good {Q : Line → Prop} (hQ : ∀ l, GoodLine l → Q l) (m : Nat) (lvb e : Bool) {entries : List Line} (h : AllQ Q entries) :
    AllLay (mapValOf m lvb e entries).1 ∧ AllQ Q (mapValOf m lvb e entries).2.1 := by
  cases e <;> cases lvb <;> simp only [mapValOf, if_true, if_false, Bool.false_eq_true]
  · exact ⟨allLay_nil, h⟩
  · exact ⟨allLay_nil, h⟩
  · exact ⟨allLay_lit _ (by decide), allQ_nil⟩
  · exact ⟨allLay_nil, AllQ.cons (hQ _ ((leafOK_emptyMap 0).goodLine _)) allQ_nil⟩

theorem variantVal_good {Q : Line → Prop} (hQ : ∀ l, GoodLine l → Q l) (m : Nat) {N n : List Char} (hn : KeyTok N n) {r ri : List Char × List Line × Bool}
    (hr : AllLay r.1 ∧ AllQ Q r.2.1) (hri : AllLay ri.1 ∧ AllQ Q ri.2.1) :
    AllLay (variantVal m N r ri).1 ∧ AllQ Q (variantVal m N r ri).2.1 := by
  cases hfit : fitsImplicit N
  · simp only [variantVal, hfit, Bool.false_eq_true, if_false, List.cons_append, List.nil_append]
    exact ⟨allLay_nil, AllQ.cons (hQ _ (questionLine_good (allLay_key hn))) (AllQ.cons (hQ _ (colonLine_good hri.1)) hri.2)⟩
  · simp only [variantVal, hfit, if_true, List.append_assoc, List.singleton_append]
    exact ⟨allLay_nil, AllQ.cons (hQ _ (keyLine_good hn hr.1)) hr.2⟩

theorem variantItem_good {Q : Line → Prop} (hQ : ∀ l, GoodLine l → Q l) (c : Nat) {N n : List Char} (hn : KeyTok N n) {r ri : List Char × List Line × Bool}
    (hr : AllLay r.1 ∧ AllQ Q r.2.1) (hri : AllLay ri.1 ∧ AllQ Q ri.2.1) :
    AllLay (variantItem c N r ri).1 ∧ AllQ Q (variantItem c N r ri).2.1 := by
  cases hfit : fitsImplicit N
  · simp only [variantItem, hfit, Bool.false_eq_true, if_false, List.cons_append, List.nil_append]
    exact ⟨(allLay_lit ['?', ' '] (by decide)).append (allLay_key hn), AllQ.cons (hQ _ (colonLine_good hri.1)) hri.2⟩
  · simp only [variantItem, hfit, if_true]
    exact ⟨((allLay_key hn).append (allLay_lit [':'] (by decide))).append hr.1, hr.2⟩

theorem variantRoot_good {Q : Line → Prop} (hQ : ∀ l, GoodLine l → Q l) {N n : List Char} (hn : KeyTok N n) {r ri : List Char × List Line × Bool}
    (hr : AllLay r.1 ∧ AllQ Q r.2.1) (hri : AllLay ri.1 ∧ AllQ Q ri.2.1) : AllQ Q (variantRoot N r ri) := by
  cases hfit : fitsImplicit N
  · simp only [variantRoot, hfit, Bool.false_eq_true, if_false, List.cons_append, List.nil_append]
    exact AllQ.cons (hQ _ (questionLine_good (allLay_key hn))) (AllQ.cons (hQ _ (colonLine_good hri.1)) hri.2)
  · simp only [variantRoot, hfit, if_true, List.append_assoc, List.singleton_append]
    exact AllQ.cons (hQ _ (keyLine_good hn hr.1)) hr.2

theorem allLay_sp {t : List Char} (h : AllLay t) : AllLay (' ' :: t) :=
  AllLay.append (a := [' ']) (allLay_lit _ (by decide)) h

section
variable {P : LeafPred} {T : Toks} {k : Nat} {Q : Line → Prop} (hQ : ∀ l, GoodLine l → Q l) (hr : ReadContract P T k)
  (hb : BodyQ Q P T k) (cp : Bool)
include hQ hr hb

/-- every layout of the fragment: line characters on the line of its position, lines that satisfy `Q` below -/
theorem lay_good_shapes :
    (∀ v, inFragP P v = true →
      (∀ (im : Bool) (m : Nat) (lvb : Bool), AllLay (layVal T k cp im m lvb v).1 ∧ AllQ Q (layVal T k cp im m lvb v).2.1) ∧
      (∀ (d : Nat) (lvb : Bool), AllLay (layItem T k cp d lvb v).1 ∧ AllQ Q (layItem T k cp d lvb v).2.1) ∧
      AllQ Q (layRoot T k cp v)) ∧
    (∀ xs, inFragListP P xs = true →
      (∀ (d : Nat) (lvb : Bool), AllLay (laySeqItem T k cp d lvb xs).1 ∧ AllQ Q (laySeqItem T k cp d lvb xs).2.1) ∧
      (∀ (d : Nat) (lvb : Bool), AllQ Q (layItems T k cp d lvb xs).1)) ∧
    (∀ es, inFragEntriesP P es = true →
      (∀ (d : Nat) (lvb : Bool), AllLay (layMapItem T k cp d lvb es).1 ∧ AllQ Q (layMapItem T k cp d lvb es).2.1) ∧
      (∀ (m : Nat) (lvb : Bool), AllQ Q (layEntries T k cp m lvb es).1)) := by
  refine inFragP.shapes_all ?leaf ?str ?unit ?wrap ?seq ?map ?nv ?tv ?sv ?nil ?cons ?enil ?ekey ?ecomplex
  case leaf =>
    intro v hl
    obtain ⟨tok, ht⟩ := leafTok_of_isLeaf T hl
    have hs := leafTok_scalarTok ht
    obtain ⟨e1, e2, e3⟩ := lay_leaf ht k cp
    simp only [e1, e2, e3]
    exact ⟨fun _ _ _ => ⟨allLay_sp hs.chars, allQ_nil⟩, fun _ _ => ⟨hs.chars, allQ_nil⟩, AllQ.cons (hQ _ (scalarLine_good hs)) allQ_nil⟩
  case str =>
    intro t ht
    simp only [layVal, layItem, layRoot]
    exact ⟨fun _ m _ => ⟨allLay_sp (hr.str (.val m) t ht).chars, hb.1 (.val m) t ht⟩,
      fun d _ => ⟨(hr.str (.item d) t ht).chars, hb.1 (.item d) t ht⟩,
      AllQ.cons (hQ _ ((hr.str .root t ht).goodLine 0)) (hb.1 .root t ht)⟩
  case unit =>
    intro e n hn
    simp only [layVal, layItem, layRoot]
    exact ⟨fun _ m _ => ⟨allLay_sp (hr.unit (.val m) e n hn).chars, hb.2 (.val m) e n hn⟩,
      fun d _ => ⟨(hr.unit (.item d) e n hn).chars, hb.2 (.item d) e n hn⟩,
      AllQ.cons (hQ _ ((hr.unit .root e n hn).goodLine 0)) (hb.2 .root e n hn)⟩
  case wrap =>
    intro v _ h
    simpa only [layVal, layItem, layRoot, and_self] using h
  case seq =>
    intro xs _ h
    simp only [layVal, layItem, layRoot, and_self]
    refine ⟨fun _ _ _ => seqValOf_good _ (h.2 _ false), h.1, ?_⟩
    split
    · exact AllQ.cons (hQ _ ((leafOK_emptySeq 0).goodLine 0)) allQ_nil
    · exact h.2 0 false
  case map =>
    intro known es _ _ h
    simp only [layVal, layItem, layRoot]
    refine ⟨fun _ _ _ => mapValOf_good hQ _ _ _ (h.2 _ false), h.1, ?_⟩
    split
    · exact AllQ.cons (hQ _ ((leafOK_emptyMap 0).goodLine 0)) allQ_nil
    · exact h.2 0 false
  case nv =>
    intro n v hn _ h
    simp only [layVal, layItem, layRoot]
    exact ⟨fun _ _ lvb => variantVal_good hQ _ (hr.name n hn) (h.1 true _ lvb) (h.2.1 _ lvb),
      fun _ lvb => variantItem_good hQ _ (hr.name n hn) (h.1 true _ lvb) (h.2.1 _ lvb),
      variantRoot_good hQ (hr.name n hn) (h.1 false 0 false) (h.2.1 0 false)⟩
  case tv =>
    intro n xs h
    simpa only [layVal, layItem, layRoot_tupleVariant] using h
  case sv =>
    intro n fs h
    simpa only [layVal, layItem, layRoot_structVariant] using h
  case nil => exact ⟨fun _ _ => by simp only [laySeqItem]; exact ⟨allLay_lit _ (by decide), allQ_nil⟩,
      fun _ _ => by simp only [layItems]; exact allQ_nil⟩
  case cons =>
    intro x xs hx _ h hxs
    refine ⟨fun d lvb => ?_, fun d lvb => ?_⟩
    · obtain ⟨h1, h2⟩ := h.2.1 (d + 2) lvb
      simp only [laySeqItem]
      exact ⟨(allLay_lit ['-', ' '] (by decide)).append h1, h2.append (hxs.2 _ _)⟩
    · obtain ⟨h1, h2⟩ := h.2.1 d lvb
      simp only [layItems, List.cons_append, List.nil_append]
      exact AllQ.cons (hQ _ (dashLine_good h1)) (h2.append (hxs.2 _ _))
  case enil => exact ⟨fun _ _ => by simp only [layMapItem]; exact ⟨allLay_lit _ (by decide), allQ_nil⟩,
      fun _ _ => by simp only [layEntries]; exact allQ_nil⟩
  case ekey =>
    intro kt v es hkt _ _ h hes
    refine ⟨fun d lvb => ?_, fun m lvb => ?_⟩
    · cases hfit : fitsImplicit (T.key kt)
      · obtain ⟨h1, h2⟩ := h.2.1 (d + 2) false
        simp only [layMapItem, keyOf, hfit, Bool.false_eq_true, if_false]
        refine ⟨(allLay_lit ['?', ' '] (by decide)).append (allLay_key (hr.key kt hkt)), ?_⟩
        have := AllQ.cons (hQ _ (colonLine_good (i := d + 2) h1)) (h2.append (hes.2 (d + 2) (layItem T k cp (d + 2) false v).2.2))
        simpa [List.append_assoc] using this
      · obtain ⟨h1, h2⟩ := h.1 true (d + 2) false
        simp only [layMapItem, keyOf, hfit, if_true]
        exact ⟨((allLay_key (hr.key kt hkt)).append (allLay_lit [':'] (by decide))).append h1, h2.append (hes.2 _ _)⟩
    · cases hfit : fitsImplicit (T.key kt)
      · obtain ⟨h1, h2⟩ := h.2.1 m false
        simp only [layEntries, keyOf, hfit, Bool.false_eq_true, if_false, List.cons_append, List.nil_append, List.append_assoc]
        exact AllQ.cons (hQ _ (questionLine_good (allLay_key (hr.key kt hkt))))
          (AllQ.cons (hQ _ (colonLine_good h1)) (h2.append (hes.2 _ _)))
      · obtain ⟨h1, h2⟩ := h.1 true m lvb
        simp only [layEntries, keyOf, hfit, if_true, List.cons_append, List.nil_append, List.append_assoc]
        exact AllQ.cons (hQ _ (keyLine_good (hr.key kt hkt) h1)) (h2.append (hes.2 _ _))
  case ecomplex =>
    intro kk v es hc _ _ _ hkk h hes
    refine ⟨fun d lvb => ?_, fun m lvb => ?_⟩
    · obtain ⟨hk1, hk2⟩ := hkk.2.1 (d + 2) false
      obtain ⟨h1, h2⟩ := h.2.1 (d + 2) false
      simp only [layMapItem, keyOf_complex kk hc]
      refine ⟨(allLay_lit ['?', ' '] (by decide)).append hk1, ?_⟩
      have := hk2.append (AllQ.cons (hQ _ (colonLine_good (i := d + 2) h1)) (h2.append (hes.2 (d + 2) (layItem T k cp (d + 2) false v).2.2)))
      simpa [List.append_assoc] using this
    · obtain ⟨hk1, hk2⟩ := hkk.2.1 m lvb
      obtain ⟨h1, h2⟩ := h.2.1 m false
      simp only [layEntries, keyOf_complex kk hc, List.cons_append, List.nil_append, List.append_assoc]
      exact AllQ.cons (hQ _ (questionLine_good hk1)) (hk2.append (AllQ.cons (hQ _ (colonLine_good h1)) (h2.append (hes.2 _ _))))

theorem layRoot_good (v : SVal) (hv : inFragP P v = true) : AllQ Q (layRoot T k cp v) :=
  ((lay_good_shapes hQ hr hb cp).1 v hv).2.2
end

theorem renderLines_cons' (l : Line) (ls : List Line) :
    renderLines (l :: ls) = spaces l.indent ++ l.text ++ ['\n'] ++ renderLines ls := rfl

theorem ne_of_lineChar {c : Char} (h : lineChar c = true) (c' : Char) (h' : lineChar c' = false) : c ≠ c' := by
  rintro rfl; rw [h] at h'; exact Bool.noConfusion h'

theorem normBreaks_id : ∀ (t : List Char), (∀ x ∈ t, x ≠ '\r') → normBreaks t = t
  | [], _ => rfl
  | c :: cs, h => by
    have hc : c ≠ '\r' := h c (by simp)
    have ih := normBreaks_id cs (fun x hx => h x (by simp [hx]))
    unfold normBreaks
    split
    · rename_i he; simp only [List.cons.injEq] at he; exact absurd he.1 hc
    · rename_i he; simp only [List.cons.injEq] at he; exact absurd he.1 hc
    · rename_i c' cs' _ _ he
      simp only [List.cons.injEq] at he
      obtain ⟨rfl, rfl⟩ := he
      rw [ih]
    · rename_i he; exact absurd he (by simp)

theorem splitNl_ne_nil (t : List Char) : splitNl t ≠ [] := by
  induction t with
  | nil => simp [splitNl]
  | cons c cs ih =>
    unfold splitNl
    split
    · simp
    · split <;> simp

theorem splitNl_cons (c : Char) (cs : List Char) :
    splitNl (c :: cs) = (match splitNl cs with
      | [] => [[]]
      | l :: ls => if c == '\n' then [] :: l :: ls else (c :: l) :: ls) := by
  rw [splitNl]; rfl

theorem splitNl_line : ∀ (a rest : List Char), (∀ x ∈ a, x ≠ '\n') → splitNl (a ++ '\n' :: rest) = a :: splitNl rest
  | [], rest, _ => by
    simp only [List.nil_append]
    rw [splitNl_cons]
    cases h : splitNl rest with
    | nil => exact absurd h (splitNl_ne_nil rest)
    | cons l ls => simp
  | c :: cs, rest, h => by
    have hc : c ≠ '\n' := h c (by simp)
    have ih := splitNl_line cs rest (fun x hx => h x (by simp [hx]))
    simp only [List.cons_append]
    rw [splitNl_cons, ih]
    simp [hc]

theorem spaces_lay (n : Nat) : ∀ x ∈ spaces n, lineChar x = true := by
  intro x hx
  simp only [spaces, List.mem_replicate] at hx
  rw [hx.2]; decide

theorem LayLine.chars {l : Line} (h : LayLine l) : ∀ x ∈ l.text, lineChar x = true := by
  rcases h with h | h
  · exact h.chars
  · exact h.chars

theorem LayLine.head {l : Line} (h : LayLine l) : l.text.head? ≠ some ' ' := by
  rcases h with h | h
  · exact h.head.1
  · exact h.head

theorem lineText_lay {l : Line} (h : LayLine l) : ∀ x ∈ spaces l.indent ++ l.text, lineChar x = true := by
  intro x hx
  rcases List.mem_append.mp hx with h1 | h1
  · exact spaces_lay _ x h1
  · exact h.chars x h1

theorem mkLine_spaces (i : Nat) (t : List Char) (h : t.head? ≠ some ' ') : mkLine (spaces i ++ t) = ⟨i, t⟩ := by
  have hs : List.takeWhile (· == ' ') (spaces i ++ t) = spaces i ∧ List.dropWhile (· == ' ') (spaces i ++ t) = t := by
    induction i with
    | zero =>
      cases t with
      | nil => exact ⟨rfl, rfl⟩
      | cons c cs =>
        have hc : c ≠ ' ' := fun e => h (by simp [e])
        simp [spaces, hc]
    | succ n ih => simp only [spaces, List.replicate_succ, List.cons_append] at ih ⊢; simp [ih]
  simp only [mkLine]
  rw [hs.1, hs.2]
  simp [spaces]

theorem mkLine_good {l : Line} (h : LayLine l) : mkLine (spaces l.indent ++ l.text) = l := by
  cases l with
  | mk i t => exact mkLine_spaces i t h.head

theorem render_lay : ∀ (ls : List Line), AllGood ls → ∀ x ∈ renderLines ls, lineChar x = true ∨ x = '\n'
  | [], _, x, hx => by exact absurd hx (by simp [renderLines])
  | l :: ls, h, x, hx => by
    simp only [renderLines_cons', List.mem_append, List.mem_cons, List.not_mem_nil, or_false] at hx
    rcases hx with ((h1 | h1) | h1) | h1
    · exact Or.inl (spaces_lay _ x h1)
    · exact Or.inl ((h l (by simp)).chars x h1)
    · exact Or.inr h1
    · exact render_lay ls (fun y hy => h y (by simp [hy])) x h1

theorem render_ne (ls : List Line) (h : AllGood ls) {c : Char} (hc : lineChar c = false) (hn : c ≠ '\n') :
    ∀ x ∈ renderLines ls, x ≠ c := by
  intro x hx
  rcases render_lay ls h x hx with h1 | rfl
  · exact ne_of_lineChar h1 c hc
  · exact fun e => hn e.symm

theorem toLines_cons_line (a rest : List Char) (ha : ∀ x ∈ a, x ≠ '\n' ∧ x ≠ '\r') (hr : ∀ x ∈ rest, x ≠ '\r') :
    toLines (a ++ '\n' :: rest) = mkLine a :: toLines rest := by
  have h1 : normBreaks (a ++ '\n' :: rest) = a ++ '\n' :: rest := by
    apply normBreaks_id
    intro x hx
    simp only [List.mem_append, List.mem_cons] at hx
    rcases hx with h | rfl | h
    · exact (ha x h).2
    · decide
    · exact hr x h
  unfold toLines
  rw [h1, normBreaks_id rest hr, splitNl_line a rest (fun x hx => (ha x hx).1)]
  cases hs : splitNl rest with
  | nil => exact absurd hs (splitNl_ne_nil rest)
  | cons p ps =>
    by_cases hl : (p :: ps).getLast? = some []
    · simp [hl, List.getLast?_cons_cons, List.dropLast]
    · simp [hl, List.getLast?_cons_cons]

theorem toLines_render : ∀ (ls : List Line), AllGood ls → toLines (renderLines ls) = ls
  | [], _ => by rfl
  | l :: ls, h => by
    have hl : LayLine l := h l (by simp)
    have hs : AllGood ls := fun x hx => h x (by simp [hx])
    rw [renderLines_cons', List.append_assoc, List.singleton_append,
      toLines_cons_line _ _ (fun x hx => ⟨ne_of_lineChar (lineText_lay hl x hx) '\n' (by decide),
        ne_of_lineChar (lineText_lay hl x hx) '\r' (by decide)⟩) (render_ne ls hs (by decide) (by decide)),
      mkLine_good hl, toLines_render ls hs]

theorem takeWhile_noNul (ls : List Line) (h : AllGood ls) :
    (renderLines ls).takeWhile (· != Char.ofNat 0) = renderLines ls :=
  takeWhile_all _ _ fun x hx => by simpa using render_ne ls h (c := Char.ofNat 0) (by decide) (by decide) x hx

theorem mu_le_render : ∀ (ls : List Line), mu ls ≤ (renderLines ls).length
  | [] => by simp [mu]
  | l :: ls => by
    have := mu_le_render ls
    simp only [mu, renderLines_cons', List.length_append, List.length_cons, List.length_nil]
    omega

theorem goodLine_notSkippable {l : Line} (h : GoodLine l) : l.isSkippable = false := by
  obtain ⟨c, cs, e⟩ : ∃ c cs, l.text = c :: cs := by
    cases ht : l.text with
    | nil => exact absurd ht h.ne
    | cons c cs => exact ⟨c, cs, rfl⟩
  have hne : c ≠ '#' := by
    have := h.head.2.1
    rw [e] at this
    intro e'; exact this (by simp [e'])
  cases l with
  | mk i t => simp only at e; subst e; exact notSkippable_of_head hne

theorem FirstLine.ofGood {l : Line} (h : GoodLine l) (rest : List Line) : FirstLine (l :: rest) :=
  ⟨l, rest, rfl, goodLine_notSkippable h, h.head.2.2⟩

theorem FirstLine.ne {ls : List Line} (h : FirstLine ls) : ls ≠ [] := by
  obtain ⟨l, rest, rfl, _⟩ := h; simp

theorem ReadContract.layBody {P : LeafPred} {T : Toks} {k : Nat} (hr : ReadContract P T k) : BodyQ LayLine P T k :=
  ⟨fun pos s h => AllGood.ofBody (hr.str pos s h).body, fun pos e n h => AllGood.ofBody (hr.unit pos e n h).body⟩

theorem root_lines {P : LeafPred} {T : Toks} {k : Nat} {cp : Bool} (hr : ReadContract P T k) (hk : k ≥ 1) (v : SVal)
    (hv : inFragP P v = true) :
    AllGood (layRoot T k cp v) ∧ FirstLine (layRoot T k cp v) ∧
    ∀ fuel, fuel ≥ 2 * mu (layRoot T k cp v) + 2 → blockNode fuel 0 none false (layRoot T k cp v) = some (erase v, []) :=
  ⟨layRoot_good (fun _ h => Or.inl h) hr hr.layBody cp v hv, firstLine_layRoot hr hk v hv,
    fun fuel hf => by simpa using read_root (cp := cp) hr hk v hv fuel none [] hf (Or.inl rfl)⟩

theorem goodLine_not_pct {l : Line} (h : GoodLine l) : l.text.head? ≠ some '%' := h.head.2.2

theorem goodLine_not_marker {l : Line} (h : GoodLine l) :
    isDocMarker l "---".toList = false ∧ isDocMarker l "...".toList = false := by
  have h1 := h.noMarker.1
  have h2 := h.noMarker.2
  simp only [isDocMarker, beq_self_eq_true, Bool.true_and] at h1 h2
  constructor
  · unfold isDocMarker; rw [Bool.and_assoc, h1, Bool.and_false]
  · unfold isDocMarker; rw [Bool.and_assoc, h2, Bool.and_false]

theorem layLine_not_marker {l : Line} (h : LayLine l) :
    isDocMarker l "---".toList = false ∧ isDocMarker l "...".toList = false := by
  rcases h with h | h
  · exact goodLine_not_marker h
  · have hi : (l.indent == 0) = false := by have := h.ind; simp; omega
    simp [isDocMarker, hi]

theorem dropWhile_all {α : Type} (p : α → Bool) : ∀ (l : List α), (∀ x ∈ l, p x = true) → l.dropWhile p = []
  | [], _ => rfl
  | a :: as, h => by
    simp only [List.dropWhile_cons, h a (by simp), if_true]
    exact dropWhile_all p as (fun x hx => h x (by simp [hx]))

/-- `readDoc` on a text whose lines are known: no NUL, first line neither blank nor a directive, no
document markers — the document is what `blockNode` reads at the root. -/
theorem readDoc_core (text : List Char) (l : Line) (rest : List Line) (pv : PVal)
    (hnul : text.takeWhile (· != Char.ofNat 0) = text) (hlines : toLines text = l :: rest)
    (hns : l.isSkippable = false) (hpct : (l.text.head? == some '%') = false)
    (hm1 : ∀ x ∈ l :: rest, (!isDocMarker x "...".toList) = true)
    (hm2 : ∀ x ∈ l :: rest, isDocMarker x "---".toList = false)
    (hread : blockNode (2 * text.length + 2 * (l :: rest).length + 8) 0 none false (l :: rest) = some (pv, [])) :
    readDoc text = some pv := by
  have hsk : skipBlank (l :: rest) = l :: rest := skipBlank_cons rest hns
  have hany : (l :: rest).any (fun l => isDocMarker l "---".toList) = false := by
    rw [List.any_eq_false]; intro x hx; rw [hm2 x hx]; simp
  unfold readDoc
  simp only [hnul, hlines]
  simp only [hsk, hpct, Bool.and_false, Bool.false_eq_true, if_false, hm2 l (by simp)]
  simp only [takeWhile_all _ _ hm1, dropWhile_all _ _ hm1, List.drop_nil, skipBlank, List.isEmpty_nil, Bool.not_true,
    Bool.false_eq_true, if_false, hany]
  rw [hread]
  simp [skipBlank]

theorem readDoc_of_lines (L : List Line) (pv : PVal) (hg : AllGood L) (hne : FirstLine L)
    (hread : ∀ fuel, fuel ≥ 2 * mu L + 2 → blockNode fuel 0 none false L = some (pv, [])) :
    readDoc (renderLines L) = some pv := by
  obtain ⟨l, rest, hL, hns, hp⟩ := hne
  have hpct : (l.text.head? == some '%') = false := by simpa using hp
  have hfuel : 2 * (renderLines L).length + 2 * L.length + 8 ≥ 2 * mu L + 2 := by
    have := mu_le_render L; omega
  refine readDoc_core (renderLines L) l rest pv (takeWhile_noNul _ hg) (by rw [toLines_render _ hg, hL])
    hns hpct ?_ ?_ ?_
  · intro x hx; rw [(layLine_not_marker (hg x (by rw [hL]; exact hx))).2]; rfl
  · intro x hx; exact (layLine_not_marker (hg x (by rw [hL]; exact hx))).1
  · rw [← hL]; exact hread _ hfuel

/-- The reference reader maps the rendered layout of a fragment value back to `erase v`. -/
theorem read_layout {P : LeafPred} {T : Toks} {k : Nat} {cp : Bool} (hr : ReadContract P T k) (hk : k ≥ 1) (v : SVal) (hv : inFragP P v = true) :
    readDoc (renderLines (layRoot T k cp v)) = some (erase v) := by
  obtain ⟨hg, hne, hread⟩ := root_lines hr hk v hv
  exact readDoc_of_lines _ _ hg hne hread

/-- `readDoc` on a text that starts with the `%YAML 1.2` directive and `---`: the document is what
`blockNode` reads from the lines after them. -/
theorem readDoc_core_pro (text : List Char) (L : List Line) (pv : PVal)
    (hnul : text.takeWhile (· != Char.ofNat 0) = text)
    (hlines : toLines text = directiveLine :: startLine :: L)
    (hm1 : ∀ x ∈ L, (!isDocMarker x "...".toList) = true)
    (hm2 : ∀ x ∈ L, isDocMarker x "---".toList = false)
    (hread : blockNode (2 * text.length + 2 * L.length + 8) 0 none false L = some (pv, [])) :
    readDoc text = some pv := by
  have hany : L.any (fun l => isDocMarker l "---".toList) = false := by
    rw [List.any_eq_false]; intro x hx; rw [hm2 x hx]; simp
  have hs1 : skipBlank (directiveLine :: startLine :: L) = directiveLine :: startLine :: L :=
    skipBlank_cons _ (by decide)
  have hs2 : skipBlank (startLine :: L) = startLine :: L := skipBlank_cons _ (by decide)
  have hd : (directiveLine.indent == 0 && directiveLine.text.head? == some '%') = true := by decide
  have hmk : isDocMarker startLine "---".toList = true := by decide
  have haft : (dropSpaces (startLine.text.drop 3)).isEmpty = true := by decide
  unfold readDoc
  simp only [hnul, hlines, hs1, hd, if_true, hs2, hmk, haft]
  simp only [takeWhile_all _ _ hm1, dropWhile_all _ _ hm1, List.drop_nil, skipBlank, List.isEmpty_nil, Bool.not_true,
    Bool.false_eq_true, if_false, hany, List.head?_nil, Bool.or_self]
  rw [hread]
  simp [skipBlank]

theorem toLines_prologue (L : List Line) (hg : AllGood L) :
    toLines (prologueText ++ renderLines L) = directiveLine :: startLine :: L := by
  have hcr := render_ne L hg (c := '\r') (by decide) (by decide)
  have e : prologueText ++ renderLines L =
      ['%', 'Y', 'A', 'M', 'L', ' ', '1', '.', '2'] ++ '\n' :: (['-', '-', '-'] ++ '\n' :: renderLines L) := rfl
  rw [e, toLines_cons_line _ _ (by decide) (by
      intro x hx
      simp only [List.mem_append, List.mem_cons] at hx
      rcases hx with h | rfl | h
      · have : ∀ y ∈ ['-', '-', '-'], y ≠ '\r' := by decide
        exact this x (by simpa using h)
      · decide
      · exact hcr x h),
    toLines_cons_line _ _ (by decide) hcr, toLines_render L hg]
  rfl

theorem readDoc_of_lines_pro (L : List Line) (pv : PVal) (hg : AllGood L)
    (hread : ∀ fuel, fuel ≥ 2 * mu L + 2 → blockNode fuel 0 none false L = some (pv, [])) :
    readDoc (prologueText ++ renderLines L) = some pv := by
  have hnul : (prologueText ++ renderLines L).takeWhile (· != Char.ofNat 0) = prologueText ++ renderLines L := by
    apply takeWhile_all
    intro x hx
    rcases List.mem_append.mp hx with h | h
    · have : ∀ y ∈ prologueText, (y != Char.ofNat 0) = true := by decide
      exact this x h
    · simpa using render_ne L hg (c := Char.ofNat 0) (by decide) (by decide) x h
  have hfuel : 2 * (prologueText ++ renderLines L).length + 2 * L.length + 8 ≥ 2 * mu L + 2 := by
    have := mu_le_render L; simp only [List.length_append]; omega
  refine readDoc_core_pro _ L pv hnul (toLines_prologue L hg) ?_ ?_ (hread _ hfuel)
  · intro x hx; rw [(layLine_not_marker (hg x hx)).2]; rfl
  · intro x hx; exact (layLine_not_marker (hg x hx)).1

theorem readDoc_prologue (o : Opts) (L : List Line) (pv : PVal) (hg : AllGood L) (hne : FirstLine L)
    (hread : ∀ fuel, fuel ≥ 2 * mu L + 2 → blockNode fuel 0 none false L = some (pv, [])) :
    readDoc (prologue o ++ renderLines L) = some pv := by
  unfold prologue
  cases o.yaml12
  · simpa using readDoc_of_lines _ _ hg hne hread
  · simpa using readDoc_of_lines_pro _ _ hg hread

theorem toLines_prologueLines (o : Opts) (L : List Line) (hg : AllGood L) :
    toLines (prologue o ++ renderLines L) = prologueLines o ++ L := by
  unfold prologue prologueLines
  cases o.yaml12
  · simpa using toLines_render _ hg
  · simpa using toLines_prologue _ hg

/-- The reference reader maps the prologue + rendered layout of a fragment value back to `erase v`. -/
theorem read_layout_pro {P : LeafPred} {T : Toks} {k : Nat} {cp : Bool} (hr : ReadContract P T k) (o : Opts) (hk : k ≥ 1) (v : SVal) (hv : inFragP P v = true) :
    readDoc (prologue o ++ renderLines (layRoot T k cp v)) = some (erase v) := by
  obtain ⟨hg, hne, hread⟩ := root_lines (cp := cp) hr hk v hv
  exact readDoc_prologue o _ _ hg hne hread

end SaphyrVerif.Emit
