import SaphyrVerif.Spec.Interp
import SaphyrVerif.Lemmas.Cursor
/-!
Shared by the capture lemmas (`C04_Capture` and what imports it), the C05 refinement and the nesting-depth invariant
(`C05_Weak*`): the first event of a flattened node (`Ev.isOpen`), the nesting balance `bal` of event lists
(a flattened node is balanced and never dips below its start, `eflatten_bal`), the nesting depth `depthAt` at a
position of a buffer described by what is left there (`buf.drop i = x :: tl`; the replay cursor on such a buffer is
in `Lemmas/Cursor.lean`), and the form of the refinement statement at one position (`NodeOut`, `Ref`).
-/
namespace SaphyrVerif.Lemmas.C05
open SaphyrVerif SaphyrVerif.Scalars SaphyrVerif.Pump SaphyrVerif.De SaphyrVerif.Spec

def IsErr {α : Type} (x : R α) : Prop := ∃ e c, x = .err e c

@[simp] theorem isErr_err {α : Type} (e : DErr) (c : Cur) : IsErr (R.err e c : R α) := ⟨e, c, rfl⟩
@[simp] theorem not_isErr_ok {α : Type} (a : α) (c : Cur) : ¬ IsErr (R.ok a c : R α) := by
  rintro ⟨e, c', h⟩; cases h

def IsErrE {α : Type} (x : Except DErr α) : Prop := ∃ e, x = .error e
@[simp] theorem isErrE_error {α : Type} (e : DErr) : IsErrE (Except.error e : Except DErr α) := ⟨e, rfl⟩
@[simp] theorem not_isErrE_ok {α : Type} (a : α) : ¬ IsErrE (Except.ok a : Except DErr α) := by
  rintro ⟨e, h⟩; cases h

def Expect {α : Type} (x : R α) (exp : Option α) (c : Cur) : Prop :=
  match exp with
  | some a => x = .ok a c
  | none => IsErr x

@[simp] theorem expect_some {α : Type} (x : R α) (a : α) (c : Cur) : Expect x (some a) c ↔ x = .ok a c := Iff.rfl
@[simp] theorem expect_none {α : Type} (x : R α) (c : Cur) : Expect x none c ↔ IsErr x := Iff.rfl

theorem Expect.ok {α : Type} {x : R α} {exp : Option α} {c : Cur} (h : Expect x exp c) {a : α} (he : exp = some a) :
    x = .ok a c := by subst he; exact h
theorem Expect.err {α : Type} {x : R α} {exp : Option α} {c : Cur} (h : Expect x exp c) (he : exp = none) :
    IsErr x := by subst he; exact h

def Ev.isOpen : Ev → Bool
  | .seqEnd _ | .mapEnd _ => false
  | _ => true

theorem eflatten_cons (t : ENode) : ∃ e tl, eflatten t = e :: tl ∧ Ev.isOpen e = true ∧ e.loc = t.loc := by
  cases t <;> simp [eflatten, Ev.isOpen, Ev.loc, ENode.loc]

theorem peek_replay_node {buf : List Ev} {i : Nat} (ref : Option Loc) {t : ENode} {rest : List Ev}
    (h : buf.drop i = eflatten t ++ rest) :
    ∃ e, (Cur.replay buf i ref).peek = .ok (some e) (.replay buf i ref) ∧ Ev.isOpen e = true ∧ e.loc = t.loc := by
  obtain ⟨e, tl, ht, he, hl⟩ := eflatten_cons t
  exact ⟨e, Cursor.peek_replay_of_drop ref (by rw [h, ht]; rfl), he, hl⟩

theorem eflatten_length_pos (t : ENode) : 0 < (eflatten t).length := by
  obtain ⟨e, tl, h, -⟩ := eflatten_cons t
  simp [h]

@[simp] theorem eflattenL_nil : eflattenL [] = [] := by simp [eflattenL]
@[simp] theorem eflattenL_cons (n : ENode) (ns : List ENode) : eflattenL (n :: ns) = eflatten n ++ eflattenL ns := by
  simp [eflattenL]
@[simp] theorem eflattenE_nil : eflattenE [] = [] := by simp [eflattenE]
@[simp] theorem eflattenE_cons (k v : ENode) (es : List (ENode × ENode)) :
    eflattenE ((k, v) :: es) = eflatten k ++ eflatten v ++ eflattenE es := by
  simp [eflattenE]

def Ev.delta : Ev → Int
  | .seqStart .. | .mapStart .. => 1
  | .seqEnd _ | .mapEnd _ => -1
  | .scalar .. => 0

/-- number of container starts minus number of container ends -/
def bal : List Ev → Int
  | [] => 0
  | e :: es => Ev.delta e + bal es

@[simp] theorem bal_nil : bal [] = 0 := rfl
@[simp] theorem bal_cons (e : Ev) (es : List Ev) : bal (e :: es) = Ev.delta e + bal es := rfl
@[simp] theorem bal_append (a b : List Ev) : bal (a ++ b) = bal a + bal b := by
  induction a with
  | nil => simp
  | cons e a ih => simp [ih]; omega

def Floor (d : Int) (s : List Ev) : Prop := ∀ k, d ≤ bal (s.take k)

theorem Floor.append {d d' : Int} {a b : List Ev} (ha : Floor d a) (hb : Floor d' b) (h : d ≤ bal a + d') :
    Floor d (a ++ b) := by
  intro k
  rw [List.take_append]
  have h1 := ha k
  have h2 := hb (k - a.length)
  by_cases hk : k ≤ a.length
  · have : k - a.length = 0 := by omega
    simp [this]; exact h1
  · have : a.take k = a := List.take_of_length_le (by omega)
    simp [this]; omega

theorem Floor.bal_le {d : Int} {s : List Ev} (h : Floor d s) : d ≤ bal s := by
  have := h s.length; simpa using this

theorem bracket_bal {o c : Ev} {s : List Ev} (ho : Ev.delta o = 1) (hc : Ev.delta c = -1) (hs : bal s = 0 ∧ Floor 0 s) :
    (bal (o :: (s ++ [c])) = 0 ∧ Floor 0 (o :: (s ++ [c]))) ∧
      ∀ k, 0 < k → k < (o :: (s ++ [c])).length → 1 ≤ bal ((o :: (s ++ [c])).take k) := by
  have hin : ∀ k, 0 < k → k < (o :: (s ++ [c])).length → 1 ≤ bal ((o :: (s ++ [c])).take k) := by
    intro k h0 hk
    obtain ⟨k, rfl⟩ : ∃ k', k = k' + 1 := ⟨k - 1, by omega⟩
    have : (s ++ [c]).take k = s.take k := by
      rw [List.take_append]; simp at hk ⊢; omega
    rw [List.take_succ_cons, bal_cons, this, ho]
    have := hs.2 k
    omega
  have hall : bal (o :: (s ++ [c])) = 0 := by simp [ho, hc, hs.1]
  refine ⟨⟨hall, fun k => ?_⟩, hin⟩
  rcases Nat.eq_zero_or_pos k with rfl | h0
  · simp
  · rcases Nat.lt_or_ge k (o :: (s ++ [c])).length with hk | hk
    · have := hin k h0 hk; omega
    · rw [List.take_of_length_le hk, hall]; omega

mutual
theorem eflatten_bal : ∀ t : ENode, bal (eflatten t) = 0 ∧ Floor 0 (eflatten t)
  | .scalar .. => by
    simp only [eflatten]
    exact ⟨by simp [Ev.delta], fun k => by cases k <;> simp [Ev.delta]⟩
  | .seq _ _ _ _ _ items => by
    simp only [eflatten]
    exact (bracket_bal rfl rfl (eflattenL_bal items)).1
  | .map _ _ _ entries => by
    simp only [eflatten]
    exact (bracket_bal rfl rfl (eflattenE_bal entries)).1
theorem eflattenL_bal : ∀ ts : List ENode, bal (eflattenL ts) = 0 ∧ Floor 0 (eflattenL ts)
  | [] => by simp [Floor]
  | t :: ts => by
    have h1 := eflatten_bal t
    have h2 := eflattenL_bal ts
    simp only [eflattenL_cons]
    exact ⟨by simp [h1.1, h2.1], Floor.append h1.2 h2.2 (by simp [h1.1])⟩
theorem eflattenE_bal : ∀ es : List (ENode × ENode), bal (eflattenE es) = 0 ∧ Floor 0 (eflattenE es)
  | [] => by simp [Floor]
  | (k, v) :: es => by
    have h1 := eflatten_bal k
    have h2 := eflatten_bal v
    have h3 := eflattenE_bal es
    simp only [eflattenE_cons]
    exact ⟨by simp [h1.1, h2.1, h3.1],
      Floor.append (Floor.append h1.2 h2.2 (by simp [h1.1])) h3.2 (by simp [h1.1, h2.1])⟩
end

def depthAt (buf : List Ev) (p : Nat) : Int := bal (buf.take p)

def Above (buf : List Ev) (i j : Nat) (d : Int) : Prop := ∀ p, i ≤ p → p ≤ j → d ≤ depthAt buf p

theorem Above.refl {buf : List Ev} {i : Nat} {d : Int} (h : d ≤ depthAt buf i) : Above buf i i d := by
  intro p h1 h2
  have : p = i := by omega
  subst this; exact h

theorem Above.trans {buf : List Ev} {i j k : Nat} {d : Int} (h1 : Above buf i j d) (h2 : Above buf j k d) :
    Above buf i k d := by
  intro p hp1 hp2
  by_cases h : p ≤ j
  · exact h1 p hp1 h
  · exact h2 p (by omega) hp2

theorem Above.mono {buf : List Ev} {i j : Nat} {d d' : Int} (h : Above buf i j d) (hd : d' ≤ d) : Above buf i j d' :=
  fun p h1 h2 => by have := h p h1 h2; omega

theorem Above.left {buf : List Ev} {i j : Nat} {d : Int} (h : Above buf i j d) (hij : i ≤ j) : d ≤ depthAt buf i :=
  h i (Nat.le_refl _) hij

theorem Above.right {buf : List Ev} {i j : Nat} {d : Int} (h : Above buf i j d) (hij : i ≤ j) : d ≤ depthAt buf j :=
  h j hij (Nat.le_refl _)

theorem depthAt_of_drop_nil {buf : List Ev} {i : Nat} (h : buf.drop i = []) (p : Nat) (hp : i ≤ p) :
    depthAt buf p = depthAt buf i := by
  have hl := List.drop_eq_nil_iff.mp h
  unfold depthAt
  rw [List.take_of_length_le (by omega), List.take_of_length_le hl]

theorem depthAt_add {buf : List Ev} {i : Nat} {a r : List Ev} (h : buf.drop i = a ++ r) (k : Nat) (hk : k ≤ a.length) :
    depthAt buf (i + k) = depthAt buf i + bal (a.take k) := by
  unfold depthAt
  rw [List.take_add, h, bal_append, List.take_append_of_le_length hk]

theorem depthAt_succ {buf : List Ev} {i : Nat} {x : Ev} {tl : List Ev} (h : buf.drop i = x :: tl) :
    depthAt buf (i + 1) = depthAt buf i + Ev.delta x := by
  simpa using depthAt_add (a := [x]) (r := tl) h 1 (Nat.le_refl _)

/-- one `next` on the cursor -/
theorem Above.step {buf : List Ev} {i : Nat} {x : Ev} {tl : List Ev} {d : Int} (h : buf.drop i = x :: tl)
    (h0 : d ≤ depthAt buf i) (h1 : d ≤ depthAt buf i + Ev.delta x) : Above buf i (i + 1) d := by
  intro p hp1 hp2
  by_cases hp : p = i
  · subst hp; exact h0
  · have : p = i + 1 := by omega
    subst this; rw [depthAt_succ h]; exact h1

theorem Above.of_floor {buf : List Ev} {i : Nat} {a r : List Ev} (h : buf.drop i = a ++ r) (hf : Floor 0 a) :
    Above buf i (i + a.length) (depthAt buf i) := by
  intro p hp1 hp2
  have : p = i + (p - i) := by omega
  rw [this, depthAt_add h (p - i) (by omega)]
  have := hf (p - i)
  omega

theorem depthAt_node {buf : List Ev} {i : Nat} {a r : List Ev} (h : buf.drop i = a ++ r) (hb : bal a = 0) :
    depthAt buf (i + a.length) = depthAt buf i := by
  rw [depthAt_add h a.length (Nat.le_refl _)]
  simp [hb]

theorem eflatten_prefix_pos (t : ENode) (k : Nat) (h0 : 0 < k) (hk : k < (eflatten t).length) :
    1 ≤ bal ((eflatten t).take k) := by
  cases t with
  | scalar v tag rt st a l => simp [eflatten] at hk; omega
  | seq a tag rt l el items =>
    simp only [eflatten] at hk ⊢
    exact (bracket_bal rfl rfl (eflattenL_bal items)).2 k h0 hk
  | map a l el es =>
    simp only [eflatten] at hk ⊢
    exact (bracket_bal rfl rfl (eflattenE_bal es)).2 k h0 hk

theorem depthAt_inside {buf : List Ev} {i : Nat} {t : ENode} {rest : List Ev} (h : buf.drop i = eflatten t ++ rest)
    {j : Nat} (h1 : i < j) (h2 : j < i + (eflatten t).length) : depthAt buf i + 1 ≤ depthAt buf j := by
  have : j = i + (j - i) := by omega
  rw [this, depthAt_add h (j - i) (by omega)]
  have := eflatten_prefix_pos t (j - i) (by omega) (by omega)
  omega

theorem Above.lt_of_depth {buf : List Ev} {j j' q : Nat} {d : Int} (h : Above buf j j' d) (hq : j ≤ q)
    (hd : depthAt buf q < d) : j' < q := by
  rcases Nat.lt_or_ge j' q with h1 | h1
  · exact h1
  · have := h q hq h1; omega

/-- outcome of a call started at index `i` of `buf` on a node of `L` events: exactly the expected value with the
cursor just after the node; or, when no value is expected, an error or — only if `df`, "a deficit is allowed here" — a
stop strictly inside the node.  `df` is a parameter, not read off a type: `ref_all` (`C05_Main`) proves `Ref (!tfree ty)`
(the target type contains a tuple), the element loop of a tuple is stated with `true` (`tupleElems_spec`) -/
def NodeOut {α : Type} (buf : List Ev) (ref : Option Loc) (i L : Nat) (df : Bool) (exp : Option α) (x : R α) : Prop :=
  match exp with
  | some v => x = .ok v (.replay buf (i + L) ref)
  | none => IsErr x ∨ (df = true ∧ ∃ v j, x = .ok v (.replay buf j ref) ∧ i < j ∧ j < i + L)

theorem NodeOut.mono {α : Type} {buf : List Ev} {ref : Option Loc} {i L : Nat} {df df' : Bool} {exp : Option α} {x : R α}
    (h : NodeOut buf ref i L df exp x) (hd : df = true → df' = true) : NodeOut buf ref i L df' exp x := by
  cases exp with
  | some v => exact h
  | none =>
    rcases h with h | ⟨h1, h2⟩
    · exact Or.inl h
    · exact Or.inr ⟨hd h1, h2⟩

/-- the refinement at one position: on a replay cursor in front of the events of `t`, `deser` at type `ty` has the outcome
`NodeOut` for `interp cfg ty t`, for all large enough fuel (the body is an `Evt` of `Lemmas/C05_Spec.lean`; proofs enter it by
`Evt.succ`, `Evt.of_forall`).  `df`: whether a stop strictly inside the node is admitted, see `NodeOut`. -/
def Ref (df : Bool) (cfg : Cfg) (ty : Ty) (t : ENode) : Prop :=
  ∀ (buf : List Ev) (i : Nat) (ref : Option Loc) (rest : List Ev), buf.drop i = eflatten t ++ rest →
    ∃ n, ∀ fuel, n ≤ fuel →
      NodeOut buf ref i (eflatten t).length df (interp cfg ty t) (deser fuel cfg ty false false (.replay buf i ref))

theorem Ref.mono {df df' : Bool} {cfg : Cfg} {ty : Ty} {t : ENode} (h : Ref df cfg ty t) (hd : df = true → df' = true) :
    Ref df' cfg ty t := by
  intro buf i ref rest hb
  obtain ⟨n, hn⟩ := h buf i ref rest hb
  exact ⟨n, fun fuel hf => (hn fuel hf).mono hd⟩

end SaphyrVerif.Lemmas.C05
