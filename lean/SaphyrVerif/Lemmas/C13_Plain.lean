import SaphyrVerif.Lemmas.C13_Read
/-!
PLAIN KEYS.  A plain scalar token for a string (`PlainVal s (.str s)`, `C13_Read`) that holds no `:` is a key token for
itself (through `CoreTok.keyTok`): the key scan `splitPlainKey` stops at the appended `:`.
-/
namespace SaphyrVerif.Emit

theorem splitPlainKey_plain : ∀ (k acc after : List Char), ':' ∉ k → '#' ∉ k → colonEndsKey after = true →
    splitPlainKey acc (k ++ ':' :: after) = some (acc.reverse ++ k, after)
  | [], acc, after, _, _, ha => by simp [splitPlainKey, ha]
  | c :: cs, acc, after, hc, hh, ha => by
    have hc' : ':' ∉ cs := fun h => hc (by simp [h])
    have hh' : '#' ∉ cs := fun h => hh (by simp [h])
    have h1 : c ≠ ':' := fun e => hc (by simp [e])
    simp only [List.cons_append]
    unfold splitPlainKey
    split
    · rename_i he; exact absurd he (by simp)
    · rename_i r he
      simp only [List.cons.injEq] at he
      exact absurd he.1 h1
    · rename_i he
      simp only [List.cons.injEq] at he
      cases cs with
      | nil => simp at he
      | cons d ds => simp at he; exact absurd (by rw [he.2.1]; simp) hh'
    · rename_i he
      simp only [List.cons.injEq] at he
      cases cs with
      | nil => simp at he
      | cons d ds => simp at he; exact absurd (by rw [he.2.1]; simp) hh'
    · rename_i c' r he
      simp only [List.cons.injEq] at he
      obtain ⟨rfl, rfl⟩ := he
      rw [splitPlainKey_plain _ _ _ hc' hh' ha]; simp

theorem PlainVal.keyTok {s : List Char} (h : PlainVal s (.str s)) (hc : ∀ x ∈ s, x ≠ ':') : KeyTok s s := by
  obtain ⟨c, cs, e, hs⟩ := h.start
  have hcolon : ':' ∉ s := fun hm => hc ':' hm rfl
  have hhash : '#' ∉ s := fun hm => (h.chars '#' hm).2 rfl
  refine h.coreTok.keyTok ⟨c, cs, e, plainStart_key hs⟩ fun after ha => ?_
  have e' : s ++ ':' :: after = c :: (cs ++ ':' :: after) := by rw [e]; rfl
  rw [e', implicitKey_plain _ fun x hx =>
    plainStart_ne hs x ((by decide : ∀ x ∈ implicitKeyHeads, plainStart x = false) x hx), ← e',
    splitPlainKey_plain s [] after hcolon hhash ha]
  simp [trimEndSpaces_id h.last.1 h.last.2, h.res]

end SaphyrVerif.Emit
