import SaphyrVerif.Lemmas.CurSim
import SaphyrVerif.Lemmas.C02_Doc
import SaphyrVerif.Lemmas.C08_Step
/-!
Cursor simulation: the live cursor.  A pump that delivers the events `es` through `next_impl`
and then reports end of input for good (`Run`) *serves* `es` in the sense of `Lemmas/CurSim.lean`, through
any interleaving of `peek` and `next` (the look-ahead slot and `last_location` are accounted for); the
pump over a single-document stream runs like this over the expansion of the document.
-/
namespace SaphyrVerif.Lemmas.CurSim
open SaphyrVerif SaphyrVerif.Scalars SaphyrVerif.Pump SaphyrVerif.De SaphyrVerif.Spec
open SaphyrVerif.Lemmas.C02 (Steps noFoldedIndent)

theorem Skip1.look {p q : Pump} (h : C08.Skip1 p q) : q.look = p.look := by
  cases h <;> rfl

/-! ### the look-ahead slot of a live cursor

`peek` on an empty slot calls `next_impl`, keeps the delivered event in the slot and moves `last_location` to it
(where `next_impl` has left it anyway: `nextImpl_event`); `next` on an empty slot is `next_impl`.  On a filled slot
`peek` answers from the slot and `next` empties it. -/

theorem pump_eta_look {q : Pump} {e : Ev} (h1 : q.look = none) (h2 : q.lastLoc = e.loc) :
    ({ ({ q with look := some e } : Pump) with look := none, lastLoc := e.loc } : Pump) = q := by
  cases q
  simp_all

theorem pump_eta_lastLoc {q : Pump} {l : Loc} (h2 : q.lastLoc = l) : ({ q with lastLoc := l } : Pump) = q := by
  cases q
  simp_all

theorem live_peek {q q' : Pump} {inq inq' : List RawItem} {e : Ev} (hl : q.look = none)
    (hn : nextImpl q inq = (.event e, q', inq')) :
    Cur.peek (.live q inq) = .ok (some e) (.live { q' with look := some e } inq') := by
  have hloc : ({ q' with look := some e, lastLoc := e.loc } : Pump) = { q' with look := some e } :=
    pump_eta_lastLoc (q := { q' with look := some e }) (nextImpl_event hn).1
  simp only [Cur.peek, Pump.peek, hl, hn, hloc]

theorem live_next {q q' : Pump} {inq inq' : List RawItem} {e : Ev} (hl : q.look = none)
    (hn : nextImpl q inq = (.event e, q', inq')) : Cur.next (.live q inq) = .ok (some e) (.live q' inq') := by
  simp only [Cur.next, Pump.next, hl, hn]

theorem live_peek_eof {q q' : Pump} {inq inq' : List RawItem} (hl : q.look = none)
    (hn : nextImpl q inq = (.eof, q', inq')) : Cur.peek (.live q inq) = .ok none (.live q' inq') := by
  simp only [Cur.peek, Pump.peek, hl, hn]

theorem live_next_eof {q q' : Pump} {inq inq' : List RawItem} (hl : q.look = none)
    (hn : nextImpl q inq = (.eof, q', inq')) : Cur.next (.live q inq) = .ok none (.live q' inq') := by
  simp only [Cur.next, Pump.next, hl, hn]

theorem look_peek {q0 : Pump} (inq : List RawItem) {e : Ev} (hloc : q0.lastLoc = e.loc) :
    Cur.peek (.live { q0 with look := some e } inq) = .ok (some e) (.live { q0 with look := some e } inq) := by
  simp only [Cur.peek, Pump.peek, pump_eta_lastLoc (q := { q0 with look := some e }) hloc]

theorem look_next {q0 : Pump} (inq : List RawItem) {e : Ev} (hl : q0.look = none) (hloc : q0.lastLoc = e.loc) :
    Cur.next (.live { q0 with look := some e } inq) = .ok (some e) (.live q0 inq) := by
  simp only [Cur.next, Pump.next, pump_eta_look hl hloc]

theorem nextImpl_look_none {q q' : Pump} {inq inq' : List RawItem} {s : Step} (hl : q.look = none)
    (hn : nextImpl q inq = (s, q', inq')) : q'.look = none := by
  have := nextImpl_look q inq
  rw [hn] at this
  exact this.trans hl

/-- end of input for good -/
def Quiet (p : Pump) (inp : List RawItem) : Prop := p.look = none ∧ nextImpl p inp = (.eof, p, inp)

theorem finishCur_live {p : Pump} (inp : List RawItem) (h : p.budget = none) :
    Entry.finishCur (.live p inp) = none := by
  simp [Entry.finishCur, Pump.finish, h]

/-- what `from_str` makes of the outcome of `T::deserialize` (`Entry.fromSingle` after the value) -/
def fromSingleK (x : R Val) : Except DErr Val :=
  match x with
  | .err e c =>
    let syn := match c with | .live p _ => p.synthesizedNull | _ => false
    if syn then .error ⟨"Eof", c.lastLoc, 0⟩ else .error e
  | .ok v c =>
    match Entry.enforceSingle c with
    | some e => .error e
    | none => .ok v

/-- Facts about `Entry.fromSingle` are proved about `fromSingleK x` for a variable `x`: a term that contains
`deser (Entry.fuelFor n)` as the discriminant of a `match` is slow to check. -/
theorem fromSingle_eq (cfg : Cfg) (ty : Ty) (p : Pump) (items : List RawItem) :
    Entry.fromSingle cfg ty p items =
      fromSingleK (deser (Entry.fuelFor items.length) cfg ty false false (.live p items)) := by
  rw [Entry.fromSingle]
  generalize deser (Entry.fuelFor items.length) cfg ty false false (.live p items) = x
  cases x <;> rfl

inductive Run : Pump → List RawItem → List Ev → Prop
  | eof {p : Pump} {inp : List RawItem} {p' : Pump} {inp' : List RawItem} :
      nextImpl p inp = (.eof, p', inp') → Quiet p' inp' → Run p inp []
  | ev {p : Pump} {inp : List RawItem} {e : Ev} {p' : Pump} {inp' : List RawItem} {es : List Ev} :
      nextImpl p inp = (.event e, p', inp') → Run p' inp' es → Run p inp (e :: es)

theorem Run.of_steps {p inp es p1 inp1} (h : Steps p inp es p1 inp1) (hr : Run p1 inp1 []) : Run p inp es := by
  induction h with
  | refl => exact hr
  | cons hn _ ih => exact Run.ev hn (ih hr)

theorem Run.of_eq {p inp q inq es} (h : nextImpl p inp = nextImpl q inq) (hr : Run q inq es) : Run p inp es := by
  cases hr with
  | eof hn hq => exact Run.eof (h.trans hn) hq
  | ev hn hr => exact Run.ev (h.trans hn) hr

theorem Steps.look {p inp es p1 inp1} (h : Steps p inp es p1 inp1) : p1.look = p.look := by
  induction h with
  | refl => rfl
  | @cons p inp e p1 inp1 es p2 inp2 hn _ ih =>
    rw [ih]
    have := nextImpl_look p inp
    rw [hn] at this
    exact this

/-- the invariant of a live cursor that serves `l`: either the look-ahead slot is empty and the pump runs
over `l`, or it holds the head of `l` (put there by `peek`) and the pump runs over the tail -/
def LiveInv (d : Cur) (l : List Ev) : Prop :=
  ∃ q inq, d = .live q inq ∧ q.budget = none ∧
    ((q.look = none ∧ Run q inq l) ∨
     (∃ e l' q0, l = e :: l' ∧ q0.look = none ∧ q0.lastLoc = e.loc ∧ q = { q0 with look := some e } ∧ Run q0 inq l'))

theorem liveInv_serves : ServesInv LiveInv := by
  rintro d l ⟨q, inq, rfl, hb, h⟩
  refine ⟨finishCur_live inq hb, ?_⟩
  rcases h with ⟨hl, hr⟩ | ⟨e, l', q0, rfl, hl0, hloc, rfl, hr⟩
  · have hb' : ∀ {s q' inq'}, nextImpl q inq = (s, q', inq') → q'.budget = none := fun hn => by
      have := nextImpl_budget_none q inq hb
      rwa [hn] at this
    cases hr with
    | @eof _ _ q' inq' hn hq =>
      have hA : LiveInv (.live q' inq') [] := ⟨q', inq', rfl, hb' hn, .inl ⟨hq.1, Run.eof hq.2 hq⟩⟩
      exact ⟨⟨_, live_peek_eof hl hn, hA⟩, ⟨_, live_next_eof hl hn, hA⟩⟩
    | @ev _ _ e q' inq' es hn hr' =>
      have hl' := nextImpl_look_none hl hn
      exact ⟨⟨_, live_peek hl hn, _, _, rfl, (hb' hn :), .inr ⟨e, es, q', rfl, hl', (nextImpl_event hn).1, rfl, hr'⟩⟩,
        ⟨_, live_next hl hn, q', inq', rfl, hb' hn, .inl ⟨hl', hr'⟩⟩⟩
  · exact ⟨⟨_, look_peek inq hloc, _, _, rfl, hb, .inr ⟨e, l', q0, rfl, hl0, hloc, rfl, hr⟩⟩,
      ⟨_, look_next inq hl0 hloc, q0, inq, rfl, hb, .inl ⟨hl0, hr⟩⟩⟩

theorem serves_live {p : Pump} {inp : List RawItem} {es : List Ev} (hl : p.look = none) (hb : p.budget = none)
    (hr : Run p inp es) : Serves (.live p inp) es :=
  ⟨LiveInv, liveInv_serves, p, inp, rfl, hb, .inl ⟨hl, hr⟩⟩

theorem sim_live_replay {p : Pump} {inp : List RawItem} {es : List Ev} (hl : p.look = none) (hb : p.budget = none)
    (hr : Run p inp es) (ref : Option Loc) : Sim (.live p inp) (.replay es 0 ref) :=
  ⟨es, serves_live hl hb hr, by simpa using serves_replay es 0 ref⟩

theorem run_docStream (L : AliasLimits) (t : LNode) (l0 l1 l2 l3 : Loc) (r : Exp)
    (hnf : noFoldedIndent t = true)
    (hexp : expand [] [] t = .ok r)
    (hL1 : 1 ≤ L.maxReplayStackDepth)
    (hL2 : r.replayed ≤ L.maxTotalReplayedEvents)
    (hL3 : ∀ id, aliasCount id t ≤ L.maxAliasExpansionsPerAnchor) :
    Run { limits := L } (docStream t l0 l1 l2 l3) r.evs := by
  obtain ⟨p1, hs, hpost, hne⟩ := C02.doc_steps L t l1 r [.ev .docEnd l2, .ev .streamEnd l3] hnf hexp hL1 hL2 hL3
  have hpa : p1.producedAny = true := hpost.prod (Or.inr hne)
  refine Run.of_eq (C02.doc_start L l0 l1 _) (Run.of_steps hs ?_)
  refine Run.eof (C02.doc_end hpost.good (by rw [hpost.sade]; rfl) hpa l2 l3) ⟨?_, C02.closed_eof hpa l3⟩
  exact (Steps.look hs :)

end SaphyrVerif.Lemmas.CurSim
