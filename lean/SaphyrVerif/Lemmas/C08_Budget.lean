import SaphyrVerif.Lemmas.C08_Step
import SaphyrVerif.Lemmas.C07
/-!
C08: what the observations made in a skip step and in a delivering step (`obs`, `ReplayBud`) do to the event / node
counters under the all-content policy; the synthesized null of an empty stream is delivered without any.
-/
namespace SaphyrVerif.Lemmas.C08
open SaphyrVerif.Pump SaphyrVerif.Budget
open SaphyrVerif.Lemmas.E2EBudget (obsStep obsItem)

/-- node events (= `isNodeEv` of Props/C08) -/
def nodeEv : Ev → Bool
  | .scalar .. | .seqStart .. | .mapStart .. => true
  | _ => false

theorem isNodeEv_replayRaw (e : Ev) : Spec.isNodeEv (replayRaw e) = nodeEv e := by
  cases e <;> rfl

/-- a successful `observe` under the all-content policy (under the per-document policy stream framing is not counted
and a `DocumentStart` is counted from zero) -/
theorem observe_counts {e e' : Enf} {raw : Raw} (h : e.observe raw = .ok e') (hpd : e.perDocument = false) :
    e'.perDocument = false ∧ e'.lim = e.lim ∧ e'.report.events = e.report.events + 1 ∧
      e'.report.events ≤ e.lim.maxEvents ∧
      e'.report.nodes = e.report.nodes + (if Spec.isNodeEv raw then 1 else 0) ∧
      (Spec.isNodeEv raw = true → e'.report.nodes ≤ e.lim.maxNodes) := by
  -- the limits hold because the checks passed (`C07.Checked`), whatever the counters were before
  obtain ⟨rfl, hc, -⟩ := C07.observe_ok_checked h
  rw [C07.next_counted (C07.countedEv_of_not_pd hpd raw)] at hc
  have h1 := hc.1
  have h6 := hc.2.2.2.2.2.1
  rw [C07.next_counted (C07.countedEv_of_not_pd hpd raw)]
  simp only [C07.counted, C07.b2n] at h1 h6 ⊢
  refine ⟨hpd, trivial, trivial, by omega, trivial, fun hn => ?_⟩
  rw [hn] at h6 ⊢
  simp only [if_true] at h6 ⊢
  omega

theorem observeAliasReplayed_counts {e e' : Enf} (h : e.observeAliasReplayed = .ok e') (hpd : e.perDocument = false) :
    e'.perDocument = false ∧ e'.lim = e.lim ∧ e'.report.events = e.report.events + 1 ∧
      e'.report.events ≤ e.lim.maxEvents ∧ e'.report.nodes = e.report.nodes := by
  obtain ⟨rfl, h1, -⟩ := C07.aliasReplayed_ok h
  exact ⟨hpd, rfl, rfl, h1, rfl⟩

/-- the observation the parser loop makes on a raw item: an alias that is about to be replayed is counted without the
key/value bookkeeping -/
theorem obsItem_counts {e e' : Enf} {raw : Raw} (h : obsStep e (obsItem raw) = .ok e') (hpd : e.perDocument = false) :
    e'.perDocument = false ∧ e'.lim = e.lim ∧ e'.report.events = e.report.events + 1 ∧
      e'.report.events ≤ e.lim.maxEvents ∧
      e'.report.nodes = e.report.nodes + (if Spec.isNodeEv raw then 1 else 0) ∧
      (Spec.isNodeEv raw = true → e'.report.nodes ≤ e.lim.maxNodes) := by
  cases raw
  case alias id =>
    obtain ⟨a, b, c, d, f⟩ := observeAliasReplayed_counts (show e.observeAliasReplayed = .ok e' from h) hpd
    exact ⟨a, b, c, d, by simpa [Spec.isNodeEv] using f, by simp [Spec.isNodeEv]⟩
  all_goals exact observe_counts (show e.observe _ = .ok e' from h) hpd

theorem obs_some {enf : Enf} {raw : Raw} {bud : Option Enf} (h : obs (some enf) raw = .ok bud) :
    ∃ enf', obsStep enf (obsItem raw) = .ok enf' ∧ bud = some enf' :=
  ok_of_map_some ((obs_eq (some enf) raw).symm.trans h)

/-- the budget after zero or more observed non-node items -/
def EnfLe (a b : Enf) : Prop :=
  b.perDocument = a.perDocument ∧ b.lim = a.lim ∧ a.report.events ≤ b.report.events ∧ b.report.nodes = a.report.nodes

theorem EnfLe.refl (a : Enf) : EnfLe a a := ⟨rfl, rfl, Nat.le_refl _, rfl⟩

theorem EnfLe.trans {a b c : Enf} (h1 : EnfLe a b) (h2 : EnfLe b c) : EnfLe a c := by
  obtain ⟨a1, a2, a3, a4⟩ := h1
  obtain ⟨b1, b2, b3, b4⟩ := h2
  exact ⟨b1.trans a1, b2.trans a2, Nat.le_trans a3 b3, b4.trans a4⟩

theorem obs_nonnode {enf : Enf} {raw : Raw} {bud : Option Enf} (h : obs (some enf) raw = .ok bud)
    (hpd : enf.perDocument = false) (hn : Spec.isNodeEv raw = false) :
    ∃ enf', bud = some enf' ∧ EnfLe enf enf' ∧ enf.report.events + 1 ≤ enf'.report.events ∧
      enf'.report.events ≤ enf.lim.maxEvents := by
  obtain ⟨enf', ho, rfl⟩ := obs_some h
  obtain ⟨c1, c2, c3, c4, c5, -⟩ := obsItem_counts ho hpd
  refine ⟨enf', rfl, ⟨c1.trans hpd.symm, c2, by omega, by simp [c5, hn]⟩, by omega, c4⟩

theorem Skip1.budget {p q : Pump} (h : Skip1 p q) {enf : Enf} (hb : p.budget = some enf)
    (hpd : enf.perDocument = false) :
    (∃ enf', q.budget = some enf' ∧ EnfLe enf enf') ∧ q.producedAny = p.producedAny ∧
      q.synthesizedNull = p.synthesizedNull ∧ q.recursiveInProgress = p.recursiveInProgress := by
  cases h with
  | clear => exact ⟨⟨enf, hb, .refl enf⟩, rfl, rfl, rfl⟩
  | docStart x loc bud hob =>
    rw [hb] at hob
    obtain ⟨enf', rfl, hle, -⟩ := obs_nonnode hob hpd rfl
    exact ⟨⟨enf', rfl, hle⟩, rfl, rfl, rfl⟩
  | docEnd loc bud hob =>
    rw [hb] at hob
    obtain ⟨enf', rfl, hle, -⟩ := obs_nonnode hob hpd rfl
    exact ⟨⟨enf', rfl, hle⟩, rfl, rfl, rfl⟩
  | marker raw loc bud hraw hob =>
    rw [hb] at hob
    obtain ⟨enf', rfl, hle, -⟩ := obs_nonnode hob hpd (by rcases hraw with rfl | rfl | rfl <;> rfl)
    exact ⟨⟨enf', rfl, hle⟩, rfl, rfl, rfl⟩
  | alias id bud hob hc =>
    rw [hb] at hob
    obtain ⟨enf', rfl, hle, -⟩ := obs_nonnode hob hpd rfl
    exact ⟨⟨enf', rfl, hle⟩, rfl, rfl, rfl⟩

theorem Skips.budget {p q : Pump} (h : Skips p q) {enf : Enf} (hb : p.budget = some enf)
    (hpd : enf.perDocument = false) :
    (∃ enf', q.budget = some enf' ∧ EnfLe enf enf') ∧ q.producedAny = p.producedAny ∧
      q.synthesizedNull = p.synthesizedNull ∧ q.recursiveInProgress = p.recursiveInProgress := by
  induction h generalizing enf with
  | refl => exact ⟨⟨enf, hb, .refl enf⟩, rfl, rfl, rfl⟩
  | step h1 _ ih =>
    obtain ⟨⟨e1, hb1, hle1⟩, a1, a2, a3⟩ := h1.budget hb hpd
    obtain ⟨⟨e2, hb2, hle2⟩, b1, b2, b3⟩ := ih hb1 (hle1.1.trans hpd)
    exact ⟨⟨e2, hb2, hle1.trans hle2⟩, b1.trans a1, b2.trans a2, b3.trans a3⟩

/-- what a delivering step guarantees about the budget -/
def Observed (enf enf' : Enf) (e : Ev) (recursive : Prop) : Prop :=
  enf'.perDocument = false ∧ enf'.lim = enf.lim ∧ enf.report.events + 1 ≤ enf'.report.events ∧
    enf'.report.events ≤ enf.lim.maxEvents ∧
    ((enf'.report.nodes = enf.report.nodes + (if nodeEv e then 1 else 0) ∧
        (nodeEv e = true → enf'.report.nodes ≤ enf.lim.maxNodes)) ∨
      (recursive ∧ enf'.report.nodes = enf.report.nodes))

theorem Observed.of_le {a b c : Enf} {e : Ev} {R : Prop} (hab : EnfLe a b) (h : Observed b c e R) : Observed a c e R := by
  obtain ⟨-, l2, l3, l4⟩ := hab
  obtain ⟨o1, o2, o3, o4, o5⟩ := h
  refine ⟨o1, o2.trans l2, by omega, l2 ▸ o4, ?_⟩
  rw [← l2, ← l4]
  exact o5

theorem obs_observed {enf : Enf} {raw : Raw} {bud : Option Enf} (h : obs (some enf) raw = .ok bud)
    (hpd : enf.perDocument = false) {e : Ev} (hn : Spec.isNodeEv raw = nodeEv e) (R : Prop) :
    ∃ enf', bud = some enf' ∧ Observed enf enf' e R := by
  obtain ⟨enf', ho, rfl⟩ := obs_some h
  obtain ⟨c1, c2, c3, c4, c5, c6⟩ := obsItem_counts ho hpd
  exact ⟨enf', rfl, c1, c2, by omega, c4, .inl ⟨hn ▸ c5, fun h => c6 (hn.trans h)⟩⟩

theorem replayBud_observed {enf : Enf} {e : Ev} {bud' : Option Enf} (h : ReplayBud (some enf) e bud')
    (hpd : enf.perDocument = false) (R : Prop) : ∃ enf', bud' = some enf' ∧ Observed enf enf' e R := by
  obtain ⟨enf', ho, rfl⟩ := h
  obtain ⟨d1, d2, d3, d4, d5, d6⟩ := observe_counts ho hpd
  rw [isNodeEv_replayRaw] at d5 d6
  exact ⟨enf', rfl, d1, d2, by omega, d4, .inl ⟨d5, d6⟩⟩

theorem Deliver.budget {q p' : Pump} {e : Ev} (h : Deliver q e p') {enf : Enf} (hb : q.budget = some enf)
    (hpd : enf.perDocument = false) :
    (∃ enf', p'.budget = some enf' ∧ Observed enf enf' e (q.recursiveInProgress ≠ [])) ∧
      p'.producedAny = true ∧ p'.synthesizedNull = q.synthesizedNull ∧
      p'.recursiveInProgress = q.recursiveInProgress := by
  cases h with
  | scalar _ _ _ _ _ bud hob | seqStart _ _ _ bud hob | mapStart _ _ _ bud hob | seqEnd _ bud _ _ hob
  | mapEnd _ bud _ _ hob =>
    rw [hb] at hob
    exact ⟨obs_observed hob hpd rfl _, rfl, rfl, rfl⟩
  | placeholder id loc bud hob hc hrec =>
    -- the placeholder of a recursion wrapper is counted as an event, not as a node
    rw [hb] at hob
    obtain ⟨enf', rfl, ⟨c1, c2, c3, c4⟩, c5, c6⟩ := obs_nonnode hob hpd rfl
    refine ⟨⟨enf'.aliasOccupiesPosition, rfl, c1.trans hpd, c2, c5, c6, .inr ⟨?_, c4⟩⟩, rfl, rfl, rfl⟩
    intro hnil
    rw [hnil] at hrec
    cases hrec
  | replay id bud bud' inj ev hob hc htot hrb =>
    -- the alias item, then the event replayed at once
    rw [hb] at hob
    obtain ⟨enf1, rfl, hle, -⟩ := obs_nonnode hob hpd rfl
    obtain ⟨enf2, rfl, ho⟩ := replayBud_observed hrb (hle.1.trans hpd) _
    exact ⟨⟨enf2, rfl, ho.of_le hle⟩, rfl, rfl, rfl⟩
  | replay0 bud' inj ev htot hrb =>
    rw [hb] at hrb
    exact ⟨replayBud_observed hrb hpd _, rfl, rfl, rfl⟩

/-- one delivering `next_impl` call: either the event was observed, or it is the synthesized null of an empty stream
(the first and last event) -/
theorem nextImpl_budget (p : Pump) (inp : List RawItem) (e : Ev) (p' : Pump) (rest : List RawItem) (enf : Enf)
    (hb : p.budget = some enf) (hpd : enf.perDocument = false)
    (h : nextImpl p inp = (.event e, p', rest)) :
    p'.recursiveInProgress = p.recursiveInProgress ∧ p'.producedAny = true ∧
    ((∃ enf', p'.budget = some enf' ∧ Observed enf enf' e (p.recursiveInProgress ≠ []) ∧
        p'.synthesizedNull = p.synthesizedNull) ∨
      (p.producedAny = false ∧ p'.synthesizedNull = true ∧ rest = [] ∧ p'.inject = [] ∧
        (∃ loc, e = .scalar [] 4 none .plain 0 loc) ∧ ∃ enf', p'.budget = some enf' ∧ EnfLe enf enf')) := by
  obtain ⟨q, hsk, hfin⟩ := nextImpl_event p inp e p' rest h
  obtain ⟨⟨e1, hb1, hle1⟩, a1, a2, a3⟩ := hsk.budget hb hpd
  rcases hfin with ⟨⟨hpa, rfl, rfl, rfl⟩, hinj⟩ | hd
  · exact ⟨a3, rfl, .inr ⟨a1 ▸ hpa, rfl, rfl, hinj, ⟨_, rfl⟩, e1, hb1, hle1⟩⟩
  · obtain ⟨⟨e2, hb2, ho⟩, b1, b2, b3⟩ := hd.budget hb1 (hle1.1.trans hpd)
    exact ⟨b3.trans a3, b1, .inl ⟨e2, hb2, a3 ▸ ho.of_le hle1, b2.trans a2⟩⟩

end SaphyrVerif.Lemmas.C08
