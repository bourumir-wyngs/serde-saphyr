import SaphyrVerif.Lemmas.C11_DeserLe
/-!
The functions of the mutual block of the typed deserializer only move
their cursor forward (an instance of the lock-step pass `Lock.lA`, see `Lemmas/C11_DeserLe.lean`).
-/
namespace SaphyrVerif.Lemmas.C11
open SaphyrVerif SaphyrVerif.Scalars SaphyrVerif.Pump SaphyrVerif.De

structure AllLe (n : Nat) : Prop where
  capture : ∀ c, RLe c (capture n c)
  captureSeq : ∀ c fps evs, RLe c (captureSeq n c fps evs)
  captureMap : ∀ c fps evs, RLe c (captureMap n c fps evs)
  mergeSeqBatches : ∀ c bs, RLe c (mergeSeqBatches n c bs)
  pendingFromLive : ∀ c l, RLe c (pendingFromLive n c l)
  collectEntriesFromMap : ∀ c l, RLe c (collectEntriesFromMap n c l)
  collectLoop : ∀ c l fs ms, RLe c (collectLoop n c l fs ms)
  skipOneNode : ∀ c, RLe c (skipOneNode n c)
  skipDepth : ∀ c d, RLe c (skipDepth n c d)
  deser : ∀ cfg ty ik k c, RLe c (deser n cfg ty ik k c)
  bytesLoop : ∀ cfg c acc, RLe c (bytesLoop n cfg c acc)
  deserSeqLike : ∀ cfg sh c, RLe c (deserSeqLike n cfg sh c)
  seqElems : ∀ cfg t c acc, RLe c (seqElems n cfg t c acc)
  tupleElems : ∀ cfg ts c acc, RLe c (tupleElems n cfg ts c acc)
  deserMapLike : ∀ cfg sh c, RLe c (deserMapLike n cfg sh c)
  mapEntries : ∀ cfg kt vt c m acc, RLe c (mapEntries n cfg kt vt c m acc)
  structEntries : ∀ cfg fields deny c m acc, RLe c (structEntries n cfg fields deny c m acc)
  nextKey : ∀ cfg ks c m, RLe c (nextKey n cfg ks c m)
  nextValue : ∀ cfg vt c m, RLe c (nextValue n cfg vt c m)
  deserEnum : ∀ cfg name vs c, RLe c (deserEnum n cfg name vs c)
  collectTaggedSeq : ∀ c d acc, RLe c (collectTaggedSeq n c d acc)
  variantPayload : ∀ cfg vs vn vl mm tg c, RLe c (variantPayload n cfg vs vn vl mm tg c)

theorem allLe (n : Nat) : AllLe n where
  capture c := rle_of_lr ((Lock.lA (leLP_closed c) n).capture (Le.refl c))
  captureSeq c fps evs := rle_of_lr ((Lock.lA (leLP_closed c) n).captureSeq fps evs (Le.refl c))
  captureMap c fps evs := rle_of_lr ((Lock.lA (leLP_closed c) n).captureMap fps evs (Le.refl c))
  mergeSeqBatches c bs := rle_of_lr ((Lock.lA (leLP_closed c) n).mergeSeqBatches bs (Le.refl c))
  pendingFromLive c l := rle_of_lr ((Lock.lA (leLP_closed c) n).pendingFromLive l (Le.refl c))
  collectEntriesFromMap c l := rle_of_lr ((Lock.lA (leLP_closed c) n).collectEntriesFromMap l (Le.refl c))
  collectLoop c l fs ms := rle_of_lr ((Lock.lA (leLP_closed c) n).collectLoop l fs ms (Le.refl c))
  skipOneNode c := rle_of_lr ((Lock.lA (leLP_closed c) n).skipOneNode (Le.refl c))
  skipDepth c d := rle_of_lr ((Lock.lA (leLP_closed c) n).skipDepth d (Le.refl c))
  deser cfg ty ik k c := rle_of_lr ((Lock.lA (leLP_closed c) n).deser cfg ty ik k (Le.refl c))
  bytesLoop cfg c acc := rle_of_lr ((Lock.lA (leLP_closed c) n).bytesLoop cfg acc (Le.refl c))
  deserSeqLike cfg sh c := rle_of_lr ((Lock.lA (leLP_closed c) n).deserSeqLike cfg sh (Le.refl c))
  seqElems cfg t c acc := rle_of_lr ((Lock.lA (leLP_closed c) n).seqElems cfg t acc (Le.refl c))
  tupleElems cfg ts c acc := rle_of_lr ((Lock.lA (leLP_closed c) n).tupleElems cfg ts acc (Le.refl c))
  deserMapLike cfg sh c := rle_of_lr ((Lock.lA (leLP_closed c) n).deserMapLike cfg sh (Le.refl c))
  mapEntries cfg kt vt c m acc := rle_of_lr ((Lock.lA (leLP_closed c) n).mapEntries cfg kt vt m acc (Le.refl c))
  structEntries cfg fields deny c m acc :=
    rle_of_lr ((Lock.lA (leLP_closed c) n).structEntries cfg fields deny m acc (Le.refl c))
  nextKey cfg ks c m := rle_of_lr ((Lock.lA (leLP_closed c) n).nextKey cfg ks m (Le.refl c))
  nextValue cfg vt c m := rle_of_lr ((Lock.lA (leLP_closed c) n).nextValue cfg vt m (Le.refl c))
  deserEnum cfg name vs c := rle_of_lr ((Lock.lA (leLP_closed c) n).deserEnum cfg name vs (Le.refl c))
  collectTaggedSeq c d acc := rle_of_lr ((Lock.lA (leLP_closed c) n).collectTaggedSeq d acc (Le.refl c))
  variantPayload cfg vs vn vl mm tg c :=
    rle_of_lr ((Lock.lA (leLP_closed c) n).variantPayload cfg vs vn vl mm tg (Le.refl c))

end SaphyrVerif.Lemmas.C11
