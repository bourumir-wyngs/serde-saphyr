import SaphyrVerif.Lemmas.CurSim
import SaphyrVerif.Lemmas.DeEqns
/-!
The statement `SimA` of the cursor simulation: every function of the mutual block of `Model/De.lean` maps `Sim`-related
cursors (and map-access states equal up to reference locations) to results related by `RV`
(same value / related state, `Sim`-related cursors, or both fail); what the proof needs to know about related map-access
states.  The proof is the guarded simulation of `Lemmas/GSim*.lean` without a frame (`Lemmas/CurSimMain.lean`).
-/
namespace SaphyrVerif.Lemmas.CurSim
open SaphyrVerif SaphyrVerif.Scalars SaphyrVerif.Pump SaphyrVerif.De

/-- result of `nextKey`: same step, states equal up to reference locations -/
def KM (a b : KeyStep × MA) : Prop := a.1 = b.1 ∧ MRel a.2 b.2
/-- result of `nextValue` -/
def VM (a b : Val × MA) : Prop := a.1 = b.1 ∧ MRel a.2 b.2

theorem MRel.cases {m m' : MA} (h : MRel m m') :
    ∃ hk seen p p' ms ms' fl pv pv', m = ⟨hk, seen, p, ms, fl, pv⟩ ∧ m' = ⟨hk, seen, p', ms', fl, pv'⟩ ∧
      PL p p' ∧ PLL ms ms' ∧ pv.map (·.1) = pv'.map (·.1) := by
  obtain ⟨hk, seen, p, ms, fl, pv⟩ := m
  obtain ⟨hk', seen', p', ms', fl', pv'⟩ := m'
  simp only [MRel, er, MAe.mk.injEq] at h
  obtain ⟨rfl, rfl, hp, hms, rfl, hpv⟩ := h
  exact ⟨_, _, _, _, _, _, _, _, _, rfl, rfl, hp, hms, hpv⟩

structure SimA (fuel : Nat) : Prop where
  capture : ∀ {c c'}, Sim c c' → RV Eq (De.capture fuel c) (De.capture fuel c')
  captureSeq : ∀ fps evs {c c'}, Sim c c' → RV Eq (De.captureSeq fuel c fps evs) (De.captureSeq fuel c' fps evs)
  captureMap : ∀ fps evs {c c'}, Sim c c' → RV Eq (De.captureMap fuel c fps evs) (De.captureMap fuel c' fps evs)
  pendingFromEvents : ∀ events loc loc' ref ref',
    EV PL (De.pendingFromEvents fuel events loc ref) (De.pendingFromEvents fuel events loc' ref')
  mergeSeqBatches : ∀ {b b' c c'}, Sim c c' → PLL b b' →
    RV PLL (De.mergeSeqBatches fuel c b) (De.mergeSeqBatches fuel c' b')
  pendingFromLive : ∀ r r' {c c'}, Sim c c' → RV PL (De.pendingFromLive fuel c r) (De.pendingFromLive fuel c' r')
  collectEntriesFromMap : ∀ r r' {c c'}, Sim c c' →
    RV PL (De.collectEntriesFromMap fuel c r) (De.collectEntriesFromMap fuel c' r')
  collectLoop : ∀ r r' {f f' m m' c c'}, Sim c c' → PL f f' → PLL m m' →
    RV PL (De.collectLoop fuel c r f m) (De.collectLoop fuel c' r' f' m')
  skipOneNode : ∀ {c c'}, Sim c c' → RV Eq (De.skipOneNode fuel c) (De.skipOneNode fuel c')
  skipDepth : ∀ depth {c c'}, Sim c c' → RV Eq (De.skipDepth fuel c depth) (De.skipDepth fuel c' depth)
  deser : ∀ cfg ty ik km {c c'}, Sim c c' → RV Eq (De.deser fuel cfg ty ik km c) (De.deser fuel cfg ty ik km c')
  bytesLoop : ∀ cfg acc {c c'}, Sim c c' → RV Eq (De.bytesLoop fuel cfg c acc) (De.bytesLoop fuel cfg c' acc)
  deserSeqLike : ∀ cfg shape {c c'}, Sim c c' →
    RV Eq (De.deserSeqLike fuel cfg shape c) (De.deserSeqLike fuel cfg shape c')
  seqElems : ∀ cfg t acc {c c'}, Sim c c' → RV Eq (De.seqElems fuel cfg t c acc) (De.seqElems fuel cfg t c' acc)
  tupleElems : ∀ cfg ts acc {c c'}, Sim c c' →
    RV Eq (De.tupleElems fuel cfg ts c acc) (De.tupleElems fuel cfg ts c' acc)
  deserMapLike : ∀ cfg shape {c c'}, Sim c c' →
    RV Eq (De.deserMapLike fuel cfg shape c) (De.deserMapLike fuel cfg shape c')
  mapEntries : ∀ cfg kt vt acc {c c' m m'}, Sim c c' → MRel m m' →
    RV Eq (De.mapEntries fuel cfg kt vt c m acc) (De.mapEntries fuel cfg kt vt c' m' acc)
  structEntries : ∀ cfg fields deny acc {c c' m m'}, Sim c c' → MRel m m' →
    RV Eq (De.structEntries fuel cfg fields deny c m acc) (De.structEntries fuel cfg fields deny c' m' acc)
  nextKey : ∀ cfg ks {c c' m m'}, Sim c c' → MRel m m' →
    RV KM (De.nextKey fuel cfg ks c m) (De.nextKey fuel cfg ks c' m')
  nextValue : ∀ cfg vt {c c' m m'}, Sim c c' → MRel m m' →
    RV VM (De.nextValue fuel cfg vt c m) (De.nextValue fuel cfg vt c' m')
  deserEnum : ∀ cfg name variants {c c'}, Sim c c' →
    RV Eq (De.deserEnum fuel cfg name variants c) (De.deserEnum fuel cfg name variants c')
  collectTaggedSeq : ∀ depth acc {c c'}, Sim c c' →
    RV Eq (De.collectTaggedSeq fuel c depth acc) (De.collectTaggedSeq fuel c' depth acc)
  variantPayload : ∀ cfg variants vname vloc mapMode tagged {c c'}, Sim c c' →
    RV Eq (De.variantPayload fuel cfg variants vname vloc mapMode tagged c)
      (De.variantPayload fuel cfg variants vname vloc mapMode tagged c')

theorem MRel.mk' {hk : Bool} {seen : List FP} {p p' : List PendingEntry} {ms ms' : List (List PendingEntry)}
    {fl : Bool} {pv pv' : Option (List Ev × Loc)} (hp : PL p p') (hms : PLL ms ms')
    (hpv : pv.map (·.1) = pv'.map (·.1)) : MRel ⟨hk, seen, p, ms, fl, pv⟩ ⟨hk, seen, p', ms', fl, pv'⟩ := by
  simp only [MRel, er, MAe.mk.injEq, true_and]
  exact ⟨hp, hms, hpv⟩

theorem enqGo_rel {s s' : List (List PendingEntry)} (h : PLL s s') :
    (enqueueNextMergeBatch.go s).1 = (enqueueNextMergeBatch.go s').1 ∧
    PL (enqueueNextMergeBatch.go s).2.1 (enqueueNextMergeBatch.go s').2.1 ∧
    PLL (enqueueNextMergeBatch.go s).2.2 (enqueueNextMergeBatch.go s').2.2 := by
  induction s generalizing s' with
  | nil =>
    rw [h.nil_left]
    exact ⟨rfl, PL.refl _, PLL.refl _⟩
  | cons b rest ih =>
    obtain ⟨b', rest', rfl, hb, hr⟩ := h.cons_left
    simp only [enqueueNextMergeBatch.go]
    rw [← hb.isEmpty]
    cases b.isEmpty with
    | true => simpa using ih hr
    | false => exact ⟨rfl, hb, hr⟩

/-- `enqueue_next_merge_batch` finds a batch on both sides or on neither, and keeps the states related -/
theorem enq_rel {m m' : MA} (h : MRel m m') :
    (enqueueNextMergeBatch m).1 = (enqueueNextMergeBatch m').1 ∧
    MRel (enqueueNextMergeBatch m).2 (enqueueNextMergeBatch m').2 := by
  obtain ⟨hk, seen, pend, ms, fl, pv⟩ := m
  obtain ⟨hk', seen', pend', ms', fl', pv'⟩ := m'
  simp only [MRel, er, MAe.mk.injEq] at h
  obtain ⟨rfl, rfl, hp, hms, rfl, hpv⟩ := h
  obtain ⟨h1, h2, h3⟩ := enqGo_rel (s := ms) (s' := ms') hms
  simp only [enqueueNextMergeBatch]
  refine ⟨h1, ?_⟩
  simp only [MRel, er, MAe.mk.injEq, List.map_append, true_and]
  exact ⟨by rw [show List.map kv _ = List.map kv _ from h2, hp], h3, hpv⟩

/-- duplicate detection only looks at the fingerprints seen so far (stated as a proper rewrite rule: the
`Decidable` instances of the `if`s it occurs in have to follow) -/
theorem seenContains_mk (hk : Bool) (seen : List FP) (p : List PendingEntry) (ms : List (List PendingEntry))
    (fl : Bool) (pv : Option (List Ev × Loc)) (fp : FP) :
    MA.seenContains ⟨hk, seen, p, ms, fl, pv⟩ fp = seen.any (· == fp) := by
  simp only [MA.seenContains]
theorem act0_eq1 : ((0 : Nat) == 1) = false := De.act0_eq1
theorem act0_eq2 : ((0 : Nat) == 2) = false := De.act0_eq2

end SaphyrVerif.Lemmas.CurSim
