import SaphyrVerif.Model.De
import SaphyrVerif.Lemmas.C04_Capture
/-!
Helper lemmas for C01: progress of the recovery loop, the scalar arm of `capture`, radix slicing.  (Progress of the pump
itself is `Loop.progress`, `Lemmas/PumpEqns.lean`.)
-/
namespace SaphyrVerif.Lemmas.C01
open SaphyrVerif SaphyrVerif.Scalars SaphyrVerif.Pump SaphyrVerif.Budget

theorem skipLoop_progress (p : Pump) (inp : List RawItem) :
    ∃ consumed, inp = consumed ++ (skipLoop p inp).2.2 ∧ (consumed = [] → inp = []) := by
  fun_induction skipLoop p inp
  all_goals first
    | exact ⟨[], rfl, fun _ => rfl⟩
    | exact ⟨[_], rfl, fun h => nomatch h⟩
    | (rename_i hb; rw [hb]; exact ⟨[_], rfl, fun h => nomatch h⟩)
    | (rename_i ih; obtain ⟨c, h1, -⟩ := ih; exact ⟨_ :: c, congrArg (_ :: ·) h1, fun h => nomatch h⟩)

theorem capture_scalar (fuel : Nat) (c c' : De.Cur) (k : De.KeyNode) (v : List Char) (tag : Nat)
    (h : De.capture fuel c = .ok k c') (hfp : k.fp = .scalar v tag) :
    ∃ rt st a l, k.events = [.scalar v tag rt st a l] := by
  cases fuel with
  | zero => cases h
  | succ fuel =>
    match hn : c.next with
    | .err _ _ | .ok none _ => rw [De.capture, hn] at h; cases h
    | .ok (some ev) c1 =>
      -- of the arms of `capture_succ` only the scalar one answers a scalar fingerprint, and it records the one event
      rw [C04.capture_succ hn] at h
      cases ev with
      | scalar v' tag' rt st a l => cases h; cases hfp; exact ⟨rt, st, a, l, rfl⟩
      | seqStart | mapStart =>
        simp only at h
        split at h
        · cases h
        · cases h; cases hfp
      | seqEnd | mapEnd => cases h

theorem radix_eight (rest : List Char) (r : Nat) (ds : List Char)
    (h : radixAndDigits true rest = (r, ds)) (h8 : r = 8) :
    (∃ t, rest = '0' :: 'o' :: t) ∨ (∃ t, rest = '0' :: 'O' :: t) ∨ (∃ t, rest = '0' :: '0' :: t) := by
  subst h8
  unfold radixAndDigits at h
  split at h <;> simp_all

end SaphyrVerif.Lemmas.C01
