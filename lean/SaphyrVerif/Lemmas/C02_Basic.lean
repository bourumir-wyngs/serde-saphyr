import SaphyrVerif.Spec.Expand
/-!
Helper lemmas for C02: runs of `nextImpl` (`Steps`, `Stops`, `Ends`) and their connection to
`pumpAll` (append / fuel monotonicity / determinism).
-/
namespace SaphyrVerif.Lemmas.C02
open SaphyrVerif SaphyrVerif.Scalars SaphyrVerif.Pump SaphyrVerif.Spec

theorem pumpAll_fuel_mono (fuel k : Nat) (p : Pump) (inp : List RawItem) (acc : List Ev) (x)
    (h : pumpAll fuel p inp acc = some x) : pumpAll (fuel + k) p inp acc = some x := by
  induction fuel generalizing p inp acc with
  | zero => simp [pumpAll] at h
  | succ n ih =>
    rw [show n + 1 + k = (n + k) + 1 by omega]
    simp only [pumpAll] at h ⊢
    rcases hn : nextImpl p inp with ⟨s, p', rest⟩
    rw [hn] at h
    cases s with
    | event e => exact ih _ _ _ h
    | eof => exact h
    | error e => exact h

theorem pumpAll_det {f1 f2 : Nat} {p : Pump} {inp : List RawItem} {acc : List Ev} {x y}
    (h1 : pumpAll f1 p inp acc = some x) (h2 : pumpAll f2 p inp acc = some y) : x = y := by
  have a := pumpAll_fuel_mono f1 f2 p inp acc x h1
  have b := pumpAll_fuel_mono f2 f1 p inp acc y h2
  rw [Nat.add_comm] at b
  rw [a] at b
  exact Option.some.inj b

/-- `Steps p inp es p' inp'`: pulling `nextImpl` `es.length` times from `(p, inp)` delivers the events
`es` (one per call) and reaches `(p', inp')`. -/
inductive Steps : Pump → List RawItem → List Ev → Pump → List RawItem → Prop
  | refl (p : Pump) (inp : List RawItem) : Steps p inp [] p inp
  | cons {p : Pump} {inp : List RawItem} {e : Ev} {p1 : Pump} {inp1 : List RawItem} {es : List Ev}
      {p2 : Pump} {inp2 : List RawItem} :
      nextImpl p inp = (.event e, p1, inp1) → Steps p1 inp1 es p2 inp2 → Steps p inp (e :: es) p2 inp2

theorem Steps.trans {p inp es1 p1 inp1 es2 p2 inp2} (h1 : Steps p inp es1 p1 inp1)
    (h2 : Steps p1 inp1 es2 p2 inp2) : Steps p inp (es1 ++ es2) p2 inp2 := by
  induction h1 with
  | refl => simpa using h2
  | cons hn _ ih => exact Steps.cons hn (ih h2)

theorem Steps.one {p inp e p1 inp1} (h : nextImpl p inp = (.event e, p1, inp1)) :
    Steps p inp [e] p1 inp1 := Steps.cons h (Steps.refl _ _)

theorem Steps.snoc {p inp es p1 inp1 e p2 inp2} (h1 : Steps p inp es p1 inp1)
    (h : nextImpl p1 inp1 = (.event e, p2, inp2)) : Steps p inp (es ++ [e]) p2 inp2 :=
  h1.trans (Steps.one h)

theorem Steps.of_eq {p inp q inq es p' inp'} (h : nextImpl p inp = nextImpl q inq)
    (hs : Steps q inq es p' inp') (hne : es ≠ []) : Steps p inp es p' inp' := by
  cases hs with
  | refl => exact absurd rfl hne
  | cons hn hr => exact Steps.cons (h.trans hn) hr

def Stops (p : Pump) (inp : List RawItem) (es : List Ev) (err : PErr) (p' : Pump) : Prop :=
  ∃ p1 inp1 inp2, Steps p inp es p1 inp1 ∧ nextImpl p1 inp1 = (.error err, p', inp2)

def Ends (p : Pump) (inp : List RawItem) (es : List Ev) (p' : Pump) : Prop :=
  ∃ p1 inp1 inp2, Steps p inp es p1 inp1 ∧ nextImpl p1 inp1 = (.eof, p', inp2)

theorem Stops.now {p inp err p' inp2} (h : nextImpl p inp = (.error err, p', inp2)) :
    Stops p inp [] err p' := ⟨p, inp, inp2, Steps.refl _ _, h⟩

theorem Stops.after {p inp es1 p1 inp1 es2 err p'} (h1 : Steps p inp es1 p1 inp1)
    (h2 : Stops p1 inp1 es2 err p') : Stops p inp (es1 ++ es2) err p' := by
  obtain ⟨q, inq, inq2, hs, hn⟩ := h2
  exact ⟨q, inq, inq2, h1.trans hs, hn⟩

theorem Stops.of_eq {p inp q inq es err p'} (h : nextImpl p inp = nextImpl q inq)
    (hs : Stops q inq es err p') : Stops p inp es err p' := by
  obtain ⟨q1, inq1, inq2, hs, hn⟩ := hs
  cases hs with
  | refl => exact ⟨p, inp, inq2, Steps.refl _ _, h.trans hn⟩
  | cons hn1 hr => exact ⟨q1, inq1, inq2, Steps.cons (h.trans hn1) hr, hn⟩

theorem Ends.of_eq {p inp q inq es p'} (h : nextImpl p inp = nextImpl q inq)
    (hs : Ends q inq es p') : Ends p inp es p' := by
  obtain ⟨q1, inq1, inq2, hs, hn⟩ := hs
  cases hs with
  | refl => exact ⟨p, inp, inq2, Steps.refl _ _, h.trans hn⟩
  | cons hn1 hr => exact ⟨q1, inq1, inq2, Steps.cons (h.trans hn1) hr, hn⟩

theorem pumpAll_steps {p inp es p' inp'} (h : Steps p inp es p' inp') (f : Nat) (acc : List Ev) :
    pumpAll (es.length + f) p inp acc = pumpAll f p' inp' (es.reverse ++ acc) := by
  induction h generalizing acc with
  | refl => simp
  | @cons p inp e p1 inp1 es p2 inp2 hn _ ih =>
    rw [show (e :: es).length + f = (es.length + f) + 1 by simp; omega]
    simp only [pumpAll, hn]
    rw [ih]
    simp

theorem pumpAll_stops {p inp es err p'} (h : Stops p inp es err p') :
    pumpAll (es.length + 1) p inp [] = some (es, some err, p') := by
  obtain ⟨q, inq, inq2, hs, hn⟩ := h
  rw [pumpAll_steps hs]
  simp [pumpAll, hn]

theorem pumpAll_ends {p inp es p'} (h : Ends p inp es p') :
    pumpAll (es.length + 1) p inp [] = some (es, none, p') := by
  obtain ⟨q, inq, inq2, hs, hn⟩ := h
  rw [pumpAll_steps hs]
  simp [pumpAll, hn]

theorem run_of_ends {p : Pump} {inp : List RawItem} {es : List Ev} {q : Pump} (he : Ends p inp es q)
    {fuel : Nat} {x} (h : pumpAll fuel p inp [] = some x) : x = (es, none, q) :=
  pumpAll_det h (pumpAll_ends he)

theorem run_of_stops {p : Pump} {inp : List RawItem} {es : List Ev} {err : PErr} {q : Pump}
    (hs : Stops p inp es err q) {fuel : Nat} {x} (h : pumpAll fuel p inp [] = some x) :
    x = (es, some err, q) :=
  pumpAll_det h (pumpAll_stops hs)

end SaphyrVerif.Lemmas.C02
