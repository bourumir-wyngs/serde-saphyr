import SaphyrVerif.Model.De
/-!
Replay cursors (`Cur.replay buf idx ref`): `Cur.next`, `Cur.peek`, `Cur.lastLoc`, `Cur.refLoc` are list
lookups.  Two equivalent ways of saying "the cursor stands in front of `e :: tl`" are supported:

* `buf.drop idx = e :: tl` (the `_of_drop` lemmas; convenient for inductions, use `drop_add_of_drop_eq_append`
  / `drop_succ_of_drop_eq_cons` to move the position), and
* `buf = pre ++ e :: tl`, `idx = pre.length` (`next_replay_append`, …: `@[simp]`, except `peek_replay_append` /
  `peek_replay_end` — `simp` turns `peek` into the lookup by `peek_replay` first — and `refLoc_replay_none_end_append`).
-/
namespace SaphyrVerif.Lemmas.Cursor
open SaphyrVerif SaphyrVerif.Pump SaphyrVerif.De

theorem getElem?_of_drop_eq_cons {α} {buf : List α} {idx : Nat} {e : α} {tl : List α}
    (h : buf.drop idx = e :: tl) : buf[idx]? = some e := by
  have h1 : (buf.drop idx)[0]? = some e := by rw [h]; rfl
  simpa [List.getElem?_drop] using h1

theorem drop_succ_of_drop_eq_cons {α} {buf : List α} {idx : Nat} {e : α} {tl : List α}
    (h : buf.drop idx = e :: tl) : buf.drop (idx + 1) = tl := by
  have h1 : (buf.drop idx).drop 1 = tl := by rw [h]; rfl
  simpa [List.drop_drop] using h1

theorem drop_add_of_drop_eq_append {α} {buf : List α} {idx : Nat} {xs tl : List α}
    (h : buf.drop idx = xs ++ tl) : buf.drop (idx + xs.length) = tl := by
  have h1 : (buf.drop idx).drop xs.length = tl := by rw [h]; simp
  simpa [List.drop_drop] using h1

theorem getElem?_of_drop_eq_nil {α} {buf : List α} {idx : Nat} (h : buf.drop idx = []) : buf[idx]? = none := by
  have h1 : buf.length ≤ idx := by simpa using h
  simp [h1]

theorem drop_length_append {α} (pre tl : List α) : (pre ++ tl).drop pre.length = tl := by simp

theorem drop_length_append_append {α} (pre xs tl : List α) : (pre ++ xs ++ tl).drop pre.length = xs ++ tl := by
  simp [List.append_assoc]

theorem getElem?_append_cons {α} (pre : List α) (e : α) (tl : List α) : (pre ++ e :: tl)[pre.length]? = some e := by
  simp

theorem next_replay (buf : List Ev) (idx : Nat) (ref : Option Loc) :
    Cur.next (.replay buf idx ref) =
      match buf[idx]? with
      | some e => .ok (some e) (.replay buf (idx + 1) ref)
      | none => .ok none (.replay buf idx ref) := rfl

theorem next_replay_of_getElem? {buf : List Ev} {idx : Nat} {e : Ev} (ref : Option Loc) (h : buf[idx]? = some e) :
    Cur.next (.replay buf idx ref) = .ok (some e) (.replay buf (idx + 1) ref) := by
  simp [Cur.next, h]

theorem next_replay_of_getElem?_none {buf : List Ev} {idx : Nat} (ref : Option Loc) (h : buf[idx]? = none) :
    Cur.next (.replay buf idx ref) = .ok none (.replay buf idx ref) := by
  simp [Cur.next, h]

theorem next_replay_of_drop {buf : List Ev} {idx : Nat} {e : Ev} {tl : List Ev} (ref : Option Loc)
    (h : buf.drop idx = e :: tl) :
    Cur.next (.replay buf idx ref) = .ok (some e) (.replay buf (idx + 1) ref) :=
  next_replay_of_getElem? ref (getElem?_of_drop_eq_cons h)

theorem next_replay_of_drop_nil {buf : List Ev} {idx : Nat} (ref : Option Loc) (h : buf.drop idx = []) :
    Cur.next (.replay buf idx ref) = .ok none (.replay buf idx ref) :=
  next_replay_of_getElem?_none ref (getElem?_of_drop_eq_nil h)

@[simp] theorem next_replay_append (pre : List Ev) (e : Ev) (tl : List Ev) (ref : Option Loc) :
    Cur.next (.replay (pre ++ e :: tl) pre.length ref) = .ok (some e) (.replay (pre ++ e :: tl) (pre.length + 1) ref) :=
  next_replay_of_getElem? ref (getElem?_append_cons pre e tl)

@[simp] theorem next_replay_cons_zero (e : Ev) (tl : List Ev) (ref : Option Loc) :
    Cur.next (.replay (e :: tl) 0 ref) = .ok (some e) (.replay (e :: tl) 1 ref) := rfl

@[simp] theorem next_replay_end (buf : List Ev) (ref : Option Loc) :
    Cur.next (.replay buf buf.length ref) = .ok none (.replay buf buf.length ref) :=
  next_replay_of_getElem?_none ref (by simp)

@[simp] theorem next_replay_nil (idx : Nat) (ref : Option Loc) :
    Cur.next (.replay [] idx ref) = .ok none (.replay [] idx ref) := rfl

@[simp] theorem peek_replay (buf : List Ev) (idx : Nat) (ref : Option Loc) :
    Cur.peek (.replay buf idx ref) = .ok buf[idx]? (.replay buf idx ref) := rfl

theorem peek_replay_of_getElem? {buf : List Ev} {idx : Nat} {e : Ev} (ref : Option Loc) (h : buf[idx]? = some e) :
    Cur.peek (.replay buf idx ref) = .ok (some e) (.replay buf idx ref) := by
  simp [Cur.peek, h]

theorem peek_replay_of_drop {buf : List Ev} {idx : Nat} {e : Ev} {tl : List Ev} (ref : Option Loc)
    (h : buf.drop idx = e :: tl) :
    Cur.peek (.replay buf idx ref) = .ok (some e) (.replay buf idx ref) :=
  peek_replay_of_getElem? ref (getElem?_of_drop_eq_cons h)

theorem peek_replay_of_drop_nil {buf : List Ev} {idx : Nat} (ref : Option Loc) (h : buf.drop idx = []) :
    Cur.peek (.replay buf idx ref) = .ok none (.replay buf idx ref) := by
  simp [Cur.peek, getElem?_of_drop_eq_nil h]

theorem peek_replay_append (pre : List Ev) (e : Ev) (tl : List Ev) (ref : Option Loc) :
    Cur.peek (.replay (pre ++ e :: tl) pre.length ref) = .ok (some e) (.replay (pre ++ e :: tl) pre.length ref) :=
  peek_replay_of_getElem? ref (getElem?_append_cons pre e tl)

theorem peek_replay_end (buf : List Ev) (ref : Option Loc) :
    Cur.peek (.replay buf buf.length ref) = .ok none (.replay buf buf.length ref) := by
  simp [Cur.peek]

theorem peek_replay_cur (buf : List Ev) (idx : Nat) (ref : Option Loc) :
    ∃ o, Cur.peek (.replay buf idx ref) = .ok o (.replay buf idx ref) := ⟨_, rfl⟩

theorem next_replay_ok (buf : List Ev) (idx : Nat) (ref : Option Loc) :
    ∃ o idx', Cur.next (.replay buf idx ref) = .ok o (.replay buf idx' ref) := by
  simp only [Cur.next]
  cases buf[idx]? with
  | none => exact ⟨_, _, rfl⟩
  | some e => exact ⟨_, _, rfl⟩

theorem lastLoc_replay (buf : List Ev) (idx : Nat) (ref : Option Loc) :
    Cur.lastLoc (.replay buf idx ref) = match buf[idx - 1]? with
      | some e => e.loc
      | none => 0 := rfl

@[simp] theorem lastLoc_replay_append_succ (pre : List Ev) (e : Ev) (tl : List Ev) (ref : Option Loc) :
    Cur.lastLoc (.replay (pre ++ e :: tl) (pre.length + 1) ref) = e.loc := by
  simp [Cur.lastLoc]

theorem lastLoc_replay_succ_of_drop {buf : List Ev} {idx : Nat} {e : Ev} {tl : List Ev} (ref : Option Loc)
    (h : buf.drop idx = e :: tl) : Cur.lastLoc (.replay buf (idx + 1) ref) = e.loc := by
  simp [Cur.lastLoc, getElem?_of_drop_eq_cons h]

@[simp] theorem lastLoc_replay_nil (idx : Nat) (ref : Option Loc) : Cur.lastLoc (.replay [] idx ref) = 0 := rfl

@[simp] theorem refLoc_replay_some (buf : List Ev) (idx : Nat) (l : Loc) :
    Cur.refLoc (.replay buf idx (some l)) = l := rfl

theorem refLoc_replay_none (buf : List Ev) (idx : Nat) :
    Cur.refLoc (.replay buf idx none) = match buf[idx]? with
      | some e => e.loc
      | none => match buf[idx - 1]? with
        | some e => e.loc
        | none => 0 := rfl

theorem refLoc_replay_none_of_getElem? {buf : List Ev} {idx : Nat} {e : Ev} (h : buf[idx]? = some e) :
    Cur.refLoc (.replay buf idx none) = e.loc := by
  simp [Cur.refLoc, h]

theorem refLoc_replay_none_of_drop {buf : List Ev} {idx : Nat} {e : Ev} {tl : List Ev}
    (h : buf.drop idx = e :: tl) : Cur.refLoc (.replay buf idx none) = e.loc :=
  refLoc_replay_none_of_getElem? (getElem?_of_drop_eq_cons h)

@[simp] theorem refLoc_replay_none_append (pre : List Ev) (e : Ev) (tl : List Ev) :
    Cur.refLoc (.replay (pre ++ e :: tl) pre.length none) = e.loc :=
  refLoc_replay_none_of_getElem? (getElem?_append_cons pre e tl)

@[simp] theorem refLoc_replay_none_cons_zero (e : Ev) (tl : List Ev) :
    Cur.refLoc (.replay (e :: tl) 0 none) = e.loc := rfl

@[simp] theorem refLoc_replay_none_nil (idx : Nat) : Cur.refLoc (.replay [] idx none) = 0 := rfl

theorem refLoc_replay_none_end_append (pre : List Ev) (e : Ev) :
    Cur.refLoc (.replay (pre ++ [e]) (pre.length + 1) none) = e.loc := by
  simp [Cur.refLoc]

end SaphyrVerif.Lemmas.Cursor
