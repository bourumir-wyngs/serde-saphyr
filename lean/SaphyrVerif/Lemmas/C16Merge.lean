import SaphyrVerif.Model.Locs
import SaphyrVerif.Lemmas.C05_Weak2
/-! C16: everything expanded from one merge source carries the use-site location observed at that source
(`ReplayEvents::with_reference`: nested merges inside the source read the override back). -/
namespace SaphyrVerif.Lemmas.C16
open SaphyrVerif SaphyrVerif.Pump SaphyrVerif.De

/-- a replay cursor with use-site override `r` -/
def RefIs (r : Loc) : Cur → Prop
  | .replay _ _ (some x) => x = r
  | _ => False

theorem RefIs.elim {r : Loc} {c : Cur} (h : RefIs r c) : ∃ buf idx, c = .replay buf idx (some r) := by
  cases c with
  | live p inp => cases h
  | replay buf idx ref =>
    cases ref with
    | none => cases h
    | some x => cases h; exact ⟨buf, idx, rfl⟩

theorem RefIs.refLoc {r : Loc} {c : Cur} (h : RefIs r c) : c.refLoc = r := by
  obtain ⟨buf, idx, rfl⟩ := h.elim; rfl

theorem RefIs.next_ok {r : Loc} {c : Cur} (h : RefIs r c) : ∃ o c', c.next = .ok o c' ∧ RefIs r c' := by
  obtain ⟨buf, idx, rfl⟩ := h.elim
  simp only [Cur.next]
  cases buf[idx]? with
  | none => exact ⟨_, _, rfl, rfl⟩
  | some e => exact ⟨_, _, rfl, rfl⟩

theorem RefIs.next {r : Loc} {c c' : Cur} {o : Option Ev} (h : RefIs r c) (hn : c.next = .ok o c') : RefIs r c' := by
  obtain ⟨o', c'', h1, h2⟩ := h.next_ok
  rw [h1] at hn
  cases hn
  exact h2

theorem RefIs.next_err {r : Loc} {c c' : Cur} {e : DErr} (h : RefIs r c) (hn : c.next = .err e c') : False := by
  obtain ⟨o', c'', h1, _⟩ := h.next_ok
  rw [h1] at hn
  cases hn

theorem RefIs.peek {r : Loc} {c c' : Cur} {o : Option Ev} (h : RefIs r c) (hn : c.peek = .ok o c') : RefIs r c' := by
  obtain ⟨buf, idx, rfl⟩ := h.elim
  simp only [Cur.peek, R.ok.injEq] at hn
  obtain ⟨_, rfl⟩ := hn
  exact h

theorem RefIs.of_stays {r : Loc} {buf : List Ev} {i : Nat} {k : Int} {c' : Cur}
    (h : Lemmas.C05.Stays buf (some r) i k c') : RefIs r c' := by
  obtain ⟨j, rfl, _⟩ := h; rfl

theorem capture_refIs {r : Loc} {fuel : Nat} {c c' : Cur} {k : KeyNode} (hc : RefIs r c)
    (h : capture fuel c = .ok k c') : RefIs r c' := by
  obtain ⟨buf, idx, rfl⟩ := hc.elim
  exact .of_stays (Lemmas.C05.capture_weak h)

theorem pendingFromLive_refIs {r mref : Loc} {fuel : Nat} {c c' : Cur} {es : List PendingEntry} (hc : RefIs r c)
    (h : pendingFromLive fuel c mref = .ok es c') : RefIs r c' := by
  obtain ⟨buf, idx, rfl⟩ := hc.elim
  exact .of_stays (Lemmas.C05.pendingFromLive_weak h)

/-- every entry carries the use-site `r` -/
def AllRef (r : Loc) (es : List PendingEntry) : Prop := ∀ e ∈ es, e.ref = r

theorem AllRef.nil (r : Loc) : AllRef r [] := by intro e h; cases h

theorem AllRef.append {r : Loc} {a b : List PendingEntry} (ha : AllRef r a) (hb : AllRef r b) : AllRef r (a ++ b) := by
  intro e h
  rcases List.mem_append.mp h with h | h
  · exact ha e h
  · exact hb e h

/-- batches are joined by a fold, in either order (`b ++ acc` for a merge sequence, `acc ++ b` for nested merges) -/
theorem allRef_foldl (r : Loc) (f : List PendingEntry → List PendingEntry → List PendingEntry)
    (hf : ∀ acc b, AllRef r acc → AllRef r b → AllRef r (f acc b)) (bs : List (List PendingEntry))
    (init : List PendingEntry) (hi : AllRef r init) (hb : ∀ b ∈ bs, AllRef r b) : AllRef r (bs.foldl f init) := by
  induction bs generalizing init with
  | nil => exact hi
  | cons b bs ih =>
    exact ih _ (hf _ _ hi (hb b (by simp))) (fun b' hb' => hb b' (by simp [hb']))

/-- the five mutually recursive merge readers, on a replay cursor with override `r` -/
theorem merge_readers_ref (r : Loc) (fuel : Nat) :
    (∀ events loc es, pendingFromEvents fuel events loc r = .ok es → AllRef r es) ∧
    (∀ c batches bs c', RefIs r c → (∀ b ∈ batches, AllRef r b) →
      mergeSeqBatches fuel c batches = .ok bs c' → ∀ b ∈ bs, AllRef r b) ∧
    (∀ c es c', RefIs r c → pendingFromLive fuel c r = .ok es c' → AllRef r es) ∧
    (∀ c es c', RefIs r c → collectEntriesFromMap fuel c r = .ok es c' → AllRef r es) ∧
    (∀ c fields merges es c', RefIs r c → AllRef r fields → (∀ b ∈ merges, AllRef r b) →
      collectLoop fuel c r fields merges = .ok es c' → AllRef r es) := by
  induction fuel with
  | zero =>
    refine ⟨?_, ?_, ?_, ?_, ?_⟩ <;> intros <;>
      simp_all [pendingFromEvents, mergeSeqBatches, pendingFromLive, collectEntriesFromMap, collectLoop]
  | succ fuel ih =>
    obtain ⟨ih1, ih2, ih3, ih4, ih5⟩ := ih
    refine ⟨?_, ?_, ?_, ?_, ?_⟩
    · -- pendingFromEvents
      intro events loc es h
      have hc0 : RefIs r (Cur.replay events 0 (some r)) := rfl
      unfold pendingFromEvents at h
      simp only at h
      split at h
      · cases h
      · split at h
        · cases h; exact AllRef.nil r
        · cases h
      · split at h
        · cases h
        · rename_i es' c1 hx
          cases h
          exact ih4 _ _ _ hc0 hx
      · split at h
        · cases h
        · rename_i o c1 hn
          split at h
          · cases h
          · rename_i bs c2 hx
            cases h
            exact allRef_foldl r _ (fun _ _ ha hb => hb.append ha) bs [] (AllRef.nil r) (ih2 _ _ _ _ (hc0.next hn) (by intro b hb; cases hb) hx)
      · cases h
    · -- mergeSeqBatches
      intro c batches bs c' hc hb h
      unfold mergeSeqBatches at h
      split at h
      · cases h
      · cases h
      · split at h
        · cases h
        · cases h; exact hb
      · rename_i ev c1 _ hp
        have hc1 := hc.peek hp
        simp only [hc1.refLoc] at h
        split at h
        · cases h
        · rename_i element c2 hcp
          split at h
          · cases h
          · rename_i b hpe
            refine ih2 _ _ _ _ (capture_refIs hc1 hcp) ?_ h
            intro b' hb'
            rcases List.mem_append.mp hb' with hb' | hb'
            · exact hb b' hb'
            · simp only [List.mem_singleton] at hb'
              subst hb'
              exact ih1 _ _ _ hpe
    · -- pendingFromLive
      intro c es c' hc h
      unfold pendingFromLive at h
      split at h
      · cases h
      · cases h
      · split at h
        · split at h
          · cases h
          · cases h; exact AllRef.nil r
        · cases h
      · split at h
        · cases h
        · split at h
          · cases h
          · rename_i es' hpe
            cases h
            exact ih1 _ _ _ hpe
      · rename_i c1 hp
        split at h
        · cases h
        · rename_i o c2 hn
          split at h
          · cases h
          · rename_i bs c3 hx
            cases h
            exact allRef_foldl r _ (fun _ _ ha hb => hb.append ha) bs [] (AllRef.nil r)
              (ih2 _ _ _ _ ((hc.peek hp).next hn) (by intro b hb; cases hb) hx)
      · cases h
    · -- collectEntriesFromMap
      intro c es c' hc h
      unfold collectEntriesFromMap at h
      split at h
      · cases h
      · rename_i c1 hn
        exact ih5 _ _ _ _ _ (hc.next hn) (AllRef.nil r) (by intro b hb; cases hb) h
      · cases h
    · -- collectLoop
      intro c fields merges es c' hc hf hm h
      unfold collectLoop at h
      split at h
      · cases h
      · cases h
      · split at h
        · cases h
        · cases h
          exact hf.append (allRef_foldl r _ (fun _ _ ha hb => ha.append hb) merges [] (AllRef.nil r) hm)
      · rename_i ev c1 _ hp
        split at h
        · cases h
        · rename_i key c2 hcp
          have hc2 := capture_refIs (hc.peek hp) hcp
          split at h
          · split at h
            · cases h
            · rename_i o c3 hp3
              have hc3 := hc2.peek hp3
              simp only [hc3.refLoc] at h
              split at h
              · cases h
              · rename_i es' c4 hpl
                refine ih5 _ _ _ _ _ (pendingFromLive_refIs hc3 hpl) hf ?_ h
                intro b hb
                rcases List.mem_cons.mp hb with rfl | hb
                · exact ih3 _ _ _ hc3 hpl
                · exact hm b hb
          · split at h
            · cases h
            · rename_i value c3 hcv
              refine ih5 _ _ _ _ _ (capture_refIs hc2 hcv) ?_ hm h
              exact hf.append (by intro e he; simp only [List.mem_singleton] at he; subst he; rfl)

end SaphyrVerif.Lemmas.C16
