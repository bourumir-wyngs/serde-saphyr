import SaphyrVerif.Lemmas.C05_Spec
/-!
C05, the effective entries of a mapping as a stream: the abstract state of the map access (`ASt`), its next
delivery (`nextStep`; its outcome `Step` is not `Pump.Step`) and everything it still delivers (`remaining`);
`remaining` of the initial state is `effEntries`.
-/
namespace SaphyrVerif.Lemmas.C05
open SaphyrVerif SaphyrVerif.Scalars SaphyrVerif.Pump SaphyrVerif.De SaphyrVerif.Spec

/-- abstract state of the map access: reading own entries `rem` with the merged entries collected so far
(`q`, the batch of the latest merge key first), or flushing the merged entries after the end of the mapping -/
inductive ASt where
  | live (rem q : List (ENode × ENode))
  | flush (q : List (ENode × ENode))

/-- outcome of one `next_key` call -/
inductive Step where
  | fail
  | done
  | deliver (k v : ENode) (st : ASt)

def flushStep : List (ENode × ENode) → List FP → Step
  | [], _ => .done
  | (k, v) :: q, seen => if seen.any (· == fpOf k) then flushStep q seen else .deliver k v (.flush q)

def liveStep (dup : DupPolicy) : List (ENode × ENode) → List (ENode × ENode) → List FP → Step
  | [], q, seen => flushStep q seen
  | (k, v) :: rest, q, seen =>
    if isMergeKeyNode k then
      match sourceEntries v with
      | none => .fail
      | some b => liveStep dup rest (b ++ q) seen
    else
      match dup with
      | .error => if seen.any (· == fpOf k) then .fail else .deliver k v (.live rest q)
      | .firstWins => if seen.any (· == fpOf k) then liveStep dup rest q seen else .deliver k v (.live rest q)
      | .lastWins => .deliver k v (.live rest q)

def nextStep (dup : DupPolicy) : ASt → List FP → Step
  | .live rem q, seen => liveStep dup rem q seen
  | .flush q, seen => flushStep q seen

def remLive (dup : DupPolicy) : List (ENode × ENode) → List (ENode × ENode) → List FP → Option (List (ENode × ENode))
  | [], q, seen => some (dropSeen q seen)
  | (k, v) :: rest, q, seen =>
    if isMergeKeyNode k then
      match sourceEntries v with
      | none => none
      | some b => remLive dup rest (b ++ q) seen
    else
      match dup with
      | .error =>
        if seen.any (· == fpOf k) then none else (remLive dup rest q (fpOf k :: seen)).map ((k, v) :: ·)
      | .firstWins =>
        if seen.any (· == fpOf k) then remLive dup rest q seen
        else (remLive dup rest q (fpOf k :: seen)).map ((k, v) :: ·)
      | .lastWins => (remLive dup rest q (fpOf k :: seen)).map ((k, v) :: ·)

def remaining (dup : DupPolicy) : ASt → List FP → Option (List (ENode × ENode))
  | .live rem q, seen => remLive dup rem q seen
  | .flush q, seen => some (dropSeen q seen)

def ASt.OK (d : Nat) : ASt → Prop
  | .live rem q => AllOK d rem ∧ AllOK d q
  | .flush q => AllOK d q

/-- states follow each other downwards in the lexicographic order: flushing after reading, within each the candidates left -/
def ASt.rank : ASt → Nat × Nat
  | .live rem _ => (rem.length + 1, 0)
  | .flush q => (0, q.length)

theorem flushStep_deliver {d : Nat} {q : List (ENode × ENode)} {seen : List FP} {k v : ENode} {st : ASt}
    (h : flushStep q seen = .deliver k v st) :
    ∃ q', st = .flush q' ∧ q'.length < q.length ∧ (AllOK d q → EntOK d (k, v) ∧ AllOK d q') := by
  induction q with
  | nil => simp [flushStep] at h
  | cons e q ih =>
    obtain ⟨k', v'⟩ := e
    simp only [flushStep] at h
    split at h
    · obtain ⟨q', h1, h2, h3⟩ := ih h
      exact ⟨q', h1, by simp; omega, fun hq => h3 hq.tail⟩
    · cases h; exact ⟨q, rfl, by simp, fun hq => ⟨hq.head, hq.tail⟩⟩

/-- The bound on the state left is `st'.rank.1 ≤ rem.length`: one statement for both forms of `st'`, and monotone in
`rem`, so the cases that go on with the rest pass it on without looking at `st'`. -/
theorem liveStep_deliver {dup : DupPolicy} {d : Nat} {seen : List FP} {k v : ENode} {st' : ASt} :
    ∀ {rem q : List (ENode × ENode)}, liveStep dup rem q seen = .deliver k v st' →
      st'.rank.1 ≤ rem.length ∧ (AllOK d rem → AllOK d q → EntOK d (k, v) ∧ st'.OK d) := by
  intro rem
  induction rem with
  | nil =>
    intro q h
    obtain ⟨q', rfl, -, h3⟩ := flushStep_deliver (d := d) h
    exact ⟨Nat.le_refl _, fun _ hq => h3 hq⟩
  | cons e rest ih =>
    obtain ⟨k', v'⟩ := e
    intro q h
    have hhere : Step.deliver k' v' (.live rest q) = .deliver k v st' →
        st'.rank.1 ≤ rest.length + 1 ∧ (AllOK d ((k', v') :: rest) → AllOK d q → EntOK d (k, v) ∧ st'.OK d) := by
      intro h'
      cases h'
      exact ⟨Nat.le_refl _, fun hr hq => ⟨hr.head, hr.tail, hq⟩⟩
    simp only [liveStep] at h
    split at h
    · split at h
      · cases h
      · rename_i b hb
        exact ⟨Nat.le_succ_of_le (ih h).1, fun hr hq => (ih h).2 hr.tail ((allOK_source hr.head hb).append hq)⟩
    · split at h
      · split at h
        · cases h
        · exact hhere h
      · split at h
        · exact ⟨Nat.le_succ_of_le (ih h).1, fun hr hq => (ih h).2 hr.tail hq⟩
        · exact hhere h
      · exact hhere h

theorem nextStep_deliver {dup : DupPolicy} {d : Nat} {st : ASt} {seen : List FP} {k v : ENode} {st' : ASt}
    (h : nextStep dup st seen = .deliver k v st') :
    Prod.Lex (· < ·) (· < ·) st'.rank st.rank ∧ (st.OK d → EntOK d (k, v) ∧ st'.OK d) := by
  cases st with
  | flush q =>
    obtain ⟨q', rfl, h2, h3⟩ := flushStep_deliver (d := d) h
    exact ⟨.right _ h2, h3⟩
  | live rem q =>
    obtain ⟨h1, h2⟩ := liveStep_deliver (d := d) h
    exact ⟨.left _ _ (Nat.lt_succ_of_le h1), fun hok => h2 hok.1 hok.2⟩

theorem ASt.stream_induction {dup : DupPolicy} {d : Nat} {P : ASt → Prop}
    (h : ∀ st, st.OK d →
      (∀ seen k v st', nextStep dup st seen = .deliver k v st' → EntOK d (k, v) ∧ st'.OK d ∧ P st') → P st) :
    ∀ st, st.OK d → P st := by
  intro st
  refine (InvImage.wf ASt.rank (Prod.lex Nat.lt_wfRel Nat.lt_wfRel).wf).induction (C := fun st => st.OK d → P st) st
    fun st ih hok => ?_
  refine h st hok fun seen k v st' hs => ?_
  obtain ⟨hlt, hd⟩ := nextStep_deliver (d := d) hs
  obtain ⟨hent, hok'⟩ := hd hok
  exact ⟨hent, hok', ih st' hlt hok'⟩

theorem remaining_flush_step (dup : DupPolicy) (q : List (ENode × ENode)) (seen : List FP) :
    some (dropSeen q seen) =
      match flushStep q seen with
      | .fail => none
      | .done => some []
      | .deliver k v st => (remaining dup st (fpOf k :: seen)).map ((k, v) :: ·) := by
  induction q with
  | nil => simp [flushStep, dropSeen]
  | cons e q ih =>
    obtain ⟨k, v⟩ := e
    simp only [flushStep, dropSeen]
    split
    · exact ih
    · simp [remaining]

theorem remaining_flush_dup (dup dup' : DupPolicy) (q : List (ENode × ENode)) (seen : List FP) :
    remaining dup (.flush q) seen = remaining dup' (.flush q) seen := rfl

theorem remaining_step (dup : DupPolicy) (st : ASt) (seen : List FP) :
    remaining dup st seen =
      match nextStep dup st seen with
      | .fail => none
      | .done => some []
      | .deliver k v st' => (remaining dup st' (fpOf k :: seen)).map ((k, v) :: ·) := by
  cases st with
  | flush q => exact remaining_flush_step dup q seen
  | live rem q =>
    simp only [remaining, nextStep]
    induction rem generalizing q with
    | nil => exact remaining_flush_step dup q seen
    | cons e rest ih =>
      obtain ⟨k, v⟩ := e
      simp only [remLive, liveStep]
      split
      · split
        · rfl
        · exact ih _
      · cases dup with
        | error => simp only []; split <;> simp
        | firstWins =>
          simp only []
          split
          · exact ih _
          · simp
        | lastWins => simp

/-- `remLive` in closed form, as `C03.effEntries_alt` for `effEntries` -/
theorem remLive_eq (dup : DupPolicy) (rem q : List (ENode × ENode)) (seen : List FP) :
    remLive dup rem q seen =
      match applyPolicy dup (splitEntries rem).1 seen, seqSourceEntries (splitEntries rem).2 with
      | some ownKept, some src => some (ownKept ++ dropSeen (src ++ q) ((C04.keys ownKept).reverse ++ seen))
      | _, _ => none := by
  induction rem generalizing q seen with
  | nil => simp [remLive, splitEntries, applyPolicy]
  | cons e rest ih =>
    obtain ⟨k, v⟩ := e
    simp only [remLive, C03.splitEntries_cons]
    by_cases hm : isMergeKeyNode k = true
    · simp only [hm, if_true, C03.seqSourceEntries_cons]
      cases hb : sourceEntries v with
      | none => cases applyPolicy dup (splitEntries rest).1 seen <;> simp
      | some b =>
        simp only [ih]
        cases applyPolicy dup (splitEntries rest).1 seen <;> cases seqSourceEntries (splitEntries rest).2 <;> simp
    · simp only [hm, if_false, Bool.false_eq_true]
      have hcons : (remLive dup rest q (fpOf k :: seen)).map ((k, v) :: ·) =
          match (applyPolicy dup (splitEntries rest).1 (fpOf k :: seen)).map ((k, v) :: ·),
            seqSourceEntries (splitEntries rest).2 with
          | some ownKept, some src => some (ownKept ++ dropSeen (src ++ q) ((C04.keys ownKept).reverse ++ seen))
          | _, _ => none := by
        rw [ih]
        cases applyPolicy dup (splitEntries rest).1 (fpOf k :: seen) <;>
          cases seqSourceEntries (splitEntries rest).2 <;> simp
      cases dup <;> simp only [applyPolicy]
      · split
        · rfl
        · exact hcons
      · split
        · exact ih _ _
        · exact hcons
      · exact hcons

theorem remaining_init (dup : DupPolicy) (entries : List (ENode × ENode)) :
    remaining dup (.live entries []) [] = effEntries dup entries := by
  rw [C03.effEntries_alt, remaining, remLive_eq]
  cases applyPolicy dup (splitEntries entries).1 [] <;> cases seqSourceEntries (splitEntries entries).2 <;> simp

end SaphyrVerif.Lemmas.C05
