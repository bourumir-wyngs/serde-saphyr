import SaphyrVerif.Lemmas.C13_Layout
/-!
Lexical facts about the reference reader: what its small functions do on the tokens of the fragment
(safe strings, `null`, `true` / `false`, decimal integers), and its dispatch on the first character of any text
(`classify_other_iff`, `skipTag_untagged`, `implicitKey_plain`).
-/
namespace SaphyrVerif.Emit

/-- characters of the plain tokens of the fragment -/
def isTokChar (c : Char) : Bool := isLowerAlnum c || c == '-'

structure PlainTok (t : List Char) : Prop where
  ne : t ≠ []
  chars : ∀ c ∈ t, isTokChar c = true
  notDash : t ≠ ['-']

theorem isTokChar_ne {c : Char} (h : isTokChar c = true) (c' : Char) (h' : isTokChar c' = false) : c ≠ c' := by
  rintro rfl; rw [h] at h'; exact Bool.noConfusion h'

theorem safe_cons {s : List Char} (h : isSafeStr s = true) :
    ∃ c cs, s = c :: cs ∧ isLowerAlpha c = true ∧ cs.all isLowerAlnum = true ∧ reservedWords.contains s = false := by
  cases s with
  | nil => simp [isSafeStr] at h
  | cons c cs =>
    simp only [isSafeStr, Bool.and_eq_true, Bool.not_eq_eq_eq_not, Bool.not_true] at h
    exact ⟨c, cs, rfl, h.1.1, h.1.2, h.2⟩

theorem alpha_alnum {c : Char} (h : isLowerAlpha c = true) : isLowerAlnum c = true := by
  simp [isLowerAlnum, h]

theorem alnum_tok {c : Char} (h : isLowerAlnum c = true) : isTokChar c = true := by
  simp [isTokChar, h]

theorem safe_chars {s : List Char} (h : isSafeStr s = true) : ∀ c ∈ s, isLowerAlnum c = true := by
  obtain ⟨c, cs, rfl, hc, hcs, _⟩ := safe_cons h
  intro x hx
  simp only [List.mem_cons] at hx
  rcases hx with rfl | hx
  · exact alpha_alnum hc
  · exact List.all_eq_true.mp hcs x hx

theorem safe_plainTok {s : List Char} (h : isSafeStr s = true) : PlainTok s := by
  obtain ⟨c, cs, rfl, hc, hcs, _⟩ := safe_cons h
  refine ⟨by simp, fun x hx => alnum_tok (safe_chars h x hx), ?_⟩
  intro e
  simp only [List.cons.injEq] at e
  rw [e.1] at hc
  simp [isLowerAlpha] at hc

theorem decValue_eq (cs : List Char) (acc : Nat) : decValue cs acc = Nat.ofDigitChars 10 cs acc := by
  induction cs generalizing acc with
  | nil => simp [decValue]
  | cons c cs ih => rw [decValue, Nat.ofDigitChars_cons, ih, Nat.mul_comm]; rfl

theorem isDecDigit_of_isDigit {c : Char} (h : c.isDigit = true) : isDecDigit c = true := by
  simp only [Char.isDigit, Bool.and_eq_true, decide_eq_true_eq] at h
  simp only [isDecDigit, Bool.and_eq_true, decide_eq_true_eq]
  exact ⟨Char.le_def.mpr (by simpa using h.1), Char.le_def.mpr (by simpa using h.2)⟩

theorem digits_all (n : Nat) : (Nat.toDigits 10 n).all isDecDigit = true :=
  List.all_eq_true.mpr fun c hc => isDecDigit_of_isDigit (Nat.isDigit_of_mem_toDigits (by decide) (by decide) hc)

theorem digit_tok {c : Char} (h : isDecDigit c = true) : isTokChar c = true := by
  simp only [isDecDigit, Bool.and_eq_true, decide_eq_true_eq] at h
  simp [isTokChar, isLowerAlnum, h.1, h.2]

theorem intText_nonneg (n : Nat) : intText (Int.ofNat n) = Nat.toDigits 10 n := by
  simp [intText, Int.repr_eq_if, Nat.toList_repr]

theorem intText_neg (n : Nat) : intText (Int.negSucc n) = '-' :: Nat.toDigits 10 (n + 1) := by
  simp only [intText, Int.toString_eq_repr, Int.repr_eq_if]
  have h : ¬ (0 ≤ Int.negSucc n) := by omega
  simp only [h, if_false, String.toList_append, Nat.toList_repr]
  have : (-Int.negSucc n).toNat = n + 1 := by omega
  rw [this]; rfl

theorem splitSign_other {c : Char} (cs : List Char) (h1 : c ≠ '-') (h2 : c ≠ '+') :
    splitSign (c :: cs) = (false, c :: cs) := by
  unfold splitSign
  split
  · rename_i r he; simp only [List.cons.injEq] at he; exact absurd he.1 h1
  · rename_i r he; simp only [List.cons.injEq] at he; exact absurd he.1 h2
  · rfl

theorem parseDecInt_intText (i : Int) : parseDecInt (intText i) = some i := by
  cases i with
  | ofNat n =>
    rw [intText_nonneg]
    have hne := Nat.toDigits_ne_nil (n := n) (b := 10)
    have hall := digits_all n
    cases hd : Nat.toDigits 10 n with
    | nil => exact absurd hd hne
    | cons c cs =>
      have hc : isDecDigit c = true := List.all_eq_true.mp hall c (by rw [hd]; simp)
      have hc1 : c ≠ '-' := by rintro rfl; exact absurd hc (by decide)
      have hc2 : c ≠ '+' := by rintro rfl; exact absurd hc (by decide)
      rw [hd] at hall
      have hv : decValue (c :: cs) 0 = n := by rw [← hd, decValue_eq, Nat.ofDigitChars_ten_toDigits]
      simp only [parseDecInt, splitSign_other cs hc1 hc2, hall, hv, List.isEmpty_cons, Bool.not_true, Bool.or_false,
        Bool.false_eq_true, if_false]
  | negSucc n =>
    rw [intText_neg]
    have hne := Nat.toDigits_ne_nil (n := n + 1) (b := 10)
    have hall := digits_all (n + 1)
    have hv : decValue (Nat.toDigits 10 (n + 1)) 0 = n + 1 := by rw [decValue_eq, Nat.ofDigitChars_ten_toDigits]
    simp only [parseDecInt, splitSign, hall, hne, hv, List.isEmpty_iff, Bool.not_true, Bool.or_false,
      if_false, if_true]
    simp [Int.negSucc_eq]

theorem intText_plainTok (i : Int) : PlainTok (intText i) := by
  cases i with
  | ofNat n =>
    rw [intText_nonneg]
    refine ⟨Nat.toDigits_ne_nil, fun c hc => digit_tok (List.all_eq_true.mp (digits_all n) c hc), ?_⟩
    intro e
    have := List.all_eq_true.mp (digits_all n) '-' (by rw [e]; simp)
    simp [isDecDigit] at this
  | negSucc n =>
    rw [intText_neg]
    refine ⟨by simp, ?_, ?_⟩
    · intro c hc
      simp only [List.mem_cons] at hc
      rcases hc with rfl | hc
      · simp [isTokChar]
      · exact digit_tok (List.all_eq_true.mp (digits_all (n + 1)) c hc)
    · intro e
      simp only [List.cons.injEq, true_and] at e
      exact Nat.toDigits_ne_nil e

theorem PlainTok.head {t : List Char} (h : PlainTok t) : ∃ c cs, t = c :: cs ∧ isTokChar c = true := by
  cases t with
  | nil => exact absurd rfl h.ne
  | cons c cs => exact ⟨c, cs, rfl, h.chars c (by simp)⟩

/-- a line is a sequence entry / an explicit key when it is `-` / `?` alone or followed by a blank -/
theorem classify_other_iff {c : Char} {cs : List Char} :
    classify (c :: cs) = .other ↔ ((c = '-' ∨ c = '?') → ∃ c1 cs1, cs = c1 :: cs1 ∧ c1 ≠ ' ') := by
  refine ⟨fun h hc => ?_, fun hq => ?_⟩
  · cases cs with
    | nil => rcases hc with rfl | rfl <;> simp [classify] at h
    | cons c1 cs1 =>
      refine ⟨c1, cs1, rfl, ?_⟩
      rintro rfl
      rcases hc with rfl | rfl <;> simp [classify] at h
  · unfold classify
    split
    · rename_i he
      simp only [List.cons.injEq] at he
      obtain ⟨c1, cs1, e, _⟩ := hq (Or.inl he.1)
      rw [e] at he; exact absurd he.2 (by simp)
    · rename_i r he
      simp only [List.cons.injEq] at he
      obtain ⟨c1, cs1, e, hc1⟩ := hq (Or.inl he.1)
      rw [e] at he; simp only [List.cons.injEq] at he; exact absurd he.2.1 hc1
    · rename_i he
      simp only [List.cons.injEq] at he
      obtain ⟨c1, cs1, e, _⟩ := hq (Or.inr he.1)
      rw [e] at he; exact absurd he.2 (by simp)
    · rename_i r he
      simp only [List.cons.injEq] at he
      obtain ⟨c1, cs1, e, hc1⟩ := hq (Or.inr he.1)
      rw [e] at he; simp only [List.cons.injEq] at he; exact absurd he.2.1 hc1
    · rfl

/-- a `:` appended to a line that is no sequence entry / explicit key makes none -/
theorem classify_colon {s : List Char} (h : classify s = .other) (after : List Char) : classify (s ++ ':' :: after) = .other := by
  cases s with
  | nil => exact classify_other_iff.mpr fun hc => by rcases hc with hc | hc <;> exact absurd hc (by decide)
  | cons c cs =>
    refine classify_other_iff.mpr fun hc => ?_
    obtain ⟨c1, cs1, e1, hc1⟩ := classify_other_iff.mp h hc
    exact ⟨c1, cs1 ++ ':' :: after, by rw [e1]; rfl, hc1⟩

theorem classify_other {c : Char} (cs : List Char) (h1 : c ≠ '-') (h2 : c ≠ '?') : classify (c :: cs) = .other :=
  classify_other_iff.mpr fun h => by rcases h with h | h <;> contradiction

theorem classify_plainTok {t : List Char} (h : PlainTok t) : classify t = .other := by
  obtain ⟨c, cs, rfl, hc⟩ := h.head
  refine classify_other_iff.mpr fun hd => ?_
  -- a token character other than `-` is no indicator; after a leading `-` the token goes on, and not with a blank
  have hd : c = '-' := hd.resolve_right (isTokChar_ne hc '?' (by decide))
  subst hd
  cases cs with
  | nil => exact absurd rfl h.notDash
  | cons d ds => exact ⟨d, ds, rfl, isTokChar_ne (h.chars d (by simp)) ' ' (by decide)⟩

theorem skipTag_untagged {t : List Char} (h : t.head? ≠ some '!') : skipTag t = t := by
  unfold skipTag
  split
  · rename_i r; exact absurd (by simp) h
  · rfl

theorem skipTag_tok {t : List Char} {c : Char} {cs : List Char} (e : t = c :: cs) (hc : isTokChar c = true) :
    skipTag t = t :=
  skipTag_untagged (by subst e; simpa using isTokChar_ne hc '!' (by decide))

/-- the first characters on which `implicitKey` does not look for a plain key: a tag, the quotes, the indicators after
which there is no implicit key -/
def implicitKeyHeads : List Char := ['!', '"', '\'', '[', '{', '|', '>', '#', '&', '*', '%', '@', '`']

/-- elsewhere an implicit key is what `splitPlainKey` cuts off -/
theorem implicitKey_plain {c : Char} (cs : List Char) (h : ∀ x ∈ implicitKeyHeads, c ≠ x) :
    implicitKey (c :: cs) = (splitPlainKey [] (c :: cs)).map fun (k, after) => (resolvePlain (trimEndSpaces k), after) := by
  simp only [implicitKeyHeads, List.forall_mem_cons, List.not_mem_nil, false_imp_iff, implies_true, and_true] at h
  obtain ⟨h0, h1, h2, h3, h4, h5, h6, h7, h8, h9, h10, h11, h12⟩ := h
  unfold implicitKey
  rw [skipTag_untagged (by simpa using h0)]
  split
  · rename_i r he; exact absurd (List.cons.inj he).1 h1
  · rename_i r he; exact absurd (List.cons.inj he).1 h2
  · simp [h3, h4, h5, h6, h7, h8, h9, h10, h11, h12]

theorem trimEndSpaces_id {s : List Char} (h1 : s.getLast? ≠ some ' ') (h2 : s.getLast? ≠ some '\t') : trimEndSpaces s = s := by
  unfold trimEndSpaces
  cases hr : s.reverse with
  | nil => simp [List.reverse_eq_nil_iff.mp hr]
  | cons c cs =>
    have hl : s.getLast? = some c := by
      rw [← List.reverse_reverse s, hr]; simp
    have e1 : c ≠ ' ' := fun e => h1 (by rw [hl, e])
    have e2 : c ≠ '\t' := fun e => h2 (by rw [hl, e])
    have hb : (c == ' ' || c == '\t') = false := by simp [e1, e2]
    rw [List.dropWhile_cons_of_neg (by simp [hb]), ← hr, List.reverse_reverse]

theorem trimEndSpaces_tok {t : List Char} (h : ∀ c ∈ t, isTokChar c = true) : trimEndSpaces t = t :=
  trimEndSpaces_id (fun hl => absurd (h _ (List.mem_of_getLast? hl)) (by decide))
    (fun hl => absurd (h _ (List.mem_of_getLast? hl)) (by decide))

theorem asciiLower_tok {c : Char} (h : isTokChar c = true) : asciiLower c = c := by
  unfold asciiLower
  split
  · rename_i hc
    simp only [Bool.and_eq_true, decide_eq_true_eq] at hc
    simp only [isTokChar, isLowerAlnum, isLowerAlpha, Bool.or_eq_true, Bool.and_eq_true, decide_eq_true_eq, beq_iff_eq] at h
    have h65 : (65 : Nat) ≤ c.toNat := hc.1
    have h90 : c.toNat ≤ 90 := hc.2
    rcases h with (⟨h1, _⟩ | ⟨_, h2⟩) | h3
    · have : (97 : Nat) ≤ c.toNat := Char.le_def.mp h1; omega
    · have : c.toNat ≤ 57 := Char.le_def.mp h2; omega
    · rw [h3] at h65; exact absurd h65 (by decide)
  · rfl

theorem lowerAscii_tok {t : List Char} (h : ∀ c ∈ t, isTokChar c = true) : lowerAscii t = t := by
  induction t with
  | nil => rfl
  | cons c cs ih =>
    simp only [lowerAscii, List.map_cons, List.cons.injEq]
    exact ⟨asciiLower_tok (h c (by simp)), ih fun x hx => h x (by simp [hx])⟩

/-- the words `resolvePlain` takes for null or a boolean (lower case) -/
def plainWords : List (List Char) :=
  [['n', 'u', 'l', 'l'], ['t', 'r', 'u', 'e'], ['y', 'e', 's'], ['y'], ['o', 'n'], ['f', 'a', 'l', 's', 'e'], ['n', 'o'], ['n'],
   ['o', 'f', 'f']]

theorem resolvePlain_noWord {s : List Char} (hne : s ≠ []) (ht : s ≠ ['~']) (hw : lowerAscii s ∉ plainWords) :
    resolvePlain s = match parseDecInt s with | some i => .int i | none => .str s := by
  simp only [plainWords, List.mem_cons, List.not_mem_nil, or_false, not_or] at hw
  obtain ⟨e1, e2, e3, e4, e5, e6, e7, e8, e9⟩ := hw
  unfold resolvePlain
  cases parseDecInt s <;> simp [hne, ht, e1, e2, e3, e4, e5, e6, e7, e8, e9]

theorem plainWords_head {c : Char} {cs : List Char} (h : c :: cs ∈ plainWords) : isLowerAlpha c = true := by
  have : ∀ w ∈ plainWords, w.head?.map isLowerAlpha = some true := by decide
  simpa using this _ h

theorem plainWords_reserved : ∀ w ∈ plainWords, w ∈ reservedWords := by decide

theorem alpha_not_digit {c : Char} (h : isLowerAlpha c = true) : isDecDigit c = false := by
  simp only [isLowerAlpha, Bool.and_eq_true, decide_eq_true_eq] at h
  have h97 : (97 : Nat) ≤ c.toNat := Char.le_def.mp h.1
  simp only [isDecDigit, Bool.and_eq_false_iff, decide_eq_false_iff_not]
  exact Or.inr fun h57 => by have : c.toNat ≤ 57 := Char.le_def.mp h57; omega

theorem resolvePlain_safe {s : List Char} (h : isSafeStr s = true) : resolvePlain s = .str s := by
  obtain ⟨c, cs, rfl, hc, _, hres⟩ := safe_cons h
  have hc1 : c ≠ '-' := by rintro rfl; exact absurd hc (by decide)
  have hc2 : c ≠ '+' := by rintro rfl; exact absurd hc (by decide)
  have hc3 : c ≠ '~' := by rintro rfl; exact absurd hc (by decide)
  have hp : parseDecInt (c :: cs) = none := by simp [parseDecInt, splitSign_other cs hc1 hc2, alpha_not_digit hc]
  rw [resolvePlain_noWord (by simp) (by simp [hc3]) ?_, hp]
  rw [lowerAscii_tok (safe_plainTok h).chars]
  intro hw
  rw [List.contains_iff_mem.mpr (plainWords_reserved _ hw)] at hres
  cases hres

theorem intText_head (i : Int) : ∃ c cs, intText i = c :: cs ∧ isLowerAlpha c = false ∧ c ≠ '~' := by
  cases i with
  | ofNat n =>
    rw [intText_nonneg]
    cases hd : Nat.toDigits 10 n with
    | nil => exact absurd hd Nat.toDigits_ne_nil
    | cons c cs =>
      have hc : isDecDigit c = true := List.all_eq_true.mp (digits_all n) c (by rw [hd]; simp)
      refine ⟨c, cs, rfl, ?_, by rintro rfl; exact absurd hc (by decide)⟩
      cases h : isLowerAlpha c with
      | false => rfl
      | true => rw [alpha_not_digit h] at hc; cases hc
  | negSucc n => rw [intText_neg]; exact ⟨_, _, rfl, by decide, by decide⟩

theorem resolvePlain_int (i : Int) : resolvePlain (intText i) = .int i := by
  have ht := intText_plainTok i
  obtain ⟨c, cs, e, hna, hnt⟩ := intText_head i
  rw [resolvePlain_noWord ht.ne (by rw [e]; exact fun e' => hnt (List.cons.inj e').1) ?_, parseDecInt_intText]
  rw [lowerAscii_tok ht.chars, e]
  intro hw
  rw [plainWords_head hw] at hna
  cases hna

theorem resolvePlain_null : resolvePlain ['n', 'u', 'l', 'l'] = .null := by rfl
theorem resolvePlain_true : resolvePlain ['t', 'r', 'u', 'e'] = .bool true := by rfl
theorem resolvePlain_false : resolvePlain ['f', 'a', 'l', 's', 'e'] = .bool false := by rfl

theorem plainTok_null : PlainTok "null".toList := ⟨by decide, by decide, by decide⟩
theorem plainTok_true : PlainTok "true".toList := ⟨by decide, by decide, by decide⟩
theorem plainTok_false : PlainTok "false".toList := ⟨by decide, by decide, by decide⟩

end SaphyrVerif.Emit
