import SaphyrVerif.Lemmas.C17Rows
import SaphyrVerif.Lemmas.C17Breaks
/-!
C17: `crop_window_text` and `crop_source_window` as a whole.
-/
namespace SaphyrVerif.Lemmas.C17
open SaphyrVerif SaphyrVerif.Snippet
open SaphyrVerif.Spec.Snippet (clean takeRows dropRows shownLines)

/-- what `crop_window_text` returns for the final state of its loop: the text sanitised, the span clamped into it — or
put at its very end when the error row is the empty line after the final line break, which the loop does not visit -/
def cwtFinish (w : List Char) (erow : Nat) (st : CwtState) : List Char × Nat × Nat :=
  let nse := if ¬ st.rebased ∧ w.getLast? = some '\n' ∧ st.row = erow then (blen st.out, blen st.out)
    else (st.newStart, st.newEnd)
  let ns := min nse.1 (blen st.out)
  let ne := min nse.2 (blen st.out)
  (Spec.Snippet.sanitize st.out, ns, if ne < ns then ns else ne)

/-- the fast path of `crop_window_text`: nothing to crop, no CR, nothing to sanitise -/
theorem cropWindowText_fast (w : List Char) (wsr erow ecol r ls le : Nat)
    (hfast : r = 0 ∧ ¬ (encode w).contains 0x0D = true ∧ isClean w = true) :
    cropWindowText w wsr erow ecol r ls le = .ok (w, ls, le) := by
  unfold cropWindowText; rw [if_pos hfast]

/-- `crop_window_text` off its fast path: the fold over the lines of the window text, finished; never a panic -/
theorem cropWindowText_slow (w : List Char) (wsr erow ecol r ls le : Nat)
    (hw : w.length + 1 ≤ usizeMax) (hc : ecol ≤ usizeMax)
    (hfast : ¬ (r = 0 ∧ ¬ (encode w).contains 0x0D = true ∧ isClean w = true)) :
    cropWindowText w wsr erow ecol r ls le = .ok (cwtFinish w erow
      (foldLines (iterState erow (r != 0) (max (ecol - r) 1) (satAdd ecol r) ls le) ⟨0, wsr, [], ls, le, false⟩ w)) := by
  unfold cropWindowText cwtFinish
  rw [if_neg hfast]
  simp only []
  rw [cwtLoop_run w erow (r != 0) (max (ecol - r) 1) (satAdd ecol r) ls le hw (caller_window_ok ecol r hc) (blen w)
    ⟨0, wsr, [], ls, le, false⟩ [] w rfl rfl (Nat.le_refl _)]
  simp only [res_bind_ok, sanitize_eq, res_pure]

theorem cwtFinish_span (w : List Char) (erow : Nat) (st : CwtState) :
    (cwtFinish w erow st).2.1 ≤ (cwtFinish w erow st).2.2 ∧ (cwtFinish w erow st).2.2 ≤ blen (cwtFinish w erow st).1 := by
  unfold cwtFinish
  simp only []
  rw [sanitize_blen]
  split <;> (simp only []; split <;> omega)

/-- (safety) `crop_window_text` never panics; its text is terminal-clean; the returned span is ordered
and inside the text (on the fast path: whenever the given span was). -/
theorem cropWindowText_safe (w : List Char) (wsr erow ecol r ls le : Nat)
    (hw : w.length + 1 ≤ usizeMax) (hc : ecol ≤ usizeMax) :
    ∃ out ns ne, cropWindowText w wsr erow ecol r ls le = .ok (out, ns, ne) ∧ clean out = true ∧
      ((ls ≤ le ∧ le ≤ blen w) → (ns ≤ ne ∧ ne ≤ blen out)) := by
  by_cases hfast : r = 0 ∧ ¬ (encode w).contains 0x0D = true ∧ isClean w = true
  · refine ⟨w, ls, le, cropWindowText_fast w wsr erow ecol r ls le hfast, ?_, fun h => h⟩
    rw [← isClean_eq]; exact hfast.2.2
  · exact ⟨_, _, _, cropWindowText_slow w wsr erow ecol r ls le hw hc hfast, sanitize_spec_clean _,
      fun _ => cwtFinish_span _ _ _⟩

theorem cropLinePure_no_nl (line : List Char) (left right : Nat) (h : '\n' ∉ line) :
    '\n' ∉ (cropLinePure line left right).1 := by
  intro hm
  rcases List.mem_append.mp hm with h1 | h1
  · rcases List.mem_append.mp h1 with h2 | h2
    · exact nl_not_mem_mark _ h2
    · exact h ((take_drop_infix _ _ _).subset h2)
  · exact nl_not_mem_mark _ h1

theorem not_mem_stripCR (l : List Char) (h : '\n' ∉ l) : '\n' ∉ stripCR l := by
  unfold stripCR
  split
  · intro hm; exact h (List.dropLast_subset l hm)
  · exact h

/-- what the storage-crop loop writes for the line `pre` (before CR stripping) in row `row` -/
def cswPiece (errorRow leftCol rightCol row : Nat) (pre : List Char) : List Char :=
  let line := stripCR pre
  if row = errorRow then
    line.take (satAdd rightCol 1 - 1) ++ mark (decide (blen (line.take (satAdd rightCol 1 - 1)) < blen line))
  else (cropLinePure line leftCol rightCol).1

theorem cswPiece_no_nl (errorRow leftCol rightCol row : Nat) (pre : List Char) (h : '\n' ∉ pre) :
    '\n' ∉ cswPiece errorRow leftCol rightCol row pre := by
  have hl := not_mem_stripCR pre h
  unfold cswPiece
  simp only []
  split
  · intro hm
    rcases List.mem_append.mp hm with h1 | h1
    · exact hl (List.take_subset _ _ h1)
    · exact nl_not_mem_mark _ h1
  · exact cropLinePure_no_nl (stripCR pre) leftCol rightCol hl

/-- one iteration of the storage-crop loop, once `nextLine` has delivered the line `pre` -/
theorem cswLoop_line (w : List Char) (errorRow leftCol rightCol fuel pos row c : Nat) (out pre : List Char) (b : Bool)
    (hlt : pos < blen w) (hnl : nextLine w pos "crop_source_window" = .ok (pre, b, c))
    (hn : pre.length + 1 ≤ usizeMax) (hlr : leftCol ≤ satAdd rightCol 1) :
    cswLoop w errorRow leftCol rightCol (fuel + 1) pos row out =
      cswLoop w errorRow leftCol rightCol fuel (satAdd pos c) (satAdd row 1)
        (out ++ cswPiece errorRow leftCol rightCol row pre ++ (if b then ['\n'] else [])) := by
  have := stripCR_length_le pre
  rw [cswLoop, if_pos hlt, hnl]
  unfold cswPiece
  simp only [res_bind_ok]
  by_cases hrow : row = errorRow
  · simp only [if_pos hrow]
    rw [colToByte_getD_len _ _ (satAdd_one_pos rightCol)]
    have hs := slice_take (stripCR pre) 0 (satAdd rightCol 1 - 1) "crop_source_window:line[..end_byte]" (Nat.zero_le _)
    simp only [List.take_zero, blen_nil, List.drop_zero] at hs
    rw [hs]
    simp only [res_bind_ok, res_pure, List.append_assoc]
    rfl
  · simp only [if_neg hrow]
    rw [cropLine_eq _ _ _ (by omega) hlr]
    rfl

/-- one iteration of the storage-crop loop on `(row, out)` -/
def cswStep (errorRow leftCol rightCol : Nat) (st : Nat × List Char) (pre : List Char) (hadNl : Bool) :
    Nat × List Char :=
  (satAdd st.1 1, st.2 ++ cswPiece errorRow leftCol rightCol st.1 pre ++ (if hadNl then ['\n'] else []))

theorem cswLoop_done (w : List Char) (errorRow leftCol rightCol fuel pos row : Nat) (out : List Char)
    (h : ¬ pos < blen w) : cswLoop w errorRow leftCol rightCol fuel pos row out = .ok out := by
  cases fuel with
  | zero => rw [cswLoop, if_neg h]
  | succ f => rw [cswLoop, if_neg h]

theorem cswLoop_run (w : List Char) (errorRow leftCol rightCol : Nat)
    (hw : w.length + 1 ≤ usizeMax) (hwb : blen w ≤ usizeMax) (hlr : leftCol ≤ satAdd rightCol 1)
    (fuel row : Nat) (out p rest : List Char) (hwp : w = p ++ rest) (hfuel : blen rest ≤ fuel) :
    cswLoop w errorRow leftCol rightCol fuel (blen p) row out =
      .ok (foldLines (cswStep errorRow leftCol rightCol) (row, out) rest).2 := by
  refine lineLoop_run w (fun fuel pos st => cswLoop w errorRow leftCol rightCol fuel pos st.1 st.2)
    (cswStep errorRow leftCol rightCol) (·.2) (fun _ _ => True)
    (fun fuel st _ => cswLoop_done _ _ _ _ _ _ _ _ (Nat.lt_irrefl _))
    ?_ ?_ fuel p rest (row, out) hwp hfuel trivial
  · intro fuel p pre st hwp hne hnp _
    have hlt : blen p < blen w := by
      rw [hwp, blen_append]; have := blen_pos_of_ne_nil _ hne; omega
    have hnl := nextLine_last p pre "crop_source_window" hnp
    rw [← hwp] at hnl
    -- the next iteration stops: the position is the end of the text
    rw [cswLoop_line w _ _ _ fuel _ st.1 _ st.2 pre false hlt hnl (by rw [hwp, List.length_append] at hw; omega) hlr,
      cswLoop_done _ _ _ _ _ _ _ _ (by rw [satAdd_eq _ _ (by omega)]; omega)]
    rfl
  · intro fuel p pre post st hwp hnp _
    have h1nl : utf8LenChar '\n' = 1 := by decide
    have hlt : blen p < blen w := by
      rw [hwp, blen_append, blen_append, blen_cons]; omega
    have hnl := nextLine_row p pre post "crop_source_window" hnp
    rw [← hwp] at hnl
    rw [cswLoop_line w _ _ _ fuel _ st.1 _ st.2 pre true hlt hnl
      (by rw [hwp] at hw; simp only [List.length_append] at hw; omega) hlr,
      satAdd_eq _ _ (by rw [hwp] at hwb; simp only [blen_append, blen_cons] at hwb; omega)]
    exact ⟨rfl, trivial⟩

theorem cswLoop_spec (w : List Char) (errorRow leftCol rightCol row : Nat)
    (hw : w.length + 1 ≤ usizeMax) (hwb : blen w ≤ usizeMax) (hlr : leftCol ≤ satAdd rightCol 1) :
    ∃ out', cswLoop w errorRow leftCol rightCol (blen w) 0 row [] = .ok out' ∧
      out'.count '\n' = w.count '\n' ∧ (w.getLast? = some '\n' → out'.getLast? = some '\n') := by
  obtain ⟨Q, q1, q2, _, q4⟩ := fold_lines_out (cswStep errorRow leftCol rightCol) (·.2)
    (fun st l b hl => ⟨_, rfl, cswPiece_no_nl errorRow leftCol rightCol st.1 l hl⟩) w (row, [])
  refine ⟨_, cswLoop_run w errorRow leftCol rightCol hw hwb hlr (blen w) row [] [] w rfl (Nat.le_refl _), ?_, ?_⟩
  · rw [q1]; simpa using q2
  · intro hl; rw [q1]; simpa using q4 hl

theorem stripBom_cons (c : Char) (cs : List Char) :
    stripBom (c :: cs) = if c.toNat = 0xFEFF then cs else c :: cs := rfl

theorem stripBom_suffix (t : List Char) : stripBom t <:+ t := by
  cases t with
  | nil => exact List.suffix_refl _
  | cons c cs =>
    rw [stripBom_cons]
    split
    · exact List.suffix_cons c cs
    · exact List.suffix_refl _

theorem window_infix (k j : Nat) (s : List Char) : takeRows k (dropRows j s) <:+: s :=
  ⟨takeRows j s, dropRows k (dropRows j s), by
    rw [List.append_assoc, takeRows_append_dropRows, takeRows_append_dropRows]⟩

theorem normBreaks_stripBom_length_le (t : List Char) : (normBreaks (stripBom t)).length ≤ t.length := by
  rw [normBreaks_length]; exact (stripBom_suffix t).length_le

theorem normBreaks_stripBom_blen_le (t : List Char) : blen (normBreaks (stripBom t)) ≤ blen t := by
  rw [normBreaks_blen]; exact blen_le_of_infix (stripBom_suffix t).isInfix

theorem window_length_le (k j : Nat) (t : List Char) :
    (takeRows k (dropRows j (normBreaks (stripBom t)))).length ≤ t.length :=
  Nat.le_trans (window_infix k j _).length_le (normBreaks_stripBom_length_le t)

theorem window_blen_le (k j : Nat) (t : List Char) :
    blen (takeRows k (dropRows j (normBreaks (stripBom t)))) ≤ blen t :=
  Nat.le_trans (blen_le_of_infix (window_infix k j _)) (normBreaks_stripBom_blen_le t)

/-- what `crop_source_window` does with the window `w` (starting at row `ws`) once it is cut out: it is stored
verbatim, or (storage crop of very long lines) every row is cropped horizontally and the result sanitised -/
def storeWindow (loc : Snippet.Loc) (m : Mapping) (r rel ws : Nat) (w : List Char) : Res (List Char × Nat) :=
  if r = 0 then pure (w, absoluteRow m ws)
  else
    let needs := decide (blen w > storageCropTotal) ||
      (linesOf w).any (fun l => decide (blen (stripCR l) > storageCropLine))
    if ¬ needs then pure (w, absoluteRow m ws)
    else do
      let out ← cswLoop w rel (max (loc.column - r) 1) (satAdd loc.column r) (blen w) 0 ws []
      let out ← sanitize out
      pure (out, absoluteRow m ws)

/-- `crop_source_window` at a known location on an existing row `rel` of the text `T` (BOM stripped, line breaks
normalised): the rows `ws..=we` around `rel` are cut out and stored -/
theorem cropSourceWindow_eq (text0 T : List Char) (loc : Snippet.Loc) (m : Mapping) (r rel : Nat)
    (hT : normBreaks (stripBom text0) = T) (hlen : text0.length + 1 ≤ usizeMax)
    (hu : loc.isUnknown = false) (hrel : relativeRow m loc.line = some rel)
    (hne : stripBom text0 ≠ []) (hr1 : 1 ≤ rel) (hr2 : rel ≤ T.count '\n' + 1) :
    ∃ ws we, WindowRows rel (T.count '\n' + 1) ws we ∧
      cropSourceWindow text0 loc m r = storeWindow loc m r rel ws (takeRows (we - (ws - 1)) (dropRows (ws - 1) T)) := by
  have hneT : T ≠ [] := fun h0 => hne ((normBreaks_eq_nil _).mp (hT.trans h0))
  have h0 : ¬ (text0.isEmpty = true ∨ loc.isUnknown = true) := by
    rw [hu]
    intro h
    rcases h with h | h
    · rw [List.isEmpty_iff.mp h] at hne; exact hne rfl
    · cases h
  have h1 : ¬ (lineStarts T).isEmpty = true := fun h => hneT ((lineStarts_nil_iff _).mp h)
  have hrel_le : rel ≤ usizeMax := by
    have h3 : T.count '\n' ≤ T.length := List.count_le_length
    have := normBreaks_stripBom_length_le text0
    rw [hT] at this
    omega
  obtain ⟨ws, we, hwr, W, hwb, hsl⟩ := window_cut T hneT rel hr1 hr2 hrel_le "crop_source_window"
    "crop_source_window:text[window_start..window_end]"
  unfold cropSourceWindow
  rw [if_neg h0, hT, hrel]
  simp only []
  rw [if_neg h1, lineStarts_length _ hneT, if_neg (by omega), hwr]
  simp only []
  rw [hwb]
  simp only [res_bind_ok]
  rw [hsl]
  exact ⟨ws, we, W, rfl⟩

/-- `out` is what `crop_source_window` stores for the window `W`: `W` itself, or (storage crop of very long lines) a
terminal-clean text; either way with as many line breaks as `W`, and with its final line break -/
structure StoredAs (W out : List Char) : Prop where
  count : out.count '\n' = W.count '\n'
  last : W.getLast? = some '\n' → out.getLast? = some '\n'
  text : out = W ∨ clean out = true

/-- what is stored for `k` rows shows at most `k` lines: it has their line breaks, and when all `k` rows have theirs it
ends with one -/
theorem StoredAs.shownLines_le {k : Nat} {s out : List Char} (h : StoredAs (takeRows k s) out) (hk : 0 < k) :
    shownLines out ≤ k := by
  have hcw := count_takeRows_le k s
  have hcnt := h.count
  unfold shownLines
  split
  · omega
  · rename_i hno
    have : (takeRows k s).count '\n' ≠ k := fun hc => hno (.inr (h.last (takeRows_full_ends k s hk hc)))
    omega

theorem storeWindow_spec (loc : Snippet.Loc) (m : Mapping) (r rel ws : Nat) (w : List Char)
    (hw : w.length + 1 ≤ usizeMax) (hwb : blen w ≤ usizeMax) (hcol : loc.column ≤ usizeMax) :
    ∃ out, storeWindow loc m r rel ws w = .ok (out, absoluteRow m ws) ∧ StoredAs w out := by
  unfold storeWindow
  by_cases hr0 : r = 0
  · rw [if_pos hr0]; exact ⟨w, rfl, rfl, id, .inl rfl⟩
  · rw [if_neg hr0]
    simp only []
    split
    · exact ⟨w, rfl, rfl, id, .inl rfl⟩
    · obtain ⟨out', hloop, hcnt, hlast⟩ := cswLoop_spec w rel (max (loc.column - r) 1) (satAdd loc.column r) ws
        hw hwb (caller_window_ok loc.column r hcol)
      rw [hloop]
      simp only [res_bind_ok, sanitize_eq, res_pure]
      exact ⟨_, rfl, by rw [sanitize_count_nl, hcnt], fun hl => sanitize_getLast_nl _ (hlast hl),
        .inr (sanitize_spec_clean _)⟩

/-- what `crop_source_window` returns: nothing, or the rows `ws..=we` (of the BOM-stripped text with its
line breaks normalised) around the (relative) error row `rel`, stored verbatim or storage-cropped (`StoredAs`).
Never a panic. -/
theorem cropSourceWindow_spec (text0 : List Char) (loc : Snippet.Loc) (m : Mapping) (r : Nat)
    (hlen : text0.length + 1 ≤ usizeMax) (hb : blen text0 ≤ usizeMax) (hcol : loc.column ≤ usizeMax) :
    ∃ out sl, cropSourceWindow text0 loc m r = .ok (out, sl) ∧
      (out = [] ∨
       ∃ rel ws we, relativeRow m loc.line = some rel ∧
          WindowRows rel ((normBreaks (stripBom text0)).count '\n' + 1) ws we ∧ sl = absoluteRow m ws ∧
          StoredAs (takeRows (we - (ws - 1)) (dropRows (ws - 1) (normBreaks (stripBom text0)))) out) := by
  by_cases h0 : text0.isEmpty = true ∨ loc.isUnknown = true
  · exact ⟨[], 1, by unfold cropSourceWindow; rw [if_pos h0], .inl rfl⟩
  cases hrel : relativeRow m loc.line with
  | none => exact ⟨[], _, by unfold cropSourceWindow; rw [if_neg h0, hrel], .inl rfl⟩
  | some rel =>
    by_cases hne : stripBom text0 = []
    · exact ⟨[], 1, by unfold cropSourceWindow; rw [if_neg h0, hrel, hne]; rfl, .inl rfl⟩
    have hneT : normBreaks (stripBom text0) ≠ [] := fun h => hne ((normBreaks_eq_nil _).mp h)
    by_cases h2 : rel = 0 ∨ rel > (normBreaks (stripBom text0)).count '\n' + 1
    · refine ⟨[], m.getD 1, ?_, .inl rfl⟩
      unfold cropSourceWindow
      rw [if_neg h0, hrel]
      simp only []
      rw [if_neg (fun h => hneT ((lineStarts_nil_iff _).mp h)), lineStarts_length _ hneT, if_pos h2]
    obtain ⟨ws, we, W, heq⟩ := cropSourceWindow_eq text0 _ loc m r rel rfl hlen
      (by simpa using (not_or.mp h0).2) hrel hne (by omega) (by omega)
    have hwlen := window_length_le (we - (ws - 1)) (ws - 1) text0
    have hwblen := window_blen_le (we - (ws - 1)) (ws - 1) text0
    obtain ⟨out, hst, ho⟩ := storeWindow_spec loc m r rel ws
      (takeRows (we - (ws - 1)) (dropRows (ws - 1) (normBreaks (stripBom text0)))) (by omega) (by omega) hcol
    exact ⟨out, _, heq.trans hst, .inr ⟨rel, ws, we, rfl, W, rfl, ho⟩⟩

theorem cropSourceWindow_nil (loc : Snippet.Loc) (m : Mapping) (r : Nat) :
    cropSourceWindow [] loc m r = .ok ([], 1) := by
  unfold cropSourceWindow
  rw [if_pos (.inl rfl)]

theorem stripBom_count_nl (t : List Char) : (stripBom t).count '\n' = t.count '\n' := by
  cases t with
  | nil => rfl
  | cons c cs =>
    rw [stripBom_cons]
    by_cases h : c.toNat = 0xFEFF
    · rw [if_pos h, count_nl_cons, if_neg (by intro hc; rw [hc] at h; revert h; decide)]; rfl
    · rw [if_neg h]

theorem normBreaks_stripBom_count_nl (t : List Char) :
    (normBreaks (stripBom t)).count '\n' = (normBreaks t).count '\n' := by
  rw [normBreaks_stripBom, stripBom_count_nl]

/-- `line_count_including_trailing_empty_line` of a non-empty text is its number of line breaks
(LF, CRLF, lone CR: the line feeds of the normalised text) + 1 -/
theorem lineCount_eq (t : List Char) (h : t ≠ []) : lineCount t = (normBreaks t).count '\n' + 1 := by
  unfold lineCount
  simp only []
  have hn : normBreaks t ≠ [] := fun h0 => h ((normBreaks_eq_nil t).mp h0)
  generalize normBreaks t = u at hn
  have he : u.isEmpty = false := by cases u <;> simp_all
  rw [he]
  simp only [Bool.false_eq_true, if_false]
  by_cases hl : u.getLast? = some '\n'
  · rw [if_pos hl, if_pos hl]
    have : 1 ≤ u.count '\n' := List.count_pos_iff.mpr (List.mem_of_getLast? hl)
    omega
  · rw [if_neg hl, if_neg hl]; omega

theorem regionEndLine_eq (text : List Char) (m : Mapping) (loc : Snippet.Loc) :
    regionEndLine text m loc = min (satAdd loc.line ctxLines) (satAdd (m.getD 1) (lineCount text - 1)) := by
  cases m <;> rfl

end SaphyrVerif.Lemmas.C17
