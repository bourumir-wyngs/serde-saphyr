import SaphyrVerif.Lemmas.C12Plain
/-!
Helper lemmas for C12: the quoted writers (`write_quoted`, the key sink's escaper, `write_single_quoted`)
are inverted by the quoted readers of `Spec/ScalarRead.lean`, character by character.
-/
namespace SaphyrVerif.Lemmas.C12
open SaphyrVerif SaphyrVerif.SerScalar SaphyrVerif.Spec.Read

theorem charOfCode_toNat (c : Char) : charOfCode? c.toNat = some c := by
  have h : c.toNat < 0xD800 ∨ (0xDFFF < c.toNat ∧ c.toNat < 0x110000) := c.valid
  simp [charOfCode?, h]

theorem hexVal_hexUp : ∀ d, d < 16 → hexVal? (hexUp d) = some d := by decide

theorem dq_simple (e c : Char) (rest acc : List Char) (h : simpleEscape e = some c) :
    dqRun .norm ('\\' :: e :: rest) acc = dqRun .norm rest (c :: acc) := by
  simp [dqRun, h]

theorem dq_raw (c : Char) (rest acc : List Char) (h1 : c ≠ '"') (h2 : c ≠ '\\') (h3 : isBreak c = false) (h4 : isNul c = false) :
    dqRun .norm (c :: rest) acc = dqRun .norm rest (c :: acc) := by
  simp [dqRun, h1, h2, h3, h4]

theorem dq_hex2 (a b : Char) (x y : Nat) (c : Char) (rest acc : List Char)
    (ha : hexVal? a = some x) (hb : hexVal? b = some y) (hc : charOfCode? (x * 16 + y) = some c) :
    dqRun .norm ('\\' :: 'x' :: a :: b :: rest) acc = dqRun .norm rest (c :: acc) := by
  simp [dqRun, simpleEscape, ha, hb, hc]

theorem dq_hex4 (a b c d : Char) (w x y z : Nat) (ch : Char) (rest acc : List Char)
    (ha : hexVal? a = some w) (hb : hexVal? b = some x) (hc : hexVal? c = some y) (hd : hexVal? d = some z)
    (hch : charOfCode? (((w * 16 + x) * 16 + y) * 16 + z) = some ch) :
    dqRun .norm ('\\' :: 'u' :: a :: b :: c :: d :: rest) acc = dqRun .norm rest (ch :: acc) := by
  simp [dqRun, simpleEscape, ha, hb, hc, hd, hch]

/-- the escapes the double-quoted reader undoes to the single character `c`: a named escape, `\xHH`, `\uHHHH` -/
def escCheck (c : Char) (t : List Char) : Bool :=
  match t with
  | ['\\', e] => simpleEscape e == some c
  | '\\' :: 'x' :: r => c.toNat ≤ 0xFF && r == hex2 c.toNat
  | '\\' :: 'u' :: r => c.toNat ≤ 0xFFFF && r == hex4 c.toNat
  | _ => false

/-- the texts the double-quoted reader takes for the single character `c`: an escape, or the character itself -/
def Esc (c : Char) (t : List Char) : Prop :=
  escCheck c t = true ∨ (t = [c] ∧ c ≠ '"' ∧ c ≠ '\\' ∧ isBreak c = false ∧ isNul c = false)

theorem hex4_value (n : Nat) (h : n ≤ 0xFFFF) :
    ((n / 4096 % 16 * 16 + n / 256 % 16) * 16 + n / 16 % 16) * 16 + n % 16 = n := by
  have h1 : n / 4096 % 16 = n / 4096 := Nat.mod_eq_of_lt (Nat.div_lt_of_lt_mul (by omega))
  have h2 : n / 4096 = n / 256 / 16 := by rw [Nat.div_div_eq_div_mul]
  have h3 : n / 256 = n / 16 / 16 := by rw [Nat.div_div_eq_div_mul]
  rw [h1, h2, Nat.div_add_mod' (n / 256) 16, h3, Nat.div_add_mod' (n / 16) 16, Nat.div_add_mod' n 16]

theorem Esc.read {c : Char} {t : List Char} (h : Esc c t) (rest acc : List Char) :
    dqRun .norm (t ++ rest) acc = dqRun .norm rest (c :: acc) := by
  have hm := fun n => hexVal_hexUp (n % 16) (Nat.mod_lt _ (by decide))
  rcases h with h | ⟨rfl, h1, h2, h3, h4⟩
  · unfold escCheck at h
    split at h
    · exact dq_simple _ c rest acc (eq_of_beq h)
    · simp only [Bool.and_eq_true, decide_eq_true_eq, beq_iff_eq] at h
      rw [h.2]
      exact dq_hex2 _ _ _ _ c rest acc (hexVal_hexUp _ (Nat.div_lt_of_lt_mul (by omega))) (hm _)
        (by rw [Nat.div_add_mod']; exact charOfCode_toNat c)
    · simp only [Bool.and_eq_true, decide_eq_true_eq, beq_iff_eq] at h
      rw [h.2]
      exact dq_hex4 _ _ _ _ _ _ _ _ c rest acc (hm _) (hm _) (hm _) (hm _)
        (by rw [hex4_value _ h.1]; exact charOfCode_toNat c)
    · cases h
  · exact dq_raw c rest acc h1 h2 h3 h4

theorem hexUp_noNul : ∀ d, d < 16 → isNul (hexUp d) = false := by decide

theorem Esc.noNul {c : Char} {t : List Char} (h : Esc c t) : t.any isNul = false := by
  have hm := fun n => hexUp_noNul (n % 16) (Nat.mod_lt _ (by decide))
  have hb : isNul '\\' = false ∧ isNul 'x' = false ∧ isNul 'u' = false := by decide
  rcases h with h | ⟨rfl, _, _, _, h4⟩
  · unfold escCheck at h
    split at h
    · rename_i e
      have : isNul e = false := by
        cases he : isNul e with
        | false => rfl
        | true => rw [char_eq_of_toNat _ _ (eq_of_beq he)] at h; cases h
      simp [this, hb]
    · simp only [Bool.and_eq_true, decide_eq_true_eq, beq_iff_eq] at h
      simp [h.2, hex2, hm, hexUp_noNul (c.toNat / 16) (Nat.div_lt_of_lt_mul (by omega)), hb]
    · simp only [Bool.and_eq_true, decide_eq_true_eq, beq_iff_eq] at h
      simp [h.2, hex4, hm, hb]
    · cases h
  · simp [h4]

/-- codes of the characters with an arm of their own in `write_quoted` -/
def dqNamed : List Nat := [92, 34, 0, 7, 8, 9, 10, 0xB, 0xC, 13, 0x1B, 0xFEFF, 0x85, 0x2028, 0x2029]

theorem beq_false_of_toNat {c d : Char} (h : c.toNat ≠ d.toNat) : (c == d) = false :=
  beq_eq_false_iff_ne.mpr fun e => h (e ▸ rfl)

/-- every other character falls through to the generic arms -/
theorem dqEscape_generic {c : Char} (h : c.toNat ∉ dqNamed) :
    dqEscape c =
      if c.toNat ≤ 0xFF && (isControl c || (0x7F ≤ c.toNat && c.toNat ≤ 0x9F)) then '\\' :: 'x' :: hex2 c.toNat
      else if c.toNat ≤ 0xFFFF && (isControl c || (0x7F ≤ c.toNat && c.toNat ≤ 0x9F)) then '\\' :: 'u' :: hex4 c.toNat
      else [c] := by
  simp only [dqNamed, List.mem_cons, List.mem_nil_iff, or_false, not_or] at h
  obtain ⟨h1, h2, h3, h4, h5, h6, h7, h8, h9, h10, h11, h12, h13, h14, h15⟩ := h
  simp only [dqEscape, beq_false_of_toNat (d := '\\') h1, beq_false_of_toNat (d := '"') h2,
    beq_false_of_toNat (d := '\t') h6, beq_false_of_toNat (d := '\n') h7, beq_false_of_toNat (d := '\r') h10,
    beq_eq_false_iff_ne.mpr h3, beq_eq_false_iff_ne.mpr h4, beq_eq_false_iff_ne.mpr h5, beq_eq_false_iff_ne.mpr h8,
    beq_eq_false_iff_ne.mpr h9, beq_eq_false_iff_ne.mpr h11, beq_eq_false_iff_ne.mpr h12, beq_eq_false_iff_ne.mpr h13,
    beq_eq_false_iff_ne.mpr h14, beq_eq_false_iff_ne.mpr h15, Bool.false_eq_true, if_false]

theorem dqEscape_esc (c : Char) : Esc c (dqEscape c) := by
  by_cases hk : c.toNat ∈ dqNamed
  · have hn : ∀ k ∈ dqNamed, escCheck (Char.ofNat k) (dqEscape (Char.ofNat k)) = true := by decide +kernel
    exact Or.inl (Char.ofNat_toNat c ▸ hn _ hk)
  · rw [dqEscape_generic hk]
    simp only [dqNamed, List.mem_cons, List.mem_nil_iff, or_false, not_or] at hk
    split
    · rename_i h1
      simp only [Bool.and_eq_true, decide_eq_true_eq] at h1
      exact Or.inl (by simp [escCheck, hex2, h1.1])
    · split
      · rename_i h1 h2
        simp only [Bool.and_eq_true, decide_eq_true_eq, isControl, Bool.or_eq_true] at h1 h2
        omega
      · rename_i h1 _
        simp only [Bool.and_eq_true, decide_eq_true_eq, isControl, Bool.or_eq_true, not_and, not_or, Nat.not_le] at h1
        refine Or.inr ⟨rfl, ?_, ?_, ?_, ?_⟩
        · intro e; subst e; exact hk.2.1 rfl
        · intro e; subst e; exact hk.1 rfl
        · simp [isBreak, beq_false_of_toNat (d := '\n') hk.2.2.2.2.2.2.1, beq_false_of_toNat (d := '\r') hk.2.2.2.2.2.2.2.2.2.1]
        · simp [isNul, hk.2.2.1]

/-- codes of the characters with an arm of their own in `KeyScalarSink::serialize_str` -/
def keyNamed : List Nat := [92, 34, 10, 13, 9]

theorem keyEscape_generic {c : Char} (h : c.toNat ∉ keyNamed) :
    keyEscape c = if isControl c then '\\' :: 'u' :: hex4 c.toNat else [c] := by
  simp only [keyNamed, List.mem_cons, List.mem_nil_iff, or_false, not_or] at h
  simp only [keyEscape, beq_false_of_toNat (d := '\\') h.1, beq_false_of_toNat (d := '"') h.2.1,
    beq_false_of_toNat (d := '\n') h.2.2.1, beq_false_of_toNat (d := '\r') h.2.2.2.1,
    beq_false_of_toNat (d := '\t') h.2.2.2.2, Bool.false_eq_true, if_false]

theorem keyEscape_esc (c : Char) : Esc c (keyEscape c) := by
  by_cases hk : c.toNat ∈ keyNamed
  · have hn : ∀ k ∈ keyNamed, escCheck (Char.ofNat k) (keyEscape (Char.ofNat k)) = true := by decide +kernel
    exact Or.inl (Char.ofNat_toNat c ▸ hn _ hk)
  · rw [keyEscape_generic hk]
    simp only [keyNamed, List.mem_cons, List.mem_nil_iff, or_false, not_or] at hk
    split
    · rename_i h1
      have : c.toNat ≤ 0xFFFF := by
        simp only [isControl, Bool.or_eq_true, Bool.and_eq_true, decide_eq_true_eq] at h1
        omega
      exact Or.inl (by simp [escCheck, hex4, this])
    · rename_i h1
      obtain ⟨_, hb, hn⟩ := not_control_facts (by simpa using h1)
      exact Or.inr ⟨rfl, fun e => hk.2.1 (e ▸ rfl), fun e => hk.1 (e ▸ rfl), hb, hn⟩

theorem dq_body {f : Char → List Char} (hf : ∀ c, Esc c (f c)) (s rest acc : List Char) :
    dqRun .norm (s.flatMap f ++ '"' :: rest) acc = some (acc.reverse ++ s, rest) := by
  induction s generalizing acc with
  | nil => simp [dqRun]
  | cons c s ih =>
    rw [List.flatMap_cons, List.append_assoc, (hf c).read, ih]
    simp

theorem dq_noNul {f : Char → List Char} (hf : ∀ c, Esc c (f c)) (s : List Char) :
    ('"' :: (s.flatMap f ++ ['"'])).any isNul = false := by
  have : (s.flatMap f).any isNul = false := by
    rw [List.any_flatMap]
    exact List.any_eq_false.mpr fun c _ => by simp [(hf c).noNul]
  rw [List.any_cons, List.any_append, this]
  rfl

theorem readDq_quoted {f : Char → List Char} (hf : ∀ c, Esc c (f c)) (s : List Char) :
    readDq ('"' :: (s.flatMap f ++ ['"'])) = some (s, []) := by
  simpa [readDq] using dq_body hf s [] []

def sqEsc (c : Char) : List Char := if c == '\'' then ['\'', '\''] else [c]

theorem sq_char (c : Char) (rest acc : List Char) (hb : isBreak c = false) (hn : isNul c = false) :
    sqRun false (sqEsc c ++ rest) acc = sqRun false rest (c :: acc) := by
  unfold sqEsc
  by_cases h : (c == '\'') = true
  · rw [if_pos h]; have := eq_of_beq h; subst this
    simp [sqRun]
  · rw [if_neg h]
    simp [sqRun, h, hb, hn]

theorem sq_body (s rest acc : List Char) (h : ∀ c ∈ s, isBreak c = false ∧ isNul c = false)
    (hr : rest.head? ≠ some '\'') :
    sqRun false (s.flatMap sqEsc ++ '\'' :: rest) acc = some (acc.reverse ++ s, rest) := by
  induction s generalizing acc with
  | nil =>
    cases rest with
    | nil => simp [sqRun]
    | cons x r =>
      have : (x == '\'') = false := by simpa using hr
      simp [sqRun, this]
  | cons c s ih =>
    have hc := h c (by simp)
    rw [List.flatMap_cons, List.append_assoc, sq_char c _ _ hc.1 hc.2, ih]
    · simp
    · intro d hd; exact h d (by simp [hd])

/-- what the writer's guard for single quotes gives -/
theorem needsDq_false {s : List Char} (h : needsDoubleQuotes s = false) :
    ∀ c ∈ s, c ≠ '\'' ∧ isBreak c = false ∧ isNul c = false := by
  intro c hc
  have hc' := List.any_eq_false.mp h c hc
  simp only [Bool.not_eq_true, Bool.or_eq_false_iff, beq_eq_false_iff_ne] at hc'
  exact ⟨hc'.1.1, (not_control_facts hc'.2).2⟩

theorem sq_noNul (s : List Char) (h : needsDoubleQuotes s = false) :
    (writeSingleQuoted s).any isNul = false := by
  have : (s.flatMap fun c => if c == '\'' then ['\'', '\''] else [c]).any isNul = false := by
    rw [List.any_flatMap]
    exact List.any_eq_false.mpr fun c hc => by simp [(needsDq_false h c hc).1, (needsDq_false h c hc).2.2]
  rw [writeSingleQuoted, List.any_cons, List.any_append, this]
  rfl

end SaphyrVerif.Lemmas.C12
