import SaphyrVerif.Basic.Text
/-!
Facts about the text helpers of `Basic/Text.lean` that several properties use.
-/
namespace SaphyrVerif

theorem dropWhile_of_none {α : Type} (p : α → Bool) (s : List α) (h : ∀ c ∈ s, p c = false) : s.dropWhile p = s := by
  cases s with
  | nil => rfl
  | cons c r => simp [List.dropWhile, h c List.mem_cons_self]

theorem trim_of_no_ws {s : List Char} (h : ∀ c ∈ s, isWhitespace c = false) : trim s = s := by
  unfold trim trimStart trimEnd
  rw [dropWhile_of_none _ s h, dropWhile_of_none _ s.reverse fun c hc => h c (List.mem_reverse.mp hc)]
  exact List.reverse_reverse s

theorem dropWhile_getLast {α : Type} {p : α → Bool} {x : α} :
    ∀ (l : List α), l.getLast? = some x → p x = false → (l.dropWhile p).getLast? = some x := by
  intro l
  induction l with
  | nil => intro h; simp at h
  | cons a l ih =>
    intro h hp
    cases l with
    | nil =>
      simp only [List.getLast?_singleton, Option.some.injEq] at h
      subst h
      simp [List.dropWhile, hp]
    | cons b r =>
      rw [List.getLast?_cons_cons] at h
      rw [List.dropWhile]
      cases hpa : p a with
      | true => exact ih h hp
      | false => simp only; rw [List.getLast?_cons_cons]; exact h

theorem trimEnd_of_last {x : Char} (l : List Char) (h : l.getLast? = some x) (hp : isWhitespace x = false) :
    trimEnd l = l := by
  unfold trimEnd
  have : l.reverse.head? = some x := by rw [List.head?_reverse]; exact h
  cases hr : l.reverse with
  | nil => rw [hr] at this; simp at this
  | cons a r =>
    rw [hr] at this
    simp only [List.head?_cons, Option.some.injEq] at this
    subst this
    rw [List.dropWhile, hp]
    simp only
    rw [← hr, List.reverse_reverse]

/-- `trim` keeps a last character that is not whitespace -/
theorem trim_getLast {s : List Char} {c : Char} (h : s.getLast? = some c) (hc : isWhitespace c = false) :
    (trim s).getLast? = some c := by
  have h1 : (trimStart s).getLast? = some c := dropWhile_getLast s h hc
  rw [trim, trimEnd_of_last _ h1 hc, h1]

end SaphyrVerif
