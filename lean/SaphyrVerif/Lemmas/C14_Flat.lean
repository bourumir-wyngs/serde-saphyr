import SaphyrVerif.Lemmas.C14_Ser
import SaphyrVerif.Lemmas.C14_De
/-!
C14, round trip of records whose fields are wrapper-free values or wrappers around wrapper-free
payloads ("one level of sharing"): exact behaviour of serializer, type derivation and deserializer on
wrapper-free values, and the relations of the field-by-field simulation (the simulation itself is `C14_Flat2`).
-/
namespace SaphyrVerif.Lemmas.C14
open SaphyrVerif.Anchors SaphyrVerif.Spec.Anchors

mutual
/-- the document of a wrapper-free value written with the pending anchor `a` (only used under `plainV v = true`;
the wrapper arms are fillers) -/
def plainOut (a : Nat) : Val → Out
  | .leaf k => .leaf (if k.takesAnchor then a else 0) k
  | .node isMap items => .node a isMap (plainOutList items)
  | .strong .. => .leaf 0 .null
  | .weak .. => .leaf 0 .null
def plainOutList : List Val → List Out
  | [] => []
  | x :: xs => plainOut 0 x :: plainOutList xs
end

mutual
/-- the type a wrapper-free value is read back as (only used under `plainV v = true`; the wrapper arms are fillers) -/
def plainTyOf : Val → Ty
  | .leaf _ => .leaf false
  | .node _ items => .node (plainTyOfList items)
  | .strong .. => .leaf false
  | .weak .. => .leaf false
def plainTyOfList : List Val → List Ty
  | [] => []
  | x :: xs => plainTyOf x :: plainTyOfList xs
end

theorem SerSt.pending_none_eta (s : SerSt) (h : s.pending = none) : { s with pending := none } = s := by
  cases s; simp_all

theorem Ser.plain {H : Heap} {s : SerSt} {pv : Val} {o : Out} {s' : SerSt} (h : Ser H s pv o s') :
    plainV pv = true → (s.pending = none ∨ takesRoot pv = true) →
      o = plainOut (s.pending.getD 0) pv ∧ s' = { s with pending := none } := by
  refine Ser.rec
    (motive_1 := fun s pv o s' _ => plainV pv = true → (s.pending = none ∨ takesRoot pv = true) →
      o = plainOut (s.pending.getD 0) pv ∧ s' = { s with pending := none })
    (motive_2 := fun s items outs s' _ => plainVList items = true → s.pending = none →
      outs = plainOutList items ∧ s' = s)
    ?scalar ?block ?dangling ?node ?alias ?define ?nil ?cons h
  case scalar => intro s k htk _ _; exact ⟨by simp [plainOut, htk], rfl⟩
  case block =>
    intro s k htk _ hpend
    have hn : s.pending = none := hpend.resolve_right (by rw [takesRoot, htk]; nofun)
    exact ⟨by simp [plainOut, htk], by rw [forgetPending_none s hn, SerSt.pending_none_eta s hn]⟩
  case dangling => intro _ _ _ _ _ hp; cases hp
  case node =>
    intro s isMap items outs s' _ ih hp _
    obtain ⟨f1, f2⟩ := ih hp rfl
    exact ⟨by rw [f1]; simp [plainOut], f2⟩
  case alias => intro _ _ _ _ _ _ he _ _ _ hp; rw [he.plainV] at hp; cases hp
  case define => intro _ _ _ _ _ _ _ he _ _ _ _ _ hp; rw [he.plainV] at hp; cases hp
  case nil => intro _ _ _; exact ⟨rfl, rfl⟩
  case cons =>
    intro s x xs y s1 ys s' _ _ ih1 ih2 hp hpend
    simp only [plainVList, Bool.and_eq_true] at hp
    obtain ⟨e1, e2⟩ := ih1 hp.1 (Or.inl hpend)
    rw [SerSt.pending_none_eta s hpend] at e2
    subst e2
    obtain ⟨f1, f2⟩ := ih2 hp.2 hpend
    refine ⟨?_, f2⟩
    rw [e1, f1, hpend]
    rfl

theorem mapM_cons_some {α β : Type} {f : α → Option β} {x : α} {xs : List α} {ys : List β} :
    (x :: xs).mapM f = some ys ↔ ∃ y ys', f x = some y ∧ xs.mapM f = some ys' ∧ ys = y :: ys' := by
  rw [List.mapM_cons]
  cases f x with
  | none => simp
  | some y =>
    cases xs.mapM f with
    | none => simp
    | some ys' => simp [eq_comm]

theorem mapM_tyOf_plain (fuel : Nat) (H : Heap)
    (ih : ∀ pv ty, plainV pv = true → tyOf fuel H pv = some ty → ty = plainTyOf pv) :
    ∀ (items : List Val) (tys : List Ty), plainVList items = true →
      items.mapM (fun x => tyOf fuel H x) = some tys → tys = plainTyOfList items := by
  intro items
  induction items with
  | nil => intro tys _ h; simp at h; rw [h]; rfl
  | cons x xs ihl =>
    intro tys hp h
    simp only [plainVList, Bool.and_eq_true] at hp
    obtain ⟨t, ts, hx, hxs, rfl⟩ := mapM_cons_some.mp h
    rw [ih x t hp.1 hx, ihl ts hp.2 hxs]
    rfl

theorem tyOf_plain (H : Heap) : ∀ (fuel : Nat) (pv : Val) (ty : Ty), plainV pv = true →
    tyOf fuel H pv = some ty → ty = plainTyOf pv := by
  intro fuel
  induction fuel with
  | zero => intro pv ty _ h; simp [tyOf] at h
  | succ fuel ih =>
    intro pv ty hp h
    cases pv with
    | strong k tid p => simp [plainV] at hp
    | weak k tid p => simp [plainV] at hp
    | leaf k => simp [tyOf] at h; rw [← h]; rfl
    | node isMap items =>
      simp only [plainV] at hp
      simp only [tyOf, Option.map_eq_some_iff] at h
      obtain ⟨tys, h1, h2⟩ := h
      rw [← h2, mapM_tyOf_plain fuel H ih items tys hp h1]
      rfl

/-- the pump registers an anchored node that comes from the parser -/
def recordDef (live : Bool) (D : DeSt) (o : Out) : DeSt :=
  if live && o.rootAnchor != 0 then { D with defs := (o.rootAnchor, o) :: D.defs } else D

theorem rootAnchor_plainOut_zero (pv : Val) : (plainOut 0 pv).rootAnchor = 0 := by
  cases pv <;> simp [plainOut, Out.rootAnchor]

theorem recordDef_zero (live : Bool) (D : DeSt) (pv : Val) : recordDef live D (plainOut 0 pv) = D := by
  simp [recordDef, rootAnchor_plainOut_zero]

mutual
theorem de_plain (onAlias : Ty → Nat → DeSt → DeRes) (live : Bool) :
    ∀ (pv : Val) (a : Nat) (D : DeSt), plainV pv = true →
      deCore onAlias live (plainTyOf pv) (plainOut a pv) D =
        .ok (plainOf pv, plainOut a pv, recordDef live D (plainOut a pv))
  | .leaf k, a, D, _ => rfl
  | .node isMap items, a, D, hp => by
    rw [plainTyOf, plainOut, deCore]
    simp only [recordDef, Out.rootAnchor, plainOf]
    by_cases hc : (live && a != 0) = true
    · simp only [hc, if_true]
      rw [de_plain_list onAlias live items _ hp]
      rfl
    · simp only [hc]
      rw [de_plain_list onAlias live items _ hp]
      rfl
  | .strong k tid p, _, _, hp => by cases hp
  | .weak k tid p, _, _, hp => by cases hp
theorem de_plain_list (onAlias : Ty → Nat → DeSt → DeRes) (live : Bool) :
    ∀ (items : List Val) (D : DeSt), plainVList items = true →
      deList onAlias live (plainTyOfList items) (plainOutList items) D =
        .ok (plainOfList items, plainOutList items, D)
  | [], D, _ => rfl
  | x :: xs, D, hp => by
    simp only [plainVList, Bool.and_eq_true] at hp
    rw [plainTyOfList, plainOutList, deList, de_plain onAlias live x 0 D hp.1, recordDef_zero]
    simp only
    rw [de_plain_list onAlias live xs D hp.2]
    rfl
end

theorem rootAnchor_plainOut (a : Nat) (pv : Val) (ht : takesRoot pv = true) : (plainOut a pv).rootAnchor = a := by
  cases pv with
  | leaf k => simp only [takesRoot] at ht; simp [plainOut, Out.rootAnchor, ht]
  | node m items => simp [plainOut, Out.rootAnchor]
  | strong k t p => simp [takesRoot] at ht
  | weak k t p => simp [takesRoot] at ht

theorem plainOut_not_alias (a : Nat) (pv : Val) (id : Nat) : plainOut a pv ≠ .alias id := by
  cases pv <;> simp [plainOut]

/-- state after a strong wrapper at top level has built and stored a fresh allocation -/
def afterDefine (D : DeSt) (k : Kind) (id tid : Nat) (o : Out) (pv : RVal) : DeSt :=
  { D with
    nextPtr := D.nextPtr + 1
    heap := if k.isRec then (D.nextPtr, some pv) :: (D.nextPtr, none) :: D.heap else (D.nextPtr, some pv) :: D.heap
    store := ((k, id), (D.nextPtr, tid)) :: D.store
    defs := (id, o) :: D.defs }

theorem de_strong_fresh (k : Kind) (tid id : Nat) (hid : id ≠ 0) (payload : Val) (hp : plainV payload = true)
    (ht : takesRoot payload = true) (D : DeSt) (hstack : D.stack = [])
    (hfresh : D.store.lookup (k, id) = none) :
    de (.strong k tid (plainTyOf payload)) (plainOut id payload) D =
      .ok (.strong k D.nextPtr, plainOut id payload,
        afterDefine D k id tid (plainOut id payload) (plainOf payload)) := by
  have hra := rootAnchor_plainOut id payload ht
  have hne : (id != 0) = true := by simpa using hid
  unfold de
  rw [strong_new (plainOut_not_alias id payload) (by rw [hra]; exact hid) (by rw [hra]; exact hfresh)
    (by rw [hstack]; nofun)]
  simp only [hra, alloc, fun D' => de_plain onAliasLive true payload id D' hp, recordDef, hne, Bool.and_self, if_true]
  cases hk : k.isRec <;> simp [afterDefine, popCtx, fill, storePtr, pushCtx, hstack, hk]

theorem resolveAlias_recorded {D : DeSt} {id : Nat} {sub : Out} (hopn : D.opn = [])
    (hdef : D.defs.lookup id = some sub) : resolveAlias D id = .ok sub := by
  simp [resolveAlias, hopn, hdef]

theorem de_strong_alias (k : Kind) (tid id : Nat) (hid : id ≠ 0) (payload : Val) (hp : plainV payload = true)
    (ht : takesRoot payload = true) (D : DeSt) (hopn : D.opn = [])
    (hdef : D.defs.lookup id = some (plainOut id payload)) (q : Ptr)
    (hst : D.store.lookup (k, id) = some (q, tid)) :
    de (.strong k tid (plainTyOf payload)) (.alias id) D = .ok (.strong k q, plainOut id payload, D) := by
  have hra := rootAnchor_plainOut id payload ht
  refine de_alias_ok.mpr ⟨_, resolveAlias_recorded hopn hdef, ?_⟩
  rw [deE, strong_known (plainOut_not_alias id payload) (by rw [hra]; exact hid) (by rw [hra]; exact hst),
    de_plain noAlias false payload id _ hp]
  simp [recordDef, hra, pop_push]

theorem de_weak_alias (k : Kind) (tid id : Nat) (hid : id ≠ 0) (payload : Val)
    (ht : takesRoot payload = true) (D : DeSt) (hopn : D.opn = [])
    (hdef : D.defs.lookup id = some (plainOut id payload)) (q : Ptr)
    (hst : D.store.lookup (k, id) = some (q, tid)) :
    de (.weak k tid) (.alias id) D = .ok (.weak k q, plainOut id payload, D) := by
  have hra := rootAnchor_plainOut id payload ht
  exact de_alias_ok.mpr ⟨_, resolveAlias_recorded hopn hdef,
    deE_weak_stored k tid _ (plainOut_not_alias id payload) (by rw [hra]; exact hid) D q (by rw [hra]; exact hst)⟩

theorem de_weak_dangling (k : Kind) (tid : Nat) (D : DeSt) :
    de (.weak k tid) (.leaf 0 .null) D = .ok (.weakNull k, .leaf 0 .null, D) := by
  simp [de, deCore, Out.rootAnchor, Out.isNull]

/-- a field of a record with one level of sharing: a wrapper-free value, or a wrapper whose payload (if
the allocation is alive) is a wrapper-free value written by an anchor-taking path.  `kindOf` gives the
wrapper family and payload `TypeId` of each pointer (in Rust a given allocation has one type). -/
def FlatItem (H : Heap) (kindOf : Ptr → Kind × Nat) : Val → Prop
  | .strong k tid p => kindOf p = (k, tid) ∧
      ∃ payload, H.lookup p = some payload ∧ plainV payload = true ∧ takesRoot payload = true
  | .weak k tid p => kindOf p = (k, tid) ∧
      ∀ payload, H.lookup p = some payload → plainV payload = true ∧ takesRoot payload = true
  | .leaf _ => True
  | .node _ items => plainVList items = true

theorem ser_edge_flat {H : Heap} {v : Val} {k : Kind} {p : Ptr} {payload : Val} (he : Edge v k p)
    (hl : H.lookup p = some payload) (hp : plainV payload = true) (ht : takesRoot payload = true)
    {S : SerSt} (hpend : S.pending = none) (hheld : S.held = []) {o : Out} {S' : SerSt} (h : Ser H S v o S') :
    (∃ id, S.anchors.lookup p = some id ∧ o = .alias id ∧ S' = S) ∨
    (S.anchors.lookup p = none ∧ o = plainOut S.next payload ∧
      S' = SerSt.mk ((p, S.next) :: S.anchors) (S.next + 1) none []) := by
  cases h with
  | scalar => cases he
  | block => cases he
  | node => cases he
  | dangling hn => cases he; rw [hn] at hl; cases hl
  | alias he' _ _ hl1 =>
    obtain ⟨rfl, rfl⟩ := he.inj he'
    exact Or.inl ⟨_, hl1, rfl, rfl⟩
  | define he' hc hl1 _ hrec =>
    obtain ⟨rfl, rfl⟩ := he.inj he'
    cases hl.symm.trans hc
    rw [regSt_none _ p hpend] at hrec
    obtain ⟨e1, e2⟩ := hrec.plain hp (Or.inr ht)
    refine Or.inr ⟨hl1, by simpa using e1, ?_⟩
    rw [e2, hheld]

theorem tyOf_strong (fuel : Nat) (H : Heap) (k : Kind) (tid : Nat) (p : Ptr) (payload : Val)
    (hl : H.lookup p = some payload) (hp : plainV payload = true) (ty : Ty)
    (h : tyOf fuel H (.strong k tid p) = some ty) : ty = .strong k tid (plainTyOf payload) := by
  cases fuel with
  | zero => simp [tyOf] at h
  | succ fuel =>
    simp only [tyOf, hl, Option.map_eq_some_iff] at h
    obtain ⟨t, h1, h2⟩ := h
    rw [← h2, tyOf_plain H fuel payload t hp h1]

theorem tyOf_weak (fuel : Nat) (H : Heap) (k : Kind) (tid : Nat) (p : Ptr) (ty : Ty)
    (h : tyOf fuel H (.weak k tid p) = some ty) : ty = .weak k tid := by
  cases fuel with
  | zero => simp [tyOf] at h
  | succ fuel => simp only [tyOf, Option.some.injEq] at h; exact h.symm

/-- the simulation invariant between the serializer's pointer table and the deserializer's store -/
structure Inv (H : Heap) (kindOf : Ptr → Kind × Nat) (S : SerSt) (D : DeSt) : Prop where
  pend : S.pending = none
  held : S.held = []
  tab : TableOK S
  tinj : TableInj S
  next1 : 1 ≤ S.next
  stack : D.stack = []
  opn : D.opn = []
  stored : ∀ p id, S.anchors.lookup p = some id → ∃ q payload, H.lookup p = some payload ∧
      takesRoot payload = true ∧ plainV payload = true ∧
      D.store.lookup ((kindOf p).1, id) = some (q, (kindOf p).2) ∧ D.cell q = some (plainOf payload) ∧
      D.defs.lookup id = some (plainOut id payload)
  keys : ∀ key v, D.store.lookup key = some v → key.2 < S.next ∧ v.1 < D.nextPtr
  qinj : ∀ k1 k2 v1 v2, D.store.lookup k1 = some v1 → D.store.lookup k2 = some v2 → v1.1 = v2.1 → k1 = k2

/-- nothing the two sides already agreed on is changed -/
structure Ext (S : SerSt) (D : DeSt) (S' : SerSt) (D' : DeSt) : Prop where
  tab : ∀ p id, S.anchors.lookup p = some id → S'.anchors.lookup p = some id
  store : ∀ key v, D.store.lookup key = some v → D'.store.lookup key = some v
  cells : ∀ q c, q < D.nextPtr → D.cell q = some c → D'.cell q = some c
  next : D.nextPtr ≤ D'.nextPtr

theorem Ext.refl (S : SerSt) (D : DeSt) : Ext S D S D :=
  ⟨fun _ _ h => h, fun _ _ h => h, fun _ _ _ h => h, Nat.le_refl _⟩

theorem Ext.trans {S0 : SerSt} {D0 : DeSt} {S1 : SerSt} {D1 : DeSt} {S2 : SerSt} {D2 : DeSt}
    (h1 : Ext S0 D0 S1 D1) (h2 : Ext S1 D1 S2 D2) : Ext S0 D0 S2 D2 :=
  ⟨fun p id h => h2.tab p id (h1.tab p id h), fun k v h => h2.store k v (h1.store k v h),
   fun q c hq hc => h2.cells q c (Nat.lt_of_lt_of_le hq h1.next) (h1.cells q c hq hc),
   Nat.le_trans h1.next h2.next⟩

def FieldRel (H : Heap) (S : SerSt) (D : DeSt) : Val → RVal → Prop
  | .strong k tid p, rv => ∃ id q, S.anchors.lookup p = some id ∧ D.store.lookup (k, id) = some (q, tid) ∧
      rv = .strong k q
  | .weak k tid p, rv => (H.lookup p = none ∧ rv = .weakNull k) ∨
      (H.lookup p ≠ none ∧ ∃ id q, S.anchors.lookup p = some id ∧ D.store.lookup (k, id) = some (q, tid) ∧
        rv = .weak k q)
  | .leaf lk, rv => rv = .leaf lk
  | .node m items, rv => rv = plainOf (.node m items)

theorem FieldRel.ext {H : Heap} {S : SerSt} {D : DeSt} {S' : SerSt} {D' : DeSt} (h : Ext S D S' D') (it : Val)
    (rv : RVal) (hr : FieldRel H S D it rv) : FieldRel H S' D' it rv := by
  cases it with
  | leaf lk => exact hr
  | node m items => exact hr
  | strong k tid p =>
    obtain ⟨id, q, h1, h2, h3⟩ := hr
    exact ⟨id, q, h.tab p id h1, h.store _ _ h2, h3⟩
  | weak k tid p =>
    rcases hr with hr | ⟨hl, id, q, h1, h2, h3⟩
    · exact Or.inl hr
    · exact Or.inr ⟨hl, id, q, h.tab p id h1, h.store _ _ h2, h3⟩

def FieldsRel (H : Heap) (S : SerSt) (D : DeSt) : List Val → List RVal → Prop
  | [], [] => True
  | it :: its, v :: vs => FieldRel H S D it v ∧ FieldsRel H S D its vs
  | [], _ :: _ => False
  | _ :: _, [] => False

end SaphyrVerif.Lemmas.C14
