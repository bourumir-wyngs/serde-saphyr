import SaphyrVerif.Lemmas.C17Caret
/-!
C17: the crate's own window renderer
(`fmt_snippet_window_with_mapping_or_fallback`): its slices are safe and its output is clean; and what
`Snippet::fmt_or_fallback` hands to the external renderer, as one equation (`snippetRequest_eq`).
-/
namespace SaphyrVerif.Lemmas.C17
open SaphyrVerif SaphyrVerif.Snippet
open SaphyrVerif.Spec.Snippet (clean row)

theorem blen_reverse (l : List Char) : blen l.reverse = blen l := by
  induction l with
  | nil => rfl
  | cons c cs ih => rw [List.reverse_cons, blen_append, ih, blen_cons, blen_cons, blen_nil]; omega

/-- `rfind('\n')`: the text splits into a part that is empty or ends with the last line break, and a
part without line break -/
theorem rfindNl_spec (pre : List Char) :
    ∃ A B, pre = A ++ B ∧ '\n' ∉ B ∧ (A = [] ∨ A.getLast? = some '\n') ∧
      ((rfindNl pre = none ∧ blen A = 0) ∨ ∃ i, rfindNl pre = some i ∧ i + 1 = blen A) := by
  unfold rfindNl
  cases hq : findNl pre.reverse with
  | none =>
    have hn := findNl_none _ hq
    refine ⟨[], pre, rfl, ?_, .inl rfl, .inl ⟨rfl, rfl⟩⟩
    intro hm; exact hn (List.mem_reverse.mpr hm)
  | some i =>
    obtain ⟨x, y, e, hnx, hi⟩ := findNl_some _ _ hq
    have hp : pre = y.reverse ++ '\n' :: x.reverse := by
      have := congrArg List.reverse e
      rw [List.reverse_reverse] at this
      rw [this]; simp
    refine ⟨y.reverse ++ ['\n'], x.reverse, by rw [hp]; simp, ?_, .inr (by simp), .inr ⟨_, rfl, ?_⟩⟩
    · intro hm; exact hnx (List.mem_reverse.mp hm)
    · have h1 : utf8LenChar '\n' = 1 := by decide
      show blen pre - 1 - i + 1 = blen (y.reverse ++ ['\n'])
      rw [hp, hi]
      simp only [blen_append, blen_cons, blen_nil, blen_reverse, h1]
      omega

theorem caretLine_spec (wt : List Char) (msg pre rest : List Char) (hwt : wt = pre ++ rest) :
    ∃ n, caretLine wt (blen pre) msg =
      .ok ("  | ".toList ++ List.replicate n ' ' ++ ['^'] ++ (if msg.isEmpty then [] else ' ' :: msg) ++ ['\n']) := by
  unfold caretLine
  have h1 : slice wt 0 (blen pre) "fmt_window:window_text[..local_start]" = .ok pre := by
    rw [hwt]; exact slice_to pre rest _
  rw [h1]
  simp only [res_bind_ok]
  obtain ⟨A, B, e, _, _, hlbs⟩ := rfindNl_spec pre
  have h2 : slice wt (blen A) (blen pre) "fmt_window:window_text[line_byte_start..local_start]" = .ok B :=
    slice_eq (q := rest) (by rw [hwt, e]) rfl (by rw [e, blen_append]) _
  rcases hlbs with ⟨hn, h0⟩ | ⟨i, hs, hi⟩
  · rw [hn]
    simp only []
    rw [← h0, h2]
    simp only [res_bind_ok, res_pure]
    exact ⟨B.length, rfl⟩
  · rw [hs]
    simp only []
    rw [hi, h2]
    simp only [res_bind_ok, res_pure]
    exact ⟨B.length, rfl⟩

theorem clean_padLeft (s : List Char) (w : Nat) (h : clean s = true) : clean (padLeft s w) = true := by
  unfold padLeft
  rw [clean_append, clean_replicate_space, h]; rfl

theorem clean_caret (n : Nat) (msg : List Char) (hmsg : clean msg = true) :
    clean ("  | ".toList ++ List.replicate n ' ' ++ ['^'] ++ (if msg.isEmpty then [] else ' ' :: msg) ++ ['\n']) = true := by
  simp only [clean_append, clean_replicate_space, Bool.and_true]
  have h1 : clean "  | ".toList = true := by decide
  have h2 : clean ['^'] = true := by decide
  have h3 : clean ['\n'] = true := by decide
  have h4 : clean (if msg.isEmpty then [] else ' ' :: msg) = true := by
    split
    · rfl
    · have : clean (' ' :: msg) = (clean [' '] && clean msg) := clean_append [' '] msg
      rw [this, hmsg]; decide
  rw [h1, h2, h3, h4]; rfl

/-- the line loop of the window renderer only appends: pieces of the clean window text behind their line numbers and,
under the error row, the caret line `car` -/
theorem fmtLines_spec (wt : List Char) (ls : Nat) (msg car : List Char) (hcar : caretLine wt ls msg = .ok car)
    (hclean : clean wt = true) (hcc : clean car = true) (row wsr wer wsar gutter : Nat) :
    ∀ (pieces : List (List Char)) (cur : Nat) (out : List Char), (∀ piece ∈ pieces, ∀ c ∈ piece, c ∈ wt) →
      clean out = true →
      ∃ out' cur', fmtLines wt ls msg row wsr wer wsar gutter pieces cur out = .ok (out', cur') ∧
        clean out' = true := by
  intro pieces
  induction pieces with
  | nil => intro cur out _ ho; exact ⟨out, cur, rfl, ho⟩
  | cons piece ps ih =>
    intro cur out hsub ho
    rw [fmtLines]
    simp only []
    have hline : clean (stripCR (stripNL piece)) = true := clean_sublist _ wt hclean fun c hc =>
      hsub piece (by simp) c (((stripCR_prefix _).trans (stripNL_prefix piece)).subset hc)
    have hout1 : clean (out ++ padLeft (natStr (satAdd wsar cur - wsr)) gutter ++ " | ".toList ++
        stripCR (stripNL piece) ++ ['\n']) = true := by
      have hp := clean_padLeft (natStr (satAdd wsar cur - wsr)) gutter (toDigits_clean _)
      have hb : clean " | ".toList = true := by decide
      have hn : clean ['\n'] = true := by decide
      simp only [clean_append, ho, hline, hp, hb, hn, Bool.true_and]
    by_cases hcur : cur = row
    · rw [if_pos hcur, hcar]
      simp only [res_bind_ok, res_pure]
      by_cases hbrk : cur + 1 > wer
      · rw [if_pos hbrk]
        exact ⟨_, _, rfl, by rw [clean_append, hout1, hcc]; rfl⟩
      · rw [if_neg hbrk]
        exact ih (cur + 1) _ (fun p hp => hsub p (List.mem_cons_of_mem _ hp)) (by rw [clean_append, hout1, hcc]; rfl)
    · rw [if_neg hcur]
      simp only [res_bind_ok, res_pure]
      by_cases hbrk : cur + 1 > wer
      · rw [if_pos hbrk]
        exact ⟨_, _, rfl, hout1⟩
      · rw [if_neg hbrk]
        exact ih (cur + 1) _ (fun p hp => hsub p (List.mem_cons_of_mem _ hp)) hout1

/-- `sanitize_terminal_message` is the character-level sanitiser (identity on clean text) -/
theorem sanitizeMessage_eq (msg : List Char) : sanitizeMessage msg = .ok (Spec.Snippet.sanitize msg) := by
  unfold sanitizeMessage
  by_cases h : isClean msg = true
  · rw [if_pos h, sanitize_of_clean msg (by rw [← isClean_eq]; exact h)]
  · rw [if_neg h, sanitize_eq]

/-- `Snippet::fmt_or_fallback` once `prepare` has answered: message and title are the character-level sanitisations, the
source is the window text, with the empty last line terminated when the location is on it -/
theorem snippetRequest_eq {text : List Char} {loc : Snippet.Loc} {m : Mapping} {r : Nat} {res : Option Prepared}
    (h : prepare text loc m r = .ok res) (msg : List Char) :
    snippetRequest text loc m r msg = .ok (res.map fun p =>
      ⟨Spec.Snippet.sanitize (locPrefix loc ++ ": ".toList ++ Spec.Snippet.sanitize msg),
        if p.row = p.totalLines ∧ p.localStart = blen p.windowText ∧ p.windowText.getLast? = some '\n'
          then p.windowText ++ ['\n'] else p.windowText,
        p.displayStartRow, p.localStart, p.localEnd, Spec.Snippet.sanitize msg⟩) := by
  unfold snippetRequest
  rw [sanitizeMessage_eq]
  simp only [res_bind_ok]
  rw [h]
  cases res with
  | none => rfl
  | some p => simp only [res_bind_ok, sanitizeMessage_eq, res_pure, Option.map_some]

/-- (safety + cleanliness) the crate's own window renderer: never a panic, and its output is clean
whatever the label contained (the label is sanitised first) -/
theorem fmtWindow_spec (text : List Char) (loc : Snippet.Loc) (m : Mapping) (msg0 : List Char) (r : Nat)
    (hlen : text.length + 1 ≤ usizeMax) (hcol : loc.column ≤ usizeMax) :
    ∃ out, fmtWindow text loc m msg0 r = .ok out ∧ clean out = true := by
  obtain ⟨res, hs, hok⟩ := prepare_safe text loc m r hlen hcol
  unfold fmtWindow
  rw [sanitizeMessage_eq]
  simp only [res_bind_ok]
  generalize hm : Spec.Snippet.sanitize msg0 = msg
  have hmsg : clean msg = true := by rw [← hm]; exact sanitize_spec_clean msg0
  rw [hs]
  cases res with
  | none => exact ⟨[], rfl, rfl⟩
  | some p =>
    simp only [res_bind_ok]
    have ok := hok p rfl
    obtain ⟨pre, rest, hwt, hls, _⟩ := prepare_caret text loc m r hlen hcol p hs
    rw [← hls]
    have hgut : clean "  |\n".toList = true := by decide
    obtain ⟨n, hcar⟩ := caretLine_spec p.windowText msg pre rest hwt
    have hcc := clean_caret n msg hmsg
    obtain ⟨out', cur', hfl, hcl⟩ := fmtLines_spec p.windowText (blen pre) msg _ hcar ok.clean hcc p.row p.windowStartRow
      p.windowEndRow p.displayStartRow (natStr (absoluteRow m p.windowEndRow)).length
      (splitInclusive p.windowText) p.windowStartRow "  |\n".toList (fun piece hp => (splitInclusive_infix _ piece hp).subset) hgut
    rw [hfl]
    simp only [res_bind_ok]
    have hpad : ∀ k : Nat, clean (padLeft (natStr k) (natStr (absoluteRow m p.windowEndRow)).length) = true :=
      fun k => clean_padLeft _ _ (toDigits_clean _)
    have hbar : clean " |\n".toList = true := by decide
    by_cases hcond : p.windowEndRow = p.totalLines ∧ p.windowText.getLast? = some '\n' ∧ cur' ≤ p.windowEndRow
    · rw [if_pos hcond]
      by_cases hcur : cur' = p.row
      · rw [if_pos hcur, hcar]
        simp only [res_bind_ok, res_pure]
        refine ⟨_, rfl, ?_⟩
        simp only [clean_append, hcl, hpad, hbar, hcc, hgut, Bool.and_self]
      · rw [if_neg hcur]
        simp only [res_bind_ok, res_pure]
        refine ⟨_, rfl, ?_⟩
        simp only [clean_append, hcl, hpad, hbar, hgut, Bool.and_self]
    · rw [if_neg hcond]
      simp only [res_bind_ok, res_pure]
      refine ⟨_, rfl, ?_⟩
      simp only [clean_append, hcl, hgut, Bool.and_self]

end SaphyrVerif.Lemmas.C17
