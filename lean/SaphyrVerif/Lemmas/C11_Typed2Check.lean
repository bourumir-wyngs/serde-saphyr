import SaphyrVerif.Lemmas.C11_Typed2Swap
/-!
Typed multi-document theorems (C11): a document is served (`DocServe`: from EVERY start state,
in front of EVERY rest of the stream) as soon as ONE run — from the canonical start state, in front of a single
end marker — delivers it; and an executable check of that run (`serveCheck`), so that "the pump with the
per-document enforcer accepts this document" can be established by evaluation.
-/
namespace SaphyrVerif.Lemmas.C11B
open SaphyrVerif SaphyrVerif.Scalars SaphyrVerif.Pump SaphyrVerif.De SaphyrVerif.Spec SaphyrVerif.Budget
open SaphyrVerif.Lemmas.C02 (Exhausted)
open SaphyrVerif.Lemmas.C11 (Doc)
open SaphyrVerif.Lemmas.C11T (RunP DocOk suffix_split)

theorem runP_sade {L : AliasLimits} {ob : Option Limits} {R : List RawItem} {q : Pump} {inp : List RawItem}
    {es : List Ev} (h : RunP (AtEndB L ob R) q inp es) : q.stopAtDocEnd = false := by
  induction h with
  | done hk => exact hk.2.2.2.1.sade
  | ev hn _ ih => exact (nextImpl_sade_eq hn).symm.trans ih

/-- a run to the end of the document depends neither on the rest of the stream behind the document nor on the flags of
the start state (a run without events excepted: it ends where it starts, and `AtEndB` asks for `produced_any_in_doc`) -/
theorem runP_twin {L : AliasLimits} {ob : Option Limits} {R R' : List RawItem} (hR : R ≠ []) :
    ∀ {q : Pump} {A : List RawItem} {es : List Ev}, RunP (AtEndB L ob R) q (A ++ R) es →
      ∀ (a b : Bool), (es = [] → a = true) → RunP (AtEndB L ob R') (withFlags q a b) (A ++ R') es := by
  intro q A es h
  generalize hinp : A ++ R = inp at h
  induction h generalizing A with
  | @done p inp hk =>
    intro a b ha
    obtain ⟨hin, h2, h3, h4, h5⟩ := hk
    rw [hin] at hinp
    have hA : A = [] := by
      have := congrArg List.length hinp
      simp only [List.length_append] at this
      exact List.eq_nil_of_length_eq_zero (by omega)
    subst hA
    rw [ha rfl, withFlags_eq_syn h3]
    exact RunP.done ⟨rfl, h2, h3, ⟨h4.bud, h4.rip, h4.lim, h4.sade⟩, h5⟩
  | @ev p inp e p' inp' es hn hr ih =>
    intro a b _
    subst hinp
    have hs := runP_sade (RunP.ev hn hr)
    have hsuf1 := nextImpl_suffix p (A ++ R)
    rw [hn] at hsuf1
    obtain ⟨A', rfl, -⟩ := suffix_split hsuf1 (hr.suffix (fun p inp hk => hk.1))
    exact RunP.ev (nextImpl_pair_event hR a b hs hn) (ih rfl true b (fun _ => rfl))

def canonStart (L : AliasLimits) (ob : Option Limits) (ls : Loc) : Pump :=
  { limits := L, lastLoc := ls, budget := freshBud ob }

theorem start_eq_canon {L : AliasLimits} {ob : Option Limits} {ls : Loc} {q : Pump} (h : StartB L ob ls q) :
    q = withFlags (canonStart L ob ls) q.producedAny q.synthesizedNull := by
  obtain ⟨h1, h2, h3, h4, h5, h6, h7, h8, h9, h10, h11, h12⟩ := h
  cases q
  simp_all [withFlags, canonStart]

theorem docServe_of_canon {L : AliasLimits} {ob : Option Limits} {d : Doc} {evs : List Ev} (hok : DocOk L d.1 evs)
    (l : Loc)
    (h : RunP (AtEndB L ob [.ev .docEnd l]) (canonStart L ob d.2.2.1) (itemsOf d.1 ++ [.ev .docEnd l]) evs) :
    DocServe L ob d evs := by
  refine ⟨hok, fun q1 R hq1 => ?_⟩
  have hne : evs ≠ [] := by
    have := hok.ne
    intro h0
    rw [h0] at this
    simp at this
  rw [start_eq_canon hq1]
  exact runP_twin (by simp) h q1.producedAny q1.synthesizedNull (fun h0 => absurd h0 hne)

def runTo (R : List RawItem) : Nat → Pump → List RawItem → Option (List Ev × Pump)
  | 0, p, inp => if inp = R then some ([], p) else none
  | fuel + 1, p, inp =>
    if inp = R then some ([], p) else
    match nextImpl p inp with
    | (.event e, p', inp') => (runTo R fuel p' inp').map fun r => (e :: r.1, r.2)
    | _ => none

theorem runTo_sound (R : List RawItem) : ∀ (fuel : Nat) (p : Pump) (inp : List RawItem) (es : List Ev) (pf : Pump),
    runTo R fuel p inp = some (es, pf) → RunP (fun p' inp' => p' = pf ∧ inp' = R) p inp es := by
  intro fuel
  induction fuel with
  | zero =>
    intro p inp es pf h
    simp only [runTo] at h
    split at h
    · rename_i hin
      cases h
      exact RunP.done ⟨rfl, hin⟩
    · cases h
  | succ n ih =>
    intro p inp es pf h
    simp only [runTo] at h
    split at h
    · rename_i hin
      cases h
      exact RunP.done ⟨rfl, hin⟩
    · split at h
      · rename_i e p' inp' hn
        cases hr : runTo R n p' inp' with
        | none => rw [hr] at h; cases h
        | some r =>
          obtain ⟨es', pf'⟩ := r
          rw [hr] at h
          simp only [Option.map_some, Option.some.injEq, Prod.mk.injEq] at h
          obtain ⟨rfl, rfl⟩ := h
          exact RunP.ev hn (ih p' inp' es' pf' hr)
      · cases h

theorem RunP.mono {K K' : Pump → List RawItem → Prop} (hK : ∀ p inp, K p inp → K' p inp) {p : Pump}
    {inp : List RawItem} {es : List Ev} (h : RunP K p inp es) : RunP K' p inp es := by
  induction h with
  | done hk => exact RunP.done (hK _ _ hk)
  | ev hn _ ih => exact RunP.ev hn ih

def exhaustedB (p : Pump) : Bool :=
  p.inject.all fun fr =>
    match lookupAnchor p.anchors fr.anchorId with
    | some buf => decide (buf.length ≤ fr.idx)
    | none => false

theorem exhaustedB_sound {p : Pump} (h : exhaustedB p = true) : ∀ fr ∈ p.inject, Exhausted p.anchors fr := by
  intro fr hfr
  simp only [exhaustedB, List.all_eq_true] at h
  have := h fr hfr
  split at this
  · rename_i buf hl
    exact ⟨buf, hl, by simpa using this⟩
  · cases this

def budStatB : Option Limits → Option Enf → Bool
  | none, none => true
  | some lim, some E =>
    decide (E.lim = lim) && E.perDocument && decide (E.report.documents = 0) && decide (1 ≤ lim.maxEvents)
  | _, _ => false

theorem budStatB_sound {ob : Option Limits} {b : Option Enf} (h : budStatB ob b = true) : BudStat ob b := by
  cases ob <;> cases b <;> simp only [budStatB, Bool.and_eq_true, decide_eq_true_eq] at h
  · trivial
  · cases h
  · cases h
  · exact ⟨h.1.1.1, h.1.1.2, h.1.2, h.2⟩

def trailOkB : Option Enf → Bool
  | none => true
  | some E => decide (E.report.events + 1 ≤ E.lim.maxEvents) && E.ratioBreach.isNone

theorem trailOkB_sound {b : Option Enf} (h : trailOkB b = true) : TrailOk b := by
  intro E hE
  subst hE
  simp only [trailOkB, Bool.and_eq_true, decide_eq_true_eq, Option.isNone_iff_eq_none] at h
  exact h

def atEndCheck (L : AliasLimits) (ob : Option Limits) (p : Pump) : Bool :=
  exhaustedB p && p.producedAny && budStatB ob p.budget && p.recursiveInProgress.isEmpty && decide (p.limits = L) &&
    !p.stopAtDocEnd && trailOkB p.budget

/-- the pump with the optional per-document enforcer `ob`, from the canonical start state, delivers exactly the
events `evs` of the document, can pass its `DocumentEnd` marker, and its ratio check is silent -/
def serveCheck (L : AliasLimits) (ob : Option Limits) (d : Doc) (evs : List Ev) : Bool :=
  match runTo [.ev .docEnd 0] evs.length (canonStart L ob d.2.2.1) (itemsOf d.1 ++ [.ev .docEnd 0]) with
  | some (es, p) => decide (es = evs) && atEndCheck L ob p
  | none => false

theorem docServe_of_check {L : AliasLimits} {ob : Option Limits} {d : Doc} {evs : List Ev} (hok : DocOk L d.1 evs)
    (h : serveCheck L ob d evs = true) : DocServe L ob d evs := by
  apply docServe_of_canon hok 0
  unfold serveCheck at h
  split at h
  · rename_i es p hr
    simp only [Bool.and_eq_true, decide_eq_true_eq, atEndCheck, Bool.not_eq_true', List.isEmpty_iff] at h
    obtain ⟨rfl, ⟨⟨⟨⟨⟨h1, h2⟩, h3⟩, h4⟩, h5⟩, h6⟩, h7⟩ := h
    refine RunP.mono ?_ (runTo_sound _ _ _ _ _ _ hr)
    rintro p' inp' ⟨rfl, rfl⟩
    exact ⟨rfl, exhaustedB_sound h1, h2, ⟨budStatB_sound h3, h4, h5, h6⟩, trailOkB_sound h7⟩
  · cases h

end SaphyrVerif.Lemmas.C11B
