import SaphyrVerif.Lemmas.C13_Layout
/-!
Induction over the proved fragment `inFragP P` of the value grammar: one case per SHAPE the serializer, the layout
and the reader distinguish.  `some` / `newtypeStruct` are transparent, `seq` / `tuple` / `tupleStruct` are one
shape, a tuple (struct) variant is the newtype variant of the sequence (mapping) of its fields, and the values
outside the fragment need no case.  The motive is usually a conjunction (the value after a key ∧ the value after a
dash ∧ …), with companions for the items of a sequence and the entries of a mapping.  Then the equations between the layout
functions of the positions: a fixed-token leaf is its token in each (`lay_leaf`), a collection after a dash is the block
collection two columns in (`layItems_inline`, `layEntries_inline`), a variant puts the same lines at the column of its
position (`variantLines`).
-/
namespace SaphyrVerif.Emit

-- the hypotheses of the principle are section variables of a mutual block: each theorem of it lists those of the others as unused
set_option linter.unusedSectionVars false

/-- the leaves that are written as one fixed token (`null`, a boolean, an integer) -/
def isLeaf : SVal → Bool
  | .unit | .none | .bool _ | .int _ => true
  | _ => false

theorem leafTok_of_isLeaf (T : Toks) {v : SVal} (h : isLeaf v = true) : ∃ tok, leafTok T v = some tok := by
  cases v <;> first | exact ⟨_, rfl⟩ | simp [isLeaf] at h

section
variable {P : LeafPred} {M : SVal → Prop} {ML : List SVal → Prop} {ME : List (SVal × SVal) → Prop}
  (leaf : ∀ v, isLeaf v = true → M v)
  (str : ∀ s, P.str s = true → M (.str s))
  (unit : ∀ e n, P.unit e n = true → M (.unitVariant e n))
  (wrap : ∀ v, inFragP P v = true → M v → M (.some v) ∧ M (.newtypeStruct v))
  (seq : ∀ xs, inFragListP P xs = true → ML xs → M (.seq xs) ∧ M (.tuple xs) ∧ M (.tupleStruct xs))
  (map : ∀ b es, inFragEntriesP P es = true → hasDupKey (eraseEntries es) = false → ME es → M (.map b es))
  (nv : ∀ n v, P.name n = true → inFragP P v = true → M v → M (.newtypeVariant n v))
  (tv : ∀ n xs, M (.newtypeVariant n (.seq xs)) → M (.tupleVariant n xs))
  (sv : ∀ n fs, M (.newtypeVariant n (.map true fs)) → M (.structVariant n fs))
  (nil : ML [])
  (cons : ∀ x xs, inFragP P x = true → inFragListP P xs = true → M x → ML xs → ML (x :: xs))
  (enil : ME [])
  (ekey : ∀ kt v es, P.key kt = true → inFragP P v = true → inFragEntriesP P es = true → M v → ME es →
    ME ((.str kt, v) :: es))
  (ecomplex : ∀ k v es, isComplexKey k = true → inFragP P k = true → inFragP P v = true →
    inFragEntriesP P es = true → M k → M v → ME es → ME ((k, v) :: es))
include leaf str unit wrap seq map nv tv sv nil cons enil ekey ecomplex

mutual
theorem inFragP.shapes : ∀ (v : SVal), inFragP P v = true → M v
  | .unit, _ => leaf _ rfl
  | .none, _ => leaf _ rfl
  | .bool _, _ => leaf _ rfl
  | .int _, _ => leaf _ rfl
  | .str s, h => str s (by simpa only [inFragP] using h)
  | .unitVariant e n, h => unit e n (by simpa only [inFragP] using h)
  | .some v, h => by
    simp only [inFragP] at h
    exact (wrap v h (inFragP.shapes v h)).1
  | .newtypeStruct v, h => by
    simp only [inFragP] at h
    exact (wrap v h (inFragP.shapes v h)).2
  | .seq xs, h => by
    simp only [inFragP] at h
    exact (seq xs h (inFragListP.shapes xs h)).1
  | .tuple xs, h => by
    simp only [inFragP] at h
    exact (seq xs h (inFragListP.shapes xs h)).2.1
  | .tupleStruct xs, h => by
    simp only [inFragP] at h
    exact (seq xs h (inFragListP.shapes xs h)).2.2
  | .map b es, h => by
    simp only [inFragP, Bool.and_eq_true, Bool.not_eq_true'] at h
    exact map b es h.1 h.2 (inFragEntriesP.shapes es h.1)
  | .newtypeVariant n v, h => by
    simp only [inFragP, Bool.and_eq_true] at h
    exact nv n v h.1 h.2 (inFragP.shapes v h.2)
  | .tupleVariant n xs, h => by
    simp only [inFragP, Bool.and_eq_true] at h
    exact tv n xs (nv n _ h.1 (by simpa only [inFragP] using h.2) (seq xs h.2 (inFragListP.shapes xs h.2)).1)
  | .structVariant n fs, h => by
    simp only [inFragP, Bool.and_eq_true, Bool.not_eq_true'] at h
    exact sv n fs (nv n _ h.1 (by simp only [inFragP, h.2.1, h.2.2, Bool.not_false, Bool.and_self])
      (map true fs h.2.1 h.2.2 (inFragEntriesP.shapes fs h.2.1)))
  | .flowSeq _, h => by simp [inFragP] at h
  | .flowMap _, h => by simp [inFragP] at h
  | .commented _ _, h => by simp [inFragP] at h
  | .spaceAfter _, h => by simp [inFragP] at h
  | .litStr _, h => by simp [inFragP] at h
  | .foldStr _, h => by simp [inFragP] at h
theorem inFragListP.shapes : ∀ (xs : List SVal), inFragListP P xs = true → ML xs
  | [], _ => nil
  | x :: xs, h => by
    simp only [inFragListP, Bool.and_eq_true] at h
    exact cons x xs h.1 h.2 (inFragP.shapes x h.1) (inFragListP.shapes xs h.2)
theorem inFragEntriesP.shapes : ∀ (es : List (SVal × SVal)), inFragEntriesP P es = true → ME es
  | [], _ => enil
  | (k, v) :: es, h => by
    simp only [inFragEntriesP, Bool.and_eq_true, Bool.or_eq_true] at h
    rcases h.1.1 with hk | hk
    · obtain ⟨kt, rfl, hkt⟩ := keyOk_str hk
      exact ekey kt v es hkt h.1.2 h.2 (inFragP.shapes v h.1.2) (inFragEntriesP.shapes es h.2)
    · exact ecomplex k v es hk.1 hk.2 h.1.2 h.2 (inFragP.shapes k hk.2) (inFragP.shapes v h.1.2)
        (inFragEntriesP.shapes es h.2)
end

theorem inFragP.shapes_all :
    (∀ v, inFragP P v = true → M v) ∧ (∀ xs, inFragListP P xs = true → ML xs) ∧
      (∀ es, inFragEntriesP P es = true → ME es) :=
  ⟨inFragP.shapes leaf str unit wrap seq map nv tv sv nil cons enil ekey ecomplex,
    inFragListP.shapes leaf str unit wrap seq map nv tv sv nil cons enil ekey ecomplex,
    inFragEntriesP.shapes leaf str unit wrap seq map nv tv sv nil cons enil ekey ecomplex⟩

end

theorem lay_leaf {T : Toks} {v : SVal} {tok : List Char} (h : leafTok T v = some tok) (k : Nat) (cp : Bool) :
    (∀ im c lvb, layVal T k cp im c lvb v = (' ' :: tok, [], false)) ∧ (∀ c lvb, layItem T k cp c lvb v = (tok, [], false)) ∧
      layRoot T k cp v = [⟨0, tok⟩] := by
  cases v <;> simp only [leafTok, Option.some.injEq, reduceCtorEq] at h <;> subst h <;>
    simp only [layVal, layItem, layRoot, leafTok, implies_true, and_self]

theorem layRoot_tupleVariant {T : Toks} (k : Nat) (cp : Bool) (n : List Char) (xs : List SVal) :
    layRoot T k cp (.tupleVariant n xs) = layRoot T k cp (.newtypeVariant n (.seq xs)) := by
  simp [layRoot, layVal, layItem, seqCol]

theorem layRoot_structVariant {T : Toks} (k : Nat) (cp : Bool) (n : List Char) (fs : List (SVal × SVal)) :
    layRoot T k cp (.structVariant n fs) = layRoot T k cp (.newtypeVariant n (.map true fs)) := by
  simp [layRoot, layVal, layItem]

theorem layItems_inline {T : Toks} (k : Nat) (cp : Bool) (c : Nat) (lvb : Bool) (x : SVal) (xs : List SVal) :
    layItems T k cp (c + 2) lvb (x :: xs) =
      (⟨c + 2, (laySeqItem T k cp c lvb (x :: xs)).1⟩ :: (laySeqItem T k cp c lvb (x :: xs)).2.1,
       (layItems T k cp (c + 2) (layItem T k cp (c + 2) lvb x).2.2 xs).2) := by
  simp [layItems, laySeqItem]

/-- `false` on the left: the key prefix of the first entry has cleared `lvb` -/
theorem layEntries_inline {T : Toks} (k : Nat) (cp : Bool) (c : Nat) (lvb : Bool) (e : SVal × SVal) (es : List (SVal × SVal)) :
    (layEntries T k cp (c + 2) false (e :: es)).1 =
      ⟨c + 2, (layMapItem T k cp c lvb (e :: es)).1⟩ :: (layMapItem T k cp c lvb (e :: es)).2.1 := by
  obtain ⟨kk, v⟩ := e
  cases hko : keyOf kk with
  | none => simp [layEntries, layMapItem, hko]
  | some kt => cases hfit : fitsImplicit (T.key kt) <;> simp [layEntries, layMapItem, hko, hfit]

theorem layMapItem_lvb {T : Toks} (k : Nat) (cp : Bool) (c : Nat) (lvb : Bool) (e : SVal × SVal) (es : List (SVal × SVal)) :
    (layMapItem T k cp c lvb (e :: es)).2.2 = true := by
  obtain ⟨kk, v⟩ := e
  cases hko : keyOf kk with
  | none => simp [layMapItem, hko]
  | some kt => cases hfit : fitsImplicit (T.key kt) <;> simp [layMapItem, hko, hfit]

/-- the lines of `Variant: payload` with the key at column `i` (a name too long for an implicit key: `? Variant`, `: payload`):
what `variantVal`, `variantItem` (with the dash line) and `variantRoot` put at the column of their position -/
def variantLines (i : Nat) (n : List Char) (r ri : List Char × List Line × Bool) : List Line :=
  if fitsImplicit n then ⟨i, n ++ [':'] ++ r.1⟩ :: r.2.1
  else ⟨i, ['?', ' '] ++ n⟩ :: ⟨i, [':', ' '] ++ ri.1⟩ :: ri.2.1

theorem variantVal_lines (c : Nat) (n : List Char) (r ri : List Char × List Line × Bool) :
    (variantVal c n r ri).1 = [] ∧ (variantVal c n r ri).2.1 = variantLines c n r ri := by
  unfold variantVal variantLines; split <;> exact ⟨rfl, rfl⟩

theorem variantItem_lines (c : Nat) (n : List Char) (r ri : List Char × List Line × Bool) :
    ⟨c + 2, (variantItem c n r ri).1⟩ :: (variantItem c n r ri).2.1 = variantLines (c + 2) n r ri := by
  unfold variantItem variantLines; split <;> rfl

end SaphyrVerif.Emit
