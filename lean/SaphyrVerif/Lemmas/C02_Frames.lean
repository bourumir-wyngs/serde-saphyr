import SaphyrVerif.Lemmas.C02_Basic
import SaphyrVerif.Lemmas.PumpEqns
/-!
Helper lemmas for C02: recording frames, the state invariant `Good`, a call from a `Good` state as `Pump.Item` lists it
(`nextImpl_good_ret`), and the frames a container start opens and its end closes (`startFrames_eq`, `finalize_container`).
-/
namespace SaphyrVerif.Lemmas.C02
open SaphyrVerif SaphyrVerif.Scalars SaphyrVerif.Pump SaphyrVerif.Spec
open SaphyrVerif.Lemmas.C08 (startFrames)

def recordL (fs : List RecFrame) (es : List Ev) : List RecFrame :=
  fs.map fun f => { f with buf := f.buf ++ es }

def decAll (fs : List RecFrame) : List RecFrame := fs.map fun f => { f with depth := f.depth - 1 }

theorem recordAll_eq (fs : List RecFrame) (e : Ev) : recordAll fs e = recordL fs [e] := rfl

@[simp] theorem recordL_nil (fs : List RecFrame) : recordL fs [] = fs := by
  induction fs with
  | nil => rfl
  | cons f fs ih => simp_all [recordL]

@[simp] theorem recordL_recordL (fs : List RecFrame) (a b : List Ev) :
    recordL (recordL fs a) b = recordL fs (a ++ b) := by
  simp [recordL, List.map_map, Function.comp_def, List.append_assoc]

@[simp] theorem ids_recordL (fs : List RecFrame) (a : List Ev) :
    (recordL fs a).map (·.id) = fs.map (·.id) := by
  simp [recordL, List.map_map, Function.comp_def]

@[simp] theorem ids_bump (fs : List RecFrame) : (bumpDepthOnStart fs).map (·.id) = fs.map (·.id) := by
  simp [bumpDepthOnStart, List.map_map, Function.comp_def]

theorem decAll_recordL_bump (fs : List RecFrame) (a : List Ev) :
    decAll (recordL (bumpDepthOnStart fs) a) = recordL fs a := by
  simp [recordL, bumpDepthOnStart, decAll, List.map_map, Function.comp_def]

def DepthPos (fs : List RecFrame) : Prop := ∀ f ∈ fs, 1 ≤ f.depth

theorem DepthPos_recordL {fs : List RecFrame} (a : List Ev) (h : DepthPos fs) : DepthPos (recordL fs a) := by
  intro f hf
  simp only [recordL, List.mem_map] at hf
  obtain ⟨g, hg, rfl⟩ := hf
  exact h g hg

theorem DepthPos_bump (fs : List RecFrame) : DepthPos (bumpDepthOnStart fs) := by
  intro f hf
  simp only [bumpDepthOnStart, List.mem_map] at hf
  obtain ⟨g, _, rfl⟩ := hf
  simp

theorem DepthPos_cons {f : RecFrame} {fs : List RecFrame} (h1 : 1 ≤ f.depth) (h2 : DepthPos fs) :
    DepthPos (f :: fs) := by
  intro g hg
  simp only [List.mem_cons] at hg
  rcases hg with rfl | hg
  · exact h1
  · exact h2 g hg

theorem finalize_id (σ : Tab) (fs : List RecFrame) (h : DepthPos fs) : finalizeFrames σ fs = (σ, fs) := by
  cases fs with
  | nil => rfl
  | cons f fs =>
    have : 1 ≤ f.depth := h f (by simp)
    simp [finalizeFrames]; omega

theorem bumpDepthOnEnd_pos (σ : Tab) (fs : List RecFrame) (h : DepthPos fs) :
    bumpDepthOnEnd σ fs = some (finalizeFrames σ (decAll fs)) := by
  have : fs.any (fun f => f.depth == 0) = false := by
    rw [List.any_eq_false]
    intro f hf
    have := h f hf
    simp; omega
  simp [bumpDepthOnEnd, this, decAll]

theorem any_id_iff (fs : List RecFrame) (x : Nat) :
    fs.any (fun f => f.id == x) = (fs.map (·.id)).contains x := by
  induction fs with
  | nil => rfl
  | cons f fs ih =>
    rw [List.any_cons, ih, List.map_cons, List.contains_cons]
    congr 1
    exact BEq.comm

def TabNe (σ : Tab) : Prop := ∀ x ∈ σ, x.2 ≠ []

theorem TabNe_nil : TabNe [] := by intro x hx; cases hx

theorem TabNe_set {σ : Tab} (h : TabNe σ) (a : Nat) {buf : List Ev} (hb : buf ≠ []) : TabNe (setAnchor σ a buf) := by
  intro x hx
  simp only [setAnchor, List.mem_cons] at hx
  rcases hx with rfl | hx
  · exact hb
  · exact h x hx

theorem lookupAnchor_ne {σ : Tab} (h : TabNe σ) {id : Nat} {buf : List Ev} (hl : lookupAnchor σ id = some buf) :
    buf ≠ [] := by
  unfold lookupAnchor at hl
  cases hf : σ.find? (fun p => p.1 == id) with
  | none => simp [hf] at hl
  | some x =>
    simp [hf] at hl
    subst hl
    exact h x (List.mem_of_find?_eq_some hf)

/-- the state invariant between two nodes, of a pump WITHOUT budget enforcer (`bud`): the node lemma `pump_node` and what
rests on it say nothing of a pump that has one.  Field names here and in `Replayed`, `Post`: `bud` the budget
enforcer, `rip` `recursive_in_progress`, `inj` the inject (replay) stack, `dep` the depths on the recording stack,
`ne` no empty anchor buffer, `lim` the alias limits, `sade` `stop_at_doc_end`, `tot` `total_replayed_events`, `per`
the per-anchor expansion counts, `prod` `produced_any_in_doc`. -/
structure Good (p : Pump) : Prop where
  bud : p.budget = none
  rip : p.recursiveInProgress = []
  inj : ∀ fr ∈ p.inject, Exhausted p.anchors fr
  dep : DepthPos p.recStack
  ne : TabNe p.anchors

def clr (p : Pump) : Pump := { p with inject := [] }

theorem serveInject_exhausted (p : Pump) (fs : List InjectFrame) (h : ∀ fr ∈ fs, Exhausted p.anchors fr) :
    serveInject p fs = (none, clr p) :=
  (Served.fall h).eq

theorem nextImpl_good {p : Pump} (hg : Good p) (inp : List RawItem) :
    nextImpl p inp = parserLoop (clr p) inp :=
  (Call.loop hg.inj (parserLoop_loop (clr p) inp)).eq

/-- from a `Good` state the call is the parser loop's, and the enforcer is absent: the outcome of the first item as
`Pump.Item` lists it -/
theorem nextImpl_good_ret {p : Pump} (hg : Good p) {loc : Loc} {raw : Raw} {s : Step} {p' : Pump}
    (hi : Item (clr p) loc raw (.ret s p')) (rest : List RawItem) :
    nextImpl p (.ev raw loc :: rest) = (s, p', rest) := by
  rw [nextImpl_good hg]
  exact (Loop.ret rest (budgetStep_of_none (b := (clr p).budget) hg.bud _) hi).eq

theorem clr_of_inject_nil {p : Pump} (h : p.inject = []) : clr p = p := by
  cases p; simp_all [clr]

theorem startFrames_eq (fs : List RecFrame) (a : Nat) (ev : Ev) :
    startFrames fs a ev =
      if a != 0 then { id := a, depth := 1, buf := [ev] } :: recordL (bumpDepthOnStart fs) [ev]
      else recordL (bumpDepthOnStart fs) [ev] := by
  unfold startFrames record
  cases (a != 0) <;> rfl

theorem finalize_container (σ' : Tab) (R : List RecFrame) (hd : DepthPos R) (a : Nat) (ev eend : Ev)
    (es : List Ev) :
    finalizeFrames σ' (decAll (recordL (recordL (startFrames R a ev) es) [eend])) =
      (if a != 0 then setAnchor σ' a (ev :: (es ++ [eend])) else σ', recordL R (ev :: (es ++ [eend]))) := by
  have hR : DepthPos (recordL R (ev :: (es ++ [eend]))) := DepthPos_recordL _ hd
  rw [startFrames_eq]
  by_cases ha : a = 0
  · simp only [ha, bne_self_eq_false, Bool.false_eq_true, if_false, recordL_recordL,
      decAll_recordL_bump]
    rw [finalize_id _ _ (by simpa using hR)]
    simp
  · have ha' : (a != 0) = true := by simp [ha]
    simp only [ha', if_true]
    simp only [recordL, List.map_cons, decAll, finalizeFrames, List.map_map, Function.comp_def]
    simp only [bumpDepthOnStart, List.map_map, Function.comp_def, Nat.add_sub_cancel]
    have := finalize_id (setAnchor σ' a (ev :: (es ++ [eend]))) _ hR
    simp [recordL] at this
    simp [this]

end SaphyrVerif.Lemmas.C02
