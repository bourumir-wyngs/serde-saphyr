import SaphyrVerif.Lemmas.DeEqns
/-!
The loops of the mutual block of `Model/De.lean` that `peek` at the next event and stop at the closing one (`captureSeq`,
`captureMap`, `bytesLoop`, `seqElems`, `tupleElems`, `mergeSeqBatches`, `collectLoop`, the live arm of `nextKey`), cut like
the functions of `Lemmas/DeEqns.lean`: the arm `| .ok (some _) c => …` for "any other event" is a named piece, and one equation
per loop says how the loop is put together.  The step tactic of the guarded simulation (`g_step`, `Lemmas/GSimTac.lean`)
splits the delivered event into its five kinds before the code distinguishes them, so the arm for "any other event" comes up
once for each of the four kinds that are left: as a named piece it comes up four times as a call (compared once, `csItem_g`,
…), not four times as the text of the loop body.
-/
namespace SaphyrVerif.De
open SaphyrVerif SaphyrVerif.Scalars SaphyrVerif.Pump SaphyrVerif.Budget

/-- `captureSeq`, one item (`De.lean`, the `some _` arm) -/
def csItem (fuel : Nat) (c : Cur) (fps : List FP) (evs : List Ev) : R (List FP × List Ev) :=
  match capture fuel c with
  | .err e c => .err e c
  | .ok child c => captureSeq fuel c (fps ++ [child.fp]) (evs ++ child.events)

theorem captureSeq_succ (fuel : Nat) (c : Cur) (fps : List FP) (evs : List Ev) :
    captureSeq (fuel + 1) c fps evs =
      match c.peek with
      | .err e c => .err e c
      | .ok none c => .err (eofErr c) c
      | .ok (some (.seqEnd l)) c =>
        match c.next with
        | .err e c => .err e c
        | .ok _ c => .ok (fps, evs ++ [.seqEnd l]) c
      | .ok (some _) c => csItem fuel c fps evs := by
  rw [captureSeq]
  rfl

/-- `captureMap`, one entry (`De.lean`, the `some _` arm) -/
def cmEntry (fuel : Nat) (c : Cur) (fps : List (FP × FP)) (evs : List Ev) : R (List (FP × FP) × List Ev) :=
  match capture fuel c with
  | .err e c => .err e c
  | .ok k c =>
    match capture fuel c with
    | .err e c => .err e c
    | .ok v c => captureMap fuel c (fps ++ [(k.fp, v.fp)]) (evs ++ k.events ++ v.events)

theorem captureMap_succ (fuel : Nat) (c : Cur) (fps : List (FP × FP)) (evs : List Ev) :
    captureMap (fuel + 1) c fps evs =
      match c.peek with
      | .err e c => .err e c
      | .ok none c => .err (eofErr c) c
      | .ok (some (.mapEnd l)) c =>
        match c.next with
        | .err e c => .err e c
        | .ok _ c => .ok (fps, evs ++ [.mapEnd l]) c
      | .ok (some _) c => cmEntry fuel c fps evs := by
  rw [captureMap]
  rfl

/-- `bytesLoop`, one byte (`De.lean`, the `some _` arm) -/
def blItem (fuel : Nat) (cfg : Cfg) (c : Cur) (acc : List Nat) : R Val :=
  match deserScalarTyped cfg (.int false 8) c with
  | .err e c => .err e c
  | .ok (.int i) c => bytesLoop fuel cfg c (acc ++ [i.toNat])
  | .ok _ c => .err ⟨"ModelMisuse", 0, 0⟩ c

theorem bytesLoop_succ (fuel : Nat) (cfg : Cfg) (c : Cur) (acc : List Nat) :
    bytesLoop (fuel + 1) cfg c acc =
      match c.peek with
      | .err e c => .err e c
      | .ok none c => .err (eofErr c) c
      | .ok (some (.seqEnd _)) c =>
        match c.next with
        | .err e c => .err e c
        | .ok _ c => .ok (.bytes acc) c
      | .ok (some _) c => blItem fuel cfg c acc := by
  rw [bytesLoop]
  rfl

/-- `seqElems`, one element (`De.lean`, the `some ev` arm); `ev` is the event the `peek` has shown -/
def seItem (fuel : Nat) (cfg : Cfg) (t : Ty) (c : Cur) (acc : List Val) (ev : Ev) : R (List Val) :=
  let defined := ev.loc
  let ref := c.refLoc
  match deser fuel cfg t false false c with
  | .err e c => .err (attachAlias e ref defined) c
  | .ok v c => seqElems fuel cfg t c (acc ++ [v])

theorem seqElems_succ (fuel : Nat) (cfg : Cfg) (t : Ty) (c : Cur) (acc : List Val) :
    seqElems (fuel + 1) cfg t c acc =
      match c.peek with
      | .err e c => .err e c
      | .ok none c => .err (eofErr c) c
      | .ok (some (.seqEnd _)) c => .ok acc c
      | .ok (some ev) c => seItem fuel cfg t c acc ev := by
  rw [seqElems]
  rfl

/-- `tupleElems`, one component (`De.lean`, the `some ev` arm) -/
def teItem (fuel : Nat) (cfg : Cfg) (t : Ty) (ts : List Ty) (c : Cur) (acc : List Val) (ev : Ev) : R (List Val) :=
  let defined := ev.loc
  let ref := c.refLoc
  match deser fuel cfg t false false c with
  | .err e c => .err (attachAlias e ref defined) c
  | .ok v c => tupleElems fuel cfg ts c (acc ++ [v])

theorem tupleElems_cons (fuel : Nat) (cfg : Cfg) (t : Ty) (ts : List Ty) (c : Cur) (acc : List Val) :
    tupleElems (fuel + 1) cfg (t :: ts) c acc =
      match c.peek with
      | .err e c => .err e c
      | .ok none c => .err (eofErr c) c
      | .ok (some (.seqEnd _)) c => .err (serdeErr "invalid_length") c
      | .ok (some ev) c => teItem fuel cfg t ts c acc ev := by
  rw [tupleElems]
  rfl

/-- `mergeSeqBatches`, one element of the merge sequence (`De.lean`, the `some _` arm) -/
def msItem (fuel : Nat) (c : Cur) (batches : List (List PendingEntry)) : R (List (List PendingEntry)) :=
  let elemRef := c.refLoc
  match capture fuel c with
  | .err e c => .err e c
  | .ok element c =>
    match pendingFromEvents fuel element.events element.loc elemRef with
    | .error e => .err e c
    | .ok b => mergeSeqBatches fuel c (batches ++ [b])

theorem mergeSeqBatches_succ (fuel : Nat) (c : Cur) (batches : List (List PendingEntry)) :
    mergeSeqBatches (fuel + 1) c batches =
      match c.peek with
      | .err e c => .err e c
      | .ok none c => .err (eofErr c) c
      | .ok (some (.seqEnd _)) c =>
        match c.next with
        | .err e c => .err e c
        | .ok _ c => .ok batches c
      | .ok (some _) c => msItem fuel c batches := by
  rw [mergeSeqBatches]
  rfl

/-- `collectLoop`, one entry (`De.lean`, the `some _` arm): the key node is captured, then `clEntry` -/
def clItem (fuel : Nat) (c : Cur) (ref : Loc) (fields : List PendingEntry) (merges : List (List PendingEntry)) :
    R (List PendingEntry) :=
  match capture fuel c with
  | .err e c => .err e c
  | .ok key c => clEntry fuel c ref fields merges key

theorem collectLoop_item (fuel : Nat) (c : Cur) (ref : Loc) (fields : List PendingEntry)
    (merges : List (List PendingEntry)) :
    collectLoop (fuel + 1) c ref fields merges =
      match c.peek with
      | .err e c => .err e c
      | .ok none c => .err (eofErr c) c
      | .ok (some (.mapEnd _)) c =>
        match c.next with
        | .err e c => .err e c
        | .ok _ c => .ok (fields ++ merges.foldl (fun acc b => acc ++ b) []) c
      | .ok (some _) c => clItem fuel c ref fields merges := by
  rw [collectLoop_succ]
  rfl

/-- `nextKey` live, an own entry (`De.lean`, the `some _` arm of `nkLive`): the key node is captured; a merge key `<<`
or an ordinary key -/
def nkItem (fuel : Nat) (cfg : Cfg) (kseed : Ty ⊕ Unit) (c : Cur) (m : MA) : R (KeyStep × MA) :=
  let keyIsAlias := c.atAlias
  match capture fuel c with
  | .err e c => .err e c
  | .ok keyNode c =>
    if isMergeKey keyNode then nkMerge fuel cfg kseed c m
    else nkKey fuel cfg kseed c m keyIsAlias keyNode

theorem nkLive_item (fuel : Nat) (cfg : Cfg) (kseed : Ty ⊕ Unit) (c : Cur) (m : MA) :
    nkLive fuel cfg kseed c m =
      match c.peek with
      | .err e c => .err e c
      | .ok none c => .err (eofErr c) c
      | .ok (some (.mapEnd _)) c =>
        match c.next with
        | .err e c => .err e c
        | .ok _ c => nkEnd fuel cfg kseed c m
      | .ok (some _) c => nkItem fuel cfg kseed c m := by
  unfold nkLive
  rfl

end SaphyrVerif.De
