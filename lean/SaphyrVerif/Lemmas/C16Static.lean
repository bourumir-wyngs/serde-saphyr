import SaphyrVerif.Model.Locs
/-!
Helper lemmas for C16 about `deserS`: what the span-carrying wrapper captures (`spannedLocs_of_peek`), and, for
`static_error_at_value_node` (`Props/C16.lean`), errors that Serde raises WITHOUT a location (the static constructors
of `impl serde::de::Error for Error`) while a sequence element or a mapping value is read, and the fallback location
they get (`Model/Locs.lean`, Part C).  `errLocations_attachAlias` is what `Error::locations()` shows once the access at
a node has wrapped an error of that node; type errors (`error_location_eq_spanned`) and static errors use it alike.
-/
namespace SaphyrVerif.Lemmas.C16
open SaphyrVerif SaphyrVerif.Scalars SaphyrVerif.Pump SaphyrVerif.De SaphyrVerif.Locs

/-- what `deserialize_yaml_spanned` captures at a node, however the node is reached: the use site the cursor
reports after the look-ahead, and the location of the peeked event. The attribution theorems only differ in
what `c1.refLoc` is (the event itself, the alias token of an inject frame, the override of a replay) -/
theorem spannedLocs_of_peek {c c1 : Cur} {ev : Ev} (h : c.peek = .ok (some ev) c1) :
    spannedLocs c = .ok (c1.refLoc, ev.loc) c1 := by
  simp only [spannedLocs, h]

/-- Reading `t` at cursor `c` fails with a location-less Serde error raised AT THIS NODE: whatever the
fallback cell holds (`fb`), the outcome is the static constructor's error on that cell (and the cursor
`c2`).  This is what "an error without location of its own, raised while the node is read" means in the
model: the error does not depend on the cell except through `maybe_attach_fallback_location`. -/
def RaisesStatic (fuel : Nat) (cfg : Cfg) (t : STy) (c : Cur) (kind : String) (c2 : Cur) : Prop :=
  ∀ fb : Option Loc, deserS fuel cfg fb t c = .err (staticErr kind fb) c2

/-- `NonZero*` on a node whose integer reading is 0: `invalid_value`, raised at the node -/
theorem raisesStatic_nonzero (fuel : Nat) (cfg : Cfg) (signed : Bool) (bits : Nat) (c c2 : Cur)
    (h : deser (fuel + 1) cfg (.int signed bits) false false c = .ok (.int 0) c2) :
    RaisesStatic (fuel + 1) cfg (.nonzero signed bits) c "invalid_value" c2 := by
  intro fb
  simp only [deserS, h]
  rfl

/-- a `NonZero*` reading that is not 0 succeeds (the cell is not consulted) -/
theorem nonzero_ok (fuel : Nat) (cfg : Cfg) (fb : Option Loc) (signed : Bool) (bits : Nat) (c c2 : Cur) (i : Int)
    (h : deser (fuel + 1) cfg (.int signed bits) false false c = .ok (.int i) c2) (hi : i ≠ 0) :
    deserS (fuel + 1) cfg fb (.nonzero signed bits) c = .ok (.leaf (.int i)) c2 := by
  simp only [deserS, h]
  have : (i == 0) = false := by simpa using hi
  simp [this]

/-- an error of the integer reading itself (a type error: it has its own location) passes unchanged -/
theorem nonzero_err (fuel : Nat) (cfg : Cfg) (fb : Option Loc) (signed : Bool) (bits : Nat) (c c2 : Cur) (e : DErr)
    (h : deser (fuel + 1) cfg (.int signed bits) false false c = .err e c2) :
    deserS (fuel + 1) cfg fb (.nonzero signed bits) c = .err e c2 := by
  simp only [deserS, h]

/-- the span-carrying wrapper installs no guard: an error raised at the wrapped node is raised at the wrapper -/
theorem raisesStatic_spanned (fuel : Nat) (cfg : Cfg) (t : STy) (c c1 c2 : Cur) (kind : String) (rd : Loc × Loc)
    (hl : spannedLocs c = .ok rd c1) (h : RaisesStatic fuel cfg t c1 kind c2) :
    RaisesStatic (fuel + 1) cfg (.spanned t) c kind c2 := by
  intro fb
  obtain ⟨r, d⟩ := rd
  simp only [deserS, hl, h fb]

/-- `Option<T>` on a scalar that is not null-like: no guard either -/
theorem raisesStatic_option_scalar (fuel : Nat) (cfg : Cfg) (t : STy) (c c1 c2 : Cur) (kind : String)
    (v : List Char) (tag : Nat) (rt : Option (List Char)) (st : Style) (a : Nat) (l : Loc)
    (hpk : c.peek = .ok (some (.scalar v tag rt st a l)) c1)
    (hnn : (tag == tagNull || scalarIsNullishForOption v st) = false)
    (h : RaisesStatic fuel cfg t c1 kind c2) :
    RaisesStatic (fuel + 1) cfg (.option t) c kind c2 := by
  intro fb
  simp only [deserS, hpk, hnn, h fb]
  simp

/-- what `attach_alias_locations_if_missing` makes of a static error that took the access's own use site
from the cell: through an alias / merge (use site ≠ definition site, both known) an `AliasError` with both,
otherwise the error as it is, located at the use site -/
theorem attachAlias_static (kind : String) (hk : kind ≠ "AliasError") (ref defined : Loc) :
    attachAlias (staticErr kind (some ref)) ref defined =
      if ref ≠ 0 ∧ defined ≠ 0 ∧ ref ≠ defined then ⟨"AliasError", ref, defined⟩
      else if ref ≠ 0 then ⟨kind, ref, 0⟩ else ⟨kind, defined, 0⟩ := by
  have hk' : (kind == "AliasError") = false := by simpa using hk
  unfold attachAlias staticErr Tls.effLoc
  simp only [hk', Bool.false_eq_true, if_false, Bool.or_false]
  by_cases h1 : ref = 0
  · subst h1; simp
  · by_cases h2 : defined = 0
    · subst h2; simp [h1]
    · by_cases h3 : ref = defined
      · subst h3; simp [h1]
      · simp [h1, h2, h3]

/-- through an alias or a merge (both sites known, and different) an error that is not yet an `AliasError`
becomes one, whatever location it had -/
theorem attachAlias_proper {e : DErr} {r d : Loc} (hk : e.kind ≠ "AliasError") (hr : r ≠ 0) (hd : d ≠ 0)
    (hne : r ≠ d) : attachAlias e r d = ⟨"AliasError", r, d⟩ := by
  have hk' : (e.kind == "AliasError") = false := by simpa using hk
  simp [attachAlias, hk', hr, hd, hne]

/-- `Error::locations()` after the access at a node with use site `r` and definition site `d` has wrapped an
error of that node: the pair `(r, d)`, and `Error::location()` is the use site.  When no alias is involved
(`r = d`) nothing is attached to a located error, so `e` must be located there or nowhere; this holds of a
type error (located at the leaf, `d`) and of a static error (located at the guard, `r`) alike. -/
theorem errLocations_attachAlias {e : DErr} {r d : Loc} (hk : e.kind ≠ "AliasError") (hr : r ≠ 0) (hd : d ≠ 0)
    (hloc : r = d → e.loc = r ∨ e.loc = 0) :
    errLocations (attachAlias e r d) = some (r, d) ∧ (attachAlias e r d).loc = r := by
  have hk' : (e.kind == "AliasError") = false := by simpa using hk
  by_cases hne : r = d
  · subst hne
    rcases hloc rfl with h | h <;> simp [attachAlias, errLocations, hk', hr, h]
  · rw [attachAlias_proper hk hr hd hne]
    exact ⟨rfl, rfl⟩

/-- `Error::locations()` of the static error of `attachAlias_static`: the pair (use site, definition site) of the node -/
theorem static_locations (kind : String) (hk : kind ≠ "AliasError") (ref defined : Loc)
    (href : ref ≠ 0) (hdef : defined ≠ 0) :
    errLocations (attachAlias (staticErr kind (some ref)) ref defined) = some (ref, defined) ∧
    (attachAlias (staticErr kind (some ref)) ref defined).loc = ref :=
  errLocations_attachAlias (e := staticErr kind (some ref)) hk href hdef (fun _ => .inl rfl)

/-- the cell of the ENCLOSING deserialization (key guard, container guard, an outer element guard, …) has no
influence on an access that installs its own guard: `seqElemsS`, `nextValueS` and `deserMapS` take no `fb` argument
at all; this lemma records it for `deserS` on the container types -/
theorem deserS_container_cell_irrelevant (fuel : Nat) (cfg : Cfg) (fb fb' : Option Loc) (c : Cur) :
    (∀ t, deserS (fuel + 1) cfg fb (.seq t) c = deserS (fuel + 1) cfg fb' (.seq t) c) ∧
    (∀ t, deserS (fuel + 1) cfg fb (.map t) c = deserS (fuel + 1) cfg fb' (.map t) c) ∧
    (∀ fs, deserS (fuel + 1) cfg fb (.struct fs) c = deserS (fuel + 1) cfg fb' (.struct fs) c) ∧
    deserS (fuel + 1) cfg fb .treeInner c = deserS (fuel + 1) cfg fb' .treeInner c := by
  refine ⟨fun t => ?_, fun t => ?_, fun fs => ?_, ?_⟩ <;> simp only [deserS]

end SaphyrVerif.Lemmas.C16
