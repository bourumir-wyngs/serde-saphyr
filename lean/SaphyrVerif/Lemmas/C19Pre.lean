import SaphyrVerif.Lemmas.C19Wf
/-!
C19: the token scanner (`parse_number_or_special` and its helpers) does not depend on what lies BEHIND
the cursor nor on the `depth` counter: the bytes already consumed (`pre`) are only pushed onto, and the
single look-behind (`self.b[self.i - 1]` in the digit loops) is guarded by `self.i > start`, i.e. it only
sees bytes consumed by the same loop.  Stated as equations: every function of the scanner, run with `pre` behind
what it is given, returns what it returns without `pre`, with `pre` put behind (`…_frame`).  Hence
`Spec.Robotics.TokenOk` (stated for SOME `pre`/`depth`) holds for EVERY `pre`/`depth` (`TokenOk.any`).
-/
namespace SaphyrVerif.Lemmas.C19
open SaphyrVerif SaphyrVerif.F64 SaphyrVerif.Robotics SaphyrVerif.Spec.Robotics

def hmap {α β} (f : α → β) : HRes α → HRes β
  | .ok a => .ok (f a)
  | .err e => .err e
  | .panic s => .panic s

@[simp] theorem hmap_ok {α β} (f : α → β) (a : α) : hmap f (.ok a) = .ok (f a) := rfl
@[simp] theorem hmap_err {α β} (f : α → β) (e : RErr) : hmap f (.err e : HRes α) = .err e := rfl
@[simp] theorem hmap_panic {α β} (f : α → β) (s : Site) : hmap f (.panic s : HRes α) = .panic s := rfl

/-- `pre` put behind the bytes a field reader consumed -/
def behind {α} (pre : List Nat) (x : List Nat × α) : List Nat × α := (x.1 ++ pre, x.2)

/-- the same for the digit loops of `parse_number_or_special` -/
def behindN (pre : List Nat) (ns : NumSt) : NumSt := { ns with pre := ns.pre ++ pre }

/-- the look-behind of the digit loops only sees bytes the loop itself consumed -/
theorem numLoop_frame (eU : RErr) (a pre rest : List Nat) (k seen : Nat) (bufR : List Nat) (hv : Bool)
    (hk : k ≠ 0 → a ≠ []) :
    numLoop eU (a ++ pre) rest k seen bufR hv = hmap (behindN pre) (numLoop eU a rest k seen bufR hv) := by
  induction rest generalizing a k seen bufR hv with
  | nil => rfl
  | cons c r ih =>
    have hp : prevIsDigit (a ++ pre) k = prevIsDigit a k := by
      unfold prevIsDigit
      split
      · rfl
      · rename_i hk0
        cases a with
        | nil => exact absurd rfl (hk (by simpa using hk0))
        | cons x a0 => rfl
    have ih' := fun k seen bufR hv => ih (c :: a) k seen bufR hv (fun _ => List.cons_ne_nil _ _)
    simp only [numLoop, hp, ← List.cons_append, ih']
    cases prevIsDigit a k <;> simp only [apply_ite (hmap _), hmap_ok, hmap_err, hmap_panic, behindN]

theorem readUint_frame (a pre rest : List Nat) (v : Fl) (d : Nat) (p : Bool) :
    readUint (a ++ pre) rest v d p = hmap (behind pre) (readUint a rest v d p) := by
  induction rest generalizing a v d p with
  | nil => simp only [readUint, apply_ite (hmap _), hmap_ok, hmap_err, behind]
  | cons c r ih => simp only [readUint, ← List.cons_append, ih, apply_ite (hmap _), hmap_ok, hmap_err, behind]

theorem readFrac_frame (a pre rest : List Nat) (num sc : Fl) (d : Nat) (p : Bool) :
    readFrac (a ++ pre) rest num sc d p = hmap (behind pre) (readFrac a rest num sc d p) := by
  induction rest generalizing a num sc d p with
  | nil => simp only [readFrac, apply_ite (hmap _), hmap_ok, hmap_err, behind]
  | cons c r ih => simp only [readFrac, ← List.cons_append, ih, apply_ite (hmap _), hmap_ok, hmap_err, behind]

theorem advN_frame (n : Nat) (a pre rest : List Nat) : advN n (a ++ pre) rest = hmap (behind pre) (advN n a rest) := by
  induction n generalizing a rest with
  | zero => rfl
  | succ n ih =>
    cases rest with
    | nil => rfl
    | cons c r => simp only [advN, ← List.cons_append, ih]

theorem numFrac_frame (pre : List Nat) (n1 : NumSt) : numFrac (behindN pre n1) = hmap (behindN pre) (numFrac n1) := by
  unfold numFrac behindN
  simp only []
  split
  · exact numLoop_frame _ (46 :: n1.pre) pre _ 0 _ _ _ (fun h => absurd rfl h)
  · rfl

theorem numExp_frame (pre : List Nat) (n2 : NumSt) : numExp (behindN pre n2) = hmap (behindN pre) (numExp n2) := by
  unfold numExp behindN
  simp only []
  split
  · rename_i c r heq
    by_cases hc : (c == 101 || c == 69) = true
    · have hem : expMarker c (n2.pre ++ pre) r n2.bufR =
          ((expMarker c n2.pre r n2.bufR).1 ++ pre, (expMarker c n2.pre r n2.bufR).2) := by
        unfold expMarker
        split
        · split <;> rfl
        · rfl
      simp only [hc, ↓reduceIte, hem, numLoop_frame _ _ _ _ _ _ _ _ (fun h => absurd rfl h)]
      cases numLoop RErr.underscoreExponent (expMarker c n2.pre r n2.bufR).1 (expMarker c n2.pre r n2.bufR).2.1 0
        n2.seen (expMarker c n2.pre r n2.bufR).2.2 false with
      | ok n3 => simp only [hmap_ok, behindN, apply_ite (hmap _), hmap_err]
      | err e => rfl
      | panic s => rfl
    · simp only [hc, Bool.false_eq_true, ↓reduceIte, hmap_ok]
  · simp only [hmap_ok]

/-- `f` applied to a successful result, errors raised at depth `d` -/
def rmap {α β} (f : α → β) (d : Nat) : Res α → Res β
  | .ok a => .ok (f a)
  | .err e _ => .err e d
  | .panic s => .panic s
  | .fuel => .fuel

theorem lift_bind_frame {α β γ δ} (f : α → β) (G : γ → δ) (d d0 : Nat) (r : HRes α) (K : β → Res δ)
    (K0 : α → Res γ) (h : ∀ x, K (f x) = rmap G d (K0 x)) :
    (HRes.lift d (hmap f r)).bind K = rmap G d ((HRes.lift d0 r).bind K0) := by
  cases r with
  | ok x => exact h x
  | err e => rfl
  | panic s => rfl

theorem bind_frame {α β γ δ} (f : α → β) (G : γ → δ) (d : Nat) (r : Res α) (K : β → Res δ)
    (K0 : α → Res γ) (h : ∀ x, K (f x) = rmap G d (K0 x)) :
    (rmap f d r).bind K = rmap G d (r.bind K0) := by
  cases r with
  | ok x => exact h x
  | err e d' => rfl
  | panic s => rfl
  | fuel => rfl

theorem readU32_frame (a pre rest : List Nat) : readU32 (a ++ pre) rest = hmap (behind pre) (readU32 a rest) := by
  unfold readU32
  rw [readUint_frame]
  cases readUint a rest (zero F false) 0 false with
  | ok x => simp only [hmap_ok, behind, apply_ite (hmap _), hmap_err]
  | err e => rfl
  | panic s => rfl

theorem sexaSecs_frame (st st0 : St) (d12 : Nat) (a pre rest2 : List Nat) :
    sexaSecs st d12 (a ++ pre) rest2 = rmap (behind pre) st.depth (sexaSecs st0 d12 a rest2) := by
  unfold sexaSecs
  split
  · rename_i rest2'
    rw [← List.cons_append, readU32_frame]
    refine lift_bind_frame _ _ _ _ _ _ _ fun x => ?_
    obtain ⟨p3, rest3, secsU, d3⟩ := x
    simp only [behind]
    by_cases h59 : 59 < secsU
    · simp only [h59, ↓reduceIte]
      rfl
    · simp only [h59, ↓reduceIte]
      split
      · rename_i rest3'
        rw [← List.cons_append, readFrac_frame]
        exact lift_bind_frame _ _ _ _ _ _ _ fun y => rfl
      · rfl
  · rfl

/-- a parser result with `pre` put behind what was consumed, at depth `d` -/
def reSt (pre : List Nat) (d : Nat) (tm : Bool) (x : Eval × St) : Eval × St :=
  (x.1, ⟨x.2.pre ++ pre, x.2.rest, d, tm⟩)

theorem sexaMins_frame (tag : Nat) (st st0 : St) (ht : st.sexTime = st0.sexTime) (a pre rest1' : List Nat)
    (degWhole : Fl) (d1 : Nat) :
    sexaMins tag st (a ++ pre) rest1' degWhole d1 =
      rmap (Option.map (reSt pre st.depth st.sexTime)) st.depth (sexaMins tag st0 a rest1' degWhole d1) := by
  unfold sexaMins
  rw [← List.cons_append, readU32_frame]
  refine lift_bind_frame _ _ _ _ _ _ _ fun x => ?_
  obtain ⟨p2, rest2, minsU, d2⟩ := x
  simp only [behind]
  by_cases h59 : 59 < minsU
  · simp only [h59, ↓reduceIte]
    rfl
  · simp only [h59, ↓reduceIte]
    rw [sexaSecs_frame st st0]
    refine bind_frame _ _ _ _ _ _ fun y => ?_
    rw [sexaFinish_eq, sexaFinish_eq, ht]
    simp only [behind]
    by_cases hcap : MAX_NUM_DIGITS < y.2.2.2
    · simp only [hcap, ↓reduceIte]
      rfl
    · simp only [hcap, ↓reduceIte]
      rfl

theorem trySexagesimal_frame (tag : Nat) (a pre rest : List Nat) (d d0 : Nat) (tm : Bool) :
    trySexagesimal tag ⟨a ++ pre, rest, d, tm⟩ =
      rmap (Option.map (reSt pre d tm)) d (trySexagesimal tag ⟨a, rest, d0, tm⟩) := by
  rw [trySexagesimal_eq, trySexagesimal_eq]
  simp only []
  split
  · rfl
  split
  · rfl
  rw [readUint_frame]
  refine lift_bind_frame _ _ _ _ _ _ _ fun x => ?_
  obtain ⟨p1, rest1, degWhole, d1⟩ := x
  simp only [behind]
  split
  · exact sexaMins_frame tag ⟨a ++ pre, rest, d, tm⟩ ⟨a, rest, d0, tm⟩ rfl _ _ _ _ _
  · rfl

theorem parseNumberOrSpecial_frame (tag : Nat) (a pre rest : List Nat) (d d0 : Nat) (tm : Bool) :
    parseNumberOrSpecial tag ⟨a ++ pre, rest, d, tm⟩ =
      rmap (reSt pre d tm) d (parseNumberOrSpecial tag ⟨a, rest, d0, tm⟩) := by
  unfold parseNumberOrSpecial
  simp only []
  by_cases h1 : startsCi rest [46, 105, 110, 102] = true
  · simp only [h1, ↓reduceIte, advN_frame]
    exact lift_bind_frame _ _ _ _ _ _ _ fun x => rfl
  by_cases h2 : startsCi rest [46, 110, 97, 110] = true
  · simp only [h1, h2, ↓reduceIte, advN_frame]
    exact lift_bind_frame _ _ _ _ _ _ _ fun x => rfl
  simp only [h1, h2, trySexagesimal_frame tag a pre rest d d0 tm]
  refine bind_frame _ _ _ _ _ _ fun sx => ?_
  cases sx with
  | some res => rfl
  | none =>
    simp only [Option.map_none]
    rw [numLoop_frame _ a pre rest 0 0 [] false (fun h => absurd rfl h)]
    refine lift_bind_frame _ _ _ _ _ _ _ fun n1 => ?_
    rw [numFrac_frame]
    refine lift_bind_frame _ _ _ _ _ _ _ fun n2 => ?_
    rw [numExp_frame]
    refine lift_bind_frame _ _ _ _ _ _ _ fun n3 => ?_
    simp only [behindN]
    by_cases he : n3.bufR.isEmpty = true
    · simp only [he, ↓reduceIte, List.length_append, Nat.add_sub_add_right]
      by_cases hb : (!(boundaryAhead rest 0 && boundaryAhead n3.rest 0)) = true
      · simp only [hb, ↓reduceIte]
        rfl
      · simp only [hb, List.take_append_of_le_length (Nat.sub_le _ _)]
        cases fromStr F (n3.pre.take (n3.pre.length - a.length)).reverse <;> rfl
    · simp only [he]
      cases fromStr F n3.bufR.reverse <;> rfl

theorem parseNumberOrSpecial_pre (tag : Nat) (pre pre2 rest : List Nat) (d d2 : Nat) (tm : Bool)
    (ev : Eval) (st' : St) (h : parseNumberOrSpecial tag ⟨pre, rest, d, tm⟩ = .ok (ev, st')) :
    ∃ p2, parseNumberOrSpecial tag ⟨pre2, rest, d2, tm⟩ = .ok (ev, ⟨p2, st'.rest, d2, tm⟩) := by
  have h := (parseNumberOrSpecial_frame tag [] pre rest d 0 tm).symm.trans h
  rw [show pre2 = [] ++ pre2 from rfl, parseNumberOrSpecial_frame tag [] pre2 rest d2 0 tm]
  cases hr : parseNumberOrSpecial tag ⟨[], rest, 0, tm⟩ with
  | ok x => rw [hr] at h; cases h; exact ⟨_, rfl⟩
  | err e d' => rw [hr] at h; cases h
  | panic s => rw [hr] at h; cases h
  | fuel => rw [hr] at h; cases h

theorem TokenOk.any {tag : Nat} {tm : Bool} {tok k : List Nat} {ev : Eval} (h : TokenOk tag tm tok k ev)
    (pre : List Nat) (d : Nat) :
    ∃ pre', parseNumberOrSpecial tag ⟨pre, tok ++ k, d, tm⟩ = .ok (ev, ⟨pre', k, d, tm⟩) := by
  obtain ⟨_, p0, d0, p0', hp⟩ := h
  exact parseNumberOrSpecial_pre tag p0 pre (tok ++ k) d0 d tm ev _ hp

end SaphyrVerif.Lemmas.C19
