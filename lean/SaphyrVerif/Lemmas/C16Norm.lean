import SaphyrVerif.Lemmas.C16
/-! C16: `mark_line_and_column` — the end-of-stream mark is put back on the last line, marks that are
positions of the text are left alone. -/
namespace SaphyrVerif.Lemmas.C16
open SaphyrVerif SaphyrVerif.Locs

theorem prefixOfByte_append (pre suf : List Char) : prefixOfByte (pre ++ suf) (utf8Len pre) = some pre := by
  induction pre with
  | nil => cases suf <;> simp [prefixOfByte]
  | cons c pre ih =>
    have hc := utf8LenChar_pos c
    obtain ⟨b, hb⟩ : ∃ b, utf8Len (c :: pre) = b + 1 := ⟨utf8LenChar c + utf8Len pre - 1, by rw [utf8Len_cons]; omega⟩
    rw [hb, List.cons_append, prefixOfByte]
    rw [utf8Len_cons] at hb
    have h1 : utf8LenChar c ≤ b + 1 := by omega
    have h2 : b + 1 - utf8LenChar c = utf8Len pre := by omega
    simp [h1, h2, ih]

theorem endsWithBreak_snoc (pre : List Char) (c : Char) : endsWithBreak (pre ++ [c]) = isBreak c := by
  simp [endsWithBreak]

theorem charsAfterLastBreak_snoc (pre : List Char) (c : Char) :
    charsAfterLastBreak (pre ++ [c]) = if isBreak c then 0 else charsAfterLastBreak pre + 1 := by
  unfold charsAfterLastBreak
  rw [List.reverse_append, List.reverse_singleton, List.singleton_append, List.takeWhile_cons]
  cases isBreak c <;> rfl

/-- the scanner's column is what `mark_line_and_column` counts (the characters after the last break) at every
offset except between a CR and its LF, where the scanner has counted the CR like a blank.  The IH is needed
only behind a character that is no break, and such a character is no LF. -/
theorem posOf_col (text : List Char) (i : Nat) (hi : i ≤ text.length)
    (hmid : ∀ j, i = j + 1 → text[j]? = some '\r' → text[i]? ≠ some '\n') :
    (posOf text i).col = charsAfterLastBreak (text.take i) := by
  induction i with
  | zero => cases text <;> rfl
  | succ i ih =>
    have hlt : i < text.length := hi
    have hget : text[i]? = some text[i] := List.getElem?_eq_getElem hlt
    rw [posOf_succ text i hlt, List.take_add_one, hget, Option.toList_some, charsAfterLastBreak_snoc]
    unfold Pos.step
    split
    · rename_i h
      simp only [Bool.and_eq_true, beq_iff_eq] at h
      exact absurd h.2 (hmid i rfl (hget.trans (congrArg some h.1)))
    · split
      · rfl
      · rename_i hbr
        rw [ih (Nat.le_of_lt hlt) (fun j _ _ hn => hbr (by rw [hget, Option.some.injEq] at hn; rw [hn]; rfl))]

theorem posOf_col_end (text : List Char) : (posOf text text.length).col = charsAfterLastBreak text := by
  have := posOf_col text text.length (Nat.le_refl _) (fun j _ _ => by simp)
  rwa [List.take_length] at this

theorem endsWithBreak_iff (text : List Char) (hne : text ≠ []) :
    endsWithBreak text = true ↔ charsAfterLastBreak text = 0 := by
  obtain ⟨pre, c, rfl⟩ : ∃ pre c, text = pre ++ [c] := ⟨text.dropLast, text.getLast hne, (List.dropLast_concat_getLast hne).symm⟩
  rw [charsAfterLastBreak_snoc, endsWithBreak_snoc]
  cases isBreak c <;> simp

theorem col_zero_after_break (text : List Char) (i : Nat) (hi : i < text.length)
    (h0 : (posOf text (i + 1)).col = 0) : isBreak text[i] = true := by
  rw [posOf_succ text i hi] at h0
  unfold Pos.step at h0
  split at h0
  · exact absurd h0 (Nat.succ_ne_zero _)
  · split at h0
    · assumption
    · exact absurd h0 (Nat.succ_ne_zero _)

/-- the normalisation does nothing unless the character in front of a column-0 mark is not a break -/
theorem markLineCol_plain (m : Mark) (text : List Char)
    (h : m.col = 0 → ∀ b, m.byte = some b → b > 0 → ∃ pre, prefixOfByte text b = some pre ∧ endsWithBreak pre = true) :
    markLineCol m (some text) = (m.line, m.col + 1) := by
  unfold markLineCol
  split
  · rename_i hc
    simp only [Bool.and_eq_true, beq_iff_eq] at hc
    cases hb : m.byte with
    | none => rfl
    | some b =>
      simp only
      split
      · rename_i hpos
        obtain ⟨pre, hp, he⟩ := h hc.1 b hb hpos
        simp [hp, he]
      · rfl
  · rfl

theorem markLineCol_of_posOf (text : List Char) (i : Nat) (hi : i ≤ text.length) :
    markLineCol (posOf text i).toMark (some text) = ((posOf text i).line, (posOf text i).col + 1) := by
  apply markLineCol_plain
  intro hc b hb hpos
  simp only [Pos.toMark, Option.some.injEq] at hb hc
  subst hb
  refine ⟨text.take i, ?_, ?_⟩
  · rw [posOf_byte text i hi]
    have := prefixOfByte_append (text.take i) (text.drop i)
    rwa [List.take_append_drop] at this
  · cases i with
    | zero => simp [posOf_byte] at hpos
    | succ j =>
      have hj : j < text.length := by omega
      rw [List.take_add_one, List.getElem?_eq_getElem hj, Option.toList_some, endsWithBreak_snoc]
      exact col_zero_after_break text j hj hc

/-- (the model of) `mark_line_and_column` on the scanner's end-of-stream mark: line and 1-based column of
the END of the text, for every text -/
theorem markLineCol_streamEnd (text : List Char) :
    markLineCol (streamEndMark text).toMark (some text) =
      ((posOf text text.length).line, (posOf text text.length).col + 1) := by
  by_cases h0 : (posOf text text.length).col = 0
  · -- after a line break the mark is the position of the end
    have hm : streamEndMark text = posOf text text.length := by simp [streamEndMark, h0]
    rw [hm]
    exact markLineCol_of_posOf text text.length (Nat.le_refl _)
  · -- on its forced new line: the text does not end with a break, or the column would be 0
    have hne : text ≠ [] := by rintro rfl; exact h0 rfl
    have hline := (posOf_bounds text text.length (Nat.le_refl _)).1
    have hbyte : (posOf text text.length).byte = utf8Len text := by
      rw [posOf_byte text text.length (Nat.le_refl _), List.take_length]
    have hpre : prefixOfByte text (utf8Len text) = some text := by
      simpa using prefixOfByte_append text []
    have hpos : 0 < utf8Len text := utf8Len_pos_of_ne_nil text hne
    have hend : endsWithBreak text = false :=
      Bool.eq_false_iff.mpr (mt (endsWithBreak_iff text hne).mp (posOf_col_end text ▸ h0))
    have hb : ((posOf text text.length).col != 0) = true := by simp [h0]
    have hl : (posOf text text.length).line + 1 > 1 := by omega
    simp only [streamEndMark, hb, if_true, markLineCol, Pos.toMark, hbyte, hpre, hend, ← posOf_col_end]
    simp [hl, hpos]

end SaphyrVerif.Lemmas.C16
