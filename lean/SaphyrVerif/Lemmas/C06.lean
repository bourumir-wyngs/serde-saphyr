import SaphyrVerif.Spec.Scalars
/-!
Helper lemmas for C06. Integers: the readers check for overflow at every digit (`accum`); since the
accumulator only grows (`foldl_step_ge`), that is the unbounded value of the digits compared with the bound
once (`accum_exact`).  `parseIntSigned_exact` is the signed reader against the notation; of the unsigned reader this
file has the digits (`unsignedCore_exact`), and `Props/C06.lean` puts the refusal of a leading `-` around them
(`dash_match`).  Base64: `decodeChunk` is opened once per padding class (`decodeChunk_pad0` … `pad3`) in terms of
`decodeVal` and of `bytesOf`, the bytes of four sextets as the loop computes them; the alphabet tables are inverse
(`decodeVal_iff`), sextets and bytes are inverse (`bytesOf_sextets`, `sextets_bytesOf`), and the two together give both
directions of `decodeChunks_iff`.
-/
namespace SaphyrVerif.Lemmas.C06
open SaphyrVerif SaphyrVerif.Scalars SaphyrVerif.Spec SaphyrVerif.Base64

theorem foldl_step_ge (radix : Nat) (hr : 1 ≤ radix) (ds : List Nat) (v : Nat) :
    v ≤ List.foldl (fun a d => a * radix + d) v ds := by
  induction ds generalizing v with
  | nil => simp
  | cons d ds ih =>
    simp only [List.foldl_cons]
    have h1 : v ≤ v * radix + d := by
      have : v * 1 ≤ v * radix := Nat.mul_le_mul_left v hr
      omega
    exact Nat.le_trans h1 (ih _)

/-- The result of the accumulator, expressed on the list of digit values. -/
def finish (radix max : Nat) (val : Nat) (saw : Bool) (ds : List Nat) : Option Nat :=
  if ds.isEmpty && !saw then none
  else if List.foldl (fun a d => a * radix + d) val ds ≤ max
    then some (List.foldl (fun a d => a * radix + d) val ds) else none

theorem accum_gen (radix max : Nat) (hr : 1 ≤ radix) (s : List Char) :
    ∀ (val : Nat) (saw : Bool), val ≤ max →
      accum radix max s val saw =
        ((s.filter (fun c => c != '_')).mapM (digitOf radix)).bind (finish radix max val saw) := by
  induction s with
  | nil =>
    intro val saw hv
    cases saw <;> simp [accum, finish, hv]
  | cons c cs ih =>
    intro val saw hv
    by_cases hc : c = '_'
    · subst hc
      simp [accum, ih val saw hv]
    · have hc' : (c != '_') = true := by simp [hc]
      have hc'' : (c == '_') = false := by simp [hc]
      rw [List.filter_cons_of_pos (p := fun c => c != ('_' : Char)) (a := c) (l := cs) hc']
      simp only [accum, hc'', Bool.false_eq_true, if_false, List.mapM_cons]
      cases hd : digitOf radix c with
      | none => simp
      | some d =>
        simp only [Option.pure_def, Option.bind_eq_bind, Option.bind_some]
        by_cases hv' : val * radix + d > max
        · simp only [hv', if_true]
          cases hm : List.mapM (digitOf radix) (cs.filter (fun c => c != '_')) with
          | none => simp
          | some ds =>
            have := foldl_step_ge radix hr ds (val * radix + d)
            have h2 : ¬ (List.foldl (fun a d => a * radix + d) (val * radix + d) ds ≤ max) := by omega
            simp [finish, h2]
        · simp only [hv', if_false]
          rw [ih _ true (by omega)]
          cases hm : List.mapM (digitOf radix) (cs.filter (fun c => c != '_')) with
          | none => simp
          | some ds =>
            simp only [finish, List.isEmpty_cons, Bool.false_and, Bool.not_true, Bool.and_false,
              Bool.false_eq_true, if_false, Option.bind_some, List.foldl_cons]
            rfl

theorem accum_exact (radix max : Nat) (hr : 1 ≤ radix) (s : List Char) :
    accum radix max s 0 false =
      (digitsValue? radix s).bind (fun v => if v ≤ max then some v else none) := by
  rw [accum_gen radix max hr s 0 false (Nat.zero_le _)]
  unfold digitsValue?
  simp only []
  generalize s.filter (fun c => c != '_') = cs
  cases cs with
  | nil => simp [finish]
  | cons c cs =>
    simp only [List.mapM_cons, List.isEmpty_cons, Bool.false_eq_true, if_false]
    cases hd : digitOf radix c with
    | none => simp
    | some d =>
      cases hm : List.mapM (digitOf radix) cs with
      | none => simp
      | some ds => simp [finish]

theorem radix_pos (legacy : Bool) (rest : List Char) : 1 ≤ (radixAndDigits legacy rest).1 := by
  unfold radixAndDigits
  split <;> (try split) <;> (try split) <;> simp

theorem pow_le_127 (w : Nat) (hw : w ≤ 128) :
    (2 : Int) ^ (w - 1) ≤ 170141183460469231731687303715884105728 := by
  have h : (2 : Nat) ^ (w - 1) ≤ 2 ^ 127 := Nat.pow_le_pow_right (by decide) (by omega)
  have h2 : (2 : Nat) ^ 127 = 170141183460469231731687303715884105728 := by decide
  rw [h2] at h
  have h3 : (((2 : Nat) ^ (w - 1) : Nat) : Int) = (2 : Int) ^ (w - 1) := Int.natCast_pow 2 (w - 1)
  rw [← h3]
  generalize (2 : Nat) ^ (w - 1) = q at h
  omega

/-- Body of `parseIntSigned` after the sign/radix split. -/
def signedCore (w : Nat) (neg : Bool) (radix : Nat) (digits : List Char) : Option Int :=
  if radix == 10 then
    match parseDecimalSignedI128 digits neg with
    | none => none
    | some v => if fitsSigned w v then some v else none
  else
    match parseDigitsU128 digits radix with
    | none => none
    | some mag =>
      let v128 : Option Int :=
        if neg then (if mag ≤ I128_MAX + 1 then some (- (Int.ofNat mag)) else none)
        else (if mag ≤ I128_MAX then some (Int.ofNat mag) else none)
      match v128 with
      | none => none
      | some v => if fitsSigned w v then some v else none

theorem fits_pos_bound (w : Nat) (hw : w ≤ 128) (m : Nat)
    (hb : ¬ m ≤ I128_MAX) : fitsSigned w (m : Int) = false := by
  have hp := pow_le_127 w hw
  unfold fitsSigned
  generalize (2 : Int) ^ (w - 1) = P at hp
  simp only [I128_MAX] at hb
  simp only [Bool.and_eq_false_iff, decide_eq_false_iff_not]
  omega

theorem fits_neg_bound (w : Nat) (hw : w ≤ 128) (m : Nat)
    (hb : ¬ m ≤ I128_MAX + 1) : fitsSigned w (- (m : Int)) = false := by
  have hp := pow_le_127 w hw
  unfold fitsSigned
  generalize (2 : Int) ^ (w - 1) = P at hp
  simp only [I128_MAX] at hb
  simp only [Bool.and_eq_false_iff, decide_eq_false_iff_not]
  omega

theorem signedCore_exact (w : Nat) (hw : w ≤ 128) (neg : Bool) (radix : Nat) (hr : 1 ≤ radix)
    (digits : List Char) :
    signedCore w neg radix digits =
      ((digitsValue? radix digits).map (fun m => if neg then - (Int.ofNat m) else Int.ofNat m)).bind
        (fun v => if fitsSigned w v then some v else none) := by
  have hiu : I128_MAX + 1 ≤ U128_MAX := by decide
  unfold signedCore
  by_cases h10 : radix = 10
  · subst h10
    simp only [beq_self_eq_true, if_true, parseDecimalSignedI128]
    cases neg
    · simp only [Bool.false_eq_true, if_false]
      rw [accum_exact 10 _ (by decide)]
      cases digitsValue? 10 digits with
      | none => simp
      | some m =>
        simp only [Option.bind_some, Option.map_some]
        by_cases hb : m ≤ I128_MAX
        · simp [hb]
        · have := fits_pos_bound w hw m hb
          simp [hb, this]
    · simp only [if_true]
      rw [accum_exact 10 _ (by decide)]
      cases digitsValue? 10 digits with
      | none => simp
      | some m =>
        simp only [Option.bind_some, Option.map_some]
        by_cases hb : m ≤ I128_MAX + 1
        · simp [hb]
        · have := fits_neg_bound w hw m hb
          simp [hb, this]
  · have h10' : (radix == 10) = false := by simp [h10]
    simp only [h10', Bool.false_eq_true, if_false, parseDigitsU128]
    rw [accum_exact radix _ hr]
    cases digitsValue? radix digits with
    | none => simp
    | some m =>
      simp only [Option.bind_some, Option.map_some]
      cases neg
      · simp only [Bool.false_eq_true, if_false]
        by_cases hb : m ≤ I128_MAX
        · have : m ≤ U128_MAX := by omega
          simp [hb, this]
        · have := fits_pos_bound w hw m hb
          by_cases hu : m ≤ U128_MAX <;> simp [hb, this, hu]
      · simp only [if_true]
        by_cases hb : m ≤ I128_MAX + 1
        · have : m ≤ U128_MAX := by omega
          simp [hb, this]
        · have := fits_neg_bound w hw m hb
          by_cases hu : m ≤ U128_MAX <;> simp [hb, this, hu]

/-- `parse_int_signed` for every width up to 128 (width 0 included): the exact value of the notation if it
fits -/
theorem parseIntSigned_exact (w : Nat) (hw : w ≤ 128) (legacy : Bool) (s : List Char) :
    parseIntSigned w legacy s =
      (intNotation legacy s).bind (fun v => if fitsSigned w v then some v else none) := by
  unfold parseIntSigned intNotation
  simp only []
  exact signedCore_exact w hw _ _ (radix_pos _ _) _

/-- Body of `parseIntUnsigned` after the sign/radix split. -/
def unsignedCore (w : Nat) (radix : Nat) (digits : List Char) : Option Nat :=
  match (if radix == 10 then parseDecimalUnsignedU128 digits else parseDigitsU128 digits radix) with
  | none => none
  | some m => if fitsUnsigned w m then some m else none

theorem fits_u_bound (w : Nat) (hw : w ≤ 128) (m : Nat) (hb : ¬ m ≤ U128_MAX) :
    fitsUnsigned w m = false := by
  have hp : (2 : Nat) ^ w ≤ 2 ^ 128 := Nat.pow_le_pow_right (by decide) hw
  have h2 : (2 : Nat) ^ 128 = 340282366920938463463374607431768211456 := by decide
  unfold fitsUnsigned
  generalize (2 : Nat) ^ w = P at hp
  simp only [U128_MAX] at hb
  simp only [decide_eq_false_iff_not]
  omega

theorem unsignedCore_exact (w : Nat) (hw : w ≤ 128) (radix : Nat) (hr : 1 ≤ radix)
    (digits : List Char) :
    unsignedCore w radix digits =
      (digitsValue? radix digits).bind (fun v => if fitsUnsigned w v then some v else none) := by
  have hacc : (if radix == 10 then parseDecimalUnsignedU128 digits else parseDigitsU128 digits radix)
      = accum radix U128_MAX digits 0 false := by
    by_cases h10 : radix = 10
    · subst h10; simp [parseDecimalUnsignedU128]
    · simp [h10, parseDigitsU128]
  unfold unsignedCore
  rw [hacc, accum_exact radix _ hr]
  cases digitsValue? radix digits with
  | none => simp
  | some m =>
    simp only [Option.bind_some]
    by_cases hb : m ≤ U128_MAX
    · simp [hb]
    · simp [hb, fits_u_bound w hw m hb]

theorem dash_match (t : List Char) (A B : Option Nat) (f : Nat → Option Nat) (h : A = B.bind f) :
    (match t with | '-' :: _ => none | _ => A) =
      (match t with | '-' :: _ => (none : Option Nat) | _ => B).bind f := by
  split
  · simp
  · exact h

theorem bind_fit_some {α : Type} (o : Option α) (p : α → Bool) (v : α) :
    (o.bind (fun v => if p v then some v else none)) = some v ↔ o = some v ∧ p v = true := by
  simp only [Option.bind_eq_some_iff, Option.ite_none_right_eq_some, Option.some.injEq]
  exact ⟨fun ⟨_, h, hp, e⟩ => e ▸ ⟨h, hp⟩, fun ⟨h, hp⟩ => ⟨v, h, hp, rfl⟩⟩

theorem table_some (p q : Bool) :
    ((if p then some true else if q then some false else none) = some true ↔ p = true) ∧
    ((if p then some true else if q then some false else none) = some false ↔ p = false ∧ q = true) := by
  cases p <;> cases q <;> simp

theorem table_lemma (x a b c d a' b' c' d' : List Char)
    (hdisj : ∀ y ∈ [a', b', c', d'], y ∉ [a, b, c, d]) :
    ((if (x == a || x == b || x == c || x == d) then some true
      else if (x == a' || x == b' || x == c' || x == d') then some false else none) = some true
        ↔ x ∈ [a, b, c, d]) ∧
    ((if (x == a || x == b || x == c || x == d) then some true
      else if (x == a' || x == b' || x == c' || x == d') then some false else none) = some false
        ↔ x ∈ [a', b', c', d']) := by
  have c1 : ((x == a || x == b || x == c || x == d) = true) ↔ x ∈ [a, b, c, d] := by
    simp [or_assoc]
  have c2 : ((x == a' || x == b' || x == c' || x == d') = true) ↔ x ∈ [a', b', c', d'] := by
    simp [or_assoc]
  rw [(table_some _ _).1, (table_some _ _).2, ← Bool.not_eq_true, c1, c2]
  exact ⟨Iff.rfl, And.right, fun h => ⟨hdisj x h, h⟩⟩

theorem lower_consts :
    lowerAscii "true".toList = "true".toList ∧ lowerAscii "yes".toList = "yes".toList ∧
    lowerAscii "y".toList = "y".toList ∧ lowerAscii "on".toList = "on".toList ∧
    lowerAscii "false".toList = "false".toList ∧ lowerAscii "no".toList = "no".toList ∧
    lowerAscii "n".toList = "n".toList ∧ lowerAscii "off".toList = "off".toList ∧
    lowerAscii "null".toList = "null".toList := by decide +kernel

theorem decodeVal_encVal : ∀ n, n < 64 → decodeVal (encVal n) = some n := by decide +kernel

theorem encVal_ne_pad : ∀ n, n < 64 → encVal n ≠ 61 := by decide +kernel

theorem decodeVal_big (b : Nat) (h : 123 ≤ b) : decodeVal b = none := by
  unfold decodeVal
  simp only [Bool.and_eq_true, decide_eq_true_eq, beq_iff_eq]
  rw [if_neg (by omega), if_neg (by omega), if_neg (by omega), if_neg (by omega), if_neg (by omega)]

theorem decodeVal_table : ∀ b, b < 123 → ∀ v ∈ decodeVal b, v < 64 ∧ b = encVal v := by decide +kernel

/-- `decodeVal` and `encVal` are inverse tables: nothing is accepted above `z`, and the bytes up to `z` are looked at
one by one, as the 64 sextets are in `decodeVal_encVal`. -/
theorem decodeVal_iff (b v : Nat) : decodeVal b = some v ↔ v < 64 ∧ b = encVal v := by
  refine ⟨fun h => ?_, fun ⟨hv, e⟩ => e ▸ decodeVal_encVal v hv⟩
  by_cases hb : b < 123
  · exact decodeVal_table b hb v h
  · rw [decodeVal_big b (by omega)] at h
    cases h

theorem decodeVal_pad : decodeVal 61 = none := by decide

/-- the three bytes of the 24-bit group of four sextets, as the loop body computes them (`triple` in the Rust code) -/
def bytesOf (va vb vc vd : Nat) : List Nat :=
  let t := va * 2 ^ 18 + vb * 2 ^ 12 + vc * 2 ^ 6 + vd
  [t / 2 ^ 16 % 256, t / 2 ^ 8 % 256, t % 256]

theorem bytesOf_sextets (x y z : Nat) (hx : x < 256) (hy : y < 256) (hz : z < 256) :
    x / 4 < 64 ∧ x % 4 * 16 + y / 16 < 64 ∧ y % 16 * 4 + z / 64 < 64 ∧ z % 64 < 64 ∧
    bytesOf (x / 4) (x % 4 * 16 + y / 16) (y % 16 * 4 + z / 64) (z % 64) = [x, y, z] := by
  simp only [bytesOf, List.cons.injEq, and_true]
  omega

theorem sextets_bytesOf (va vb vc vd : Nat) (ha : va < 64) (hb : vb < 64) (hc : vc < 64) (hd : vd < 64) :
    ∃ x y z, bytesOf va vb vc vd = [x, y, z] ∧ x < 256 ∧ y < 256 ∧ z < 256 ∧
      va = x / 4 ∧ vb = x % 4 * 16 + y / 16 ∧ vc = y % 16 * 4 + z / 64 ∧ vd = z % 64 := by
  refine ⟨_, _, _, rfl, ?_⟩
  omega

/-- no padding (`c = 61` needs no hypothesis: `decodeVal 61 = none`) -/
theorem decodeChunk_pad0 (a b c d : Nat) (isLast : Bool) (hd : d ≠ 61) :
    decodeChunk a b c d isLast =
      (decodeVal a).bind fun va => (decodeVal b).bind fun vb => (decodeVal c).bind fun vc =>
        (decodeVal d).bind fun vd => some (bytesOf va vb vc vd) := by
  have hd' : (d == 61) = false := by simpa using hd
  unfold decodeChunk
  simp only [padOf, hd', Bool.false_eq_true, ↓reduceIte, gt_iff_lt, Nat.lt_irrefl, decide_false, Bool.false_and]
  cases decodeVal a with
  | none => rfl
  | some va =>
  cases decodeVal b with
  | none => rfl
  | some vb =>
  by_cases hc : c = 61
  · subst hc; simp [decodeVal_pad]
  have hc' : (c == 61) = false := by simpa using hc
  simp only [hc', Bool.false_eq_true, ↓reduceIte]
  cases decodeVal c with
  | none => rfl
  | some vc =>
  cases decodeVal d with
  | none => rfl
  | some vd => rfl

/-- one `=`: only in the last chunk; the fourth sextet counts as 0 and the two low bits of the third must be 0 -/
theorem decodeChunk_pad1 (a b c : Nat) (isLast : Bool) (hc : c ≠ 61) :
    decodeChunk a b c 61 isLast =
      if isLast then
        (decodeVal a).bind fun va => (decodeVal b).bind fun vb => (decodeVal c).bind fun vc =>
          if vc % 4 = 0 then some ((bytesOf va vb vc 0).take 2) else none
      else none := by
  have hc' : (c == 61) = false := by simpa using hc
  unfold decodeChunk
  cases isLast
  · simp [padOf, hc']
  simp only [padOf, hc', beq_self_eq_true, Bool.false_eq_true, ↓reduceIte, Bool.not_true, Bool.and_false]
  cases decodeVal a with
  | none => rfl
  | some va =>
  cases decodeVal b with
  | none => rfl
  | some vb =>
  cases decodeVal c with
  | none => rfl
  | some vc =>
    simp only [Nat.reduceBEq, Nat.reduceLeDiff, Nat.reduceLT, Bool.false_eq_true, ↓reduceIte, Bool.true_and,
      Bool.false_and, Option.bind_some, bne_iff_ne, ne_eq, ite_not, List.cons_append, List.nil_append, bytesOf,
      List.take]

theorem decodeChunk_pad2 (a b : Nat) (isLast : Bool) (hb : b ≠ 61) :
    decodeChunk a b 61 61 isLast =
      if isLast then
        (decodeVal a).bind fun va => (decodeVal b).bind fun vb =>
          if vb % 16 = 0 then some ((bytesOf va vb 0 0).take 1) else none
      else none := by
  have hb' : (b == 61) = false := by simpa using hb
  unfold decodeChunk
  cases isLast
  · simp [padOf, hb']
  simp only [padOf, hb', beq_self_eq_true, Bool.false_eq_true, ↓reduceIte, Bool.not_true, Bool.and_false]
  cases decodeVal a with
  | none => rfl
  | some va =>
  cases decodeVal b with
  | none => rfl
  | some vb =>
    simp only [Nat.lt_irrefl, Nat.reduceBEq, Nat.reduceLeDiff, Bool.false_eq_true, ↓reduceIte, Bool.true_and,
      Bool.false_and, Option.bind_some, bne_iff_ne, ne_eq, ite_not, bytesOf, List.take]

theorem decodeChunk_pad3 (a : Nat) (isLast : Bool) : decodeChunk a 61 61 61 isLast = none := by
  unfold decodeChunk
  simp only [decodeVal_pad]
  split
  · rfl
  · split <;> rfl

theorem decodeChunk_enc3 (x y z : Nat) (hx : x < 256) (hy : y < 256) (hz : z < 256) (isLast : Bool) :
    decodeChunk (encVal (x / 4)) (encVal ((x % 4) * 16 + y / 16))
      (encVal ((y % 16) * 4 + z / 64)) (encVal (z % 64)) isLast = some [x, y, z] := by
  obtain ⟨h1, h2, h3, h4, e⟩ := bytesOf_sextets x y z hx hy hz
  rw [decodeChunk_pad0 _ _ _ _ _ (encVal_ne_pad _ h4), decodeVal_encVal _ h1, decodeVal_encVal _ h2,
    decodeVal_encVal _ h3, decodeVal_encVal _ h4]
  simp only [Option.bind_some, e]

theorem decodeChunk_enc2 (x y : Nat) (hx : x < 256) (hy : y < 256) :
    decodeChunk (encVal (x / 4)) (encVal ((x % 4) * 16 + y / 16))
      (encVal ((y % 16) * 4)) 61 true = some [x, y] := by
  obtain ⟨h1, h2, h3, -, e⟩ := bytesOf_sextets x y 0 hx hy (by decide)
  simp only [Nat.zero_div, Nat.zero_mod, Nat.add_zero] at h3 e
  rw [decodeChunk_pad1 _ _ _ _ (encVal_ne_pad _ h3), decodeVal_encVal _ h1, decodeVal_encVal _ h2,
    decodeVal_encVal _ h3]
  simp only [Option.bind_some, if_true, Nat.mul_mod_left, e, List.take]

theorem decodeChunk_enc1 (x : Nat) (hx : x < 256) :
    decodeChunk (encVal (x / 4)) (encVal ((x % 4) * 16)) 61 61 true = some [x] := by
  obtain ⟨h1, h2, -, -, e⟩ := bytesOf_sextets x 0 0 hx (by decide) (by decide)
  simp only [Nat.zero_div, Nat.zero_mod, Nat.add_zero, Nat.zero_mul] at h2 e
  rw [decodeChunk_pad2 _ _ _ (encVal_ne_pad _ h2), decodeVal_encVal _ h1, decodeVal_encVal _ h2]
  simp only [Option.bind_some, if_true, Nat.mul_mod_left, e, List.take]

/-- an accepted chunk is the encoding of its output; fewer than three bytes only in the last chunk -/
theorem decodeChunk_sound (a b c d : Nat) (isLast : Bool) (o : List Nat)
    (h : decodeChunk a b c d isLast = some o) :
    ((∃ x y z, o = [x, y, z] ∧ [a, b, c, d] = b64encode [x, y, z]) ∨
      (isLast = true ∧ [a, b, c, d] = b64encode o)) ∧ ∀ x ∈ o, x < 256 := by
  by_cases hd : d = 61
  · subst hd
    by_cases hc : c = 61
    · subst hc
      by_cases hb : b = 61
      · subst hb
        rw [decodeChunk_pad3] at h
        cases h
      · simp only [decodeChunk_pad2 _ _ _ hb, Option.ite_none_right_eq_some, Option.bind_eq_some_iff,
          decodeVal_iff, Option.some.injEq] at h
        obtain ⟨hl, va, ⟨la, rfl⟩, vb, ⟨lb, rfl⟩, hm, rfl⟩ := h
        obtain ⟨x, y, z, e, hx, hy, hz, rfl, rfl, -, -⟩ :=
          sextets_bytesOf va vb 0 0 la lb (by decide) (by decide)
        -- zero trailing bits (`hm`): what the second sextet holds of the byte that is dropped
        have hy0 : y / 16 = 0 := by omega
        exact ⟨Or.inr ⟨hl, by rw [e]; simp only [List.take, b64encode, hy0, Nat.add_zero]⟩, by simpa [e] using hx⟩
    · simp only [decodeChunk_pad1 _ _ _ _ hc, Option.ite_none_right_eq_some, Option.bind_eq_some_iff,
        decodeVal_iff, Option.some.injEq] at h
      obtain ⟨hl, va, ⟨la, rfl⟩, vb, ⟨lb, rfl⟩, vc, ⟨lc, rfl⟩, hm, rfl⟩ := h
      obtain ⟨x, y, z, e, hx, hy, hz, rfl, rfl, rfl, -⟩ := sextets_bytesOf va vb vc 0 la lb lc (by decide)
      have hz0 : z / 64 = 0 := by omega
      exact ⟨Or.inr ⟨hl, by rw [e]; simp only [List.take, b64encode, hz0, Nat.add_zero]⟩, by simp [e, hx, hy]⟩
  · simp only [decodeChunk_pad0 _ _ _ _ _ hd, Option.bind_eq_some_iff, decodeVal_iff, Option.some.injEq] at h
    obtain ⟨va, ⟨la, rfl⟩, vb, ⟨lb, rfl⟩, vc, ⟨lc, rfl⟩, vd, ⟨ld, rfl⟩, rfl⟩ := h
    obtain ⟨x, y, z, e, hx, hy, hz, rfl, rfl, rfl, rfl⟩ := sextets_bytesOf va vb vc vd la lb lc ld
    exact ⟨Or.inl ⟨x, y, z, e, by simp only [b64encode, List.append_nil]⟩, by simp [e, hx, hy, hz]⟩

theorem b64_decode_encode : ∀ (bs : List Nat), (∀ b ∈ bs, b < 256) →
    decodeChunks (b64encode bs) = some bs
  | [], _ => by simp [b64encode, decodeChunks]
  | [x], h => by
    have hx : x < 256 := h x (by simp)
    simp [b64encode, decodeChunks, decodeChunk_enc1 x hx]
  | [x, y], h => by
    have hx : x < 256 := h x (by simp)
    have hy : y < 256 := h y (by simp)
    simp [b64encode, decodeChunks, decodeChunk_enc2 x y hx hy]
  | x :: y :: z :: rest, h => by
    have hx : x < 256 := h x (by simp)
    have hy : y < 256 := h y (by simp)
    have hz : z < 256 := h z (by simp)
    have ih := b64_decode_encode rest (fun b hb => h b (by simp [hb]))
    simp [b64encode, decodeChunks, decodeChunk_enc3 x y z hx hy hz, ih]

theorem decodeChunks_sound : ∀ (s bs : List Nat), decodeChunks s = some bs →
    s = b64encode bs ∧ ∀ b ∈ bs, b < 256
  | [], bs, h => by
    simp [decodeChunks] at h
    subst h
    simp [b64encode]
  | [_], _, h => by simp [decodeChunks] at h
  | [_, _], _, h => by simp [decodeChunks] at h
  | [_, _, _], _, h => by simp [decodeChunks] at h
  | a :: b :: c :: d :: rest, bs, h => by
    unfold decodeChunks at h
    cases ho : decodeChunk a b c d rest.isEmpty with
    | none => simp [ho] at h
    | some o =>
      cases hr : decodeChunks rest with
      | none => simp [ho, hr] at h
      | some r =>
        simp [ho, hr] at h
        subst h
        obtain ⟨ih, ihb⟩ := decodeChunks_sound rest r hr
        obtain ⟨hs, hb⟩ := decodeChunk_sound a b c d _ o ho
        refine ⟨?_, fun x hx => (List.mem_append.mp hx).elim (hb x) (ihb x)⟩
        rcases hs with ⟨x, y, z, rfl, he⟩ | ⟨hl, he⟩
        · simp only [b64encode, List.append_nil, List.cons.injEq, and_true] at he
          obtain ⟨rfl, rfl, rfl, rfl⟩ := he
          simp [b64encode, ih]
        · have hre : rest = [] := by simpa using hl
          subst hre
          simp [decodeChunks] at hr
          subst hr
          simpa using he

/-- the chunk loop accepts exactly the RFC 4648 encodings of byte strings, and returns the bytes -/
theorem decodeChunks_iff (s bs : List Nat) :
    decodeChunks s = some bs ↔ (∀ b ∈ bs, b < 256) ∧ s = b64encode bs :=
  ⟨fun h => ⟨(decodeChunks_sound s bs h).2, (decodeChunks_sound s bs h).1⟩,
   fun ⟨hb, hs⟩ => hs ▸ b64_decode_encode bs hb⟩

theorem b64_strict : ∀ (s bs : List Nat), decodeChunks s = some bs → s = b64encode bs :=
  fun s bs h => ((decodeChunks_iff s bs).mp h).2

theorem b64_output_bytes : ∀ (s bs : List Nat), decodeChunks s = some bs → ∀ b ∈ bs, b < 256 :=
  fun s bs h => ((decodeChunks_iff s bs).mp h).1

end SaphyrVerif.Lemmas.C06
