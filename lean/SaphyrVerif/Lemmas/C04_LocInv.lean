import SaphyrVerif.Lemmas.C04_Loc
/-!
C04, location of the duplicate-key error: the invariant that makes `Events::at_alias` (`idx == 1` on the top
replay frame) exact, read off `PumpStep`'s lists of what a call can do.
-/
namespace SaphyrVerif.Lemmas.C04Loc
open SaphyrVerif SaphyrVerif.Scalars SaphyrVerif.Pump SaphyrVerif.De

/-! Between two pump calls every replay frame has served at least one event.
So `idx == 1` on the top frame after a look-ahead means exactly "this look-ahead pushed the frame":
a frame that was already there had `idx ≥ 1` before and has `idx ≥ 2` after serving the event. -/

def IdxPos (fs : List InjectFrame) : Prop := ∀ fr ∈ fs, 1 ≤ fr.idx

theorem IdxPos.nil : IdxPos [] := by intro fr h; cases h

/-- the inject loop on a stack whose frames have served an event, except possibly the top one if it is the frame just
pushed for a known anchor: that one is popped (empty buffer) or serves its first event -/
theorem served_idxPos {p : Pump} {fs : List InjectFrame} {r : Option Step} {p' : Pump} (h : Served p fs r p')
    (ht : IdxPos fs.tail)
    (hh : ∀ fr, fs.head? = some fr → 1 ≤ fr.idx ∨ (lookupAnchor p.anchors fr.anchorId).isSome = true) :
    IdxPos p'.inject := by
  -- the answering frame `fr` sits below the popped ones: what is under it has served, and so has `fr` unless it is the top
  have below : ∀ {dead : List InjectFrame} {fr : InjectFrame} {rest : List InjectFrame}, fs = dead ++ fr :: rest →
      IdxPos rest ∧ (1 ≤ fr.idx ∨ (lookupAnchor p.anchors fr.anchorId).isSome = true) := by
    intro dead fr rest e
    subst e
    cases dead with
    | nil => exact ⟨ht, hh fr rfl⟩
    | cons d ds =>
      exact ⟨fun x hx => ht x (List.mem_append_right _ (List.mem_cons_of_mem _ hx)),
        .inl (ht fr (List.mem_append_right _ List.mem_cons_self))⟩
  have served : ∀ {fr : InjectFrame} {rest : List InjectFrame}, IdxPos rest →
      IdxPos ({ fr with idx := fr.idx + 1 } :: rest) := by
    intro fr rest hr x hx
    rcases List.mem_cons.mp hx with rfl | hx
    · exact Nat.le_add_left 1 _
    · exact hr x hx
  cases h with
  | fall => exact IdxPos.nil
  | unknown dead fr rest e _ hl =>
    obtain ⟨hr, hf⟩ := below e
    rw [hl] at hf
    intro x hx
    rcases List.mem_cons.mp hx with rfl | hx
    · exact hf.resolve_right (by simp)
    · exact hr x hx
  | limit dead fr rest buf e | breach dead fr rest buf b e | event dead fr rest buf bud e => exact served (below e).1

theorem item_idxPos {p : Pump} {loc : Loc} {raw : Raw} {o : ItemOut} (h : Item p loc raw o) (hp : IdxPos p.inject) :
    IdxPos o.pump.inject := by
  cases h with
  | replay id buf hc hd ho hl hs =>
    refine served_idxPos hs hp (fun fr hfr => .inr ?_)
    cases hfr
    exact Option.isSome_iff_exists.mpr ⟨buf, hl⟩
  | spentAlias | docStart | docEndStop | docEnd => exact IdxPos.nil
  | _ => exact hp

theorem loop_idxPos {p : Pump} {inp : List RawItem} {s : Step} {p' : Pump} {rest : List RawItem}
    (h : Loop p inp s p' rest) (hp : IdxPos p.inject) : IdxPos p'.inject := by
  induction h with
  | null | eof | scan | breach => exact hp
  | ret rest hb hi => exact item_idxPos hi hp
  | stop rest hb hi => exact item_idxPos hi hp
  | pass hb hi _ ih => exact ih (item_idxPos hi hp)

theorem nextImpl_idxPos (p : Pump) (inp : List RawItem) (h : IdxPos p.inject) :
    IdxPos (nextImpl p inp).2.1.inject := by
  rcases hn : nextImpl p inp with ⟨s, p', rest⟩
  cases call_of hn with
  | served hs =>
    exact served_idxPos hs (fun fr hfr => h fr (List.mem_of_mem_tail hfr))
      (fun fr hfr => .inl (h fr (List.mem_of_mem_head? hfr)))
  | loop _ hl => exact loop_idxPos hl IdxPos.nil

theorem peek_idxPos (p : Pump) (inp : List RawItem) (h : IdxPos p.inject) : IdxPos (Pump.peek p inp).2.1.inject := by
  unfold Pump.peek
  cases hl : p.look with
  | some ev => exact h
  | none =>
    have := nextImpl_idxPos p inp h
    rcases hn : nextImpl p inp with ⟨s, p', r⟩
    rw [hn] at this
    cases s <;> exact this

theorem next_idxPos (p : Pump) (inp : List RawItem) (h : IdxPos p.inject) : IdxPos (Pump.next p inp).2.1.inject := by
  unfold Pump.next
  cases hl : p.look with
  | some ev => exact h
  | none => exact nextImpl_idxPos p inp h

end SaphyrVerif.Lemmas.C04Loc
