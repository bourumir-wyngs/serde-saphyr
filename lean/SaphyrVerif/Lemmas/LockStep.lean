import SaphyrVerif.Lemmas.GSimMain
/-!
Lock-step comparison of two runs of the typed deserializer, one on a cursor `c` and one on its twin `σ c`, with THREE
outcomes (`XR`): both return the same value, both fail with the same error — the returned cursors are a pair `d`, `σ d`
again —, or the LEFT run alone fails with an error of a class `Br` that `attach_alias_locations_if_missing` keeps,
whatever the right run does.  If `peek` and `next` are related so (`Closed`), so is every function of the mutual block of
`Model/De.lean` that reads from the cursor (`xA`): it is the guarded simulation of `Lemmas/GSimMain.lean` without a frame,
EXACT (`ex := True`: observed locations, values and errors are equal), with the one-sided failures `Br`.
(`pendingFromEvents` and `deserKey` read from private replay buffers only, and in an exact comparison the locations they are
given agree: they are literally the same call on both sides, so `XA`, unlike `GA`, has no field for `pendingFromEvents`.)
The exact comparison `Lock.LR` (no one-sided outcome) and the comparison with and without budget enforcer `E2EBudget.BR`
(`σ` = `strip`, the one-sided outcome is the breach) are instances.
-/
namespace SaphyrVerif.Lemmas.LockStep
open SaphyrVerif SaphyrVerif.Scalars SaphyrVerif.Pump SaphyrVerif.De

/-- parameters of the comparison: the twin of a cursor, what holds of the left cursor after a common success (`Inv`) and
after a common failure (`ErrI`), and which failures of the left run alone are allowed (`Br`) -/
structure XP where
  σ : Cur → Cur
  Inv : Cur → Prop
  ErrI : Cur → Prop
  Br : DErr → Cur → Prop
  σ_lastLoc : ∀ c, (σ c).lastLoc = c.lastLoc
  σ_refLoc : ∀ c, (σ c).refLoc = c.refLoc
  σ_atAlias : ∀ c, (σ c).atAlias = c.atAlias
  inv_err : ∀ c, Inv c → ErrI c
  br_attach : ∀ e d ref defined, Br e d → Br (attachAlias e ref defined) d

inductive XR (P : XP) {α : Type} : R α → R α → Prop
  | ok {a : α} {d : Cur} : P.Inv d → XR P (.ok a d) (.ok a (P.σ d))
  | err {e : DErr} {d : Cur} : P.ErrI d → XR P (.err e d) (.err e (P.σ d))
  | brk {e : DErr} {d : Cur} {y : R α} : P.Br e d → XR P (.err e d) y

def Closed (P : XP) : Prop := ∀ c, P.Inv c → XR P c.peek (P.σ c).peek ∧ XR P c.next (P.σ c).next

theorem Closed.peek {P : XP} (hcl : Closed P) {c : Cur} (h : P.Inv c) : XR P c.peek (P.σ c).peek := (hcl c h).1
theorem Closed.next {P : XP} (hcl : Closed P) {c : Cur} (h : P.Inv c) : XR P c.next (P.σ c).next := (hcl c h).2

theorem out_of_xr {P : XP} {α : Type} {x y : R α} (h : XR P x y) :
    Out (fun c c' => c' = P.σ c ∧ P.Inv c) (fun c c' => c' = P.σ c ∧ P.ErrI c) True P.Br Eq x y := by
  cases h with
  | ok hi => exact .ok rfl (fun _ => rfl) ⟨rfl, hi⟩
  | err hi => exact .err (fun _ => rfl) ⟨rfl, hi⟩
  | brk hb => exact .brk hb

def _root_.SaphyrVerif.Lemmas.GSim.lock (P : XP) (hcl : Closed P) : GSim where
  S := fun c c' => c' = P.σ c ∧ P.Inv c
  Se := fun c c' => c' = P.σ c ∧ P.ErrI c
  ex := True
  Br := P.Br
  on := False
  buf := []
  ref := none
  se := fun h => ⟨h.1, P.inv_err _ h.2⟩
  obs := fun _ _ _ h => by rw [h.1]; exact ⟨P.σ_lastLoc _, P.σ_refLoc _, P.σ_atAlias _⟩
  br_attach := fun _ _ h => P.br_attach _ _ _ _ h
  rep := fun h => h.elim
  bal0 := fun h => h.elim
  floor := fun h => h.elim
  peek := fun h _ => h.1 ▸ out_of_xr (hcl.peek h.2)
  next := fun h _ => h.1 ▸ out_of_xr (hcl.next h.2)

variable {P : XP} (hcl : Closed P)

theorem lock_at {c : Cur} (hi : P.Inv c) (k : Int) : (GSim.lock P hcl).At k c (P.σ c) := ⟨⟨rfl, hi⟩, fun h => h.elim⟩
theorem lock_in (c : Cur) : (GSim.lock P hcl).In c := fun h => h.elim

theorem xr_of_rg {α : Type} {rel : α → α → Prop} {x y : R α} (h : RG (GSim.lock P hcl) rel x y) : XR P x y := by
  cases h with
  | ok _ hq hs => cases hq trivial; cases hs.1; exact .ok hs.2
  | err hq hs => cases hq trivial; cases hs.1; exact .err hs.2
  | brk hb => exact .brk hb

structure XA (P : XP) (fuel : Nat) : Prop where
  capture : ∀ {c}, P.Inv c → XR P (De.capture fuel c) (De.capture fuel (P.σ c))
  captureSeq : ∀ fps evs {c}, P.Inv c → XR P (De.captureSeq fuel c fps evs) (De.captureSeq fuel (P.σ c) fps evs)
  captureMap : ∀ fps evs {c}, P.Inv c → XR P (De.captureMap fuel c fps evs) (De.captureMap fuel (P.σ c) fps evs)
  mergeSeqBatches : ∀ b {c}, P.Inv c → XR P (De.mergeSeqBatches fuel c b) (De.mergeSeqBatches fuel (P.σ c) b)
  pendingFromLive : ∀ r {c}, P.Inv c → XR P (De.pendingFromLive fuel c r) (De.pendingFromLive fuel (P.σ c) r)
  collectEntriesFromMap : ∀ r {c}, P.Inv c →
    XR P (De.collectEntriesFromMap fuel c r) (De.collectEntriesFromMap fuel (P.σ c) r)
  collectLoop : ∀ r f m {c}, P.Inv c → XR P (De.collectLoop fuel c r f m) (De.collectLoop fuel (P.σ c) r f m)
  skipOneNode : ∀ {c}, P.Inv c → XR P (De.skipOneNode fuel c) (De.skipOneNode fuel (P.σ c))
  skipDepth : ∀ depth {c}, P.Inv c → XR P (De.skipDepth fuel c depth) (De.skipDepth fuel (P.σ c) depth)
  deser : ∀ cfg ty ik km {c}, P.Inv c → XR P (De.deser fuel cfg ty ik km c) (De.deser fuel cfg ty ik km (P.σ c))
  bytesLoop : ∀ cfg acc {c}, P.Inv c → XR P (De.bytesLoop fuel cfg c acc) (De.bytesLoop fuel cfg (P.σ c) acc)
  deserSeqLike : ∀ cfg shape {c}, P.Inv c →
    XR P (De.deserSeqLike fuel cfg shape c) (De.deserSeqLike fuel cfg shape (P.σ c))
  seqElems : ∀ cfg t acc {c}, P.Inv c → XR P (De.seqElems fuel cfg t c acc) (De.seqElems fuel cfg t (P.σ c) acc)
  tupleElems : ∀ cfg ts acc {c}, P.Inv c →
    XR P (De.tupleElems fuel cfg ts c acc) (De.tupleElems fuel cfg ts (P.σ c) acc)
  deserMapLike : ∀ cfg shape {c}, P.Inv c →
    XR P (De.deserMapLike fuel cfg shape c) (De.deserMapLike fuel cfg shape (P.σ c))
  mapEntries : ∀ cfg kt vt m acc {c}, P.Inv c →
    XR P (De.mapEntries fuel cfg kt vt c m acc) (De.mapEntries fuel cfg kt vt (P.σ c) m acc)
  structEntries : ∀ cfg fields deny m acc {c}, P.Inv c →
    XR P (De.structEntries fuel cfg fields deny c m acc) (De.structEntries fuel cfg fields deny (P.σ c) m acc)
  nextKey : ∀ cfg ks m {c}, P.Inv c → XR P (De.nextKey fuel cfg ks c m) (De.nextKey fuel cfg ks (P.σ c) m)
  nextValue : ∀ cfg vt m {c}, P.Inv c → XR P (De.nextValue fuel cfg vt c m) (De.nextValue fuel cfg vt (P.σ c) m)
  deserEnum : ∀ cfg name variants {c}, P.Inv c →
    XR P (De.deserEnum fuel cfg name variants c) (De.deserEnum fuel cfg name variants (P.σ c))
  collectTaggedSeq : ∀ depth acc {c}, P.Inv c →
    XR P (De.collectTaggedSeq fuel c depth acc) (De.collectTaggedSeq fuel (P.σ c) depth acc)
  variantPayload : ∀ cfg variants vname vloc mapMode tagged {c}, P.Inv c →
    XR P (De.variantPayload fuel cfg variants vname vloc mapMode tagged c)
      (De.variantPayload fuel cfg variants vname vloc mapMode tagged (P.σ c))


theorem xA (hcl : Closed P) : ∀ fuel, XA P fuel := fun fuel =>
  have g := gA fuel (GSim.lock P hcl)
  have one : (1 : Int) ≤ 1 := Int.le_refl 1
  have at1 {c : Cur} (hi : P.Inv c) := lock_at hcl hi 1
  have ins := lock_in hcl
  { capture := fun hi => xr_of_rg hcl (g.capture (at1 hi) (ins _))
    captureSeq := fun fps evs _ hi => xr_of_rg hcl (g.captureSeq fps evs (at1 hi) one)
    captureMap := fun fps evs _ hi => xr_of_rg hcl (g.captureMap fps evs (at1 hi) one)
    mergeSeqBatches := fun b _ hi => xr_of_rg hcl (g.mergeSeqBatches (at1 hi) one (GSim.PLL.refl b))
    pendingFromLive := fun r _ hi => xr_of_rg hcl (g.pendingFromLive (at1 hi) (ins _) (GSim.Q.refl r))
    collectEntriesFromMap := fun r _ hi => xr_of_rg hcl (g.collectEntriesFromMap (at1 hi) (ins _) (GSim.Q.refl r))
    collectLoop := fun r f m _ hi =>
      xr_of_rg hcl (g.collectLoop (at1 hi) one (GSim.Q.refl r) (GSim.PL.refl f) (GSim.PLL.refl m))
    skipOneNode := fun hi => xr_of_rg hcl (g.skipOneNode (at1 hi) (ins _))
    skipDepth := fun depth _ hi => xr_of_rg hcl (g.skipDepth depth (lock_at hcl hi depth) (Int.le_refl _))
    deser := fun cfg ty ik km _ hi => xr_of_rg hcl (g.deser cfg ty ik km (at1 hi) (ins _))
    bytesLoop := fun cfg acc _ hi => xr_of_rg hcl (g.bytesLoop cfg acc (at1 hi) one)
    deserSeqLike := fun cfg shape _ hi => xr_of_rg hcl (g.deserSeqLike cfg shape (at1 hi) (ins _))
    seqElems := fun cfg t acc _ hi => xr_of_rg hcl (g.seqElems cfg t acc (at1 hi) one)
    tupleElems := fun cfg ts acc _ hi => xr_of_rg hcl (g.tupleElems cfg ts acc (at1 hi) one)
    deserMapLike := fun cfg shape _ hi => xr_of_rg hcl (g.deserMapLike cfg shape (at1 hi) (ins _))
    mapEntries := fun cfg kt vt m acc _ hi =>
      xr_of_rg hcl (g.mapEntries cfg kt vt acc (at1 hi) (fun _ => one) (GSim.MRel.refl m))
    structEntries := fun cfg fields deny m acc _ hi =>
      xr_of_rg hcl (g.structEntries cfg fields deny acc (at1 hi) (fun _ => one) (GSim.MRel.refl m))
    nextKey := fun cfg ks m _ hi => xr_of_rg hcl (g.nextKey cfg ks (at1 hi) (fun _ => one) (GSim.MRel.refl m))
    nextValue := fun cfg vt m _ hi => xr_of_rg hcl (g.nextValue cfg vt (at1 hi) (fun _ => one) (GSim.MRel.refl m))
    deserEnum := fun cfg name variants _ hi => xr_of_rg hcl (g.deserEnum cfg name variants (at1 hi) (ins _))
    collectTaggedSeq := fun depth acc _ hi =>
      xr_of_rg hcl (g.collectTaggedSeq depth acc (lock_at hcl hi depth) (Int.le_refl _))
    variantPayload := fun cfg variants vname vloc mapMode tagged _ hi =>
      xr_of_rg hcl (g.variantPayload cfg variants vname vloc mapMode tagged (at1 hi) (fun _ => one) (fun _ => id)) }

theorem deserStr_x (hcl : Closed P) (cfg : Cfg) {c : Cur} (hi : P.Inv c) :
    XR P (deserStr cfg c) (deserStr cfg (P.σ c)) :=
  xr_of_rg hcl (deserStr_g cfg (lock_at hcl hi 0) (lock_in hcl c))

theorem byteSeqVisit_x (hcl : Closed P) (shape : Ty ⊕ List Ty) (data : List Nat) {c : Cur} (hi : P.Inv c) :
    XR P (byteSeqVisit shape data c) (byteSeqVisit shape data (P.σ c)) :=
  xr_of_rg hcl (byteSeqVisit_g shape data (lock_at hcl hi 0))

theorem structFinish_x (hcl : Closed P) (fields : List (String × Ty)) (got : List (String × Val)) {c : Cur}
    (hi : P.Inv c) : XR P (structFinish fields got c) (structFinish fields got (P.σ c)) :=
  xr_of_rg hcl (structFinish_g fields got (lock_at hcl hi 0))

end SaphyrVerif.Lemmas.LockStep
