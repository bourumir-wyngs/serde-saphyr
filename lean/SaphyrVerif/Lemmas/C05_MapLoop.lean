import SaphyrVerif.Lemmas.C05_MapAccess
import SaphyrVerif.Lemmas.C05_Seq
import SaphyrVerif.Lemmas.C05_Any
/-!
C05: `nextValue` reads the value of the delivered entry (`nextValue_spec`), recorded keys (`deserKey`:
`keyRef_ident`, `keyRef_ty`), and the `HashMap` visitor `mapEntries` (`mapEntries_spec`).
-/
namespace SaphyrVerif.Lemmas.C05
open SaphyrVerif SaphyrVerif.Scalars SaphyrVerif.Pump SaphyrVerif.De SaphyrVerif.Spec

/-- `nextValue`, then any continuation `k` (indexed by what the caller accumulates, `a`): if `k` meets its expectation
from every state related to `st'`, and never repairs a stop inside the value (`Stays`), the two together meet
"the value's meaning, then `exp`". -/
theorem nextValue_spec (X : MCtx) (cfg : Cfg) (df : Bool) (vt : Ty) {v : ENode} {st' : ASt} {seen' : List FP} {m' : MA}
    {c' : Cur} (hrel : RelV X v st' seen' m' c') (href : Ref df cfg vt v)
    {ι β : Type} (exp : ι → Val → Option β) (k : Nat → ι → Val → MA → Cur → R β)
    (hweak : ∀ fuel a val m j b c'', k fuel a val m (.replay X.buf j X.ref) = .ok b c'' → Stays X.buf X.ref j 1 c'')
    (hk : ∀ val m'' c'', Rel X st' seen' m'' c'' →
      Evt fun fuel => ∀ a, NodeOut X.buf X.ref X.i0 X.len df (exp a val) (k fuel a val m'' c'')) :
    Evt fun fuel => ∀ a,
      NodeOut X.buf X.ref X.i0 X.len df ((interp cfg vt v).bind (exp a))
        (match nextValue fuel cfg vt c' m' with
          | .err e c => .err e c
          | .ok (val, m) c => k fuel a val m c) := by
  -- `hk` is asked for the one value the specification gives, if it gives one
  have hcont : ∀ m'' c'', Rel X st' seen' m'' c'' → Evt fun fuel => ∀ val, interp cfg vt v = some val → ∀ a,
      NodeOut X.buf X.ref X.i0 X.len df (exp a val) (k fuel a val m'' c'') := by
    intro m'' c'' hr
    cases interp cfg vt v with
    | none => exact Evt.of_forall fun _ _ hv => nomatch hv
    | some val => exact (hk val _ _ hr).mono fun fuel h _ hv => by cases hv; exact h
  cases st' with
  | live rem q =>
    obtain ⟨hhave, hpv, i, rfl, hi0, ⟨el, rest, hdrop⟩, hend, hp, hfl, hst, hs⟩ := hrel
    have hsub := href X.buf i X.ref _ hdrop
    have hstep : ∀ fuel, nextValue (fuel + 1) cfg vt (.replay X.buf i X.ref) m' =
        match deser fuel cfg vt false false (.replay X.buf i X.ref) with
        | .err e c => .err (attachAlias e (Cur.replay X.buf i X.ref).refLoc
            (match X.buf[i]? with | some e => e.loc | none => (Cur.replay X.buf i X.ref).lastLoc)) c
        | .ok val c => .ok (val, { m' with haveKey := false }) c := by
      intro fuel
      rw [nextValue]
      simp only [hhave, hpv, Cur.peek]
      rfl
    have hrel' : Rel X (.live rem q) seen' { m' with haveKey := false } (.replay X.buf (i + (eflatten v).length) X.ref) :=
      ⟨_, rfl, by omega, ⟨el, rest, Cursor.drop_add_of_drop_eq_append hdrop⟩, by omega, hp, hfl, hst, hs⟩
    refine Evt.succ (Evt.mono (Evt.and hsub (Evt.shift (hcont _ _ hrel'))) fun fuel ⟨hsub, hcont⟩ a => ?_)
    rw [hstep]
    refine hsub.andThen (k := 1) (tail := eflattenE rem ++ [.mapEnd el]) (rest := rest) (by rw [hdrop]; simp)
      (by simp [(eflattenE_bal rem).1, Ev.delta]) (by omega) (by simp [MCtx.iEnd] at hend ⊢; omega) ?_ ?_ ?_
    · exact fun e c hx => by rw [hx]; exact ⟨_, _, rfl⟩
    · exact fun val hv hx => by rw [hx]; exact hcont val hv a
    · exact fun val j b c'' hx hy => by rw [hx] at hy; exact hweak _ _ _ _ _ _ _ hy
  | flush q =>
    obtain ⟨hhave, ⟨r, hpv⟩, rfl, hfl, hq, hs⟩ := hrel
    have hsub := href (eflatten v) 0 (some r) [] (by simp)
    have hstep : ∀ fuel, nextValue (fuel + 1) cfg vt (.replay X.buf X.iEnd X.ref) m' =
        match deser fuel cfg vt false false (.replay (eflatten v) 0 (some r)) with
        | .err e _ => .err (attachAlias e r (match (eflatten v)[0]? with | some e => e.loc | none => 0))
            (.replay X.buf X.iEnd X.ref)
        | .ok val rc' =>
          match rc'.peek with
          | .ok (some ev) _ => .err ⟨"Unexpected", ev.loc, 0⟩ (.replay X.buf X.iEnd X.ref)
          | _ => .ok (val, { m' with haveKey := false, pendingValue := none }) (.replay X.buf X.iEnd X.ref) := by
      intro fuel
      rw [nextValue]
      simp only [hhave, hpv]
      rfl
    refine Evt.succ (Evt.mono (Evt.and hsub (Evt.shift
      (hcont { m' with haveKey := false, pendingValue := none } _ ⟨rfl, hfl, hq, hs⟩))) fun fuel ⟨hsub, hcont⟩ a => ?_)
    rw [hstep]
    rcases hsub.cases with ⟨val, hv, hx⟩ | ⟨hv, e, c, hx⟩ | ⟨hv, hd, val, j, hx, hj1, hj2⟩ <;> rw [hx, hv]
    · simpa [Cur.peek] using hcont val hv a
    · exact NodeOut.of_err (by simp)
    · -- a stop inside the recorded value leaves an event, which is an error
      obtain ⟨ev, hev⟩ : ∃ ev, (eflatten v)[j]? = some ev := ⟨_, List.getElem?_eq_getElem (by omega)⟩
      exact NodeOut.of_err (by simp [Cur.peek, hev])

/-- a key position of type `kt`: like a value position, except that an empty mapping in `Option` key position is `None` -/
def keyFn (cfg : Cfg) (kt : Ty) (k : ENode) : Option Val :=
  match isOptionKeyTy kt, k with
  | true, .map _ _ _ [] => some .none
  | _, _ => interp cfg kt k

def identFn (cfg : Cfg) (k : ENode) : Option Val := (identOf cfg k).map .str

theorem deserKey_step_ty (fuel : Nat) (cfg : Cfg) (kt : Ty) (events : List Ev) (kemn : Bool) :
    deserKey (fuel + 1) cfg (.inl kt) events kemn =
      match deser fuel cfg kt true kemn (.replay events 0 none) with
      | .err e _ => .error (if (e.loc == 0 && e.kind != "AliasError") = true then
          { e with loc := (Cur.replay events 0 none).refLoc } else e)
      | .ok v c' =>
        match c'.peek with
        | .ok (some ev) _ => .error ⟨"Unexpected", ev.loc, 0⟩
        | _ => .ok v := by
  rw [deserKey]; rfl

theorem deserKey_step_ident (fuel : Nat) (cfg : Cfg) (events : List Ev) (kemn : Bool) :
    deserKey (fuel + 1) cfg (.inr ()) events kemn =
      match deserStr cfg (.replay events 0 none) with
      | .err e _ => .error (if (e.loc == 0 && e.kind != "AliasError") = true then
          { e with loc := (Cur.replay events 0 none).refLoc } else e)
      | .ok s c' =>
        match c'.peek with
        | .ok (some ev) _ => .error ⟨"Unexpected", ev.loc, 0⟩
        | _ => .ok (.str s) := by
  rw [deserKey]; rfl

theorem keyRef_ident (cfg : Cfg) (k : ENode) : KeyRef cfg (.inr ()) (identFn cfg) k := by
  refine Evt.succ (Evt.of_forall fun fuel => ?_)
  rw [deserKey_step_ident]
  cases k with
  | scalar v tag rt st a l =>
    have e1 : eflatten (.scalar v tag rt st a l) = [.scalar v tag rt st a l] := by simp [eflatten]
    rw [e1]
    have h : [Ev.scalar v tag rt st a l].drop 0 = .scalar v tag rt st a l :: [] := rfl
    have := deserStr_scalar none cfg h
    simp only [identFn]
    cases hid : identOf cfg (.scalar v tag rt st a l) with
    | none =>
      simp only [hid, expect_none] at this
      obtain ⟨e, c, he⟩ := this
      simp [he]
    | some s =>
      simp only [hid, expect_some] at this
      simp [this, Cur.peek]
  | seq a tag rt l el items =>
    have h : (eflatten (.seq a tag rt l el items)).drop 0 = .seqStart a tag rt l :: (eflattenL items ++ [.seqEnd el]) := by
      simp [eflatten]
    obtain ⟨e, c, he⟩ := deserStr_other none cfg h rfl
    simp [he, identFn, identOf]
  | map a l el es =>
    have h : (eflatten (.map a l el es)).drop 0 = .mapStart a l :: (eflattenE es ++ [.mapEnd el]) := by
      simp [eflatten]
    obtain ⟨e, c, he⟩ := deserStr_other none cfg h rfl
    simp [he, identFn, identOf]

theorem deser_kemn (cfg : Cfg) (a : Nat) (l el : Loc) : ∀ (kt : Ty), isOptionKeyTy kt = true → Evt fun fuel =>
    deser fuel cfg kt true true (.replay [.mapStart a l, .mapEnd el] 0 none) =
      .ok .none (.replay [.mapStart a l, .mapEnd el] 2 none)
  | .newtype t, h => by
    refine Evt.succ (Evt.mono (deser_kemn cfg a l el t (by simpa [isOptionKeyTy] using h)) fun fuel hn => ?_)
    rw [deser]
    exact hn
  | .option t, _ => Evt.succ (Evt.of_forall fun fuel => by
    rw [deser]
    simp [Cur.next])
  | .bool, h | .int _ _, h | .float _, h | .char, h | .string, h | .unit, h | .bytes, h | .seq _, h | .tuple _, h
  | .map _ _, h | .struct _ _, h | .enum _ _, h | .any, h => by simp [isOptionKeyTy] at h

theorem kemnOf_fpOf (k : ENode) : kemnOf (fpOf k) = true ↔ ∃ a l el, k = .map a l el [] := by
  cases k with
  | scalar => simp [kemnOf]
  | seq => simp [kemnOf]
  | map a l el es =>
    cases es with
    | nil => simp [kemnOf]
    | cons e es => obtain ⟨k1, v1⟩ := e; simp [kemnOf]

theorem keyRef_ty {cfg : Cfg} {df : Bool} {kt : Ty} {k : ENode} (href : Ref df cfg kt k) :
    KeyRef cfg (.inl kt) (keyFn cfg kt) k := by
  by_cases hA : kemnOf (fpOf k) = true ∧ isOptionKeyTy kt = true
  · obtain ⟨hk, hopt⟩ := hA
    obtain ⟨a, l, el, rfl⟩ := (kemnOf_fpOf k).mp hk
    refine Evt.succ (Evt.mono (deser_kemn cfg a l el kt hopt) fun fuel hn => ?_)
    rw [deserKey_step_ty, hk]
    have e1 : eflatten (.map a l el []) = [.mapStart a l, .mapEnd el] := by simp [eflatten]
    rw [e1, hn]
    simp [keyFn, hopt, Cur.peek]
  · have hkf : keyFn cfg kt k = interp cfg kt k := by
      simp only [keyFn]
      cases hopt : isOptionKeyTy kt with
      | false => rfl
      | true =>
        cases k with
        | scalar => rfl
        | seq => rfl
        | map a l el es =>
          cases es with
          | nil => exact absurd ⟨by simp [kemnOf], hopt⟩ hA
          | cons e es => rfl
    have hfl : ∀ fuel c, deser fuel cfg kt true (kemnOf (fpOf k)) c = deser fuel cfg kt false false c := by
      intro fuel c
      apply deser_flags
      cases hk : kemnOf (fpOf k) with
      | false => left; simp
      | true =>
        right
        cases hopt : isOptionKeyTy kt with
        | false => rfl
        | true => exact absurd ⟨hk, hopt⟩ hA
    refine Evt.succ (Evt.mono (href (eflatten k) 0 none [] (by simp)) fun fuel hn => ?_)
    rw [deserKey_step_ty, hfl, hkf]
    rcases hn.cases with ⟨v, hv, hx⟩ | ⟨hv, e, c, hx⟩ | ⟨hv, hd, v, j, hx, hj1, hj2⟩ <;>
      simp only [hv, hx]
    · simp [Cur.peek]
    · simp
    · have : ∃ ev, (eflatten k)[j]? = some ev := ⟨_, List.getElem?_eq_getElem (by omega)⟩
      obtain ⟨ev, hev⟩ := this
      simp [Cur.peek, hev]

theorem mapEntries_step (fuel : Nat) (cfg : Cfg) (kt vt : Ty) (c : Cur) (m : MA) (acc : List (Val × Val)) :
    mapEntries (fuel + 1) cfg kt vt c m acc =
      match nextKey fuel cfg (.inl kt) c m with
      | .err e c => .err e c
      | .ok (.done, _) c => .ok acc c
      | .ok (.key k _, m) c =>
        match nextValue fuel cfg vt c m with
        | .err e c => .err e c
        | .ok (v, m) c => mapEntries fuel cfg kt vt c m (acc ++ [(k, v)]) := by
  rw [mapEntries]; rfl

/-- what the visitor is expected to return, entry by entry (`o`: the entries after the first one) -/
theorem pairs_bind_cons (kf vf : NodeFn) (k v : ENode) (o : Option (List (ENode × ENode))) (acc : List (Val × Val)) :
    ((o.map ((k, v) :: ·)).bind (pairsFrom kf vf)).map (acc ++ ·) =
      (kf k).bind fun kv => (vf v).bind fun val => (o.bind (pairsFrom kf vf)).map ((acc ++ [(kv, val)]) ++ ·) := by
  cases o with
  | none => cases kf k <;> cases vf v <;> rfl
  | some es =>
    simp only [Option.map_some, Option.bind_some, pairsFrom_cons]
    cases kf k <;> cases vf v <;> cases pairsFrom kf vf es <;> simp

theorem mapEntries_spec (X : MCtx) (cfg : Cfg) (df : Bool) (kt vt : Ty) (d : Nat)
    (hK : ∀ e, EntOK d e → KeyRef cfg (.inl kt) (keyFn cfg kt) e.1) (hV : ∀ e, EntOK d e → Ref df cfg vt e.2) :
    ∀ (st : ASt), st.OK d → ∀ (seen : List FP) (m : MA) (c : Cur), Rel X st seen m c →
      Evt fun fuel => ∀ acc,
        NodeOut X.buf X.ref X.i0 X.len df (((remaining cfg.dup st seen).bind (pairsFrom (keyFn cfg kt) (interp cfg vt))).map (acc ++ ·))
          (mapEntries fuel cfg kt vt c m acc) := by
  refine ASt.stream_induction (dup := cfg.dup) fun st hok ih seen m c hrel => ?_
  have hnk := nextKey_spec X cfg (.inl kt) (keyFn cfg kt) d hK seen st m c hok hrel
  rw [remaining_step]
  cases hstep : nextStep cfg.dup st seen with
  | fail =>
    rw [hstep] at hnk
    refine Evt.succ (Evt.mono hnk fun fuel ⟨e, c', he⟩ acc => ?_)
    rw [mapEntries_step, he]
    exact Or.inl (by simp)
  | done =>
    rw [hstep] at hnk
    obtain ⟨m', hn⟩ := hnk
    refine Evt.succ (Evt.mono hn fun fuel hn acc => ?_)
    rw [mapEntries_step, hn]
    simp [pairsFrom, NodeOut, MCtx.iEnd]
  | deliver k v st' =>
    rw [hstep] at hnk
    simp only [NKOut] at hnk
    obtain ⟨hent, hok', ih⟩ := ih seen k v st' hstep
    simp only [pairs_bind_cons]
    cases hk : keyFn cfg kt k with
    | none =>
      simp only [hk] at hnk
      refine Evt.succ (Evt.mono hnk fun fuel ⟨e, c', he⟩ acc => ?_)
      rw [mapEntries_step, he]
      exact Or.inl (by simp)
    | some kv =>
      simp only [hk] at hnk
      obtain ⟨m1, c1, hrelv, hn1⟩ := hnk
      have hnv := nextValue_spec X cfg df vt hrelv (hV (k, v) hent)
        (fun acc val => ((remaining cfg.dup st' (fpOf k :: seen)).bind (pairsFrom (keyFn cfg kt) (interp cfg vt))).map
          ((acc ++ [(kv, val)]) ++ ·))
        (fun fuel acc val m c => mapEntries fuel cfg kt vt c m (acc ++ [(kv, val)]))
        (fun _ _ _ _ _ _ _ h => mapEntries_weak h)
        (fun val m2 c2 hrel2 => (ih (fpOf k :: seen) m2 c2 hrel2).mono fun fuel h acc => h _)
      refine Evt.succ (Evt.mono (Evt.and hn1 hnv) fun fuel ⟨hn1, hn2⟩ acc => ?_)
      rw [mapEntries_step, hn1]
      exact hn2 acc

end SaphyrVerif.Lemmas.C05
