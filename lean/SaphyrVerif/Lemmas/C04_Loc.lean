import SaphyrVerif.Lemmas.LookAhead
import SaphyrVerif.Lemmas.C04_Capture
/-!
C04, location of the duplicate-key error (`MA::next_key_seed`): the step of `nextKey` that reports a repeated key, the start
location of a captured node, and what `Events::at_alias` (`Cur.atAlias`) answers: `false` on recorded buffers and on a pump
that replays nothing, `true` after the look-ahead at an alias token (`peek_alias`), `false` at every later event of the
replayed buffer (`peek_in_frame`).  `capture_window` runs `capture` on any cursor that serves the events of a buffer in
order (`Win`); for a pump replaying an alias (`InFrame`, `inFrame_win`) it gives `capture_alias_refLoc`: behind the captured
node `reference_location()` is still the alias token.
-/
namespace SaphyrVerif.Lemmas.C04Loc
open SaphyrVerif SaphyrVerif.Scalars SaphyrVerif.Pump SaphyrVerif.De
open SaphyrVerif.Lemmas.LookAhead SaphyrVerif.Lemmas.Cursor SaphyrVerif.Spec
open SaphyrVerif.Lemmas.C05 (eflatten_cons eflatten_length_pos)

/-- the captured node starts at the event the look-ahead showed: `KeyNode.location()` is that event's mark -/
theorem capture_loc_of_peek {c c1 c2 : Cur} {ev : Ev} {key : KeyNode} {fuel : Nat}
    (hpk : c.peek = .ok (some ev) c1) (hcap : capture fuel c1 = .ok key c2) : key.loc = ev.loc := by
  obtain ⟨⟨n1, hn1⟩, -⟩ := cur_peek_then c ev c1 hpk
  cases fuel with
  | zero => simp [capture] at hcap
  | succ f =>
    rw [C04.capture_succ hn1] at hcap
    cases ev with
    | scalar v tag rt st a l => cases hcap; rfl
    | seqStart a tag rt l => simp only [] at hcap; split at hcap <;> cases hcap; rfl
    | mapStart a l => simp only [] at hcap; split at hcap <;> cases hcap; rfl
    | seqEnd l => cases hcap
    | mapEnd l => cases hcap

/-- the reporting step of `next_key_seed`: nothing pending, not flushing, the look-ahead shows something else than the
`.mapEnd`, from there a key is captured which is not `<<` and whose fingerprint has been seen — under the Error policy the call
fails with `DuplicateMappingKey` located at `if key_is_alias { reference_location() } else { key_node.location() }`
(the flag taken before the capture, the reference location after it), the
cursor left behind the captured key -/
theorem nextKey_dup_error (fuel : Nat) (cfg : Cfg) (hpol : cfg.dup = .error) (ks : Ty ⊕ Unit) (c c1 c2 : Cur) (m : MA)
    (hp : m.pending = []) (hf : m.flushingMerges = false)
    (ev : Ev) (hpk : c.peek = .ok (some ev) c1) (hne : ∀ l, ev ≠ .mapEnd l)
    (key : KeyNode) (hcap : capture fuel c1 = .ok key c2) (hmk : isMergeKey key = false)
    (hdup : m.seenContains key.fp = true) :
    nextKey (fuel + 1) cfg ks c m =
      .err ⟨"DuplicateMappingKey", if c1.atAlias then c2.refLoc else key.loc, 0⟩ c2 := by
  rw [nextKey]
  simp only [hp, hf, hpk, Bool.false_eq_true, if_false]
  cases ev with
  | mapEnd l => exact absurd rfl (hne l)
  | scalar v tag rt st a l => by_cases ha : c1.atAlias = true <;> simp [hcap, hmk, hpol, hdup, ha]
  | seqStart a tag rt l => by_cases ha : c1.atAlias = true <;> simp [hcap, hmk, hpol, hdup, ha]
  | mapStart a l => by_cases ha : c1.atAlias = true <;> simp [hcap, hmk, hpol, hdup, ha]
  | seqEnd l => by_cases ha : c1.atAlias = true <;> simp [hcap, hmk, hpol, hdup, ha]

/-- recorded buffers are alias-expanded: `ReplayEvents` keeps the default answer -/
theorem atAlias_replay (buf : List Ev) (idx : Nat) (ref : Option Loc) : (Cur.replay buf idx ref).atAlias = false := rfl

theorem atAlias_live_nil (p : Pump) (inp : List RawItem) (h : p.inject = []) : (Cur.live p inp).atAlias = false := by
  simp [Cur.atAlias, h]

theorem atAlias_live_cons (p : Pump) (inp : List RawItem) (fr : InjectFrame) (frs : List InjectFrame)
    (h : p.inject = fr :: frs) : (Cur.live p inp).atAlias = (fr.idx == 1) := by
  simp [Cur.atAlias, h]

/-! `W j c`: the cursor `c` stands at position `j` of `buf`; as long as the position is inside the window
(`j < n`) a successful `peek` / `next` shows / delivers `buf[j]` and keeps / advances the position.  A successful
`capture` started in front of the events of a tree that lies inside the window ends behind them — whatever the
cursor is (the control flow of `capture_node` depends on the kinds of the events only). -/

structure Win (buf : List Ev) (n : Nat) (W : Nat → Cur → Prop) : Prop where
  next : ∀ j c, W j c → j < n → ∀ o c', c.next = .ok o c' → o = buf[j]? ∧ W (j + 1) c'
  peek : ∀ j c, W j c → j < n → ∀ o c', c.peek = .ok o c' → o = buf[j]? ∧ W j c'

theorem Win.next_at {buf : List Ev} {n : Nat} {W : Nat → Cur → Prop} (hW : Win buf n W) {j : Nat} {c c' : Cur} {e : Ev}
    {tl : List Ev} {o : Option Ev} (hw : W j c) (hj : j < n) (hd : buf.drop j = e :: tl) (h : c.next = .ok o c') :
    o = some e ∧ W (j + 1) c' :=
  (getElem?_of_drop_eq_cons hd) ▸ hW.next j c hw hj o c' h

theorem Win.peek_at {buf : List Ev} {n : Nat} {W : Nat → Cur → Prop} (hW : Win buf n W) {j : Nat} {c c' : Cur} {e : Ev}
    {tl : List Ev} {o : Option Ev} (hw : W j c) (hj : j < n) (hd : buf.drop j = e :: tl) (h : c.peek = .ok o c') :
    o = some e ∧ W j c' :=
  (getElem?_of_drop_eq_cons hd) ▸ hW.peek j c hw hj o c' h

theorem capture_window {buf : List Ev} {n : Nat} {W : Nat → Cur → Prop} (hW : Win buf n W) (fuel : Nat) :
    (∀ (t : ENode) (j : Nat) (rest : List Ev) (c : Cur) (key : KeyNode) (c2 : Cur),
      buf.drop j = eflatten t ++ rest → j + (eflatten t).length ≤ n → W j c →
      capture fuel c = .ok key c2 → W (j + (eflatten t).length) c2) ∧
    (∀ (items : List ENode) (el : Loc) (j : Nat) (rest : List Ev) (c : Cur) (fps : List FP) (evs : List Ev)
      (r : List FP × List Ev) (c2 : Cur),
      buf.drop j = eflattenL items ++ .seqEnd el :: rest → j + (eflattenL items).length + 1 ≤ n → W j c →
      captureSeq fuel c fps evs = .ok r c2 → W (j + (eflattenL items).length + 1) c2) ∧
    (∀ (es : List (ENode × ENode)) (el : Loc) (j : Nat) (rest : List Ev) (c : Cur) (fps : List (FP × FP))
      (evs : List Ev) (r : List (FP × FP) × List Ev) (c2 : Cur),
      buf.drop j = eflattenE es ++ .mapEnd el :: rest → j + (eflattenE es).length + 1 ≤ n → W j c →
      captureMap fuel c fps evs = .ok r c2 → W (j + (eflattenE es).length + 1) c2) := by
  induction fuel with
  | zero =>
    refine ⟨fun _ _ _ _ _ _ _ _ _ h => ?_, fun _ _ _ _ _ _ _ _ _ _ _ _ h => ?_, fun _ _ _ _ _ _ _ _ _ _ _ _ h => ?_⟩
    · simp [capture] at h
    · simp [captureSeq] at h
    · simp [captureMap] at h
  | succ f ih =>
    obtain ⟨ihN, ihL, ihE⟩ := ih
    refine ⟨?_, ?_, ?_⟩
    · intro t j rest c key c2 hd hn hw hcap
      have hlen := eflatten_length_pos t
      cases hnx : c.next with
      | err e c' => rw [capture, hnx] at hcap; cases hcap
      | ok o c' =>
        cases t with
        | scalar v tag rt st a l =>
          simp only [eflatten, List.cons_append, List.nil_append] at hd
          obtain ⟨rfl, hw'⟩ := hW.next_at hw (by omega) hd hnx
          rw [C04.capture_succ hnx] at hcap
          cases hcap
          simpa [eflatten] using hw'
        | seq a tag rt l el items =>
          simp only [eflatten, List.cons_append, List.append_assoc, List.nil_append] at hd
          obtain ⟨rfl, hw'⟩ := hW.next_at hw (by omega) hd hnx
          rw [C04.capture_succ hnx] at hcap
          simp only [C04.eflatten_seq_length] at hn ⊢
          cases hcs : captureSeq f c' [] [Ev.seqStart a tag rt l] with
          | err e c'' => simp only [hcs] at hcap; cases hcap
          | ok r c'' =>
            simp only [hcs] at hcap
            cases hcap
            have := ihL items el (j + 1) rest c' [] _ r _ (drop_succ_of_drop_eq_cons hd) (by omega) hw' hcs
            rwa [show j + 1 + (eflattenL items).length + 1 = j + ((eflattenL items).length + 2) by omega] at this
        | map a l el es =>
          simp only [eflatten, List.cons_append, List.append_assoc, List.nil_append] at hd
          obtain ⟨rfl, hw'⟩ := hW.next_at hw (by omega) hd hnx
          rw [C04.capture_succ hnx] at hcap
          simp only [C04.eflatten_map_length] at hn ⊢
          cases hcs : captureMap f c' [] [Ev.mapStart a l] with
          | err e c'' => simp only [hcs] at hcap; cases hcap
          | ok r c'' =>
            simp only [hcs] at hcap
            cases hcap
            have := ihE es el (j + 1) rest c' [] _ r _ (drop_succ_of_drop_eq_cons hd) (by omega) hw' hcs
            rwa [show j + 1 + (eflattenE es).length + 1 = j + ((eflattenE es).length + 2) by omega] at this
    · intro items el j rest c fps evs r c2 hd hn hw hcap
      cases hpk : c.peek with
      | err e c' => rw [captureSeq_succ, hpk] at hcap; cases hcap
      | ok o c' =>
        cases items with
        | nil =>
          simp only [eflattenL, List.nil_append] at hd
          obtain ⟨rfl, hw'⟩ := hW.peek_at hw (by omega) hd hpk
          rw [C04.captureSeq_end hpk] at hcap
          cases hnx : c'.next with
          | err e c'' => rw [hnx] at hcap; cases hcap
          | ok o2 c'' =>
            rw [hnx] at hcap
            cases hcap
            simpa [eflattenL] using (hW.next_at hw' (by omega) hd hnx).2
        | cons t ts =>
          obtain ⟨e, tl, hfl, hop, -⟩ := eflatten_cons t
          have hd1 : buf.drop j = eflatten t ++ (eflattenL ts ++ .seqEnd el :: rest) := by
            simpa [eflattenL, List.append_assoc] using hd
          obtain ⟨rfl, hw'⟩ := hW.peek_at hw (by omega) (by rw [hd1, hfl]; rfl) hpk
          simp only [C04.eflattenL_cons_length] at hn ⊢
          rw [C04.captureSeq_item hpk hop, csItem] at hcap
          cases hcp : capture f c' with
          | err e c'' => rw [hcp] at hcap; cases hcap
          | ok child c'' =>
            rw [hcp] at hcap
            have h1 := ihN t j _ c' child c'' hd1 (by omega) hw' hcp
            have h2 := ihL ts el (j + (eflatten t).length) rest c'' _ _ r c2
              (drop_add_of_drop_eq_append hd1) (by omega) h1 hcap
            rwa [show j + (eflatten t).length + (eflattenL ts).length + 1 =
              j + ((eflatten t).length + (eflattenL ts).length) + 1 by omega] at h2
    · intro es el j rest c fps evs r c2 hd hn hw hcap
      cases hpk : c.peek with
      | err e c' => rw [captureMap_succ, hpk] at hcap; cases hcap
      | ok o c' =>
        cases es with
        | nil =>
          simp only [eflattenE, List.nil_append] at hd
          obtain ⟨rfl, hw'⟩ := hW.peek_at hw (by omega) hd hpk
          rw [C04.captureMap_end hpk] at hcap
          cases hnx : c'.next with
          | err e c'' => rw [hnx] at hcap; cases hcap
          | ok o2 c'' =>
            rw [hnx] at hcap
            cases hcap
            simpa [eflattenE] using (hW.next_at hw' (by omega) hd hnx).2
        | cons kv ts =>
          obtain ⟨k, v⟩ := kv
          obtain ⟨e, tl, hfl, hop, -⟩ := eflatten_cons k
          have hd1 : buf.drop j = eflatten k ++ (eflatten v ++ (eflattenE ts ++ .mapEnd el :: rest)) := by
            simpa [eflattenE, List.append_assoc] using hd
          obtain ⟨rfl, hw'⟩ := hW.peek_at hw (by omega) (by rw [hd1, hfl]; rfl) hpk
          simp only [C04.eflattenE_cons_length] at hn ⊢
          rw [C04.captureMap_entry hpk hop, cmEntry] at hcap
          cases hcp : capture f c' with
          | err e c'' => rw [hcp] at hcap; cases hcap
          | ok kn c'' =>
            rw [hcp] at hcap
            have h1 := ihN k j _ c' kn c'' hd1 (by omega) hw' hcp
            cases hcv : capture f c'' with
            | err e c3 => simp only [hcv] at hcap; cases hcap
            | ok vn c3 =>
              simp only [hcv] at hcap
              have h2 := ihN v (j + (eflatten k).length) _ c'' vn c3 (drop_add_of_drop_eq_append hd1) (by omega) h1 hcv
              have h3 := ihE ts el (j + (eflatten k).length + (eflatten v).length) rest c3 _ _ r c2
                (drop_add_of_drop_eq_append (drop_add_of_drop_eq_append hd1)) (by omega) h2 hcap
              rwa [show j + (eflatten k).length + (eflatten v).length + (eflattenE ts).length + 1 =
                j + ((eflatten k).length + (eflatten v).length + (eflattenE ts).length) + 1 by omega] at h3

/-- the pump replays the buffer `buf` of anchor `id` for an alias token at `aloc` and stands at position `j`
of it (the look-ahead slot, when filled, holds `buf[j]`, and the frame index is then one ahead) -/
def InFrame (aloc : Loc) (id : Nat) (buf : List Ev) (j : Nat) (c : Cur) : Prop :=
  ∃ p inp fr frs, c = .live p inp ∧ p.inject = fr :: frs ∧ fr.refLoc = aloc ∧ fr.anchorId = id ∧
    lookupAnchor p.anchors id = some buf ∧
    ((p.look = none ∧ fr.idx = j) ∨ (∃ e, p.look = some e ∧ buf[j]? = some e ∧ fr.idx = j + 1))

/-- while the frame is on the stack — also when it is exhausted — the use site is the alias token -/
theorem InFrame.refLoc {aloc : Loc} {id : Nat} {buf : List Ev} {j : Nat} {c : Cur} (h : InFrame aloc id buf j c) :
    c.refLoc = aloc := by
  obtain ⟨p, inp, fr, frs, rfl, hi, hr, -, -, -⟩ := h
  simp [Cur.refLoc, Pump.referenceLocation, hi, hr]

theorem inFrame_win (aloc : Loc) (id : Nat) (buf : List Ev) : Win buf buf.length (InFrame aloc id buf) where
  next := by
    rintro j c ⟨p, inp, fr, frs, rfl, hi, hr, ha, hb, hl⟩ hj o c' hnx
    rcases hl with ⟨hl, hidx⟩ | ⟨e, hl, he, hidx⟩
    · subst hidx
      obtain ⟨s, q, hs, hq1, hq2, hq3, hq4⟩ := serveInject_live_top p fr frs buf (by rw [ha]; exact hb) hj
      simp only [Cur.next, Pump.next, hl, nextImpl, hi, hs] at hnx
      rcases hq4 with rfl | ⟨er, rfl⟩
      · simp only [R.ok.injEq] at hnx
        obtain ⟨rfl, rfl⟩ := hnx
        exact ⟨(List.getElem?_eq_getElem hj).symm, q, inp, _, frs, rfl, hq1, hr, ha, by rw [hq2]; exact hb,
          Or.inl ⟨by rw [hq3]; exact hl, rfl⟩⟩
      · simp at hnx
    · simp only [Cur.next, Pump.next, hl, R.ok.injEq] at hnx
      obtain ⟨rfl, rfl⟩ := hnx
      exact ⟨he.symm, _, inp, fr, frs, rfl, hi, hr, ha, hb, Or.inl ⟨rfl, hidx⟩⟩
  peek := by
    rintro j c ⟨p, inp, fr, frs, rfl, hi, hr, ha, hb, hl⟩ hj o c' hpk
    rcases hl with ⟨hl, hidx⟩ | ⟨e, hl, he, hidx⟩
    · subst hidx
      obtain ⟨s, q, hs, hq1, hq2, hq3, hq4⟩ := serveInject_live_top p fr frs buf (by rw [ha]; exact hb) hj
      simp only [Cur.peek, Pump.peek, hl, nextImpl, hi, hs] at hpk
      rcases hq4 with rfl | ⟨er, rfl⟩
      · simp only [R.ok.injEq] at hpk
        obtain ⟨rfl, rfl⟩ := hpk
        exact ⟨(List.getElem?_eq_getElem hj).symm, _, inp, _, frs, rfl, hq1, hr, ha, by simpa [hq2] using hb,
          Or.inr ⟨_, rfl, List.getElem?_eq_getElem hj, rfl⟩⟩
      · simp at hpk
    · simp only [Cur.peek, Pump.peek, hl, R.ok.injEq] at hpk
      obtain ⟨rfl, rfl⟩ := hpk
      exact ⟨he.symm, _, inp, fr, frs, rfl, hi, hr, ha, hb, Or.inr ⟨e, rfl, he, hidx⟩⟩

/-- a key (or any node) captured while the pump replays the complete node `t` of an alias from its first
event: the capture ends with the exhausted frame still on the stack, so `reference_location()` is still the
alias token -/
theorem capture_alias_refLoc {aloc : Loc} {id : Nat} (t : ENode) {c1 c2 : Cur} {key : KeyNode} {fuel : Nat}
    (h1 : InFrame aloc id (eflatten t) 0 c1) (hcap : capture fuel c1 = .ok key c2) : c2.refLoc = aloc := by
  have := (capture_window (inFrame_win aloc id (eflatten t)) fuel).1 t 0 [] c1 key c2 (by simp) (by simp) h1 hcap
  exact this.refLoc

/-- the look-ahead at an alias token `*x` at `aloc`: `at_alias` answers `true` (the top frame is that of this alias, one
event served) -/
theorem peek_alias (p : Pump) (id : Nat) (aloc : Loc) (rest : List RawItem) (buf : List Ev)
    (ev : Ev) (p' : Pump) (r : List RawItem)
    (hl : p.look = none) (hi : p.inject = [])
    (hrec : p.recStack.any (fun f => f.id == id) = false)
    (hbuf : lookupAnchor p.anchors id = some buf) (hlen : 0 < buf.length)
    (h : Pump.peek p (.ev (.alias id) aloc :: rest) = (.event ev, p', r)) :
    buf[0]? = some ev ∧ (Cur.live p' r).atAlias = true ∧ InFrame aloc id buf 0 (.live p' r) := by
  obtain ⟨k1, k2, k3, k4⟩ := peek_alias_token p id aloc rest buf ev p' r hl hi hrec hbuf hlen h
  exact ⟨k1, by simp [Cur.atAlias, k2], p', r, _, [], rfl, k2, rfl, rfl, by rw [k3]; exact hbuf, Or.inr ⟨ev, k4, k1, rfl⟩⟩

/-- the look-ahead while a buffer is being replayed: `at_alias` answers `false` because the frame index becomes
`fr.idx + 1 ≥ 2` (`hpos` comes from `IdxPos`, `Lemmas/C04_LocInv.lean`) -/
theorem peek_in_frame (p : Pump) (inp : List RawItem) (fr : InjectFrame) (frs : List InjectFrame) (buf : List Ev)
    (ev : Ev) (p' : Pump) (r : List RawItem)
    (hl : p.look = none) (hi : p.inject = fr :: frs)
    (hb : lookupAnchor p.anchors fr.anchorId = some buf) (hidx : fr.idx < buf.length) (hpos : 1 ≤ fr.idx)
    (h : Pump.peek p inp = (.event ev, p', r)) :
    buf[fr.idx]? = some ev ∧ (Cur.live p' r).atAlias = false ∧ (Cur.live p' r).refLoc = fr.refLoc := by
  obtain ⟨k1, k2, -⟩ := peek_frame p inp fr frs buf ev p' r hl hi hb hidx h
  refine ⟨k1, ?_, by simp [Cur.refLoc, Pump.referenceLocation, k2]⟩
  simp only [Cur.atAlias, k2]
  simp; omega

end SaphyrVerif.Lemmas.C04Loc
