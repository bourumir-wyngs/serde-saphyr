import SaphyrVerif.Lemmas.GSim
import Lean.Elab.Tactic
/-!
Proof automation for the guarded simulation of `Lemmas/GSim.lean`: step both cursors of a `GSim.At` hypothesis — the guard is
discharged from the depth index, the three outcomes become three goals —, transport the outcome of a call from the left side
to the right side and record how far the call moved; side goals: related values (`g_side`), equal-if-exact errors and
locations (`g_q`), one-sided failures (`g_brk`).
-/
namespace SaphyrVerif.Lemmas
open SaphyrVerif SaphyrVerif.Scalars SaphyrVerif.Pump SaphyrVerif.De
open SaphyrVerif.Lemmas.C05 (Ev.delta)

open Lean Elab Tactic Meta in
/-- the newest hypothesis of the form `f … = R.ok …` / `f … = R.err …`: the head symbol of `f …`, whether
it is a success, and the hypothesis as a term -/
def newestCallEq (depth : Nat := 6) : TacticM (Option (Name × Bool × Term)) := withMainContext do
  let decls := (← getLCtx).decls.toList.reverse.filterMap id
  for ldecl in decls.take depth do
    if ldecl.isImplementationDetail then continue
    let ty ← instantiateMVars ldecl.type
    if let some (_, lhs, rhs) := ty.eq? then
      let isOk := rhs.isAppOf ``SaphyrVerif.De.R.ok
      let isErr := rhs.isAppOf ``SaphyrVerif.De.R.err
      if isOk || isErr then
        if let .const n _ := lhs.getAppFn then
          let h ← Term.exprToSyntax ldecl.toExpr
          return some (n, isOk, h)
  return none

/-- numeric side goals about depth indices -/
macro "g_arith" : tactic => `(tactic| first | assumption | omega)

/-- the cursors are related: a fact `X.S c c'`, or an `At` fact about them -/
macro "g_rel" : tactic => `(tactic| first | assumption | exact GSim.At.s (by assumption))

/-- the cursors returned with a common failure are related -/
macro "g_rele" : tactic => `(tactic| first | assumption | exact GSim.se _ (by g_rel))

/-- the guard `X.In c`: known, or from the depth index of `hs : X.At k c c'`, or because there is no frame -/
syntax "g_inside " term : tactic
macro_rules
  | `(tactic| g_inside $hs) =>
    `(tactic| first
      | assumption
      | exact GSim.At.inside $hs (by g_arith)
      | exact GSim.In.of_off (by first | assumption | exact id) _)

/-- equal, if the comparison is exact: errors and the locations they are built from -/
syntax "g_q" : tactic
macro_rules
  | `(tactic| g_q) =>
    `(tactic| with_reducible first
      | assumption
      | exact GSim.Q.refl _
      | exact GSim.At.refLoc (by assumption)
      | exact GSim.At.lastLoc (by assumption)
      | exact GSim.At.eofErr (by assumption)
      | exact GSim.At.atAlias (by assumption)
      | exact GSim.At.tagUseSite (by assumption) _
      | (apply GSim.Q.ite <;> g_q)
      | (apply GSim.Q.attach <;> g_q)
      | (apply GSim.Q.derr; g_q))

/-- relations between lists of pending entries (side goals); `gpl_leaf`: a relation obtained from the induction hypothesis -/
syntax "gpl_tac" : tactic
syntax "gpl_leaf" : tactic
macro_rules
  | `(tactic| gpl_leaf) => `(tactic| fail "gpl_leaf")
macro_rules
  | `(tactic| gpl_tac) => `(tactic| with_reducible first
    | assumption
    | (apply GSim.PL.append <;> gpl_tac)
    | (apply GSim.PL.cons _ _ (by g_q); gpl_tac)
    | (apply GSim.PLL.cons <;> gpl_tac)
    | (apply GSim.PLL.append <;> gpl_tac)
    | (apply GSim.PLL.foldl_pre <;> gpl_tac)
    | (apply GSim.PLL.foldl_post <;> gpl_tac)
    | exact GSim.PL.refl _
    | exact GSim.PLL.refl _
    | gpl_leaf)

/-- map-access states -/
macro "gmrel_tac" : tactic =>
  `(tactic| first
    | assumption
    | exact GSim.MRel.refl _
    | (refine GSim.MRel.mk' ?_ ?_ ?_ <;> first | gpl_tac | exact GSim.PV.mk _ (by g_q))
    | (simp only [GSim.MRel, GSim.PL, GSim.PLL, GSim.PV, GSim.Rel, GSim.Q, Relx, Qx, CurSim.MRel, CurSim.er,
         CurSim.MAe.mk.injEq, CurSim.PL, CurSim.PLL] at *
       exact ⟨by simp [*, CurSim.kv], fun hx => by simp [*]⟩))

/-- side goals of tail calls and of successful leaves: related values -/
macro "g_side" : tactic =>
  `(tactic| first
    | assumption
    | exact GSim.Rel.rfl
    | gpl_tac
    | (refine GSim.KM.mk ?_; gmrel_tac)
    | (refine GSim.VM.mk ?_; gmrel_tac)
    | gmrel_tac)

/-- the left side has been reduced to an error that it reports alone (a run on a private replay buffer never does) -/
macro "g_brk" : tactic =>
  `(tactic| with_reducible first
    | exact RG.brk (by assumption)
    | exact RG.brk (GSim.br_attach _ _ _ (by assumption))
    | exact (‹GSim.Br (GSim.sim _) _ _›).elim)

open Lean Elab Tactic Meta in
/-- inside a frame the event under the cursor is a function of the cursor: after an event was taken from a cursor that an older
fact `X.Shows c o` is about, the depth index of the newest `At` fact (`hat`) is the one for `o` -/
elab "g_same" : tactic => withMainContext do
  let decls := (← getLCtx).decls.toList.reverse.filterMap id
  let mut newest : Option (LocalDecl × Expr) := none
  let mut hat : Option LocalDecl := none
  for ldecl in decls do
    if ldecl.isImplementationDetail then continue
    let ty ← instantiateMVars ldecl.type
    if hat.isNone && ty.isAppOfArity ``GSim.At 4 then hat := some ldecl
    if ty.isAppOfArity ``GSim.Shows 3 then
      let cur := ty.getArg! 1
      match newest with
      | none => newest := some (ldecl, cur)
      | some (nd, ncur) =>
        if cur == ncur then
          let some hd := hat | throwError "g_same: no depth fact"
          let hN ← Term.exprToSyntax nd.toExpr
          let hO ← Term.exprToSyntax ldecl.toExpr
          let hA ← Term.exprToSyntax hd.toExpr
          evalTactic (← `(tactic| (
            have hat := GSim.At.reidx $hA $hO $hN
            simp only [odelta, Ev.delta, Int.add_zero] at hat)))
          return
  throwError "g_same: nothing to identify"

open Lean Elab Tactic Meta in
/-- advance the cursors of a `GSim.At` hypothesis whose `next` / `peek` occurs in the goal (on both sides).  Common success:
both calls are rewritten; then, if some `match` on the call distinguishes the delivered event, the event kinds are distinguished
so that both sides take the same branch.  Common failure: both calls are rewritten.  One-sided failure: the left call is. -/
elab "g_step" : tactic => withMainContext do
  let tgt ← instantiateMVars (← getMainTarget)
  let env ← getEnv
  -- newest hypotheses first
  let decls := (← getLCtx).decls.toList.reverse.filterMap id
  for ldecl in decls do
    if ldecl.isImplementationDetail then continue
    let ty ← instantiateMVars ldecl.type
    if ty.isAppOfArity ``GSim.At 4 then
      let c := ty.getArg! 2
      let c' := ty.getArg! 3
      for (op, isNext) in [(``SaphyrVerif.De.Cur.next, true), (``SaphyrVerif.De.Cur.peek, false)] do
        let t := mkApp (mkConst op) c
        let t' := mkApp (mkConst op) c'
        if (tgt.find? (· == t)).isSome && (tgt.find? (· == t')).isSome then
          -- `inspected`: some `match` on this call has an alternative for a particular event (`altNumParams != #[2, 2]`
          -- excludes the matches whose only alternatives are `.err e c` and `.ok x c`, two variables each); `direct`: the
          -- call is the discriminant of some `match` at all.  A call that no `match` looks at directly is split as well.
          let inspected := (tgt.find? fun e =>
            match e.getAppFn with
            | .const n _ =>
              match Lean.Meta.getMatcherInfoCore? env n with
              | some info =>
                let args := e.getAppArgs
                let pos := info.getFirstDiscrPos
                pos < args.size && args[pos]! == t && info.altNumParams != #[2, 2]
              | none => false
            | _ => false).isSome
          let direct := (tgt.find? fun e =>
            match e.getAppFn with
            | .const n _ =>
              match Lean.Meta.getMatcherInfoCore? env n with
              | some info =>
                let args := e.getAppArgs
                let pos := info.getFirstDiscrPos
                pos < args.size && args[pos]! == t
              | none => false
            | _ => false).isSome
          let hstx ← Term.exprToSyntax ldecl.toExpr
          let split := inspected || !direct
          let okTac ←
            if isNext then
              if split then `(tactic| (
                rcases ev with _ | (_ | _ | _ | _ | _) <;> simp only [odelta, Ev.delta, Int.add_zero] at hat))
              else `(tactic| (try g_same))
            else
              if split then `(tactic| (rcases ev with _ | (_ | _ | _ | _ | _))) else `(tactic| skip)
          if isNext then
            evalTactic (← `(tactic| (
              refine GSim.At.next $hstx (by g_inside $hstx) (fun ev _ _ h1 h2 hat _ => ?ok) (fun _ _ _ _ h1 h2 _ _ => ?err)
                (fun _ _ h1 hb => ?brk)
              case' ok => rw [h1, h2]; clear h1 h2; $okTac
              case' err => rw [h1, h2]; clear h1 h2
              case' brk => first | exact False.elim hb | (rw [h1]; clear h1))))
          else
            evalTactic (← `(tactic| (
              refine GSim.At.peek $hstx (by g_inside $hstx) (fun ev _ _ h1 h2 _ _ _ => ?ok) (fun _ _ _ _ h1 h2 _ _ => ?err)
                (fun _ _ h1 hb => ?brk)
              case' ok => rw [h1, h2]; clear h1 h2; $okTac
              case' err => rw [h1, h2]; clear h1 h2
              case' brk => first | exact False.elim hb | (rw [h1]; clear h1))))
          return
  throwError "g_step: no cursor operation to advance"

/-- the errors of a common failure agree: `g_q`; extended in `Lemmas/GSimFam.lean` by the errors of `pendingFromEvents` -/
syntax "g_qe" : tactic
macro_rules
  | `(tactic| g_qe) => `(tactic| g_q)

open Lean Elab Tactic Meta in
/-- the head symbols of the two sides of a goal `RG X rel lhs rhs` / `EG X rel lhs rhs` -/
def goalHeadsG : TacticM (Option (Name × Name)) := withMainContext do
  let tgt := (← instantiateMVars (← getMainTarget)).cleanupAnnotations
  if tgt.isAppOfArity ``RG 5 || tgt.isAppOfArity ``Out 8 || tgt.isAppOfArity ``EG 5 then
    let l := tgt.appFn!.appArg!.cleanupAnnotations
    let r := tgt.appArg!.cleanupAnnotations
    match l.getAppFn, r.getAppFn with
    | .const a _, .const b _ => return some (a, b)
    | _, _ => return none
  return none

open Lean Elab Tactic Meta in
/-- close a leaf: both sides failed alike, both succeeded with related values, or the left side fails alone -/
elab "g_leaf" : tactic => withMainContext do
  let some (a, b) ← goalHeadsG | throwError "g_leaf: not a leaf"
  -- a one-sided failure is only looked for where one has been assumed (a failing attempt is dear)
  let oneSided ← (← getLCtx).anyM fun d => return (← instantiateMVars d.type).isAppOf ``GSim.Br
  if a == ``R.err && b == ``R.err then
    if oneSided then evalTactic (← `(tactic| first | exact RG.err (by g_qe) (by g_rele) | g_brk))
    else evalTactic (← `(tactic| exact RG.err (by g_qe) (by g_rele)))
  else if a == ``Except.error && b == ``Except.error then evalTactic (← `(tactic| exact EG.err (by g_q)))
  else if a == ``R.ok && b == ``R.ok then evalTactic (← `(tactic| exact RG.ok (by g_side) (by g_rel)))
  else if a == ``Except.ok && b == ``Except.ok then evalTactic (← `(tactic| exact EG.ok (by g_side)))
  else if a == ``R.err && oneSided then evalTactic (← `(tactic| g_brk))
  else throwError "g_leaf: not a leaf"

/-- transport a failed call on the left (`h : f … c = .err e d`, produced by `split`) to the right; `prf` is the
simulation fact for that call.  If the failure is one-sided, the goal is closed -/
macro "gfwde " h:term ", " prf:term : tactic =>
  `(tactic| (
    rcases RG.fwd_err $h $prf with ⟨_, _, h2, _, _⟩ | _
    case' inl => rw [h2]; clear h2
    case inr => g_brk))

/-- the same for a successful call (`h : f … c = .ok a d`) that returns the same value on both sides -/
macro "gfwdk_eq " h:term ", " prf:term : tactic =>
  `(tactic| (
    have hx := RG.fwd_ok $h $prf
    obtain ⟨_, _, h2, ⟨hr, _⟩, hS⟩ := hx
    subst hr
    rw [h2]
    clear h2))

/-- … or values related by a relation that is kept as a hypothesis -/
macro "gfwdk_rel " h:term ", " prf:term : tactic =>
  `(tactic| (
    have hx := RG.fwd_ok $h $prf
    obtain ⟨_, _, h2, _, hS⟩ := hx
    rw [h2]
    clear h2))

/-- record how far a successful call moved the left cursor: `hs : X.At k c c'` is the fact the call started from, `w` the
`Stays` fact of `Lemmas/C05_Weak*` (within `j` levels) as a function of the equation `h`; the returned cursors are related by
a fact in the context (left there by `gfwdk_*`) -/
syntax "g_moved " term ", " term ", " term ", " term : tactic
macro_rules
  | `(tactic| g_moved $hs, $h, $j, $w) =>
    `(tactic| (
      have hat := GSim.At.weak (j := $j) $hs (by assumption) (fun _ _ _ hi => by
        have h' := $h
        rw [hi] at h'
        exact $w h')
      try simp only [Int.sub_zero] at hat))

end SaphyrVerif.Lemmas
