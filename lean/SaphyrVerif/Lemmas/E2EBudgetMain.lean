import SaphyrVerif.Lemmas.E2EBudgetRel
import SaphyrVerif.Lemmas.LockStep
/-!
Budgeted cursor against the cursor without its enforcer (relation `BR` of `Lemmas/E2EBudgetRel.lean`): the statement `BA`
for every function of the mutual block of `Model/De.lean` that reads from the cursor, and its proof `bA` — the pass of
`Lemmas/LockStep.lean` with `σ` = `strip`, where what the budgeted side may report alone is a breach.
-/
namespace SaphyrVerif.Lemmas.E2EBudget
open SaphyrVerif SaphyrVerif.Scalars SaphyrVerif.Pump SaphyrVerif.Budget SaphyrVerif.De
open SaphyrVerif.Lemmas.LockStep (XP XR)

/-- the comparison as an instance of the lock-step one: the twin is the stripped cursor, and the budgeted side may fail
alone with a breach (the class `budgetish` is closed under `attachAlias`, which is all the pass needs of it) -/
def BP.toXP (P : BP) : XP where
  σ := strip
  Inv := P.Inv
  ErrI := fun _ => True
  Br := fun e d => P.ab ∧ budgetish e ∧ noSyn d
  σ_lastLoc := strip_lastLoc
  σ_refLoc := strip_refLoc
  σ_atAlias := strip_atAlias
  inv_err := fun _ _ => trivial
  br_attach := fun _ _ ref defined h => ⟨h.1, budgetish_attach h.2.1 ref defined, h.2.2⟩

theorem br_of_xr {P : BP} {α : Type} {x y : R α} (h : XR P.toXP x y) : BR P x y := by
  cases h with
  | ok hi => exact .ok hi
  | err => exact .err
  | brk hb => exact .breach hb.1 hb.2.1 hb.2.2

theorem xr_of_br {P : BP} {α : Type} {x y : R α} (h : BR P x y) : XR P.toXP x y := by
  cases h with
  | ok hi => exact .ok (P := P.toXP) hi
  | err => exact .err (P := P.toXP) trivial
  | breach hab hb hns => exact .brk (P := P.toXP) ⟨hab, hb, hns⟩

theorem Closed.toXP {P : BP} (hcl : Closed P) : LockStep.Closed P.toXP :=
  fun c hi => ⟨xr_of_br (hcl c hi).1, xr_of_br (hcl c hi).2⟩

theorem deserStr_br {P : BP} (hcl : Closed P) (cfg : Cfg) {c : Cur} (hi : P.Inv c) :
    BR P (deserStr cfg c) (deserStr cfg (strip c)) :=
  br_of_xr (LockStep.deserStr_x hcl.toXP cfg hi)

structure BA (P : BP) (fuel : Nat) : Prop where
  capture : ∀ {c}, P.Inv c → BR P (De.capture fuel c) (De.capture fuel (strip c))
  captureSeq : ∀ fps evs {c}, P.Inv c → BR P (De.captureSeq fuel c fps evs) (De.captureSeq fuel (strip c) fps evs)
  captureMap : ∀ fps evs {c}, P.Inv c → BR P (De.captureMap fuel c fps evs) (De.captureMap fuel (strip c) fps evs)
  mergeSeqBatches : ∀ b {c}, P.Inv c → BR P (De.mergeSeqBatches fuel c b) (De.mergeSeqBatches fuel (strip c) b)
  pendingFromLive : ∀ r {c}, P.Inv c → BR P (De.pendingFromLive fuel c r) (De.pendingFromLive fuel (strip c) r)
  collectEntriesFromMap : ∀ r {c}, P.Inv c →
    BR P (De.collectEntriesFromMap fuel c r) (De.collectEntriesFromMap fuel (strip c) r)
  collectLoop : ∀ r f m {c}, P.Inv c → BR P (De.collectLoop fuel c r f m) (De.collectLoop fuel (strip c) r f m)
  skipOneNode : ∀ {c}, P.Inv c → BR P (De.skipOneNode fuel c) (De.skipOneNode fuel (strip c))
  skipDepth : ∀ depth {c}, P.Inv c → BR P (De.skipDepth fuel c depth) (De.skipDepth fuel (strip c) depth)
  deser : ∀ cfg ty ik km {c}, P.Inv c → BR P (De.deser fuel cfg ty ik km c) (De.deser fuel cfg ty ik km (strip c))
  bytesLoop : ∀ cfg acc {c}, P.Inv c → BR P (De.bytesLoop fuel cfg c acc) (De.bytesLoop fuel cfg (strip c) acc)
  deserSeqLike : ∀ cfg shape {c}, P.Inv c →
    BR P (De.deserSeqLike fuel cfg shape c) (De.deserSeqLike fuel cfg shape (strip c))
  seqElems : ∀ cfg t acc {c}, P.Inv c → BR P (De.seqElems fuel cfg t c acc) (De.seqElems fuel cfg t (strip c) acc)
  tupleElems : ∀ cfg ts acc {c}, P.Inv c →
    BR P (De.tupleElems fuel cfg ts c acc) (De.tupleElems fuel cfg ts (strip c) acc)
  deserMapLike : ∀ cfg shape {c}, P.Inv c →
    BR P (De.deserMapLike fuel cfg shape c) (De.deserMapLike fuel cfg shape (strip c))
  mapEntries : ∀ cfg kt vt m acc {c}, P.Inv c →
    BR P (De.mapEntries fuel cfg kt vt c m acc) (De.mapEntries fuel cfg kt vt (strip c) m acc)
  structEntries : ∀ cfg fields deny m acc {c}, P.Inv c →
    BR P (De.structEntries fuel cfg fields deny c m acc) (De.structEntries fuel cfg fields deny (strip c) m acc)
  nextKey : ∀ cfg ks m {c}, P.Inv c → BR P (De.nextKey fuel cfg ks c m) (De.nextKey fuel cfg ks (strip c) m)
  nextValue : ∀ cfg vt m {c}, P.Inv c → BR P (De.nextValue fuel cfg vt c m) (De.nextValue fuel cfg vt (strip c) m)
  deserEnum : ∀ cfg name variants {c}, P.Inv c →
    BR P (De.deserEnum fuel cfg name variants c) (De.deserEnum fuel cfg name variants (strip c))
  collectTaggedSeq : ∀ depth acc {c}, P.Inv c →
    BR P (De.collectTaggedSeq fuel c depth acc) (De.collectTaggedSeq fuel (strip c) depth acc)
  variantPayload : ∀ cfg variants vname vloc mapMode tagged {c}, P.Inv c →
    BR P (De.variantPayload fuel cfg variants vname vloc mapMode tagged c)
      (De.variantPayload fuel cfg variants vname vloc mapMode tagged (strip c))

theorem act0_eq1 : ((0 : Nat) == 1) = false := De.act0_eq1
theorem act0_eq2 : ((0 : Nat) == 2) = false := De.act0_eq2

theorem bA {P : BP} (hcl : Closed P) : ∀ fuel, BA P fuel := fun fuel =>
  have h := LockStep.xA hcl.toXP fuel
  { capture := fun hi => br_of_xr (h.capture hi)
    captureSeq := fun fps evs _ hi => br_of_xr (h.captureSeq fps evs hi)
    captureMap := fun fps evs _ hi => br_of_xr (h.captureMap fps evs hi)
    mergeSeqBatches := fun b _ hi => br_of_xr (h.mergeSeqBatches b hi)
    pendingFromLive := fun r _ hi => br_of_xr (h.pendingFromLive r hi)
    collectEntriesFromMap := fun r _ hi => br_of_xr (h.collectEntriesFromMap r hi)
    collectLoop := fun r f m _ hi => br_of_xr (h.collectLoop r f m hi)
    skipOneNode := fun hi => br_of_xr (h.skipOneNode hi)
    skipDepth := fun depth _ hi => br_of_xr (h.skipDepth depth hi)
    deser := fun cfg ty ik km _ hi => br_of_xr (h.deser cfg ty ik km hi)
    bytesLoop := fun cfg acc _ hi => br_of_xr (h.bytesLoop cfg acc hi)
    deserSeqLike := fun cfg shape _ hi => br_of_xr (h.deserSeqLike cfg shape hi)
    seqElems := fun cfg t acc _ hi => br_of_xr (h.seqElems cfg t acc hi)
    tupleElems := fun cfg ts acc _ hi => br_of_xr (h.tupleElems cfg ts acc hi)
    deserMapLike := fun cfg shape _ hi => br_of_xr (h.deserMapLike cfg shape hi)
    mapEntries := fun cfg kt vt m acc _ hi => br_of_xr (h.mapEntries cfg kt vt m acc hi)
    structEntries := fun cfg fields deny m acc _ hi => br_of_xr (h.structEntries cfg fields deny m acc hi)
    nextKey := fun cfg ks m _ hi => br_of_xr (h.nextKey cfg ks m hi)
    nextValue := fun cfg vt m _ hi => br_of_xr (h.nextValue cfg vt m hi)
    deserEnum := fun cfg name variants _ hi => br_of_xr (h.deserEnum cfg name variants hi)
    collectTaggedSeq := fun depth acc _ hi => br_of_xr (h.collectTaggedSeq depth acc hi)
    variantPayload := fun cfg variants vname vloc mapMode tagged _ hi =>
      br_of_xr (h.variantPayload cfg variants vname vloc mapMode tagged hi) }

#print axioms bA

end SaphyrVerif.Lemmas.E2EBudget
