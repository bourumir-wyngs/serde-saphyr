import SaphyrVerif.Lemmas.C17Window
/-!
C17: rows of a text (`takeRows` / `dropRows`: the whole text or `k` complete rows, `takeRows_cases`; one row, `row_split`),
`line_starts`, and the vertical window: `WindowRows` says what `windowRows` yields, `window_cut` how it is cut out of the
text, `window_rows` what it consists of around the row of the location (`window_rows_decomp`: with that row opened).
-/
namespace SaphyrVerif.Lemmas.C17
open SaphyrVerif SaphyrVerif.Snippet
open SaphyrVerif.Spec.Snippet (takeRows dropRows visibleLine shownLines)

@[simp] theorem takeRows_zero (s : List Char) : takeRows 0 s = [] := by cases s <;> rfl
@[simp] theorem dropRows_zero (s : List Char) : dropRows 0 s = s := by cases s <;> rfl
@[simp] theorem takeRows_nil (k : Nat) : takeRows k [] = [] := by cases k <;> rfl
@[simp] theorem dropRows_nil (k : Nat) : dropRows k [] = [] := by cases k <;> rfl

theorem takeRows_succ_cons (k : Nat) (c : Char) (cs : List Char) :
    takeRows (k + 1) (c :: cs) = if c = '\n' then c :: takeRows k cs else c :: takeRows (k + 1) cs := rfl
theorem dropRows_succ_cons (k : Nat) (c : Char) (cs : List Char) :
    dropRows (k + 1) (c :: cs) = if c = '\n' then dropRows k cs else dropRows (k + 1) cs := rfl

theorem takeRows_append_dropRows (k : Nat) (s : List Char) : takeRows k s ++ dropRows k s = s := by
  induction s generalizing k with
  | nil => simp
  | cons c cs ih =>
    cases k with
    | zero => simp
    | succ k =>
      unfold takeRows dropRows
      by_cases hc : c = '\n'
      · rw [if_pos hc, if_pos hc, List.cons_append, ih]
      · rw [if_neg hc, if_neg hc, List.cons_append, ih]

/-- the rows taken are what the rows dropped leave: an equation for `dropRows` gives the one for `takeRows` -/
theorem takeRows_eq {k : Nat} {s a : List Char} (h : a ++ dropRows k s = s) : takeRows k s = a :=
  List.append_cancel_right ((takeRows_append_dropRows k s).trans h.symm)

theorem dropRows_add (i j : Nat) (s : List Char) : dropRows (i + j) s = dropRows j (dropRows i s) := by
  induction s generalizing i with
  | nil => simp
  | cons c cs ih =>
    cases i with
    | zero => simp
    | succ i =>
      have e : i + 1 + j = (i + j) + 1 := by omega
      rw [e, dropRows_succ_cons, dropRows_succ_cons]
      by_cases hc : c = '\n'
      · rw [if_pos hc, if_pos hc, ih]
      · rw [if_neg hc, if_neg hc]
        have := ih (i + 1)
        rw [e] at this
        exact this

theorem takeRows_add (i j : Nat) (s : List Char) :
    takeRows (i + j) s = takeRows i s ++ takeRows j (dropRows i s) :=
  takeRows_eq (by rw [dropRows_add, List.append_assoc, takeRows_append_dropRows, takeRows_append_dropRows])

theorem takeRows_cases (k : Nat) (s : List Char) :
    (s.count '\n' < k ∧ takeRows k s = s ∧ dropRows k s = []) ∨
    (k ≤ s.count '\n' ∧ (takeRows k s).count '\n' = k ∧ (dropRows k s).count '\n' = s.count '\n' - k ∧
      (k = 0 ∨ (takeRows k s).getLast? = some '\n')) := by
  induction s generalizing k with
  | nil => cases k <;> simp
  | cons c cs ih =>
    cases k with
    | zero => right; simp
    | succ k =>
      rw [takeRows_succ_cons, dropRows_succ_cons, count_nl_cons]
      by_cases hc : c = '\n'
      · simp only [if_pos hc]
        rcases ih k with ⟨h1, h2, h3⟩ | ⟨h1, h2, h3, h4⟩
        · exact .inl ⟨by omega, by rw [h2], h3⟩
        · refine .inr ⟨by omega, by rw [count_nl_cons, if_pos hc, h2], by rw [h3]; omega, .inr ?_⟩
          rcases h4 with rfl | h4
          · simp [hc]
          · rw [List.getLast?_cons, h4]; rfl
      · simp only [if_neg hc]
        rcases ih (k + 1) with ⟨h1, h2, h3⟩ | ⟨h1, h2, h3, h4⟩
        · exact .inl ⟨by omega, by rw [h2], h3⟩
        · refine .inr ⟨by omega, by rw [count_nl_cons, if_neg hc, h2], by rw [h3]; omega, .inr ?_⟩
          rw [List.getLast?_cons, h4.resolve_left (by omega)]; rfl

theorem takeRows_all (k : Nat) (s : List Char) (h : s.count '\n' < k) : takeRows k s = s := by
  rcases takeRows_cases k s with h1 | h1
  · exact h1.2.1
  · omega

theorem count_takeRows_le (k : Nat) (s : List Char) : (takeRows k s).count '\n' ≤ k := by
  rcases takeRows_cases k s with h1 | h1
  · rw [h1.2.1]; omega
  · omega

theorem count_takeRows_eq (k : Nat) (s : List Char) (h : k ≤ s.count '\n') : (takeRows k s).count '\n' = k := by
  rcases takeRows_cases k s with h1 | h1
  · omega
  · exact h1.2.1

theorem count_dropRows (k : Nat) (s : List Char) : (dropRows k s).count '\n' = s.count '\n' - k := by
  rcases takeRows_cases k s with h1 | h1
  · rw [h1.2.2]; simp; omega
  · exact h1.2.2.1

theorem takeRows_full_ends (k : Nat) (s : List Char) (hk : 0 < k) (h : (takeRows k s).count '\n' = k) :
    (takeRows k s).getLast? = some '\n' := by
  rcases takeRows_cases k s with h1 | h1
  · rw [h1.2.1] at h; omega
  · exact h1.2.2.2.resolve_left (by omega)

theorem takeRows_ends (k : Nat) (s : List Char) (h : k ≤ s.count '\n') :
    takeRows k s = [] ∨ (takeRows k s).getLast? = some '\n' := by
  rcases takeRows_cases k s with h1 | h1
  · omega
  · exact h1.2.2.2.imp (fun h0 => by rw [h0]; simp) id

theorem dropRows_row (k : Nat) (body Z : List Char) (hn : '\n' ∉ body) :
    dropRows (k + 1) (body ++ '\n' :: Z) = dropRows k Z := by
  induction body with
  | nil => rw [List.nil_append, dropRows_succ_cons, if_pos rfl]
  | cons c cs ih =>
    rw [List.cons_append, dropRows_succ_cons, if_neg (fun h0 => hn (by rw [h0]; exact List.mem_cons_self ..)),
      ih (fun hm => hn (List.mem_cons_of_mem _ hm))]

theorem takeRows_row (k : Nat) (body Z : List Char) (hn : '\n' ∉ body) :
    takeRows (k + 1) (body ++ '\n' :: Z) = body ++ '\n' :: takeRows k Z :=
  takeRows_eq (by rw [dropRows_row k body Z hn, List.append_assoc, List.cons_append, takeRows_append_dropRows])

theorem stripNl_append_nl (body : List Char) : Spec.Snippet.stripNl (body ++ ['\n']) = body := by
  unfold Spec.Snippet.stripNl
  rw [if_pos (by simp)]
  simp

theorem stripNl_of_not_mem (s : List Char) (h : '\n' ∉ s) : Spec.Snippet.stripNl s = s := by
  unfold Spec.Snippet.stripNl
  rw [if_neg]
  intro hl
  exact h (List.mem_of_getLast? hl)

theorem stripNl_takeRows_one (body T : List Char) (hn : '\n' ∉ body) (hT : T = [] ∨ ∃ post, T = '\n' :: post) :
    Spec.Snippet.stripNl (takeRows 1 (body ++ T)) = body := by
  rcases hT with rfl | ⟨post, rfl⟩
  · rw [List.append_nil, takeRows_all 1 body (by rw [count_nl_zero_of_not_mem _ hn]; omega), stripNl_of_not_mem _ hn]
  · rw [takeRows_row 0 body post hn, takeRows_zero, stripNl_append_nl]

theorem row_split (text : List Char) (row : Nat) (h1 : 1 ≤ row) :
    ∃ body T, dropRows (row - 1) text = body ++ T ∧ '\n' ∉ body ∧ visibleLine text row = stripCR body ∧
      ((T = [] ∧ text.count '\n' < row) ∨
       (T = '\n' :: dropRows row text ∧ row ≤ text.count '\n' ∧
          takeRows row text = takeRows (row - 1) text ++ body ++ ['\n'])) := by
  obtain ⟨body, T, e, hn, hT⟩ := split_first_line (dropRows (row - 1) text)
  have hcd := count_dropRows (row - 1) text
  have hrow : row = (row - 1) + 1 := by omega
  refine ⟨body, T, e, hn, ?_, ?_⟩
  · unfold visibleLine Spec.Snippet.row
    rw [e, stripNl_takeRows_one body T hn hT]; rfl
  · rcases hT with rfl | ⟨post, rfl⟩
    · rw [e, List.append_nil, count_nl_zero_of_not_mem _ hn] at hcd
      exact .inl ⟨rfl, by omega⟩
    · rw [e, List.count_append, List.count_cons_self] at hcd
      have hd : dropRows row text = post := by
        rw [hrow, dropRows_add, e, dropRows_row 0 body post hn, dropRows_zero]
      refine .inr ⟨by rw [hd], by omega, ?_⟩
      conv => lhs; rw [hrow, takeRows_add, e, takeRows_row 0 body post hn, takeRows_zero]
      rw [List.append_assoc]

theorem shownLines_last (pre : List Char) (hn : '\n' ∉ pre) (hne : pre ≠ []) : shownLines pre = 1 := by
  unfold shownLines
  rw [count_nl_zero_of_not_mem _ hn, if_neg (fun h => h.elim hne (fun hl => hn (List.mem_of_getLast? hl)))]

theorem shownLines_row (pre post : List Char) (hn : '\n' ∉ pre) :
    shownLines (pre ++ '\n' :: post) = shownLines post + 1 := by
  unfold shownLines
  rw [List.count_append, List.count_cons_self, count_nl_zero_of_not_mem _ hn]
  by_cases hpost : post = []
  · subst hpost; simp
  · rw [getLast?_append_cons_of_ne_nil _ _ _ hpost]
    by_cases hl : post.getLast? = some '\n'
    · rw [if_pos (.inr hl), if_pos (.inr hl)]; omega
    · rw [if_neg (by simp [hl]), if_neg (by simp [hl, hpost])]; omega

theorem shownLines_complete (s : List Char) (h : s = [] ∨ s.getLast? = some '\n') : shownLines s = s.count '\n' := by
  unfold shownLines
  rw [if_pos h]; rfl

theorem lineStartsFrom_length (off : Nat) (s : List Char) : (lineStartsFrom off s).length = s.count '\n' := by
  induction s generalizing off with
  | nil => rfl
  | cons c cs ih =>
    unfold lineStartsFrom
    rw [count_nl_cons]
    by_cases hc : c = '\n'
    · rw [if_pos hc, if_pos hc, List.length_cons, ih]
    · rw [if_neg hc, if_neg hc, ih]; rfl

theorem lineStartsFrom_get (off : Nat) (s : List Char) (k : Nat) (hk : k < s.count '\n') :
    (lineStartsFrom off s)[k]? = some (off + blen (takeRows (k + 1) s)) := by
  induction s generalizing off k with
  | nil => simp at hk
  | cons c cs ih =>
    rw [count_nl_cons] at hk
    unfold lineStartsFrom takeRows
    by_cases hc : c = '\n'
    · rw [if_pos hc] at hk ⊢
      rw [if_pos hc]
      have h1 : utf8LenChar c = 1 := by rw [hc]; decide
      cases k with
      | zero => simp [blen_cons, h1]
      | succ k =>
        rw [List.getElem?_cons_succ, ih (off + 1) k (by omega), blen_cons, h1]
        congr 1; omega
    · rw [if_neg hc] at hk ⊢
      rw [if_neg hc, ih _ k (by omega), blen_cons]
      congr 1; omega

theorem lineStarts_of_ne_nil (s : List Char) (hs : s ≠ []) : lineStarts s = 0 :: lineStartsFrom 0 s := by
  cases s with
  | nil => exact absurd rfl hs
  | cons c cs => rfl

theorem lineStarts_length (s : List Char) (hs : s ≠ []) : (lineStarts s).length = s.count '\n' + 1 := by
  rw [lineStarts_of_ne_nil s hs, List.length_cons, lineStartsFrom_length]

theorem lineStarts_nil_iff (s : List Char) : (lineStarts s).isEmpty = true ↔ s = [] := by
  unfold lineStarts
  cases s <;> simp

theorem lineStarts_get (s : List Char) (hs : s ≠ []) (k : Nat) (hk : k ≤ s.count '\n') :
    (lineStarts s)[k]? = some (blen (takeRows k s)) := by
  rw [lineStarts_of_ne_nil s hs]
  cases k with
  | zero => simp
  | succ k =>
    rw [List.getElem?_cons_succ, lineStartsFrom_get 0 s k (by omega)]
    simp

theorem idx_lineStarts (s : List Char) (hs : s ≠ []) (k : Nat) (hk : k ≤ s.count '\n') (site : String) :
    idx (lineStarts s) k site = .ok (blen (takeRows k s)) := by
  unfold idx
  rw [lineStarts_get s hs k hk]

/-- `ws..=we` is the vertical window around row `rel` of a text of `total` rows, as `windowRows` computes it: it contains
the row, has at most `ctxLines` rows either side of it, starts before it unless it is the first row, and ends
`ctxLines` rows after it or at the last row -/
structure WindowRows (rel total ws we : Nat) : Prop where
  ws_pos : 1 ≤ ws
  ws_le : ws ≤ rel
  le_we : rel ≤ we
  we_le : we ≤ total
  height : we - ws ≤ 2 * ctxLines
  before : rel = 1 ∨ ws < rel
  we_eq : we = min (satAdd rel ctxLines) total

theorem windowRows_ok (row total : Nat) (h1 : 1 ≤ row) (h2 : row ≤ total) (hr : row ≤ usizeMax) :
    WindowRows row total (windowRows row total).1 (windowRows row total).2 := by
  have h3 := satAdd_ge_left row ctxLines hr
  have h4 := satAdd_le row ctxLines
  have h5 : ctxLines = 2 := rfl
  have h : 1 ≤ (windowRows row total).1 ∧ (windowRows row total).1 ≤ row ∧ row ≤ (windowRows row total).2 ∧
      (windowRows row total).2 ≤ total ∧ (windowRows row total).2 - (windowRows row total).1 ≤ 2 * ctxLines ∧
      (row = 1 ∨ (windowRows row total).1 < row) := by
    unfold windowRows
    simp only []
    omega
  exact ⟨h.1, h.2.1, h.2.2.1, h.2.2.2.1, h.2.2.2.2.1, h.2.2.2.2.2, rfl⟩

/-- a row relative to a fragment that starts at line `m.getD 1` -/
theorem relativeRow_eq (m : Mapping) (line rel : Nat) (h : relativeRow m line = some rel)
    (hl : line + 1 ≤ usizeMax) : rel + m.getD 1 = line + 1 := by
  cases m with
  | none => simp only [relativeRow, Option.some.injEq] at h; simp only [Option.getD_none]; omega
  | some s =>
    simp only [relativeRow] at h
    by_cases hlt : line < s
    · rw [if_pos hlt] at h; cases h
    · rw [if_neg hlt, satAdd_eq _ _ (by omega), Option.some.injEq] at h
      simp only [Option.getD_some]; omega

theorem absoluteRow_eq (m : Mapping) (ws : Nat) (h : m.getD 1 + ws ≤ usizeMax) :
    absoluteRow m ws = m.getD 1 + ws - 1 := by
  cases m with
  | none => simp only [absoluteRow, Option.getD_none]; omega
  | some s =>
    simp only [Option.getD_some] at h
    simp only [absoluteRow, Option.getD_some, satAdd_eq _ _ h]

/-- the line numbers of the window `ws..=we` around row `rel` of a text with `cnt + 1 ≤ len + 1` rows, when nothing
saturates: the window ends `ctxLines` rows after `rel` or at the last row, its display rows are consecutive, row
`rel` carries the location's line number, and the last display row is also `line + ctxLines` clipped to the text -/
theorem window_line_numbers (m : Mapping) (line rel ws we cnt len : Nat) (hrel : relativeRow m line = some rel)
    (W : WindowRows rel (cnt + 1) ws we) (hcl : cnt ≤ len) (hline : line + len + ctxLines + 2 ≤ usizeMax) :
    we = min (rel + ctxLines) (cnt + 1) ∧ absoluteRow m ws + (rel - ws) = line ∧
    absoluteRow m we = absoluteRow m ws + (we - ws) ∧
    min (satAdd line ctxLines) (satAdd (m.getD 1) cnt) = absoluteRow m we := by
  obtain ⟨h1, h2, h3, hle, -, -, hwe⟩ := W
  have hctx : ctxLines = 2 := rfl
  have hrow := relativeRow_eq m line rel hrel (by omega)
  -- nothing saturates
  have hb : rel + ctxLines ≤ usizeMax ∧ m.getD 1 + ws ≤ usizeMax ∧ m.getD 1 + we ≤ usizeMax ∧
      line + ctxLines ≤ usizeMax ∧ m.getD 1 + cnt ≤ usizeMax := by omega
  rw [satAdd_eq rel ctxLines hb.1] at hwe
  rw [absoluteRow_eq m ws hb.2.1, absoluteRow_eq m we hb.2.2.1, satAdd_eq line ctxLines hb.2.2.2.1,
    satAdd_eq (m.getD 1) cnt hb.2.2.2.2]
  omega

theorem window_slice (text : List Char) (ht : text ≠ []) (ws we : Nat) (h1 : 1 ≤ ws) (h2 : ws ≤ we)
    (h3 : we ≤ text.count '\n' + 1) (site site2 : String) :
    windowBytes text (lineStarts text) ws we site =
        .ok (blen (takeRows (ws - 1) text), blen (takeRows we text)) ∧
    slice text (blen (takeRows (ws - 1) text)) (blen (takeRows we text)) site2 =
        .ok (takeRows (we - (ws - 1)) (dropRows (ws - 1) text)) := by
  constructor
  · unfold windowBytes subOne
    rw [if_neg (by omega)]
    simp only [res_bind_ok]
    rw [idx_lineStarts text ht (ws - 1) (by omega)]
    simp only [res_bind_ok]
    rw [lineStarts_length text ht]
    by_cases hlt : we < text.count '\n' + 1
    · rw [if_pos hlt, idx_lineStarts text ht we (by omega)]
      rfl
    · rw [if_neg hlt, takeRows_all we text (by omega)]
      rfl
  · have e1 : takeRows we text = takeRows (ws - 1) text ++ takeRows (we - (ws - 1)) (dropRows (ws - 1) text) := by
      have : we = (ws - 1) + (we - (ws - 1)) := by omega
      conv => lhs; rw [this]
      rw [takeRows_add]
    have e2 : text = takeRows (ws - 1) text ++ takeRows (we - (ws - 1)) (dropRows (ws - 1) text) ++ dropRows we text := by
      rw [← e1, takeRows_append_dropRows]
    exact slice_eq e2 rfl (by rw [e1, blen_append]) site2

/-- the window `ws..=we` around row `rel`: `rel − ws` complete rows, row `rel`, the rows after it -/
theorem window_rows (text : List Char) (ws we rel : Nat) (W : WindowRows rel (text.count '\n' + 1) ws we) :
    ∃ R, takeRows (we - (ws - 1)) (dropRows (ws - 1) text) =
        R ++ Spec.Snippet.row text rel ++ takeRows (we - rel) (dropRows rel text) ∧
      R.count '\n' = rel - ws ∧ (R = [] ∨ R.getLast? = some '\n') ∧
      takeRows (rel - 1) text = takeRows (ws - 1) text ++ R := by
  obtain ⟨h1, h2, h3, h4, -, -, -⟩ := W
  have e1 : we - (ws - 1) = (rel - ws) + (1 + (we - rel)) := by omega
  have e2 : ws - 1 + (rel - ws) = rel - 1 := by omega
  have e3 : rel - 1 + 1 = rel := by omega
  have hR : rel - ws ≤ (dropRows (ws - 1) text).count '\n' := by rw [count_dropRows]; omega
  refine ⟨_, ?_, count_takeRows_eq _ _ hR, takeRows_ends _ _ hR, by rw [← e2, takeRows_add]⟩
  rw [e1, takeRows_add, takeRows_add, ← dropRows_add, ← dropRows_add, List.append_assoc, e2, e3]
  rfl

theorem window_ne_nil (T : List Char) (hT : T ≠ []) (ws we rel : Nat) (W : WindowRows rel (T.count '\n' + 1) ws we) :
    takeRows (we - (ws - 1)) (dropRows (ws - 1) T) ≠ [] := by
  obtain ⟨R, hw, hc, -, -⟩ := window_rows T ws we rel W
  rw [hw]
  intro h0
  obtain ⟨hR, hrow⟩ := List.append_eq_nil_iff.mp (List.append_eq_nil_iff.mp h0).1
  rcases W.before with hb | hb
  · -- the first row of a text that is not empty is not empty
    obtain ⟨c, cs, rfl⟩ := List.exists_cons_of_ne_nil hT
    rw [hb, Spec.Snippet.row, Nat.sub_self, dropRows_zero, takeRows_succ_cons] at hrow
    split at hrow <;> cases hrow
  · rw [hR] at hc
    simp at hc
    omega

theorem window_rows_decomp (text : List Char) (ws we rel : Nat) (W : WindowRows rel (text.count '\n' + 1) ws we) :
    ∃ R body T, takeRows (we - (ws - 1)) (dropRows (ws - 1) text) = R ++ (body ++ T) ∧
      R.count '\n' = rel - ws ∧ (R = [] ∨ R.getLast? = some '\n') ∧ '\n' ∉ body ∧
      (T = [] ∨ ∃ post, T = '\n' :: post) ∧ visibleLine text rel = stripCR body ∧
      takeRows (rel - 1) text = takeRows (ws - 1) text ++ R := by
  -- a row without line break is the last row of the text, and of the window
  have hlast : text.count '\n' < rel → we - rel = 0 := by have := W.le_we; have := W.we_le; omega
  obtain ⟨R, hw, hc, hl, hpre⟩ := window_rows text ws we rel W
  obtain ⟨body, T0, hd, hnb, hvis, hT⟩ := row_split text rel (Nat.le_trans W.ws_pos W.ws_le)
  rw [Spec.Snippet.row, hd, List.append_assoc] at hw
  rcases hT with ⟨rfl, hlt⟩ | ⟨rfl, -, -⟩
  · refine ⟨R, body, [], ?_, hc, hl, hnb, .inl rfl, hvis, hpre⟩
    rw [hw, hlast hlt, takeRows_zero, List.append_nil,
      takeRows_all 1 _ (by rw [List.append_nil, count_nl_zero_of_not_mem _ hnb]; exact Nat.one_pos)]
  · refine ⟨R, body, '\n' :: takeRows (we - rel) (dropRows rel text), ?_, hc, hl, hnb, .inr ⟨_, rfl⟩, hvis, hpre⟩
    rw [hw, takeRows_row 0 body _ hnb, takeRows_zero, List.append_assoc]
    rfl

/-- both callers of `windowRows` cut the rows of the window out of the text: the byte range from `line_starts`, then the
slice -/
theorem window_cut (text : List Char) (ht : text ≠ []) (rel : Nat) (h1 : 1 ≤ rel) (h2 : rel ≤ text.count '\n' + 1)
    (hr : rel ≤ usizeMax) (site site2 : String) :
    ∃ ws we, windowRows rel (text.count '\n' + 1) = (ws, we) ∧ WindowRows rel (text.count '\n' + 1) ws we ∧
      windowBytes text (lineStarts text) ws we site = .ok (blen (takeRows (ws - 1) text), blen (takeRows we text)) ∧
      slice text (blen (takeRows (ws - 1) text)) (blen (takeRows we text)) site2 =
        .ok (takeRows (we - (ws - 1)) (dropRows (ws - 1) text)) := by
  have W := windowRows_ok rel (text.count '\n' + 1) h1 h2 hr
  obtain ⟨hwb, hsl⟩ := window_slice text ht _ _ W.ws_pos (Nat.le_trans W.ws_le W.le_we) W.we_le site site2
  exact ⟨_, _, rfl, W, hwb, hsl⟩

end SaphyrVerif.Lemmas.C17
