import SaphyrVerif.Lemmas.C12Literal
/-!
Helper lemmas for C12, folded block scalars: `write_folded_block` wraps a line only inside runs of
spaces, in such a way that unfolding (a single line break between two non-indented lines reads as one
space) gives the line back.
-/
namespace SaphyrVerif.Lemmas.C12
open SaphyrVerif SaphyrVerif.SerScalar SaphyrVerif.Spec.Read

/-- unfolding: the segments joined by single spaces -/
def joinSp : List (List Char) → List Char
  | [] => []
  | [x] => x
  | x :: y :: r => x ++ ' ' :: joinSp (y :: r)

/-- the line as the wrapping loop has it: the segments cut off so far, each followed by the space it was cut
at, then the rest of the line -/
def J (E : List (List Char)) (tail : List Char) : List Char := E.flatMap (· ++ [' ']) ++ tail

theorem joinSp_snoc (E : List (List Char)) (tail : List Char) : joinSp (E ++ [tail]) = J E tail := by
  induction E with
  | nil => simp [joinSp, J]
  | cons e E ih =>
    cases E with
    | nil => simp [joinSp, J]
    | cons e2 E2 =>
      have : (e :: e2 :: E2) ++ [tail] = e :: e2 :: (E2 ++ [tail]) := rfl
      rw [this, joinSp]
      have ih' : joinSp (e2 :: (E2 ++ [tail])) = J (e2 :: E2) tail := ih
      rw [ih']
      simp [J]

theorem J_snoc (E : List (List Char)) (e tail : List Char) : J (E ++ [e]) tail = J E (e ++ ' ' :: tail) := by
  simp [J]

theorem blockBody_fold (N : Nat) (hN : 1 ≤ N) (segs : List (List Char))
    (hsegs : ∀ e ∈ segs, e ≠ [] ∧ headSat isBlank e = false) :
    ∀ (first : Bool) (acc : List Char), segs ≠ [] →
      blockBody false N (segs.map (spaces N ++ ·)) first false 0 acc =
        (acc ++ (if first then [] else [' ']) ++ joinSp segs, 0, [], false) := by
  induction segs with
  | nil => intro _ _ h; exact absurd rfl h
  | cons e segs ih =>
    intro first acc _
    obtain ⟨hne, hhb⟩ := hsegs e (by simp)
    rw [List.map_cons, blockBody_indented false N hN, if_neg (by simpa using hne), hhb]
    cases segs with
    | nil => cases first <;> simp [blockBody, joinSp, nls]
    | cons e2 r =>
      rw [ih (fun x hx => hsegs x (by simp [hx])) false _ (by simp)]
      cases first <;> simp [joinSp, nls]

theorem folded_read (N : Nat) (parent : Int) (segs : List (List Char)) (hN : 1 ≤ N) (hne : segs ≠ [])
    (hsegs : ∀ e ∈ segs, e ≠ [] ∧ headSat isBlank e = false) (hp : parent + 1 ≤ (N : Int)) :
    readBlock false parent ['-'] (segs.map (spaces N ++ ·)) = some (joinSp segs, []) := by
  obtain ⟨e, r, rfl⟩ : ∃ e r, segs = e :: r := by
    cases segs with | nil => exact absurd rfl hne | cons e r => exact ⟨e, r, rfl⟩
  obtain ⟨h1, h2⟩ := hsegs e (by simp)
  have hns : firstLineLeadingSpaces.go (e :: r) = 0 := by
    cases e with
    | nil => exact absurd rfl h1
    | cons a b =>
      have : a ≠ ' ' := by intro e; subst e; cases h2
      simp [firstLineLeadingSpaces.go, this]
  have hind := blockIndent_auto N parent (e :: r) [] ⟨e, by simp, h1⟩ hns hp
  rw [List.append_nil] at hind
  rw [readBlock, show parseHeader ['-'] = some (.strip, 0) by decide]
  simp only [firstLineTab_indented N hN _ hne, Bool.false_eq_true, if_false, hind,
    blockBody_fold N hN _ hsegs true [] hne, if_true, List.nil_append, chompTail]

theorem slice?_of_le {L : List Char} {a b : Nat} (hab : a ≤ b) (hb : b ≤ L.length) :
    slice? L a b = some ((L.drop a).take (b - a)) := by
  rw [slice?, if_pos (by simp [hab, hb])]

theorem drop_of_getElem? {α} {L : List α} {a : Nat} {x : α} (h : L[a]? = some x) : L.drop a = x :: L.drop (a + 1) := by
  obtain ⟨hlt, he⟩ := List.getElem?_eq_some_iff.mp h
  rw [List.drop_eq_getElem_cons hlt, he]

theorem drop_spaces_run {L : List Char} (n a : Nat) (h : ∀ k, a ≤ k → k < a + n → L[k]? = some ' ') :
    L.drop a = spaces n ++ L.drop (a + n) := by
  induction n generalizing a with
  | zero => simp [spaces]
  | succ n ih =>
    have h0 := h a (Nat.le_refl _) (by omega)
    rw [drop_of_getElem? h0, ih (a + 1) (fun k hk1 hk2 => h k (by omega) (by omega))]
    simp [spaces, List.replicate_succ]
    congr 1; omega

theorem take_drop_split (L : List Char) (s a : Nat) (h : s ≤ a) :
    L.drop s = (L.drop s).take (a - s) ++ L.drop a := by
  have := List.take_append_drop (a - s) (L.drop s)
  rw [List.drop_drop] at this
  rw [show s + (a - s) = a by omega] at this
  exact this.symm

/-- the part of the invariant that holds in every state -/
structure FoldInv (L indent : List Char) (st : FoldSt) (E : List (List Char)) : Prop where
  np : st.panicked = false
  out_eq : st.out = joinLines (E.map (indent ++ ·))
  join : J E (L.drop st.start) = L
  segs : ∀ e ∈ E, e ≠ [] ∧ e.head? ≠ some ' '
  start_lt : st.start < L.length
  start_ns : L[st.start]? ≠ some ' '

theorem FoldInv.segs_snoc {L indent : List Char} {st : FoldSt} {E : List (List Char)} (hI : FoldInv L indent st E)
    {e : List Char} (he : e.head? = L[st.start]?) : ∀ x ∈ E ++ [e], x ≠ [] ∧ x.head? ≠ some ' ' := by
  intro x hx
  rcases List.mem_append.mp hx with hx | hx
  · exact hI.segs x hx
  · rw [List.mem_singleton.mp hx, he]
    refine ⟨fun h => ?_, hI.start_ns⟩
    rw [h, List.getElem?_eq_getElem hI.start_lt] at he
    cases he

theorem FoldInv.out_snoc {L indent : List Char} {st : FoldSt} {E : List (List Char)} (hI : FoldInv L indent st E)
    (e : List Char) : st.out ++ indent ++ e ++ ['\n'] = joinLines ((E ++ [e]).map (indent ++ ·)) := by
  simp only [hI.out_eq, joinLines, List.map_append, List.flatMap_append, List.map_cons, List.map_nil,
    List.flatMap_cons, List.flatMap_nil, List.append_nil, List.append_assoc]

/-- the part that holds while the scan is still running, after `i` characters -/
structure FoldAct (L : List Char) (i : Nat) (st : FoldSt) : Prop where
  start_le : st.start ≤ i
  last_ok : ∀ a b n, st.last = some (a, b, n) →
    st.start < a ∧ a + n = b ∧ 1 ≤ n ∧ b < i ∧ b < L.length ∧ (∀ k, a ≤ k → k < b → L[k]? = some ' ') ∧ L[b]? ≠ some ' '
  run_ok : st.inRun = true →
    st.start < st.runStart ∧ st.runStart + st.runLen = i ∧ 1 ≤ st.runLen ∧
      (∀ k, st.runStart ≤ k → k < i → L[k]? = some ' ') ∧ (∀ a b n, st.last = some (a, b, n) → b ≤ st.runStart)


theorem getElem?_ne_of_ne {L : List Char} {a b : Nat} (ha : L[a]? = some ' ') (hb : L[b]? ≠ some ' ') : a ≠ b := by
  intro e; subst e; exact hb ha

theorem trackRun_inv (L : List Char) (i : Nat) (ch : Char) (hch : L[i]? = some ch) (st : FoldSt)
    (hns : L[st.start]? ≠ some ' ') (hA : FoldAct L i st) :
    FoldAct L (i + 1) (trackRun st i ch) ∧ (trackRun st i ch).start = st.start ∧ (trackRun st i ch).out = st.out ∧
      (trackRun st i ch).col = st.col ∧ (trackRun st i ch).panicked = st.panicked ∧ (trackRun st i ch).broke = st.broke := by
  have hilt : i < L.length := (List.getElem?_eq_some_iff.mp hch).1
  have hlast : ∀ a b n, st.last = some (a, b, n) → st.start < a ∧ a + n = b ∧ 1 ≤ n ∧ b < i + 1 ∧ b < L.length ∧
      (∀ k, a ≤ k → k < b → L[k]? = some ' ') ∧ L[b]? ≠ some ' ' := fun a b n hl =>
    let ⟨l1, l2, l3, l4, l5, l6, l7⟩ := hA.last_ok a b n hl
    ⟨l1, l2, l3, Nat.lt_succ_of_lt l4, l5, l6, l7⟩
  unfold trackRun
  by_cases hsp : ch = ' '
  · subst hsp
    simp only [bne_self_eq_false, Bool.and_false, Bool.false_eq_true, if_false, beq_self_eq_true, if_true]
    cases hr : st.inRun with
    | true =>
      simp only [Bool.not_true, Bool.false_eq_true, if_false]
      obtain ⟨r1, r2, r3, r4, r5⟩ := hA.run_ok hr
      refine ⟨⟨by have := hA.start_le; simp; omega, hlast, ?_⟩, trivial, trivial, trivial, trivial, trivial⟩
      · intro _
        refine ⟨r1, by simp <;> omega, by simp <;> omega, ?_, r5⟩
        intro k hk1 hk2
        by_cases hki : k = i
        · subst hki; exact hch
        · exact r4 k hk1 (by omega)
    | false =>
      simp only [Bool.not_false, if_true]
      have hsl : st.start < i := by
        have := hA.start_le
        have hne : i ≠ st.start := getElem?_ne_of_ne hch hns
        omega
      refine ⟨⟨by simp <;> omega, hlast, ?_⟩, trivial, trivial, trivial, trivial, trivial⟩
      · intro _
        refine ⟨hsl, rfl, Nat.le_refl _, ?_, ?_⟩
        · intro k hk1 hk2
          have : k = i := by simp at hk1 <;> omega
          subst this; exact hch
        · intro a b n hl
          obtain ⟨_, _, _, l4, _⟩ := hA.last_ok a b n hl
          simp <;> omega
  · have hb : (ch == ' ') = false := by simpa using hsp
    have hbn : (ch != ' ') = true := by simpa using hsp
    simp only [hbn, Bool.and_true, hb, Bool.false_eq_true, if_false]
    cases hr : st.inRun with
    | true =>
      simp only [if_true]
      obtain ⟨r1, r2, r3, r4, r5⟩ := hA.run_ok hr
      refine ⟨⟨by have := hA.start_le; simp; omega, ?_, ?_⟩, trivial, trivial, trivial, trivial, trivial⟩
      · intro a b n hl
        simp only [Option.some.injEq, Prod.mk.injEq] at hl
        obtain ⟨e1, e2, e3⟩ := hl
        subst e1 e2 e3
        refine ⟨r1, r2, r3, by omega, hilt, ?_, ?_⟩
        · intro k hk1 hk2; exact r4 k hk1 hk2
        · rw [hch]; simpa using hsp
      · intro h; simp at h
    | false =>
      simp only [Bool.false_eq_true, if_false]
      refine ⟨⟨by have := hA.start_le; omega, hlast, ?_⟩, trivial, trivial, trivial, trivial, trivial⟩
      · intro h; rw [hr] at h; cases h


theorem breakStep_inv (L indent : List Char) (wrap i : Nat) (st : FoldSt) (E : List (List Char))
    (hI : FoldInv L indent st E) (hA : FoldAct L i st) :
    ∃ E', FoldInv L indent (breakStep L indent wrap st) E' ∧
      ((breakStep L indent wrap st).broke = false → FoldAct L i (breakStep L indent wrap st)) := by
  unfold breakStep
  by_cases hcol : st.col > wrap
  · rw [if_pos hcol]
    cases hl : st.last with
    | none =>
      refine ⟨E, ⟨hI.np, hI.out_eq, hI.join, hI.segs, hI.start_lt, hI.start_ns⟩, ?_⟩
      intro h; simp at h
    | some abn =>
      obtain ⟨a, b, n⟩ := abn
      obtain ⟨l1, l2, l3, l4, l5, l6, l7⟩ := hA.last_ok a b n hl
      simp only [slice?_of_le (Nat.le_of_lt l1) (show a ≤ L.length by omega)]
      generalize hseg : (L.drop st.start).take (a - st.start) = seg
      -- what is left of the line: the segment, the run of spaces it is cut at, and what follows the run
      have hdrop : L.drop st.start = seg ++ (spaces n ++ L.drop b) := by
        rw [← hseg, ← l2, ← drop_spaces_run n a fun k hk1 hk2 => l6 k hk1 (by omega)]
        exact take_drop_split L st.start a (by omega)
      have hhead : (seg ++ spaces (n - 1)).head? = L[st.start]? := by
        rw [← hseg, List.head?_append, List.head?_take, if_neg (by omega), List.head?_drop,
          List.getElem?_eq_getElem hI.start_lt, Option.some_or]
      refine ⟨E ++ [seg ++ spaces (n - 1)], ⟨hI.np, ?_, ?_, hI.segs_snoc hhead, l5, l7⟩, ?_⟩
      · simp only [← hI.out_snoc, List.append_assoc]
      · refine Eq.trans ?_ hI.join
        rw [J_snoc, hdrop, show spaces n = spaces (n - 1) ++ [' '] by
          rw [spaces, spaces, ← List.replicate_succ', Nat.sub_add_cancel l3]]
        simp
      · intro _
        refine ⟨by simp; omega, by intro a' b' n' h; simp at h, ?_⟩
        intro hr
        obtain ⟨r1, r2, r3, r4, r5⟩ := hA.run_ok hr
        have hb_le := r5 a b n hl
        have hrs : L[st.runStart]? = some ' ' := r4 st.runStart (Nat.le_refl _) (by omega)
        have hne : st.runStart ≠ b := getElem?_ne_of_ne hrs l7
        refine ⟨by simp; omega, r2, r3, r4, by intro a' b' n' h; simp at h⟩
  · rw [if_neg hcol]
    exact ⟨E, hI, fun _ => hA⟩

theorem foldStep_inv (L indent : List Char) (wrap i : Nat) (ch : Char) (hch : L[i]? = some ch)
    (st : FoldSt) (E : List (List Char)) (hI : FoldInv L indent st E) (hA : st.broke = false → FoldAct L i st) :
    ∃ E', FoldInv L indent (foldStep L indent wrap st i ch) E' ∧
      ((foldStep L indent wrap st i ch).broke = false → FoldAct L (i + 1) (foldStep L indent wrap st i ch)) := by
  unfold foldStep
  cases hb : st.broke with
  | true =>
    simp only [Bool.true_or, if_true]
    exact ⟨E, hI, fun h => by rw [hb] at h; cases h⟩
  | false =>
    simp only [hI.np, Bool.or_self, Bool.false_eq_true, if_false]
    obtain ⟨hAct, hs, ho, _, hp, hbk⟩ := trackRun_inv L i ch hch st hI.start_ns (hA hb)
    have hI2 : FoldInv L indent { trackRun st i ch with col := (trackRun st i ch).col + 1 } E := by
      refine ⟨by simp [hp, hI.np], by simp [ho, hI.out_eq], by simp [hs, hI.join], hI.segs, by simp [hs, hI.start_lt], by simp [hs, hI.start_ns]⟩
    have hA2 : FoldAct L (i + 1) { trackRun st i ch with col := (trackRun st i ch).col + 1 } :=
      ⟨hAct.start_le, hAct.last_ok, hAct.run_ok⟩
    exact breakStep_inv L indent wrap (i + 1) _ E hI2 hA2


theorem foldLoop_inv (L indent : List Char) (wrap : Nat) :
    ∀ (rest : List Char) (i : Nat) (st : FoldSt) (E : List (List Char)), rest = L.drop i →
      FoldInv L indent st E → (st.broke = false → FoldAct L i st) →
      ∃ E', FoldInv L indent (foldLoop L indent wrap rest i st) E' := by
  intro rest
  induction rest with
  | nil => intro i st E _ hI _; exact ⟨E, hI⟩
  | cons ch rest ih =>
    intro i st E hr hI hA
    have hch : L[i]? = some ch := by
      have h0 : (L.drop i)[0]? = some ch := by rw [← hr]; rfl
      rw [List.getElem?_drop] at h0
      simpa using h0
    have hrest : rest = L.drop (i + 1) := by
      have := drop_of_getElem? hch
      rw [this] at hr
      injection hr with _ h2
    obtain ⟨E', hI', hA'⟩ := foldStep_inv L indent wrap i ch hch st E hI hA
    rw [foldLoop]
    exact ih (i + 1) _ E' hrest hI' hA'

/-- `fold_inverse` (Props/C12) with the segments named -/
theorem foldLine_spec (L indent : List Char) (wrap : Nat) (hne : L ≠ []) (hhead : L.head? ≠ some ' ') :
    ∃ segs, foldLine L indent wrap = .ok (joinLines (segs.map (indent ++ ·))) ∧ joinSp segs = L ∧ segs ≠ [] ∧
      ∀ e ∈ segs, e ≠ [] ∧ e.head? ≠ some ' ' := by
  have hlen : 0 < L.length := by cases L with | nil => exact absurd rfl hne | cons a b => simp
  have h0 : L[0]? ≠ some ' ' := by
    cases L with
    | nil => exact absurd rfl hne
    | cons a b => simpa using hhead
  have hI0 : FoldInv L indent {} [] := by
    refine ⟨rfl, rfl, by simp [J], ?_, hlen, h0⟩
    intro e he; cases he
  have hA0 : ({} : FoldSt).broke = false → FoldAct L 0 {} := by
    intro _
    refine ⟨Nat.le_refl _, ?_, ?_⟩
    · intro a b n h; simp at h
    · intro h; simp at h
  obtain ⟨E, hI⟩ := foldLoop_inv L indent wrap L 0 {} [] (by simp) hI0 hA0
  have hemp : L.isEmpty = false := by cases L with | nil => exact absurd rfl hne | cons a b => rfl
  unfold foldLine
  rw [hemp]
  simp only [Bool.false_eq_true, if_false]
  have hh2 : (L.head? == some ' ') = false := by simpa using hhead
  simp only [hh2, hI.np, Bool.false_eq_true, if_false]
  rw [slice?_of_le (Nat.le_of_lt hI.start_lt) (Nat.le_refl _), List.take_of_length_le (by simp)]
  exact ⟨E ++ [L.drop (foldLoop L indent wrap L 0 {}).start], by rw [← hI.out_snoc], by rw [joinSp_snoc]; exact hI.join,
    by simp, hI.segs_snoc List.head?_drop⟩

end SaphyrVerif.Lemmas.C12
