import SaphyrVerif.Spec.Explicit
import SaphyrVerif.Lemmas.C03_TypedA
/-!
C03 at the level of typed values, writing out and entry lists: writing out the values and the merge sources of a
mapping first and taking the effective entries afterwards gives the effective entries of the original mapping
with their values written out (`effEntries_writeOut`; `writeOut` is the total variant of `explicitTree`: see
`Spec/Explicit.lean`).
-/
namespace SaphyrVerif.Lemmas.C03T
open SaphyrVerif SaphyrVerif.Scalars SaphyrVerif.Pump SaphyrVerif.De SaphyrVerif.Spec
open SaphyrVerif.Lemmas.C04 (keys dropSeen_cons dropSeen_cons_of_mem dropSeen_cons_of_not_mem applyPolicy_firstWins_eq)

def ORel {α β : Type} (R : α → β → Prop) : Option α → Option β → Prop
  | none, none => True
  | some a, some b => R a b
  | _, _ => False

theorem ORel.of_some_right {α β : Type} {R : α → β → Prop} {x : Option α} {b : β} (h : ORel R x (some b)) :
    ∃ a, x = some a ∧ R a b := by
  cases x with
  | none => cases h
  | some a => exact ⟨a, rfl, h⟩

theorem ORel.of_some_left {α β : Type} {R : α → β → Prop} {a : α} {y : Option β} (h : ORel R (some a) y) :
    ∃ b, y = some b ∧ R a b := by
  cases y with
  | none => cases h
  | some b => exact ⟨b, rfl, h⟩

theorem ORel.none_iff {α β : Type} {R : α → β → Prop} {x : Option α} {y : Option β} (h : ORel R x y) :
    x = none ↔ y = none := by
  cases x <;> cases y <;> simp_all [ORel]

theorem ORel.mono {α β : Type} {R S : α → β → Prop} {x : Option α} {y : Option β} (h : ORel R x y)
    (hrs : ∀ a b, R a b → S a b) : ORel S x y := by
  cases x <;> cases y <;> simp_all [ORel]

inductive VRel (dup : DupPolicy) : List (ENode × ENode) → List (ENode × ENode) → Prop
  | nil : VRel dup [] []
  | cons {k v v' : ENode} {es es' : List (ENode × ENode)} :
    writeOut dup v = v' → VRel dup es es' → VRel dup ((k, v) :: es) ((k, v') :: es')

theorem VRel.keys {dup : DupPolicy} {es es' : List (ENode × ENode)} (h : VRel dup es es') : keys es = keys es' := by
  induction h with
  | nil => rfl
  | cons _ _ ih =>
    simp only [List.map_cons]
    exact congrArg _ ih

theorem VRel.append {dup : DupPolicy} {a a' b b' : List (ENode × ENode)} (h1 : VRel dup a a') (h2 : VRel dup b b') :
    VRel dup (a ++ b) (a' ++ b') := by
  induction h1 with
  | nil => exact h2
  | cons hv _ ih => exact VRel.cons hv ih

theorem ORel.map_cons {dup : DupPolicy} {k v v' : ENode} (hv : writeOut dup v = v')
    {x y : Option (List (ENode × ENode))} (h : ORel (VRel dup) x y) :
    ORel (VRel dup) (x.map ((k, v) :: ·)) (y.map ((k, v') :: ·)) := by
  cases x <;> cases y <;> simp only [ORel, Option.map_none, Option.map_some] at h ⊢
  exact VRel.cons hv h

/-- `ORel` passes through the strict combination of two options: the shape of `seqSourceEntries`, of
`mapSourceEntries` at a merge entry and of `C03.effEntries_alt`.  Not stated for arbitrary types: a `match`
over other types is another matcher, and the two do not unify. -/
theorem ORel.both {R S T : List (ENode × ENode) → List (ENode × ENode) → Prop}
    {f f' : List (ENode × ENode) → List (ENode × ENode) → List (ENode × ENode)}
    {x x' y y' : Option (List (ENode × ENode))} (hx : ORel R x x') (hy : ORel S y y')
    (hf : ∀ a a' b b', R a a' → S b b' → T (f a b) (f' a' b')) :
    ORel T (match (generalizing := false) x, y with | some a, some b => some (f a b) | _, _ => none)
      (match (generalizing := false) x', y' with | some a, some b => some (f' a b) | _, _ => none) := by
  cases x <;> cases x' <;> cases y <;> cases y' <;> simp only [ORel] at hx hy ⊢
  exact hf _ _ _ _ hx hy

/-- the duplicate-key policy looks at the keys only -/
theorem applyPolicy_vrel (dup p : DupPolicy) {own own1 : List (ENode × ENode)} (h : VRel dup own own1) :
    ∀ seen, ORel (VRel dup) (applyPolicy p own seen) (applyPolicy p own1 seen) := by
  induction h with
  | nil => intro seen; exact VRel.nil
  | @cons k v v' es es' hv _ ih =>
    intro seen
    have hc := fun s => ORel.map_cons (k := k) hv (ih s)
    cases p with
    | lastWins => simp only [applyPolicy]; exact hc _
    | error =>
      simp only [applyPolicy]
      split
      · trivial
      · exact hc _
    | firstWins =>
      simp only [applyPolicy]
      split
      · exact ih _
      · exact hc _

theorem dropSeen_vrel (dup : DupPolicy) {l l1 : List (ENode × ENode)} (h : VRel dup l l1) :
    ∀ seen, VRel dup (dropSeen l seen) (dropSeen l1 seen) := by
  induction h with
  | nil => intro seen; exact VRel.nil
  | @cons k v v' es es' hv _ ih =>
    intro seen
    simp only [dropSeen_cons]
    split
    · exact ih _
    · exact VRel.cons hv (ih _)

theorem dropSeen_congr_seen (l : List (ENode × ENode)) : ∀ (s s' : List FP), (∀ x, x ∈ s ↔ x ∈ s') →
    dropSeen l s = dropSeen l s' := by
  induction l with
  | nil => intro s s' _; rfl
  | cons e rest ih =>
    intro s s' hss
    obtain ⟨k, v⟩ := e
    by_cases hk : fpOf k ∈ s
    · rw [dropSeen_cons_of_mem hk, dropSeen_cons_of_mem ((hss _).1 hk)]
      exact ih s s' hss
    · rw [dropSeen_cons_of_not_mem hk, dropSeen_cons_of_not_mem (fun h => hk ((hss _).2 h)),
        ih (fpOf k :: s) (fpOf k :: s')]
      intro x
      simp only [List.mem_cons, hss x]

theorem dropSeen_append (a b : List (ENode × ENode)) : ∀ s,
    dropSeen (a ++ b) s = dropSeen a s ++ dropSeen b ((keys (dropSeen a s)).reverse ++ s) := by
  induction a with
  | nil => intro s; simp [dropSeen, keys]
  | cons e rest ih =>
    intro s
    obtain ⟨k, v⟩ := e
    simp only [List.cons_append, dropSeen_cons]
    split
    · exact ih s
    · rw [ih (fpOf k :: s)]
      simp [keys]

theorem dropSeen_dropSeen (l : List (ENode × ENode)) : ∀ (s0 s : List FP), (∀ x ∈ s0, x ∈ s) →
    dropSeen (dropSeen l s0) s = dropSeen l s := by
  induction l with
  | nil => intro s0 s _; rfl
  | cons e rest ih =>
    intro s0 s hsub
    obtain ⟨k, v⟩ := e
    by_cases hk0 : fpOf k ∈ s0
    · rw [dropSeen_cons_of_mem hk0, dropSeen_cons_of_mem (hsub _ hk0)]
      exact ih s0 s hsub
    · rw [dropSeen_cons_of_not_mem hk0]
      by_cases hk : fpOf k ∈ s
      · rw [dropSeen_cons_of_mem hk, dropSeen_cons_of_mem hk]
        exact ih _ s (List.forall_mem_cons.2 ⟨hk, hsub⟩)
      · rw [dropSeen_cons_of_not_mem hk, dropSeen_cons_of_not_mem hk]
        congr 1
        exact ih _ _ fun x hx => List.mem_cons.2 ((List.mem_cons.1 hx).imp id (hsub x))

/-- weaker than `VRel`: `b'` may lack entries of `b` whose key occurs earlier in `b` (they can never be delivered) -/
def SrcRel (dup : DupPolicy) (b b' : List (ENode × ENode)) : Prop :=
  ∀ seen, VRel dup (dropSeen b seen) (dropSeen b' seen)

theorem SrcRel.nil (dup : DupPolicy) : SrcRel dup [] [] := fun _ => VRel.nil

theorem SrcRel.of_vrel {dup : DupPolicy} {b b' : List (ENode × ENode)} (h : VRel dup b b') : SrcRel dup b b' :=
  fun seen => dropSeen_vrel dup h seen

theorem SrcRel.append {dup : DupPolicy} {a a' b b' : List (ENode × ENode)} (h1 : SrcRel dup a a') (h2 : SrcRel dup b b') :
    SrcRel dup (a ++ b) (a' ++ b') := by
  intro seen
  rw [dropSeen_append, dropSeen_append, ← (h1 seen).keys]
  exact (h1 seen).append (h2 _)

theorem SrcRel.dropSeen_right {dup : DupPolicy} {b x : List (ENode × ENode)} (h : SrcRel dup b x) :
    SrcRel dup b (dropSeen x []) := by
  intro seen
  rw [dropSeen_dropSeen x [] seen (by simp)]
  exact h seen

theorem eff_firstWins_eq (entries : List (ENode × ENode)) :
    effEntries .firstWins entries = (mapSourceEntries entries).map (dropSeen · []) := by
  rw [C03.effEntries_alt, C03.mapSource_alt, applyPolicy_firstWins_eq]
  cases seqSourceEntries (splitEntries entries).2 with
  | none => simp
  | some bf => simp [dropSeen_append]

theorem mapSource_of_no_merge (es : List (ENode × ENode)) (h : ∀ e ∈ es, isMergeKeyNode e.1 = false) :
    mapSourceEntries es = some es := by
  rw [C03.mapSource_alt, C03.splitEntries_of_no_merge es h]
  simp

theorem writeOutE_nil (dup : DupPolicy) : writeOutE dup [] = [] := by rw [writeOutE]

theorem writeOutE_cons (dup : DupPolicy) (k v : ENode) (rest : List (ENode × ENode)) :
    writeOutE dup ((k, v) :: rest) =
      (k, if isMergeKeyNode k then writeOutSrc dup v else writeOut dup v) :: writeOutE dup rest := by rw [writeOutE]

theorem writeOutL_nil (dup : DupPolicy) : writeOutL dup [] = [] := by rw [writeOutL]
theorem writeOutL_cons (dup : DupPolicy) (n : ENode) (ns : List ENode) :
    writeOutL dup (n :: ns) = writeOut dup n :: writeOutL dup ns := by rw [writeOutL]
theorem writeOutSrcL_nil (dup : DupPolicy) : writeOutSrcL dup [] = [] := by rw [writeOutSrcL]
theorem writeOutSrcL_cons (dup : DupPolicy) (n : ENode) (ns : List ENode) :
    writeOutSrcL dup (n :: ns) = writeOutSrc dup n :: writeOutSrcL dup ns := by rw [writeOutSrcL]

theorem writeOut_scalar (dup : DupPolicy) (v : List Char) (tag : Nat) (rt : Option (List Char)) (st : Style)
    (a : Nat) (l : Loc) : writeOut dup (.scalar v tag rt st a l) = .scalar v tag rt st a l := by rw [writeOut]

theorem writeOut_seq (dup : DupPolicy) (a tag : Nat) (rt : Option (List Char)) (l el : Loc) (items : List ENode) :
    writeOut dup (.seq a tag rt l el items) = .seq a tag rt l el (writeOutL dup items) := by rw [writeOut]

theorem writeOut_map (dup : DupPolicy) (a : Nat) (l el : Loc) (entries : List (ENode × ENode)) :
    writeOut dup (.map a l el entries) =
      match effEntries dup (writeOutE dup entries) with
      | some es' => .map a l el es'
      | none => .map a l el entries := by rw [writeOut]; rfl

theorem writeOutSrc_scalar (dup : DupPolicy) (v : List Char) (tag : Nat) (rt : Option (List Char)) (st : Style)
    (a : Nat) (l : Loc) : writeOutSrc dup (.scalar v tag rt st a l) = .scalar v tag rt st a l := by rw [writeOutSrc]

theorem writeOutSrc_seq (dup : DupPolicy) (a tag : Nat) (rt : Option (List Char)) (l el : Loc) (items : List ENode) :
    writeOutSrc dup (.seq a tag rt l el items) = .seq a tag rt l el (writeOutSrcL dup items) := by rw [writeOutSrc]

theorem writeOutSrc_map (dup : DupPolicy) (a : Nat) (l el : Loc) (entries : List (ENode × ENode)) :
    writeOutSrc dup (.map a l el entries) =
      match effEntries .firstWins (writeOutE dup entries) with
      | some es' => .map a l el es'
      | none => .map a l el entries := by rw [writeOutSrc]; rfl

theorem writeOutE_split (dup : DupPolicy) : ∀ (entries : List (ENode × ENode)),
    VRel dup (splitEntries entries).1 (splitEntries (writeOutE dup entries)).1 ∧
      (splitEntries (writeOutE dup entries)).2 = writeOutSrcL dup (splitEntries entries).2 := by
  intro entries
  induction entries with
  | nil => rw [writeOutE_nil]; exact ⟨VRel.nil, by simp [splitEntries, writeOutSrcL_nil]⟩
  | cons e rest ih =>
    obtain ⟨k, v⟩ := e
    obtain ⟨ih1, ih2⟩ := ih
    rw [writeOutE_cons, C03.splitEntries_cons, C03.splitEntries_cons]
    by_cases hk : isMergeKeyNode k = true
    · simp only [hk, if_true]
      exact ⟨ih1, by rw [writeOutSrcL_cons, ih2]⟩
    · simp only [hk, Bool.false_eq_true, if_false]
      exact ⟨VRel.cons rfl ih1, ih2⟩

open SaphyrVerif.Lemmas.C03 in
mutual
theorem writeOutSrc_rel (dup : DupPolicy) : ∀ (n : ENode),
    ORel (SrcRel dup) (sourceEntries n) (sourceEntries (writeOutSrc dup n))
  | .scalar v tag rt st a l => by
    rw [writeOutSrc_scalar]
    simp only [sourceEntries_scalar]
    split
    · exact SrcRel.nil dup
    · trivial
  | .seq a tag rt l el items => by
    rw [writeOutSrc_seq]
    simp only [sourceEntries_seq]
    exact writeOutSrcL_rel dup items
  | .map a l el entries => by
    have ih := writeOutE_src_rel dup entries
    rw [writeOutSrc_map, eff_firstWins_eq]
    cases hx : mapSourceEntries (writeOutE dup entries) with
    | none =>
      -- not a valid merge source: left as written, and rejected in both forms
      rw [hx] at ih
      simp only [Option.map_none, sourceEntries_map, (ih.none_iff).2 rfl]
      trivial
    | some x =>
      rw [hx] at ih
      obtain ⟨b, hb, hbx⟩ := ih.of_some_right
      have hnm : ∀ e ∈ dropSeen x [], isMergeKeyNode e.1 = false := fun e he' =>
        C03.mapSourceEntries_no_merge _ x hx e ((C04.dropSeen_sublist x []).subset he')
      simp only [Option.map_some, sourceEntries_map, hb, mapSource_of_no_merge _ hnm]
      exact hbx.dropSeen_right
theorem writeOutSrcL_rel (dup : DupPolicy) : ∀ (items : List ENode),
    ORel (SrcRel dup) (seqSourceEntries items) (seqSourceEntries (writeOutSrcL dup items))
  | [] => by
    rw [writeOutSrcL_nil]
    simp only [seqSourceEntries_nil]
    exact SrcRel.nil dup
  | n :: ns => by
    rw [writeOutSrcL_cons, seqSourceEntries_cons, seqSourceEntries_cons]
    exact (writeOutSrc_rel dup n).both (writeOutSrcL_rel dup ns) fun _ _ _ _ hb hr => hr.append hb
theorem writeOutE_src_rel (dup : DupPolicy) : ∀ (entries : List (ENode × ENode)),
    ORel (SrcRel dup) (mapSourceEntries entries) (mapSourceEntries (writeOutE dup entries))
  | [] => by
    rw [writeOutE_nil]
    simp only [mapSourceEntries_nil]
    exact SrcRel.nil dup
  | (k, v) :: rest => by
    have ihr := writeOutE_src_rel dup rest
    rw [writeOutE_cons, mapSourceEntries_cons, mapSourceEntries_cons]
    by_cases hk : isMergeKeyNode k = true
    · simp only [hk, if_true]
      exact (writeOutSrc_rel dup v).both ihr fun _ _ _ _ hb hr => hr.append hb
    · simp only [hk, Bool.false_eq_true, if_false]
      cases hm : mapSourceEntries rest <;> cases hm' : mapSourceEntries (writeOutE dup rest) <;> rw [hm, hm'] at ihr
      · trivial
      · cases ihr
      · cases ihr
      · exact SrcRel.append (a := [(k, v)]) (a' := [(k, writeOut dup v)]) (SrcRel.of_vrel (VRel.cons rfl VRel.nil)) ihr
end

theorem effEntries_writeOut (dup : DupPolicy) (entries : List (ENode × ENode)) :
    ORel (VRel dup) (effEntries dup entries) (effEntries dup (writeOutE dup entries)) := by
  obtain ⟨hown, hsrc⟩ := writeOutE_split dup entries
  rw [C03.effEntries_alt, C03.effEntries_alt, hsrc]
  refine (applyPolicy_vrel dup dup hown []).both (writeOutSrcL_rel dup _) fun own own' src src' ho hs => ?_
  rw [← ho.keys]
  exact ho.append (hs _)

end SaphyrVerif.Lemmas.C03T
