import SaphyrVerif.Lemmas.C11_Typed2Check
import SaphyrVerif.Lemmas.C11_Typed2LockMain
/-!
Typed multi-document theorems (C11): a document in which the pump ALONE fails — whatever the
reason: an alias whose anchor is unknown in this document (defined in an earlier one only), a budget breach, an
alias limit, a scan error — before the end of the document.

`FailRun X p inp es`: from the state `p` the pump delivers the events `es`, then reports an error, all of it
before the rest `X` of the stream (the `DocumentEnd` marker of the document and what follows it) is reached.  Such
a run does not depend on `X` nor on the flags of the start state (`failRun_twin`), so the live
cursor inside the document in a stream (`… ++ X`) and the live cursor inside the same document in another stream
(`… ++ Y`, e.g. the one-document stream) are in LOCK-STEP (`failP`, `closed_failP`): by `Lemmas.Lock.lA` the typed
deserializer returns the same values and the same errors on both, and the cursor it returns on an error is still
inside the document — the recovery `skip_to_next_document` then ends at the next document.
-/
namespace SaphyrVerif.Lemmas.C11B
open SaphyrVerif SaphyrVerif.Scalars SaphyrVerif.Pump SaphyrVerif.De SaphyrVerif.Spec SaphyrVerif.Budget SaphyrVerif.Entry
open SaphyrVerif.Lemmas.C11T (J)
open SaphyrVerif.Lemmas.CurSim (live_peek live_next look_peek look_next nextImpl_look_none)
open SaphyrVerif.Lemmas.Lock (LP LR Closed)

inductive FailRun (X : List RawItem) : Pump → List RawItem → List Ev → Prop
  | err {p : Pump} {A : List RawItem} {er : PErr} {p' : Pump} {A' : List RawItem} :
      nextImpl p (A ++ X) = (.error er, p', A' ++ X) → FailRun X p (A ++ X) []
  | ev {p : Pump} {A : List RawItem} {e : Ev} {p' : Pump} {A' : List RawItem} {es : List Ev} :
      nextImpl p (A ++ X) = (.event e, p', A' ++ X) → FailRun X p' (A' ++ X) es → FailRun X p (A ++ X) (e :: es)

theorem FailRun.form {X : List RawItem} {p : Pump} {inp : List RawItem} {es : List Ev} (h : FailRun X p inp es) :
    ∃ A, inp = A ++ X := by
  cases h with
  | err _ => exact ⟨_, rfl⟩
  | ev _ _ => exact ⟨_, rfl⟩

theorem FailRun.inv {X : List RawItem} {p : Pump} {A : List RawItem} {es : List Ev} (h : FailRun X p (A ++ X) es) :
    (∃ er p' A', nextImpl p (A ++ X) = (.error er, p', A' ++ X)) ∨
    (∃ e es' p' A', es = e :: es' ∧ nextImpl p (A ++ X) = (.event e, p', A' ++ X) ∧ FailRun X p' (A' ++ X) es') := by
  generalize hinp : A ++ X = inp at h
  cases h with
  | @err _ A0 er p' A' hn =>
    have hA : A = A0 := List.append_cancel_right hinp
    subst hA
    exact .inl ⟨er, p', A', hn⟩
  | @ev _ A0 e p' A' es' hn hr =>
    have hA : A = A0 := List.append_cancel_right hinp
    subst hA
    exact .inr ⟨e, es', p', A', rfl, hn, hr⟩

theorem failRun_twin {X Y : List RawItem} (hX : X ≠ []) : ∀ {q : Pump} {A : List RawItem} {es : List Ev},
    q.stopAtDocEnd = false → FailRun X q (A ++ X) es → ∀ (a b : Bool), FailRun Y (withFlags q a b) (A ++ Y) es := by
  intro q A es hs h
  generalize hinp : A ++ X = inp at h
  induction h generalizing A with
  | @err p A0 er p' A' hn =>
    intro a b
    obtain rfl : A = A0 := List.append_cancel_right hinp
    exact FailRun.err (nextImpl_pair hX a b hs hn)
  | @ev p A0 e p' A' es hn _ ih =>
    intro a b
    obtain rfl : A = A0 := List.append_cancel_right hinp
    exact FailRun.ev (nextImpl_pair_event hX a b hs hn) (ih ((nextImpl_sade_eq hn).trans hs) rfl true b)

/-- replace the rest `X` of the input (its last `X.length` items) by `Y` -/
def swapSuf (X Y : List RawItem) (inp : List RawItem) : List RawItem := inp.take (inp.length - X.length) ++ Y

theorem swapSuf_append (X Y A : List RawItem) : swapSuf X Y (A ++ X) = A ++ Y := by
  simp [swapSuf]

/-- the twin of a live cursor: the rest `X` of the input replaced by `Y`, the flags normalised -/
def swapCur (X Y : List RawItem) (b' : Bool) : Cur → Cur
  | .live p inp => .live (withFlags p true b') (swapSuf X Y inp)
  | .replay b i r => .replay b i r

/-- a live cursor inside a document in which the pump will fail: either the look-ahead slot is empty and the pump is
on a failing run, or it holds the event delivered last -/
def FailInv (L : AliasLimits) (ob : Option Limits) (X : List RawItem) (c : Cur) : Prop :=
  ∃ q inq l, c = .live q inq ∧ StatB L ob q ∧ J X inq ∧
    ((q.look = none ∧ FailRun X q inq l) ∨
     (∃ e q0, q0.look = none ∧ q0.lastLoc = e.loc ∧ q = { q0 with look := some e } ∧ FailRun X q0 inq l))

/-- the cursor after an error inside the document -/
def FailErr (L : AliasLimits) (ob : Option Limits) (X : List RawItem) (c : Cur) : Prop :=
  ∃ q inq, c = .live q inq ∧ StatB L ob q ∧ J X inq

theorem FailInv.err {L : AliasLimits} {ob : Option Limits} {X : List RawItem} {c : Cur} (h : FailInv L ob X c) :
    FailErr L ob X c := by
  obtain ⟨q, inq, l, rfl, hst, hJ, -⟩ := h
  exact ⟨q, inq, rfl, hst, hJ⟩

theorem swapCur_lastLoc (X Y : List RawItem) (b' : Bool) (c : Cur) : (swapCur X Y b' c).lastLoc = c.lastLoc := by
  cases c <;> rfl

theorem swapCur_refLoc (X Y : List RawItem) (b' : Bool) (c : Cur) : (swapCur X Y b' c).refLoc = c.refLoc := by
  cases c <;> rfl

theorem swapCur_atAlias (X Y : List RawItem) (b' : Bool) (c : Cur) : (swapCur X Y b' c).atAlias = c.atAlias := by
  cases c <;> rfl

def failP (L : AliasLimits) (ob : Option Limits) (X Y : List RawItem) (b' : Bool) : LP where
  σ := swapCur X Y b'
  Inv := FailInv L ob X
  ErrI := FailErr L ob X
  σ_lastLoc := swapCur_lastLoc X Y b'
  σ_refLoc := swapCur_refLoc X Y b'
  σ_atAlias := swapCur_atAlias X Y b'
  σ_replay := fun _ _ _ => rfl
  inv_err := fun _ => FailInv.err

theorem withFlags_look (p : Pump) (a b : Bool) : (withFlags p a b).look = p.look := rfl

theorem live_peek_err {q q' : Pump} {inq inq' : List RawItem} {er : PErr} (hl : q.look = none)
    (hn : nextImpl q inq = (.error er, q', inq')) : Cur.peek (.live q inq) = .err (ofPErr er) (.live q' inq') := by
  simp only [Cur.peek, Pump.peek, hl, hn]

theorem live_next_err {q q' : Pump} {inq inq' : List RawItem} {er : PErr} (hl : q.look = none)
    (hn : nextImpl q inq = (.error er, q', inq')) : Cur.next (.live q inq) = .err (ofPErr er) (.live q' inq') := by
  simp only [Cur.next, Pump.next, hl, hn]

theorem closed_failP (L : AliasLimits) (ob : Option Limits) (X Y : List RawItem) (b' : Bool) (hX : X ≠ []) :
    Closed (failP L ob X Y b') := by
  rintro c ⟨q, inq, l, rfl, hst, hJ, hmode⟩
  -- the twin of a live cursor in front of `X` (`withFlags` commutes with the look-ahead slot by `rfl`)
  have hσ : ∀ (p : Pump) (A : List RawItem),
      (failP L ob X Y b').σ (.live p (A ++ X)) = .live (withFlags p true b') (A ++ Y) :=
    fun p A => by simp [failP, swapCur, swapSuf_append]
  obtain ⟨A, rfl⟩ : ∃ A, inq = A ++ X := by
    rcases hmode with ⟨_, hr⟩ | ⟨_, _, _, _, _, hr⟩ <;> exact hr.form
  rw [hσ]
  rcases hmode with ⟨hl, hr⟩ | ⟨e, q0, hl0, hloc, rfl, hr⟩
  · -- an empty slot: the same call of the pump on both sides (`nextImpl_pair`)
    have hlR : (withFlags q true b').look = none := hl
    obtain ⟨er, p', A', hn⟩ | ⟨e, es, p', A', rfl, hn, hr'⟩ := hr.inv
    · obtain ⟨hst', hJ'⟩ := nextImpl_inDoc hst hJ hn (List.suffix_append _ _)
      have hnR := nextImpl_pair (Y := Y) hX true b' hst.sade hn
      have herr := LR.err (P := failP L ob X Y b') (α := Option Ev) (e := ofPErr er) (d := .live p' (A' ++ X))
        ⟨p', _, rfl, hst', hJ'⟩
      rw [hσ] at herr
      rw [live_peek_err hl hn, live_peek_err hlR hnR, live_next_err hl hn, live_next_err hlR hnR]
      exact ⟨herr, herr⟩
    · obtain ⟨hst', hJ'⟩ := nextImpl_inDoc hst hJ hn (List.suffix_append _ _)
      have hnR := nextImpl_pair_event (Y := Y) hX true b' hst.sade hn
      have hl' := nextImpl_look_none hl hn
      have hpk := LR.ok (P := failP L ob X Y b') (a := some e) (d := .live { p' with look := some e } (A' ++ X))
        ⟨_, _, es, rfl, ⟨hst'.bud, hst'.rip, hst'.lim, hst'.sade⟩, hJ', .inr ⟨e, p', hl', (nextImpl_event hn).1, rfl, hr'⟩⟩
      have hnx := LR.ok (P := failP L ob X Y b') (a := some e) (d := .live p' (A' ++ X))
        ⟨p', _, es, rfl, hst', hJ', .inl ⟨hl', hr'⟩⟩
      rw [hσ] at hpk hnx
      rw [live_peek hl hn, live_peek hlR hnR, live_next hl hn, live_next hlR hnR]
      exact ⟨hpk, hnx⟩
  · -- a filled slot: the pump is not called
    have hpk := LR.ok (P := failP L ob X Y b') (a := some e) (d := .live { q0 with look := some e } (A ++ X))
      ⟨_, _, l, rfl, hst, hJ, .inr ⟨e, q0, hl0, hloc, rfl, hr⟩⟩
    have hnx := LR.ok (P := failP L ob X Y b') (a := some e) (d := .live q0 (A ++ X))
      ⟨q0, _, l, rfl, ⟨hst.bud, hst.rip, hst.lim, hst.sade⟩, hJ, .inl ⟨hl0, hr⟩⟩
    rw [hσ] at hpk hnx
    rw [look_peek _ hloc, look_next _ hl0 hloc]
    exact ⟨(look_peek (q0 := withFlags q0 true b') (A ++ Y) hloc) ▸ hpk,
      (look_next (q0 := withFlags q0 true b') (A ++ Y) hl0 hloc) ▸ hnx⟩

end SaphyrVerif.Lemmas.C11B
