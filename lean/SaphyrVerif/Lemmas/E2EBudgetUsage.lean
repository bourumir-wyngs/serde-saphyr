import SaphyrVerif.Lemmas.E2EBudgetDoc
import SaphyrVerif.Lemmas.E2EBudgetSim
import SaphyrVerif.Lemmas.E2EBudgetLim
import SaphyrVerif.Props.C07
/-!
End-to-end composition with the budget enforcer: acceptance by the independent counts.  The enforcer of
the pump over a single-document stream is shown (anchors and tags aside, alias calls aside) the stream of the
alias-free, anchor-free expansion `toNode n` of the document; `Props/C07` says when `Budget.run` accepts that stream
(`accepts_iff`) and what it reports (`report_eq_usage`); `feedObs_sim` carries both over to the pump's enforcer.
-/
namespace SaphyrVerif.Lemmas.E2EBudget
open SaphyrVerif.Pump SaphyrVerif.Budget SaphyrVerif.Spec
open SaphyrVerif.Lemmas.C07 (defAfter nAnchors_eq)
open SaphyrVerif.Lemmas.C02 (noFoldedIndent)


mutual
/-- the tree of the expansion as a document tree: every alias already replaced by its copy, without anchor marks
and tags (what the enforcer is shown of a replayed event; for the raw events anchors are counted separately and
tags only matter for the merge-key count, which can only grow by dropping them) -/
def toNode : ENode → Node
  | .scalar v _ _ st _ _ => .scalar v st 0 none
  | .seq _ _ _ _ _ items => .seq 0 none (toNodeL items)
  | .map _ _ _ entries => .map 0 none (toNodeE entries)
def toNodeL : List ENode → List Node
  | [] => []
  | n :: ns => toNode n :: toNodeL ns
def toNodeE : List (ENode × ENode) → List (Node × Node)
  | [] => []
  | (k, v) :: es => (toNode k, toNode v) :: toNodeE es
end

mutual
theorem flatten_toNode (n : ENode) : flatten (toNode n) = (eflatten n).map replayRaw := by
  match n with
  | .scalar v tag rt st a l => rfl
  | .seq a tag rt l el items =>
    simp only [toNode, flatten, eflatten, List.map_cons, List.map_append, List.map_nil, flattenL_toNode items]
    rfl
  | .map a l el entries =>
    simp only [toNode, flatten, eflatten, List.map_cons, List.map_append, List.map_nil, flattenE_toNode entries]
    rfl
theorem flattenL_toNode (ns : List ENode) : flattenL (toNodeL ns) = (eflattenL ns).map replayRaw := by
  match ns with
  | [] => rfl
  | n :: ns => simp only [toNodeL, flattenL, eflattenL, List.map_append, flatten_toNode n, flattenL_toNode ns]
theorem flattenE_toNode (es : List (ENode × ENode)) : flattenE (toNodeE es) = (eflattenE es).map replayRaw := by
  match es with
  | [] => rfl
  | (k, v) :: es =>
    simp only [toNodeE, flattenE, eflattenE, List.map_append, flatten_toNode k, flatten_toNode v, flattenE_toNode es]
end

/-- the usage of a document with anchors and aliases over raw + replayed events: the usage (`Spec.usage`, the
independent counts of `Spec/BudgetSpec.lean`) of the stream of its alias-free expansion — every delivered node,
raw or replayed, counts for events, nodes, depth, scalar bytes and merge keys —, plus one event and one alias per
alias item, with the anchors of the raw items -/
def usageWithReplay (t : LNode) (n : ENode) : Report :=
  let u := usage [toNode n]
  { u with events := u.events + nAliasItems (itemsOf t), aliases := nAliasItems (itemsOf t),
           anchors := nAnchors (itemRaws (itemsOf t)) }

theorem isAliasEv_replayRaw (e : Ev) : isAliasEv (replayRaw e) = false := by cases e <;> rfl

theorem nAliases_map_replayRaw (es : List Ev) : nAliases (es.map replayRaw) = 0 := by
  induction es with
  | nil => rfl
  | cons e es ih =>
    simp only [List.map_cons, C07.nAliases_cons, isAliasEv_replayRaw, C07.b2n, ih]
    rfl

theorem defAfter_map_replayRaw (bs : List Nat) (es : List Ev) : defAfter bs (es.map replayRaw) = bs := by
  induction es generalizing bs with
  | nil => rfl
  | cons e es ih => simp only [List.map_cons, defAfter, anchorOf_replayRaw, C07.defIns_zero, ih]

theorem nAnchors_map_replayRaw (es : List Ev) : nAnchors (es.map replayRaw) = 0 := by
  rw [nAnchors_eq, defAfter_map_replayRaw]
  rfl

/-- the stream the independent counts are taken of: the events of the expansion as a replay shows them, framed -/
theorem stream_toNode (n : ENode) :
    flattenStream [toNode n] =
      .streamStart :: .docStart false :: ((eflatten n).map replayRaw ++ [.docEnd, .streamEnd]) := by
  simp [flattenStream, flattenDocs, flattenDoc, flatten_toNode]

theorem xOf_doc (n : ENode) (O : List Obs) (hx : (rawsOf O).map erase = (eflatten n).map replayRaw) :
    (rawsOf ([.raw .streamStart, .raw (.docStart false)] ++ O ++ [.raw .docEnd, .raw .streamEnd])).map erase =
      flattenStream [toNode n] := by
  simp only [stream_toNode, rawsOf_append, rawsOf, List.map_append, List.map_cons, List.map_nil, hx, erase,
    List.cons_append, List.nil_append]

theorem usage_toNode_aliases (n : ENode) : (usage [toNode n]).aliases = 0 := by
  have := nAliases_map_replayRaw (eflatten n)
  simp only [nAliases] at this
  simp [usage, stream_toNode, nAliases, this, isAliasEv]

theorem usage_toNode_anchors (n : ENode) : (usage [toNode n]).anchors = 0 := by
  simp [usage, stream_toNode, nAnchors_eq, defAfter, C07.defAfter_append, defAfter_map_replayRaw, anchorOf]

theorem stream_toNode_no_alias (n : ENode) : ∀ y ∈ flattenStream [toNode n], isAliasEv y = false := by
  intro y hy
  simp only [stream_toNode, List.mem_cons, List.mem_append, List.mem_map, List.not_mem_nil, or_false] at hy
  rcases hy with rfl | rfl | ⟨e, -, rfl⟩ | rfl | rfl
  · rfl
  · rfl
  · exact isAliasEv_replayRaw e
  · rfl
  · rfl

theorem no_alias_of_erased {xs : List Raw} {n : ENode} (h : xs.map erase = flattenStream [toNode n]) :
    ∀ r ∈ xs, isAliasEv r = false := by
  intro r hr
  have hmem : erase r ∈ flattenStream [toNode n] := by rw [← h]; exact List.mem_map_of_mem hr
  rw [← (erase_kinds r).2.2.2.2.1]
  exact stream_toNode_no_alias n _ hmem

theorem simRel_new (lim : Limits) (K : Nat) : SimRel lim K (Enf.new lim false) (Enf.new (limX lim K) false) 0 := by
  constructor <;> first | rfl | exact C07.within_new _ _ | exact Nat.le_refl _

theorem enforcer_accepts_of_usage (t : LNode) (n : ENode) (O : List Obs) (acc : Accounts (itemsOf t) O (eflatten n))
    (lim : Limits) (hlen : (flattenStream [toNode n]).length < 2 ^ 64)
    (hw : within lim (usageWithReplay t n) = true) (hr : ratioOk lim (usageWithReplay t n) = true)
    (hlimA : lim.maxAliases ≤ USIZE_MAX) :
    ∃ bf, feedObs (Enf.new lim false)
        ([.raw .streamStart, .raw (.docStart false)] ++ O ++ [.raw .docEnd, .raw .streamEnd]) = .ok bf ∧
      bf.finalize.2 = none := by
  have hX := xOf_doc n O (acc.events (itemsOf_nodeOrAlias t))
  have hua := usage_toNode_aliases n
  have hun := usage_toNode_anchors n
  rw [C07.within_iff] at hw
  simp only [usageWithReplay] at hw hr
  obtain ⟨w1, w2, w3, w4, w5, w6, w7, w8⟩ := hw
  -- the stripped stream is accepted under the reduced event limit
  have hwX : within (limX lim (nAliasItems (itemsOf t))) (usage [toNode n]) = true := by
    rw [C07.within_iff]
    simp only [limX, hua, hun]
    exact ⟨by omega, Nat.zero_le _, Nat.zero_le _, w4, w5, w6, w7, w8⟩
  obtain ⟨eX', hrun⟩ := (Props.C07.accepts_iff _ [toNode n] hlen).2 hwX
  -- the pump's enforcer follows
  have hnoAll : noOcc ([Obs.raw .streamStart, .raw (.docStart false)] ++ O ++ [.raw .docEnd, .raw .streamEnd]) = true := by
    simp [noOcc_append, noOcc, acc.noOcc]
  have hnalAll : nAl ([Obs.raw .streamStart, .raw (.docStart false)] ++ O ++ [.raw .docEnd, .raw .streamEnd]) =
      nAliasItems (itemsOf t) := by
    simp [nAl_append, nAl, acc.aliases]
  have hdefAll : defAfter [] (rawsOf ([Obs.raw .streamStart, .raw (.docStart false)] ++ O ++
      [.raw .docEnd, .raw .streamEnd])) = defAfter [] (itemRaws (itemsOf t)) := by
    simp [rawsOf_append, rawsOf, C07.defAfter_append, defAfter, anchorOf, acc.anchors]
  obtain ⟨e', hf, hrel, hdef⟩ := feedObs_sim lim (nAliasItems (itemsOf t)) (by omega) w2 _ (Enf.new lim false)
    (Enf.new (limX lim (nAliasItems (itemsOf t))) false) eX' 0 0 hnoAll (no_alias_of_erased hX)
    (simRel_new lim _) (by rw [hnalAll]; omega)
    (by
      show (defAfter [] _).length ≤ _
      rw [hdefAll, ← nAnchors_eq]; exact w3)
    (by rw [hX]; exact hrun)
  refine ⟨e', hf, ?_⟩
  have hdef' : e'.defined = defAfter [] (itemRaws (itemsOf t)) := by
    rw [hdef]; exact hdefAll
  have hal : e'.report.aliases = nAliasItems (itemsOf t) := by
    have := hrel.aliases
    rw [hnalAll] at this
    omega
  have hfst : e'.finalize.1.aliases = nAliasItems (itemsOf t) ∧
      e'.finalize.1.anchors = nAnchors (itemRaws (itemsOf t)) := by
    rw [C07.finalize_fst]
    exact ⟨hal, by simp only [hdef', nAnchors_eq]⟩
  have hok : ratioOk e'.lim e'.finalize.1 = true := by
    simp only [ratioOk] at hr ⊢
    rw [hrel.lim_e, hfst.1, hfst.2]
    exact hr
  rw [C07.finalize_snd_ratioBreach _ hrel.pd_e, C07.ratioBreach_eq _ (by rw [hal]; omega), hok]
  rfl

theorem doc_brun_of_usage (L : AliasLimits) (t : LNode) (l0 l1 l2 l3 : Loc) (r : Exp) (n : ENode)
    (hnf : noFoldedIndent t = true) (hexp : expand [] [] t = .ok r)
    (hL1 : 1 ≤ L.maxReplayStackDepth) (hL2 : r.replayed ≤ L.maxTotalReplayedEvents)
    (hL3 : ∀ id, aliasCount id t ≤ L.maxAliasExpansionsPerAnchor)
    (hn : r.evs = eflatten n)
    (lim : Limits) (hlen : (flattenStream [toNode n]).length < 2 ^ 64)
    (hw : within lim (usageWithReplay t n) = true) (hr : ratioOk lim (usageWithReplay t n) = true)
    (hlimA : lim.maxAliases ≤ USIZE_MAX) :
    BRun (withBud { limits := L } (Enf.new lim false)) (docStream t l0 l1 l2 l3) r.evs := by
  obtain ⟨O, hO, acc⟩ := doc_obs L t l0 l1 l2 l3 r hnf hexp hL1 hL2 hL3
  rw [hn] at acc
  obtain ⟨bf, hf, hfin⟩ := enforcer_accepts_of_usage t n O acc lim hlen hw hr hlimA
  obtain ⟨qf, hiff⟩ := run_withBud (CurSim.run_docStream L t l0 l1 l2 l3 r hnf hexp hL1 hL2 hL3) rfl
  refine ((hiff _ _).2 ⟨bf, by rw [hO]; exact hf, rfl⟩).toBRun ?_
  show (Pump.finish (withBud qf bf)).1 = none
  rw [finish_withBud, hfin]
  rfl

end SaphyrVerif.Lemmas.E2EBudget
