import SaphyrVerif.Lemmas.E2EBudgetMain
import SaphyrVerif.Lemmas.E2EBudgetRun
/-!
End-to-end composition with the budget enforcer: the entry-point protocol (`finish()`, the
end-of-document check `enforce_single_document_and_finish`) with and without the enforcer.
-/
namespace SaphyrVerif.Lemmas.E2EBudget
open SaphyrVerif.Pump SaphyrVerif.De

theorem finishCur_strip (d : Cur) : Entry.finishCur (strip d) = none := by
  cases d <;> simp [strip, Entry.finishCur, Pump.finish]

theorem finishCur_budget {d : Cur} {e : DErr} (h : Entry.finishCur d = some e) : e.kind = "Budget" := by
  cases d with
  | replay => simp [Entry.finishCur] at h
  | live p inp =>
    simp only [Entry.finishCur, Pump.finish] at h
    cases hb : p.budget with
    | none => simp [hb] at h
    | some enf =>
      simp only [hb] at h
      cases hf : enf.finalize.2 with
      | none => simp [hf] at h
      | some b =>
        simp [hf] at h
        subst h
        rfl

theorem seenDocEnd_strip (d : Cur) :
    (match strip d with | .live p _ => p.seenDocEnd | _ => false) = (match d with | .live p _ => p.seenDocEnd | _ => false) := by
  cases d <;> rfl

theorem synthesizedNull_strip (d : Cur) :
    (match strip d with | .live p _ => p.synthesizedNull | _ => false) =
      (match d with | .live p _ => p.synthesizedNull | _ => false) := by
  cases d <;> rfl

theorem budgetish_not_garbage {e : DErr} (h : budgetish e) :
    (e.kind == "ExternalMessage" || e.kind == "UnknownAnchor") = false := by
  rcases h with h | h <;> rw [h] <;> decide

theorem enforceSingle_br {d : Cur} (hi : P1.Inv d) :
    Entry.enforceSingle d = Entry.enforceSingle (strip d) ∨ ∃ e, Entry.enforceSingle d = some e ∧ budgetish e := by
  unfold Entry.enforceSingle
  rcases closed_P1.peek_cases hi with ⟨o, d', hp, hp', hi'⟩ | ⟨e, d', hp, hp'⟩ | ⟨e, d', hp, -, hb, -⟩
  · rw [hp, hp']
    cases o with
    | some ev => left; simp
    | none =>
      simp only [finishCur_strip]
      cases hf : Entry.finishCur d' with
      | none => left; rfl
      | some e => right; exact ⟨e, rfl, .inl (finishCur_budget hf)⟩
  · rw [hp, hp']
    cases d' with
    | replay b i r => left; rfl
    | live q inq =>
      simp only [strip]
      have hfs : Entry.finishCur (.live (stripP q) inq) = none := finishCur_strip (.live q inq)
      rw [hfs]
      by_cases hc : (q.seenDocEnd && (e.kind == "ExternalMessage" || e.kind == "UnknownAnchor")) = true
      · simp only [hc]
        cases hf : Entry.finishCur (.live q inq) with
        | none => left; rfl
        | some e' => right; exact ⟨_, rfl, .inl (finishCur_budget hf)⟩
      · simp only [hc]
        left; trivial
  · rw [hp]
    simp only [budgetish_not_garbage hb, Bool.and_false, Bool.false_eq_true, ↓reduceIte]
    exact .inr ⟨e, rfl, hb⟩

theorem enforceSingle_inv2 {d : Cur} (hi : Inv2 d) : Entry.enforceSingle d = Entry.enforceSingle (strip d) := by
  obtain ⟨⟨o, d', h1, h2, -, hfin⟩, -⟩ := inv2_step hi
  simp only [Entry.enforceSingle, h1, h2]
  cases o with
  | some ev => simp
  | none => simp [hfin rfl, finishCur_strip]

/-- what `from_str` makes of a budgeted and a budget-free outcome of `T::deserialize`: the same, or — where the parameters
allow a breach — a budget error.  `henf`: the end-of-document check `peek`s and calls `finish()`, the one place after the
deserializer where the enforcer can still show. -/
theorem fromSingleK_br {P : BP} {x y : R Val} (h : BR P x y)
    (henf : ∀ {d : Cur}, P.Inv d → Entry.enforceSingle d = Entry.enforceSingle (strip d) ∨
      (P.ab ∧ ∃ e, Entry.enforceSingle d = some e ∧ budgetish e)) :
    CurSim.fromSingleK x = CurSim.fromSingleK y ∨ (P.ab ∧ ∃ e, CurSim.fromSingleK x = .error e ∧ budgetish e) := by
  cases h with
  | @ok a d hi =>
    simp only [CurSim.fromSingleK]
    rcases henf hi with he | ⟨hab, e, he, hb⟩
    · rw [he]; exact .inl rfl
    · rw [he]; exact .inr ⟨hab, e, rfl, hb⟩
  | @err e d =>
    left
    cases d with
    | replay b i r => rfl
    | live q inq =>
      simp only [strip, CurSim.fromSingleK]
      by_cases hq : q.synthesizedNull = true <;> simp [hq, Cur.lastLoc]
  | @breach e d y hab hb hns =>
    right
    cases d with
    | replay b i r => exact ⟨hab, e, rfl, hb⟩
    | live q inq =>
      have : q.synthesizedNull = false := hns
      simp only [CurSim.fromSingleK, this]
      exact ⟨hab, e, rfl, hb⟩

theorem fromSingle_br {P : BP} (hcl : Closed P)
    (henf : ∀ {d : Cur}, P.Inv d → Entry.enforceSingle d = Entry.enforceSingle (strip d) ∨
      (P.ab ∧ ∃ e, Entry.enforceSingle d = some e ∧ budgetish e))
    (cfg : Cfg) (ty : Ty) (p : Pump) (items : List RawItem) (hI : P.Inv (.live p items)) :
    Entry.fromSingle cfg ty p items = Entry.fromSingle cfg ty (stripP p) items ∨
      (P.ab ∧ ∃ e, Entry.fromSingle cfg ty p items = .error e ∧ budgetish e) := by
  rw [CurSim.fromSingle_eq, CurSim.fromSingle_eq]
  exact fromSingleK_br ((bA hcl (Entry.fuelFor items.length)).deser cfg ty false false hI) henf

theorem fromSingle_rejects (cfg : Cfg) (ty : Ty) (p : Pump) (items : List RawItem)
    (hs : p.synthesizedNull = false) :
    Entry.fromSingle cfg ty p items = Entry.fromSingle cfg ty (stripP p) items ∨
      ∃ e, Entry.fromSingle cfg ty p items = .error e ∧ budgetish e :=
  (fromSingle_br closed_P1 (fun hi => (enforceSingle_br hi).imp_right fun h => ⟨trivial, h⟩) cfg ty p items
    (fun h => by rw [hs] at h; cases h)).imp_right (·.2)

theorem fromSingle_transparent_of_brun (cfg : Cfg) (ty : Ty) (p : Pump) (items : List RawItem) (es : List Ev)
    (hl : p.look = none) (hr : BRun p items es) :
    Entry.fromSingle cfg ty p items = Entry.fromSingle cfg ty (stripP p) items :=
  (fromSingle_br closed_P2 (fun hi => .inl (enforceSingle_inv2 hi)) cfg ty p items ⟨es, .inl ⟨hl, hr⟩⟩).resolve_right (·.1)

end SaphyrVerif.Lemmas.E2EBudget
