import SaphyrVerif.Model.RawGate
import SaphyrVerif.Spec.Utf16
import SaphyrVerif.Lemmas.C09
/-! The raw-byte gate (C10).  One `read` is a case analysis (`read_paths`) over closed forms of its branches (`plain_eq`,
`probe_spec`); the rest are invariants over runs of `read`: `CapInv` for the counters; `TInv` with `eofClean` for
transparency, where `TInv` pins `core` — the fields `note` works on — to their value after the bytes handed on so far,
so that the flag `at_end` tests is `endsInsideChar` of those bytes (`flag_eq_spec`); and `Serves` for a reader that
delivers non-empty pieces. -/
namespace SaphyrVerif.Lemmas.C10Gate
open SaphyrVerif SaphyrVerif.Reader SaphyrVerif.Spec.Utf16 SaphyrVerif.Lemmas.C09

/-- the part of the state `note` reads and writes -/
def core (g : Gate) : Nat × RawEnc × Nat × Option Nat × Bool :=
  (g.pulled, g.encoding, g.first, g.half, g.highPending)

theorem note_fields (g : Gate) (b : Nat) :
    (g.note b).inner = g.inner ∧ (g.note b).limit = g.limit ∧ (g.note b).tripped = g.tripped ∧
    (g.note b).taken = g.taken ∧ (g.note b).pulled = g.pulled + 1 := by
  unfold Gate.note
  cases g.encoding <;> simp only [] <;> (try split) <;> simp

theorem noteAll_fields : ∀ (bs : List Nat) (g : Gate),
    (g.noteAll bs).inner = g.inner ∧ (g.noteAll bs).limit = g.limit ∧ (g.noteAll bs).tripped = g.tripped ∧
    (g.noteAll bs).taken = g.taken ∧ (g.noteAll bs).pulled = g.pulled + bs.length
  | [], g => by simp [Gate.noteAll]
  | b :: bs, g => by
    obtain ⟨h1, h2, h3, h4, h5⟩ := noteAll_fields bs (g.note b)
    obtain ⟨k1, k2, k3, k4, k5⟩ := note_fields g b
    simp only [Gate.noteAll, List.length_cons]
    refine ⟨h1.trans k1, h2.trans k2, h3.trans k3, h4.trans k4, ?_⟩
    rw [h5, k5]; omega

theorem note_core {g h : Gate} (b : Nat) (hc : core g = core h) : core (g.note b) = core (h.note b) := by
  simp only [core, Prod.mk.injEq] at hc
  obtain ⟨h1, h2, h3, h4, h5⟩ := hc
  unfold Gate.note core
  rw [h1, h2, h3, h4, h5]
  cases h.encoding <;> simp only [] <;> (try split) <;> simp [h1, h2, h3, h4, h5]

theorem noteAll_core : ∀ (bs : List Nat) {g h : Gate}, core g = core h → core (g.noteAll bs) = core (h.noteAll bs)
  | [], _, _, hc => by simpa [Gate.noteAll] using hc
  | b :: bs, _, _, hc => by
    simp only [Gate.noteAll]
    exact noteAll_core bs (note_core b hc)

theorem noteAll_append : ∀ (xs ys : List Nat) (g : Gate), g.noteAll (xs ++ ys) = (g.noteAll xs).noteAll ys
  | [], _, _ => rfl
  | x :: xs, ys, g => by simp only [List.cons_append, Gate.noteAll]; exact noteAll_append xs ys (g.note x)

theorem insideChar_core {g h : Gate} (hc : core g = core h) : g.insideChar = h.insideChar := by
  simp only [core, Prod.mk.injEq] at hc
  obtain ⟨_, h2, _, h4, h5⟩ := hc
  simp [Gate.insideChar, h2, h4, h5]

theorem atEnd_core {g h : Gate} (hc : core g = core h) : g.atEnd = h.atEnd := by
  simp [Gate.atEnd, insideChar_core hc]

theorem cutAfterBom_cons_cons (be : Bool) (a b c : Nat) (rest : List Nat) :
    cutAfterBom be (a :: b :: c :: rest) = cutAfterBom be (c :: rest) := by
  cases rest with
  | nil => simp [cutAfterBom]
  | cons d r =>
    simp only [cutAfterBom, units, List.length_cons, List.getLast?_cons_cons]
    congr 1
    rw [show (r.length + 1 + 1 + 1 + 1) % 2 = (r.length + 1 + 1) % 2 from Nat.add_mod_right (r.length + 1 + 1) 2]

theorem flag_after_bom (be : Bool) : ∀ (rest : List Nat) (g : Gate),
    g.encoding = (if be then .utf16be else .utf16le) → g.half = none →
    (g.noteAll rest).insideChar = (if rest = [] then g.highPending else cutAfterBom be rest)
  | [], g, he, hh => by
    cases be <;> simp [Gate.noteAll, Gate.insideChar, he, hh]
  | [a], g, he, hh => by
    cases be <;> simp [Gate.noteAll, Gate.note, Gate.insideChar, he, hh, cutAfterBom]
  | a :: b :: rest, g, he, hh => by
    have hstep : ((g.note a).note b).encoding = (if be then .utf16be else .utf16le) ∧ ((g.note a).note b).half = none ∧
        ((g.note a).note b).highPending = isHigh (unit be a b) := by
      cases be <;> simp [Gate.note, he, hh, isHigh, unit]
    have ih := flag_after_bom be rest ((g.note a).note b) hstep.1 hstep.2.1
    simp only [Gate.noteAll] at ih ⊢
    rw [ih, hstep.2.2]
    cases rest with
    | nil => simp [cutAfterBom, units]
    | cons c r => simp [cutAfterBom_cons_cons]

theorem bomOf_cons_cons (a b : Nat) (rest : List Nat) :
    bomOf (a :: b :: rest) =
      if a = 0xFF ∧ b = 0xFE then some false else if a = 0xFE ∧ b = 0xFF then some true else none := by
  by_cases h1 : a = 0xFF ∧ b = 0xFE
  · obtain ⟨rfl, rfl⟩ := h1; rfl
  · by_cases h2 : a = 0xFE ∧ b = 0xFF
    · obtain ⟨rfl, rfl⟩ := h2; rfl
    · rw [if_neg h1, if_neg h2]
      unfold bomOf
      split
      · rename_i h; injection h with ha h; injection h with hb _; exact absurd ⟨ha, hb⟩ h1
      · rename_i h; injection h with ha h; injection h with hb _; exact absurd ⟨ha, hb⟩ h2
      · rfl

/-- the flag `RawGate::at_end` tests is the predicate of Spec/Utf16.lean on the bytes handed on, for a gate that was
fresh as far as `note` can tell (`hg`) -/
theorem flag_eq_spec (bs : List Nat) (g : Gate) (hg : core g = core { inner := [] }) :
    (g.noteAll bs).insideChar = endsInsideChar bs := by
  rw [insideChar_core (noteAll_core bs hg)]
  match bs with
  | [] => simp [Gate.noteAll, Gate.insideChar, endsInsideChar, bomOf]
  | [a] => simp [Gate.noteAll, Gate.note, Gate.insideChar, endsInsideChar, bomOf]
  | a :: b :: rest =>
    simp only [Gate.noteAll]
    by_cases hle : a = 0xFF ∧ b = 0xFE
    · obtain ⟨rfl, rfl⟩ := hle
      have := flag_after_bom false rest ((({ inner := [] } : Gate).note 0xFF).note 0xFE) (by simp [Gate.note]) (by simp [Gate.note])
      rw [this]
      cases rest <;> simp [endsInsideChar, bomOf, Gate.note, cutAfterBom, units]
    · by_cases hbe : a = 0xFE ∧ b = 0xFF
      · obtain ⟨rfl, rfl⟩ := hbe
        have := flag_after_bom true rest ((({ inner := [] } : Gate).note 0xFE).note 0xFF) (by simp [Gate.note]) (by simp [Gate.note])
        rw [this]
        cases rest <;> simp [endsInsideChar, bomOf, Gate.note, cutAfterBom, units]
      · have hn : ((({ inner := [] } : Gate).note a).note b).encoding = .notUtf16 := by
          simp only [Gate.note]
          simp [hle, hbe]
        have hkeep : ∀ (l : List Nat) (h : Gate), h.encoding = .notUtf16 → (h.noteAll l).insideChar = false := by
          intro l
          induction l with
          | nil => intro h he; simp [Gate.noteAll, Gate.insideChar, he]
          | cons x xs ih =>
            intro h he
            simp only [Gate.noteAll]
            exact ih _ (by simp [Gate.note, he])
        rw [hkeep rest _ hn]
        have : bomOf (a :: b :: rest) = none := by rw [bomOf_cons_cons, if_neg hle, if_neg hbe]
        simp [endsInsideChar, this]

theorem endsInsideChar_bom_append (be : Bool) (l : List Nat) :
    endsInsideChar ((if be then [0xFE, 0xFF] else [0xFF, 0xFE]) ++ l) = cutAfterBom be l := by
  cases be <;> simp [endsInsideChar, bomOf]

theorem unit_unitBytes (be : Bool) (u : Nat) : ∀ rest, units be (unitBytes be u ++ rest) = u :: units be rest := by
  intro rest
  cases be
  · simp only [unitBytes, units, unit, Bool.false_eq_true, ↓reduceIte, List.cons_append, List.nil_append]
    congr 1; omega
  · simp only [unitBytes, units, unit, ↓reduceIte, List.cons_append, List.nil_append]
    congr 1; omega

theorem units_flatMap (be : Bool) : ∀ (us : List Nat), units be (us.flatMap (unitBytes be)) = us
  | [] => by simp [units]
  | u :: us => by
    rw [List.flatMap_cons, unit_unitBytes, units_flatMap be us]

theorem unitBytes_flatMap_length (be : Bool) : ∀ (us : List Nat), (us.flatMap (unitBytes be)).length = 2 * us.length
  | [] => by simp
  | u :: us => by
    rw [List.flatMap_cons, List.length_append, unitBytes_flatMap_length be us]
    cases be <;> simp [unitBytes] <;> omega

theorem unitBytes_flatMap_take (be : Bool) : ∀ (us : List Nat) (i : Nat),
    (us.flatMap (unitBytes be)).take (2 * i) = (us.take i).flatMap (unitBytes be)
  | [], i => by simp
  | u :: us, 0 => by simp
  | u :: us, i + 1 => by
    have h2 : (unitBytes be u).length = 2 := by cases be <;> simp [unitBytes]
    rw [List.flatMap_cons, List.take_append, h2, List.take_of_length_le (by omega)]
    have : 2 * (i + 1) - 2 = 2 * i := by omega
    rw [this, unitBytes_flatMap_take be us i]
    simp [List.flatMap_cons]

theorem cut_odd (be : Bool) (l : List Nat) (q : Nat) (hq : q ≤ l.length) (hodd : q % 2 = 1) :
    cutAfterBom be (l.take q) = true := by
  simp [cutAfterBom, List.length_take, Nat.min_eq_left hq, hodd]

theorem cut_after_unit (be : Bool) (us : List Nat) (i : Nat) (u : Nat) (hu : us[i]? = some u) :
    cutAfterBom be ((us.flatMap (unitBytes be)).take (2 * (i + 1))) = isHigh u := by
  have hi : i < us.length := by
    rcases Nat.lt_or_ge i us.length with h | h
    · exact h
    · rw [List.getElem?_eq_none h] at hu; cases hu
  rw [unitBytes_flatMap_take]
  simp only [cutAfterBom, units_flatMap, unitBytes_flatMap_length]
  have hl : (us.take (i + 1)).getLast? = some u := by
    rw [List.getLast?_take]
    simp [hu]
  rw [hl]
  simp

theorem cut_complete (be : Bool) (us : List Nat) :
    cutAfterBom be (us.flatMap (unitBytes be)) = true ↔ ∃ u, us.getLast? = some u ∧ isHigh u = true := by
  simp only [cutAfterBom, units_flatMap, unitBytes_flatMap_length]
  have : (2 * us.length) % 2 = 0 := by omega
  cases us.getLast? <;> simp [this]

theorem read_paths (g : Gate) (n : Nat) (hn : 0 < n) :
    (∃ l, g.limit = some l ∧ g.tripped = true ∧ g.read n = (.err kFileTooLarge, g)) ∨
    (g.limit = none ∧ g.read n = g.plain n) ∨
    (∃ l, g.limit = some l ∧ g.tripped = false ∧ 0 < min n (l - g.pulled) ∧ g.read n = g.plain (min n (l - g.pulled))) ∨
    (∃ l, g.limit = some l ∧ g.tripped = false ∧ l ≤ g.pulled ∧ g.read n = g.probe) := by
  have hn0 : (n == 0) = false := by simp; omega
  unfold Gate.read
  simp only [hn0, Bool.false_eq_true, ↓reduceIte]
  cases hl : g.limit with
  | none => exact Or.inr (Or.inl ⟨rfl, rfl⟩)
  | some l =>
    simp only []
    cases ht : g.tripped with
    | true => exact Or.inl ⟨l, rfl, rfl, by simp⟩
    | false =>
      simp only [Bool.false_eq_true, ↓reduceIte]
      by_cases hw : min n (l - g.pulled) = 0
      · have : (min n (l - g.pulled) == 0) = true := by simp [hw]
        rw [this]
        exact Or.inr (Or.inr (Or.inr ⟨l, by simp, by simp, by omega, by simp⟩))
      · have : (min n (l - g.pulled) == 0) = false := by simp [hw]
        rw [this]
        exact Or.inr (Or.inr (Or.inl ⟨l, by simp, by simp, by omega, by simp⟩))

def okBytes : ReadRes → List Nat
  | .ok bs => bs
  | .err _ => []

theorem atEnd_cases (g : Gate) : g.atEnd = .err kUnexpectedEof ∨ g.atEnd = .ok [] := by
  unfold Gate.atEnd; split
  · exact Or.inl rfl
  · exact Or.inr rfl

theorem okBytes_atEnd (g : Gate) : okBytes g.atEnd = [] := by
  rcases atEnd_cases g with h | h <;> rw [h] <;> rfl

theorem readCall_okBytes {n : Nat} {s s' : Sched} {r : ReadRes} (h : readCall n s = (r, s')) :
    okBytes r ++ flat s' = flat s ∧ (okBytes r).length ≤ n := by
  cases r with
  | ok bs => exact (readCall_flat h).1 bs rfl
  | err k => exact ⟨(readCall_flat h).2 k rfl, Nat.zero_le _⟩

/-- `plain` in closed form: the reader's answer, with `Ok(0)` replaced by what `at_end` says -/
theorem plain_eq {g : Gate} {want : Nat} {r : ReadRes} {s : Sched} (h : readCall want g.inner = (r, s)) :
    g.plain want = (if r = .ok [] then ({ g with inner := s } : Gate).atEnd else r,
      ({ g with inner := s, taken := g.taken + (okBytes r).length } : Gate).noteAll (okBytes r)) := by
  unfold Gate.plain
  rw [h]
  cases r with
  | err k => rfl
  | ok bs => cases bs <;> simp [okBytes, Gate.noteAll]

theorem okBytes_plain {g : Gate} {want : Nat} {r : ReadRes} {s : Sched} (h : readCall want g.inner = (r, s)) :
    okBytes (g.plain want).1 = okBytes r := by
  rw [plain_eq h]
  split
  · next h0 => rw [h0, okBytes_atEnd]; rfl
  · rfl

theorem probe_spec (g : Gate) :
    (∃ k s, readCall 1 g.inner = (.err k, s) ∧ g.probe = (.err k, { g with inner := s })) ∨
    (∃ s, readCall 1 g.inner = (.ok [], s) ∧ g.probe = ({ g with inner := s }.atEnd, { g with inner := s })) ∨
    (∃ b s, readCall 1 g.inner = (.ok [b], s) ∧
      g.probe = (.err kFileTooLarge, { g with inner := s, tripped := true, taken := g.taken + 1 })) := by
  unfold Gate.probe
  cases hr : readCall 1 g.inner with
  | mk r s =>
    cases r with
    | err k => exact Or.inl ⟨k, s, rfl, rfl⟩
    | ok bs =>
      cases bs with
      | nil => exact Or.inr (Or.inl ⟨s, rfl, rfl⟩)
      | cons b bs =>
        have hlen := (readCall_flat hr).1 _ rfl |>.2
        have : bs = [] := by
          cases bs with
          | nil => rfl
          | cons c cs => simp at hlen
        subst this
        exact Or.inr (Or.inr ⟨b, s, rfl, rfl⟩)

theorem plain_moves (g : Gate) (want : Nat) :
    (g.plain want).2.limit = g.limit ∧ (g.plain want).2.tripped = g.tripped ∧
    (g.plain want).2.pulled = g.pulled + (okBytes (g.plain want).1).length ∧
    (g.plain want).2.taken = g.taken + (okBytes (g.plain want).1).length ∧
    (okBytes (g.plain want).1).length ≤ want ∧
    okBytes (g.plain want).1 ++ flat (g.plain want).2.inner = flat g.inner := by
  cases h : readCall want g.inner with
  | mk r s =>
    obtain ⟨hfl, hlen⟩ := readCall_okBytes h
    obtain ⟨f1, f2, f3, f4, f5⟩ :=
      noteAll_fields (okBytes r) { g with inner := s, taken := g.taken + (okBytes r).length }
    rw [okBytes_plain h, plain_eq h]
    exact ⟨f2, f3, f5, f4, hlen, by rw [f1]; exact hfl⟩

/-- `taken` exceeds `pulled` by the one probe byte once the gate has tripped -/
def CapInv (cap : Nat) (g : Gate) : Prop :=
  g.limit = some cap ∧ g.pulled ≤ cap ∧ g.taken = g.pulled + (if g.tripped then 1 else 0)

theorem read_capInv (cap n : Nat) (g : Gate) (h : CapInv cap g) : CapInv cap (g.read n).2 := by
  obtain ⟨hl, hp, ht⟩ := h
  by_cases hn : n = 0
  · subst hn; simp [Gate.read]; exact ⟨hl, hp, ht⟩
  · rcases read_paths g n (by omega) with ⟨l, _, _, hr⟩ | ⟨hnone, _⟩ | ⟨l, hl', htr, hw, hr⟩ | ⟨l, hl', htr, hle, hr⟩
    · rw [hr]; exact ⟨hl, hp, ht⟩
    · rw [hl] at hnone; cases hnone
    · rw [hl] at hl'; cases hl'
      rw [hr]
      obtain ⟨f1, f2, f3, f4, f5, _⟩ := plain_moves g (min n (cap - g.pulled))
      exact ⟨f1.trans hl, by rw [f3]; omega, by rw [f4, f3, f2, ht]; omega⟩
    · rw [hl] at hl'; cases hl'
      rw [hr]
      rcases probe_spec g with ⟨k, s, _, he⟩ | ⟨s, _, he⟩ | ⟨b, s, _, he⟩
      · rw [he]; exact ⟨hl, hp, ht⟩
      · rw [he]; exact ⟨hl, hp, ht⟩
      · rw [he]
        refine ⟨hl, hp, ?_⟩
        simp only [ht, htr]; simp

theorem run_capInv (cap : Nat) : ∀ (reqs : List Nat) (g : Gate), CapInv cap g → CapInv cap (g.run reqs).2
  | [], g, h => by simpa [Gate.run] using h
  | n :: reqs, g, h => by
    simp only [Gate.run]
    exact run_capInv cap reqs (g.read n).2 (read_capInv cap n g h)

theorem read_taken (g : Gate) (n : Nat) :
    (flat (g.read n).2.inner).length + (g.read n).2.taken = (flat g.inner).length + g.taken := by
  by_cases hn : n = 0
  · subst hn; simp [Gate.read]
  · have hplain : ∀ want, (flat (g.plain want).2.inner).length + (g.plain want).2.taken = (flat g.inner).length + g.taken := by
      intro want
      obtain ⟨_, _, _, f4, _, f6⟩ := plain_moves g want
      rw [f4, ← f6, List.length_append]; omega
    rcases read_paths g n (by omega) with ⟨l, _, _, hr⟩ | ⟨_, hr⟩ | ⟨l, _, _, _, hr⟩ | ⟨l, _, _, _, hr⟩
    · rw [hr]
    · rw [hr]; exact hplain n
    · rw [hr]; exact hplain _
    · rw [hr]
      rcases probe_spec g with ⟨k, s, hrc, he⟩ | ⟨s, hrc, he⟩ | ⟨b, s, hrc, he⟩
      · rw [he]; have := (readCall_flat hrc).2 _ rfl; simp [this]
      · rw [he]; have := ((readCall_flat hrc).1 _ rfl).1; simp at this; simp [this]
      · rw [he]; have := ((readCall_flat hrc).1 _ rfl).1; rw [← this]; simp; omega

theorem run_taken : ∀ (reqs : List Nat) (g : Gate),
    (flat (g.run reqs).2.inner).length + (g.run reqs).2.taken = (flat g.inner).length + g.taken
  | [], g => by simp [Gate.run]
  | n :: reqs, g => by
    simp only [Gate.run]
    rw [run_taken reqs (g.read n).2, read_taken]

/-- no end-of-input result of the schedule falls inside a UTF-16 character: `pre` are the bytes delivered before;
an empty read result (`data []`) and the end of the schedule are the moments the reader says `Ok(0)` -/
def eofClean (pre : List Nat) : Sched → Bool
  | [] => !endsInsideChar pre
  | .data bs :: rest => if bs.isEmpty then !endsInsideChar pre && eofClean pre rest else eofClean (pre ++ bs) rest
  | .fail _ :: rest => eofClean pre rest

/-- data chunks are non-empty (failing calls allowed): the only `Ok(0)` is the end of the schedule -/
def noEmpty : Sched → Bool
  | [] => true
  | .data bs :: rest => !bs.isEmpty && noEmpty rest
  | .fail _ :: rest => noEmpty rest

theorem readCall_min {s : Sched} {n m : Nat} (h : (flat s).length ≤ m) : readCall (min n m) s = readCall n s := by
  cases s with
  | nil => rfl
  | cons it rest =>
    cases it with
    | fail k => rfl
    | data bs =>
      have hb : bs.length ≤ m := by simp [flat] at h; omega
      simp only [readCall]
      by_cases hn : bs.length ≤ n
      · have : bs.length ≤ min n m := by omega
        simp [hn, this]
      · have : min n m = n := by omega
        rw [this]

theorem readCall_nobytes {s : Sched} {n : Nat} (h : flat s = []) : readCall 1 s = readCall n s := by
  cases s with
  | nil => rfl
  | cons it rest =>
    cases it with
    | fail k => rfl
    | data bs =>
      have hb : bs = [] := by simp [flat] at h; exact h.1
      subst hb
      simp [readCall]

theorem eofClean_step {n : Nat} (hn : 0 < n) {pre : List Nat} {s s' : Sched} {r : ReadRes}
    (h : readCall n s = (r, s')) (hc : eofClean pre s = true) :
    (r = .ok [] → endsInsideChar pre = false) ∧ eofClean (pre ++ okBytes r) s' = true := by
  cases s with
  | nil =>
    simp [readCall] at h; obtain ⟨rfl, rfl⟩ := h
    simpa [eofClean, okBytes] using hc
  | cons it rest =>
    cases it with
    | fail k =>
      simp [readCall] at h; obtain ⟨rfl, rfl⟩ := h
      simpa [eofClean, okBytes] using hc
    | data d =>
      simp only [readCall] at h
      by_cases hle : d.length ≤ n
      · simp [hle] at h; obtain ⟨rfl, rfl⟩ := h
        cases d <;> simpa [eofClean, okBytes] using hc
      · -- a result cut to the buffer: neither piece is empty, so no new `Ok(0)` arises
        simp [hle] at h; obtain ⟨rfl, rfl⟩ := h
        have hd : d.isEmpty = false := by cases d with
          | nil => simp at hle
          | cons _ _ => rfl
        have hdrop : (d.drop n).isEmpty = false := by
          cases hd' : d.drop n with
          | nil => have := congrArg List.length hd'; simp at this; omega
          | cons _ _ => rfl
        have htake : d.take n ≠ [] := by
          intro h0
          have h1 : (d.take n).length = 0 := by rw [h0]; rfl
          rw [List.length_take] at h1; omega
        simp only [eofClean, hd, Bool.false_eq_true, ↓reduceIte] at hc
        refine ⟨fun h0 => absurd (by simpa using h0) htake, ?_⟩
        simp only [okBytes, eofClean, hdrop, Bool.false_eq_true, ↓reduceIte]
        rw [List.append_assoc, List.take_append_drop]
        exact hc

/-- `TInv pre g` (transparency invariant): the state the gate is in when `pre` has been handed on, nothing refused, and
what is left fits the cap -/
def TInv (pre : List Nat) (g : Gate) : Prop :=
  core g = core (({ inner := [] } : Gate).noteAll pre) ∧ g.tripped = false ∧
  (∀ cap, g.limit = some cap → g.pulled + (flat g.inner).length ≤ cap)

theorem TInv_insideChar {pre : List Nat} {g : Gate} (h : TInv pre g) : g.insideChar = endsInsideChar pre := by
  rw [insideChar_core h.1]
  exact flag_eq_spec pre _ rfl

theorem TInv_plain {pre : List Nat} {g : Gate} (want : Nat) (h : TInv pre g) :
    TInv (pre ++ okBytes (g.plain want).1) (g.plain want).2 := by
  obtain ⟨fl, ft, fp, _, _, ff⟩ := plain_moves g want
  refine ⟨?_, ft.trans h.2.1, fun cap hl => ?_⟩
  · cases hrc : readCall want g.inner with
    | mk r s =>
      rw [okBytes_plain hrc, plain_eq hrc, noteAll_append]
      exact noteAll_core (okBytes r) h.1
  · have := h.2.2 cap (fl ▸ hl)
    rw [← ff, List.length_append] at this
    rw [fp]; omega

theorem plain_transparent (g : Gate) (pre : List Nat) (n : Nat) (hn : 0 < n) (h : TInv pre g)
    (hc : eofClean pre g.inner = true) :
    (g.plain n).1 = (readCall n g.inner).1 ∧ (g.plain n).2.inner = (readCall n g.inner).2 ∧
    TInv (pre ++ okBytes (g.plain n).1) (g.plain n).2 ∧
    eofClean (pre ++ okBytes (g.plain n).1) (g.plain n).2.inner = true := by
  have hT := TInv_plain n h
  cases hrc : readCall n g.inner with
  | mk r s =>
    obtain ⟨hend, hcl⟩ := eofClean_step hn hrc hc
    have hin : (g.plain n).2.inner = s := by
      rw [plain_eq hrc]
      exact (noteAll_fields (okBytes r) _).1
    refine ⟨?_, hin, hT, by rw [okBytes_plain hrc, hin]; exact hcl⟩
    -- the reader's `Ok(0)` is handed on as it is: the bytes so far do not end inside a character
    rw [plain_eq hrc]
    split
    · next h0 =>
      have hi : ({ g with inner := s } : Gate).insideChar = false := (TInv_insideChar h).trans (hend h0)
      simp only [Gate.atEnd, hi, Bool.false_eq_true, ↓reduceIte, h0]
    · rfl

theorem probe_eq_plain (g : Gate) (h : flat g.inner = []) : g.probe = g.plain 1 := by
  unfold Gate.probe Gate.plain
  cases hr : readCall 1 g.inner with
  | mk r s =>
    cases r with
    | err k => rfl
    | ok bs =>
      cases bs with
      | nil => rfl
      | cons b bs =>
        have := ((readCall_flat hr).1 _ rfl).1
        rw [h] at this
        simp at this

theorem plain_congr (g : Gate) {w n : Nat} (h : readCall w g.inner = readCall n g.inner) : g.plain w = g.plain n := by
  unfold Gate.plain; rw [h]

theorem read_eq_plain (g : Gate) (n : Nat) (hn : 0 < n) (ht : g.tripped = false)
    (hfit : ∀ cap, g.limit = some cap → g.pulled + (flat g.inner).length ≤ cap) : g.read n = g.plain n := by
  rcases read_paths g n hn with ⟨_, _, h0, _⟩ | ⟨_, hr⟩ | ⟨l, hl, _, _, hr⟩ | ⟨l, hl, _, hle, hr⟩
  · rw [ht] at h0; cases h0
  · exact hr
  · have := hfit l hl
    rw [hr]; exact plain_congr g (readCall_min (by omega))
  · have := hfit l hl
    have hfl : flat g.inner = [] := List.eq_nil_of_length_eq_zero (by omega)
    rw [hr, probe_eq_plain g hfl]; exact plain_congr g (readCall_nobytes hfl)

theorem read_transparent (g : Gate) (pre : List Nat) (n : Nat) (hn : 0 < n) (h : TInv pre g)
    (hc : eofClean pre g.inner = true) :
    (g.read n).1 = (readCall n g.inner).1 ∧ (g.read n).2.inner = (readCall n g.inner).2 ∧
    TInv (pre ++ okBytes (g.read n).1) (g.read n).2 ∧
    eofClean (pre ++ okBytes (g.read n).1) (g.read n).2.inner = true := by
  rw [read_eq_plain g n hn h.2.1 h.2.2]
  exact plain_transparent g pre n hn h hc

theorem run_transparent : ∀ (reqs : List Nat) (g : Gate) (pre : List Nat), (∀ n ∈ reqs, 0 < n) → TInv pre g →
    eofClean pre g.inner = true →
    (g.run reqs).1 = (readCalls g.inner reqs).1 ∧ (g.run reqs).2.inner = (readCalls g.inner reqs).2
  | [], g, pre, _, _, _ => by simp [Gate.run, readCalls]
  | n :: reqs, g, pre, hpos, h, hc => by
    obtain ⟨a, b, c, d⟩ := read_transparent g pre n (hpos n (by simp)) h hc
    have ih := run_transparent reqs (g.read n).2 _ (fun m hm => hpos m (by simp [hm])) c d
    simp only [Gate.run, readCalls]
    rw [b] at ih
    exact ⟨by rw [a, ih.1], ih.2⟩

theorem eofClean_noEmpty : ∀ (s : Sched) (pre : List Nat), noEmpty s = true →
    eofClean pre s = !endsInsideChar (pre ++ flat s)
  | [], pre, _ => by simp [eofClean, flat]
  | .fail k :: rest, pre, h => by
    simp only [noEmpty] at h
    simp only [eofClean, flat]
    exact eofClean_noEmpty rest pre h
  | .data bs :: rest, pre, h => by
    simp only [noEmpty, Bool.and_eq_true, Bool.not_eq_eq_eq_not, Bool.not_true] at h
    simp only [eofClean, h.1, Bool.false_eq_true, ↓reduceIte, flat]
    rw [eofClean_noEmpty rest (pre ++ bs) h.2, List.append_assoc]

theorem chunked_noEmpty : ∀ (s : Sched), chunked s = true → noEmpty s = true
  | [], _ => rfl
  | .fail k :: rest, h => by simp [chunked] at h
  | .data bs :: rest, h => by
    simp only [chunked, Bool.and_eq_true] at h
    simp only [noEmpty, Bool.and_eq_true]
    exact ⟨h.1, chunked_noEmpty rest h.2⟩

theorem bomOf_prefix_none : ∀ (p q : List Nat), bomOf (p ++ q) = none → bomOf p = none
  | [], _, _ => rfl
  | [a], _, _ => by simp [bomOf]
  | a :: b :: r, q, h => by
    rw [List.cons_append, List.cons_append, bomOf_cons_cons] at h
    rw [bomOf_cons_cons]
    exact h

theorem eofClean_not_utf16 : ∀ (s : Sched) (pre : List Nat), bomOf (pre ++ flat s) = none → eofClean pre s = true
  | [], pre, h => by
    simp only [flat, List.append_nil] at h
    simp [eofClean, endsInsideChar, h]
  | .fail k :: rest, pre, h => by
    simp only [flat] at h
    simp only [eofClean]
    exact eofClean_not_utf16 rest pre h
  | .data bs :: rest, pre, h => by
    simp only [flat] at h
    simp only [eofClean]
    split
    · rename_i he
      have : bs = [] := by cases bs <;> simp_all
      subst this
      simp only [List.nil_append] at h
      have hp := bomOf_prefix_none pre (flat rest) h
      simp [endsInsideChar, hp, eofClean_not_utf16 rest pre h]
    · rw [← List.append_assoc] at h
      exact eofClean_not_utf16 rest (pre ++ bs) h

/-! ### a reader that delivers non-empty pieces: a window of bytes, then one answer for ever

On a partition into non-empty read results the gate has two regimes (more bytes than the cap allows; input that
fits), and in both it hands on non-empty pieces of a window of bytes and then gives one answer to every further call.
`Serves` says this of one `read`; `run_serves` and `drain_serves` are the two consumers, `over_serves` and
`fits_serves` the two regimes. -/

theorem read_untripped (g : Gate) (n : Nat) (hn : 0 < n) (ht : g.tripped = false) :
    (∃ want, 0 < want ∧ (∀ l, g.limit = some l → want ≤ l - g.pulled) ∧ g.read n = g.plain want) ∨
    (∃ l, g.limit = some l ∧ l ≤ g.pulled ∧ g.read n = g.probe) := by
  rcases read_paths g n hn with ⟨_, _, h0, _⟩ | ⟨hl, hr⟩ | ⟨l, hl, _, hw, hr⟩ | ⟨l, hl, _, hle, hr⟩
  · rw [ht] at h0; cases h0
  · exact Or.inl ⟨n, hn, fun l h => (by rw [hl] at h; cases h), hr⟩
  · exact Or.inl ⟨_, hw, fun l' h => (by rw [hl] at h; cases h; exact Nat.min_le_right _ _), hr⟩
  · exact Or.inr ⟨l, hl, hle, hr⟩

theorem plain_chunked {g : Gate} {want : Nat} (hc : chunked g.inner = true) (hf : flat g.inner ≠ []) (hw : 0 < want) :
    ∃ c g', c ≠ [] ∧ g.plain want = (.ok c, g') ∧ c.length ≤ want ∧ chunked g'.inner = true ∧
      c ++ flat g'.inner = flat g.inner ∧ g'.limit = g.limit ∧ g'.tripped = g.tripped ∧
      g'.pulled = g.pulled + c.length ∧ g'.taken = g.taken + c.length ∧ ∀ pre, TInv pre g → TInv (pre ++ c) g' := by
  obtain ⟨b, t, hbt⟩ := List.exists_cons_of_ne_nil hf
  obtain ⟨x, xs, s', hrc, _, hc', _⟩ := readCall_chunked hc hw hbt
  have hp : g.plain want = (.ok (x :: xs), ({ g with inner := s', taken := g.taken + (xs.length + 1) } : Gate).noteAll (x :: xs)) := by
    simp only [Gate.plain, hrc]
  have hi := (noteAll_fields (x :: xs) { g with inner := s', taken := g.taken + (xs.length + 1) }).1
  obtain ⟨f1, f2, f3, f4, f5, f6⟩ := plain_moves g want
  have hT := fun pre (h : TInv pre g) => TInv_plain want h
  rw [hp] at f1 f2 f3 f4 f5 f6 hT
  exact ⟨_, _, List.cons_ne_nil x xs, hp, f5, hi ▸ hc', f6, f1, f2, f3, f4, hT⟩

theorem probe_chunked {g : Gate} (hc : chunked g.inner = true) (hf : flat g.inner ≠ []) :
    ∃ s', g.probe = (.err kFileTooLarge, { g with inner := s', tripped := true, taken := g.taken + 1 }) := by
  obtain ⟨b, t, hbt⟩ := List.exists_cons_of_ne_nil hf
  obtain ⟨x, xs, s', hrc, hlen, _⟩ := readCall_chunked hc (Nat.lt_succ_self 0) hbt
  have hxs : xs = [] := List.eq_nil_of_length_eq_zero (by omega)
  subst hxs
  exact ⟨s', by simp only [Gate.probe, hrc]; rfl⟩

def Closed (r : ReadRes) (g : Gate) : Prop := ∀ n, 0 < n → g.read n = (r, g)

theorem run_closed {r : ReadRes} {g : Gate} (hc : Closed r g) : ∀ (reqs : List Nat), (∀ n ∈ reqs, 0 < n) →
    (g.run reqs).1 = List.replicate reqs.length r
  | [], _ => rfl
  | n :: reqs, hpos => by
    simp only [Gate.run, hc n (hpos n (by simp)), List.length_cons, List.replicate_succ]
    rw [run_closed hc reqs (fun m hm => hpos m (by simp [hm]))]

theorem closed_tripped {g : Gate} {l : Nat} (hl : g.limit = some l) (ht : g.tripped = true) :
    Closed (.err kFileTooLarge) g := by
  intro n hn
  rcases read_paths g n hn with ⟨_, _, _, hr⟩ | ⟨h0, _⟩ | ⟨_, _, h0, _⟩ | ⟨_, _, h0, _⟩
  · exact hr
  · rw [hl] at h0; cases h0
  · rw [ht] at h0; cases h0
  · rw [ht] at h0; cases h0

theorem closed_at_end {g : Gate} (hi : g.inner = []) (ht : g.tripped = false) : Closed g.atEnd g := by
  intro n hn
  have hself : ({ g with inner := [] } : Gate) = g := by cases g; simp_all
  have hplain : ∀ want, g.plain want = (g.atEnd, g) := by
    intro want
    simp only [Gate.plain, hi, readCall, hself]
  have hprobe : g.probe = (g.atEnd, g) := by
    simp only [Gate.probe, hi, readCall, hself]
  rcases read_untripped g n hn ht with ⟨_, _, _, hr⟩ | ⟨_, _, _, hr⟩
  · rw [hr, hplain]
  · rw [hr, hprobe]

/-- one `read` (non-empty buffer) from a state in `I`: a non-empty piece of the window `W g`, newly taken from the
reader, and the state stays in `I`; or the window is empty, the answer is `r` at the price of `d` more bytes, and the
gate is closed -/
def Serves (I : Gate → Prop) (W : Gate → List Nat) (r : ReadRes) (d : Nat) : Prop :=
  ∀ g n, 0 < n → I g →
    (∃ c g', c ≠ [] ∧ g.read n = (.ok c, g') ∧ I g' ∧ W g = c ++ W g' ∧ g'.taken = g.taken + c.length) ∨
    (W g = [] ∧ ∃ g', g.read n = (r, g') ∧ g'.taken = g.taken + d ∧ Closed r g')

theorem run_serves {I : Gate → Prop} {W : Gate → List Nat} {r : ReadRes} {d : Nat} (h : Serves I W r d) :
    ∀ (reqs : List Nat) (g : Gate), (∀ n ∈ reqs, 0 < n) → I g →
    ∃ (chunks : List (List Nat)) (m : Nat),
      (g.run reqs).1 = chunks.map .ok ++ List.replicate m r ∧ (∀ c ∈ chunks, c ≠ []) ∧
      (∃ rest, chunks.flatten ++ rest = W g ∧ (0 < m → rest = [])) ∧ chunks.length + m = reqs.length
  | [], g, _, _ => ⟨[], 0, by simp [Gate.run], by simp, ⟨W g, by simp, by simp⟩, rfl⟩
  | n :: reqs, g, hpos, hI => by
    have hpos' : ∀ m ∈ reqs, 0 < m := fun m hm => hpos m (by simp [hm])
    rcases h g n (hpos n (by simp)) hI with ⟨c, g', hne, hr, hI', hW, _⟩ | ⟨hW, g', hr, _, hcl⟩
    · obtain ⟨chunks, m, e1, e2, ⟨rest, e3, e4⟩, e5⟩ := run_serves h reqs g' hpos' hI'
      refine ⟨c :: chunks, m, ?_, List.forall_mem_cons.2 ⟨hne, e2⟩, ⟨rest, ?_, e4⟩, by simp only [List.length_cons]; omega⟩
      · simp only [Gate.run, hr, List.map_cons, List.cons_append, e1]
      · rw [List.flatten_cons, List.append_assoc, e3, hW]
    · refine ⟨[], reqs.length + 1, ?_, by simp, ⟨[], by simp [hW], fun _ => rfl⟩, by simp⟩
      simp only [Gate.run, hr, run_closed hcl reqs hpos', List.map_nil, List.nil_append, List.replicate_succ]

/-- the draining consumer (what the differential run compares); `hr`: `r` is a clean end or a hard error, and `e` is
what `Gate.drain` reports for it -/
theorem drain_serves {I : Gate → Prop} {W : Gate → List Nat} {r : ReadRes} {d : Nat} (h : Serves I W r d) (n : Nat)
    (hn : 0 < n) {e : Option IoKind}
    (hr : (r = .ok [] ∧ e = none) ∨ ∃ k, r = .err k ∧ (k == kInterrupted) = false ∧ e = some k) :
    ∀ (fuel : Nat) (g : Gate), I g → (W g).length < fuel →
    (Gate.drain n fuel g).1 = W g ∧ (Gate.drain n fuel g).2.1 = e ∧
    (Gate.drain n fuel g).2.2.taken = g.taken + (W g).length + d
  | 0, _, _, hf => by omega
  | fuel + 1, g, hI, hf => by
    rcases h g n hn hI with ⟨c, g', hne, hread, hI', hW, hta⟩ | ⟨hW, g', hread, hta, _⟩
    · obtain ⟨b, bs, rfl⟩ := List.exists_cons_of_ne_nil hne
      have hlen : (W g).length = (b :: bs).length + (W g').length := by rw [hW, List.length_append]
      obtain ⟨i1, i2, i3⟩ := drain_serves h n hn hr fuel g' hI' (by simp only [List.length_cons] at hlen; omega)
      simp only [Gate.drain, hread]
      exact ⟨by rw [i1, hW], i2, by rw [i3, hta, hlen]; omega⟩
    · rcases hr with ⟨rfl, rfl⟩ | ⟨k, rfl, hk, rfl⟩
      · simp only [Gate.drain, hread, hW]
        exact ⟨trivial, trivial, hta⟩
      · simp only [Gate.drain, hread, hk, hW, Bool.false_eq_true, ↓reduceIte]
        exact ⟨trivial, trivial, hta⟩

/-- the reader behind a gate that has refused nothing still holds more than the cap allows -/
structure Over (cap : Nat) (g : Gate) : Prop where
  limit : g.limit = some cap
  untripped : g.tripped = false
  chunked : chunked g.inner = true
  le : g.pulled ≤ cap
  more : cap < g.pulled + (flat g.inner).length

/-- more than `cap` bytes: the window is what the cap still allows, the answer `FileTooLarge`, and telling "exactly
`cap`" from "more" costs the probe byte -/
theorem over_serves (cap : Nat) :
    Serves (Over cap) (fun g => (flat g.inner).take (cap - g.pulled)) (.err kFileTooLarge) 1 := by
  intro g n hn ⟨hl, ht, hc, hp, hlen⟩
  have hf : flat g.inner ≠ [] := fun h => by rw [h] at hlen; exact absurd hlen (by simpa using hp)
  rcases read_untripped g n hn ht with ⟨want, hw, hwl, hr⟩ | ⟨l, hl', hle, hr⟩
  · obtain ⟨c, g', h1, h2, h3, h4, h5, h6, h7, h8, h9, _⟩ := plain_chunked hc hf hw
    have := hwl cap hl
    have hlen' : (flat g.inner).length = c.length + (flat g'.inner).length := by rw [← h5, List.length_append]
    refine Or.inl ⟨c, g', h1, hr.trans h2, ⟨h6.trans hl, h7.trans ht, h4, by omega, by omega⟩, ?_, h9⟩
    show (flat g.inner).take (cap - g.pulled) = c ++ (flat g'.inner).take (cap - g'.pulled)
    rw [← h5, List.take_append, List.take_of_length_le (by omega), h8, Nat.sub_add_eq]
  · rw [hl] at hl'; cases hl'
    obtain ⟨s', hpr⟩ := probe_chunked hc hf
    refine Or.inr ⟨?_, _, hr.trans hpr, rfl, closed_tripped (l := cap) hl rfl⟩
    show (flat g.inner).take (cap - g.pulled) = []
    rw [show cap - g.pulled = 0 by omega, List.take_zero]

/-- `total` is the whole input: what has been handed on (`pre`, tracked by `TInv`) and what the reader still holds,
which fits the cap -/
def Fits (total : List Nat) (g : Gate) : Prop :=
  chunked g.inner = true ∧ ∃ pre, TInv pre g ∧ pre ++ flat g.inner = total

theorem fits_serves (total : List Nat) :
    Serves (Fits total) (fun g => flat g.inner) (if endsInsideChar total then .err kUnexpectedEof else .ok []) 0 := by
  intro g n hn ⟨hc, pre, hT, htot⟩
  by_cases hf : flat g.inner = []
  · have hcl := closed_at_end (chunked_flat_nil hc hf) hT.2.1
    rw [Gate.atEnd, TInv_insideChar hT, show pre = total by simpa [hf] using htot] at hcl
    exact Or.inr ⟨hf, g, hcl n hn, rfl, hcl⟩
  · obtain ⟨c, g', h1, h2, _, h4, h5, _, _, _, h9, h10⟩ := plain_chunked hc hf hn
    exact Or.inl ⟨c, g', h1, (read_eq_plain g n hn hT.2.1 hT.2.2).trans h2,
      ⟨h4, pre ++ c, h10 pre hT, by rw [List.append_assoc, h5, htot]⟩, h5.symm, h9⟩

theorem length_le_flatten : ∀ (chunks : List (List Nat)), (∀ c ∈ chunks, c ≠ []) → chunks.length ≤ chunks.flatten.length
  | [], _ => by simp
  | c :: cs, h => by
    have hc : c ≠ [] := h c (by simp)
    have hc1 : 1 ≤ c.length := by cases c <;> simp_all
    have := length_le_flatten cs (fun d hd => h d (by simp [hd]))
    simp only [List.length_cons, List.flatten_cons, List.length_append]; omega

/-- a consumer that makes more calls than there are bytes to hand on reaches the error -/
theorem error_reached {chunks : List (List Nat)} {rest bs : List Nat} {m n L : Nat} (hne : ∀ c ∈ chunks, c ≠ [])
    (hfl : chunks.flatten ++ rest = bs) (hlen : bs.length ≤ L) (hsum : chunks.length + m = n) (hlong : L < n) : 0 < m := by
  have h1 := length_le_flatten chunks hne
  have h2 := congrArg List.length hfl
  rw [List.length_append] at h2
  omega

theorem asSched_oks_errs (k : IoKind) (m : Nat) : ∀ (chunks : List (List Nat)),
    asSched (chunks.map .ok ++ List.replicate (m + 1) (.err k)) =
      chunks.map .data ++ .fail k :: asSched (List.replicate m (.err k))
  | [] => by simp [asSched, List.replicate_succ]
  | c :: cs => by simp only [List.map_cons, List.cons_append, asSched]; rw [asSched_oks_errs k m cs]

theorem chunked_map_data : ∀ (chunks : List (List Nat)), (∀ c ∈ chunks, c ≠ []) → chunked (chunks.map .data) = true
  | [], _ => rfl
  | c :: cs, h => by
    have hc : c ≠ [] := h c (by simp)
    simp only [List.map_cons, chunked, Bool.and_eq_true]
    exact ⟨by cases c <;> simp_all, chunked_map_data cs (fun d hd => h d (by simp [hd]))⟩

end SaphyrVerif.Lemmas.C10Gate
