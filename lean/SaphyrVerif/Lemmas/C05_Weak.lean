import SaphyrVerif.Lemmas.C05_Cursor
import SaphyrVerif.Lemmas.C05_Weak4
/-!
Weak cursor invariant of the deserializer model (C05): for arbitrary buffers, fuel and other arguments, a
function called on a replay cursor `.replay buf i ref` that returns `.ok _ c'` leaves a replay cursor on the same
buffer and reference at an index `j ≥ i`, and between `i` and `j` the nesting depth never dropped below
`depthAt buf i - k` (`Stays buf ref i k c'`), where `k = 0` for the functions that consume whole nodes, `k = 1`
for the loop bodies that also consume the closing event of the container opened by their caller, `k = depth`
for `skipDepth` / `collectTaggedSeq`, and `k = if mapMode then 1 else 0` for `variantPayload` (inside `{ Variant: payload }`
it also consumes the closing `.mapEnd`).  `nextKey` has no `Stays` fact: where it leaves the cursor depends on the state
of the map access (`NKPost`, `nextKey_post`, `C05_Weak3`).  Here: the functions that call `deser`, read off the simultaneous
induction `weakAll` (`C05_Weak4`; what its fields say beside `Stays` is `mapEntries_flushing`, `structEntries_flushing`,
`nextValue_weak'`); the others have their `_weak` lemmas in `C05_Weak1`–`3`.
-/
namespace SaphyrVerif.Lemmas.C05
open SaphyrVerif SaphyrVerif.Scalars SaphyrVerif.Pump SaphyrVerif.De SaphyrVerif.Spec

variable {fuel : Nat} {cfg : Cfg} {buf : List Ev} {i : Nat} {ref : Option Loc} {c' : Cur}

theorem deser_weak {ty : Ty} {ik km : Bool} {v : Val}
    (h : deser fuel cfg ty ik km (.replay buf i ref) = .ok v c') : Stays buf ref i 0 c' :=
  (weakAll buf ref fuel).deser h

theorem seqElems_weak {t : Ty} {acc vs : List Val}
    (h : seqElems fuel cfg t (.replay buf i ref) acc = .ok vs c') : Stays buf ref i 0 c' :=
  (weakAll buf ref fuel).seqElems h

theorem tupleElems_weak {ts : List Ty} {acc vs : List Val}
    (h : tupleElems fuel cfg ts (.replay buf i ref) acc = .ok vs c') : Stays buf ref i 0 c' :=
  (weakAll buf ref fuel).tupleElems h

theorem deserSeqLike_weak {shape : Ty ⊕ List Ty} {v : Val}
    (h : deserSeqLike fuel cfg shape (.replay buf i ref) = .ok v c') : Stays buf ref i 0 c' :=
  (weakAll buf ref fuel).deserSeqLike h

theorem deserMapLike_weak {shape : (Ty × Ty) ⊕ (List (String × Ty) × Bool)} {v : Val}
    (h : deserMapLike fuel cfg shape (.replay buf i ref) = .ok v c') : Stays buf ref i 0 c' :=
  (weakAll buf ref fuel).deserMapLike h

theorem deserEnum_weak {name : String} {variants : List (String × VTy)} {v : Val}
    (h : deserEnum fuel cfg name variants (.replay buf i ref) = .ok v c') : Stays buf ref i 0 c' :=
  (weakAll buf ref fuel).deserEnum h

theorem nextValue_weak {vt : Ty} {m : MA} {r : Val × MA}
    (h : nextValue fuel cfg vt (.replay buf i ref) m = .ok r c') : Stays buf ref i 0 c' := by
  obtain ⟨v, m'⟩ := r
  exact ((weakAll buf ref fuel).nextValue h).1

theorem nextValue_weak' {vt : Ty} {m m' : MA} {v : Val}
    (h : nextValue fuel cfg vt (.replay buf i ref) m = .ok (v, m') c') :
    Stays buf ref i 0 c' ∧ m'.flushingMerges = m.flushingMerges ∧
      (m.pendingValue.isSome = true → c' = .replay buf i ref) :=
  (weakAll buf ref fuel).nextValue h

theorem mapEntries_weak {kt vt : Ty} {m : MA} {acc es : List (Val × Val)}
    (h : mapEntries fuel cfg kt vt (.replay buf i ref) m acc = .ok es c') : Stays buf ref i 1 c' :=
  ((weakAll buf ref fuel).mapEntries h).2

theorem mapEntries_flushing {kt vt : Ty} {m : MA} {acc es : List (Val × Val)}
    (h : mapEntries fuel cfg kt vt (.replay buf i ref) m acc = .ok es c') (hm : m.flushingMerges = true) :
    c' = .replay buf i ref :=
  ((weakAll buf ref fuel).mapEntries h).1 hm

theorem structEntries_weak {fields : List (String × Ty)} {deny : Bool} {m : MA} {acc got : List (String × Val)}
    (h : structEntries fuel cfg fields deny (.replay buf i ref) m acc = .ok got c') : Stays buf ref i 1 c' :=
  ((weakAll buf ref fuel).structEntries h).2

theorem structEntries_flushing {fields : List (String × Ty)} {deny : Bool} {m : MA} {acc got : List (String × Val)}
    (h : structEntries fuel cfg fields deny (.replay buf i ref) m acc = .ok got c') (hm : m.flushingMerges = true) :
    c' = .replay buf i ref :=
  ((weakAll buf ref fuel).structEntries h).1 hm

theorem variantPayload_weak {variants : List (String × VTy)} {vname : List Char} {vloc : Loc}
    {mapMode tagged : Bool} {v : Val}
    (h : variantPayload fuel cfg variants vname vloc mapMode tagged (.replay buf i ref) = .ok v c') :
    Stays buf ref i (if mapMode then 1 else 0) c' :=
  (weakAll buf ref fuel).variantPayload h

#print axioms deser_weak
#print axioms mapEntries_weak

end SaphyrVerif.Lemmas.C05
