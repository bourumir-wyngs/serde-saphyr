import SaphyrVerif.Lemmas.C05_Struct
import SaphyrVerif.Lemmas.DeEqns
import SaphyrVerif.Spec.SubPos
/-!
C05, enums: variant lookup; the payload node of a variant is read as the typed position `Spec.payloadTy` of its kind, in
the three notations (`Variant`, `{Variant: payload}`, `!Variant payload`); `deserEnum` at any node.  Also what `C05_Main` and
`C03_TypedC` need of `payloadTy` (`sizeOf_payloadTy`, the `tfree` equations) and `peek_inside` (`Props/C05.lean`).
-/
namespace SaphyrVerif.Lemmas.C05
open SaphyrVerif SaphyrVerif.Scalars SaphyrVerif.Pump SaphyrVerif.De SaphyrVerif.Spec

def varFnOf (cfg : Cfg) : VTy → VarFn
  | .unit => .unit
  | .newtype t => .newtype (interpAbsent t) (interp cfg t)
  | .tuple ts => .tuple (interpFns cfg ts) (ts.map acceptsByte)
  | .struct fs => .struct (fieldFns cfg fs)

theorem variantFns_nil (cfg : Cfg) : variantFns cfg [] = [] := by rw [variantFns]
theorem variantFns_cons (cfg : Cfg) (n : String) (vt : VTy) (rest : List (String × VTy)) :
    variantFns cfg ((n, vt) :: rest) = (n, varFnOf cfg vt) :: variantFns cfg rest := by
  cases vt <;> rw [variantFns] <;> rfl

theorem variantFns_eq_map (cfg : Cfg) (vs : List (String × VTy)) :
    variantFns cfg vs = vs.map fun p => (p.1, varFnOf cfg p.2) := by
  induction vs with
  | nil => rw [variantFns_nil]; rfl
  | cons q rest ih => obtain ⟨n, vt⟩ := q; rw [variantFns_cons, ih]; rfl

theorem variantFns_fst (cfg : Cfg) (vs : List (String × VTy)) : ∀ q ∈ variantFns cfg vs, ∃ p ∈ vs, p.1 = q.1 := by
  rw [variantFns_eq_map]
  intro q hq
  obtain ⟨p, hp, rfl⟩ := List.mem_map.1 hq
  exact ⟨p, hp, rfl⟩

theorem variantFrom_nil (cfg : Cfg) (vname : List Char) (p : Option ENode) (tg : Bool) :
    variantFrom cfg [] vname p tg = none := by simp [variantFrom]

theorem variantFrom_cons_ne (cfg : Cfg) (n : String) (vf : VarFn) (vs : List (String × VarFn)) (v : List Char)
    (p : Option ENode) (tg : Bool) (h : n.toList ≠ v) :
    variantFrom cfg ((n, vf) :: vs) v p tg = variantFrom cfg vs v p tg := by
  rw [variantFrom.eq_def]
  simp [h]

theorem variantFrom_cons_eq (cfg : Cfg) (n : String) (vf : VarFn) (vs : List (String × VarFn)) (v : List Char)
    (p : Option ENode) (tg : Bool) (h : n.toList = v) :
    variantFrom cfg ((n, vf) :: vs) v p tg =
      match vf, p with
      | .unit, none => some (.variant n .unit)
      | .unit, some p => if tg || isNullishNode p then some (.variant n .unit) else none
      | .newtype _ f, some p => (f p).map (.variant n)
      | .newtype absent _, none => absent.map (.variant n)
      | .tuple fs acc, some p => (tupleNode fs acc p).map (.variant n)
      | .tuple _ _, none => none
      | .struct fs, some p => (structNode cfg fs false p).map (.variant n)
      | .struct _, none => none := by
  rw [variantFrom.eq_def]
  simp only [h, bne_self_eq_false, Bool.false_eq_true, if_false]
  rfl

def variantSel (cfg : Cfg) (n : String) (vt : VTy) (p : Option ENode) (tg : Bool) : Option Val :=
  match vt, p with
  | .unit, none => some (.variant n .unit)
  | .unit, some p => if tg || isNullishNode p then some (.variant n .unit) else none
  | .newtype t, some p => (interp cfg t p).map (.variant n)
  | .newtype t, none => (interpAbsent t).map (.variant n)
  | .tuple ts, some p => (tupleNode (interpFns cfg ts) (ts.map acceptsByte) p).map (.variant n)
  | .tuple _, none => none
  | .struct fs, some p => (structNode cfg (fieldFns cfg fs) false p).map (.variant n)
  | .struct _, none => none

theorem variantFrom_eq_find (cfg : Cfg) (variants : List (String × VTy)) (vname : List Char) (p : Option ENode) (tg : Bool) :
    variantFrom cfg (variantFns cfg variants) vname p tg =
      (variants.find? (fun q => q.1.toList == vname)).bind fun q => variantSel cfg q.1 q.2 p tg := by
  induction variants with
  | nil => rw [variantFns_nil, variantFrom_nil]; rfl
  | cons q rest ih =>
    obtain ⟨n, vt⟩ := q
    rw [variantFns_cons]
    simp only [List.find?_cons]
    by_cases hn : (n.toList == vname) = true
    · rw [variantFrom_cons_eq cfg _ _ _ vname p tg (by simpa using hn)]
      simp only [hn, Option.bind_some]
      cases vt <;> cases p <;> rfl
    · rw [variantFrom_cons_ne cfg _ _ _ vname p tg (by simpa using hn)]
      simp only [hn]
      exact ih

theorem find?_variantFns (cfg : Cfg) (vname : List Char) (variants : List (String × VTy)) :
    ((variantFns cfg variants).find? (fun p => p.1.toList == vname)).isSome = (lookupField variants vname).isSome := by
  rw [variantFns_eq_map, List.find?_map, Option.isSome_map]
  show (variants.find? (fun q => q.1.toList == vname)).isSome = _
  rw [find?_eq_lookupField, Option.isSome_map]

theorem variantFrom_lookup (cfg : Cfg) (variants : List (String × VTy)) (vname : List Char) (p : Option ENode) (tg : Bool) :
    variantFrom cfg (variantFns cfg variants) vname p tg =
      (lookupField variants vname).bind fun q => variantSel cfg (String.ofList vname) q.2 p tg := by
  rw [variantFrom_eq_find, find?_eq_lookupField]
  cases lookupField variants vname <;> rfl

theorem variantSel_payload {vt : VTy} {pty : Ty} (h : payloadTy vt = some pty) (cfg : Cfg) (n : String) (p : ENode) (tg : Bool) :
    variantSel cfg n vt (some p) tg = (interp cfg pty p).map (.variant n) := by
  cases vt <;> simp only [payloadTy, Option.some.injEq, reduceCtorEq] at h <;> subst h
  · rfl
  · rw [interp]; rfl
  · rw [interp]; rfl

/-- scalar form: the position has no node -/
theorem variantSel_absent {vt : VTy} {pty : Ty} (h : payloadTy vt = some pty) (cfg : Cfg) (n : String) (tg : Bool) :
    variantSel cfg n vt none tg = (interpAbsent pty).map (.variant n) := by
  cases vt <;> simp only [payloadTy, Option.some.injEq, reduceCtorEq] at h <;> subst h <;> rfl

theorem sizeOf_payloadTy {name : String} {variants : List (String × VTy)} {nm : String} {vt : VTy} {pty : Ty}
    (hm : (nm, vt) ∈ variants) (hp : payloadTy vt = some pty) : sizeOf pty < sizeOf (Ty.enum name variants) := by
  have := List.sizeOf_lt_of_mem hm
  cases vt <;> simp only [payloadTy, Option.some.injEq, reduceCtorEq] at hp <;> subst hp <;> simp at this ⊢ <;> omega

@[simp] theorem tfreeF_nil : tfreeF [] = true := by rw [tfreeF]
@[simp] theorem tfreeF_cons (n : String) (t : Ty) (r : List (String × Ty)) : tfreeF ((n, t) :: r) = (tfree t && tfreeF r) := by
  rw [tfreeF]

theorem tfreeF_mem {fs : List (String × Ty)} (h : tfreeF fs = true) {nt : String × Ty} (hm : nt ∈ fs) : tfree nt.2 = true :=
  mem_of_andCons (f := fun nt => tfree nt.2) (fun ⟨n, t⟩ r => tfreeF_cons n t r) h hm

theorem tfree_any : tfree .any = true := by rfl

theorem tfreeV_cons (n : String) (vt : VTy) (r : List (String × VTy)) :
    tfreeV ((n, vt) :: r) = ((payloadTy vt).all tfree && tfreeV r) := by
  cases vt <;> rw [tfreeV] <;> simp [payloadTy, tfree]

theorem tfreeV_payload {vs : List (String × VTy)} (h : tfreeV vs = true) {nm : String} {vt : VTy} {pty : Ty}
    (hm : (nm, vt) ∈ vs) (hp : payloadTy vt = some pty) : tfree pty = true := by
  have := mem_of_andCons (f := fun q => (payloadTy q.2).all tfree) (fun ⟨n, vt⟩ r => tfreeV_cons n vt r) h hm
  simpa [hp] using this

theorem peek_inside (evs : List Ev) (r : Option Loc) {j : Nat} (h : j < evs.length) :
    ∃ ev, Cur.peek (.replay evs j r) = .ok (some ev) (.replay evs j r) :=
  ⟨evs[j], by simp [Cur.peek, List.getElem?_eq_getElem h]⟩

/-- the `VariantAccess` call the derived visitor makes for a variant with a payload -/
def vpInner (fuel : Nat) (cfg : Cfg) (vt : VTy) (c : Cur) : R Val :=
  match vt with
  | .unit => .ok .unit c
  | .newtype t => deser fuel cfg t false false c
  | .tuple ts => deserSeqLike fuel cfg (.inr ts) c
  | .struct fs => deserMapLike fuel cfg (.inr (fs, false)) c

/-- it reads the payload node as a position of type `payloadTy vt` (a unit of fuel earlier for tuples and structs) -/
theorem vpInner_ref {df : Bool} {cfg : Cfg} {vt : VTy} {pty : Ty} {p : ENode} (hp : payloadTy vt = some pty)
    (href : Ref df cfg pty p) {buf : List Ev} {i : Nat} (ref : Option Loc) {rest : List Ev} (h : buf.drop i = eflatten p ++ rest) :
    Evt fun fuel => NodeOut buf ref i (eflatten p).length df (interp cfg pty p) (vpInner fuel cfg vt (.replay buf i ref)) := by
  cases vt <;> simp only [payloadTy, Option.some.injEq, reduceCtorEq] at hp <;> subst hp
  · exact href buf i ref rest h
  · exact (Evt.shift (href buf i ref rest h)).mono fun fuel hn => by rw [deser] at hn; exact hn
  · exact (Evt.shift (href buf i ref rest h)).mono fun fuel hn => by rw [deser] at hn; exact hn

theorem vpInner_absent {cfg : Cfg} {vt : VTy} {pty : Ty} (hp : payloadTy vt = some pty) :
    Evt fun fuel => Expect (vpInner fuel cfg vt (.replay [] 0 none)) (interpAbsent pty) (.replay [] 0 none) := by
  cases vt <;> simp only [payloadTy, Option.some.injEq, reduceCtorEq] at hp <;> subst hp
  · exact deser_absent cfg _
  · exact (Evt.shift (deser_absent cfg (.tuple _))).mono fun fuel hn => by rw [deser] at hn; exact hn
  · exact (Evt.shift (deser_absent cfg (.struct _ false))).mono fun fuel hn => by rw [deser] at hn; exact hn

/-- the payload call, then what `variantPayload` expects behind the payload -/
def vpThen (mapMode tagged : Bool) (name : String) (g : DErr → DErr) (x : R Val) : R Val :=
  match x with
  | .err e c => .err (g e) c
  | .ok v c => vpExpectMapEnd mapMode tagged c (.variant name v)

/-- scalar form `Variant`: the payload is read from an empty source -/
theorem vpKind_absent (fuel : Nat) (cfg : Cfg) (name : String) {vt : VTy} {pty : Ty} (hp : payloadTy vt = some pty) (c : Cur) :
    vpKind fuel cfg name false false vt c =
      match vpInner fuel cfg vt (.replay [] 0 none) with
      | .err e _ => .err e c
      | .ok v _ => .ok (.variant name v) c := by
  cases vt <;> simp only [payloadTy, reduceCtorEq] at hp <;> rfl

/-- the other two forms, on a replay cursor (`g` relocates the error of a newtype payload) -/
theorem vpKind_payload (fuel : Nat) (cfg : Cfg) (name : String) {mapMode tagged : Bool} (hm : (mapMode || tagged) = true)
    {vt : VTy} {pty : Ty} (hp : payloadTy vt = some pty) (buf : List Ev) (i : Nat) (ref : Option Loc) :
    ∃ g, vpKind fuel cfg name mapMode tagged vt (.replay buf i ref) =
      vpThen mapMode tagged name g (vpInner fuel cfg vt (.replay buf i ref)) := by
  have hm' : (!mapMode && !tagged) = false := by cases mapMode <;> cases tagged <;> simp_all
  cases vt <;> simp only [payloadTy, reduceCtorEq] at hp
  · exact ⟨_, by simp only [vpKind, hm', Bool.false_eq_true, if_false, Cur.peek, vpInner]; rfl⟩
  · exact ⟨id, by simp only [vpKind, hm', Bool.false_eq_true, if_false, vpInner]; rfl⟩
  · exact ⟨id, by simp only [vpKind, hm', Bool.false_eq_true, if_false, vpInner]; rfl⟩

/-- what the enum cases need of the positions below: every payload type of `variants` at the node `p` -/
abbrev PayloadRef (df : Bool) (cfg : Cfg) (variants : List (String × VTy)) (p : ENode) : Prop :=
  ∀ nm vt pty, (nm, vt) ∈ variants → payloadTy vt = some pty → Ref df cfg pty p

/-- `variantPayload` is the lookup, then `vpKind` of the variant found; `variantFrom` over `variantFns` is the same lookup,
then `variantSel`.  So a relation `Q` of expected value and outcome that admits every error need only be shown of one
listed variant: this is how the three notations below are proved. -/
theorem variantPayload_lookup {cfg : Cfg} {variants : List (String × VTy)} {vname : List Char} (vloc : Loc) {mapMode tagged : Bool}
    {c : Cur} {p : Option ENode} {tg : Bool} {Q : Option Val → R Val → Prop} (herr : ∀ e c', Q none (.err e c'))
    (hk : ∀ vt, (String.ofList vname, vt) ∈ variants → Evt fun fuel =>
      Q (variantSel cfg (String.ofList vname) vt p tg) (vpKind fuel cfg (String.ofList vname) mapMode tagged vt c)) :
    Evt fun fuel =>
      Q (variantFrom cfg (variantFns cfg variants) vname p tg) (variantPayload fuel cfg variants vname vloc mapMode tagged c) := by
  rw [variantFrom_lookup]
  cases hl : lookupField variants vname with
  | none => exact Evt.succ (Evt.of_forall fun fuel => by rw [De.variantPayload_succ, hl]; exact herr _ _)
  | some q =>
    exact Evt.succ ((hk q.2 (mem_of_lookupField hl)).mono fun fuel h => by rw [De.variantPayload_succ, hl]; exact h)

/-- scalar form `Variant`: no payload node -/
theorem variantPayload_absent (cfg : Cfg) (variants : List (String × VTy)) (vname : List Char) (vloc : Loc) (c : Cur) :
    Evt fun fuel =>
      Expect (variantPayload fuel cfg variants vname vloc false false c)
        (variantFrom cfg (variantFns cfg variants) vname none false) c := by
  refine variantPayload_lookup vloc (Q := fun exp x => Expect x exp c) (fun e c' => isErr_err e c') fun vt _ => ?_
  cases hp : payloadTy vt with
  | none =>
    cases vt <;> simp only [payloadTy, reduceCtorEq] at hp
    exact Evt.of_forall fun fuel => by simp [vpKind, variantSel]
  | some pty =>
    refine (vpInner_absent (cfg := cfg) hp).mono fun fuel hn => ?_
    rw [variantSel_absent hp, vpKind_absent fuel cfg _ hp]
    cases ha : interpAbsent pty with
    | none => obtain ⟨e, c', he⟩ := hn.err ha; simp [he]
    | some val => simp [hn.ok ha]

/-- outcome of a payload read from its own buffer: the value, or an error -/
def TaggedOut (exp : Option Val) (x : R Val) : Prop :=
  match exp with
  | some val => ∃ c', x = .ok val c'
  | none => IsErr x

/-- the enclosing call passes the outcome on and stays at its own cursor `c`, behind the node -/
theorem TaggedOut.nodeOut {exp : Option Val} {x : R Val} {buf : List Ev} {ref : Option Loc} {i L : Nat} {df : Bool}
    {c : Cur} (hc : c = .replay buf (i + L) ref) :
    TaggedOut exp x → NodeOut buf ref i L df exp (match x with
      | .err e _ => .err e c
      | .ok val _ => .ok val c) := by
  intro h
  subst hc
  cases exp with
  | none =>
    obtain ⟨e, c', he⟩ := h
    simp only [he]
    exact NodeOut.of_err (by simp)
  | some val =>
    obtain ⟨c', he⟩ := h
    simp only [he]
    rfl

/-- `!Variant payload`: a payload read from its own buffer must be used up -/
theorem vpThen_tagged_out {df : Bool} {p : ENode} {name : String} {g : DErr → DErr} {exp : Option Val} {x : R Val} {ref : Option Loc}
    (hx : NodeOut (eflatten p) ref 0 (eflatten p).length df exp x) :
    TaggedOut (exp.map (Val.variant name)) (vpThen false true name g x) := by
  rcases hx.cases with ⟨v, hv, hx⟩ | ⟨hv, e, c, hx⟩ | ⟨hv, hd, v, j, hx, hj1, hj2⟩ <;>
    simp only [hv, hx, vpThen, vpExpectMapEnd, if_true]
  · simp only [Nat.zero_add, Cursor.peek_replay_end, Option.map_some, TaggedOut]
    exact ⟨_, rfl⟩
  · simp [TaggedOut]
  · obtain ⟨ev, hev⟩ := peek_inside (eflatten p) ref (j := j) (by omega)
    simp [hev, TaggedOut]

/-- `!Variant payload`: the payload node replayed from its own buffer -/
theorem variantPayload_tagged {df : Bool} {cfg : Cfg} {variants : List (String × VTy)} (tn : List Char) (vloc : Loc) (ref : Option Loc)
    {p : ENode} (H : PayloadRef df cfg variants p) :
    Evt fun fuel =>
      TaggedOut (variantFrom cfg (variantFns cfg variants) tn (some p) true)
        (variantPayload fuel cfg variants tn vloc false true (.replay (eflatten p) 0 ref)) := by
  refine variantPayload_lookup vloc (Q := TaggedOut) (fun e c' => isErr_err e c') fun vt hmem => ?_
  cases hp : payloadTy vt with
  | none =>
    cases vt <;> simp only [payloadTy, reduceCtorEq] at hp
    exact Evt.of_forall fun fuel => ⟨_, rfl⟩
  | some pty =>
    refine (vpInner_ref hp (H _ _ _ hmem hp) (buf := eflatten p) (i := 0) ref (rest := []) (by simp)).mono fun fuel hn => ?_
    obtain ⟨g, hg⟩ := vpKind_payload fuel cfg (String.ofList tn) (mapMode := false) (tagged := true) rfl hp (eflatten p) 0 ref
    rw [variantSel_payload hp, hg]
    exact vpThen_tagged_out hn

/-- after a payload read at index `i`: the `.mapEnd` must follow, so the single entry must be the last one -/
theorem vpThen_map_out {buf : List Ev} {ref : Option Loc} {i0 L : Nat} {df : Bool} {p : ENode} {more : List (ENode × ENode)} {i : Nat} {el : Loc}
    {rest : List Ev} {name : String} {g : DErr → DErr} {exp : Option Val} {x : R Val}
    (hdrop : buf.drop i = eflatten p ++ (eflattenE more ++ .mapEnd el :: rest)) (hi0 : i0 < i)
    (hend : i0 + L = i + (eflatten p).length + (eflattenE more).length + 1)
    (hx : NodeOut buf ref i (eflatten p).length df exp x) :
    NodeOut buf ref i0 L df (if more.isEmpty then exp.map (Val.variant name) else none) (vpThen true false name g x) := by
  have hafter := Cursor.drop_add_of_drop_eq_append hdrop
  rcases hx.cases with ⟨v, hv, hx⟩ | ⟨hv, e, c, hx⟩ | ⟨hv, hd, v, j, hx, hj1, hj2⟩ <;>
    simp only [hv, hx, vpThen, vpExpectMapEnd, Bool.false_eq_true, if_false, Bool.not_true, Option.map_none, ite_self]
  · cases more with
    | nil =>
      simp only [eflattenE_nil, List.nil_append] at hafter
      simp only [eflattenE_nil, List.length_nil, Nat.add_zero] at hend
      simp only [Cursor.next_replay_of_drop ref hafter, List.isEmpty_nil, if_true, Option.map_some, NodeOut, hend]
    | cons e more' =>
      obtain ⟨k1, v1⟩ := e
      obtain ⟨e0, tl0, hk0, hopen, -⟩ := eflatten_cons k1
      have : buf.drop (i + (eflatten p).length) = e0 :: (tl0 ++ (eflatten v1 ++ (eflattenE more' ++ .mapEnd el :: rest))) := by
        rw [hafter]; simp [hk0]
      simp only [Cursor.next_replay_of_drop ref this, List.isEmpty_cons, Bool.false_eq_true, if_false]
      cases e0 <;> simp [Ev.isOpen] at hopen <;> exact Or.inl (by simp)
  · exact Or.inl (by simp)
  · simp only [Cur.next]
    cases hb : buf[j]? with
    | none => exact Or.inl (by simp)
    | some ev =>
      cases ev with
      | mapEnd l => exact Or.inr ⟨hd, _, j + 1, rfl, by omega, by omega⟩
      | scalar => exact Or.inl (by simp)
      | seqStart => exact Or.inl (by simp)
      | seqEnd => exact Or.inl (by simp)
      | mapStart => exact Or.inl (by simp)

/-- `{Variant: payload}`: cursor at the payload `p`; `more` are the entries after it -/
theorem variantPayload_map {df : Bool} {cfg : Cfg} {variants : List (String × VTy)} {buf : List Ev} (ref : Option Loc) {i0 L : Nat}
    (vname : List Char) (vloc : Loc)
    {p : ENode} {more : List (ENode × ENode)} {i : Nat} {el : Loc} {rest : List Ev}
    (hdrop : buf.drop i = eflatten p ++ (eflattenE more ++ .mapEnd el :: rest)) (hi0 : i0 < i)
    (hend : i0 + L = i + (eflatten p).length + (eflattenE more).length + 1)
    (H : PayloadRef df cfg variants p) :
    Evt fun fuel =>
      NodeOut buf ref i0 L df (if more.isEmpty then variantFrom cfg (variantFns cfg variants) vname (some p) false else none)
        (variantPayload fuel cfg variants vname vloc true false (.replay buf i ref)) := by
  refine variantPayload_lookup vloc
    (Q := fun exp x => NodeOut buf ref i0 L df (if more.isEmpty then exp else none) x) (fun e c' => ?_) fun vt hmem => ?_
  · rw [ite_self]; exact NodeOut.of_err (isErr_err e c')
  cases hp : payloadTy vt with
  | some pty =>
    refine (vpInner_ref hp (H _ _ _ hmem hp) ref hdrop).mono fun fuel hn => ?_
    obtain ⟨g, hg⟩ := vpKind_payload fuel cfg (String.ofList vname) (mapMode := true) (tagged := false) rfl hp buf i ref
    rw [variantSel_payload hp, hg]
    exact vpThen_map_out hdrop hi0 hend hn
  | none =>
    -- a unit variant: `{Variant: ~}`
    cases vt <;> simp only [payloadTy, reduceCtorEq] at hp
    refine Evt.of_forall fun fuel => ?_
    simp only [variantSel, isNullishNode, Bool.false_or]
    cases p with
    | scalar sv stag rt st a l =>
      have h' : buf.drop i = .scalar sv stag rt st a l :: (eflattenE more ++ .mapEnd el :: rest) := by
        simpa [eflatten] using hdrop
      simp only [vpKind, Cursor.peek_replay_of_drop ref h', Cursor.next_replay_of_drop ref h', if_true]
      by_cases hn : scalarIsNullish sv st = true
      · simp only [hn, if_true]
        have hx : NodeOut buf ref i (eflatten (.scalar sv stag rt st a l)).length df (some Val.unit)
            (.ok .unit (.replay buf (i + 1) ref)) := by simp [NodeOut]
        have := vpThen_map_out (name := String.ofList vname) (g := id) hdrop hi0 hend hx
        simp only [Option.map_some] at this
        exact this
      · simp only [hn, Bool.false_eq_true, if_false, ite_self]
        exact Or.inl (by simp)
    | seq a tag rt l el' items =>
      simp only [vpKind, Cursor.peek_replay_of_drop ref (drop_seq hdrop), Bool.false_eq_true, if_false, if_true, ite_self]
      exact Or.inl (by simp)
    | map a l el' es =>
      simp only [vpKind, Cursor.peek_replay_of_drop ref (drop_map hdrop), Bool.false_eq_true, if_false, if_true, ite_self]
      exact Or.inl (by simp)

/-- `collectTaggedSeq` runs over a segment `evs` that never closes the sequence being collected (every prefix, `evs` itself
included, keeps the depth `D` positive): it copies the segment, spending one unit of fuel per event -/
theorem cts_run (evs : List Ev) : ∀ {buf : List Ev} {i : Nat} (ref : Option Loc) {tl : List Ev} (fuel D : Nat) (acc : List Ev),
    buf.drop i = evs ++ tl → (∀ k, k ≤ evs.length → 1 ≤ (D : Int) + bal (evs.take k)) →
    collectTaggedSeq (fuel + evs.length) (.replay buf i ref) D acc =
      collectTaggedSeq fuel (.replay buf (i + evs.length) ref) (((D : Int) + bal evs).toNat) (acc ++ evs) := by
  induction evs with
  | nil => intro buf i ref tl fuel D acc _ _; simp
  | cons e evs ih =>
    intro buf i ref tl fuel D acc h hD
    have hD0 : 1 ≤ D := by have := hD 0 (by simp); simp at this; omega
    have hne : (D == 0) = false := by simp; omega
    have h' : buf.drop i = e :: (evs ++ tl) := by simpa using h
    have hstep : collectTaggedSeq (fuel + (e :: evs).length) (.replay buf i ref) D acc =
        collectTaggedSeq (fuel + evs.length) (.replay buf (i + 1) ref) (((D : Int) + Ev.delta e).toNat) (acc ++ [e]) := by
      have : fuel + (e :: evs).length = (fuel + evs.length) + 1 := by simp; omega
      rw [this, collectTaggedSeq]
      simp only [hne, Bool.false_eq_true, if_false, Cursor.next_replay_of_drop ref h']
      cases e <;> simp [Ev.delta] <;> congr 1 <;> omega
    rw [hstep]
    have hcond : ∀ k, k ≤ evs.length → 1 ≤ ((((D : Int) + Ev.delta e).toNat : Nat) : Int) + bal (evs.take k) := by
      intro k hk
      have := hD (k + 1) (by simp; omega)
      simp only [List.take_succ_cons, bal_cons] at this
      have h1 := hD 1 (by simp)
      simp only [List.take_succ_cons, List.take_zero, bal_cons, bal_nil] at h1
      omega
    rw [ih ref fuel _ (acc ++ [e]) (Cursor.drop_succ_of_drop_eq_cons h') hcond]
    have h1 := hD 1 (by simp)
    simp only [List.take_succ_cons, List.take_zero, bal_cons, bal_nil] at h1
    have e1 : i + 1 + evs.length = i + (e :: evs).length := by simp; omega
    have e2 : ((((D : Int) + Ev.delta e).toNat : Nat) : Int) + bal evs = (D : Int) + bal (e :: evs) := by
      simp only [bal_cons]; omega
    rw [e1, e2]; simp

/-- the events of a tagged sequence, with the tag removed -/
theorem collectTaggedSeq_spec {buf : List Ev} {i : Nat} (ref : Option Loc) {el : Loc} {rest : List Ev} (items : List ENode)
    (a : Nat) (l : Loc) (h : buf.drop i = eflattenL items ++ .seqEnd el :: rest) (fuel : Nat)
    (hf : (eflattenL items).length + 2 ≤ fuel) :
    collectTaggedSeq fuel (.replay buf i ref) 1 [.seqStart a tagNone none l] =
      .ok (eflatten (.seq a tagNone none l el items)) (.replay buf (i + (eflattenL items).length + 1) ref) := by
  obtain ⟨f, rfl⟩ : ∃ f, fuel = (f + 2) + (eflattenL items).length := ⟨fuel - 2 - (eflattenL items).length, by omega⟩
  rw [cts_run (eflattenL items) ref (f + 2) 1 _ h (fun k _ => by have := (eflattenL_bal items).2 k; omega)]
  have hend := Cursor.drop_add_of_drop_eq_append h
  simp only [(eflattenL_bal items).1, Int.add_zero, Int.toNat_natCast]
  rw [collectTaggedSeq]
  simp only [Cursor.next_replay_of_drop ref hend]
  rw [collectTaggedSeq]
  simp [eflatten]

theorem enumFrom_map_nil (cfg : Cfg) (name : String) (vs : List (String × VarFn)) (a : Nat) (l el : Loc) :
    enumFrom cfg name vs (.map a l el []) = none := by simp [enumFrom]

theorem enumFrom_map_seqKey (cfg : Cfg) (name : String) (vs : List (String × VarFn)) (a : Nat) (l el : Loc)
    (ka ktag : Nat) (krt : Option (List Char)) (kl kel : Loc) (kitems : List ENode) (p : ENode) (more : List (ENode × ENode)) :
    enumFrom cfg name vs (.map a l el ((.seq ka ktag krt kl kel kitems, p) :: more)) = none := by simp [enumFrom]

theorem enumFrom_map_mapKey (cfg : Cfg) (name : String) (vs : List (String × VarFn)) (a : Nat) (l el : Loc)
    (ka : Nat) (kl kel : Loc) (kes : List (ENode × ENode)) (p : ENode) (more : List (ENode × ENode)) :
    enumFrom cfg name vs (.map a l el ((.map ka kl kel kes, p) :: more)) = none := by simp [enumFrom]

theorem enumFrom_map_scalarKey (cfg : Cfg) (name : String) (vs : List (String × VarFn)) (a : Nat) (l el : Loc)
    (kv : List Char) (ktag : Nat) (krt : Option (List Char)) (kst : Style) (ka : Nat) (kl : Loc) (p : ENode)
    (more : List (ENode × ENode)) :
    enumFrom cfg name vs (.map a l el ((.scalar kv ktag krt kst ka kl, p) :: more)) =
      if more.isEmpty then
        (if (cfg.noSchema && ktag != tagString && maybeNotString kv kst) = true then none
         else variantFrom cfg vs kv (some p) false)
      else none := by
  cases more <;> simp [enumFrom]

theorem ref_enum {cfg : Cfg} {df : Bool} {name : String} {variants : List (String × VTy)} {t : ENode} (hk : kfree t = true)
    (hP : ∀ p, depthOf p ≤ depthOf t → kfree p = true → PayloadRef df cfg variants p) : Ref df cfg (.enum name variants) t := by
  intro buf i ref rest h
  suffices hs : Evt fun fuel => NodeOut buf ref i (eflatten t).length df (enumFrom cfg name (variantFns cfg variants) t)
      (deserEnum fuel cfg name variants (.replay buf i ref)) from
    Evt.succ (hs.mono fun fuel hn => by rw [deser, interp]; exact hn)
  cases t with
  | scalar v tag rawTag st a l =>
    have h' := drop_scalar h
    -- the tagged payload: the scalar itself as a `!!str` scalar
    have HP := hP (.scalar v tagString none st a l) (by simp) (by rw [kfree])
    have hA := variantPayload_absent cfg variants v l (.replay buf (i + 1) ref)
    simp only [enumFrom, find?_variantFns]
    by_cases hq : (cfg.noSchema && tag != tagString && maybeNotString v st) = true
    · refine Evt.succ (Evt.of_forall fun fuel => ?_)
      rw [deserEnum]
      simp only [Cursor.peek_replay_of_drop ref h', Cursor.next_replay_of_drop ref h', hq, if_true]
      exact NodeOut.of_err (by simp)
    · simp only [hq, Bool.false_eq_true, if_false]
      cases htg : simpleTaggedEnumName rawTag tag with
      | none =>
        refine Evt.succ (Evt.mono hA fun fuel hA => ?_)
        rw [deserEnum]
        simp only [Cursor.peek_replay_of_drop ref h', Cursor.next_replay_of_drop ref h', hq, htg, Bool.false_eq_true, if_false]
        exact NodeOut.of_expect (by simpa using hA)
      | some tn =>
        cases hs : (lookupField variants tn).isSome with
        | false =>
          refine Evt.succ (Evt.mono hA fun fuel hA => ?_)
          rw [deserEnum]
          simp only [Cursor.peek_replay_of_drop ref h', Cursor.next_replay_of_drop ref h', hq, htg, hs, Bool.false_eq_true, if_false]
          by_cases hnm : (String.ofList tn != name) = true
          · simp only [hnm, if_true]
            exact NodeOut.of_err (by simp)
          · simp only [hnm, Bool.false_eq_true, if_false]
            exact NodeOut.of_expect (by simpa using hA)
        | true =>
          refine Evt.succ (Evt.mono (variantPayload_tagged tn l (tagUseSite (.replay buf i ref) l) HP)
            fun fuel hT => ?_)
          have e1 : eflatten (.scalar v tagString none st a l) = [.scalar v tagString none st a l] := by simp [eflatten]
          rw [e1] at hT
          rw [deserEnum]
          simp only [Cursor.peek_replay_of_drop ref h', Cursor.next_replay_of_drop ref h', hq, htg, hs, Bool.false_eq_true, if_false, if_true]
          exact hT.nodeOut (by simp [eflatten])
  | seq a tag rawTag l el items =>
    have h' := drop_seq h
    have h1 := Cursor.drop_succ_of_drop_eq_cons h'
    simp only [enumFrom, find?_variantFns]
    have HP := hP (.seq a tagNone none l el items) (by simp) (by simpa using hk)
    cases htg : simpleTaggedEnumName rawTag tag with
    | none =>
      refine Evt.succ (Evt.of_forall fun fuel => ?_)
      rw [deserEnum]
      simp only [Cursor.peek_replay_of_drop ref h', htg]
      exact NodeOut.of_err (by simp)
    | some tn =>
      cases hs : (lookupField variants tn).isSome with
      | false =>
        refine Evt.succ (Evt.of_forall fun fuel => ?_)
        rw [deserEnum]
        simp only [Cursor.peek_replay_of_drop ref h', htg, hs, Bool.false_eq_true, if_false]
        exact NodeOut.of_err (by simp)
      | true =>
        refine Evt.succ (Evt.mono (Evt.and
          (variantPayload_tagged tn l (tagUseSite (.replay buf i ref) l) HP)
          ⟨_, collectTaggedSeq_spec ref items a l h1⟩)
          fun fuel ⟨hT, hcts⟩ => ?_)
        rw [deserEnum]
        simp only [Cursor.peek_replay_of_drop ref h', Cursor.next_replay_of_drop ref h', htg, hs, if_true, hcts]
        refine hT.nodeOut ?_
        simp only [C04.eflatten_seq_length]
        congr 1; omega
  | map a l el entries =>
    have h' := drop_map h
    have h1 := Cursor.drop_succ_of_drop_eq_cons h'
    cases entries with
    | nil =>
      refine Evt.succ (Evt.of_forall fun fuel => ?_)
      simp only [eflattenE_nil, List.nil_append] at h1
      rw [deserEnum, enumFrom_map_nil]
      simp only [Cursor.peek_replay_of_drop ref h', Cursor.next_replay_of_drop ref h', Cursor.next_replay_of_drop ref h1]
      exact NodeOut.of_err (by simp)
    | cons e more =>
      obtain ⟨k, p⟩ := e
      simp only [eflattenE_cons, List.append_assoc] at h1
      cases k with
      | seq ka ktag krt kl kel kitems =>
        refine Evt.succ (Evt.of_forall fun fuel => ?_)
        have h2 := drop_seq (rest := eflatten p ++ (eflattenE more ++ .mapEnd el :: rest)) h1
        rw [deserEnum, enumFrom_map_seqKey]
        simp only [Cursor.peek_replay_of_drop ref h', Cursor.next_replay_of_drop ref h', Cursor.next_replay_of_drop ref h2]
        exact NodeOut.of_err (by simp)
      | map ka kl kel kes =>
        refine Evt.succ (Evt.of_forall fun fuel => ?_)
        have h2 := drop_map (rest := eflatten p ++ (eflattenE more ++ .mapEnd el :: rest)) h1
        rw [deserEnum, enumFrom_map_mapKey]
        simp only [Cursor.peek_replay_of_drop ref h', Cursor.next_replay_of_drop ref h', Cursor.next_replay_of_drop ref h2]
        exact NodeOut.of_err (by simp)
      | scalar kv ktag krt kst ka kl =>
        have h2 := drop_scalar (rest := eflatten p ++ (eflattenE more ++ .mapEnd el :: rest)) h1
        have h3 := Cursor.drop_succ_of_drop_eq_cons h2
        have hkfE : kfreeE ((ENode.scalar kv ktag krt kst ka kl, p) :: more) = true := by simpa using hk
        simp only [kfreeE_cons, Bool.and_eq_true] at hkfE
        have hdp : depthOf p < depthOf (.map a l el ((ENode.scalar kv ktag krt kst ka kl, p) :: more)) := by
          simp; omega
        have HP := hP p (by omega) hkfE.1.2
        rw [enumFrom_map_scalarKey]
        refine Evt.succ (Evt.mono
          (variantPayload_map (cfg := cfg) (variants := variants) ref (i0 := i)
            (L := (eflatten (.map a l el ((ENode.scalar kv ktag krt kst ka kl, p) :: more))).length) kv kl (i := i + 1 + 1) h3
            (by omega) (by simp [eflatten]; omega) HP)
          fun fuel hM => ?_)
        rw [deserEnum]
        simp only [Cursor.peek_replay_of_drop ref h', Cursor.next_replay_of_drop ref h', Cursor.next_replay_of_drop ref h2]
        by_cases hq : (cfg.noSchema && ktag != tagString && maybeNotString kv kst) = true
        · simp only [hq, if_true]
          rw [ite_self]
          exact NodeOut.of_err (by simp)
        · simp only [hq, Bool.false_eq_true, if_false]
          exact hM

end SaphyrVerif.Lemmas.C05
