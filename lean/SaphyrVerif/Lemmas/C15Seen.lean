import SaphyrVerif.Lemmas.DeEqns
/-!
C15, clause "no hash seed survives": the duplicate-key set `seen` of the map access (`FastHashSet<KeyFingerprint>`
in `de.rs`, a list in `Model/De.lean`) is used for membership tests and insertion only. Hence
`MA::next_key_seed` computes the same thing for any two representations of the same set
(order, duplicates, hash seed, iteration order are unobservable): proved piece by piece over the pieces of
`nextKey` named in `DeEqns`.
-/
namespace SaphyrVerif.De

/-- two representations of the same set of fingerprints -/
def SeenEq (a b : List FP) : Prop := ∀ fp, a.any (· == fp) = b.any (· == fp)

def reSeen (s' : List FP) : R (KeyStep × MA) → R (KeyStep × MA)
  | .ok (.key kv fp, m) c => .ok (.key kv fp, { m with seen := fp :: s' }) c
  | .ok (.done, m) c => .ok (.done, { m with seen := s' }) c
  | .err e c => .err e c

theorem seenContains_congr (m : MA) (s' : List FP) (hs : SeenEq s' m.seen) (fp : FP) :
    MA.seenContains { m with seen := s' } fp = m.seenContains fp := hs fp

/-- `f` does the same on two representations of the same set, up to the representation it hands back -/
def SeenPar (f : MA → R (KeyStep × MA)) : Prop :=
  ∀ (m : MA) (s' : List FP), SeenEq s' m.seen → f { m with seen := s' } = reSeen s' (f m)

variable {n : Nat} {cfg : Cfg} {ks : Ty ⊕ Unit}

theorem nkPending_par (ih : ∀ c, SeenPar (nextKey n cfg ks c)) (c : Cur) (entry : PendingEntry) :
    SeenPar (fun m => nkPending n cfg ks c m entry) := by
  intro ⟨hk, seen, pending, ms, fl, pv⟩ s' hs
  have hc : MA.seenContains ⟨hk, s', pending, ms, fl, pv⟩ entry.key.fp =
      MA.seenContains ⟨hk, seen, pending, ms, fl, pv⟩ entry.key.fp := hs _
  dsimp only [nkPending]
  rw [hc]
  generalize (if fl = true then _ else _ : Option (Option DErr)) = sk
  generalize deserKey n cfg ks _ _ = dk
  match sk with
  | some (some e) => rfl
  | some none => exact ih c ⟨hk, seen, pending, ms, fl, pv⟩ s' hs
  | none =>
    match dk with
    | .error e => rfl
    | .ok kv => rfl

/-- what `enqueue_next_merge_batch` does is independent of `seen` -/
theorem nkFlush_par (ih : ∀ c, SeenPar (nextKey n cfg ks c)) (c : Cur) : SeenPar (nkFlush n cfg ks c) := by
  intro m s' hs
  have hen : enqueueNextMergeBatch { m with seen := s' } =
      ((enqueueNextMergeBatch m).1, { (enqueueNextMergeBatch m).2 with seen := s' }) := by
    simp [enqueueNextMergeBatch]
  have hE : (enqueueNextMergeBatch m).2.seen = m.seen := by simp [enqueueNextMergeBatch]
  unfold nkFlush
  rw [hen]
  generalize enqueueNextMergeBatch m = e at hE ⊢
  obtain ⟨found, m2⟩ := e
  dsimp only at hE ⊢
  cases found
  · rfl
  · exact ih c m2 s' (hE ▸ hs)

theorem nkEnd_par (ih : ∀ c, SeenPar (nextKey n cfg ks c)) (c : Cur) : SeenPar (nkEnd n cfg ks c) := by
  intro ⟨hk, seen, pending, ms, fl, pv⟩ s' hs
  unfold nkEnd
  cases ms with
  | nil => rfl
  | cons b bs => exact nkFlush_par ih c ⟨hk, seen, pending, b :: bs, true, pv⟩ s' hs

theorem nkMerge_par (ih : ∀ c, SeenPar (nextKey n cfg ks c)) (c : Cur) : SeenPar (nkMerge n cfg ks c) := by
  intro m s' hs
  unfold nkMerge
  cases c.peek with
  | err e c1 => rfl
  | ok a c1 =>
    dsimp only
    cases pendingFromLive n c1 c1.refLoc with
    | err e c2 => rfl
    | ok entries c2 =>
      dsimp only
      cases entries with
      | nil => exact ih c2 m s' hs
      | cons x xs => exact ih c2 { m with mergeStack := (x :: xs) :: m.mergeStack } s' hs

theorem nkDeliver_par (ih : ∀ c, SeenPar (nextKey n cfg ks c)) (c : Cur) (keyNode : KeyNode) :
    SeenPar (fun m => nkDeliver n cfg ks c m keyNode) := by
  intro m s' hs
  dsimp only [nkDeliver]
  refine rel_ite (R := fun a b => a = reSeen s' b) (fun _ => ?_) (fun _ => ?_)
  · cases c.peek with
    | err e c1 => rfl
    | ok a c1 =>
      dsimp only
      cases capture n c1 with
      | err e c2 => rfl
      | ok valueNode c2 => exact ih c2 { m with pending := ⟨keyNode, valueNode, c1.refLoc⟩ :: m.pending } s' hs
  · cases deserKey n cfg ks _ _ with
    | error e => rfl
    | ok kv => rfl

theorem nkKey_par (ih : ∀ c, SeenPar (nextKey n cfg ks c)) (c : Cur) (keyIsAlias : Bool) (keyNode : KeyNode) :
    SeenPar (fun m => nkKey n cfg ks c m keyIsAlias keyNode) := by
  intro m s' hs
  dsimp only [nkKey]
  rw [seenContains_congr m s' hs]
  refine rel_ite (R := fun a b => a = reSeen s' b) (fun _ => rfl) (fun _ => ?_)
  refine rel_ite (R := fun a b => a = reSeen s' b) (fun _ => ?_) (fun _ => nkDeliver_par ih c keyNode m s' hs)
  -- a duplicate that is skipped: the value is passed over
  cases skipOneNode n c with
  | err e c1 => rfl
  | ok a c1 => exact ih c1 m s' hs

theorem nkLive_par (ih : ∀ c, SeenPar (nextKey n cfg ks c)) (c : Cur) : SeenPar (nkLive n cfg ks c) := by
  intro m s' hs
  unfold nkLive
  cases c.peek with
  | err e c1 => rfl
  | ok pk c1 =>
    cases pk with
    | none => rfl
    | some ev =>
      cases ev
      case mapEnd loc =>
        dsimp only
        cases c1.next with
        | err e c2 => rfl
        | ok a c2 => exact nkEnd_par ih c2 m s' hs
      -- any other event starts a key: the arm does not look at the event
      all_goals
        dsimp only
        cases capture n c1 with
        | err e c2 => rfl
        | ok keyNode c2 =>
          dsimp only
          cases isMergeKey keyNode
          · exact nkKey_par ih c2 c1.atAlias keyNode m s' hs
          · exact nkMerge_par ih c2 m s' hs

theorem nextKey_reSeen : ∀ fuel cfg ks c, SeenPar (nextKey fuel cfg ks c) := by
  intro fuel
  induction fuel with
  | zero => intro cfg ks c m s' _; simp [nextKey, reSeen]
  | succ n ih =>
    intro cfg ks c ⟨hk, seen, pending, ms, fl, pv⟩ s' hs
    rw [nextKey_succ, nextKey_succ]
    cases pending with
    | cons entry rest => exact nkPending_par (ih cfg ks) c entry ⟨hk, seen, rest, ms, fl, pv⟩ s' hs
    | nil =>
      cases fl
      · exact nkLive_par (ih cfg ks) c ⟨hk, seen, [], ms, false, pv⟩ s' hs
      · exact nkFlush_par (ih cfg ks) c ⟨hk, seen, [], ms, true, pv⟩ s' hs

theorem SeenEq.of_perm {a b : List FP} (h : a.Perm b) : SeenEq a b := fun _ => h.any_eq

end SaphyrVerif.De
