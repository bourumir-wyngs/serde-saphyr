import SaphyrVerif.Lemmas.PumpStep
/-!
Facts of every call of `next_impl` (the inject loop `serveInject`, then the parser loop `parserLoop`), read off the lists
of `Lemmas/PumpStep.lean`: what a call never writes (`frame`), what it can only set (`produced_any_in_doc`), where it leaves
`last_location` when it delivers an event, that it only moves forward in the parser items, and which predicates on the
optional budget enforcer it keeps.  Everything here holds for every pump state and every input, whatever the call answers.
`frame`, `last_location`, `produced_any_in_doc` and the enforcer's predicates are stated for an answer of the inject loop
(`Served`), an item (`Item`), the parser loop (`Loop`) and the call; `synthesized_null_emitted` (`syn`) for `Served` and `Item`
only — the parser loop and the call are `loop_syn` / `nextImpl_syn` of `Lemmas/E2EBudget.lean`.
-/
namespace SaphyrVerif.Pump
open SaphyrVerif SaphyrVerif.Scalars SaphyrVerif.Budget
open SaphyrVerif.Lemmas.E2EBudget (Obs)

theorem nextImpl_of_inject_nil {p : Pump} (h : p.inject = []) (inp : List RawItem) :
    nextImpl p inp = parserLoop p inp := by
  cases p
  cases h
  rfl

theorem nextImpl_done {p : Pump} (hi : p.inject = []) (hp : p.producedAny = true) : nextImpl p [] = (.eof, p, []) := by
  rw [nextImpl_of_inject_nil hi, parserLoop_nil, if_neg (by rw [hp]; exact Bool.noConfusion)]

theorem lookupCount_cons (cs : List (Nat × Nat)) (id c id' : Nat) :
    lookupCount ((id, c) :: cs) id' = if id = id' then c else lookupCount cs id' := by
  simp only [lookupCount, List.find?_cons]
  by_cases h : id = id'
  · simp [h]
  · have : (id == id') = false := by simpa using h
    simp [h, this]

/-- the fields no call of `next_impl` writes: the look-ahead slot (it belongs to `next` / `peek`), the alias
limits, the recursion wrappers in progress, the single-document mode -/
def frame (p : Pump) : Option Ev × AliasLimits × List Nat × Bool :=
  (p.look, p.limits, p.recursiveInProgress, p.stopAtDocEnd)

theorem Served.frame {p : Pump} {fs : List InjectFrame} {r : Option Step} {p' : Pump} (h : Served p fs r p') :
    frame p' = frame p := by
  cases h <;> rfl

theorem Item.frame {p : Pump} {loc : Loc} {raw : Raw} {o : ItemOut} (h : Item p loc raw o) : frame o.pump = frame p := by
  cases h with
  | replay id buf hc hd ho hl hs => exact hs.frame
  | _ => rfl

theorem Loop.frame {p : Pump} {inp : List RawItem} {s : Step} {p' : Pump} {rest : List RawItem}
    (h : Loop p inp s p' rest) : frame p' = frame p := by
  induction h with
  | null | eof | scan | breach => rfl
  | ret rest hb hi => exact hi.frame
  | stop rest hb hi => exact hi.frame
  | pass hb hi _ ih => exact ih.trans hi.frame

theorem nextImpl_frame (p : Pump) (inp : List RawItem) : frame (nextImpl p inp).2.1 = frame p := by
  rcases h : nextImpl p inp with ⟨s, p', rest⟩
  cases call_of h with
  | served hs => exact hs.frame
  | loop _ hl => exact hl.frame

theorem nextImpl_look (p : Pump) (inp : List RawItem) : (nextImpl p inp).2.1.look = p.look :=
  congrArg (·.1) (nextImpl_frame p inp)

theorem nextImpl_limits (p : Pump) (inp : List RawItem) : (nextImpl p inp).2.1.limits = p.limits :=
  congrArg (·.2.1) (nextImpl_frame p inp)

theorem nextImpl_rip (p : Pump) (inp : List RawItem) :
    (nextImpl p inp).2.1.recursiveInProgress = p.recursiveInProgress :=
  congrArg (·.2.2.1) (nextImpl_frame p inp)

theorem nextImpl_sade (p : Pump) (inp : List RawItem) : (nextImpl p inp).2.1.stopAtDocEnd = p.stopAtDocEnd :=
  congrArg (·.2.2.2) (nextImpl_frame p inp)

/-- only the end of the parser stream sets `synthesized_null_emitted` (`Loop.null`) -/
theorem Served.syn {p : Pump} {fs : List InjectFrame} {r : Option Step} {p' : Pump} (h : Served p fs r p') :
    p'.synthesizedNull = p.synthesizedNull := by
  cases h <;> rfl

theorem Item.syn {p : Pump} {loc : Loc} {raw : Raw} {o : ItemOut} (h : Item p loc raw o) :
    o.pump.synthesizedNull = p.synthesizedNull := by
  cases h with
  | replay id buf hc hd ho hl hs => exact (hs.syn :)
  | _ => rfl

theorem Item.cont_inject {p : Pump} {loc : Loc} {raw : Raw} {p1 : Pump} (h : Item p loc raw (.cont p1))
    (hi : p.inject = []) : p1.inject = [] := by
  cases h <;> first | rfl | exact hi

theorem serveInject_none {p : Pump} {fs : List InjectFrame} {p' : Pump}
    (h : serveInject p fs = (none, p')) : p' = { p with inject := [] } := by
  cases served_of h
  rfl

theorem serveInject_live_top (p : Pump) (fr : InjectFrame) (frs : List InjectFrame) (buf : List Ev)
    (hb : lookupAnchor p.anchors fr.anchorId = some buf) (hidx : fr.idx < buf.length) :
    ∃ s q, serveInject p (fr :: frs) = (some s, q) ∧ q.inject = { fr with idx := fr.idx + 1 } :: frs ∧
      q.anchors = p.anchors ∧ q.look = p.look ∧ (s = .event buf[fr.idx] ∨ ∃ e, s = .error e) := by
  by_cases hm : p.totalReplayed + 1 > p.limits.maxTotalReplayedEvents
  · exact ⟨_, _, (Served.limit [] fr frs buf rfl (List.forall_mem_nil _) hb hidx hm).eq, rfl, rfl, rfl, .inr ⟨_, rfl⟩⟩
  · cases hr : budgetStep p.budget (.raw (replayRaw buf[fr.idx])) with
    | error b =>
      exact ⟨_, _, (Served.breach [] fr frs buf b rfl (List.forall_mem_nil _) hb hidx (Nat.le_of_not_gt hm) hr).eq, rfl, rfl, rfl,
        .inr ⟨_, rfl⟩⟩
    | ok bud =>
      exact ⟨_, _, (Served.event [] fr frs buf bud rfl (List.forall_mem_nil _) hb hidx (Nat.le_of_not_gt hm) hr).eq, rfl, rfl, rfl, .inl rfl⟩

theorem Served.event_loc {p : Pump} {fs : List InjectFrame} {e : Ev} {p' : Pump}
    (h : Served p fs (some (.event e)) p') : p'.lastLoc = e.loc ∧ p'.producedAny = true := by
  cases h
  exact ⟨rfl, rfl⟩

theorem Item.event_loc {p : Pump} {loc : Loc} {raw : Raw} {e : Ev} {p' : Pump}
    (h : Item p loc raw (.ret (.event e) p')) : p'.lastLoc = e.loc ∧ p'.producedAny = true := by
  cases h with
  | replay id buf hc hd ho hl hs => exact hs.event_loc
  | _ => exact ⟨rfl, rfl⟩

theorem Loop.event_loc {p : Pump} {inp : List RawItem} {s : Step} {p' : Pump} {rest : List RawItem}
    (h : Loop p inp s p' rest) (e : Ev) (hs : s = .event e) : p'.lastLoc = e.loc ∧ p'.producedAny = true := by
  induction h with
  | null => cases hs; exact ⟨rfl, rfl⟩
  | eof | scan | breach => cases hs
  | ret rest hb hi => subst hs; exact hi.event_loc
  | stop rest hb hi => revert hs; unfold stopTail; split <;> intro hs <;> cases hs
  | pass hb hi _ ih => exact ih hs

theorem nextImpl_event {p : Pump} {inp : List RawItem} {e : Ev} {p' : Pump} {rest : List RawItem}
    (h : nextImpl p inp = (.event e, p', rest)) : p'.lastLoc = e.loc ∧ p'.producedAny = true := by
  cases call_of h with
  | served hs => exact hs.event_loc
  | loop _ hl => exact hl.event_loc e rfl

theorem nextImpl_event_fst (p : Pump) (inp : List RawItem) :
    ∀ e, (nextImpl p inp).1 = .event e →
      (nextImpl p inp).2.1.lastLoc = e.loc ∧ (nextImpl p inp).2.1.producedAny = true :=
  fun _ h => nextImpl_event (Prod.ext h rfl)

theorem Served.producedAny {p : Pump} {fs : List InjectFrame} {r : Option Step} {p' : Pump} (h : Served p fs r p')
    (hp : p.producedAny = true) : p'.producedAny = true := by
  cases h <;> first | exact hp | rfl

theorem Item.producedAny {p : Pump} {loc : Loc} {raw : Raw} {o : ItemOut} (h : Item p loc raw o)
    (hp : p.producedAny = true) : o.pump.producedAny = true := by
  cases h with
  | replay id buf hc hd ho hl hs => exact hs.producedAny hp
  | _ => first | exact hp | rfl

theorem Loop.producedAny {p : Pump} {inp : List RawItem} {s : Step} {p' : Pump} {rest : List RawItem}
    (h : Loop p inp s p' rest) (hp : p.producedAny = true) : p'.producedAny = true := by
  induction h with
  | null => rfl
  | eof | scan | breach => exact hp
  | ret rest hb hi => exact hi.producedAny hp
  | stop rest hb hi => exact hi.producedAny hp
  | pass hb hi _ ih => exact ih (hi.producedAny hp)

theorem nextImpl_producedAny (p : Pump) (inp : List RawItem) (h : p.producedAny = true) :
    (nextImpl p inp).2.1.producedAny = true := by
  rcases hn : nextImpl p inp with ⟨s, p', rest⟩
  cases call_of hn with
  | served hs => exact hs.producedAny h
  | loop _ hl => exact hl.producedAny h

theorem Loop.progress {p : Pump} {inp : List RawItem} {s : Step} {p' : Pump} {rest : List RawItem}
    (h : Loop p inp s p' rest) : ∃ consumed, inp = consumed ++ rest ∧ (consumed = [] → inp = []) := by
  induction h with
  | null | eof => exact ⟨[], rfl, fun _ => rfl⟩
  | scan | breach | ret => exact ⟨[_], rfl, fun h => nomatch h⟩
  | @stop p raw loc rest bud p' hb hi =>
    unfold stopTail
    split
    · exact ⟨[_, _], rfl, fun h => nomatch h⟩
    · exact ⟨[_, _], rfl, fun h => nomatch h⟩
    · exact ⟨[_], rfl, fun h => nomatch h⟩
  | pass hb hi _ ih =>
    obtain ⟨c, h1, -⟩ := ih
    exact ⟨_ :: c, congrArg (_ :: ·) h1, fun h => nomatch h⟩

theorem parserLoop_progress (p : Pump) (inp : List RawItem) :
    ∃ consumed, inp = consumed ++ (parserLoop p inp).2.2 ∧ (consumed = [] → inp = []) :=
  (parserLoop_loop p inp).progress

theorem parserLoop_suffix (p : Pump) (inp : List RawItem) : (parserLoop p inp).2.2 <:+ inp := by
  obtain ⟨c, h, -⟩ := parserLoop_progress p inp
  exact ⟨c, h.symm⟩

theorem parserLoop_length_lt (p : Pump) (inp : List RawItem) (h : inp ≠ []) :
    (parserLoop p inp).2.2.length < inp.length := by
  obtain ⟨c, h1, h2⟩ := parserLoop_progress p inp
  have hc : c ≠ [] := fun hc => h (h2 hc)
  have := congrArg List.length h1
  rw [List.length_append] at this
  have := List.length_pos_iff.mpr hc
  omega

theorem nextImpl_suffix (p : Pump) (inp : List RawItem) : (nextImpl p inp).2.2 <:+ inp := by
  unfold nextImpl
  split
  · exact List.suffix_refl _
  · exact parserLoop_suffix _ inp

/-- a predicate on the optional enforcer that is kept by every operation the pump performs on it -/
structure BudgetInv (I : Option Enf → Prop) : Prop where
  observe : ∀ {E E' : Enf} {r : Raw}, I (some E) → E.observe r = .ok E' → I (some E')
  aliasReplayed : ∀ {E E' : Enf}, I (some E) → E.observeAliasReplayed = .ok E' → I (some E')
  occupies : ∀ {E : Enf}, I (some E) → I (some E.aliasOccupiesPosition)

theorem budgetInv_none : BudgetInv (· = none) where
  observe h _ := nomatch h
  aliasReplayed h _ := nomatch h
  occupies h := nomatch h

theorem BudgetInv.step {I : Option Enf → Prop} (hI : BudgetInv I) {b bud : Option Enf} {o : Obs} (h : I b)
    (hx : budgetStep b o = .ok bud) : I bud := by
  cases b with
  | none => cases hx; exact h
  | some E =>
    obtain ⟨E', ho, rfl⟩ := ok_of_map_some hx
    cases o with
    | raw r => exact hI.observe h ho
    | aliasReplayed => exact hI.aliasReplayed h ho
    | occupies => cases ho; exact hI.occupies h

theorem BudgetInv.map_occupies {I : Option Enf → Prop} (hI : BudgetInv I) {b : Option Enf} (h : I b) :
    I (b.map Enf.aliasOccupiesPosition) := by
  cases b with
  | none => exact h
  | some E => exact hI.occupies h

theorem Served.budgetInv {I : Option Enf → Prop} (hI : BudgetInv I) {p : Pump} {fs : List InjectFrame}
    {r : Option Step} {p' : Pump} (hs : Served p fs r p') (h : I p.budget) : I p'.budget := by
  cases hs with
  | event dead fr rest buf bud e hd hl hi hm hb => exact hI.step h hb
  | _ => exact h

theorem Item.budgetInv {I : Option Enf → Prop} (hI : BudgetInv I) {p : Pump} {loc : Loc} {raw : Raw} {o : ItemOut}
    (hi : Item p loc raw o) (h : I p.budget) : I o.pump.budget := by
  cases hi with
  | placeholder => exact hI.map_occupies h
  | replay id buf hc hd ho hl hs => exact hs.budgetInv hI h
  | _ => exact h

theorem Loop.budgetInv {I : Option Enf → Prop} (hI : BudgetInv I) {p : Pump} {inp : List RawItem} {s : Step}
    {p' : Pump} {rest : List RawItem} (hl : Loop p inp s p' rest) (h : I p.budget) : I p'.budget := by
  induction hl with
  | null | eof | scan | breach => exact h
  | ret rest hb hi => exact hi.budgetInv hI (hI.step h hb)
  | stop rest hb hi => exact hi.budgetInv hI (hI.step h hb)
  | pass hb hi _ ih => exact ih (hi.budgetInv hI (hI.step h hb))

theorem nextImpl_budgetInv {I : Option Enf → Prop} (hI : BudgetInv I) (p : Pump) (inp : List RawItem)
    (h : I p.budget) : I (nextImpl p inp).2.1.budget := by
  rcases hn : nextImpl p inp with ⟨s, p', rest⟩
  cases call_of hn with
  | served hs => exact hs.budgetInv hI h
  | loop _ hl => exact hl.budgetInv hI h

theorem nextImpl_budget_none (p : Pump) (inp : List RawItem) (h : p.budget = none) :
    (nextImpl p inp).2.1.budget = none :=
  nextImpl_budgetInv budgetInv_none p inp h

end SaphyrVerif.Pump
