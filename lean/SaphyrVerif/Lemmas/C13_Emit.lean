import SaphyrVerif.Lemmas.C13_Induct
import SaphyrVerif.Lemmas.C13_Lex
/-!
The EMITTER INVARIANT.  For every value of the fragment and every state
that satisfies the context predicate of a position (`ValCtx`: right after `key:`; `ItemCtx`: right
after `- `; `EntryCtx`: where an item of a sequence / an entry of a mapping starts — at the start of a line, `LineCtx`, or, for
the first one of a collection nested right after `- `, at the cursor), the state machine `ser` succeeds, appends exactly
the text of the layout function, and re-establishes the flags the next sibling relies on.  Columns:
a line at serializer depth `d` is indented by `indent_step * d + indent_shift` blanks (`Col`); the
contexts carry the column of the enclosing keys / dashes, for every `indent_step ≥ 1` (and that only the nodes at
depth 0 stand at column 0).  Strings: whatever the `WriteContract` says the scalar-text functions write for the
strings of the class in each position (one token, or the header and the body lines of a block scalar, given by
`T : Toks`).  `yaml_12`: every context carries `Base.doc` (the prologue is not pending any more); the root
starts from `startSt o`, the state after the first `write_indent` has written the prologue (`SerOK.init`).

How the proof is cut.  The emitter takes a different branch of `serialize_seq` / `serialize_map` / `begin_variant` in each
position, so what the OPENING command does is proved per position, by the only walk through its code (one state equation, the
conjuncts read off it): `serializeSeq_val/_item/_line`, `serializeMap_val/_item/_line`, `beginVariant_val/_item/_root`.  Everything
after the opening is proved once, for any position: the items and entries wherever the cursor stands (`ItemsOK`, `EntriesOK`,
used through `.run`), `Variant: payload` from what `begin_variant` did (`VariantOpens`, `variant_step`, the text `variantAt`), a
leaf from what the contract says of it (`LeafWrites`), and the closing commands, which put `current_map_depth` and `indent_shift`
back from what the opening saved (`seqEnd_nonempty`, `mapEnd_nonempty`, `Good.afterVariant`).  The step lemmas `*_val_step`,
`*_item_step`, `*_root` instantiate these; `ser_shapes` is the induction over the shapes that calls them.

Names.  The fields of the context structures are the initials of the flag of `St` they fix: `als` `at_line_start`, `psc`
`pending_space_after_colon`, `pim` `pending_inline_map`, `add` `after_dash_depth`, `cmd` `current_map_depth`, `pss`
`pending_str_style`, `pic` `pending_inline_comment`.  As in `layVal` (`C13_Layout`): `k` is `indent_step`, `cp`
`compact_list_indent`, `im` / `inMap` "`current_map_depth` is set", `lvb` `last_value_was_block`; a layout is a triple, `.1`
the rest of the current line, `.2.1` the lines that follow, `.2.2` the outgoing `lvb`.
-/
namespace SaphyrVerif.Emit

/-- flags that never change inside the fragment -/
structure Base (o : Opts) (s : St) : Prop where
  inFlow : s.inFlow = 0
  pendingFlow : s.pendingFlow = none
  pss : s.pendingStrStyle = none
  pic : s.pendingInlineComment = none
  /-- the `%YAML 1.2` prologue is not pending: the document has started, or there is no prologue -/
  doc : s.docStarted = true ∨ o.yaml12 = false

/-- a line at serializer depth `d` starts at column `c` (in state `s`); only the nodes at depth 0 stand at
column 0 (what the emitter tests — `base > 0` — when it decides about an indentation indicator) -/
def Col (o : Opts) (s : St) (d c : Nat) : Prop :=
  ((o.indentStep * d : Nat) : Int) + s.indentShift = (c : Int) ∧ (d = 0 ↔ c = 0)

/-- right after `key:` of a mapping whose keys are at depth `m`, column `c` -/
structure ValCtx (o : Opts) (s : St) (m c : Nat) : Prop extends Base o s where
  als : s.atLineStart = false
  psc : s.pendingSpaceAfterColon = true
  pim : s.pendingInlineMap = false
  add : s.afterDashDepth = none
  cmd : s.currentMapDepth = some m ∨ (s.currentMapDepth = none ∧ m = 0 ∧ s.depth = 0)
  col : Col o s m c

/-- right after `- ` of a sequence whose dashes are at depth `d`, column `c` -/
structure ItemCtx (o : Opts) (s : St) (d c : Nat) : Prop extends Base o s where
  als : s.atLineStart = false
  psc : s.pendingSpaceAfterColon = false
  pim : s.pendingInlineMap = true
  add : s.afterDashDepth = some d
  col : Col o s d c

structure LineCtx (o : Opts) (s : St) : Prop extends Base o s where
  als : s.atLineStart = true
  psc : s.pendingSpaceAfterColon = false

/-- where an entry of a block collection starts: at the start of a line, or — the first entry of a collection nested
right after `- ` / `? ` / `: ` — at the cursor, which already stands at the column of the entries -/
structure EntryCtx (o : Opts) (s : St) : Prop extends Base o s where
  psc : s.pendingSpaceAfterColon = false

theorem LineCtx.entry {o : Opts} {s : St} (h : LineCtx o s) : EntryCtx o s := ⟨h.toBase, h.psc⟩

theorem LineCtx.notMid {o : Opts} {s : St} (h : LineCtx o s) {p : Prop} (ha : s.atLineStart = false) : p := by
  rw [h.als] at ha; exact Bool.noConfusion ha

/-- the indentation still to be written for a line at column `c`: none when the cursor stands there already -/
def indentAt (s : St) (c : Nat) : List Char := if s.atLineStart then spaces c else []

/-- what a value leaves behind: a finished line, nothing pending, `current_map_depth` and
`indent_shift` restored -/
structure Post (o : Opts) (s s' : St) : Prop extends Base o s' where
  als : s'.atLineStart = true
  psc : s'.pendingSpaceAfterColon = false
  cmd : s'.currentMapDepth = s.currentMapDepth
  shift : s'.indentShift = s.indentShift

theorem LineCtx.ofPost {o : Opts} {s s' : St} (h : Post o s s') : LineCtx o s' :=
  { toBase := h.toBase, als := h.als, psc := h.psc }

variable {o : Opts} {f : ScalarFns} {P : LeafPred} {T : Toks}

theorem Col.of_shift {s s' : St} {d c : Nat} (h : Col o s d c) (hs : s'.indentShift = s.indentShift) : Col o s' d c := by
  unfold Col at *; rw [hs]; exact h

theorem Col.succ {s : St} {d c : Nat} (h : Col o s d c) (hk : o.indentStep ≥ 1) : Col o s (d + 1) (c + o.indentStep) := by
  unfold Col at *
  have : ((o.indentStep * (d + 1) : Nat) : Int) = ((o.indentStep * d : Nat) : Int) + (o.indentStep : Int) := by
    rw [Nat.mul_succ]; simp
  refine ⟨?_, by omega⟩
  rw [this]; have h1 := h.1; push_cast at h1 ⊢; omega

/-- the columns after `shift_for_inline_node`: one depth level deeper = two columns after the indicator -/
theorem Col.inline {s : St} {d c : Nat} (h : Col o s d c) : Col o (shiftForInlineNode o s) (d + 1) (c + 2) := by
  unfold Col at *
  have : ((o.indentStep * (d + 1) : Nat) : Int) = ((o.indentStep * d : Nat) : Int) + (o.indentStep : Int) := by
    rw [Nat.mul_succ]; simp
  refine ⟨?_, by omega⟩
  simp only [shiftForInlineNode]
  rw [this]; have h1 := h.1; push_cast at h1 ⊢; omega

/-- `indent_cols(d)` in any state with the shift of `s` -/
theorem indentCols_col {s : St} {d c : Nat} (h : Col o s d c) (st : St) (hst : st.indentShift = s.indentShift) :
    indentCols o st d = c := by
  unfold Col at h
  simp only [indentCols, hst, h.1, Int.toNat_natCast]

/-- `write_indent(d)` at a line start when the document has started: the blanks up to the column (`s'`: a state with
the shift of `s`) -/
theorem writeIndent_started {s s' : St} {d c : Nat} (hcol : Col o s d c) (h1 : s'.atLineStart = true)
    (h2 : s'.docStarted = true) (h3 : s'.indentShift = s.indentShift) :
    writeIndent o s' d = { s' with out := s'.out ++ spaces c, atLineStart := false, docStarted := true } := by
  simp only [writeIndent, h1, h2, indentCols_col hcol _ h3, St.write, if_true, Bool.not_true, Bool.false_eq_true, if_false]

/-- … or has no prologue (`s'`: a state with the shift of `s` in which the document has started if it had in `s`) -/
theorem writeIndent_of {s s' : St} {d c : Nat} (hcol : Col o s d c) (hdoc : s.docStarted = true ∨ o.yaml12 = false)
    (h1 : s'.atLineStart = true) (h2 : s'.docStarted = s.docStarted) (h3 : s'.indentShift = s.indentShift) :
    writeIndent o s' d = { s' with out := s'.out ++ spaces c, atLineStart := false, docStarted := true } := by
  rcases hdoc with hd | hy
  · exact writeIndent_started hcol h1 (h2 ▸ hd) h3
  · have hic := indentCols_col hcol
    cases hd : s'.docStarted
    · simp only [writeIndent, h1, hd, hy, St.write, if_true, Bool.not_false, Bool.false_eq_true, if_false]
      exact congrArg (fun n => ({ s' with out := s'.out ++ spaces n, atLineStart := false, docStarted := true } : St))
        (hic { s' with docStarted := true } h3)
    · exact writeIndent_started hcol h1 hd h3

theorem writeIndent_zero {s : St} (h1 : s.atLineStart = true) (h2 : s.docStarted = true) (h3 : s.indentShift = 0) :
    writeIndent o s 0 = { s with atLineStart := false } := by
  simp [writeIndent, h1, h2, h3, indentCols, St.write, spaces]

theorem writeIndent_mid {s : St} (d : Nat) (h : s.atLineStart = false) : writeIndent o s d = s := by
  simp only [writeIndent, h, Bool.false_eq_true, if_false]

theorem doc_or {o : Opts} {s : St} (h : s.docStarted = true ∨ o.yaml12 = false) (a : Bool) :
    (a || s.docStarted) = true ∨ o.yaml12 = false := by
  rcases h with h | h
  · exact Or.inl (by rw [h, Bool.or_true])
  · exact Or.inr h

/-- `write_indent(d)` where an entry starts (`s'`: a state with the `at_line_start`, `doc_started` and `indent_shift` of `s`) -/
theorem writeIndent_at {s s' : St} {d c : Nat} (hcol : Col o s d c) (hdoc : s.docStarted = true ∨ o.yaml12 = false)
    (h1 : s'.atLineStart = s.atLineStart) (h2 : s'.docStarted = s.docStarted) (h3 : s'.indentShift = s.indentShift) :
    writeIndent o s' d =
      { s' with out := s'.out ++ indentAt s c, atLineStart := false, docStarted := s.atLineStart || s.docStarted } := by
  cases hals : s.atLineStart
  · rw [writeIndent_mid d (h1.trans hals)]
    cases s'
    simp only [indentAt, hals, Bool.false_eq_true, if_false, List.append_nil, Bool.false_or] at *
    simp [h1, h2]
  · rw [writeIndent_of hcol hdoc (h1.trans hals) h2 h3]
    simp [indentAt, hals]

/-- the depth a collection or a variant right after `key:` starts from: `current_map_depth` if set, else `depth` -/
theorem ValCtx.base {s : St} {m c : Nat} (h : ValCtx o s m c) : s.currentMapDepth.getD s.depth = m := by
  rcases h.cmd with hc | ⟨hc, hm, hd0⟩
  · rw [hc]; rfl
  · rw [hc, hm, hd0]; rfl

theorem ValCtx.baseIf {s : St} {m c : Nat} (h : ValCtx o s m c) :
    (if s.currentMapDepth.isSome = true then s.currentMapDepth.getD s.depth else s.depth) = m := by
  rcases h.cmd with hc | ⟨hc, hm, hd0⟩
  · rw [hc]; rfl
  · rw [hc, hm, hd0]; rfl

theorem restoreShift_some (σ : Int) (s : St) : restoreShift (some σ) s = { s with indentShift := σ } := rfl
@[simp] theorem restoreShift_none (s : St) : restoreShift none s = s := rfl
@[simp] theorem shiftForInlineNode_out (s : St) : (shiftForInlineNode o s).out = s.out := rfl

@[simp] theorem renderLines_nil : renderLines [] = [] := rfl
@[simp] theorem renderLines_cons (l : Line) (ls : List Line) :
    renderLines (l :: ls) = spaces l.indent ++ l.text ++ ['\n'] ++ renderLines ls := rfl
theorem renderLines_append (a b : List Line) : renderLines (a ++ b) = renderLines a ++ renderLines b := by
  induction a with
  | nil => rfl
  | cons l ls ih => simp [ih, List.append_assoc]

/-- result shape of a value: head (rest of the current line), following lines, outgoing `lvb` -/
def Good (o : Opts) (s : St) (r : List Char × List Line × Bool) (res : Except EmitErr St) : Prop :=
  ∃ s', res = .ok s' ∧ s'.out = s.out ++ r.1 ++ ['\n'] ++ renderLines r.2.1 ∧
    s'.lastValueWasBlock = r.2.2 ∧ Post o s s'

/-- the text of the lines, the first one without its indentation when the cursor stands at its column -/
def renderFrom (s : St) : List Line → List Char
  | [] => []
  | l :: ls => indentAt s l.indent ++ l.text ++ ['\n'] ++ renderLines ls

theorem renderFrom_line {s : St} (h : s.atLineStart = true) (ls : List Line) : renderFrom s ls = renderLines ls := by
  cases ls <;> simp [renderFrom, indentAt, h]

/-- result shape of a list of items / entries that start where `EntryCtx` says -/
def GoodFrom (o : Opts) (s : St) (r : List Line × Bool) (s' : St) : Prop :=
  s'.out = s.out ++ renderFrom s r.1 ∧ s'.lastValueWasBlock = r.2 ∧ Post o s s'

theorem GoodFrom.lines {o : Opts} {s s' : St} {r : List Line × Bool} (h : GoodFrom o s r s') (hals : s.atLineStart = true) :
    s'.out = s.out ++ renderLines r.1 := by rw [h.1, renderFrom_line hals]

/-- the state of the serializer once the prologue is out: what the first `write_indent` of a document
makes of the initial state before it writes the indentation (`SerOK.init`: a value of the fragment
serializes from the initial state exactly as from this one) -/
def startSt (o : Opts) : St := { out := prologue o, docStarted := true }

@[simp] theorem startSt_out : (startSt o).out = prologue o := rfl
@[simp] theorem startSt_lvb : (startSt o).lastValueWasBlock = false := rfl
@[simp] theorem startSt_shift : (startSt o).indentShift = 0 := rfl
@[simp] theorem startSt_cmd : (startSt o).currentMapDepth = none := rfl
@[simp] theorem renderFrom_startSt (ls : List Line) : renderFrom (startSt o) ls = renderLines ls := renderFrom_line rfl ls

theorem lineCtx_init : LineCtx o (startSt o) :=
  { inFlow := rfl, pendingFlow := rfl, pss := rfl, pic := rfl, doc := Or.inl rfl, als := rfl, psc := rfl }

theorem col_init : Col o (startSt o) 0 0 := by simp [Col, startSt]

/-- what the emitter invariant assumes about the scalar-text functions, for the strings of a class
`P` and texts `T`: a string leaf is written as `T.strAt` says for its position — the text on the line of the
leaf, then the following lines (a plain / quoted token: no following lines; a block scalar: the header and the
body lines) — and leaves the state of a finished scalar behind; likewise a unit variant (`T.unitAt`);
keys and variant names are the key tokens -/
structure WriteContract (o : Opts) (f : ScalarFns) (P : LeafPred) (T : Toks) : Prop where
  strVal : ∀ s, P.str s = true → ∀ (st : St) (m c : Nat), ValCtx o st m c →
    Good o st (' ' :: (T.strAt o.indentStep (.val c) s).1, (T.strAt o.indentStep (.val c) s).2, false) (.ok (serStr o f s st))
  strItem : ∀ s, P.str s = true → ∀ (st : St) (d c : Nat), ItemCtx o st d c →
    Good o st ((T.strAt o.indentStep (.item c) s).1, (T.strAt o.indentStep (.item c) s).2, false) (.ok (serStr o f s st))
  strRoot : ∀ s, P.str s = true → (serStr o f s (startSt o)).out =
    prologue o ++ renderLines (⟨0, (T.strAt o.indentStep .root s).1⟩ :: (T.strAt o.indentStep .root s).2)
  strInit : ∀ s, P.str s = true → serStr o f s {} = serStr o f s (startSt o)
  unitVal : ∀ e n, P.unit e n = true → ∀ (st : St) (m c : Nat), ValCtx o st m c →
    Good o st (' ' :: (T.unitAt o.indentStep (.val c) e n).1, (T.unitAt o.indentStep (.val c) e n).2, false)
      (ser o f (.unitVariant e n) st)
  unitItem : ∀ e n, P.unit e n = true → ∀ (st : St) (d c : Nat), ItemCtx o st d c →
    Good o st ((T.unitAt o.indentStep (.item c) e n).1, (T.unitAt o.indentStep (.item c) e n).2, false)
      (ser o f (.unitVariant e n) st)
  unitRoot : ∀ e n, P.unit e n = true → ∃ s', ser o f (.unitVariant e n) (startSt o) = .ok s' ∧ s'.out =
    prologue o ++ renderLines (⟨0, (T.unitAt o.indentStep .root e n).1⟩ :: (T.unitAt o.indentStep .root e n).2)
  unitInit : ∀ e n, P.unit e n = true → ser o f (.unitVariant e n) {} = ser o f (.unitVariant e n) (startSt o)
  key : ∀ s, P.key s = true → keyStrText o f s = T.key s
  name : ∀ n, P.name n = true → plainOrQuoted o f n = T.name n

theorem isSafeStr_no_nl {s : List Char} (h : isSafeStr s = true) : s.contains '\n' = false := by
  simp only [List.contains_eq_mem, decide_eq_false_iff_not]
  exact fun hm => absurd (safe_chars h _ hm) (by decide)

theorem isSafeStr_not_punct {s : List Char} (h : isSafeStr s = true) :
    (s == ['.'] || s == ['#'] || s == ['-']) = false := by
  obtain ⟨c, cs, rfl, hc, _, _⟩ := safe_cons h
  have : c ≠ '.' ∧ c ≠ '#' ∧ c ≠ '-' := by
    refine ⟨?_, ?_, ?_⟩ <;> (intro e; subst e; simp [isLowerAlpha] at hc)
  simp [this.1, this.2.1, this.2.2]

theorem serStr_safe (hq : o.quoteAll = false) (hf : SafeContract f) {v : List Char} (hs : isSafeStr v = true)
    (hl : v.length ≤ o.foldedWrapCol) {s : St} (h1 : s.pendingStrStyle = none) (h2 : s.inFlow = 0) :
    serStr o f v s = serToken o v s := by
  have hnl := isSafeStr_no_nl hs
  have hp := isSafeStr_not_punct hs
  have hv := hf.value v o.yaml12 false hs
  have hlen : ¬ (o.foldedWrapCol < v.length) := by omega
  unfold serStr
  simp only [h1, h2, hq, hnl, hv, hlen, Option.isNone_none, beq_self_eq_true, Bool.not_false, Bool.and_self,
    Bool.false_eq_true, if_false, Bool.not_true, decide_false, Bool.and_false, ite_self]
  simp only [hp, Bool.false_eq_true, if_false, plainOrQuotedValue, hq, hf.value v o.yaml12 _ hs, hf.shape v hs, if_true,
    Bool.not_false, Bool.and_self]
  unfold serToken writeSpaceIfPending
  by_cases hpsc : s.pendingSpaceAfterColon = true <;> simp [hpsc, St.write, indentIfLineStart, writeIndent]

theorem keyText_safe (hf : SafeContract f) {k : List Char} (hk : isSafeStr k = true) :
    keyText o f (.str k) = some k := by
  simp [keyText, keyStrText, hf.plain k hk, hf.value k o.yaml12 true hk, hf.shape k hk]

theorem plainOrQuoted_safe (hq : o.quoteAll = false) (hf : SafeContract f) {n : List Char} (hn : isSafeStr n = true) :
    plainOrQuoted o f n = n := by
  simp [plainOrQuoted, hq, hf.plain n hn, hf.value n o.yaml12 true hn, hf.shape n hn]

theorem serToken_val (tok : List Char) {s : St} {m c : Nat} (h : ValCtx o s m c) :
    Good o s (' ' :: tok, [], false) (.ok (serToken o tok s)) := by
  have e : serToken o tok s = { s with out := s.out ++ ' ' :: tok ++ ['\n'], pendingSpaceAfterColon := false,
                                       lastValueWasBlock := false, atLineStart := true } := by
    simp [serToken, writeSpaceIfPending, indentIfLineStart, writeEndOfScalar, newline, St.write, h.als, h.psc, h.inFlow, h.pic]
  rw [e]
  exact ⟨_, rfl, by simp, rfl, ⟨h.inFlow, h.pendingFlow, h.pss, h.pic, h.doc⟩, rfl, rfl, rfl, rfl⟩

theorem serToken_item (tok : List Char) {s : St} {d c : Nat} (h : ItemCtx o s d c) :
    Good o s (tok, [], false) (.ok (serToken o tok s)) := by
  have e : serToken o tok s = { s with out := s.out ++ tok ++ ['\n'], lastValueWasBlock := false, atLineStart := true } := by
    simp [serToken, writeSpaceIfPending, indentIfLineStart, writeEndOfScalar, newline, St.write, h.als, h.psc, h.inFlow, h.pic]
  rw [e]
  exact ⟨_, rfl, by simp, rfl, ⟨h.inFlow, h.pendingFlow, h.pss, h.pic, h.doc⟩, rfl, h.psc, rfl, rfl⟩

theorem serToken_line (tok : List Char) {s : St} (h : LineCtx o s) (hd0 : s.depth = 0) (hcol : Col o s 0 0) :
    GoodFrom o s ([⟨0, tok⟩], false) (serToken o tok s) := by
  have e : serToken o tok s = { s with out := s.out ++ tok ++ ['\n'], lastValueWasBlock := false, docStarted := true } := by
    simp [serToken, writeSpaceIfPending, indentIfLineStart, writeEndOfScalar, newline, St.write, spaces, h.als, h.psc, h.inFlow,
      h.pic, hd0, writeIndent_of hcol h.doc]
  rw [e]
  exact ⟨by simp [renderFrom, indentAt, h.als, spaces], rfl, ⟨h.inFlow, h.pendingFlow, h.pss, h.pic, Or.inl rfl⟩, h.als, h.psc, rfl, rfl⟩

theorem seqElemPrefix_at {s : St} {q : SeqSer} {c : Nat} (h : EntryCtx o s) (hcol : Col o s q.depth c)
    (hp : s.atLineStart = true → q.first = true → s.pendingInlineMap = false) (hf : s.atLineStart = false → q.first = true) :
    ItemCtx o (seqElemPrefix o q s) q.depth c ∧ (seqElemPrefix o q s).out = s.out ++ indentAt s c ++ ['-', ' '] ∧
    (seqElemPrefix o q s).lastValueWasBlock = s.lastValueWasBlock ∧
    (seqElemPrefix o q s).currentMapDepth = s.currentMapDepth ∧
    (seqElemPrefix o q s).indentShift = s.indentShift := by
  have e : seqElemPrefix o q s =
      { s with out := s.out ++ indentAt s c ++ ['-', ' '], atLineStart := false, docStarted := s.atLineStart || s.docStarted,
               inlineMapAfterDash := false, afterDashDepth := some q.depth, pendingInlineMap := true } := by
    cases hals : s.atLineStart
    · cases hi : s.inlineMapAfterDash <;> simp [seqElemPrefix, hf hals, hi, h.psc, hals, indentAt, St.write]
    · cases hf : q.first
      · cases hi : s.inlineMapAfterDash <;>
          simp [seqElemPrefix, hf, hi, h.psc, hals, indentAt, writeIndent_of hcol h.doc, St.write]
      · cases hi : s.inlineMapAfterDash <;>
          simp [seqElemPrefix, hf, hi, h.psc, hals, indentAt, hp hals hf, writeIndent_of hcol h.doc, St.write]
  rw [e]
  exact ⟨⟨⟨h.inFlow, h.pendingFlow, h.pss, h.pic, doc_or h.doc _⟩, rfl, h.psc, rfl, rfl, hcol⟩, rfl, rfl, rfl, rfl⟩

/-- `serialize_seq` right after `- `: the nested sequence keeps its first dash on the line; its dashes
stand two columns after the outer dash -/
theorem serializeSeq_item {s : St} {d c : Nat} (h : ItemCtx o s d c) :
    (serializeSeq o s).1 = { depth := d + 1, flow := false, first := true, restoreShift := some s.indentShift } ∧
    Base o (serializeSeq o s).2 ∧ (serializeSeq o s).2.atLineStart = false ∧
    (serializeSeq o s).2.pendingSpaceAfterColon = false ∧ (serializeSeq o s).2.out = s.out ∧
    (serializeSeq o s).2.lastValueWasBlock = s.lastValueWasBlock ∧
    (serializeSeq o s).2.currentMapDepth = s.currentMapDepth ∧
    Col o (serializeSeq o s).2 (d + 1) (c + 2) := by
  have e : serializeSeq o s = ({ depth := d + 1, flow := false, first := true, restoreShift := some s.indentShift },
      shiftForInlineNode o { s with pendingFlow := none, pendingInlineComment := none }) := by
    simp [serializeSeq, takeFlow, h.als, h.psc, h.add, h.inFlow, h.pendingFlow]
  rw [e]
  exact ⟨rfl, ⟨h.inFlow, rfl, h.pss, rfl, h.doc⟩, h.als, h.psc, rfl, rfl, rfl, Col.inline (h.col.of_shift rfl)⟩

theorem serializeSeq_line {s : St} (h : LineCtx o s) (hd0 : s.depth = 0) :
    (serializeSeq o s).1 = { depth := 0, flow := false, first := true } ∧
    LineCtx o (serializeSeq o s).2 ∧ (serializeSeq o s).2.out = s.out ∧
    (serializeSeq o s).2.lastValueWasBlock = s.lastValueWasBlock ∧
    (serializeSeq o s).2.currentMapDepth = s.currentMapDepth ∧
    (serializeSeq o s).2.pendingInlineMap = s.pendingInlineMap ∧
    (serializeSeq o s).2.indentShift = s.indentShift := by
  have e : serializeSeq o s = ({ depth := 0, flow := false, first := true }, { s with pendingFlow := none, pendingInlineComment := none }) := by
    simp [serializeSeq, takeFlow, h.als, h.psc, h.inFlow, h.pendingFlow, hd0]
  rw [e]
  exact ⟨rfl, ⟨⟨h.inFlow, rfl, h.pss, rfl, h.doc⟩, h.als, h.psc⟩, rfl, rfl, rfl, rfl, rfl⟩

/-- `serialize_seq` of a NON-EMPTY sequence right after `key:`: the first element breaks the line and
the items start one level deeper — or, with `compact_list_indent` inside a mapping, at the level of
the key (a block sibling before only has its marker consumed) -/
theorem serializeSeq_val (ho : FragOpts o) {s : St} {m c : Nat} (h : ValCtx o s m c) (x : SVal) (xs : List SVal) :
    ∃ s2 dq, serSeqElems o f (serializeSeq o s).1 (x :: xs) (serializeSeq o s).2 =
        serSeqElems o f { depth := dq, flow := false, first := true } (x :: xs) s2 ∧
      LineCtx o s2 ∧ s2.pendingInlineMap = false ∧ s2.out = s.out ++ ['\n'] ∧
      s2.lastValueWasBlock = false ∧ s2.currentMapDepth = s.currentMapDepth ∧ s2.indentShift = s.indentShift ∧
      Col o s2 dq (seqCol o.indentStep o.compactListIndent s.currentMapDepth.isSome c) := by
  have := h.als; have := h.psc; have := h.add; have := h.inFlow; have := h.pendingFlow; have := h.pim; have := h.doc
  have hbase := h.baseIf
  refine ⟨newline { s with pendingSpaceAfterColon := false, pendingFlow := none, pendingInlineComment := none,
                            lastValueWasBlock := false },
    (if (o.compactListIndent && s.currentMapDepth.isSome) = true then m else m + 1), ?_, ?_, ?_, ?_, ?_, ?_, ?_, ?_⟩
  · cases hl : s.lastValueWasBlock <;>
      simp [serializeSeq, takeFlow, serSeqElems, seqElemPrefix, newline, *]
  · exact ⟨⟨h.inFlow, rfl, h.pss, rfl, h.doc⟩, rfl, rfl⟩
  · exact h.pim
  · rfl
  · rfl
  · rfl
  · rfl
  · by_cases hcp : (o.compactListIndent && s.currentMapDepth.isSome) = true
    · simp only [hcp, if_true, seqCol]
      exact h.col.of_shift rfl
    · simp only [hcp, if_false, seqCol, Bool.false_eq_true]
      exact (h.col.succ ho.indent).of_shift rfl

/-- `SeqSer::finish` of a non-empty block sequence that was opened in `s0` and whose items ran from `s2` to `s` -/
theorem seqEnd_nonempty {s0 s2 s : St} {q : SeqSer} (hq : q.flow = false) (hf : q.first = false) (hp : Post o s2 s)
    (hcmd : s2.currentMapDepth = s0.currentMapDepth) (hr : q.restoreShift.getD s2.indentShift = s0.indentShift) :
    Post o s0 (seqEnd o q s) ∧ (seqEnd o q s).out = s.out ∧ (seqEnd o q s).lastValueWasBlock = true := by
  have e : seqEnd o q s = { s with lastValueWasBlock := true, pendingInlineMap := false, afterDashDepth := none,
                                   inlineMapAfterDash := false, indentShift := q.restoreShift.getD s.indentShift } := by
    simp only [seqEnd, hq, hf, Bool.false_eq_true, if_false]
    cases q.restoreShift <;> rfl
  rw [e]
  exact ⟨⟨⟨hp.inFlow, hp.pendingFlow, hp.pss, hp.pic, hp.doc⟩, hp.als, hp.psc, hp.cmd.trans hcmd, hp.shift ▸ hr⟩, rfl, rfl⟩

theorem keyText_key (hw : WriteContract o f P T) {k : List Char} (hk : P.key k = true) :
    keyText o f (.str k) = some (T.key k) := by
  simp [keyText, hw.key k hk]

/-- the emitter's test `text.len() > MAX_IMPLICIT_KEY_CHARS` in the terms of the layout -/
theorem long_iff_not_fits {t : List Char} : t.length > maxImplicitKeyChars ↔ fitsImplicit t = false := by
  simp only [fitsImplicit, maxImplicitKeyChars, decide_eq_false_iff_not]; omega

/-- the state right after `key:` has been written, `current_map_depth` set for the value -/
def afterKey (s : St) (md : Nat) (text : List Char) (doc : Bool) : St :=
  { s with out := s.out ++ text, atLineStart := false, pendingSpaceAfterColon := true, afterDashDepth := none,
           pendingInlineMap := false, currentMapDepth := some md, docStarted := doc }

/-- `MapSer::serialize_key` up to the key: in the middle of a line `last_value_was_block` is cleared -/
theorem mapKeyPrefix_at {m : MapSer} {s : St} (hivs : m.inlineValueStart = false) (hpsc : s.pendingSpaceAfterColon = false) :
    mapKeyPrefix m s = (m, { s with lastValueWasBlock := s.atLineStart && s.lastValueWasBlock, afterDashDepth := none,
                                    pendingInlineMap := false }) := by
  cases hals : s.atLineStart <;> simp [mapKeyPrefix, writeSpaceIfPending, hivs, hals, hpsc]

theorem serMapEntries_cons_at (hw : WriteContract o f P T) {m : MapSer} {s : St} {k : List Char} {c : Nat}
    (v : SVal) (es : List (SVal × SVal)) (hk : P.key k = true) (hfit : fitsImplicit (T.key k) = true) (hm : m.flow = false)
    (hivs : m.inlineValueStart = false) (h : EntryCtx o s) (hcol : Col o s m.depth c) :
    ∃ s4, ValCtx o s4 m.depth c ∧ s4.out = s.out ++ indentAt s c ++ T.key k ++ [':'] ∧
      s4.lastValueWasBlock = (s.atLineStart && s.lastValueWasBlock) ∧ s4.indentShift = s.indentShift ∧
      s4.currentMapDepth.isSome = true ∧
      serMapEntries o f m ((.str k, v) :: es) s =
        (match ser o f v s4 with
         | .error e => .error e
         | .ok s5 => serMapEntries o f { m with first := false, lastKeyComplex := false } es
             { s5 with currentMapDepth := s.currentMapDepth, pendingInlineMap := false }) := by
  refine ⟨afterKey { s with lastValueWasBlock := s.atLineStart && s.lastValueWasBlock } m.depth (indentAt s c ++ T.key k ++ [':'])
    (s.atLineStart || s.docStarted), ?_, ?_, rfl, rfl, rfl, ?_⟩
  · exact ⟨⟨h.inFlow, h.pendingFlow, h.pss, h.pic, doc_or h.doc _⟩, rfl, rfl, rfl, rfl, Or.inl rfl, hcol.of_shift rfl⟩
  · simp [afterKey, List.append_assoc]
  · rw [serMapEntries]
    simp only [hm, Bool.false_eq_true, if_false, keyText_key hw hk, long_iff_not_fits, hfit, Bool.true_eq_false, mapKeyPrefix_at hivs h.psc, mapIndent,
      writeIndent_at hcol h.doc, St.write, afterKey, List.append_assoc]
    rfl

/-- `serialize_map` right after `- `: first key inline, the others aligned under it (two columns
after the dash) -/
theorem serializeMap_item {s : St} {d c : Nat} (len : Option Nat) (h : ItemCtx o s d c) :
    (serializeMap o len s).1 = { depth := d + 1, flow := false, first := true, restoreShift := some s.indentShift } ∧
    Base o (serializeMap o len s).2 ∧ (serializeMap o len s).2.atLineStart = false ∧
    (serializeMap o len s).2.pendingSpaceAfterColon = false ∧ (serializeMap o len s).2.out = s.out ∧
    (serializeMap o len s).2.lastValueWasBlock = s.lastValueWasBlock ∧
    (serializeMap o len s).2.currentMapDepth = s.currentMapDepth ∧
    Col o (serializeMap o len s).2 (d + 1) (c + 2) := by
  have e : serializeMap o len s = ({ depth := d + 1, flow := false, first := true, restoreShift := some s.indentShift },
      shiftForInlineNode o { s with pendingFlow := none, pendingInlineMap := false, inlineMapAfterDash := true }) := by
    simp [serializeMap, takeFlow, h.als, h.psc, h.add, h.inFlow, h.pendingFlow, h.pim]
  rw [e]
  exact ⟨rfl, ⟨h.inFlow, rfl, h.pss, h.pic, h.doc⟩, h.als, h.psc, rfl, rfl, rfl, Col.inline (h.col.of_shift rfl)⟩

theorem serializeMap_line {s : St} (len : Option Nat) (h : LineCtx o s) (hd0 : s.depth = 0) (hp : s.pendingInlineMap = false) :
    (serializeMap o len s).1 = { depth := 0, flow := false, first := true } ∧
    LineCtx o (serializeMap o len s).2 ∧ (serializeMap o len s).2.out = s.out ∧
    (serializeMap o len s).2.lastValueWasBlock = s.lastValueWasBlock ∧
    (serializeMap o len s).2.currentMapDepth = s.currentMapDepth ∧
    (serializeMap o len s).2.indentShift = s.indentShift := by
  have e : serializeMap o len s = ({ depth := 0, flow := false, first := true }, { s with pendingFlow := none }) := by
    simp [serializeMap, takeFlow, h.als, h.psc, h.inFlow, h.pendingFlow, hd0, hp]
  rw [e]
  exact ⟨rfl, ⟨⟨h.inFlow, rfl, h.pss, h.pic, h.doc⟩, h.als, h.psc⟩, rfl, rfl, rfl, rfl⟩

/-- `serialize_map` of a NON-EMPTY mapping right after `key:`: the entries start on the next line at
depth `m + 1` (line break forced by a block sibling, written because the length is known, or
deferred to the first key when the length is unknown) -/
theorem serializeMap_val (ho : FragOpts o) {s : St} {m c : Nat} (h : ValCtx o s m c) (known : Bool)
    (e : SVal × SVal) (es : List (SVal × SVal)) :
    ∃ s2, serMapEntries o f (serializeMap o (if known then some (e :: es).length else none) s).1 (e :: es)
          (serializeMap o (if known then some (e :: es).length else none) s).2 =
        serMapEntries o f { depth := m + 1, flow := false, first := true } (e :: es) s2 ∧
      LineCtx o s2 ∧ s2.out = s.out ++ ['\n'] ∧
      s2.lastValueWasBlock = false ∧ s2.currentMapDepth = s.currentMapDepth ∧ s2.indentShift = s.indentShift := by
  have := h.als; have := h.psc; have := h.add; have := h.inFlow; have := h.pendingFlow; have := h.pim; have := h.doc
  have := ho.braces
  have hbase := h.baseIf
  obtain ⟨k, v⟩ := e
  refine ⟨newline { s with pendingSpaceAfterColon := false, pendingFlow := none, lastValueWasBlock := false }, ?_, ?_, ?_, ?_, ?_, ?_⟩
  · cases hl : s.lastValueWasBlock <;> cases known
    · -- unknown length, no block sibling: the first key breaks the line
      rw [serMapEntries, serMapEntries]
      simp [serializeMap, takeFlow, mapKeyPrefix, newline, *]
    · simp [serializeMap, takeFlow, newline, *]
    · simp [serializeMap, takeFlow, newline, *]
    · simp [serializeMap, takeFlow, newline, *]
  · exact ⟨⟨h.inFlow, rfl, h.pss, h.pic, h.doc⟩, rfl, rfl⟩
  all_goals rfl

/-- `MapSer::finish` of a non-empty block mapping that was opened in `s0` and whose entries ran from `s2` to `s` -/
theorem mapEnd_nonempty {s0 s2 s : St} {m : MapSer} (hm : m.flow = false) (hf : m.first = false) (hp : Post o s2 s)
    (hcmd : s2.currentMapDepth = s0.currentMapDepth) (hr : m.restoreShift.getD s2.indentShift = s0.indentShift) :
    Post o s0 (mapEnd o m s) ∧ (mapEnd o m s).out = s.out ∧ (mapEnd o m s).lastValueWasBlock = true := by
  have e : mapEnd o m s = { s with lastValueWasBlock := true, indentShift := m.restoreShift.getD s.indentShift } := by
    simp only [mapEnd, hm, hf, Bool.false_eq_true, if_false]
    cases m.restoreShift <;> rfl
  rw [e]
  exact ⟨⟨⟨hp.inFlow, hp.pendingFlow, hp.pss, hp.pic, hp.doc⟩, hp.als, hp.psc, hp.cmd.trans hcmd, hp.shift ▸ hr⟩, rfl, rfl⟩

theorem keyText_complex : ∀ (k : SVal), isComplexKey k = true → keyText o f k = none
  | .seq _, _ | .tuple _, _ | .tupleStruct _, _ | .map _ _, _ | .newtypeVariant _ _, _ | .tupleVariant _ _, _
  | .structVariant _ _, _ => rfl
  | .some v, h | .newtypeStruct v, h => by
    simp only [isComplexKey] at h
    simpa [keyText] using keyText_complex v h
  | .unit, h | .bool _, h | .int _, h | .str _, h | .none, h | .unitVariant _ _, h | .flowSeq _, h | .flowMap _, h
  | .commented _ _, h | .spaceAfter _, h | .litStr _, h | .foldStr _, h => by simp [isComplexKey] at h

theorem serMapEntries_complex (m : MapSer) (k v : SVal) (es : List (SVal × SVal)) (s : St)
    (hm : m.flow = false) (hkt : keyText o f k = none) :
    serMapEntries o f m ((k, v) :: es) s =
      (match ser o f k (complexKeyCtx (mapKeyPrefix m s).1 (complexKeyMark o (mapKeyPrefix m s).1 (mapKeyPrefix m s).2)) with
       | .error e => .error e
       | .ok sk =>
         match ser o f v (complexValueCtx o (mapKeyPrefix m s).1 (complexKeyMark o (mapKeyPrefix m s).1 (mapKeyPrefix m s).2) sk) with
         | .error e => .error e
         | .ok sv => serMapEntries o f { (mapKeyPrefix m s).1 with first := false, lastKeyComplex := false } es
             (complexEntryDone (complexKeyMark o (mapKeyPrefix m s).1 (mapKeyPrefix m s).2) sv)) := by
  rw [serMapEntries]
  simp only [hm, Bool.false_eq_true, if_false, hkt]
  generalize mapKeyPrefix m s = p
  obtain ⟨m', s'⟩ := p
  rfl

theorem complexKey_at {m : MapSer} {s : St} {c : Nat} (hivs : m.inlineValueStart = false)
    (h : EntryCtx o s) (hcol : Col o s m.depth c) :
    (mapKeyPrefix m s).1 = m ∧
    ItemCtx o (complexKeyCtx m (complexKeyMark o m (mapKeyPrefix m s).2)) m.depth c ∧
    (complexKeyCtx m (complexKeyMark o m (mapKeyPrefix m s).2)).out = s.out ++ indentAt s c ++ ['?', ' '] ∧
    (complexKeyCtx m (complexKeyMark o m (mapKeyPrefix m s).2)).lastValueWasBlock = (s.atLineStart && s.lastValueWasBlock) ∧
    (complexKeyCtx m (complexKeyMark o m (mapKeyPrefix m s).2)).indentShift = s.indentShift ∧
    (complexKeyMark o m (mapKeyPrefix m s).2).currentMapDepth = s.currentMapDepth := by
  have e : complexKeyMark o m (mapKeyPrefix m s).2 =
      { s with out := s.out ++ indentAt s c ++ ['?', ' '], atLineStart := false, docStarted := s.atLineStart || s.docStarted,
               lastValueWasBlock := s.atLineStart && s.lastValueWasBlock, afterDashDepth := none, pendingInlineMap := false } := by
    simp only [mapKeyPrefix_at hivs h.psc, complexKeyMark, writeIndent_at hcol h.doc, St.write]
  rw [e, mapKeyPrefix_at hivs h.psc]
  exact ⟨rfl, ⟨⟨h.inFlow, h.pendingFlow, h.pss, h.pic, doc_or h.doc _⟩, rfl, h.psc, rfl, rfl, hcol⟩, rfl, rfl, rfl, rfl⟩

/-- `MapSer::serialize_value` with `last_key_complex`, at a line start after the key -/
theorem explicitValue_ctx {m : MapSer} {sk : St} {c : Nat}
    (hb : Base o sk) (hals : sk.atLineStart = true) (hcol : Col o sk m.depth c) :
    ItemCtx o (explicitValueCtx o m sk) m.depth c ∧
    (explicitValueCtx o m sk).out = sk.out ++ spaces c ++ [':', ' '] ∧
    (explicitValueCtx o m sk).lastValueWasBlock = sk.lastValueWasBlock ∧
    (explicitValueCtx o m sk).indentShift = sk.indentShift := by
  have e : explicitValueCtx o m sk =
      { sk with out := sk.out ++ spaces c ++ [':', ' '], docStarted := true, pendingSpaceAfterColon := false,
                pendingInlineMap := true, afterDashDepth := some m.depth, atLineStart := false, depth := m.depth,
                currentMapDepth := some m.depth } := by
    simp [explicitValueCtx, mapIndent, St.write, writeIndent_of hcol hb.doc hals rfl rfl]
  rw [e]
  exact ⟨⟨⟨hb.inFlow, hb.pendingFlow, hb.pss, hb.pic, Or.inl rfl⟩, rfl, rfl, rfl, rfl, hcol⟩, rfl, rfl, rfl⟩

/-- the value of a composite entry: the same after the key node (`sk`), once the fields saved in `s0` are back and
`last_value_was_block` is cleared -/
theorem complexValue_ctx {m : MapSer} {s0 sk : St} {c : Nat}
    (hb : Base o sk) (hals : sk.atLineStart = true) (hcol : Col o sk m.depth c) :
    ItemCtx o (complexValueCtx o m s0 sk) m.depth c ∧
    (complexValueCtx o m s0 sk).out = sk.out ++ spaces c ++ [':', ' '] ∧
    (complexValueCtx o m s0 sk).lastValueWasBlock = false ∧
    (complexValueCtx o m s0 sk).indentShift = sk.indentShift :=
  explicitValue_ctx
    (sk := { sk with depth := s0.depth, currentMapDepth := s0.currentMapDepth, pendingInlineMap := s0.pendingInlineMap,
                     inlineMapAfterDash := s0.inlineMapAfterDash, afterDashDepth := s0.afterDashDepth, lastValueWasBlock := false })
    ⟨hb.inFlow, hb.pendingFlow, hb.pss, hb.pic, hb.doc⟩ hals hcol

theorem serMapEntries_long (hw : WriteContract o f P T) (m : MapSer) {k : List Char} (v : SVal) (es : List (SVal × SVal)) (s : St)
    (hm : m.flow = false) (hk : P.key k = true) (hfit : fitsImplicit (T.key k) = false) :
    serMapEntries o f m ((.str k, v) :: es) s =
      (match ser o f v (explicitValueCtx o (mapKeyPrefix m s).1 (longKeyLine o (mapKeyPrefix m s).1 (T.key k) (mapKeyPrefix m s).2)) with
       | .error e => .error e
       | .ok sv => serMapEntries o f { (mapKeyPrefix m s).1 with first := false, lastKeyComplex := false } es
           (complexEntryDone (longKeyLine o (mapKeyPrefix m s).1 (T.key k) (mapKeyPrefix m s).2) sv)) := by
  rw [serMapEntries]
  simp only [hm, Bool.false_eq_true, if_false, keyText_key hw hk, long_iff_not_fits, hfit, if_true]
  generalize mapKeyPrefix m s = p
  obtain ⟨m', s'⟩ := p
  rfl

theorem longKey_at {m : MapSer} {s : St} {c : Nat} (K : List Char) (hivs : m.inlineValueStart = false)
    (h : EntryCtx o s) (hcol : Col o s m.depth c) :
    (mapKeyPrefix m s).1 = m ∧
    Base o (longKeyLine o m K (mapKeyPrefix m s).2) ∧
    (longKeyLine o m K (mapKeyPrefix m s).2).atLineStart = true ∧
    (longKeyLine o m K (mapKeyPrefix m s).2).out = s.out ++ indentAt s c ++ ['?', ' '] ++ K ++ ['\n'] ∧
    (longKeyLine o m K (mapKeyPrefix m s).2).lastValueWasBlock = false ∧
    (longKeyLine o m K (mapKeyPrefix m s).2).indentShift = s.indentShift ∧
    (longKeyLine o m K (mapKeyPrefix m s).2).currentMapDepth = s.currentMapDepth := by
  have e : longKeyLine o m K (mapKeyPrefix m s).2 =
      { s with out := s.out ++ indentAt s c ++ ['?', ' '] ++ K ++ ['\n'], atLineStart := true,
               docStarted := s.atLineStart || s.docStarted, lastValueWasBlock := false, afterDashDepth := none,
               pendingInlineMap := false } := by
    simp only [mapKeyPrefix_at hivs h.psc, longKeyLine, mapIndent, writeIndent_at hcol h.doc, newline, St.write, List.append_assoc]
  rw [e, mapKeyPrefix_at hivs h.psc]
  exact ⟨rfl, ⟨h.inFlow, h.pendingFlow, h.pss, h.pic, doc_or h.doc _⟩, rfl, rfl, rfl, rfl, rfl⟩

/-- `serialize_newtype_variant` / `serialize_tuple_variant` / `serialize_struct_variant`: the key, the
payload `P` in value position, `end_variant` -/
def variantRun (o : Opts) (f : ScalarFns) (n : List Char) (P : St → Except EmitErr St) (s : St) : Except EmitErr St :=
  match P (beginVariant o f n s).2 with
  | .error e => .error e
  | .ok s2 => .ok (endVariant (beginVariant o f n s).1 s2)

theorem ser_seq (xs : List SVal) (s : St) :
    ser o f (.seq xs) s =
      (match serSeqElems o f (serializeSeq o s).1 xs (serializeSeq o s).2 with
       | .error e => .error e
       | .ok (q, s') => .ok (seqEnd o q s')) := by
  rw [ser]
  generalize serializeSeq o s = p
  cases p; rfl

theorem ser_tuple (xs : List SVal) (s : St) : ser o f (.tuple xs) s = ser o f (.seq xs) s := by
  rw [ser, ser]

theorem ser_tupleStruct (xs : List SVal) (s : St) : ser o f (.tupleStruct xs) s = ser o f (.seq xs) s := by
  rw [ser, ser]

theorem ser_map (known : Bool) (es : List (SVal × SVal)) (s : St) :
    ser o f (.map known es) s =
      (match serMapEntries o f (serializeMap o (if known then some es.length else none) s).1 es
          (serializeMap o (if known then some es.length else none) s).2 with
       | .error e => .error e
       | .ok (m, s') => .ok (mapEnd o m s')) := by
  rw [ser]
  generalize serializeMap o (if known then some es.length else none) s = p
  cases p; rfl

theorem ser_newtypeVariant (n : List Char) (v : SVal) (s : St) :
    ser o f (.newtypeVariant n v) s = variantRun o f n (ser o f v) s := by
  rw [ser, variantRun]
  generalize beginVariant o f n s = p
  cases p; rfl

theorem ser_tupleVariant (n : List Char) (xs : List SVal) (s : St) :
    ser o f (.tupleVariant n xs) s = variantRun o f n (ser o f (.seq xs)) s := by
  rw [ser, variantRun, ser_seq]
  generalize beginVariant o f n s = p
  obtain ⟨fr, s1⟩ := p
  simp only
  generalize serializeSeq o s1 = p2
  obtain ⟨q, s2⟩ := p2
  simp only
  cases serSeqElems o f q xs s2 with
  | error e => rfl
  | ok r => rfl

theorem ser_structVariant (n : List Char) (fs : List (SVal × SVal)) (s : St) :
    ser o f (.structVariant n fs) s = variantRun o f n (ser o f (.map true fs)) s := by
  rw [ser, variantRun, ser_map]
  generalize beginVariant o f n s = p
  obtain ⟨fr, s1⟩ := p
  simp only [if_true]
  generalize serializeMap o (some fs.length) s1 = p2
  obtain ⟨m, s2⟩ := p2
  simp only
  cases serMapEntries o f m fs s2 with
  | error e => rfl
  | ok r => rfl

/-- `Variant: payload` where the cursor stands at column `i`: the rest of the current line, the lines under it, the outgoing `lvb`
(`r`: the payload after `Variant:`; a name too long for an implicit key: `? Variant`, then `: payload` at column `i`, `ri`: the payload
after `: `).  `variantVal`, `variantItem`, `variantRoot` are this at the column of their position. -/
def variantAt (i : Nat) (n : List Char) (r ri : List Char × List Line × Bool) : List Char × List Line × Bool :=
  if fitsImplicit n then (n ++ [':'] ++ r.1, r.2.1, r.2.2)
  else (['?', ' '] ++ n, ⟨i, [':', ' '] ++ ri.1⟩ :: ri.2.1, ri.2.2)

theorem variantItem_at (c : Nat) (n : List Char) (r ri : List Char × List Line × Bool) :
    variantItem c n r ri = variantAt (c + 2) n r ri := rfl

theorem variantVal_at (c : Nat) (n : List Char) (r ri : List Char × List Line × Bool) :
    variantVal c n r ri = ([], ⟨c, (variantAt c n r ri).1⟩ :: (variantAt c n r ri).2.1, (variantAt c n r ri).2.2) := by
  unfold variantVal variantAt; split <;> rfl

theorem variantRoot_at (n : List Char) (r ri : List Char × List Line × Bool) :
    variantRoot n r ri = ⟨0, (variantAt 0 n r ri).1⟩ :: (variantAt 0 n r ri).2.1 := by
  unfold variantRoot variantAt; split <;> rfl

/-- What `begin_variant` does, outside flow style, with a variant whose name is written `N`, in a position where the entry `N: payload`
starts at column `i`, depth `d`, after the text `pre` (the line break and the indentation after `key:`; nothing after `- ` and at the
root).  The payload follows `N:` as a value (`im`: with `current_map_depth` set — not at the root) or, when `N` is too long for an
implicit key, follows `? N`, a line break and `: ` as an item; the frame is one from which `end_variant` puts `current_map_depth` and
`indent_shift` back. -/
structure VariantOpens (o : Opts) (s : St) (N pre : List Char) (d i : Nat) (im : Bool) (p : VariantFrame × St) : Prop where
  flow : p.1.flow = false
  prev : p.1.prevMapDepth.getD p.2.currentMapDepth = s.currentMapDepth
  shift : p.1.restoreShift.getD p.2.indentShift = s.indentShift
  lvb : p.2.lastValueWasBlock = s.lastValueWasBlock
  payload : (fitsImplicit N = true ∧ ValCtx o p.2 d i ∧ p.2.currentMapDepth.isSome = im ∧ p.2.out = s.out ++ pre ++ N ++ [':']) ∨
    (fitsImplicit N = false ∧ ItemCtx o p.2 d i ∧ p.2.out = s.out ++ pre ++ ['?', ' '] ++ N ++ ['\n'] ++ spaces i ++ [':', ' '])

/-- `begin_variant` right after `key:`: the entry goes to the next line, one level deeper -/
theorem beginVariant_val (ho : FragOpts o) (hw : WriteContract o f P T) {s : St} {m c : Nat} (h : ValCtx o s m c) {n : List Char}
    (hn : P.name n = true) :
    VariantOpens o s (T.name n) ('\n' :: spaces (c + o.indentStep)) (m + 1) (c + o.indentStep) true (beginVariant o f n s) := by
  have hcol := h.col.succ ho.indent
  cases hfit : fitsImplicit (T.name n)
  · have e : beginVariant o f n s =
        ({ prevMapDepth := some s.currentMapDepth, restoreLayout := some (s.depth, s.pendingInlineMap) },
         { s with pendingSpaceAfterColon := false, atLineStart := false, docStarted := true,
                  out := s.out ++ ['\n'] ++ spaces (c + o.indentStep) ++ ['?', ' '] ++ T.name n ++ ['\n'] ++
                    spaces (c + o.indentStep) ++ [':', ' '],
                  currentMapDepth := some (m + 1), pendingInlineMap := true, afterDashDepth := some (m + 1), depth := m + 1 }) := by
      simp [beginVariant, beginVariantExplicit, newline, St.write, hw.name n hn, long_iff_not_fits, hfit, h.inFlow, h.psc,
        h.als, h.base, writeIndent_of hcol h.doc, writeIndent_started hcol]
    rw [e]
    exact ⟨rfl, rfl, rfl, rfl, Or.inr ⟨hfit, ⟨⟨h.inFlow, h.pendingFlow, h.pss, h.pic, Or.inl rfl⟩, rfl, rfl, rfl, rfl, hcol⟩,
      by simp [List.append_assoc]⟩⟩
  · have e : beginVariant o f n s = ({ prevMapDepth := some s.currentMapDepth },
        { afterKey s (m + 1) (['\n'] ++ spaces (c + o.indentStep) ++ T.name n ++ [':']) true with afterDashDepth := s.afterDashDepth }) := by
      simp [beginVariant, newline, St.write, afterKey, hw.name n hn, long_iff_not_fits, hfit, List.append_assoc, h.als, h.psc, h.inFlow,
        h.base, writeIndent_of hcol h.doc]
    rw [e]
    exact ⟨rfl, rfl, rfl, rfl, Or.inl ⟨hfit, ⟨⟨h.inFlow, h.pendingFlow, h.pss, h.pic, Or.inl rfl⟩, rfl, rfl, rfl, h.add, Or.inl rfl,
      hcol.of_shift rfl⟩, rfl, by simp [afterKey, List.append_assoc]⟩⟩

/-- `begin_variant` right after `- `: the entry starts on the dash line, two columns after the dash -/
theorem beginVariant_item (hw : WriteContract o f P T) {s : St} {d c : Nat} (h : ItemCtx o s d c) {n : List Char}
    (hn : P.name n = true) :
    VariantOpens o s (T.name n) [] (d + 1) (c + 2) true (beginVariant o f n s) := by
  have hcol : Col o (shiftForInlineNode o s) (d + 1) (c + 2) := Col.inline h.col
  cases hfit : fitsImplicit (T.name n)
  · have e : beginVariant o f n s =
        ({ prevMapDepth := some s.currentMapDepth, restoreShift := some s.indentShift,
           restoreLayout := some (s.depth, s.pendingInlineMap) },
         { shiftForInlineNode o s with
             atLineStart := false, docStarted := true,
             out := s.out ++ ['?', ' '] ++ T.name n ++ ['\n'] ++ spaces (c + 2) ++ [':', ' '],
             currentMapDepth := some (d + 1), pendingInlineMap := true, afterDashDepth := some (d + 1), depth := d + 1 }) := by
      simp [beginVariant, beginVariantExplicit, newline, St.write, hw.name n hn, long_iff_not_fits, hfit, h.inFlow, h.psc,
        h.als, h.add, writeIndent_of hcol h.doc, writeIndent_mid, shiftForInlineNode]
    rw [e]
    exact ⟨rfl, rfl, rfl, rfl, Or.inr ⟨hfit, ⟨⟨h.inFlow, h.pendingFlow, h.pss, h.pic, Or.inl rfl⟩, rfl, h.psc, rfl, rfl, hcol⟩,
      by simp [List.append_assoc]⟩⟩
  · have e : beginVariant o f n s = ({ prevMapDepth := some s.currentMapDepth, restoreShift := some s.indentShift },
        shiftForInlineNode o (afterKey s (d + 1) (T.name n ++ [':']) s.docStarted)) := by
      simp [beginVariant, indentIfLineStart, St.write, afterKey, hw.name n hn, long_iff_not_fits, hfit,
        shiftForInlineNode, h.als, h.psc, h.add, h.inFlow]
    rw [e]
    exact ⟨rfl, rfl, rfl, rfl, Or.inl ⟨hfit, ⟨⟨h.inFlow, h.pendingFlow, h.pss, h.pic, h.doc⟩, rfl, rfl, rfl, rfl, Or.inl rfl,
      Col.inline (h.col.of_shift rfl)⟩, rfl, by simp [shiftForInlineNode, afterKey, List.append_assoc]⟩⟩

/-- `begin_variant` at the root: the entry starts at column 0; the payload of a name that fits has no `current_map_depth` -/
theorem beginVariant_root (hw : WriteContract o f P T) {n : List Char} (hn : P.name n = true) :
    VariantOpens o (startSt o) (T.name n) [] 0 0 false (beginVariant o f n (startSt o)) := by
  cases hfit : fitsImplicit (T.name n)
  · have e : beginVariant o f n (startSt o) =
        ({ prevMapDepth := some none, restoreLayout := some (0, false) },
         { startSt o with
             atLineStart := false, out := prologue o ++ ['?', ' '] ++ T.name n ++ ['\n'] ++ [':', ' '],
             currentMapDepth := some 0, pendingInlineMap := true, afterDashDepth := some 0 }) := by
      simp [beginVariant, beginVariantExplicit, newline, St.write, hw.name n hn, long_iff_not_fits, hfit, startSt,
        writeIndent_zero]
    rw [e]
    exact ⟨rfl, rfl, rfl, rfl, Or.inr ⟨hfit, ⟨⟨rfl, rfl, rfl, rfl, Or.inl rfl⟩, rfl, rfl, rfl, rfl, col_init⟩, by simp [spaces]⟩⟩
  · have e : beginVariant o f n (startSt o) =
        ({}, { afterKey (startSt o) 0 (T.name n ++ [':']) true with currentMapDepth := none }) := by
      simp [beginVariant, indentIfLineStart, St.write, afterKey, hw.name n hn, long_iff_not_fits, hfit, startSt, writeIndent_zero]
    rw [e]
    exact ⟨rfl, rfl, rfl, rfl, Or.inl ⟨hfit, ⟨⟨rfl, rfl, rfl, rfl, Or.inl rfl⟩, rfl, rfl, rfl, rfl, Or.inr ⟨rfl, rfl, rfl⟩,
      (col_init (o := o)).of_shift rfl⟩, rfl, by simp [afterKey, List.append_assoc]⟩⟩

/-- `end_variant` outside flow style: `current_map_depth` and `indent_shift` become what the frame holds, if anything; an explicit key
also has `depth` and `pending_inline_map` put back (the right-hand side takes these two fields from `endVariant fr s` itself: nothing
is said of them here); nothing else changes -/
theorem endVariant_frame (fr : VariantFrame) (s : St) (h : fr.flow = false) :
    endVariant fr s =
      { s with currentMapDepth := fr.prevMapDepth.getD s.currentMapDepth, indentShift := fr.restoreShift.getD s.indentShift,
               depth := (endVariant fr s).depth, pendingInlineMap := (endVariant fr s).pendingInlineMap } := by
  obtain ⟨pm, rs, fl, rl⟩ := fr
  simp only at h; subst h
  cases pm <;> cases rs <;> cases rl <;> rfl

/-- `end_variant` after the payload (in whatever context `begin_variant` put it, after the text `pre`): `current_map_depth` and
`indent_shift` are back, the result shape is kept -/
theorem Good.afterVariant {s s3 : St} {r : List Char × List Line × Bool} {res : Except EmitErr St}
    (pre : List Char) (h : Good o s3 r res) (hout : s3.out = s.out ++ pre) (fr : VariantFrame)
    (hfl : fr.flow = false) (hpm : fr.prevMapDepth.getD s3.currentMapDepth = s.currentMapDepth)
    (hr : fr.restoreShift.getD s3.indentShift = s.indentShift) :
    ∃ s5, res = .ok s5 ∧ (endVariant fr s5).out = s.out ++ pre ++ r.1 ++ ['\n'] ++ renderLines r.2.1 ∧
      (endVariant fr s5).lastValueWasBlock = r.2.2 ∧ Post o s (endVariant fr s5) := by
  obtain ⟨s5, he, ho5, hl5, hp5⟩ := h
  refine ⟨s5, he, ?_, ?_, ?_⟩
  all_goals rw [endVariant_frame fr s5 hfl]
  · rw [← hout]; exact ho5
  · exact hl5
  · exact ⟨⟨hp5.inFlow, hp5.pendingFlow, hp5.pss, hp5.pic, hp5.doc⟩, hp5.als, hp5.psc, hp5.cmd ▸ hpm, hp5.shift ▸ hr⟩

/-- restoring `current_map_depth` (and `indent_shift`) after a nested value keeps the result shape: `end_variant` for the
frame of a name that fits an implicit key -/
theorem Good.restore {s s3 : St} {r : List Char × List Line × Bool} {res : Except EmitErr St}
    (pre : List Char) (h : Good o s3 r res) (hout : s3.out = s.out ++ pre) (rs : Option Int)
    (hr : (rs = none ∧ s3.indentShift = s.indentShift) ∨ rs = some s.indentShift) :
    ∃ s5, res = .ok s5 ∧
      (restoreShift rs { s5 with currentMapDepth := s.currentMapDepth }).out = s.out ++ pre ++ r.1 ++ ['\n'] ++ renderLines r.2.1 ∧
      (restoreShift rs { s5 with currentMapDepth := s.currentMapDepth }).lastValueWasBlock = r.2.2 ∧
      Post o s (restoreShift rs { s5 with currentMapDepth := s.currentMapDepth }) :=
  Good.afterVariant pre h hout { prevMapDepth := some s.currentMapDepth, restoreShift := rs } rfl rfl
    (by rcases hr with ⟨rfl, h⟩ | rfl <;> first | exact h | rfl)

/-- `Variant: payload`, in any position: `begin_variant`, the payload `Q` (`hP`: after `Variant:`; `hI`: after `: ` when the name needs an
explicit key), `end_variant`.  The layouts `r`, `ri` of the payload at the column of the entry depend on `current_map_depth` being set
and on `lvb`. -/
theorem variant_step {n N pre : List Char} {d i : Nat} {im : Bool} {Q : St → Except EmitErr St}
    {r : Bool → Bool → List Char × List Line × Bool} {ri : Bool → List Char × List Line × Bool} {s : St}
    (hb : VariantOpens o s N pre d i im (beginVariant o f n s))
    (hP : ∀ s3 : St, ValCtx o s3 d i → Good o s3 (r s3.currentMapDepth.isSome s3.lastValueWasBlock) (Q s3))
    (hI : ∀ s3 : St, ItemCtx o s3 d i → Good o s3 (ri s3.lastValueWasBlock) (Q s3)) :
    ∃ s', variantRun o f n Q s = .ok s' ∧
      s'.out = s.out ++ pre ++ (variantAt i N (r im s.lastValueWasBlock) (ri s.lastValueWasBlock)).1 ++ ['\n'] ++
        renderLines (variantAt i N (r im s.lastValueWasBlock) (ri s.lastValueWasBlock)).2.1 ∧
      s'.lastValueWasBlock = (variantAt i N (r im s.lastValueWasBlock) (ri s.lastValueWasBlock)).2.2 ∧ Post o s s' := by
  rw [variantRun]
  rcases hb.payload with ⟨hfit, hc, him, hout⟩ | ⟨hfit, hc, hout⟩
  · have ih := hP _ hc
    rw [him, hb.lvb] at ih
    obtain ⟨s5, he, ho5, hl5, hp5⟩ := ih.afterVariant (s := s) (pre ++ N ++ [':']) (by rw [hout]; simp only [List.append_assoc]) _
      hb.flow hb.prev hb.shift
    simp only [he]
    exact ⟨_, rfl, by rw [ho5]; simp [variantAt, hfit, List.append_assoc], by rw [hl5]; simp [variantAt, hfit], hp5⟩
  · have ih := hI _ hc
    rw [hb.lvb] at ih
    obtain ⟨s5, he, ho5, hl5, hp5⟩ := ih.afterVariant (s := s) (pre ++ ['?', ' '] ++ N ++ ['\n'] ++ spaces i ++ [':', ' '])
      (by rw [hout]; simp only [List.append_assoc]) _ hb.flow hb.prev hb.shift
    simp only [he]
    exact ⟨_, rfl, by rw [ho5]; simp [variantAt, hfit, List.append_assoc], by rw [hl5]; simp [variantAt, hfit], hp5⟩


def ValOK (o : Opts) (f : ScalarFns) (T : Toks) (v : SVal) : Prop :=
  ∀ (s : St) (m c : Nat), ValCtx o s m c →
    Good o s (layVal T o.indentStep o.compactListIndent s.currentMapDepth.isSome c s.lastValueWasBlock v) (ser o f v s)
def ItemOK (o : Opts) (f : ScalarFns) (T : Toks) (v : SVal) : Prop :=
  ∀ (s : St) (d c : Nat), ItemCtx o s d c → Good o s (layItem T o.indentStep o.compactListIndent c s.lastValueWasBlock v) (ser o f v s)
/-- the items of a block sequence whose dashes stand at column `c`; in the middle of a line (`EntryCtx`) only the first item of
a non-empty sequence starts.  The loop hands the `SeqSer` back with `first` cleared by any item. -/
def ItemsOK (o : Opts) (f : ScalarFns) (T : Toks) (xs : List SVal) : Prop :=
  ∀ (s : St) (q : SeqSer) (c : Nat), q.flow = false → EntryCtx o s → Col o s q.depth c →
    (s.atLineStart = true → q.first = true → s.pendingInlineMap = false) →
    (s.atLineStart = false → q.first = true ∧ xs ≠ []) →
    ∃ s', serSeqElems o f q xs s = .ok ({ q with first := q.first && xs.isEmpty }, s') ∧
      GoodFrom o s (layItems T o.indentStep o.compactListIndent c s.lastValueWasBlock xs) s'
/-- the entries of a block mapping whose keys stand at column `c`; in the middle of a line only the first entry of a non-empty
mapping starts (there the key prefix clears `last_value_was_block`).  The loop hands the `MapSer` back with `first` and
`last_key_complex` cleared by any entry. -/
def EntriesOK (o : Opts) (f : ScalarFns) (T : Toks) (es : List (SVal × SVal)) : Prop :=
  ∀ (s : St) (m : MapSer) (c : Nat), m.flow = false → m.inlineValueStart = false → EntryCtx o s → Col o s m.depth c →
    (s.atLineStart = false → es ≠ []) →
    ∃ s', serMapEntries o f m es s =
        .ok ({ m with first := m.first && es.isEmpty, lastKeyComplex := m.lastKeyComplex && es.isEmpty }, s') ∧
      GoodFrom o s (layEntries T o.indentStep o.compactListIndent c (s.atLineStart && s.lastValueWasBlock) es) s'

theorem ser_str (t : List Char) (s : St) : ser o f (.str t) s = .ok (serStr o f t s) := by rw [ser]

theorem items_nil : ItemsOK o f T [] := by
  intro s q c hq h _ _ hne
  have hals : s.atLineStart = true := by
    cases ha : s.atLineStart
    · exact absurd rfl (hne ha).2
    · rfl
  refine ⟨s, by rw [serSeqElems]; cases q; simp, ?_, ?_, ?_⟩
  · simp [layItems, renderFrom]
  · simp [layItems]
  · exact { toBase := h.toBase, als := hals, psc := h.psc, cmd := rfl, shift := rfl }

theorem items_cons {x : SVal} {xs : List SVal} (hx : ItemOK o f T x) (hxs : ItemsOK o f T xs) : ItemsOK o f T (x :: xs) := by
  intro s q c hq h hcol hp hne
  obtain ⟨qd, qf, qfirst, qrs⟩ := q
  simp only at hq hcol
  subst hq
  rw [serSeqElems]
  simp only [Bool.false_eq_true, if_false]
  obtain ⟨hc3, hout3, hl3, hcmd3, hsh3⟩ := seqElemPrefix_at (o := o) (q := { depth := qd, flow := false, first := qfirst, restoreShift := qrs }) h hcol hp
    (fun ha => (hne ha).1)
  obtain ⟨sx, hex, houtx, hlx, hpx⟩ := hx _ qd c hc3
  have hlx' := LineCtx.ofPost hpx
  obtain ⟨s', he, hg⟩ :=
    hxs sx { depth := qd, flow := false, first := false, restoreShift := qrs } c rfl hlx'.entry
      (hcol.of_shift (by rw [hpx.shift, hsh3])) (by simp) hlx'.notMid
  refine ⟨s', by rw [hex]; simpa using he, ?_, ?_, ?_⟩
  · rw [hg.lines hpx.als, houtx, hout3, hlx, hl3]
    simp [layItems, renderFrom, renderLines_append, List.append_assoc]
  · rw [hg.2.1, hlx, hl3]; simp [layItems]
  · exact { toBase := hg.2.2.toBase, als := hg.2.2.als, psc := hg.2.2.psc,
            cmd := by rw [hg.2.2.cmd, hpx.cmd, hcmd3], shift := by rw [hg.2.2.shift, hpx.shift, hsh3] }

/-- the items of a non-empty sequence, run on the `SeqSer` that `serialize_seq` makes -/
theorem ItemsOK.run {x : SVal} {xs : List SVal} (hxs : ItemsOK o f T (x :: xs)) {s : St} {d c : Nat} (rs : Option Int)
    (h : EntryCtx o s) (hcol : Col o s d c) (hp : s.atLineStart = true → s.pendingInlineMap = false) :
    ∃ s', serSeqElems o f { depth := d, flow := false, first := true, restoreShift := rs } (x :: xs) s =
        .ok ({ depth := d, flow := false, first := false, restoreShift := rs }, s') ∧
      GoodFrom o s (layItems T o.indentStep o.compactListIndent c s.lastValueWasBlock (x :: xs)) s' :=
  hxs s { depth := d, flow := false, first := true, restoreShift := rs } c rfl h hcol (fun ha _ => hp ha) (fun _ => ⟨rfl, by simp⟩)

theorem seq_empty_val (ho : FragOpts o) {s : St} {m c : Nat} (h : ValCtx o s m c) :
    Good o s (" []".toList, [], false) (.ok (seqEnd o (serializeSeq o s).1 (serializeSeq o s).2)) := by
  have e : seqEnd o (serializeSeq o s).1 (serializeSeq o s).2 =
      { s with out := s.out ++ [' ', '[', ']', '\n'], pendingFlow := none, pendingInlineComment := none,
               pendingSpaceAfterColon := false, atLineStart := true, lastValueWasBlock := false } := by
    cases hl : s.lastValueWasBlock <;>
      simp [serializeSeq, takeFlow, seqEnd, newline, St.write, h.inFlow, h.pendingFlow, h.add, h.psc, h.als, hl, ho.braces]
  rw [e]
  exact ⟨_, rfl, by simp, rfl, ⟨h.inFlow, rfl, h.pss, rfl, h.doc⟩, rfl, rfl, rfl, rfl⟩

theorem seq_empty_item (ho : FragOpts o) {s : St} {d c : Nat} (h : ItemCtx o s d c) :
    Good o s ("[]".toList, [], s.lastValueWasBlock) (.ok (seqEnd o (serializeSeq o s).1 (serializeSeq o s).2)) := by
  have e : seqEnd o (serializeSeq o s).1 (serializeSeq o s).2 =
      { s with out := s.out ++ ['[', ']', '\n'], pendingFlow := none, pendingInlineComment := none, atLineStart := true } := by
    simp [serializeSeq, takeFlow, seqEnd, restoreShift, newline, St.write, shiftForInlineNode, h.inFlow, h.pendingFlow, h.add,
      h.psc, h.als, ho.braces]
  rw [e]
  exact ⟨_, rfl, by simp, rfl, ⟨h.inFlow, rfl, h.pss, rfl, h.doc⟩, rfl, h.psc, rfl, rfl⟩

theorem serSeqElems_nil (q : SeqSer) (s : St) : serSeqElems o f q [] s = .ok (q, s) := by rw [serSeqElems]
theorem serMapEntries_nil (m : MapSer) (s : St) : serMapEntries o f m [] s = .ok (m, s) := by rw [serMapEntries]

theorem seq_val_step (ho : FragOpts o) {xs : List SVal} (hxs : ItemsOK o f T xs) (s : St) (m c : Nat) (h : ValCtx o s m c) :
    Good o s (seqValOf xs.isEmpty (layItems T o.indentStep o.compactListIndent
      (seqCol o.indentStep o.compactListIndent s.currentMapDepth.isSome c) false xs).1) (ser o f (.seq xs) s) := by
  rw [ser_seq]
  cases xs with
  | nil =>
    rw [serSeqElems_nil]
    simpa [seqValOf] using seq_empty_val (o := o) ho h
  | cons x xs' =>
    obtain ⟨s2, dq, heq, hc2, hp2, hout2, hl2, hcmd2, hsh2, hcolq⟩ := serializeSeq_val (f := f) ho h x xs'
    obtain ⟨s', he, hg⟩ := hxs.run none hc2.entry hcolq (fun _ => hp2)
    rw [heq, he]
    obtain ⟨hp, hout, hlvb⟩ := seqEnd_nonempty (o := o) (s0 := s) (q := { depth := dq, flow := false, first := false }) rfl rfl hg.2.2 hcmd2 hsh2
    refine ⟨_, rfl, ?_, ?_, hp⟩
    · rw [hout, hg.lines hc2.als, hout2, hl2]; simp [seqValOf, List.append_assoc]
    · rw [hlvb]; simp [seqValOf]

theorem seq_item_step (ho : FragOpts o) {xs : List SVal} (hxs : ItemsOK o f T xs) (s : St) (d c : Nat) (h : ItemCtx o s d c) :
    Good o s (laySeqItem T o.indentStep o.compactListIndent c s.lastValueWasBlock xs) (ser o f (.seq xs) s) := by
  rw [ser_seq]
  obtain ⟨hq, hb1, hals1, hpsc1, hout1, hl1, hcmd1, hcol1⟩ := serializeSeq_item (o := o) h
  cases xs with
  | nil =>
    rw [serSeqElems_nil]
    simpa [laySeqItem] using seq_empty_item (o := o) ho h
  | cons x xs' =>
    rw [hq]
    obtain ⟨s', he, hg⟩ := hxs.run (some s.indentShift) ⟨hb1, hpsc1⟩ hcol1 (fun ha => by rw [hals1] at ha; exact Bool.noConfusion ha)
    rw [he]
    obtain ⟨hp, hout, hlvb⟩ := seqEnd_nonempty (o := o) (s0 := s)
      (q := { depth := d + 1, flow := false, first := false, restoreShift := some s.indentShift }) rfl rfl hg.2.2 hcmd1 rfl
    refine ⟨_, rfl, ?_, ?_, hp⟩
    · rw [hout, hg.1, hout1, hl1, layItems_inline]
      simp [renderFrom, indentAt, hals1, List.append_assoc]
    · rw [hlvb]; simp [laySeqItem]

theorem entries_nil : EntriesOK o f T [] := by
  intro s m c hm _ h _ hne
  have hals : s.atLineStart = true := by
    cases ha : s.atLineStart
    · exact absurd rfl (hne ha)
    · rfl
  refine ⟨s, by rw [serMapEntries]; cases m; simp, ?_, ?_, ?_⟩
  · simp [layEntries, renderFrom]
  · simp [layEntries, hals]
  · exact { toBase := h.toBase, als := hals, psc := h.psc, cmd := rfl, shift := rfl }

theorem entries_cons (hw : WriteContract o f P T) {k : List Char} {v : SVal} {es : List (SVal × SVal)} (hk : P.key k = true)
    (hfit : fitsImplicit (T.key k) = true)
    (hv : ValOK o f T v) (hes : EntriesOK o f T es) : EntriesOK o f T ((.str k, v) :: es) := by
  intro s m c hm hivs h hcol _
  obtain ⟨s4, hc4, hout4, hl4, hsh4, him4, heq⟩ := serMapEntries_cons_at (o := o) hw v es hk hfit hm hivs h hcol
  rw [heq]
  obtain ⟨sv, hev, houtv, hlv, hpv⟩ := hv s4 m.depth c hc4
  rw [him4] at houtv hlv
  rw [hev]
  have hl5 : LineCtx o { sv with currentMapDepth := s.currentMapDepth, pendingInlineMap := false } :=
    { toBase := ⟨hpv.inFlow, hpv.pendingFlow, hpv.pss, hpv.pic, hpv.doc⟩, als := hpv.als, psc := hpv.psc }
  obtain ⟨s', he, hg⟩ :=
    hes _ { m with first := false, lastKeyComplex := false } c hm hivs hl5.entry
      (hcol.of_shift (by simp [hpv.shift, hsh4])) hl5.notMid
  refine ⟨s', by simpa using he, ?_, ?_, ?_⟩
  · rw [hg.lines hl5.als]
    simp [houtv, hout4, hlv, hl4, hpv.als, layEntries, keyOf, hfit, renderFrom, renderLines_append, List.append_assoc]
  · rw [hg.2.1]; simp [hlv, hl4, hpv.als, layEntries, keyOf, hfit]
  · exact { toBase := hg.2.2.toBase, als := hg.2.2.als, psc := hg.2.2.psc, cmd := by rw [hg.2.2.cmd],
            shift := by rw [hg.2.2.shift]; simp [hpv.shift, hsh4] }

theorem complexEntryDone_line {s s0 s2 sv : St} (hpv : Post o s2 sv) (hc : s0.currentMapDepth = s.currentMapDepth) :
    LineCtx o (complexEntryDone s0 sv) ∧ (complexEntryDone s0 sv).out = sv.out ∧
    (complexEntryDone s0 sv).lastValueWasBlock = sv.lastValueWasBlock ∧
    (complexEntryDone s0 sv).currentMapDepth = s.currentMapDepth ∧
    (complexEntryDone s0 sv).indentShift = sv.indentShift := by
  refine ⟨?_, rfl, rfl, by simp [complexEntryDone, hc], rfl⟩
  constructor
  · constructor <;> simp [complexEntryDone, hpv.inFlow, hpv.pendingFlow, hpv.pss, hpv.pic, hpv.doc]
  all_goals simp [complexEntryDone, hpv.als, hpv.psc]

theorem entries_cons_complex {k v : SVal} {es : List (SVal × SVal)} (hkc : isComplexKey k = true)
    (hk : ItemOK o f T k) (hv : ItemOK o f T v) (hes : EntriesOK o f T es) : EntriesOK o f T ((k, v) :: es) := by
  intro s m c hm hivs h hcol _
  obtain ⟨hm1, hc1, hout1, hl1, hsh1, hcmd0⟩ := complexKey_at (o := o) hivs h hcol
  rw [serMapEntries_complex m k v es s hm (keyText_complex k hkc), hm1]
  obtain ⟨sk, hek, houtk, hlk, hpk⟩ := hk _ m.depth c hc1
  rw [hek]
  dsimp only
  obtain ⟨hc2, hout2, hl2, hsh2⟩ := complexValue_ctx (o := o) (m := m) (s0 := complexKeyMark o m (mapKeyPrefix m s).2)
    hpk.toBase hpk.als (hcol.of_shift (by rw [hpk.shift, hsh1]))
  obtain ⟨sv, hev, houtv, hlv, hpv⟩ := hv _ m.depth c hc2
  rw [hev]
  dsimp only
  obtain ⟨hc3, hout3, hl3, hcmd3, hsh3⟩ := complexEntryDone_line (s := s) hpv hcmd0
  obtain ⟨s', he, hg⟩ :=
    hes _ { m with first := false, lastKeyComplex := false } c hm hivs hc3.entry
      (hcol.of_shift (by rw [hsh3, hpv.shift, hsh2, hpk.shift, hsh1])) hc3.notMid
  refine ⟨s', by simpa using he, ?_, ?_, ?_⟩
  · rw [hg.lines hc3.als, hout3, houtv, hout2, houtk, hout1, hc3.als, hl3, hlv, hl2, hl1]
    simp [layEntries, keyOf_complex k hkc, renderFrom, renderLines_append, List.append_assoc]
  · rw [hg.2.1, hc3.als, hl3, hlv, hl2]; simp [layEntries, keyOf_complex k hkc]
  · exact { toBase := hg.2.2.toBase, als := hg.2.2.als, psc := hg.2.2.psc, cmd := by rw [hg.2.2.cmd, hcmd3],
            shift := by rw [hg.2.2.shift, hsh3, hpv.shift, hsh2, hpk.shift, hsh1] }

theorem entries_cons_long (hw : WriteContract o f P T) {k : List Char} {v : SVal} {es : List (SVal × SVal)} (hk : P.key k = true)
    (hfit : fitsImplicit (T.key k) = false)
    (hv : ItemOK o f T v) (hes : EntriesOK o f T es) : EntriesOK o f T ((.str k, v) :: es) := by
  intro s m c hm hivs h hcol _
  obtain ⟨hm1, hb0, hals0, hout0, hl0, hsh0, hcmd0⟩ := longKey_at (o := o) (T.key k) hivs h hcol
  rw [serMapEntries_long hw m v es s hm hk hfit, hm1]
  obtain ⟨hc2, hout2, hl2, hsh2⟩ := explicitValue_ctx (o := o) (m := m) hb0 hals0 (hcol.of_shift hsh0)
  obtain ⟨sv, hev, houtv, hlv, hpv⟩ := hv _ m.depth c hc2
  rw [hev]
  dsimp only
  obtain ⟨hc3, hout3, hl3, hcmd3, hsh3⟩ := complexEntryDone_line (s := s) hpv hcmd0
  obtain ⟨s', he, hg⟩ :=
    hes _ { m with first := false, lastKeyComplex := false } c hm hivs hc3.entry
      (hcol.of_shift (by rw [hsh3, hpv.shift, hsh2, hsh0])) hc3.notMid
  refine ⟨s', by simpa using he, ?_, ?_, ?_⟩
  · rw [hg.lines hc3.als, hout3, houtv, hout2, hout0, hc3.als, hl3, hlv, hl2, hl0]
    simp [layEntries, keyOf, hfit, renderFrom, renderLines_append, List.append_assoc]
  · rw [hg.2.1, hc3.als, hl3, hlv, hl2, hl0]; simp [layEntries, keyOf, hfit]
  · exact { toBase := hg.2.2.toBase, als := hg.2.2.als, psc := hg.2.2.psc, cmd := by rw [hg.2.2.cmd, hcmd3],
            shift := by rw [hg.2.2.shift, hsh3, hpv.shift, hsh2, hsh0] }

/-- the entries of a non-empty mapping, run on the `MapSer` that `serialize_map` makes -/
theorem EntriesOK.run {e : SVal × SVal} {es : List (SVal × SVal)} (hes : EntriesOK o f T (e :: es)) {s : St} {d c : Nat}
    (rs : Option Int) (h : EntryCtx o s) (hcol : Col o s d c) :
    ∃ s', serMapEntries o f { depth := d, flow := false, first := true, restoreShift := rs } (e :: es) s =
        .ok ({ depth := d, flow := false, first := false, restoreShift := rs }, s') ∧
      GoodFrom o s (layEntries T o.indentStep o.compactListIndent c (s.atLineStart && s.lastValueWasBlock) (e :: es)) s' :=
  hes s { depth := d, flow := false, first := true, restoreShift := rs } c rfl rfl h hcol (fun _ => by simp)

theorem map_empty_val (ho : FragOpts o) {s : St} {m c : Nat} (h : ValCtx o s m c) (len : Option Nat)
    (hlen : len = some 0 ∨ len = none) :
    Good o s (mapValOf (c + o.indentStep) s.lastValueWasBlock true [])
      (.ok (mapEnd o (serializeMap o len s).1 (serializeMap o len s).2)) := by
  cases hl : s.lastValueWasBlock
  · have e : mapEnd o (serializeMap o len s).1 (serializeMap o len s).2 =
        { s with out := s.out ++ [' ', '{', '}', '\n'], pendingFlow := none, pendingSpaceAfterColon := false,
                 atLineStart := true } := by
      rcases hlen with rfl | rfl <;>
        simp [serializeMap, takeFlow, mapEnd, newline, St.write, h.inFlow, h.pendingFlow, h.pim, h.psc, h.als, hl, ho.braces]
    rw [e]
    exact ⟨_, rfl, by simp [mapValOf], hl, ⟨h.inFlow, rfl, h.pss, h.pic, h.doc⟩, rfl, rfl, rfl, rfl⟩
  · -- after a block sibling the braces go to a line of their own, at the column of the entries
    have e : mapEnd o (serializeMap o len s).1 (serializeMap o len s).2 =
        { s with out := s.out ++ '\n' :: (spaces (c + o.indentStep) ++ ['{', '}', '\n']), pendingFlow := none,
                 pendingSpaceAfterColon := false, atLineStart := true, lastValueWasBlock := false, docStarted := true } := by
      rcases hlen with rfl | rfl <;>
        simp [serializeMap, takeFlow, mapEnd, mapIndent, newline, St.write, h.inFlow, h.pendingFlow, h.pim, h.psc, h.als, hl,
          ho.braces, h.baseIf, writeIndent_of (h.col.succ ho.indent) h.doc]
    rw [e]
    exact ⟨_, rfl, by simp [mapValOf], rfl, ⟨h.inFlow, rfl, h.pss, h.pic, Or.inl rfl⟩, rfl, rfl, rfl, rfl⟩

theorem map_empty_item (ho : FragOpts o) {s : St} {d c : Nat} (h : ItemCtx o s d c) (len : Option Nat) :
    Good o s ("{}".toList, [], s.lastValueWasBlock) (.ok (mapEnd o (serializeMap o len s).1 (serializeMap o len s).2)) := by
  have e : mapEnd o (serializeMap o len s).1 (serializeMap o len s).2 =
      { s with out := s.out ++ ['{', '}', '\n'], pendingFlow := none, pendingInlineMap := false, inlineMapAfterDash := true,
               atLineStart := true } := by
    simp [serializeMap, takeFlow, mapEnd, restoreShift, newline, St.write, shiftForInlineNode, h.inFlow, h.pendingFlow, h.pim,
      h.psc, h.als, ho.braces]
  rw [e]
  exact ⟨_, rfl, by simp, rfl, ⟨h.inFlow, rfl, h.pss, h.pic, h.doc⟩, rfl, h.psc, rfl, rfl⟩

theorem map_val_step (ho : FragOpts o) (known : Bool) {es : List (SVal × SVal)} (hes : EntriesOK o f T es) (s : St) (m c : Nat) (h : ValCtx o s m c) :
    Good o s (mapValOf (c + o.indentStep) s.lastValueWasBlock es.isEmpty (layEntries T o.indentStep o.compactListIndent (c + o.indentStep) false es).1)
      (ser o f (.map known es) s) := by
  rw [ser_map]
  cases es with
  | nil =>
    rw [serMapEntries_nil]
    have := map_empty_val (o := o) ho h (if known then some ([] : List (SVal × SVal)).length else none)
      (by cases known <;> simp)
    simpa [layEntries] using this
  | cons e es' =>
    obtain ⟨s2, heq, hc2, hout2, hl2, hcmd2, hsh2⟩ := serializeMap_val (f := f) ho h known e es'
    obtain ⟨s', he, hg⟩ := hes.run none hc2.entry ((h.col.succ ho.indent).of_shift hsh2)
    rw [heq, he]
    obtain ⟨hp, hout, hlvb⟩ := mapEnd_nonempty (o := o) (s0 := s) (m := { depth := m + 1, flow := false, first := false }) rfl rfl
      hg.2.2 hcmd2 hsh2
    refine ⟨_, rfl, ?_, ?_, hp⟩
    · rw [hout, hg.lines hc2.als, hout2, hc2.als, hl2]; simp [mapValOf, List.append_assoc]
    · rw [hlvb]; simp [mapValOf]

theorem map_item_step (ho : FragOpts o) (known : Bool) {es : List (SVal × SVal)} (hes : EntriesOK o f T es)
    (s : St) (d c : Nat) (h : ItemCtx o s d c) :
    Good o s (layMapItem T o.indentStep o.compactListIndent c s.lastValueWasBlock es) (ser o f (.map known es) s) := by
  rw [ser_map]
  generalize (if known = true then some es.length else none) = len
  cases es with
  | nil =>
    rw [serMapEntries_nil]
    simpa [layMapItem] using map_empty_item (o := o) ho h len
  | cons e es' =>
    obtain ⟨hm1, hb1, hals1, hpsc1, hout1, hl1, hcmd1, hcol1⟩ := serializeMap_item (o := o) len h
    rw [hm1]
    obtain ⟨s', he, hg⟩ := hes.run (some s.indentShift) ⟨hb1, hpsc1⟩ hcol1
    rw [he]
    obtain ⟨hp, hout, hlvb⟩ := mapEnd_nonempty (o := o) (s0 := s)
      (m := { depth := d + 1, flow := false, first := false, restoreShift := some s.indentShift }) rfl rfl hg.2.2 hcmd1 rfl
    have hlines := hg.1
    rw [hals1, Bool.false_and, layEntries_inline (lvb := s.lastValueWasBlock)] at hlines
    refine ⟨_, rfl, ?_, ?_, hp⟩
    · rw [hout, hlines, hout1]
      simp [renderFrom, indentAt, hals1, List.append_assoc]
    · rw [hlvb, layMapItem_lvb]

/-- The layouts `r`, `ri` of the payload take the column first — `layVal` takes the flag `inMap` first, hence the
`fun c im lvb => layVal T k cp im c lvb v` where this and the next two lemmas are applied. -/
theorem variant_val_step (ho : FragOpts o) (hw : WriteContract o f P T) {n : List Char} (hn : P.name n = true) {Q : St → Except EmitErr St}
    {r : Nat → Bool → Bool → List Char × List Line × Bool} {ri : Nat → Bool → List Char × List Line × Bool}
    (hP : ∀ (s3 : St) (m c : Nat), ValCtx o s3 m c → Good o s3 (r c s3.currentMapDepth.isSome s3.lastValueWasBlock) (Q s3))
    (hI : ∀ (s3 : St) (d c : Nat), ItemCtx o s3 d c → Good o s3 (ri c s3.lastValueWasBlock) (Q s3))
    (s : St) (m c : Nat) (h : ValCtx o s m c) :
    Good o s (variantVal (c + o.indentStep) (T.name n) (r (c + o.indentStep) true s.lastValueWasBlock)
      (ri (c + o.indentStep) s.lastValueWasBlock)) (variantRun o f n Q s) := by
  obtain ⟨s', he, hout, hl, hp⟩ := variant_step (beginVariant_val ho hw h hn) (fun s3 => hP s3 _ _) (fun s3 => hI s3 _ _)
  exact ⟨s', he, by rw [hout, variantVal_at]; simp [List.append_assoc], by rw [hl, variantVal_at], hp⟩

theorem variant_item_step (hw : WriteContract o f P T) {n : List Char} (hn : P.name n = true) {Q : St → Except EmitErr St}
    {r : Nat → Bool → Bool → List Char × List Line × Bool} {ri : Nat → Bool → List Char × List Line × Bool}
    (hP : ∀ (s3 : St) (m c : Nat), ValCtx o s3 m c → Good o s3 (r c s3.currentMapDepth.isSome s3.lastValueWasBlock) (Q s3))
    (hI : ∀ (s3 : St) (d c : Nat), ItemCtx o s3 d c → Good o s3 (ri c s3.lastValueWasBlock) (Q s3))
    (s : St) (d c : Nat) (h : ItemCtx o s d c) :
    Good o s (variantItem c (T.name n) (r (c + 2) true s.lastValueWasBlock) (ri (c + 2) s.lastValueWasBlock)) (variantRun o f n Q s) := by
  obtain ⟨s', he, hout, hl, hp⟩ := variant_step (beginVariant_item hw h hn) (fun s3 => hP s3 _ _) (fun s3 => hI s3 _ _)
  exact ⟨s', he, by rw [hout, variantItem_at, List.append_nil], by rw [hl, variantItem_at], hp⟩

theorem variant_root (hw : WriteContract o f P T) {n : List Char} (hn : P.name n = true) {Q : St → Except EmitErr St}
    {r : Nat → Bool → Bool → List Char × List Line × Bool} {ri : Nat → Bool → List Char × List Line × Bool}
    (hP : ∀ (s3 : St) (m c : Nat), ValCtx o s3 m c → Good o s3 (r c s3.currentMapDepth.isSome s3.lastValueWasBlock) (Q s3))
    (hI : ∀ (s3 : St) (d c : Nat), ItemCtx o s3 d c → Good o s3 (ri c s3.lastValueWasBlock) (Q s3)) :
    ∃ s', variantRun o f n Q (startSt o) = .ok s' ∧
      s'.out = prologue o ++ renderLines (variantRoot (T.name n) (r 0 false false) (ri 0 false)) := by
  obtain ⟨s', he, hout, _, _⟩ := variant_step (beginVariant_root (o := o) (f := f) hw hn) (fun s3 => hP s3 _ _) (fun s3 => hI s3 _ _)
  exact ⟨s', he, by rw [hout, variantRoot_at]; simp [spaces, List.append_assoc]⟩


theorem seq_root (ho : FragOpts o) {xs : List SVal} (hxs : ItemsOK o f T xs) :
    ∃ s', ser o f (.seq xs) (startSt o) = .ok s' ∧
      s'.out = prologue o ++ renderLines (if xs.isEmpty then [⟨0, "[]".toList⟩] else (layItems T o.indentStep o.compactListIndent 0 false xs).1) := by
  rw [ser_seq]
  obtain ⟨hq, hc1, hout1, hl1, hcmd1, hpim1, hsh1⟩ := serializeSeq_line (o := o) lineCtx_init rfl
  have hcol1 : Col o (serializeSeq o (startSt o)).2 0 0 := (col_init (o := o)).of_shift hsh1
  cases xs with
  | nil =>
    rw [serSeqElems_nil]
    exact ⟨_, rfl, by simp [hq, seqEnd, ho.braces, hc1.als, hc1.psc, writeIndent_of hcol1 hc1.doc hc1.als rfl rfl, newline, St.write,
      hout1, spaces]⟩
  | cons x xs' =>
    obtain ⟨s', he, hg⟩ := hxs.run none hc1.entry hcol1 (fun _ => by rw [hpim1]; rfl)
    rw [hq, he]
    refine ⟨_, rfl, ?_⟩
    simp [seqEnd, hg.lines hc1.als, hout1, hl1]

theorem map_root (ho : FragOpts o) (known : Bool) {es : List (SVal × SVal)} (hes : EntriesOK o f T es) :
    ∃ s', ser o f (.map known es) (startSt o) = .ok s' ∧
      s'.out = prologue o ++ renderLines (if es.isEmpty then [⟨0, "{}".toList⟩] else (layEntries T o.indentStep o.compactListIndent 0 false es).1) := by
  rw [ser_map]
  generalize (if known = true then some es.length else none) = len
  obtain ⟨hm1, hc1, hout1, hl1, hcmd1, hsh1⟩ := serializeMap_line (o := o) len lineCtx_init rfl rfl
  have hcol1 : Col o (serializeMap o len (startSt o)).2 0 0 := (col_init (o := o)).of_shift hsh1
  cases es with
  | nil =>
    rw [serMapEntries_nil]
    exact ⟨_, rfl, by simp [hm1, mapEnd, mapIndent, ho.braces, hc1.als, hc1.psc, writeIndent_of hcol1 hc1.doc hc1.als rfl rfl, newline,
      St.write, hout1, spaces]⟩
  | cons e es' =>
    obtain ⟨s', he, hg⟩ := hes.run none hc1.entry hcol1
    rw [hm1, he]
    refine ⟨_, rfl, ?_⟩
    simp [mapEnd, hg.lines hc1.als, hc1.als, hout1, hl1]

/-- the first `write_indent` of a document emits the prologue: from the initial state it does what it does from `startSt o` -/
theorem writeIndent_init (d : Nat) : writeIndent o {} d = writeIndent o { out := prologue o, docStarted := true } d := by
  cases hy : o.yaml12 <;> simp [writeIndent, St.write, prologue, prologueText, hy, indentCols]

theorem serToken_init (tok : List Char) : serToken o tok {} = serToken o tok (startSt o) := by
  simp [serToken, indentIfLineStart, writeSpaceIfPending, startSt]
  simp [writeIndent_init]

/-- the step `g` of the serializer writes a leaf whose text in the position `pos` is `r pos` (the text on the line of the leaf,
the lines that follow it) after a key, after a dash and at the root, and runs from the initial state as from `startSt o`: what
`WriteContract` says of a string leaf and of a unit variant -/
structure LeafWrites (o : Opts) (g : St → Except EmitErr St) (r : StrPos → List Char × List Line) : Prop where
  val : ∀ (st : St) (m c : Nat), ValCtx o st m c → Good o st (' ' :: (r (.val c)).1, (r (.val c)).2, false) (g st)
  item : ∀ (st : St) (d c : Nat), ItemCtx o st d c → Good o st ((r (.item c)).1, (r (.item c)).2, false) (g st)
  root : ∃ s', g (startSt o) = .ok s' ∧ s'.out = prologue o ++ renderLines (⟨0, (r .root).1⟩ :: (r .root).2)
  init : g {} = g (startSt o)

theorem LeafWrites.ofToken {g : St → Except EmitErr St} {tok : List Char}
    (h : ∀ st : St, st.pendingStrStyle = none → st.inFlow = 0 → g st = .ok (serToken o tok st)) :
    LeafWrites o g (fun _ => (tok, [])) where
  val := fun st m c hc => by rw [h st hc.pss hc.inFlow]; exact serToken_val (o := o) tok hc
  item := fun st d c hc => by rw [h st hc.pss hc.inFlow]; exact serToken_item (o := o) tok hc
  root := ⟨_, h _ rfl rfl, by simpa using (serToken_line (o := o) tok lineCtx_init rfl col_init).1⟩
  init := by rw [h {} rfl rfl, h (startSt o) rfl rfl, serToken_init]

theorem seq_init (hb : o.emptyAsBraces = true) (xs : List SVal) : ser o f (.seq xs) {} = ser o f (.seq xs) (startSt o) := by
  rw [ser_seq, ser_seq]
  have e : serializeSeq o ({} : St) = ({ depth := 0, flow := false }, {}) := by simp [serializeSeq, takeFlow]
  have e' : serializeSeq o (startSt o) = ({ depth := 0, flow := false }, startSt o) := by simp [serializeSeq, takeFlow, startSt]
  rw [e, e']
  cases xs with
  | nil =>
    rw [serSeqElems_nil, serSeqElems_nil]
    simp [seqEnd, restoreShift, newline, St.write, hb, startSt]
    simp [writeIndent_init]
  | cons x xs' =>
    rw [serSeqElems, serSeqElems]
    have h3 : seqElemPrefix o { depth := 0, flow := false } ({} : St) = seqElemPrefix o { depth := 0, flow := false } (startSt o) := by
      simp [seqElemPrefix, startSt]
      simp [writeIndent_init]
    simp only [Bool.false_eq_true, if_false, h3]

theorem map_init (hb : o.emptyAsBraces = true) (known : Bool) (es : List (SVal × SVal)) :
    ser o f (.map known es) {} = ser o f (.map known es) (startSt o) := by
  rw [ser_map, ser_map]
  generalize (if known = true then some es.length else none) = len
  have e : serializeMap o len ({} : St) = ({ depth := 0, flow := false }, {}) := by simp [serializeMap, takeFlow]
  have e' : serializeMap o len (startSt o) = ({ depth := 0, flow := false }, startSt o) := by simp [serializeMap, takeFlow, startSt]
  rw [e, e']
  cases es with
  | nil =>
    rw [serMapEntries_nil, serMapEntries_nil]
    simp [mapEnd, mapIndent, restoreShift, newline, St.write, hb, startSt]
    simp [writeIndent_init]
  | cons e es' =>
    obtain ⟨k, v⟩ := e
    rw [serMapEntries, serMapEntries]
    have h3 : mapKeyPrefix { depth := 0, flow := false } ({} : St) = ({ depth := 0, flow := false }, {}) := by
      simp [mapKeyPrefix]
    have h3' : mapKeyPrefix { depth := 0, flow := false } (startSt o) = ({ depth := 0, flow := false }, startSt o) := by
      simp [mapKeyPrefix, startSt]
    have h4 : mapIndent o { depth := 0, flow := false } ({} : St) = mapIndent o { depth := 0, flow := false } (startSt o) := by
      simp [mapIndent, startSt, writeIndent_init]
    have h5 : complexKeyMark o { depth := 0, flow := false } ({} : St) = complexKeyMark o { depth := 0, flow := false } (startSt o) := by
      simp [complexKeyMark, startSt, writeIndent_init]
    have h6 : ∀ text, longKeyLine o { depth := 0, flow := false } text ({} : St) = longKeyLine o { depth := 0, flow := false } text (startSt o) := by
      intro text; simp only [longKeyLine, h4]
    simp only [Bool.false_eq_true, if_false, h3, h3', h4, h5, h6]

theorem beginVariantExplicit_init (key : List Char) :
    beginVariantExplicit o key false {} = beginVariantExplicit o key false (startSt o) := by
  simp [beginVariantExplicit, startSt]
  simp [writeIndent_init]

theorem beginVariant_init (n : List Char) : beginVariant o f n {} = beginVariant o f n (startSt o) := by
  by_cases hl : (plainOrQuoted o f n).length > maxImplicitKeyChars
  · simp only [beginVariant, hl, if_true]
    simpa [startSt] using beginVariantExplicit_init (o := o) (plainOrQuoted o f n)
  · simp [beginVariant, hl, indentIfLineStart, startSt]
    simp [writeIndent_init]

/-- the serializer on a value: after a key and after a dash it writes the layout of the position (`ValOK`, `ItemOK`), at
the root the layout of the document; from the initial state it runs exactly as from `startSt o` (the first thing
written is the indentation of the first line, by `write_indent`, which emits the prologue) -/
structure SerOK (o : Opts) (f : ScalarFns) (T : Toks) (v : SVal) : Prop where
  val : ValOK o f T v
  item : ItemOK o f T v
  root : ∃ s', ser o f v (startSt o) = .ok s' ∧ s'.out = prologue o ++ renderLines (layRoot T o.indentStep o.compactListIndent v)
  init : ser o f v {} = ser o f v (startSt o)

theorem SerOK.congr {v w : SVal} (hs : ∀ s, ser o f w s = ser o f v s)
    (h1 : ∀ k cp im c lvb, layVal T k cp im c lvb w = layVal T k cp im c lvb v)
    (h2 : ∀ k cp c lvb, layItem T k cp c lvb w = layItem T k cp c lvb v) (h3 : ∀ k cp, layRoot T k cp w = layRoot T k cp v)
    (h : SerOK o f T v) : SerOK o f T w where
  val := fun s m c hc => by rw [hs, h1]; exact h.val s m c hc
  item := fun s d c hc => by rw [hs, h2]; exact h.item s d c hc
  root := by rw [hs, h3]; exact h.root
  init := by rw [hs, hs]; exact h.init

theorem ser_leaf {v : SVal} {tok : List Char} (h : leafTok T v = some tok) (s : St) : ser o f v s = .ok (serToken o tok s) := by
  cases v <;> simp only [leafTok, Option.some.injEq, reduceCtorEq] at h <;> subst h <;> rw [ser]

/-- The emitter invariant: on every value of the fragment the state machine produces exactly the layout — in
every position, and for the items of a sequence and the entries of a mapping wherever they start (`ItemsOK`, `EntriesOK`:
at a line start, or the first one at the cursor right after `- ` / `? ` / `: `). -/
theorem ser_shapes (ho : FragOpts o) (hw : WriteContract o f P T) :
    (∀ v, inFragP P v = true → SerOK o f T v) ∧ (∀ xs, inFragListP P xs = true → ItemsOK o f T xs) ∧
    (∀ es, inFragEntriesP P es = true → EntriesOK o f T es) := by
  refine inFragP.shapes_all ?leaf ?str ?unit ?wrap ?seq ?map ?nv ?tv ?sv ?nil ?cons ?enil ?ekey ?ecomplex
  case leaf =>
    intro v hl
    obtain ⟨tok, ht⟩ := leafTok_of_isLeaf T hl
    have h := LeafWrites.ofToken (o := o) fun s _ _ => ser_leaf (f := f) ht s
    obtain ⟨e1, e2, e3⟩ := lay_leaf ht o.indentStep o.compactListIndent
    exact ⟨fun s m c hc => by rw [e1]; exact h.val s m c hc, fun s d c hc => by rw [e2]; exact h.item s d c hc,
      by rw [e3]; exact h.root, h.init⟩
  case str =>
    intro t hv
    exact ⟨fun s m c h => by rw [ser_str]; rw [layVal]; exact hw.strVal t hv s m c h,
      fun s d c h => by rw [ser_str]; rw [layItem]; exact hw.strItem t hv s d c h,
      ⟨_, ser_str t (startSt o), by rw [layRoot]; exact hw.strRoot t hv⟩, by rw [ser_str, ser_str, hw.strInit t hv]⟩
  case unit =>
    intro e n hv
    exact ⟨fun s m c h => by rw [layVal]; exact hw.unitVal e n hv s m c h,
      fun s d c h => by rw [layItem]; exact hw.unitItem e n hv s d c h,
      by rw [layRoot]; exact hw.unitRoot e n hv, hw.unitInit e n hv⟩
  case wrap =>
    intro v _ h
    exact ⟨h.congr (fun s => by rw [ser]) (fun _ _ _ _ _ => by simp only [layVal]) (fun _ _ _ _ => by simp only [layItem])
        (fun _ _ => by simp only [layRoot]),
      h.congr (fun s => by rw [ser]) (fun _ _ _ _ _ => by simp only [layVal]) (fun _ _ _ _ => by simp only [layItem])
        (fun _ _ => by simp only [layRoot])⟩
  case seq =>
    intro xs _ hxs
    have h : SerOK o f T (.seq xs) :=
      ⟨fun s m c hc => by rw [layVal]; exact seq_val_step ho hxs s m c hc,
        fun s d c hc => by rw [layItem]; exact seq_item_step ho hxs s d c hc,
        by rw [layRoot]; exact seq_root ho hxs, seq_init ho.braces xs⟩
    exact ⟨h, h.congr (fun s => ser_tuple xs s) (fun _ _ _ _ _ => by simp only [layVal]) (fun _ _ _ _ => by simp only [layItem])
        (fun _ _ => by simp only [layRoot]),
      h.congr (fun s => ser_tupleStruct xs s) (fun _ _ _ _ _ => by simp only [layVal]) (fun _ _ _ _ => by simp only [layItem])
        (fun _ _ => by simp only [layRoot])⟩
  case map =>
    intro known es _ _ hes
    exact ⟨fun s m c hc => by rw [layVal]; exact map_val_step ho known hes s m c hc,
      fun s d c hc => by rw [layItem]; exact map_item_step ho known hes s d c hc,
      by rw [layRoot]; exact map_root ho known hes, map_init ho.braces known es⟩
  case nv =>
    intro n v hn _ h
    refine ⟨fun s m c hc => ?_, fun s d c hc => ?_, ?_, ?_⟩
    · rw [ser_newtypeVariant]
      rw [layVal]; exact variant_val_step ho hw hn (Q := ser o f v) (r := fun c im lvb => layVal T o.indentStep o.compactListIndent im c lvb v)
        (ri := fun c lvb => layItem T o.indentStep o.compactListIndent c lvb v) h.val h.item s m c hc
    · rw [ser_newtypeVariant]
      rw [layItem]; exact variant_item_step hw hn (Q := ser o f v) (r := fun c im lvb => layVal T o.indentStep o.compactListIndent im c lvb v)
        (ri := fun c lvb => layItem T o.indentStep o.compactListIndent c lvb v) h.val h.item s d c hc
    · rw [ser_newtypeVariant]
      rw [layRoot]; exact variant_root hw hn (Q := ser o f v) (r := fun c im lvb => layVal T o.indentStep o.compactListIndent im c lvb v)
        (ri := fun c lvb => layItem T o.indentStep o.compactListIndent c lvb v) h.val h.item
    · rw [ser_newtypeVariant, ser_newtypeVariant, variantRun, variantRun, beginVariant_init]
  case tv =>
    intro n xs h
    exact h.congr (fun s => by rw [ser_tupleVariant, ser_newtypeVariant]) (fun _ _ _ _ _ => by simp only [layVal, layItem])
      (fun _ _ _ _ => by simp only [layVal, layItem]) (fun _ _ => layRoot_tupleVariant _ _ n xs)
  case sv =>
    intro n fs h
    exact h.congr (fun s => by rw [ser_structVariant, ser_newtypeVariant]) (fun _ _ _ _ _ => by simp only [layVal, layItem])
      (fun _ _ _ _ => by simp only [layVal, layItem]) (fun _ _ => layRoot_structVariant _ _ n fs)
  case nil => exact items_nil
  case cons =>
    intro x xs _ _ hx hxs
    exact items_cons hx.item hxs
  case enil => exact entries_nil
  case ekey =>
    intro kt v es hk _ _ hv hes
    cases hfit : fitsImplicit (T.key kt)
    · exact entries_cons_long hw hk hfit hv.item hes
    · exact entries_cons hw hk hfit hv.val hes
  case ecomplex =>
    intro k v es hkc _ _ _ hk hv hes
    exact entries_cons_complex hkc hk.item hv.item hes

theorem WriteContract.ofLeaves
    (hs : ∀ s, P.str s = true → LeafWrites o (fun st => .ok (serStr o f s st)) (fun pos => T.strAt o.indentStep pos s))
    (hu : ∀ e n, P.unit e n = true → LeafWrites o (ser o f (.unitVariant e n)) (fun pos => T.unitAt o.indentStep pos e n))
    (hk : ∀ s, P.key s = true → keyStrText o f s = T.key s) (hn : ∀ n, P.name n = true → plainOrQuoted o f n = T.name n) :
    WriteContract o f P T where
  strVal := fun s h => (hs s h).val
  strItem := fun s h => (hs s h).item
  strRoot := fun s h => by obtain ⟨s', he, ho⟩ := (hs s h).root; cases he; exact ho
  strInit := fun s h => Except.ok.inj (hs s h).init
  unitVal := fun e n h => (hu e n h).val
  unitItem := fun e n h => (hu e n h).item
  unitRoot := fun e n h => (hu e n h).root
  unitInit := fun e n h => (hu e n h).init
  key := hk
  name := hn

theorem WriteContract.ofTok (ht : T.IsTok)
    (hs : ∀ s, P.str s = true → ∀ st : St, st.pendingStrStyle = none → st.inFlow = 0 → serStr o f s st = serToken o (T.str s) st)
    (hu : ∀ e n, P.unit e n = true → ∀ st : St, st.pendingStrStyle = none → st.inFlow = 0 →
      ser o f (.unitVariant e n) st = .ok (serToken o (T.unit e n) st))
    (hk : ∀ s, P.key s = true → keyStrText o f s = T.key s) (hn : ∀ n, P.name n = true → plainOrQuoted o f n = T.name n) :
    WriteContract o f P T :=
  .ofLeaves (fun s h => by simp only [ht.1]; exact .ofToken fun st h1 h2 => congrArg _ (hs s h st h1 h2))
    (fun e n h => by simp only [ht.2]; exact .ofToken (hu e n h)) hk hn

/-- `to_string_with_options` on the fragment = the prologue (`%YAML 1.2` + `---` under `yaml_12`) and
the rendered layout -/
theorem emit_eq_layout (ho : FragOpts o) (hw : WriteContract o f P T) (v : SVal) (hv : inFragP P v = true) :
    emit o f v = .ok (prologue o ++ renderLines (layRoot T o.indentStep o.compactListIndent v)) := by
  have h := (ser_shapes ho hw).1 v hv
  obtain ⟨s', he, hout⟩ := h.root
  have hne : (o.indentStep == 0) = false := by have := ho.indent; simp; omega
  simp [emit, hne, h.init, he, hout]

end SaphyrVerif.Emit
