import SaphyrVerif.Lemmas.C11_Typed2Left
/-!
Typed multi-document theorems (C11): the ROUNDS of the streaming iterator inside one
document.

When `T::deserialize` succeeds before the end of the document (a tuple target on a longer sequence, …) the
iterator yields the value and goes on INSIDE the document: the left-over events are read as if further documents
started there — a null-like scalar is skipped, a container end is an error item followed by the recovery
`skip_to_next_document`, anything else is handed to `T::deserialize` again — until the document ends or an error
item sends the iterator to the next document.  `docRounds` is this loop on the replay cursor over the events of
the ONE document (nothing else), with the number of rounds it takes; `iter_rounds` shows that the iterator on
the live cursor inside a stream (with or without a per-document enforcer that accepts the document) does
exactly that, by the frame lemma.
-/
namespace SaphyrVerif.Lemmas.C11B
open SaphyrVerif SaphyrVerif.Scalars SaphyrVerif.Pump SaphyrVerif.De SaphyrVerif.Spec SaphyrVerif.Budget SaphyrVerif.Entry
open SaphyrVerif.Lemmas.C11T (J Item sameItems iterLoop_congr fsim_peek_none evIsNull)
open SaphyrVerif.Lemmas.Frame (FSim pos)

/-- what the rounds inside one document give: the items, a flag, and the number of rounds.  The flag belongs to the
function that produces the triple.  `docRounds` (a document the pump serves): `true` = the document was left
through its end, `false` = through the recovery after an error item; either way the iterator goes on.
`soloRounds` / `roundTail` (a document in which the pump fails, `Lemmas/C11_Typed2FailIter.lean`): `true` = left
through the recovery, `false` = the iterator is finished.  `Yields` / `DocIter` / `mixItems` / `DocCase`
(`Lemmas/C11_Typed2Left.lean`, `…Stream.lean`, `…Mix.lean`): `true` = the iterator goes on behind the document. -/
abbrev Rounds := List Item × Bool × Nat

def Rounds.push (x : List Item) (r : Rounds) : Rounds := (x ++ r.1, r.2.1, r.2.2 + 1)

/-- the rounds of the iterator inside ONE document, on a replay cursor over the events of that document
(`none`: more than `fuel` rounds) -/
def docRounds (cfg : Cfg) (ty : Ty) : Nat → Cur → Option Rounds
  | 0, c =>
    match c.peek with
    | .ok none _ => some ([], true, 0)
    | _ => none
  | fuel + 1, c =>
    match c.peek with
    | .err _ _ => none
    | .ok none _ => some ([], true, 0)
    | .ok (some (.seqEnd l)) _ => some ([.error ⟨"UnexpectedSequenceEnd", l, 0⟩], false, 1)
    | .ok (some (.mapEnd l)) _ => some ([.error ⟨"UnexpectedMappingEnd", l, 0⟩], false, 1)
    | .ok (some ev) c1 =>
      if evIsNull ev then
        match c1.next with
        | .ok _ c2 => (docRounds cfg ty fuel c2).map (Rounds.push [])
        | .err _ _ => none
      else
        match deser (fuelFor 100000) cfg ty false false c1 with
        | .err e _ => some ([.error e], false, 1)
        | .ok v c2 => (docRounds cfg ty fuel c2).map (Rounds.push [.ok v])

theorem docRounds_at_end (cfg : Cfg) (ty : Ty) (n : Nat) {c c' : Cur} (h : c.peek = .ok none c') :
    docRounds cfg ty n c = some ([], true, 0) := by
  cases n <;> simp [docRounds, h]

theorem docRounds_open (cfg : Cfg) (ty : Ty) {c c1 : Cur} {e : Ev} (hpk : c.peek = .ok (some e) c1)
    (hopen : Lemmas.C05.Ev.isOpen e = true) (n : Nat) :
    docRounds cfg ty (n + 1) c =
      if evIsNull e then
        match c1.next with
        | .ok _ c2 => (docRounds cfg ty n c2).map (Rounds.push [])
        | .err _ _ => none
      else
        match deser (fuelFor 100000) cfg ty false false c1 with
        | .err e _ => some ([.error e], false, 1)
        | .ok v c2 => (docRounds cfg ty n c2).map (Rounds.push [.ok v]) := by
  simp only [docRounds, hpk]
  cases e <;> first | rfl | simp [Lemmas.C05.Ev.isOpen] at hopen

theorem docRounds_le_mono (cfg : Cfg) (ty : Ty) : ∀ (fuel : Nat) (c : Cur) (r : Rounds),
    docRounds cfg ty fuel c = some r → r.2.2 ≤ fuel ∧ ∀ k, docRounds cfg ty (fuel + k) c = some r := by
  intro fuel
  induction fuel with
  | zero =>
    intro c r h
    simp only [docRounds] at h
    split at h
    · rename_i c' hc
      cases h
      exact ⟨Nat.le_refl _, fun k => docRounds_at_end cfg ty _ hc⟩
    · cases h
  | succ n ih =>
    intro c r h
    -- what a round does is the same for every fuel: it ends the rounds, with a result of at most one round, …
    have ends : ∀ r0 : Rounds, (∀ m, docRounds cfg ty (m + 1) c = some r0) → r0.2.2 ≤ 1 →
        r.2.2 ≤ n + 1 ∧ ∀ k, docRounds cfg ty (n + 1 + k) c = some r := by
      intro r0 heq hle
      rw [heq] at h
      cases h
      exact ⟨by omega, fun k => by rw [Nat.add_right_comm]; exact heq _⟩
    -- … or goes on with the rounds of another cursor
    have goes : ∀ (x : List Item) (c2 : Cur),
        (∀ m, docRounds cfg ty (m + 1) c = (docRounds cfg ty m c2).map (Rounds.push x)) →
        r.2.2 ≤ n + 1 ∧ ∀ k, docRounds cfg ty (n + 1 + k) c = some r := by
      intro x c2 heq
      rw [heq] at h
      obtain ⟨r2, hr2, rfl⟩ := Option.map_eq_some_iff.mp h
      obtain ⟨hle, hmono⟩ := ih c2 r2 hr2
      exact ⟨Nat.succ_le_succ hle, fun k => by rw [Nat.add_right_comm, heq, hmono k]; rfl⟩
    cases hpk : c.peek with
    | err e c1 => simp [docRounds, hpk] at h
    | ok o c1 =>
      cases o with
      | none => exact ends _ (fun m => docRounds_at_end cfg ty _ hpk) (Nat.zero_le _)
      | some ev =>
        by_cases hopen : Lemmas.C05.Ev.isOpen ev = true
        · have heq := docRounds_open cfg ty hpk hopen
          by_cases hnull : evIsNull ev = true
          · cases hnx : c1.next with
            | err e c2 => rw [heq, if_pos hnull, hnx] at h; cases h
            | ok o c2 => exact goes [] c2 fun m => by rw [heq, if_pos hnull, hnx]
          · cases hd : deser (fuelFor 100000) cfg ty false false c1 with
            | err e c2 => exact ends _ (fun m => by rw [heq, if_neg hnull, hd]) (by exact Nat.le_refl _)
            | ok v c2 => exact goes [.ok v] c2 fun m => by rw [heq, if_neg hnull, hd]
        · cases ev with
          | seqEnd l => exact ends _ (fun m => by simp only [docRounds, hpk]; rfl) (by exact Nat.le_refl _)
          | mapEnd l => exact ends _ (fun m => by simp only [docRounds, hpk]; rfl) (by exact Nat.le_refl _)
          | _ => exact absurd rfl hopen

theorem docRounds_le (cfg : Cfg) (ty : Ty) (fuel : Nat) (c : Cur) (r : Rounds)
    (h : docRounds cfg ty fuel c = some r) : r.2.2 ≤ fuel :=
  (docRounds_le_mono cfg ty fuel c r h).1

theorem docRounds_mono (cfg : Cfg) (ty : Ty) (fuel : Nat) (c : Cur) (r : Rounds)
    (h : docRounds cfg ty fuel c = some r) (k : Nat) : docRounds cfg ty (fuel + k) c = some r :=
  (docRounds_le_mono cfg ty fuel c r h).2 k

section
variable {L : AliasLimits} {ob : Option Limits} {cfg : Cfg} {ty : Ty} {X : List RawItem} {p : Pump}
  {inp : List RawItem}

/-- a round that yields one error item (`e'` on the live cursor, `e1` on the replay cursor) and leaves the document
through the recovery from the cursor `.live q3 inq3` -/
theorem Yields.skip {le : Loc} {q3 : Pump} {inq3 : List RawItem} (hst : StatB L ob q3)
    (hJ : J (.ev .docEnd le :: X) inq3) (e' e1 : DErr)
    (hloop : ∀ m (acc : List Item), iterLoop cfg ty (m + 1) p inp acc =
      (let (found, p, inp) := Pump.skipToNextDocument q3 inq3
       if found then iterLoop cfg ty m p inp (acc ++ [.error e']) else acc ++ [.error e'])) :
    Yields L ob cfg ty X p inp ([.error e1], true, 1) :=
  ⟨[.error e'], .cons trivial .nil, Left.of_skip hst hJ hloop⟩

theorem Yields.push {p2 : Pump} {inp2 : List RawItem} {r2 : Rounds} (x : List Item)
    (hstep : ∀ m acc, iterLoop cfg ty (m + 1) p inp acc = iterLoop cfg ty m p2 inp2 (acc ++ x))
    (h : Yields L ob cfg ty X p2 inp2 r2) : Yields L ob cfg ty X p inp (Rounds.push x r2) := by
  obtain ⟨its', hsame, hleft⟩ := h
  exact ⟨x ++ its', sameItems.append (sameItems.refl x) hsame, hleft.push x fun m acc => hstep (m + r2.2.2) acc⟩

end

theorem live_of_inv {L : AliasLimits} {ob : Option Limits} {R : List RawItem} {evs : List Ev} {c d : Cur}
    (hs : FSim (docCtxB L ob R evs) c d) : ∃ q inq, d = .live q inq ∧ StatB L ob q ∧ J R inq := by
  obtain ⟨q, inq, rfl, hst, hJ, -⟩ := hs.inv
  exact ⟨q, inq, rfl, hst, hJ⟩

theorem iter_rounds_open {L : AliasLimits} {ob : Option Limits} {evs : List Ev}
    (le : Loc) (X : List RawItem) (cfg : Cfg) (ty : Ty) (n : Nat)
    (ih : ∀ (c : Cur) (p : Pump) (inp : List RawItem) (r : Rounds),
      FSim (docCtxB L ob (.ev .docEnd le :: X) evs) c (.live p inp) → docRounds cfg ty n c = some r →
      Yields L ob cfg ty X p inp (r.1, true, r.2.2))
    {c : Cur} {p p1 : Pump} {inp inp1 : List RawItem} {e : Ev} {r : Rounds}
    (hin : pos c < evs.length) (hp : c.peek = .ok (some e) c)
    (hp' : Cur.peek (.live p inp) = .ok (some e) (.live p1 inp1))
    (hs1 : FSim (docCtxB L ob (.ev .docEnd le :: X) evs) c (.live p1 inp1))
    (hopen : Lemmas.C05.Ev.isOpen e = true) (hr : docRounds cfg ty (n + 1) c = some r) :
    Yields L ob cfg ty X p inp (r.1, true, r.2.2) := by
  rw [docRounds_open cfg ty hp hopen] at hr
  have hloop := iterLoop_open cfg ty hp' hopen
  by_cases hnull : evIsNull e = true
  · -- a null-like scalar: skipped
    simp only [hnull, if_true] at hr hloop
    obtain ⟨e2, c2, d2, hb2, hn2, hn2', hs2, -, -⟩ := hs1.next hin
    obtain ⟨p2, inp2, rfl, -, -⟩ := live_of_inv hs2
    rw [hn2] at hr
    obtain ⟨r2, hr2, rfl⟩ := Option.map_eq_some_iff.mp hr
    exact (ih c2 p2 inp2 r2 hs2 hr2).push [] (fun m acc => by rw [hloop, hn2', List.append_nil])
  · -- `T::deserialize`
    have hnull' : evIsNull e = false := by simpa using hnull
    simp only [hnull', Bool.false_eq_true, if_false] at hr hloop
    have hrf := (Lemmas.Frame.frA (docCtxB L ob (.ev .docEnd le :: X) evs) (fuelFor 100000)).deser cfg ty false false hs1 hin
    cases hL : deser (fuelFor 100000) cfg ty false false c with
    | err e1 c1 =>
      rw [hL] at hr
      cases hr
      obtain ⟨e', d3, hR, hs3⟩ := hrf.fwd_err hL
      obtain ⟨q3, inq3, rfl, hst3, hJ3⟩ := live_of_inv hs3
      exact Yields.skip hst3 hJ3 e' e1 (fun m acc => by rw [hloop, hR])
    | ok v c2 =>
      rw [hL] at hr
      obtain ⟨r2, hr2, rfl⟩ := Option.map_eq_some_iff.mp hr
      obtain ⟨v', d3, hR, rfl, hs3⟩ := hrf.fwd_ok hL
      obtain ⟨p3, inp3, rfl, -, -⟩ := live_of_inv hs3
      exact (ih c2 p3 inp3 r2 hs3 hr2).push [.ok v] (fun m acc => by rw [hloop, hR])

/-- the iterator goes on behind a served document whichever way it leaves it (the flag of `docRounds`): hence `true` -/
theorem iter_rounds {L : AliasLimits} {ob : Option Limits} {evs : List Ev}
    (le : Loc) (X : List RawItem) (cfg : Cfg) (ty : Ty) :
    ∀ (fuel : Nat) (c : Cur) (p : Pump) (inp : List RawItem) (r : Rounds),
      FSim (docCtxB L ob (.ev .docEnd le :: X) evs) c (.live p inp) → docRounds cfg ty fuel c = some r →
      Yields L ob cfg ty X p inp (r.1, true, r.2.2) := by
  -- the cursor at the end of the document
  have hend : ∀ (c : Cur) (p : Pump) (inp : List RawItem),
      FSim (docCtxB L ob (.ev .docEnd le :: X) evs) c (.live p inp) → pos c = evs.length →
      Yields L ob cfg ty X p inp ([], true, 0) := by
    intro c p inp hs hpos
    obtain ⟨q2, hb2, hl2, hp2, hf2, hpk2⟩ := doc_endB hs hpos
    exact ⟨[], .nil, Left.of_boundary hb2 hl2 (fun _ _ => ⟨hp2, hf2⟩) fun m acc => by
      simpa using iterLoop_congr cfg ty hpk2 m acc⟩
  intro fuel
  induction fuel with
  | zero =>
    intro c p inp r hs hr
    simp only [docRounds] at hr
    split at hr
    · rename_i c2 hc2
      cases hr
      exact hend c p inp hs ((fsim_peek_none hs).mp ⟨c2, hc2⟩)
    · cases hr
  | succ n ih =>
    intro c p inp r hs hr
    by_cases hpos : pos c = evs.length
    · obtain ⟨c2, hc2⟩ := (fsim_peek_none hs).mpr hpos
      simp only [docRounds, hc2] at hr
      cases hr
      exact hend c p inp hs hpos
    · have hin : pos c < evs.length := by
        have := hs.le
        simp only [docCtxB] at this
        omega
      obtain ⟨e, d1, hb, hp, hp', hs1⟩ := hs.peek hin
      obtain ⟨p1, inp1, rfl, hst1, hJ1⟩ := live_of_inv hs1
      by_cases hopen : Lemmas.C05.Ev.isOpen e = true
      · exact iter_rounds_open le X cfg ty n ih hin hp hp' hs1 hopen hr
      · simp only [docRounds, hp] at hr
        cases e with
        | seqEnd l => cases hr; exact Yields.skip hst1 hJ1 _ _ (iterLoop_seqEnd cfg ty hp')
        | mapEnd l => cases hr; exact Yields.skip hst1 hJ1 _ _ (iterLoop_mapEnd cfg ty hp')
        | _ => exact absurd rfl hopen

end SaphyrVerif.Lemmas.C11B
