import SaphyrVerif.Lemmas.Cursor
import SaphyrVerif.Lemmas.C05_Cursor
import SaphyrVerif.Lemmas.C04
import SaphyrVerif.Lemmas.DeEqnsLoops
/-!
C04, model level: one step of `capture` and the heads of its two loops on any cursor (`capture_succ`, …), then `capture`
and `skipOneNode` on a replay cursor standing in front of the events of a tree: they consume exactly that tree.
Positions are described by `buf.drop idx = eflatten t ++ rest`; the first event of a flattened node and the open-event
test `Ev.isOpen` are those of `Lemmas/C05_Cursor.lean` (namespace `C05`).
-/
namespace SaphyrVerif.Lemmas.C04
open SaphyrVerif SaphyrVerif.Scalars SaphyrVerif.Pump SaphyrVerif.De SaphyrVerif.Spec
open SaphyrVerif.Lemmas.Cursor
open SaphyrVerif.Lemmas.C05 (Ev.isOpen Ev.delta bal bal_nil bal_cons peek_replay_node eflatten_length_pos eflatten_bal
  eflatten_prefix_pos)

@[simp] theorem eflatten_scalar_length (v tag rt st a l) : (eflatten (.scalar v tag rt st a l)).length = 1 := by
  simp [eflatten]
@[simp] theorem eflatten_seq_length (a tag rt l el items) :
    (eflatten (.seq a tag rt l el items)).length = (eflattenL items).length + 2 := by
  simp [eflatten]
@[simp] theorem eflatten_map_length (a l el es) :
    (eflatten (.map a l el es)).length = (eflattenE es).length + 2 := by
  simp [eflatten]
@[simp] theorem eflattenL_nil_length : (eflattenL []).length = 0 := by simp [eflattenL]
@[simp] theorem eflattenL_cons_length (n ns) :
    (eflattenL (n :: ns)).length = (eflatten n).length + (eflattenL ns).length := by
  simp [eflattenL]
@[simp] theorem eflattenE_nil_length : (eflattenE []).length = 0 := by simp [eflattenE]
@[simp] theorem eflattenE_cons_length (k v es) :
    (eflattenE ((k, v) :: es)).length = (eflatten k).length + (eflatten v).length + (eflattenE es).length := by
  simp [eflattenE, Nat.add_assoc]

/-! One step of `capture` and the heads of its two loops on ANY cursor, by what `next` / `peek` answered (the item arms
`csItem`, `cmEntry` are those of `Lemmas/DeEqnsLoops.lean`).  A replay cursor answers by `next_replay_of_drop` /
`peek_replay_of_drop`, a cursor in a window (`Lemmas/C04_Loc.lean`) by `Win`. -/

theorem capture_succ {c c1 : Cur} {e : Ev} (h : c.next = .ok (some e) c1) (f : Nat) :
    capture (f + 1) c =
      match (generalizing := false) e with
      | .scalar v tag _ _ _ loc => .ok ⟨.scalar v tag, [e], loc⟩ c1
      | .seqStart _ _ _ loc =>
        match captureSeq f c1 [] [e] with
        | .err e c => .err e c
        | .ok (fps, evs) c => .ok ⟨.seq fps, evs, loc⟩ c
      | .mapStart _ loc =>
        match captureMap f c1 [] [e] with
        | .err e c => .err e c
        | .ok (fps, evs) c => .ok ⟨.map fps, evs, loc⟩ c
      | .seqEnd loc | .mapEnd loc => .err ⟨"UnexpectedContainerEndWhileReadingKeyNode", loc, 0⟩ c1 := by
  rw [capture, h]
  cases e <;> rfl

theorem captureSeq_end {c c1 : Cur} {l : Loc} (h : c.peek = .ok (some (.seqEnd l)) c1) (f : Nat) (fps : List FP)
    (evs : List Ev) :
    captureSeq (f + 1) c fps evs =
      match c1.next with
      | .err e c => .err e c
      | .ok _ c => .ok (fps, evs ++ [.seqEnd l]) c := by
  rw [captureSeq_succ, h]
  rfl

theorem captureSeq_item {c c1 : Cur} {e : Ev} (h : c.peek = .ok (some e) c1) (he : Ev.isOpen e = true) (f : Nat)
    (fps : List FP) (evs : List Ev) : captureSeq (f + 1) c fps evs = csItem f c1 fps evs := by
  rw [captureSeq_succ, h]
  cases e <;> first | rfl | simp [Ev.isOpen] at he

theorem captureMap_end {c c1 : Cur} {l : Loc} (h : c.peek = .ok (some (.mapEnd l)) c1) (f : Nat) (fps : List (FP × FP))
    (evs : List Ev) :
    captureMap (f + 1) c fps evs =
      match c1.next with
      | .err e c => .err e c
      | .ok _ c => .ok (fps, evs ++ [.mapEnd l]) c := by
  rw [captureMap_succ, h]
  rfl

theorem captureMap_entry {c c1 : Cur} {e : Ev} (h : c.peek = .ok (some e) c1) (he : Ev.isOpen e = true) (f : Nat)
    (fps : List (FP × FP)) (evs : List Ev) : captureMap (f + 1) c fps evs = cmEntry f c1 fps evs := by
  rw [captureMap_succ, h]
  cases e <;> first | rfl | simp [Ev.isOpen] at he

theorem capture_all (fuel : Nat) :
    (∀ (t : ENode) (buf : List Ev) (idx : Nat) (rest : List Ev) (ref : Option Loc),
      buf.drop idx = eflatten t ++ rest → (eflatten t).length ≤ fuel →
      capture fuel (.replay buf idx ref) =
        .ok ⟨fpOf t, eflatten t, t.loc⟩ (.replay buf (idx + (eflatten t).length) ref)) ∧
    (∀ (items : List ENode) (el : Loc) (buf : List Ev) (idx : Nat) (rest : List Ev) (ref : Option Loc)
      (fps : List FP) (evs : List Ev),
      buf.drop idx = eflattenL items ++ .seqEnd el :: rest → (eflattenL items).length + 1 ≤ fuel →
      captureSeq fuel (.replay buf idx ref) fps evs =
        .ok (fps ++ fpOfL items, evs ++ (eflattenL items ++ [.seqEnd el]))
          (.replay buf (idx + ((eflattenL items).length + 1)) ref)) ∧
    (∀ (es : List (ENode × ENode)) (el : Loc) (buf : List Ev) (idx : Nat) (rest : List Ev) (ref : Option Loc)
      (fps : List (FP × FP)) (evs : List Ev),
      buf.drop idx = eflattenE es ++ .mapEnd el :: rest → (eflattenE es).length + 1 ≤ fuel →
      captureMap fuel (.replay buf idx ref) fps evs =
        .ok (fps ++ fpOfE es, evs ++ (eflattenE es ++ [.mapEnd el]))
          (.replay buf (idx + ((eflattenE es).length + 1)) ref)) := by
  induction fuel with
  | zero =>
    refine ⟨fun t _ _ _ _ _ h => ?_, fun _ _ _ _ _ _ _ _ _ h => ?_, fun _ _ _ _ _ _ _ _ _ h => ?_⟩
    · have := eflatten_length_pos t; omega
    · omega
    · omega
  | succ f ih =>
    obtain ⟨ihN, ihL, ihE⟩ := ih
    refine ⟨?_, ?_, ?_⟩
    · intro t buf idx rest ref h hf
      cases t with
      | scalar v tag rt st a l =>
        simp only [eflatten, List.cons_append, List.nil_append] at h
        rw [capture_succ (next_replay_of_drop ref h)]
        simp [eflatten, fpOf, ENode.loc]
      | seq a tag rt l el items =>
        simp only [eflatten, List.cons_append, List.append_assoc, List.nil_append] at h
        rw [capture_succ (next_replay_of_drop ref h)]
        simp only
        simp only [eflatten_seq_length] at hf
        rw [ihL items el buf (idx + 1) rest ref [] _ (drop_succ_of_drop_eq_cons h) (by omega)]
        simp only [eflatten, fpOf, ENode.loc, List.nil_append, List.cons_append, List.length_cons,
          List.length_append, List.length_nil, R.ok.injEq, true_and]
        congr 1; omega
      | map a l el es =>
        simp only [eflatten, List.cons_append, List.append_assoc, List.nil_append] at h
        rw [capture_succ (next_replay_of_drop ref h)]
        simp only
        simp only [eflatten_map_length] at hf
        rw [ihE es el buf (idx + 1) rest ref [] _ (drop_succ_of_drop_eq_cons h) (by omega)]
        simp only [eflatten, fpOf, ENode.loc, List.nil_append, List.cons_append, List.length_cons,
          List.length_append, List.length_nil, R.ok.injEq, true_and]
        congr 1; omega
    · intro items el buf idx rest ref fps evs h hf
      cases items with
      | nil =>
        simp only [eflattenL, List.nil_append] at h
        rw [captureSeq_end (peek_replay_of_drop ref h), next_replay_of_drop ref h]
        simp [eflattenL, fpOfL]
      | cons n ns =>
        have h' : buf.drop idx = eflatten n ++ (eflattenL ns ++ .seqEnd el :: rest) := by
          rw [h]; simp [eflattenL]
        simp only [eflattenL_cons_length] at hf
        have hpos := eflatten_length_pos n
        obtain ⟨e, hpk, he, -⟩ := peek_replay_node ref h'
        rw [captureSeq_item hpk he, csItem, ihN n buf idx _ ref h' (by omega)]
        simp only
        rw [ihL ns el buf _ rest ref _ _ (drop_add_of_drop_eq_append h') (by omega)]
        simp only [eflattenL, fpOfL, List.append_assoc, List.cons_append, List.nil_append, List.length_append,
          R.ok.injEq, true_and]
        congr 1; omega
    · intro es el buf idx rest ref fps evs h hf
      cases es with
      | nil =>
        simp only [eflattenE, List.nil_append] at h
        rw [captureMap_end (peek_replay_of_drop ref h), next_replay_of_drop ref h]
        simp [eflattenE, fpOfE]
      | cons kv es =>
        obtain ⟨k, v⟩ := kv
        have h' : buf.drop idx = eflatten k ++ (eflatten v ++ (eflattenE es ++ .mapEnd el :: rest)) := by
          rw [h]; simp [eflattenE]
        simp only [eflattenE_cons_length] at hf
        have hpos := eflatten_length_pos k
        have hposv := eflatten_length_pos v
        have h2 := drop_add_of_drop_eq_append h'
        obtain ⟨e, hpk, he, -⟩ := peek_replay_node ref h'
        rw [captureMap_entry hpk he, cmEntry, ihN k buf idx _ ref h' (by omega)]
        simp only
        rw [ihN v buf _ _ ref h2 (by omega)]
        simp only
        rw [ihE es el buf _ rest ref _ _ (drop_add_of_drop_eq_append h2) (by omega)]
        simp only [eflattenE, fpOfE, List.append_assoc, List.cons_append, List.nil_append, List.length_append,
          R.ok.injEq, true_and]
        congr 1; omega

theorem capture_exact_drop (t : ENode) {buf : List Ev} {idx : Nat} {rest : List Ev} (ref : Option Loc)
    (h : buf.drop idx = eflatten t ++ rest) {fuel : Nat} (hf : (eflatten t).length ≤ fuel) :
    capture fuel (.replay buf idx ref) =
      .ok ⟨fpOf t, eflatten t, t.loc⟩ (.replay buf (idx + (eflatten t).length) ref) :=
  (capture_all fuel).1 t buf idx rest ref h hf

/-! `skipDepth` is a counter machine: over any segment of events during which the depth stays positive it spends one
unit of fuel per event and ends at the depth moved by the balance of the segment (`bal`, `Lemmas/C05_Cursor.lean`).
A node is such a segment of balance 0, the events of a container after its first one are one of balance -1. -/

theorem skipDepth_zero_depth (f : Nat) (c : Cur) : skipDepth (f + 1) c 0 = .ok () c := by
  rw [skipDepth]; simp

theorem skipDepth_step {buf : List Ev} {idx : Nat} {e : Ev} {tl : List Ev} (ref : Option Loc)
    (h : buf.drop idx = e :: tl) (f d : Nat) (hd : 0 < d) :
    skipDepth (f + 1) (.replay buf idx ref) d =
      skipDepth f (.replay buf (idx + 1) ref) ((d : Int) + Ev.delta e).toNat := by
  obtain ⟨d, rfl⟩ : ∃ d', d = d' + 1 := ⟨d - 1, by omega⟩
  rw [skipDepth, next_replay_of_drop ref h]
  -- per kind of event the model's new depth (`d + 2`, `d`, `d + 1`) is `d + 1 + delta`
  cases e <;> simp only [Ev.delta] <;> simp <;> congr 1 <;> omega

theorem skipDepth_seg (s : List Ev) : ∀ (buf : List Ev) (idx : Nat) (rest : List Ev) (ref : Option Loc) (f d : Nat),
    buf.drop idx = s ++ rest → (∀ k, k < s.length → 0 < (d : Int) + bal (s.take k)) →
    skipDepth (f + s.length) (.replay buf idx ref) d =
      skipDepth f (.replay buf (idx + s.length) ref) ((d : Int) + bal s).toNat := by
  induction s with
  | nil => intro buf idx rest ref f d _ _; simp
  | cons e s ih =>
    intro buf idx rest ref f d h hpos
    have h0 := hpos 0 (by simp)
    simp only [List.take_zero, bal_nil, Int.add_zero] at h0
    have hde : -1 ≤ Ev.delta e := by cases e <;> simp [Ev.delta]
    rw [List.length_cons, ← Nat.add_assoc, skipDepth_step ref h _ d (by omega),
      ih buf (idx + 1) rest ref f _ (drop_succ_of_drop_eq_cons h)]
    · congr 2
      · omega
      · simp only [bal_cons]; omega
    · intro k hk
      have := hpos (k + 1) (by simpa using hk)
      simp only [List.take_succ_cons, bal_cons] at this
      omega

theorem skipDepth_node : ∀ (t : ENode) (buf : List Ev) (idx : Nat) (rest : List Ev) (ref : Option Loc) (f d : Nat),
    buf.drop idx = eflatten t ++ rest →
    skipDepth (f + (eflatten t).length) (.replay buf idx ref) (d + 1) =
      skipDepth f (.replay buf (idx + (eflatten t).length) ref) (d + 1) := by
  intro t buf idx rest ref f d h
  obtain ⟨hb, hf⟩ := eflatten_bal t
  rw [skipDepth_seg _ buf idx rest ref f (d + 1) h (fun k _ => by have := hf k; omega), hb]
  rfl

theorem skipOneNode_container {buf : List Ev} {idx : Nat} {e : Ev} {tl rest : List Ev} (ref : Option Loc)
    (h : buf.drop idx = (e :: tl) ++ rest) (he : Ev.delta e = 1) (hb : bal (e :: tl) = 0)
    (hpos : ∀ k, 0 < k → k < (e :: tl).length → 1 ≤ bal ((e :: tl).take k)) {fuel : Nat}
    (hf : (e :: tl).length + 1 ≤ fuel) :
    skipOneNode fuel (.replay buf idx ref) = .ok () (.replay buf (idx + (e :: tl).length) ref) := by
  simp only [List.length_cons] at hf ⊢
  obtain ⟨g, rfl⟩ : ∃ g, fuel = (g + 1 + tl.length) + 1 := ⟨fuel - tl.length - 2, by omega⟩
  have hseg := skipDepth_seg tl buf (idx + 1) rest ref (g + 1) 1 (drop_succ_of_drop_eq_cons h) (fun k hk => by
    have := hpos (k + 1) (by omega) (by simpa using hk)
    simp only [List.take_succ_cons, bal_cons] at this
    omega)
  simp only [bal_cons] at hb
  rw [show ((1 : Nat) : Int) + bal tl = 0 by omega, Int.toNat_zero, skipDepth_zero_depth] at hseg
  rw [skipOneNode, next_replay_of_drop ref h]
  -- only the two opening events have `delta = 1`; for both the model goes on with `skipDepth … 1`
  cases e <;> simp [Ev.delta] at he <;> simp only [hseg] <;> congr 2 <;> omega

theorem skipOneNode_exact_drop (t : ENode) {buf : List Ev} {idx : Nat} {rest : List Ev} (ref : Option Loc)
    (h : buf.drop idx = eflatten t ++ rest) {fuel : Nat} (hf : (eflatten t).length + 1 ≤ fuel) :
    skipOneNode fuel (.replay buf idx ref) = .ok () (.replay buf (idx + (eflatten t).length) ref) := by
  have hb := (eflatten_bal t).1
  have hpos := eflatten_prefix_pos t
  cases t with
  | scalar v tag rt st a l =>
    obtain ⟨f, rfl⟩ : ∃ f, fuel = f + 1 := ⟨fuel - 1, by omega⟩
    simp only [eflatten, List.cons_append, List.nil_append] at h
    rw [skipOneNode, next_replay_of_drop ref h]
    simp [eflatten]
  | seq a tag rt l el items =>
    simp only [eflatten] at h hf hb hpos ⊢
    exact skipOneNode_container ref h rfl hb hpos hf
  | map a l el es =>
    simp only [eflatten] at h hf hb hpos ⊢
    exact skipOneNode_container ref h rfl hb hpos hf

end SaphyrVerif.Lemmas.C04
