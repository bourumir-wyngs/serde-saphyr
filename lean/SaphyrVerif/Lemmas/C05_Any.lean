import SaphyrVerif.Lemmas.C05_Stream
/-!
C05, the untyped target: the effective entries are proper sub-nodes, `interpAny` does not depend on its fuel
(for every tree), and is the typed interpretation with element / key / value type `.any`; the list helpers
`listFrom` / `pairsFrom` of the specification as `mapM`.
-/
namespace SaphyrVerif.Lemmas.C05
open SaphyrVerif SaphyrVerif.Scalars SaphyrVerif.Pump SaphyrVerif.De SaphyrVerif.Spec

theorem mapM_congr {α β : Type} {f g : α → Option β} {l : List α} (h : ∀ x ∈ l, f x = g x) : l.mapM f = l.mapM g := by
  induction l with
  | nil => rfl
  | cons x l ih =>
    simp only [List.mapM_cons]
    rw [h x (List.mem_cons_self ..), ih (fun y hy => h y (List.mem_cons_of_mem _ hy))]

theorem mapM_none_of_mem {α β : Type} {f : α → Option β} {l : List α} {x : α} (hm : x ∈ l) (hf : f x = none) :
    l.mapM f = none := by
  induction l with
  | nil => cases hm
  | cons y l ih =>
    rw [List.mapM_cons]
    rcases List.mem_cons.mp hm with rfl | hm'
    · rw [hf]; rfl
    · rw [ih hm']; cases f y <;> rfl

theorem listFrom_eq_mapM (f : NodeFn) (l : List ENode) : listFrom f l = l.mapM f := by
  induction l with
  | nil => rfl
  | cons x l ih =>
    simp only [listFrom, List.mapM_cons, ih]
    cases f x <;> cases l.mapM f <;> rfl

def pairFn (kf vf : NodeFn) (e : ENode × ENode) : Option (Val × Val) :=
  match kf e.1, vf e.2 with
  | some a, some b => some (a, b)
  | _, _ => none

theorem pairsFrom_eq_mapM (kf vf : NodeFn) (l : List (ENode × ENode)) : pairsFrom kf vf l = l.mapM (pairFn kf vf) := by
  induction l with
  | nil => rfl
  | cons x l ih =>
    obtain ⟨k, v⟩ := x
    simp only [pairsFrom, List.mapM_cons, ih, pairFn]
    cases kf k <;> cases vf v <;> cases l.mapM (pairFn kf vf) <;> rfl

theorem pairsFrom_cons (kf vf : NodeFn) (k v : ENode) (es : List (ENode × ENode)) :
    pairsFrom kf vf ((k, v) :: es) =
      match kf k, vf v, pairsFrom kf vf es with
      | some a, some b, some r => some ((a, b) :: r)
      | _, _, _ => none := by
  simp only [pairsFrom]; rfl

theorem effEntries_depth (dup : DupPolicy) (entries es : List (ENode × ENode)) (h : effEntries dup entries = some es) :
    ∀ e ∈ es, depthOf e.1 ≤ depthOfE entries ∧ depthOf e.2 ≤ depthOfE entries := by
  intro e he
  rcases C03.eff_mem h e he with ho | ⟨src, hs, hm⟩
  · exact depthOfE_mem (C03.splitEntries_own_mem entries e ho)
  · have hq : ∀ m ∈ (splitEntries entries).2, depthOf m ≤ depthOfE entries := fun m hm => by
      obtain ⟨k, hk, -⟩ := C03.splitEntries_merge_mem entries m hm
      exact (depthOfE_mem hk).2
    have := C03.seqSourceEntries_forall (depth_seq _) (depth_map _) _ src hq hs e hm
    omega

theorem interpAny_succ_scalar (cfg : Cfg) (f : Nat) (v : List Char) (tag : Nat) (rt : Option (List Char)) (st : Style)
    (a : Nat) (l : Loc) : interpAny cfg (f + 1) (.scalar v tag rt st a l) = anyScalar cfg v tag st := by
  simp only [interpAny]

theorem interpAny_succ_seq (cfg : Cfg) (f : Nat) (a tag : Nat) (rt : Option (List Char)) (l el : Loc) (items : List ENode) :
    interpAny cfg (f + 1) (.seq a tag rt l el items) = (items.mapM (interpAny cfg f)).map .seq := by
  simp only [interpAny]

theorem interpAny_succ_map (cfg : Cfg) (f : Nat) (a : Nat) (l el : Loc) (entries : List (ENode × ENode)) :
    interpAny cfg (f + 1) (.map a l el entries) =
      match effEntries cfg.dup entries with
      | none => none
      | some es => (es.mapM (pairFn (interpAny cfg f) (interpAny cfg f))).map .map := by
  simp only [interpAny]
  cases effEntries cfg.dup entries <;> rfl

theorem interpAny_fuel (cfg : Cfg) : ∀ (f g : Nat) (n : ENode), depthOf n ≤ f → depthOf n ≤ g →
    interpAny cfg f n = interpAny cfg g n := by
  intro f
  induction f with
  | zero => intro g n h; have := depthOf_pos n; omega
  | succ f ih =>
    intro g n hf hg
    cases g with
    | zero => have := depthOf_pos n; omega
    | succ g =>
      cases n with
      | scalar v tag rt st a l => rw [interpAny_succ_scalar, interpAny_succ_scalar]
      | seq a tag rt l el items =>
        rw [interpAny_succ_seq, interpAny_succ_seq]
        simp only [depthOf_seq] at hf hg
        congr 1
        apply mapM_congr
        intro x hx
        have := depthOfL_mem hx
        exact ih g x (by omega) (by omega)
      | map a l el entries =>
        rw [interpAny_succ_map, interpAny_succ_map]
        simp only [depthOf_map] at hf hg
        cases he : effEntries cfg.dup entries with
        | none => rfl
        | some es =>
          simp only []
          congr 1
          apply mapM_congr
          intro x hx
          obtain ⟨h1, h2⟩ := effEntries_depth cfg.dup entries es he x hx
          simp only [pairFn]
          rw [ih g x.1 (by omega) (by omega), ih g x.2 (by omega) (by omega)]

theorem interp_any (cfg : Cfg) (n : ENode) : interp cfg .any n = interpAny cfg (depthOf n) n := by
  rw [interp]

theorem interp_any_scalar (cfg : Cfg) (v : List Char) (tag : Nat) (rt : Option (List Char)) (st : Style) (a : Nat) (l : Loc) :
    interp cfg .any (.scalar v tag rt st a l) = anyScalar cfg v tag st := by
  rw [interp_any, depthOf_scalar, interpAny_succ_scalar]

theorem interp_any_seq (cfg : Cfg) (a tag : Nat) (rt : Option (List Char)) (l el : Loc) (items : List ENode) :
    interp cfg .any (.seq a tag rt l el items) = (listFrom (interp cfg .any) items).map .seq := by
  rw [interp_any, depthOf_seq, interpAny_succ_seq, listFrom_eq_mapM]
  congr 1
  apply mapM_congr
  intro x hx
  rw [interp_any]
  exact interpAny_fuel cfg _ _ x (depthOfL_mem hx) (Nat.le_refl _)

theorem interp_any_map (cfg : Cfg) (a : Nat) (l el : Loc) (entries : List (ENode × ENode)) :
    interp cfg .any (.map a l el entries) =
      match effEntries cfg.dup entries with
      | none => none
      | some es => (pairsFrom (interp cfg .any) (interp cfg .any) es).map .map := by
  rw [interp_any, depthOf_map, interpAny_succ_map]
  cases he : effEntries cfg.dup entries with
  | none => rfl
  | some es =>
    simp only [pairsFrom_eq_mapM]
    congr 1
    apply mapM_congr
    intro x hx
    obtain ⟨h1, h2⟩ := effEntries_depth cfg.dup entries es he x hx
    simp only [pairFn, interp_any]
    rw [interpAny_fuel cfg _ _ x.1 (by omega) (Nat.le_refl _), interpAny_fuel cfg _ _ x.2 (by omega) (Nat.le_refl _)]

end SaphyrVerif.Lemmas.C05
