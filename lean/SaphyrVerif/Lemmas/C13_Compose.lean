import SaphyrVerif.Lemmas.C13_Safe
import SaphyrVerif.Lemmas.C13_Impl
/-!
The contracts for the crate's own scalar-text functions (`implFns`) on
ARBITRARY strings.  Tokens: whatever `serialize_str` (without block style), `KeyScalarSink::serialize_str`,
`write_plain_or_quoted` write (`genToks`).  Class of strings (`implPred`): every string for which
`serialize_str` does not select a block style automatically (any string under `quote_all`; otherwise no
line break and not longer than `folded_wrap_chars` when plain), every key, every name of a variant with data; a unit
variant like the string leaf of its name, or under `tagged_enums` (`!!Enum variant`) with any name and an enum name that is
an ASCII identifier — minus, under `yaml_12`, the YAML 1.1 boolean words the option leaves plain (they read back as
booleans: the known residue, `yaml12_bool_word_counterexample`).
-/
namespace SaphyrVerif.Emit

variable {o : Opts} {f : ScalarFns}

/-- the tokens the emitter writes for strings, whatever the scalar-text functions are -/
def genToks (o : Opts) (f : ScalarFns) : Toks :=
  Toks.ofStr (strTok o f) (keyStrText o f) (plainOrQuoted o f)
    (fun e n => if o.taggedEnums then '!' :: '!' :: e ++ ' ' :: plainOrQuotedValue o f false n else strTok o f n)

/-- a YAML 1.1 boolean word that `yaml_12` leaves plain in value position -/
def boolRisk (o : Opts) (s : List Char) : Bool := o.yaml12 && !o.quoteAll && isBoolWord s

def implPred (o : Opts) : LeafPred where
  str := fun s => !autoBlock o implFns s && !boolRisk o s
  key := fun s => !(o.yaml12 && isBoolWord s)
  name := fun s => !boolRisk o s
  unit := fun e n =>
    if o.taggedEnums then tagNameOk e && !boolRisk o n else !autoBlock o implFns n && !boolRisk o n

/-- the write contract holds by construction (for any scalar-text functions) -/
theorem gen_write {P : LeafPred} (hs : ∀ s, P.str s = true → autoBlock o f s = false)
    (hu : ∀ e n, P.unit e n = true → o.taggedEnums = false → autoBlock o f n = false) :
    WriteContract o f P (genToks o f) :=
  WriteContract.ofTok (Toks.ofStr_isTok _ _ _ _)
  (fun s h st h1 h2 => serStr_token h1 h2 (hs s h))
  (fun e n h st h1 h2 => by
    cases ht : o.taggedEnums
    · rw [ser_unit_untagged ht, serStr_token h1 h2 (hu e n h ht)]
      simp only [ht, Bool.false_eq_true, if_false, genToks, Toks.ofStr_unit]
    · rw [ser_unit_tagged ht e n h2]
      simp [genToks, ht])
  (fun s _ => rfl)
  (fun n _ => rfl)

theorem impl_write (o : Opts) : WriteContract o implFns (implPred o) (genToks o implFns) :=
  gen_write (fun s h => by simp only [implPred, Bool.and_eq_true, Bool.not_eq_true'] at h; exact h.1)
    (fun e n h ht => by simp only [implPred, ht, Bool.false_eq_true, if_false, Bool.and_eq_true, Bool.not_eq_true'] at h; exact h.1)

theorem punct_tok {s : List Char} (h : (s == ['.'] || s == ['#'] || s == ['-']) = true) :
    ScalarTok ('\'' :: s ++ ['\'']) (.str s) := by
  simp only [Bool.or_eq_true, beq_iff_eq] at h
  rcases h with (rfl | rfl) | rfl
  · exact singleQuoted_scalarTok (s := ['.']) (by decide)
  · exact singleQuoted_scalarTok (s := ['#']) (by decide)
  · exact singleQuoted_scalarTok (s := ['-']) (by decide)

/-- whatever `write_plain_or_quoted_value` writes in block context is a scalar token for the string, one that may follow a
tag — unless `yaml_12` leaves a boolean word plain -/
theorem pqv_coreTok (s : List Char) (hb : boolRisk o s = false) :
    CoreTok (plainOrQuotedValue o implFns false s) (.str s) := by
  unfold plainOrQuotedValue
  cases hq : o.quoteAll
  · simp only [Bool.false_eq_true, if_false]
    by_cases hp : (implFns.isPlainValueSafe s o.yaml12 false && !implFns.isUnsafePlainShape s) = true
    · rw [if_pos hp]
      simp only [Bool.and_eq_true, Bool.not_eq_true'] at hp
      refine (impl_plainVal hp.1 hp.2 (fun hy => ?_)).coreTok
      simpa [boolRisk, hy, hq] using hb
    · rw [if_neg hp]; exact quoted_coreTok (Or.inl ⟨rfl, rfl⟩) (dq_body quotedChar_ok s)
  · simp only [if_true]
    by_cases hd : needsDoubleQuotes s = true
    · rw [if_pos hd]; exact quoted_coreTok (Or.inl ⟨rfl, rfl⟩) (dq_body quotedChar_ok s)
    · rw [if_neg hd]; exact singleQuoted_coreTok (by simpa using hd)

theorem pqv_scalarTok (s : List Char) (hb : boolRisk o s = false) :
    ScalarTok (plainOrQuotedValue o implFns false s) (.str s) := (pqv_coreTok s hb).toScalarTok

theorem strTok_scalarTok (s : List Char) (hb : boolRisk o s = false) : ScalarTok (strTok o implFns s) (.str s) := by
  unfold strTok
  by_cases hp : (s == ['.'] || s == ['#'] || s == ['-']) = true
  · rw [if_pos hp]; exact punct_tok hp
  · rw [if_neg hp]; exact pqv_scalarTok s hb

/-- the test of `KeyScalarSink::serialize_str` and of `write_plain_or_quoted`: a text that passes is written as it is.  The
in-flow value test makes it a plain scalar token, `is_plain_safe` adds that it holds no `:` -/
theorem plainKey_keyTok {s : List Char} {y : Bool}
    (hp : (implFns.isPlainSafe s && implFns.isPlainValueSafe s y true && !implFns.isUnsafePlainShape s) = true)
    (hb : (y && isBoolWord s) = false) : KeyTok s s := by
  simp only [Bool.and_eq_true, Bool.not_eq_true'] at hp
  exact (impl_plainVal hp.1.2 hp.2 fun hy => by simpa [hy] using hb).keyTok (impl_noColon hp.1.1)

theorem keyStrText_keyTok (s : List Char) (hb : (o.yaml12 && isBoolWord s) = false) : KeyTok (keyStrText o implFns s) s := by
  unfold keyStrText
  split
  · rename_i hp; exact plainKey_keyTok hp hb
  · exact keyQuoted_keyTok s

theorem plainOrQuoted_keyTok (s : List Char) (hb : boolRisk o s = false) : KeyTok (plainOrQuoted o implFns s) s := by
  unfold plainOrQuoted
  cases hq : o.quoteAll
  · simp only [Bool.false_eq_true, if_false]
    split
    · rename_i hp; exact plainKey_keyTok hp (by simpa [boolRisk, hq] using hb)
    · exact writeQuoted_keyTok s
  · simp only [if_true]
    by_cases hd : needsDoubleQuotes s = true
    · rw [if_pos hd]; exact writeQuoted_keyTok s
    · rw [if_neg hd]; exact singleQuoted_keyTok (by simpa using hd)

/-- the reference reader takes the tokens of the crate's own scalar-text functions for the strings they
were written for -/
theorem impl_read (o : Opts) (k : Nat) : ReadContract (implPred o) (genToks o implFns) k :=
  ReadContract.ofTok (Toks.ofStr_isTok _ _ _ _)
  (fun s h => by
    simp only [implPred, Bool.and_eq_true, Bool.not_eq_true'] at h
    exact strTok_scalarTok s h.2)
  (fun e n h => by
    cases ht : o.taggedEnums
    · simp only [implPred, ht, Bool.false_eq_true, if_false, Bool.and_eq_true, Bool.not_eq_true'] at h
      simp only [Bool.false_eq_true, if_false, Toks.ofStr_unit]
      exact strTok_scalarTok n h.2
    · simp only [implPred, ht, if_true, Bool.and_eq_true, Bool.not_eq_true'] at h
      simp only [if_true, Toks.ofStr_unit]
      exact tagged_scalarTok h.1 (pqv_coreTok n h.2))
  (fun s h => by
    simp only [implPred, Bool.not_eq_true'] at h
    exact keyStrText_keyTok s h)
  (fun n h => by
    simp only [implPred, Bool.not_eq_true'] at h
    exact plainOrQuoted_keyTok n h)
  k

section
variable {P Q : LeafPred} (hs : ∀ s, P.str s = true → Q.str s = true) (hk : ∀ s, P.key s = true → Q.key s = true)
  (hn : ∀ s, P.name s = true → Q.name s = true) (hu : ∀ e n, P.unit e n = true → Q.unit e n = true)
include hs hk hn hu

theorem inFragP_mono_all :
    (∀ v, inFragP P v = true → inFragP Q v = true) ∧ (∀ xs, inFragListP P xs = true → inFragListP Q xs = true) ∧
      (∀ es, inFragEntriesP P es = true → inFragEntriesP Q es = true) := by
  refine inFragP.shapes_all (M := fun v => inFragP Q v = true) (ML := fun xs => inFragListP Q xs = true)
    (ME := fun es => inFragEntriesP Q es = true) ?leaf ?str ?unit ?wrap ?seq ?map ?nv ?tv ?sv rfl ?cons rfl ?ekey ?ecomplex
  case leaf =>
    intro v hl
    cases v <;> first | rfl | simp [isLeaf] at hl
  case str =>
    intro s h
    simpa only [inFragP] using hs s h
  case unit =>
    intro e n h
    simpa only [inFragP] using hu e n h
  case wrap =>
    intro v _ h
    simpa only [inFragP, and_self] using h
  case seq =>
    intro xs _ h
    simpa only [inFragP, and_self] using h
  case map =>
    intro b es _ hdup h
    simp only [inFragP, h, hdup, Bool.not_false, Bool.and_self]
  case nv =>
    intro n v h _ hv
    simp only [inFragP, hn n h, hv, Bool.and_self]
  case tv =>
    intro n xs h
    simpa only [inFragP] using h
  case sv =>
    intro n fs h
    simpa only [inFragP] using h
  case cons =>
    intro x xs _ _ hx hxs
    simp only [inFragListP, hx, hxs, Bool.and_self]
  case ekey =>
    intro kt v es h _ _ hv hes
    simp only [inFragEntriesP, keyOk, keyOf, hk kt h, hv, hes, Bool.true_or, Bool.and_self]
  case ecomplex =>
    intro k v es hc _ _ _ hk' hv hes
    simp only [inFragEntriesP, hc, hk', hv, hes, Bool.and_self, Bool.or_true]

end

theorem inFragP_mono {P Q : LeafPred} (hs : ∀ s, P.str s = true → Q.str s = true) (hk : ∀ s, P.key s = true → Q.key s = true)
    (hn : ∀ s, P.name s = true → Q.name s = true) (hu : ∀ e n, P.unit e n = true → Q.unit e n = true) :
    ∀ (v : SVal), inFragP P v = true → inFragP Q v = true :=
  (inFragP_mono_all hs hk hn hu).1
theorem inFragListP_mono {P Q : LeafPred} (hs : ∀ s, P.str s = true → Q.str s = true) (hk : ∀ s, P.key s = true → Q.key s = true)
    (hn : ∀ s, P.name s = true → Q.name s = true) (hu : ∀ e n, P.unit e n = true → Q.unit e n = true) :
    ∀ (xs : List SVal), inFragListP P xs = true → inFragListP Q xs = true :=
  (inFragP_mono_all hs hk hn hu).2.1
theorem inFragEntriesP_mono {P Q : LeafPred} (hs : ∀ s, P.str s = true → Q.str s = true) (hk : ∀ s, P.key s = true → Q.key s = true)
    (hn : ∀ s, P.name s = true → Q.name s = true) (hu : ∀ e n, P.unit e n = true → Q.unit e n = true) :
    ∀ (es : List (SVal × SVal)), inFragEntriesP P es = true → inFragEntriesP Q es = true :=
  (inFragP_mono_all hs hk hn hu).2.2

/-- ANY string without line breaks, not longer than `folded_wrap_chars` (as a leaf / unit variant name), ANY
string as a key or as the name of a variant with data; minus the boolean words `yaml_12` leaves plain; enum
names that are ASCII identifiers under `tagged_enums` -/
def lineStrPred (o : Opts) : LeafPred where
  str := fun s => !s.contains '\n' && decide (s.length ≤ o.foldedWrapCol) && !boolRisk o s
  key := fun s => !(o.yaml12 && isBoolWord s)
  name := fun s => !boolRisk o s
  unit := fun e n => (!o.taggedEnums || tagNameOk e) && (!n.contains '\n' && decide (n.length ≤ o.foldedWrapCol) && !boolRisk o n)

theorem lineStr_impl {v : SVal} (h : inFragP (lineStrPred o) v = true) : inFragP (implPred o) v = true := by
  refine inFragP_mono (P := lineStrPred o) (Q := implPred o) ?_ (fun _ h => h) (fun _ h => h) ?_ v h
  · intro s hs
    simp only [lineStrPred, Bool.and_eq_true, Bool.not_eq_true', decide_eq_true_eq] at hs
    simp [implPred, autoBlock_line hs.1.1 hs.1.2, hs.2]
  · intro e n hs
    simp only [lineStrPred, Bool.and_eq_true, Bool.or_eq_true, Bool.not_eq_true', decide_eq_true_eq] at hs
    cases ht : o.taggedEnums
    · simp [implPred, ht, autoBlock_line hs.2.1.1 hs.2.1.2, hs.2.2]
    · have := hs.1
      simp only [ht, Bool.true_eq_false, false_or] at this
      simp [implPred, ht, this, hs.2.2]

end SaphyrVerif.Emit
