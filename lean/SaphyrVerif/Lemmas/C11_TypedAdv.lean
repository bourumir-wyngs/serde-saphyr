import SaphyrVerif.Model.Entry
import SaphyrVerif.Lemmas.C11_DeserFam
/-!
Every function of the typed deserializer, when it succeeds,
returns a cursor that is reached from the cursor it was given by successful `peek` / `next` calls only
(`Adv`): a successful run never steps over an error of the event source.  Like `Lemmas/C11_DeserFam.lean`
an instance of the lock-step pass `Lock.lA` on a single cursor.
-/
namespace SaphyrVerif.Lemmas.C11T
open SaphyrVerif SaphyrVerif.Scalars SaphyrVerif.Pump SaphyrVerif.De

inductive Adv : Cur → Cur → Prop
  | refl (c : Cur) : Adv c c
  | peek {c c1 c' : Cur} {o : Option Ev} : c.peek = .ok o c1 → Adv c1 c' → Adv c c'
  | next {c c1 c' : Cur} {o : Option Ev} : c.next = .ok o c1 → Adv c1 c' → Adv c c'

theorem Adv.trans {a b c : Cur} (h1 : Adv a b) (h2 : Adv b c) : Adv a c := by
  induction h1 with
  | refl => exact h2
  | peek h _ ih => exact Adv.peek h (ih h2)
  | next h _ ih => exact Adv.next h (ih h2)

def RAdv {α : Type} (c : Cur) (r : R α) : Prop :=
  match r with
  | .ok _ c' => Adv c c'
  | .err _ _ => True

theorem RAdv_ok {α : Type} (c c' : Cur) (a : α) : RAdv c (R.ok a c') = Adv c c' := rfl
theorem RAdv_err {α : Type} (c c' : Cur) (e : DErr) : RAdv c (R.err e c' : R α) = True := rfl

abbrev advLP (c0 : Cur) : Lock.LP := C11.selfLP (Adv c0) (fun _ => True) (fun _ _ => trivial)

theorem advLP_closed (c0 : Cur) : Lock.Closed (advLP c0) :=
  C11.selfLP_closed
    (fun _ hc => ⟨fun _ _ hd => hc.trans (Adv.peek hd (Adv.refl _)), fun _ _ _ => trivial⟩)
    (fun _ hc => ⟨fun _ _ hd => hc.trans (Adv.next hd (Adv.refl _)), fun _ _ _ => trivial⟩)

theorem radv_of_lr {α : Type} {c0 : Cur} {r : R α} (hr : Lock.LR (advLP c0) r r) : RAdv c0 r := by
  cases r with
  | ok a d => exact (Lock.LR.fwd_ok rfl hr).2
  | err e d => trivial

theorem radv_deserStr (cfg : Cfg) (c : Cur) : RAdv c (deserStr cfg c) :=
  radv_of_lr (Lock.deserStr_lk (advLP_closed c) cfg (Adv.refl c))

structure AllAdv (n : Nat) : Prop where
  capture : ∀ c, RAdv c (capture n c)
  captureSeq : ∀ c fps evs, RAdv c (captureSeq n c fps evs)
  captureMap : ∀ c fps evs, RAdv c (captureMap n c fps evs)
  mergeSeqBatches : ∀ c bs, RAdv c (mergeSeqBatches n c bs)
  pendingFromLive : ∀ c l, RAdv c (pendingFromLive n c l)
  collectEntriesFromMap : ∀ c l, RAdv c (collectEntriesFromMap n c l)
  collectLoop : ∀ c l fs ms, RAdv c (collectLoop n c l fs ms)
  skipOneNode : ∀ c, RAdv c (skipOneNode n c)
  skipDepth : ∀ c d, RAdv c (skipDepth n c d)
  deser : ∀ cfg ty ik k c, RAdv c (deser n cfg ty ik k c)
  bytesLoop : ∀ cfg c acc, RAdv c (bytesLoop n cfg c acc)
  deserSeqLike : ∀ cfg sh c, RAdv c (deserSeqLike n cfg sh c)
  seqElems : ∀ cfg t c acc, RAdv c (seqElems n cfg t c acc)
  tupleElems : ∀ cfg ts c acc, RAdv c (tupleElems n cfg ts c acc)
  deserMapLike : ∀ cfg sh c, RAdv c (deserMapLike n cfg sh c)
  mapEntries : ∀ cfg kt vt c m acc, RAdv c (mapEntries n cfg kt vt c m acc)
  structEntries : ∀ cfg fields deny c m acc, RAdv c (structEntries n cfg fields deny c m acc)
  nextKey : ∀ cfg ks c m, RAdv c (nextKey n cfg ks c m)
  nextValue : ∀ cfg vt c m, RAdv c (nextValue n cfg vt c m)
  deserEnum : ∀ cfg name vs c, RAdv c (deserEnum n cfg name vs c)
  collectTaggedSeq : ∀ c d acc, RAdv c (collectTaggedSeq n c d acc)
  variantPayload : ∀ cfg vs vn vl mm tg c, RAdv c (variantPayload n cfg vs vn vl mm tg c)

theorem allAdv (n : Nat) : AllAdv n where
  capture c := radv_of_lr ((Lock.lA (advLP_closed c) n).capture (Adv.refl c))
  captureSeq c fps evs := radv_of_lr ((Lock.lA (advLP_closed c) n).captureSeq fps evs (Adv.refl c))
  captureMap c fps evs := radv_of_lr ((Lock.lA (advLP_closed c) n).captureMap fps evs (Adv.refl c))
  mergeSeqBatches c bs := radv_of_lr ((Lock.lA (advLP_closed c) n).mergeSeqBatches bs (Adv.refl c))
  pendingFromLive c l := radv_of_lr ((Lock.lA (advLP_closed c) n).pendingFromLive l (Adv.refl c))
  collectEntriesFromMap c l := radv_of_lr ((Lock.lA (advLP_closed c) n).collectEntriesFromMap l (Adv.refl c))
  collectLoop c l fs ms := radv_of_lr ((Lock.lA (advLP_closed c) n).collectLoop l fs ms (Adv.refl c))
  skipOneNode c := radv_of_lr ((Lock.lA (advLP_closed c) n).skipOneNode (Adv.refl c))
  skipDepth c d := radv_of_lr ((Lock.lA (advLP_closed c) n).skipDepth d (Adv.refl c))
  deser cfg ty ik k c := radv_of_lr ((Lock.lA (advLP_closed c) n).deser cfg ty ik k (Adv.refl c))
  bytesLoop cfg c acc := radv_of_lr ((Lock.lA (advLP_closed c) n).bytesLoop cfg acc (Adv.refl c))
  deserSeqLike cfg sh c := radv_of_lr ((Lock.lA (advLP_closed c) n).deserSeqLike cfg sh (Adv.refl c))
  seqElems cfg t c acc := radv_of_lr ((Lock.lA (advLP_closed c) n).seqElems cfg t acc (Adv.refl c))
  tupleElems cfg ts c acc := radv_of_lr ((Lock.lA (advLP_closed c) n).tupleElems cfg ts acc (Adv.refl c))
  deserMapLike cfg sh c := radv_of_lr ((Lock.lA (advLP_closed c) n).deserMapLike cfg sh (Adv.refl c))
  mapEntries cfg kt vt c m acc := radv_of_lr ((Lock.lA (advLP_closed c) n).mapEntries cfg kt vt m acc (Adv.refl c))
  structEntries cfg fields deny c m acc :=
    radv_of_lr ((Lock.lA (advLP_closed c) n).structEntries cfg fields deny m acc (Adv.refl c))
  nextKey cfg ks c m := radv_of_lr ((Lock.lA (advLP_closed c) n).nextKey cfg ks m (Adv.refl c))
  nextValue cfg vt c m := radv_of_lr ((Lock.lA (advLP_closed c) n).nextValue cfg vt m (Adv.refl c))
  deserEnum cfg name vs c := radv_of_lr ((Lock.lA (advLP_closed c) n).deserEnum cfg name vs (Adv.refl c))
  collectTaggedSeq c d acc := radv_of_lr ((Lock.lA (advLP_closed c) n).collectTaggedSeq d acc (Adv.refl c))
  variantPayload cfg vs vn vl mm tg c :=
    radv_of_lr ((Lock.lA (advLP_closed c) n).variantPayload cfg vs vn vl mm tg (Adv.refl c))

end SaphyrVerif.Lemmas.C11T
