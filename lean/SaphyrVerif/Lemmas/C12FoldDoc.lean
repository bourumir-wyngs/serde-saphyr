import SaphyrVerif.Lemmas.C12Fold
import SaphyrVerif.Lemmas.C12LiteralDoc
/-!
Helper lemmas for C12: the automatic folded block at document level.
-/
namespace SaphyrVerif.Lemmas.C12
open SaphyrVerif SaphyrVerif.SerScalar SaphyrVerif.Spec.Read

theorem trimEndNl_no_nl (v : List Char) (h : ∀ c ∈ v, c ≠ '\n') : trimEndNl v = v := by
  have hv := (trimEndNl_spec v).1
  cases ht : v.length - (trimEndNl v).length with
  | zero => rw [ht] at hv; simpa [nls] using hv.symm
  | succ t => exact absurd rfl (h '\n' (by rw [hv, ht]; simp [nls, List.replicate_succ]))

theorem joinSp_mem : ∀ (segs : List (List Char)) (e : List Char), e ∈ segs → ∀ c ∈ e, c ∈ joinSp segs := by
  intro segs
  induction segs with
  | nil => intro e he; cases he
  | cons x segs ih =>
    intro e he c hc
    cases segs with
    | nil =>
      simp only [List.mem_singleton] at he
      subst he; simpa [joinSp] using hc
    | cons y r =>
      simp only [List.mem_cons] at he
      rw [joinSp]
      rcases he with e1 | he
      · subst e1; simp [hc]
      · have := ih e (by simpa using he) c hc
        simp [this]

theorem writeFoldedBlock_single (v : List Char) (indent step wrap : Nat) (h : ∀ c ∈ v, c ≠ '\n') :
    writeFoldedBlock v indent step wrap = foldLine v (spaces (step * indent)) wrap := by
  unfold writeFoldedBlock
  rw [splitNl_single v h]
  simp only [writeFoldedBlock.go]
  cases foldLine v (spaces (step * indent)) wrap <;> simp

theorem oneLine_facts (v : List Char) (hne : v ≠ []) (hnonl : ∀ c ∈ v, c ≠ '\n') (hsp : v.head? ≠ some ' ') :
    trimEndNl v = v ∧ needsInd v = false := by
  have htrim := trimEndNl_no_nl v hnonl
  refine ⟨htrim, ?_⟩
  cases v with
  | nil => exact absurd rfl hne
  | cons c r =>
    have : (c == ' ') = false := by simpa using hsp
    simp [needsInd, htrim, firstLineLeadingSpaces, splitNl_single _ hnonl, firstLineLeadingSpaces.go, this]

/-- The automatic folded block round-trips at document level in every block value position, whenever the
writer really emits it (`hnf`: no fallback to the plain / quoted writer), under every option vector. -/
theorem folded_doc (o : Opts) (p : SerScalar.Pos) (v : List Char) (hp : isBlockPos p = true)
    (hstep : 1 ≤ o.indentStep) (hauto : autoStyle o false v = some .folded)
    (hnf : blockFallback o (posCtx o p) v = false) :
    ∃ t, emitDoc o p v = .ok t ∧ readDoc (toRead p) t = some (.folded, v) := by
  obtain ⟨hinflow, hN, hgeoA, _, hchars⟩ := block_geometry o p hp hstep v hnf
  obtain ⟨_, _, ⟨h, _⟩ | ⟨_, hnl, hpv⟩⟩ := autoStyle_inv hauto
  · cases h
  obtain ⟨_, hhead, _, _, hsafe, _⟩ := pvs_unfold hpv
  have hnonl : ∀ c ∈ v, c ≠ '\n' := fun c hc e => by simp [e ▸ hc] at hnl
  obtain ⟨c0, r0, rfl⟩ : ∃ c r, v = c :: r := by
    cases v with | nil => simp [headRejects] at hhead | cons c r => exact ⟨c, r, rfl⟩
  have hheadsp : (c0 :: r0).head? ≠ some ' ' := by
    intro e; have := (head_facts hhead).1; simp at e; subst e; cases this
  obtain ⟨htrim, hni⟩ := oneLine_facts _ (List.cons_ne_nil _ _) hnonl hheadsp
  obtain ⟨segs, hfold, hjoin, hsne, hsegs⟩ :=
    foldLine_spec (c0 :: r0) (spaces (blockCols o (posCtx o p))) o.foldedWrap (List.cons_ne_nil _ _) hheadsp
  have hmem : ∀ e ∈ segs, ∀ c ∈ e, c ∈ c0 :: r0 := fun e he c hc => hjoin ▸ joinSp_mem segs e he c hc
  have hhdr : blockHeaderTail o (posCtx o p) (c0 :: r0) = ['-'] := by
    simp [blockHeaderTail, hni, htrim, chompInd]
  refine block_doc o p _ hp hstep false ['-'] (segs.map (spaces (blockCols o (posCtx o p)) ++ ·)) ?_ (by decide) ?_ ?_
  · unfold serializeStr
    rw [hinflow, hauto]
    simp only [hnf, Bool.false_eq_true, if_false, writeFoldedBlock_single _ _ _ _ hnonl, Nat.one_mul, hfold, hhdr, spOf]
  · intro l hl c hc
    simp only [List.mem_map] at hl
    obtain ⟨e, he, rfl⟩ := hl
    rcases List.mem_append.mp hc with hc | hc
    · have : c = ' ' := by simp [spaces] at hc; exact hc.2
      subst this; decide
    · exact ⟨hnonl c (hmem e he c hc), hchars c (hmem e he c hc)⟩
  · rw [← hjoin]
    refine folded_read _ _ segs hN hsne (fun e he => ⟨(hsegs e he).1, ?_⟩) (hgeoA hni)
    cases e with
    | nil => exact absurd rfl (hsegs _ he).1
    | cons a r =>
      have hnt := (not_control_facts (hsafe a (hmem _ he a (by simp))).1).1
      have hns : a ≠ ' ' := by simpa using (hsegs _ he).2
      simp [headSat, isBlank, hns, hnt]

end SaphyrVerif.Lemmas.C12
