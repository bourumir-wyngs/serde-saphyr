import SaphyrVerif.Spec.Interp
import SaphyrVerif.Lemmas.ListAll
/-!
C04, specification level: fingerprint equality (`FP.beq` is equality; `unfp` is a right inverse of `fpOf`),
`dropSeen` for an arbitrary list of keys already seen, and the three duplicate-key policies in terms of it.
-/
namespace SaphyrVerif.Lemmas.C04
open SaphyrVerif SaphyrVerif.Scalars SaphyrVerif.Pump SaphyrVerif.De SaphyrVerif.Spec

mutual
theorem beq_iff : ∀ (a b : FP), FP.beq a b = true ↔ a = b
  | .scalar v t, .scalar v' t' => by simp [FP.beq]
  | .seq a, .seq b => by simp [FP.beq, beqL_iff a b]
  | .map a, .map b => by simp [FP.beq, beqE_iff a b]
  | .scalar .., .seq .. => by simp [FP.beq]
  | .scalar .., .map .. => by simp [FP.beq]
  | .seq .., .scalar .. => by simp [FP.beq]
  | .seq .., .map .. => by simp [FP.beq]
  | .map .., .scalar .. => by simp [FP.beq]
  | .map .., .seq .. => by simp [FP.beq]
theorem beqL_iff : ∀ (a b : List FP), FP.beqL a b = true ↔ a = b
  | [], [] => by simp [FP.beqL]
  | x :: xs, y :: ys => by simp [FP.beqL, beq_iff x y, beqL_iff xs ys]
  | [], _ :: _ => by simp [FP.beqL]
  | _ :: _, [] => by simp [FP.beqL]
theorem beqE_iff : ∀ (a b : List (FP × FP)), FP.beqE a b = true ↔ a = b
  | [], [] => by simp [FP.beqE]
  | (k, v) :: xs, (k', v') :: ys => by simp [FP.beqE, beq_iff k k', beq_iff v v', beqE_iff xs ys, and_assoc]
  | [], _ :: _ => by simp [FP.beqE]
  | _ :: _, [] => by simp [FP.beqE]
end

theorem fp_beq_eq (a b : FP) : (a == b) = FP.beq a b := rfl

theorem fp_beq_iff' (a b : FP) : (a == b) = true ↔ a = b := by rw [fp_beq_eq]; exact beq_iff a b

theorem fp_beq_self (a : FP) : (a == a) = true := (fp_beq_iff' a a).2 rfl

theorem any_beq_iff (seen : List FP) (fp : FP) : seen.any (· == fp) = true ↔ fp ∈ seen := by
  simp only [List.any_eq_true, fp_beq_iff']
  constructor
  · rintro ⟨x, hx, rfl⟩; exact hx
  · intro h; exact ⟨fp, h, rfl⟩

theorem any_beq_false_iff (seen : List FP) (fp : FP) : seen.any (· == fp) = false ↔ fp ∉ seen := by
  rw [← any_beq_iff]; simp

mutual
def unfp : FP → ENode
  | .scalar v tag => .scalar v tag none .plain 0 0
  | .seq items => .seq 0 0 none 0 0 (unfpL items)
  | .map entries => .map 0 0 0 (unfpE entries)
def unfpL : List FP → List ENode
  | [] => []
  | f :: fs => unfp f :: unfpL fs
def unfpE : List (FP × FP) → List (ENode × ENode)
  | [] => []
  | (k, v) :: es => (unfp k, unfp v) :: unfpE es
end

mutual
theorem fpOf_unfp : ∀ f : FP, fpOf (unfp f) = f
  | .scalar .. => by simp [unfp, fpOf]
  | .seq items => by simp [unfp, fpOf, fpOfL_unfpL items]
  | .map es => by simp [unfp, fpOf, fpOfE_unfpE es]
theorem fpOfL_unfpL : ∀ fs : List FP, fpOfL (unfpL fs) = fs
  | [] => by simp [unfpL, fpOfL]
  | f :: fs => by simp [unfpL, fpOfL, fpOf_unfp f, fpOfL_unfpL fs]
theorem fpOfE_unfpE : ∀ es : List (FP × FP), fpOfE (unfpE es) = es
  | [] => by simp [unfpE, fpOfE]
  | (k, v) :: es => by simp [unfpE, fpOfE, fpOf_unfp k, fpOf_unfp v, fpOfE_unfpE es]
end

/-- keys of an entry list (same as `Props.C04.keyFps`) -/
abbrev keys (es : List (ENode × ENode)) : List FP := es.map fun p => fpOf p.1

theorem dropSeen_cons (k v : ENode) (rest : List (ENode × ENode)) (seen : List FP) :
    dropSeen ((k, v) :: rest) seen =
      if seen.any (· == fpOf k) then dropSeen rest seen else (k, v) :: dropSeen rest (fpOf k :: seen) := by
  simp only [dropSeen]

/-! The two rules of `dropSeen` at an entry, in terms of membership (the definition tests `seen.any (· == fp)`). -/

theorem dropSeen_cons_of_mem {k : ENode} {seen : List FP} (h : fpOf k ∈ seen) (v : ENode) (rest : List (ENode × ENode)) :
    dropSeen ((k, v) :: rest) seen = dropSeen rest seen := by
  rw [dropSeen_cons, (any_beq_iff seen _).2 h, if_pos rfl]

theorem dropSeen_cons_of_not_mem {k : ENode} {seen : List FP} (h : fpOf k ∉ seen) (v : ENode)
    (rest : List (ENode × ENode)) : dropSeen ((k, v) :: rest) seen = (k, v) :: dropSeen rest (fpOf k :: seen) := by
  rw [dropSeen_cons, (any_beq_false_iff seen _).2 h, if_neg Bool.false_ne_true]

theorem dropSeen_sublist (l : List (ENode × ENode)) : ∀ seen, (dropSeen l seen).Sublist l := by
  induction l with
  | nil => intro seen; exact List.Sublist.refl _
  | cons e rest ih =>
    intro seen
    obtain ⟨k, v⟩ := e
    rw [dropSeen_cons]
    split
    · exact (ih _).cons _
    · exact (ih _).cons_cons _

theorem dropSeen_nodup (l : List (ENode × ENode)) :
    ∀ seen, (keys (dropSeen l seen)).Nodup ∧ ∀ k ∈ keys (dropSeen l seen), k ∉ seen := by
  induction l with
  | nil => intro seen; simp [dropSeen, keys]
  | cons e rest ih =>
    intro seen
    obtain ⟨k, v⟩ := e
    by_cases hk : fpOf k ∈ seen
    · rw [dropSeen_cons_of_mem hk]; exact ih seen
    · rw [dropSeen_cons_of_not_mem hk]
      obtain ⟨hnd, hdis⟩ := ih (fpOf k :: seen)
      simp only [keys, List.map_cons, List.nodup_cons, List.mem_cons, forall_eq_or_imp]
      exact ⟨⟨fun hmem => hdis _ hmem (List.mem_cons_self ..), hnd⟩, hk,
        fun k' hk'' hmem => hdis k' hk'' (List.mem_cons_of_mem _ hmem)⟩

theorem dropSeen_cons_ne (k v : ENode) (rest : List (ENode × ENode)) (seen : List FP) (h : fpOf k ∈ seen) :
    dropSeen ((k, v) :: rest) seen ≠ (k, v) :: rest := by
  rw [dropSeen_cons_of_mem h]
  intro he
  have := (dropSeen_sublist rest seen).length_le
  rw [he] at this
  simp only [List.length_cons] at this
  omega

theorem dropSeen_eq_self_iff (l : List (ENode × ENode)) : ∀ seen,
    dropSeen l seen = l ↔ (keys l).Nodup ∧ ∀ k ∈ keys l, k ∉ seen := by
  induction l with
  | nil => intro seen; simp [dropSeen, keys]
  | cons e rest ih =>
    intro seen
    obtain ⟨k, v⟩ := e
    by_cases hk : fpOf k ∈ seen
    · simp [dropSeen_cons_ne k v rest seen hk, keys, hk]
    · rw [dropSeen_cons_of_not_mem hk]
      simp only [List.cons.injEq, true_and, ih, keys, List.map_cons, List.nodup_cons, List.mem_cons, forall_eq_or_imp,
        not_or]
      constructor
      · rintro ⟨h1, h2⟩
        exact ⟨⟨fun hm => (h2 _ hm).1 rfl, h1⟩, hk, fun k' hk' => (h2 k' hk').2⟩
      · rintro ⟨⟨h1, h2⟩, -, h3⟩
        exact ⟨h2, fun k' hk' => ⟨fun e => h1 (e ▸ hk'), h3 k' hk'⟩⟩

theorem dropSeen_covers (l : List (ENode × ENode)) :
    ∀ seen, ∀ e ∈ l, fpOf e.1 ∈ seen ∨ ∃ e' ∈ dropSeen l seen, fpOf e'.1 = fpOf e.1 := by
  induction l with
  | nil => intro seen e he; cases he
  | cons x rest ih =>
    intro seen e he
    obtain ⟨k, v⟩ := x
    by_cases hk : fpOf k ∈ seen
    · rw [dropSeen_cons_of_mem hk]
      rcases List.mem_cons.1 he with rfl | he
      · exact Or.inl hk
      · exact ih seen e he
    · rw [dropSeen_cons_of_not_mem hk]
      simp only [List.mem_cons, exists_eq_or_imp]
      rcases List.mem_cons.1 he with rfl | he
      · exact Or.inr (Or.inl rfl)
      · rcases ih (fpOf k :: seen) e he with h | h
        · rcases List.mem_cons.1 h with h | h
          · exact Or.inr (Or.inl h.symm)
          · exact Or.inl h
        · exact Or.inr (Or.inr h)

/-! `LastWins` keeps everything, `FirstWins` is `dropSeen`, and `Error` keeps everything but is defined only when
`dropSeen` has nothing to drop; what else is said of `applyPolicy` below is said of `dropSeen` above. -/

theorem applyPolicy_lastWins (own : List (ENode × ENode)) : ∀ seen, applyPolicy .lastWins own seen = some own := by
  induction own with
  | nil => intro seen; rfl
  | cons e rest ih =>
    intro seen
    obtain ⟨k, v⟩ := e
    simp [applyPolicy, ih]

theorem applyPolicy_firstWins_eq (own : List (ENode × ENode)) : ∀ seen,
    applyPolicy .firstWins own seen = some (dropSeen own seen) := by
  induction own with
  | nil => intro seen; rfl
  | cons e rest ih =>
    intro seen
    obtain ⟨k, v⟩ := e
    by_cases hk : seen.any (· == fpOf k) = true <;> simp [applyPolicy, dropSeen, hk, ih]

theorem applyPolicy_error_eq_some_iff (own : List (ENode × ENode)) : ∀ seen r,
    applyPolicy .error own seen = some r ↔ r = own ∧ dropSeen own seen = own := by
  induction own with
  | nil => intro seen r; simp [applyPolicy, dropSeen, eq_comm]
  | cons e rest ih =>
    intro seen r
    obtain ⟨k, v⟩ := e
    by_cases hk : fpOf k ∈ seen
    · simp [applyPolicy, (any_beq_iff seen _).2 hk, dropSeen_cons_ne k v rest seen hk]
    · rw [dropSeen_cons_of_not_mem hk]
      simp only [applyPolicy, (any_beq_false_iff seen _).2 hk, Bool.false_eq_true, if_false, Option.map_eq_some_iff, ih,
        List.cons.injEq, true_and]
      constructor
      · rintro ⟨r', ⟨rfl, h⟩, rfl⟩; exact ⟨rfl, h⟩
      · rintro ⟨rfl, h⟩; exact ⟨rest, ⟨rfl, h⟩, rfl⟩

theorem applyPolicy_cases (p : DupPolicy) (own : List (ENode × ENode)) (seen : List FP) (r : List (ENode × ENode))
    (h : applyPolicy p own seen = some r) :
    (p = .lastWins ∧ r = own) ∨ (p ≠ .lastWins ∧ r = dropSeen own seen) := by
  cases p with
  | lastWins => rw [applyPolicy_lastWins] at h; exact Or.inl ⟨rfl, (Option.some.inj h).symm⟩
  | firstWins => rw [applyPolicy_firstWins_eq] at h; exact Or.inr ⟨by decide, (Option.some.inj h).symm⟩
  | error =>
    obtain ⟨rfl, h2⟩ := (applyPolicy_error_eq_some_iff own seen r).1 h
    exact Or.inr ⟨by decide, h2.symm⟩

theorem applyPolicy_sublist (p : DupPolicy) (own : List (ENode × ENode)) (seen : List FP) (r : List (ENode × ENode))
    (h : applyPolicy p own seen = some r) : r.Sublist own := by
  rcases applyPolicy_cases p own seen r h with ⟨-, rfl⟩ | ⟨-, rfl⟩
  · exact List.Sublist.refl _
  · exact dropSeen_sublist own seen

theorem applyPolicy_nodup_of_ne_lastWins (p : DupPolicy) (hp : p ≠ .lastWins) (own : List (ENode × ENode))
    (seen : List FP) (r : List (ENode × ENode)) (h : applyPolicy p own seen = some r) :
    (keys r).Nodup ∧ ∀ k ∈ keys r, k ∉ seen := by
  rcases applyPolicy_cases p own seen r h with ⟨rfl, -⟩ | ⟨-, rfl⟩
  · exact absurd rfl hp
  · exact dropSeen_nodup own seen

theorem applyPolicy_nodup (p : DupPolicy) (own : List (ENode × ENode)) (seen : List FP) (hnd : (keys own).Nodup)
    (hdis : ∀ k ∈ keys own, k ∉ seen) : applyPolicy p own seen = some own := by
  have hd := (dropSeen_eq_self_iff own seen).2 ⟨hnd, hdis⟩
  cases p with
  | lastWins => exact applyPolicy_lastWins own seen
  | firstWins => rw [applyPolicy_firstWins_eq, hd]
  | error => exact (applyPolicy_error_eq_some_iff own seen own).2 ⟨rfl, hd⟩

theorem applyPolicy_error_none_iff (own : List (ENode × ENode)) (seen : List FP) :
    applyPolicy .error own seen = none ↔ ¬ ((keys own).Nodup ∧ ∀ k ∈ keys own, k ∉ seen) := by
  rw [← dropSeen_eq_self_iff, Option.eq_none_iff_forall_ne_some]
  simp only [ne_eq, applyPolicy_error_eq_some_iff, not_and]
  exact ⟨fun h => h own rfl, fun h _ _ => h⟩

end SaphyrVerif.Lemmas.C04
