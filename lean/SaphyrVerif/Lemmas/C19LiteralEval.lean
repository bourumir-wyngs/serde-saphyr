import SaphyrVerif.Lemmas.C19Token
import SaphyrVerif.Lemmas.C19Complete
/-!
C19: the evaluator on an ordinary decimal literal.  A literal is a number token whose digit groups have no
separators and a one-leaf syntax tree with a sign chain of length at most one, so its evaluation is an
instance of `parseNumberOrSpecial_tok` and `evalExpr_complete`; the `±1.0 * v` of `unary` is exact.
-/
namespace SaphyrVerif.Lemmas.C19L
open SaphyrVerif SaphyrVerif.F64 SaphyrVerif.Robotics SaphyrVerif.Spec.Robotics SaphyrVerif.Lemmas.C19

/-- a digit string as digit groups without separators -/
def grp : List Nat → Groups
  | [] => []
  | ds => [ds]

theorem grp_render (ds : List Nat) : (grp ds).render = ds := by cases ds <;> rfl
theorem grp_digits (ds : List Nat) : (grp ds).digits = ds := by cases ds <;> simp [grp, Groups.digits]

theorem grp_wf {ds : List Nat} (h : Digits ds) : (grp ds).WF := by
  cases ds with
  | nil => intro g hg; cases hg
  | cons d r =>
    intro g hg
    have : g = d :: r := by simpa [grp] using hg
    subst this
    exact ⟨List.cons_ne_nil _ _, h⟩

/-- the body of a literal as a number token -/
def litTok (l : PlainLit) : NumTok :=
  ⟨grp l.ip, l.frac.map grp, l.exp.map fun x => (x.1, x.2.1, grp x.2.2)⟩

theorem litTok_render (l : PlainLit) : (litTok l).render = l.body := by
  obtain ⟨sign, ip, frac, exp⟩ := l
  cases frac <;> cases exp <;>
    simp [litTok, NumTok.render, PlainLit.body, PlainLit.fracBytes, PlainLit.expBytes, grp_render]

theorem litTok_plain (l : PlainLit) : (litTok l).plain = unsigned l := by
  obtain ⟨sign, ip, frac, exp⟩ := l
  cases frac <;> cases exp <;> simp [litTok, NumTok.plain, unsigned, grp_digits]

theorem litTok_wf (l : PlainLit) (hwf : l.WF) : (litTok l).WF := by
  refine ⟨grp_wf hwf.ip, ?_, ?_, by rw [litTok_plain]; exact unsigned_wf l hwf⟩
  · intro g hg
    obtain ⟨ds, hds, rfl⟩ := Option.map_eq_some_iff.mp hg
    exact grp_wf (by have := hwf.fp; rwa [PlainLit.fracDigits, hds] at this)
  · intro up sg g hg
    obtain ⟨x, hx, hxe⟩ := Option.map_eq_some_iff.mp hg
    cases hxe
    exact grp_wf (by have := hwf.ed; rwa [PlainLit.expDigits, hx] at this)

def signFactor : Option Bool → Fl
  | some true => neg ONE
  | _ => ONE

theorem signed_value (l : PlainLit) :
    mul F (signFactor l.sign) ((unsigned l).value binary64) = l.value binary64 := by
  have hwf := C19F.decRound_wf C19F.ok64 false (digitsVal (l.ip ++ l.fracDigits) 0) (l.ip.length + l.fracDigits.length)
    (l.expVal - (l.fracDigits.length : Int))
  have hu : (unsigned l).value binary64 = decRound binary64 false (digitsVal (l.ip ++ l.fracDigits) 0)
      (l.ip.length + l.fracDigits.length) (l.expVal - (l.fracDigits.length : Int)) := rfl
  rw [hu]
  unfold PlainLit.value
  cases hs : l.sign with
  | none => exact C19F.mul_one _ hwf
  | some b =>
    cases b
    · exact C19F.mul_one _ hwf
    · simp only [signFactor]
      rw [show ONE = ofNat binary64 1 from rfl, C19F.mul_neg_one _ hwf, neg_decRound]
      rfl

def litTree (l : PlainLit) : Expr :=
  .term (.un (.mk [] (match l.sign with | none => [] | some b => [b])
    (.atom [] l.body ((unsigned l).value binary64, false, true))))

theorem litTree_parses (tag : Nat) (l : PlainLit) (hwf : l.WF) (hcap : l.digitCount ≤ MAX_NUM_DIGITS) :
    Parses tag l.render (litTree l) := by
  have hnil : IsWs [] := fun c hc => nomatch hc
  refine ⟨[], [], ?_, hnil, hnil, ⟨hnil, hnil, ?_, ?_⟩, Nat.zero_le _⟩
  · obtain ⟨sign, ip, frac, exp⟩ := l
    rcases sign with _ | _ | _ <;> simp [litTree, Expr.render, Term.render, Unary.render, Primary.render,
      PlainLit.render, signBytes]
  · obtain ⟨c, r, hb, hc⟩ := body_head l hwf
    exact ⟨c, r, by rw [List.append_nil]; exact hb, hc.imp_right And.left⟩
  · obtain ⟨p, hp⟩ := parseNumberOrSpecial_tok tag (litTok l) (litTok_wf l hwf)
      (by rw [litTok_plain]; exact hcap) [] (fun c r h => nomatch h) [] 0 true
    rw [litTok_render, litTok_plain] at hp
    exact ⟨[], 0, p, hp⟩

/-- the evaluator on an ordinary literal: its exact value, correctly rounded — converted to radians
(one multiplication by `DEG2RAD`) under the `!degrees` tag. -/
theorem evalExpr_lit_any (tag : Nat) (l : PlainLit) (hwf : l.WF) (hcap : l.digitCount ≤ MAX_NUM_DIGITS) :
    evalExpr tag l.render =
      .ok (if tag == TAG_DEGREES then mul F (l.value binary64) DEG2RAD else l.value binary64) := by
  rw [evalExpr_complete tag l.render (litTree l) (litTree_parses tag l hwf hcap), ← signed_value l]
  obtain ⟨sign, ip, frac, exp⟩ := l
  rcases sign with _ | _ | _ <;> rfl

theorem evalExpr_lit (tag : Nat) (htag : tag ≠ TAG_DEGREES) (l : PlainLit) (hwf : l.WF)
    (hcap : l.digitCount ≤ MAX_NUM_DIGITS) :
    evalExpr tag l.render = .ok (l.value binary64) := by
  rw [evalExpr_lit_any tag l hwf hcap]
  have ht : (tag == TAG_DEGREES) = false := by simpa using htag
  simp [ht]

end SaphyrVerif.Lemmas.C19L
