import SaphyrVerif.Lemmas.C11_Typed2Doc
/-!
Typed multi-document theorems (C11), pump level: in multi-document mode (`stop_at_doc_end = false`) `next_impl`
only depends on the parser items it consumes.  If a call on the input `A ++ X` leaves (at least) `X` unread, the
same call on `A ++ Y` makes the same step into the same state and leaves `Y` unread (`nextImpl_swap`) — replays
pending or not, with or without enforcer.  And while input remains it does not depend on the flags
`produced_any_in_doc` / `synthesized_null_emitted` either (`nextImpl_flags`).  `nextImpl_pair` is both at once: the same
call on the twin pump, which is what the run lemmas (`runP_twin`, `failRun_twin`) and the lock-step pair of a failing
document use.
-/
namespace SaphyrVerif.Lemmas.C11B
open SaphyrVerif SaphyrVerif.Scalars SaphyrVerif.Pump SaphyrVerif.De SaphyrVerif.Spec SaphyrVerif.Budget

theorem append_right_cancel_len {α : Type} {A A' X : List α} (h : A ++ X = A' ++ X) : A = A' :=
  List.append_cancel_right h

theorem cons_of_append {it : RawItem} {rest A A' X : List RawItem} (h1 : it :: rest = A ++ X) (h2 : rest = A' ++ X) :
    A = it :: A' := by
  cases A with
  | nil =>
    have := congrArg List.length h1
    rw [h2] at this
    simp only [List.nil_append, List.length_cons, List.length_append] at this
    omega
  | cons a A0 =>
    rw [List.cons_append, List.cons.injEq] at h1
    rw [h1.1, List.append_cancel_right (h1.2.symm.trans h2)]

/-- the parser loop: what is left unread is not looked at (in `Pump.Loop` the unread rest of an answering item is a
free parameter) -/
theorem loop_swap (X Y : List RawItem) (hX : X ≠ []) {p : Pump} {inp : List RawItem} {s : Step} {p' : Pump}
    {rest : List RawItem} (h : Loop p inp s p' rest) :
    ∀ (A A' : List RawItem), inp = A ++ X → rest = A' ++ X → p.stopAtDocEnd = false → Loop p (A ++ Y) s p' (A' ++ Y) := by
  induction h with
  | null | eof => exact fun A A' h1 _ _ => absurd (List.append_eq_nil_iff.mp h1.symm).2 hX
  | scan p ua loc rest => intro A A' h1 h2 _; rw [cons_of_append h1 h2]; exact .scan p ua loc _
  | breach p raw loc rest b hb => intro A A' h1 h2 _; rw [cons_of_append h1 h2]; exact .breach p raw loc _ b hb
  | ret rest hb hi => intro A A' h1 h2 _; rw [cons_of_append h1 h2]; exact .ret _ hb hi
  | stop rest hb hi =>
    intro A A' _ _ hs
    cases hi with
    | docEndStop h => exact absurd (h.symm.trans hs) Bool.noConfusion
  | @pass p raw loc rest bud p1 s p' rest' hb hi hl ih =>
    intro A A' h1 h2 hs
    cases A with
    | nil =>
      obtain ⟨c, hc, -⟩ := hl.progress
      have h3 := congrArg List.length hc
      have h4 := congrArg List.length h1
      rw [h2] at h3
      simp only [List.nil_append, List.length_cons, List.length_append] at h3 h4
      omega
    | cons a A0 =>
      rw [List.cons_append, List.cons.injEq] at h1
      rw [← h1.1]
      exact .pass hb hi (ih A0 A' h1.2 h2 ((congrArg (·.2.2.2) hi.frame).trans hs))

theorem nextImpl_swap (X Y : List RawItem) (hX : X ≠ []) (A : List RawItem) (p : Pump) (s : Step) (p' : Pump)
    (A' : List RawItem) (hs : p.stopAtDocEnd = false) (h : nextImpl p (A ++ X) = (s, p', A' ++ X)) :
    nextImpl p (A ++ Y) = (s, p', A' ++ Y) := by
  generalize hr : A' ++ X = rest at h
  cases call_of h with
  | served hsv => rw [List.append_cancel_right hr]; exact (Call.served hsv).eq
  | loop hsp hl => exact (Call.loop hsp (loop_swap X Y hX hl A A' rfl hr.symm hs)).eq

def withFlags (p : Pump) (a b : Bool) : Pump := { p with producedAny := a, synthesizedNull := b }

/-- the state after a step of the pump with other flags: an event sets `produced_any_in_doc` -/
def adjFlags (s : Step) (p' : Pump) (a b : Bool) : Pump :=
  match s with
  | .event _ => { p' with synthesizedNull := b }
  | _ => withFlags p' a b

def adjFlagsO (r : Option Step) (p' : Pump) (a b : Bool) : Pump :=
  match r with
  | some s => adjFlags s p' a b
  | none => withFlags p' a b

theorem served_flags (a b : Bool) {p : Pump} {fs : List InjectFrame} {r : Option Step} {p' : Pump}
    (h : Served p fs r p') : Served (withFlags p a b) fs r (adjFlagsO r p' a b) := by
  cases h <;> constructor <;> assumption

def adjOut (a b : Bool) : ItemOut → ItemOut
  | .ret s p' => .ret s (adjFlags s p' a b)
  | .cont p' => .cont (withFlags p' a b)
  | .stop p' => .stop (withFlags p' a b)

theorem item_flags (a b : Bool) {p : Pump} {loc : Loc} {raw : Raw} {o : ItemOut} (h : Item p loc raw o) :
    Item (withFlags p a b) loc raw (adjOut a b o) := by
  cases h with
  | replay id buf hc hd ho hl hs => exact .replay (p := withFlags p a b) id buf hc hd ho hl (served_flags a b hs)
  -- no other outcome reads the flags: the same constructor again
  | _ => constructor <;> assumption

theorem loop_flags (a b : Bool) {p : Pump} {inp : List RawItem} {s : Step} {p' : Pump} {rest : List RawItem}
    (h : Loop p inp s p' rest) (hr : rest ≠ []) (hs : p.stopAtDocEnd = false) :
    Loop (withFlags p a b) inp s (adjFlags s p' a b) rest := by
  induction h with
  | null | eof => exact absurd rfl hr
  | scan p ua loc rest => exact .scan (withFlags p a b) ua loc rest
  | breach p raw loc rest br hb => exact .breach (withFlags p a b) raw loc rest br hb
  | ret rest hb hi => exact .ret rest hb (item_flags a b hi)
  | stop rest hb hi =>
    cases hi with
    | docEndStop h => exact absurd (h.symm.trans hs) Bool.noConfusion
  | pass hb hi _ ih => exact .pass hb (item_flags a b hi) (ih hr ((congrArg (·.2.2.2) hi.frame).trans hs))

theorem nextImpl_flags (a b : Bool) (X : List RawItem) (hX : X ≠ []) (A : List RawItem) (p : Pump) (s : Step)
    (p' : Pump) (A' : List RawItem) (hs : p.stopAtDocEnd = false) (h : nextImpl p (A ++ X) = (s, p', A' ++ X)) :
    nextImpl (withFlags p a b) (A ++ X) = (s, adjFlags s p' a b, A' ++ X) := by
  have hr : A' ++ X ≠ [] := fun h0 => hX (List.append_eq_nil_iff.mp h0).2
  generalize A' ++ X = rest at h hr
  generalize A ++ X = inp at h
  cases call_of h with
  | served hsv => exact (Call.served (served_flags a b hsv)).eq
  | loop hsp hl => exact (Call.loop (p := withFlags p a b) hsp (loop_flags a b hl hr hs)).eq

theorem withFlags_eq_syn {p : Pump} (hp : p.producedAny = true) (b : Bool) :
    withFlags p true b = { p with synthesizedNull := b } := by
  cases p
  simp_all [withFlags]

theorem nextImpl_pair {X Y : List RawItem} (hX : X ≠ []) (a b : Bool) {q : Pump} {A : List RawItem} {s : Step}
    {p' : Pump} {A' : List RawItem} (hs : q.stopAtDocEnd = false) (hn : nextImpl q (A ++ X) = (s, p', A' ++ X)) :
    nextImpl (withFlags q a b) (A ++ Y) = (s, adjFlags s p' a b, A' ++ Y) :=
  nextImpl_swap X Y hX A _ _ _ A' hs (nextImpl_flags a b X hX A q s p' A' hs hn)

/-- … an event sets `produced_any_in_doc`: whatever the flag was, the twin state is `withFlags p' true b` -/
theorem nextImpl_pair_event {X Y : List RawItem} (hX : X ≠ []) (a b : Bool) {q : Pump} {A : List RawItem} {e : Ev}
    {p' : Pump} {A' : List RawItem} (hs : q.stopAtDocEnd = false)
    (hn : nextImpl q (A ++ X) = (.event e, p', A' ++ X)) :
    nextImpl (withFlags q a b) (A ++ Y) = (.event e, withFlags p' true b, A' ++ Y) := by
  rw [withFlags_eq_syn (nextImpl_event hn).2 b]
  exact nextImpl_pair hX a b hs hn

end SaphyrVerif.Lemmas.C11B
