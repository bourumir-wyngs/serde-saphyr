import SaphyrVerif.Lemmas.C12Plain
import SaphyrVerif.Lemmas.Lits
/-!
Helper lemmas for C12: the vocabulary of the document shapes — `lineEnd`, `opening`, `toRead`, `isKeyPos`,
`DocStart`, the preamble frame `readDoc_frame` —, the contract `OneLine` that every one-line style proves of
its text, and the plain style's proof of it (`readNode_plain`, `OneLine.plain`).
-/
namespace SaphyrVerif.Lemmas.C12
open SaphyrVerif SaphyrVerif.SerScalar SaphyrVerif.Spec.Read SaphyrVerif.Scalars

/-- what follows a one-line scalar in position `p`: the closing of the position and the line break -/
def lineEnd (p : Spec.Read.Pos) : List Char := p.closing ++ ['\n']

theorem finishLine_lineEnd (p : Spec.Read.Pos) (st : Style) (v : List Char) :
    finishLine p st v false (lineEnd p) = some (st, v) := by
  cases p <;> rfl

/-- the closing of a position ends a plain scalar, does not start a comment, continue a single-quoted
scalar or complete a document marker, and has no U+0000 -/
theorem lineEnd_facts (p : Spec.Read.Pos) :
    isTerm p.isFlow (lineEnd p) = true ∧ headSat (· == '#') (lineEnd p) = false ∧
      (lineEnd p).any isNul = false ∧ (lineEnd p).head? ≠ some '\'' ∧
      headSat (fun c => c == '-' || c == '.') (lineEnd p) = false := by
  cases p <;> decide +kernel

/-- `fl` is the flow flag the writer's predicate was evaluated with (`true` for keys, whatever the position). -/
theorem readNode_plain (p : Spec.Read.Pos) (s : List Char) (y fl col0 : Bool) (parent : Int)
    (h : isPlainValueSafe s y fl = true) (hfl : p.isFlow = true → fl = true)
    (hb : s.getLast? ≠ some ' ') (hm : col0 = true → isDocMarker (s ++ lineEnd p) = false) :
    readNode p (s ++ lineEnd p) col0 parent = some (.plain, s) := by
  obtain ⟨hstart, hscan⟩ := plain_scan s (lineEnd p) y fl p.isFlow col0 h hfl hb (lineEnd_facts p).1 hm
  simp only [readNode, hstart, hscan, Option.bind_some, (lineEnd_facts p).2.1]
  exact finishLine_lineEnd p .plain s

/-- fixed openings of the positions whose text does not depend on the indentation step; `[]` for the two
positions whose opening does (`openingO` of C12Frame covers all) -/
def opening : Spec.Read.Pos → List Char
  | .root => []
  | .mapKey => []
  | .mapValue => ['k', ':', ' ']
  | .variant => ['V', ':', ' ']
  | .seqItem => ['-', ' ']
  | .flowSeq => ['[']
  | .flowMapValue => ['{', 'k', ':', ' ']
  | .flowMapKey => ['{']
  | .seqInSeq => ['-', ' ', '-', ' ']
  | .nestedMapValue => []
  | .seqInMap => []

def simplePos : Spec.Read.Pos → Bool
  | .nestedMapValue | .seqInMap => false
  | _ => true

def posCol0 : Spec.Read.Pos → Bool
  | .root => true
  | .mapKey => true
  | _ => false

/-- a text that does not look like a document marker to the writer is none for the reader either, whatever
follows it, as long as that does not begin with `-` or `.` (which could complete a short text to a marker) -/
theorem docMarker_safe (fl : Bool) (s X : List Char) (hs : SafeChars fl s) (hne : s ≠ [])
    (hdm : docMarkerLike s = false) (hX : headSat (fun c => c == '-' || c == '.') X = false) :
    isDocMarker (s ++ X) = false := by
  match s, hne with
  | [a], _ =>
    match X, hX with
    | [], _ | [_], _ => rfl
    | x :: y :: r, hX => simp only [headSat, Bool.or_eq_false_iff] at hX; simp [isDocMarker, hX]
  | [a, b], _ =>
    match X, hX with
    | [], _ => rfl
    | x :: r, hX => simp only [headSat, Bool.or_eq_false_iff] at hX; simp [isDocMarker, hX]
  | a :: b :: c :: r, _ =>
    simp only [List.cons_append, isDocMarker]
    simp only [docMarkerLike, Bool.and_eq_false_iff] at hdm
    rcases hdm with hm | ht
    · rw [hm]; rfl
    · apply Bool.and_eq_false_iff.mpr
      right
      cases r with
      | nil => simp [markerTail] at ht
      | cons d r' =>
        simp only [markerTail, Bool.or_eq_false_iff] at ht
        obtain ⟨_, hb, hn⟩ := not_control_facts (hs d (by simp)).1
        simp only [List.cons_append, endOrBlankZ, isBlankOrBreakZ, isBlank, Bool.or_eq_false_iff]
        exact ⟨⟨⟨ht.1, ht.2⟩, hb⟩, hn⟩

/-- A text that may stand at the scalar's place of a document: its first character is not a blank (the
reader skips those), not `%` (a directive at column 0) and not a byte-order mark (dropped at the start of the
stream), and it has no U+0000 (the end of the stream for the scanner). -/
def DocStart (T : List Char) : Prop :=
  ∃ c r, T = c :: r ∧ isBlank c = false ∧ c ≠ '%' ∧ c ≠ Char.ofNat 0xFEFF ∧ T.any isNul = false

theorem DocStart.append {T X : List Char} (h : DocStart T) (hX : X.any isNul = false) : DocStart (T ++ X) := by
  obtain ⟨c, r, rfl, hb, hp, hm, hn⟩ := h
  exact ⟨c, r ++ X, rfl, hb, hp, hm, by rw [List.any_append, hn, hX]; rfl⟩

/-- `T` is a one-line scalar for position `p`: it may stand at the scalar's place of a document, and with the
end of the line after it the node reader takes it for `v` in style `st`, at any column and under any parent.
Each style proves this of its text; it is all the document frame asks for (`OneLine.doc`). -/
structure OneLine (p : Spec.Read.Pos) (T : List Char) (st : Style) (v : List Char) : Prop where
  start : DocStart T
  read : ∀ col0 parent, readNode p (T ++ lineEnd p) col0 parent = some (st, v)

/-- plain, from the writer's own tests only; `fl` as in `readNode_plain` -/
theorem OneLine.plain (p : Spec.Read.Pos) {s : List Char} {y fl : Bool} (h : isPlainValueSafe s y fl = true)
    (hfl : p.isFlow = true → fl = true) (hu : isUnsafePlainShape s = false) : OneLine p s .plain s := by
  obtain ⟨_, hhead, _, _, hsafe, _⟩ := pvs_unfold h
  obtain ⟨hb, hbom, hdm⟩ := unsafe_shape_facts hu
  cases s with
  | nil => simp [headRejects] at hhead
  | cons c r =>
    obtain ⟨hblank, hpct⟩ := head_facts hhead
    exact ⟨⟨c, r, rfl, hblank, hpct, by simpa using hbom, hsafe.noNul⟩, fun col0 parent =>
      readNode_plain p _ y fl col0 parent h hfl hb fun _ =>
        docMarker_safe fl _ _ hsafe (List.cons_ne_nil _ _) hdm (lineEnd_facts p).2.2.2.2⟩

theorem stripPrefix_append (pre rest : List Char) : stripPrefix? pre (pre ++ rest) = some rest := by
  induction pre with
  | nil => rfl
  | cons a pre ih => simp [stripPrefix?, ih]

theorem readDoc_frame (o : Opts) (p : Spec.Read.Pos) (X : List Char)
    (hbom : X.head? ≠ some (Char.ofNat 0xFEFF)) (hpc : X.head? ≠ some '%') :
    readDoc p (preamble o ++ X) = readDocBody p X := by
  obtain ⟨t, hy⟩ : ∃ t, yamlPreamble = '%' :: t := ⟨_, by unfold yamlPreamble; char_lits⟩
  have hp : preamble o = if o.yaml12 then yamlPreamble else [] := rfl
  rw [readDoc, hp]
  cases o.yaml12 with
  | true =>
    have h1 : stripBom (yamlPreamble ++ X) = yamlPreamble ++ X := by rw [hy]; rfl
    simp only [if_true, h1, stripPrefix_append]
  | false =>
    cases X with
    | nil => rfl
    | cons c r =>
      have hc : c.toNat ≠ 0xFEFF := fun e => hbom (by rw [char_eq_of_toNat _ _ e]; rfl)
      have hc2 : ('%' == c) = false := beq_eq_false_iff_ne.mpr fun e => hpc (by rw [← e]; rfl)
      have h1 : stripBom (c :: r) = c :: r := by
        simp only [stripBom]; rw [if_neg (by simpa using hc)]
      have h2 : stripPrefix? yamlPreamble (c :: r) = none := by rw [hy, stripPrefix?, hc2]; rfl
      simp only [Bool.false_eq_true, if_false, List.nil_append, h1, h2]

def toRead : SerScalar.Pos → Spec.Read.Pos
  | .root => .root | .mapValue => .mapValue | .mapKey => .mapKey | .seqItem => .seqItem
  | .flowSeq => .flowSeq | .flowMapValue => .flowMapValue | .flowMapKey => .flowMapKey
  | .variant => .variant | .nestedMapValue => .nestedMapValue | .seqInMap => .seqInMap
  | .seqInSeq => .seqInSeq

def isKeyPos : SerScalar.Pos → Bool
  | .mapKey | .flowMapKey => true
  | _ => false

theorem indentCols_shift0 (o : Opts) (cx : Ctx) (d : Nat) (h : cx.shift = 0) :
    indentCols o cx d = o.indentStep * d := by
  simp only [indentCols, h, Int.add_zero]
  omega

/-- "the writer decides *plain* for `s` in position `p`": the key sink's test in key positions; in value
positions no automatic block style, no `quote_all`, the value test, and not the one-character special
case (`.` is written `'.'`); everywhere `!is_unsafe_plain_shape(s)`. -/
def writerPlain (o : Opts) (p : SerScalar.Pos) (s : List Char) : Prop :=
  if isKeyPos p then (isPlainSafe s && isPlainValueSafe s o.yaml12 true && !isUnsafePlainShape s) = true
  else o.quoteAll = false ∧ autoStyle o (toRead p).isFlow s = none ∧
       isPlainValueSafe s o.yaml12 (toRead p).isFlow = true ∧ isUnsafePlainShape s = false ∧ s ≠ ['.']

instance (o : Opts) (p : SerScalar.Pos) (s : List Char) : Decidable (writerPlain o p s) := by
  unfold writerPlain; infer_instance

end SaphyrVerif.Lemmas.C12
