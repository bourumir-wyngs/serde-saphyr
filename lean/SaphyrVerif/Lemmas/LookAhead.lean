import SaphyrVerif.Model.De
import SaphyrVerif.Lemmas.PumpEqns
/-!
One look-ahead (`peek`) of the pump and of the cursor.  With an empty look-ahead slot `Pump.peek` is `next_impl` with
the event put into the slot; what comes out is said once for the three states the pump can be in — at a node item of
the parser, at an alias token, under a live replay frame — by inversion of `PumpStep`'s lists of what a call can do
(`Item`, `Loop`), hence for every budget.  The location theorems of C04 (`at_alias`, the duplicate-key report) and C16
(`reference_location` of a span-carrying value) read their answers off these.
-/
namespace SaphyrVerif.Lemmas.LookAhead
open SaphyrVerif SaphyrVerif.Scalars SaphyrVerif.Pump SaphyrVerif.De SaphyrVerif.Budget

theorem item_node {p : Pump} {loc : Loc} {raw : Raw} {o : ItemOut} (h : Item p loc raw o)
    (hraw : (∃ v st a t, raw = .scalar v st a t) ∨ (∃ a t, raw = .seqStart a t) ∨ (∃ a t, raw = .mapStart a t)) :
    ∃ s q, o = .ret s q ∧ q.inject = p.inject ∧ ∀ ev, s = .event ev → ev.loc = loc := by
  rcases hraw with ⟨v, st, a, t, rfl⟩ | ⟨a, t, rfl⟩ | ⟨a, t, rfl⟩ <;> cases h
  all_goals exact ⟨_, _, rfl, rfl, fun ev h => by cases h <;> rfl⟩

theorem item_alias {p : Pump} {id : Nat} {loc : Loc} {o : ItemOut} (buf : List Ev) (h : Item p loc (.alias id) o)
    (hi : p.inject = []) (hrec : p.recStack.any (fun f => f.id == id) = false)
    (hbuf : lookupAnchor p.anchors id = some buf) (hlen : 0 < buf.length) :
    ∃ s q, o = .ret s q ∧
      ∀ ev, s = .event ev → buf[0]? = some ev ∧
        q.inject = [{ anchorId := id, idx := 1, refLoc := loc }] ∧ q.anchors = p.anchors := by
  have hinj : (pushed p id loc).inject = [{ anchorId := id, idx := 0, refLoc := loc }] := by simp only [pushed, hi]
  cases h with
  | aliasLimit | aliasDepth | recursive | unknownAlias => exact ⟨_, _, rfl, fun ev h => nomatch h⟩
  | placeholder _ _ _ ho _ => rw [hrec] at ho; cases ho
  | replay _ _ _ _ _ _ hs =>
    obtain ⟨s', q, hs', hq1, hq2, -, hq4⟩ :=
      serveInject_live_top (pushed p id loc) { anchorId := id, idx := 0, refLoc := loc } [] buf hbuf hlen
    have he := hs.eq
    rw [hinj, hs'] at he
    cases he
    refine ⟨_, _, rfl, fun ev h => ⟨?_, hq1, hq2⟩⟩
    rcases hq4 with rfl | ⟨e, rfl⟩
    · cases h; exact List.getElem?_eq_getElem hlen
    · cases h
  | spentAlias _ _ _ _ _ _ hs =>
    rw [hinj] at hs
    obtain ⟨b, hb, hle⟩ := hs _ (List.mem_singleton_self _)
    cases hbuf.symm.trans hb
    exact absurd hle (Nat.not_le.mpr hlen)

/-- the parser loop on an item that is answered at once (`Item … (.ret s q)` whatever the enforcer's state): the
enforcer refuses the item, or the loop returns what `Item` says; nothing behind the item is read -/
theorem loop_ret {p : Pump} {raw : Raw} {loc : Loc} {rest rest' : List RawItem} {s : Step} {p' : Pump}
    {P : Step → Pump → Prop} (h : Loop p (.ev raw loc :: rest) s p' rest') (hbr : ∀ b, P (.error (.budget b loc)) p)
    (hret : ∀ bud o, Item { p with budget := bud } loc raw o → ∃ s q, o = .ret s q ∧ P s q) : P s p' ∧ rest' = rest := by
  cases h with
  | breach _ _ _ _ b => exact ⟨hbr b, rfl⟩
  | ret _ _ hi =>
    obtain ⟨s, q, ho, hP⟩ := hret _ _ hi
    cases ho
    exact ⟨hP, rfl⟩
  | stop _ _ hi => obtain ⟨s, q, ho, -⟩ := hret _ _ hi; cases ho
  | pass _ hi => obtain ⟨s, q, ho, -⟩ := hret _ _ hi; cases ho

theorem peek_none_event (p : Pump) (inp : List RawItem) (ev : Ev) (p' : Pump) (rest : List RawItem)
    (hl : p.look = none) (h : Pump.peek p inp = (.event ev, p', rest)) :
    ∃ q, nextImpl p inp = (.event ev, q, rest) ∧ p' = { q with look := some ev, lastLoc := ev.loc } := by
  simp only [Pump.peek, hl] at h
  rcases hn : nextImpl p inp with ⟨s, q, r⟩
  rw [hn] at h
  cases s with
  | event e0 =>
    simp only [Prod.mk.injEq, Step.event.injEq] at h
    obtain ⟨rfl, rfl, rfl⟩ := h
    exact ⟨q, rfl, rfl⟩
  | eof => simp at h
  | error err => simp at h

theorem peek_inject (p : Pump) (inp : List RawItem) (hl : p.look = none) :
    (Pump.peek p inp).2.1.inject = (nextImpl p inp).2.1.inject := by
  simp only [Pump.peek, hl]
  split
  · rename_i h; rw [h]
  · rfl

/-- at a node item of the parser (scalar, sequence start, mapping start), nothing being replayed: the replay stack
stays empty, and an event that comes out carries the item's location -/
theorem peek_node (p : Pump) (raw : Raw) (loc : Loc) (rest : List RawItem) (hl : p.look = none) (hi : p.inject = [])
    (hraw : (∃ v st a t, raw = .scalar v st a t) ∨ (∃ a t, raw = .seqStart a t) ∨ (∃ a t, raw = .mapStart a t)) :
    (Pump.peek p (.ev raw loc :: rest)).2.1.inject = [] ∧
    ∀ ev p' r, Pump.peek p (.ev raw loc :: rest) = (.event ev, p', r) → ev.loc = loc := by
  rcases hs : parserLoop p (.ev raw loc :: rest) with ⟨s, q, r⟩
  obtain ⟨⟨hinj, hloc⟩, hr⟩ := loop_ret (loop_of hs)
    (P := fun s q => q.inject = [] ∧ ∀ ev, s = .event ev → ev.loc = loc) (fun b => ⟨hi, fun ev h => nomatch h⟩)
    (fun bud o ho => by
      obtain ⟨s, q, ho, h1, h2⟩ := item_node ho hraw
      exact ⟨s, q, ho, h1.trans hi, h2⟩)
  have hn : nextImpl p (.ev raw loc :: rest) = (s, q, rest) := by rw [nextImpl_of_inject_nil hi, hs, hr]
  refine ⟨by rw [peek_inject p _ hl, hn]; exact hinj, fun ev p' r h => ?_⟩
  obtain ⟨q', hn', -⟩ := peek_none_event p _ ev p' r hl h
  rw [hn] at hn'
  cases hn'
  exact hloc _ rfl

/-- at an alias token `*x` at `aloc` (nothing being replayed, not a recursive reference, the anchor recorded with the
non-empty buffer `buf`): an event that comes out is `buf[0]`, and the replay stack is exactly the frame pushed for
this token, one event served -/
theorem peek_alias_token (p : Pump) (id : Nat) (aloc : Loc) (rest : List RawItem) (buf : List Ev)
    (ev : Ev) (p' : Pump) (r : List RawItem) (hl : p.look = none) (hi : p.inject = [])
    (hrec : p.recStack.any (fun f => f.id == id) = false)
    (hbuf : lookupAnchor p.anchors id = some buf) (hlen : 0 < buf.length)
    (h : Pump.peek p (.ev (.alias id) aloc :: rest) = (.event ev, p', r)) :
    buf[0]? = some ev ∧ p'.inject = [{ anchorId := id, idx := 1, refLoc := aloc }] ∧ p'.anchors = p.anchors ∧
      p'.look = some ev := by
  obtain ⟨q, hn, rfl⟩ := peek_none_event p _ ev p' r hl h
  rw [nextImpl_of_inject_nil hi] at hn
  obtain ⟨hq, -⟩ := loop_ret (loop_of hn)
    (P := fun s q => ∀ ev, s = .event ev → buf[0]? = some ev ∧
      q.inject = [{ anchorId := id, idx := 1, refLoc := aloc }] ∧ q.anchors = p.anchors)
    (fun b ev h => nomatch h) (fun bud o ho => item_alias (p := { p with budget := bud }) buf ho hi hrec hbuf hlen)
  obtain ⟨k1, k2, k3⟩ := hq _ rfl
  exact ⟨k1, k2, k3, rfl⟩

/-- while a buffer is being replayed (top frame `fr`, not exhausted): an event that comes out is the frame's next
one, the frame stays on top with the index advanced, nothing is read from the parser -/
theorem peek_frame (p : Pump) (inp : List RawItem) (fr : InjectFrame) (frs : List InjectFrame) (buf : List Ev)
    (ev : Ev) (p' : Pump) (r : List RawItem) (hl : p.look = none) (hi : p.inject = fr :: frs)
    (hb : lookupAnchor p.anchors fr.anchorId = some buf) (hidx : fr.idx < buf.length)
    (h : Pump.peek p inp = (.event ev, p', r)) :
    buf[fr.idx]? = some ev ∧ p'.inject = { fr with idx := fr.idx + 1 } :: frs ∧ p'.anchors = p.anchors ∧
      p'.look = some ev ∧ r = inp := by
  obtain ⟨q', hn, rfl⟩ := peek_none_event p inp ev p' r hl h
  obtain ⟨s, q, hs, hq1, hq2, -, hq4⟩ := serveInject_live_top p fr frs buf hb hidx
  simp only [nextImpl, hi, hs, Prod.mk.injEq] at hn
  obtain ⟨rfl, rfl, rfl⟩ := hn
  rcases hq4 with h4 | ⟨e, h4⟩
  · cases h4; exact ⟨List.getElem?_eq_getElem hidx, hq1, hq2, rfl, rfl⟩
  · cases h4

theorem pump_peek_look (p : Pump) (inp : List RawItem) (ev : Ev) (p' : Pump) (rest : List RawItem)
    (h : Pump.peek p inp = (.event ev, p', rest)) : p'.look = some ev := by
  cases hl : p.look with
  | some e0 =>
    simp only [Pump.peek, hl, Prod.mk.injEq, Step.event.injEq] at h
    obtain ⟨rfl, rfl, rfl⟩ := h
    rfl
  | none =>
    obtain ⟨q, _, rfl⟩ := peek_none_event p inp ev p' rest hl h
    rfl

theorem live_peek_inv (p : Pump) (inp : List RawItem) (ev : Ev) (c1 : Cur)
    (h : Cur.peek (.live p inp) = .ok (some ev) c1) :
    ∃ p' rest, c1 = .live p' rest ∧ Pump.peek p inp = (.event ev, p', rest) := by
  simp only [Cur.peek] at h
  split at h
  · rename_i e0 p' rest hp
    simp only [R.ok.injEq, Option.some.injEq] at h
    obtain ⟨rfl, rfl⟩ := h
    exact ⟨p', rest, rfl, hp⟩
  · simp at h
  · simp at h

theorem live_peek_of (p : Pump) (inp : List RawItem) (ev : Ev) (p' : Pump) (rest : List RawItem)
    (h : Pump.peek p inp = (.event ev, p', rest)) : Cur.peek (.live p inp) = .ok (some ev) (.live p' rest) := by
  simp only [Cur.peek, h]

theorem live_next_of (p : Pump) (inp : List RawItem) (ev : Ev) (p' : Pump) (rest : List RawItem)
    (h : Pump.next p inp = (.event ev, p', rest)) : Cur.next (.live p inp) = .ok (some ev) (.live p' rest) := by
  simp only [Cur.next, h]

theorem pump_peek_with_look (p : Pump) (inp : List RawItem) (ev : Ev) (h : p.look = some ev) :
    Pump.peek p inp = (.event ev, { p with lastLoc := ev.loc }, inp) ∧
    Pump.next p inp = (.event ev, { p with look := none, lastLoc := ev.loc }, inp) := by
  unfold Pump.peek Pump.next
  rw [h]
  exact ⟨rfl, rfl⟩

theorem cur_peek_then (c : Cur) (ev : Ev) (c1 : Cur) (h : c.peek = .ok (some ev) c1) :
    (∃ c2, c1.next = .ok (some ev) c2) ∧
    (∃ c1', c1.peek = .ok (some ev) c1' ∧ c1'.refLoc = c1.refLoc ∧ ∃ c2, c1'.next = .ok (some ev) c2) := by
  cases c with
  | live p inp =>
    obtain ⟨p', rest, rfl, hp⟩ := live_peek_inv p inp ev c1 h
    have hl := pump_peek_look p inp ev p' rest hp
    obtain ⟨h1, h2⟩ := pump_peek_with_look p' rest ev hl
    have hl' : ({ p' with lastLoc := ev.loc } : Pump).look = some ev := hl
    obtain ⟨_, h2'⟩ := pump_peek_with_look { p' with lastLoc := ev.loc } rest ev hl'
    refine ⟨⟨_, live_next_of _ _ _ _ _ h2⟩, ⟨_, live_peek_of _ _ _ _ _ h1, ?_, ⟨_, live_next_of _ _ _ _ _ h2'⟩⟩⟩
    simp only [Cur.refLoc, Pump.referenceLocation, hl]
  | replay buf idx ref =>
    simp only [Cur.peek, R.ok.injEq] at h
    obtain ⟨hb, rfl⟩ := h
    have hn : Cur.next (.replay buf idx ref) = .ok (some ev) (.replay buf (idx + 1) ref) := by
      simp only [Cur.next, hb]
    have hp : Cur.peek (.replay buf idx ref) = .ok (some ev) (.replay buf idx ref) := by
      simp only [Cur.peek, hb]
    exact ⟨⟨_, hn⟩, ⟨_, hp, rfl, ⟨_, hn⟩⟩⟩

end SaphyrVerif.Lemmas.LookAhead
