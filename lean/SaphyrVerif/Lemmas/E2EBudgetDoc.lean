import SaphyrVerif.Lemmas.E2EBudgetTrace
import SaphyrVerif.Lemmas.C11_TypedPump
/-!
End-to-end composition with the budget enforcer: the observations of the run over a single-document
stream (`obsRun`) — the two opening markers, the observations of the node (described by `steps_accounts`), the two
closing markers.
-/
namespace SaphyrVerif.Lemmas.E2EBudget
open SaphyrVerif.Pump SaphyrVerif.Budget SaphyrVerif.Spec
open SaphyrVerif.Lemmas.C02 (Good noFoldedIndent afterDocStart)


theorem nodeOrAlias_eq : nodeOrAlias = C11T.skipNeutral := by
  funext it
  cases it with
  | ev r l => cases r <;> rfl
  | err u l => rfl

theorem itemsOf_nodeOrAlias (t : LNode) : ∀ it ∈ itemsOf t, nodeOrAlias it = true := by
  rw [nodeOrAlias_eq]
  exact C11T.itemsOf_neutral t

theorem itemsOfL_nodeOrAlias (ts : List LNode) : ∀ it ∈ itemsOfL ts, nodeOrAlias it = true := by
  rw [nodeOrAlias_eq]
  exact C11T.itemsOfL_neutral ts

theorem itemsOfE_nodeOrAlias (es : List (LNode × LNode)) : ∀ it ∈ itemsOfE es, nodeOrAlias it = true := by
  rw [nodeOrAlias_eq]
  exact C11T.itemsOfE_neutral es

theorem obsCall_doc_start (L : AliasLimits) (l0 l1 : Loc) (X : List RawItem) :
    obsCall { limits := L } (.ev .streamStart l0 :: .ev (.docStart false) l1 :: X) =
      [.raw .streamStart, .raw (.docStart false)] ++ obsCall (afterDocStart L l1) X := by
  simp [obsCall, obsServe, serveInject, obsLoop, obsItem, Pump.resetDocumentState, afterDocStart]

theorem obsCall_doc_end {p : Pump} (hg : Good p) (hs : p.stopAtDocEnd = false) (l2 l3 : Loc) :
    obsCall p [.ev .docEnd l2, .ev .streamEnd l3] = [.raw .docEnd, .raw .streamEnd] := by
  have h1 := C02.serveInject_exhausted p p.inject hg.inj
  have h2 := obsServe_none p p.inject h1
  simp [obsCall, h1, h2, obsLoop, obsItem, Pump.resetDocumentState, C02.clr, hs]

theorem doc_obs (L : AliasLimits) (t : LNode) (l0 l1 l2 l3 : Loc) (r : Exp)
    (hnf : noFoldedIndent t = true) (hexp : expand [] [] t = .ok r)
    (hL1 : 1 ≤ L.maxReplayStackDepth) (hL2 : r.replayed ≤ L.maxTotalReplayedEvents)
    (hL3 : ∀ id, aliasCount id t ≤ L.maxAliasExpansionsPerAnchor) :
    ∃ O : List Obs,
      obsRun (r.evs.length + 1) { limits := L } (docStream t l0 l1 l2 l3) =
        [.raw .streamStart, .raw (.docStart false)] ++ O ++ [.raw .docEnd, .raw .streamEnd] ∧
      Accounts (itemsOf t) O r.evs := by
  obtain ⟨p1, hs, hpost, -⟩ := C02.doc_steps L t l1 r [.ev .docEnd l2, .ev .streamEnd l3] hnf hexp hL1 hL2 hL3
  obtain ⟨C, hC, acc⟩ := steps_accounts hs ⟨rfl, rfl, rfl⟩ (by simp)
  obtain rfl : C = itemsOf t := (List.append_cancel_right hC).symm
  refine ⟨_, ?_, acc⟩
  -- as an equation: left to unification against `obsRun_of_eq`, the shape of the stream is slow to check
  have hd : docStream t l0 l1 l2 l3 =
      .ev .streamStart l0 :: .ev (.docStart false) l1 :: (itemsOf t ++ [.ev .docEnd l2, .ev .streamEnd l3]) := by
    simp [docStream]
  rw [hd, obsRun_of_eq (C02.doc_start L l0 l1 _) (obsCall_doc_start L l0 l1 _), obsRun_steps hs 1]
  simp only [obsRun, List.append_nil]
  rw [obsCall_doc_end hpost.good (by rw [hpost.sade]; rfl), List.append_assoc]

end SaphyrVerif.Lemmas.E2EBudget
