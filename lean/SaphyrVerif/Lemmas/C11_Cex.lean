import SaphyrVerif.Model.Entry
/-!
Helper lemmas for C11: regression facts for the two former witnesses against termination of the
iterator.  Before the repair a container-end event at a document root was handed to `deser`, where
`deserialize_unit` / `deserialize_option` accept it without consuming it (the iterator yielded the same item
for ever).  Now the iterator (and the batch loop) report `UnexpectedSequenceEnd` / `UnexpectedMappingEnd`
and recover at the next document.
-/
namespace SaphyrVerif.Lemmas.C11
open SaphyrVerif SaphyrVerif.Scalars SaphyrVerif.Pump SaphyrVerif.De SaphyrVerif.Entry

def cexLimits : AliasLimits := ⟨5, 5, 5⟩
def cexPump : Pump := { limits := cexLimits }
/-- the state once the stray end event sits in the look-ahead -/
def cexStuck : Pump := { limits := cexLimits, look := some (.seqEnd 1), lastLoc := 1, producedAny := true }

theorem cex_peek0 : Cur.peek (.live cexPump [.ev .seqEnd 1]) = .ok (some (.seqEnd 1)) (.live cexStuck []) := by
  rfl

/-- first former witness (a stray `]` read as `()`): one error item, then the iterator stops -/
theorem cex_now (m : Nat) :
    iterLoop {} .unit (m + 1) cexPump [.ev .seqEnd 1] [] = [.error ⟨"UnexpectedSequenceEnd", 1, 0⟩] := by
  simp [iterLoop, cex_peek0, Pump.skipToNextDocument, skipLoop]

/-- the parser items of the one-document stream `[[]]` -/
def wfItems : List RawItem :=
  [.ev .streamStart 1, .ev (.docStart false) 2, .ev (.seqStart 0 none) 10, .ev (.seqStart 0 none) 11,
   .ev .seqEnd 12, .ev .seqEnd 19, .ev .docEnd 3, .ev .streamEnd 9]
def wfTy : Ty := .option (.tuple [])
def wfRest : List RawItem := [.ev .docEnd 3, .ev .streamEnd 9]
/-- after two items have been yielded -/
def wfMid : Pump := { limits := cexLimits, lastLoc := 12, producedAny := true }
/-- the outer `]` sits in the look-ahead -/
def wfStuck : Pump := { limits := cexLimits, look := some (.seqEnd 19), lastLoc := 19, producedAny := true }

theorem wf_peek_mid : Cur.peek (.live wfMid (.ev .seqEnd 19 :: wfRest)) = .ok (some (.seqEnd 19)) (.live wfStuck wfRest) := rfl

theorem wf_prefix (m : Nat) (acc : List (Except DErr Val)) :
    iterLoop {} wfTy (m + 2) cexPump wfItems acc =
      iterLoop {} wfTy m wfMid (.ev .seqEnd 19 :: wfRest) (acc ++ [.ok (.some (.seq [])), .ok (.some (.seq []))]) := by
  -- the fuel of `deser` written as a successor twice: its equations need `fuel + 1`, and this input descends
  -- two levels (the option, then the tuple); `simp` would not take the numeral `6500000` apart by itself
  have hf : fuelFor 100000 = 6499998 + 1 + 1 := rfl
  simp [iterLoop, hf, wfMid, wfRest, cexLimits, wfTy, wfItems, cexPump, Cur.peek, Pump.peek, Cur.next,
    Pump.next, nextImpl, serveInject, parserLoop, Pump.resetDocumentState, deser, deserSeqLike, tupleElems, tagCode,
    recordAll, record, bumpDepthOnStart, bumpDepthOnEnd, finalizeFrames, Ev.loc]

/-- second former witness (the well-formed document `[[]]` read as `Option<()>`-like): two values, then the
outer `]` is reported as an error item, the rest of the document is skipped and the iterator stops -/
theorem wf_now (m : Nat) :
    iterLoop {} wfTy (m + 3) cexPump wfItems [] =
      [.ok (.some (.seq [])), .ok (.some (.seq [])), .error ⟨"UnexpectedSequenceEnd", 19, 0⟩] := by
  rw [wf_prefix (m + 1) []]
  simp only [iterLoop, wf_peek_mid]
  simp [wfRest, wfStuck, Pump.skipToNextDocument, skipLoop]

/-- the batch entry point on the same input: the error instead of a run that only ends with the fuel -/
theorem wf_batch_now :
    fromMultiple {} wfTy cexPump wfItems = .error ⟨"UnexpectedSequenceEnd", 19, 0⟩ := by
  -- as in `wf_prefix`
  have hf : fuelFor 100000 = 6499998 + 1 + 1 := rfl
  simp [fromMultiple, multiLoop, hf, cexLimits, wfTy, wfItems, cexPump, Cur.peek, Pump.peek, Cur.next,
    Pump.next, nextImpl, serveInject, parserLoop, Pump.resetDocumentState, deser, deserSeqLike, tupleElems, tagCode,
    recordAll, record, bumpDepthOnStart, bumpDepthOnEnd, finalizeFrames, Ev.loc]

end SaphyrVerif.Lemmas.C11
