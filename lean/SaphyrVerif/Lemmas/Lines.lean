/-!
Facts about texts as lists of characters cut at line feeds, independent of any model: the first line of a
text, induction over a text line by line (`lines_induction`), the lines as the line loops of the snippet code visit
them (`lineCuts`) with what a fold over them writes (`fold_lines_out`), and a few list facts about last elements.

Five ways of cutting a text into lines occur in C17; they differ in what becomes of the line break and of the last piece:
* `Spec.Snippet.yamlLines` — the specification: lines under the YAML rule (LF, CRLF, lone CR), without their breaks; a
  final break is followed by an empty last line. What a reported `Location` counts.
* `Spec.Snippet.takeRows` / `dropRows` / `row` / `visibleLine` — rows cut at `\n` only, addressed by number; the
  vocabulary of the window statements (`visibleLine` = the row without `\n` / `\r\n`).
* `Snippet.splitInclusive` / `linesOf` — the model of `split_inclusive('\n')` / `lines()`: pieces WITH their `\n`; no
  empty piece after a final `\n`. Only met where the code calls them (`splitInclusive_flatten`).
* `lineCuts` (below) — the pieces as the two line loops visit them: without `\n`, with the flag "a break followed";
  no empty piece after a final `\n`. Only met under `foldLines`: a loop driven by `nextLine` is such a fold (`lineLoop_run`,
  C17Window).
* `rawLines` (C17Breaks) — `split('\n')`: pieces without `\n`, WITH the empty piece after a final `\n`; the bridge between
  the other two worlds: `yamlLines s = (rawLines (normBreaks s)).map stripCr` (`yamlLines_eq`) and
  `(rawLines s)[k]? = stripNl (row (k + 1))` (`rawLines_get`).
A sixth view is on BYTES and cuts nothing: `Spec.Snippet.endsLineAt` / `linesEndedBefore` count the line ends (YAML rule) within a
byte prefix; the ring statements of `Props/C17` are written in it, `breaksCtx` (C17Breaks) is its character form
(`linesEnded_encode`, C17Aligned).
-/
namespace SaphyrVerif

/-- stripping a final `x` (`strip_suffix`) leaves a first character other than `x` in place -/
theorem stripLast_cons_of_ne (x c : Char) (l : List Char) (h : c ≠ x) :
    (if (c :: l).getLast? = some x then (c :: l).dropLast else c :: l) =
      c :: (if l.getLast? = some x then l.dropLast else l) := by
  cases l with
  | nil =>
    have : ¬ ([c] : List Char).getLast? = some x := by simp [h]
    rw [if_neg this]
    simp
  | cons d ds =>
    rw [List.getLast?_cons_cons]
    split
    · simp
    · rfl

theorem takeWhile_all {α} (p : α → Bool) (l : List α) (h : ∀ x ∈ l, p x = true) : l.takeWhile p = l := by
  induction l with
  | nil => rfl
  | cons a l ih =>
    simp only [List.takeWhile_cons, h a (by simp), if_true]
    rw [ih (fun x hx => h x (by simp [hx]))]

theorem count_nl_cons (c : Char) (cs : List Char) :
    (c :: cs).count '\n' = cs.count '\n' + (if c = '\n' then 1 else 0) := by
  rw [List.count_cons]
  by_cases hc : c = '\n'
  · simp [hc]
  · have : (c == '\n') = false := by simp [hc]
    simp [hc, this]

theorem count_nl_zero_of_not_mem (l : List Char) (h : '\n' ∉ l) : l.count '\n' = 0 :=
  List.count_eq_zero.mpr h

theorem split_first_line (rest : List Char) :
    ∃ pre T, rest = pre ++ T ∧ '\n' ∉ pre ∧ (T = [] ∨ ∃ post, T = '\n' :: post) := by
  induction rest with
  | nil => exact ⟨[], [], rfl, by simp, .inl rfl⟩
  | cons c cs ih =>
    by_cases hc : c = '\n'
    · exact ⟨[], c :: cs, rfl, by simp, .inr ⟨cs, by rw [hc]⟩⟩
    · obtain ⟨pre, T, e, hn, hT⟩ := ih
      refine ⟨c :: pre, T, by rw [e]; rfl, ?_, hT⟩
      intro hm
      rcases List.mem_cons.mp hm with h | h
      · exact hc h.symm
      · exact hn h

theorem lines_induction {P : List Char → Prop} (nil : P [])
    (last : ∀ pre, '\n' ∉ pre → pre ≠ [] → P pre)
    (row : ∀ pre post, '\n' ∉ pre → P post → P (pre ++ '\n' :: post)) : ∀ s, P s := by
  intro s
  induction hn : s.length using Nat.strongRecOn generalizing s with
  | _ n ih =>
    obtain ⟨pre, T, e, hnp, hT⟩ := split_first_line s
    rcases hT with hT | ⟨post, hT⟩
    · subst hT
      rw [List.append_nil] at e
      by_cases h0 : pre = []
      · rw [e, h0]; exact nil
      · rw [e]; exact last pre hnp h0
    · subst hT
      rw [e]
      exact row pre post hnp (ih post.length (by rw [← hn, e]; simp; omega) post rfl)

theorem getLast?_append_cons_of_ne_nil (a : List Char) (c : Char) (cs : List Char) (h : cs ≠ []) :
    (a ++ c :: cs).getLast? = cs.getLast? := by
  rw [List.getLast?_append, List.getLast?_cons_of_ne_nil h]
  cases hq : cs.getLast? with
  | none => exact absurd (List.getLast?_eq_none_iff.mp hq) h
  | some y => rfl

/-- the lines of a text as the loops visit them: each without its line break, with the flag "a line break
follows" (only the last line can lack one; a final line break is not followed by an empty line) -/
def lineCuts : List Char → List (List Char × Bool)
  | [] => []
  | c :: cs =>
    if c = '\n' then ([], true) :: lineCuts cs
    else match lineCuts cs with
      | [] => [([c], false)]
      | (l, b) :: rest => (c :: l, b) :: rest

theorem lineCuts_last (pre : List Char) (hn : '\n' ∉ pre) (hne : pre ≠ []) : lineCuts pre = [(pre, false)] := by
  induction pre with
  | nil => exact absurd rfl hne
  | cons c cs ih =>
    have hc : c ≠ '\n' := fun h => hn (by rw [h]; exact List.mem_cons_self ..)
    rw [lineCuts, if_neg hc]
    cases cs with
    | nil => rfl
    | cons d ds => rw [ih (fun hm => hn (List.mem_cons_of_mem _ hm)) (List.cons_ne_nil d ds)]

theorem lineCuts_row (pre post : List Char) (hn : '\n' ∉ pre) :
    lineCuts (pre ++ '\n' :: post) = (pre, true) :: lineCuts post := by
  induction pre with
  | nil => rw [List.nil_append, lineCuts, if_pos rfl]
  | cons c cs ih =>
    have hc : c ≠ '\n' := fun h => hn (by rw [h]; exact List.mem_cons_self ..)
    rw [List.cons_append, lineCuts, if_neg hc, ih (fun hm => hn (List.mem_cons_of_mem _ hm))]

theorem complete_rows_tail (pre post : List Char) (h : (pre ++ '\n' :: post).getLast? = some '\n') :
    post = [] ∨ post.getLast? = some '\n' := by
  by_cases hpost : post = []
  · exact .inl hpost
  · rw [getLast?_append_cons_of_ne_nil _ _ _ hpost] at h; exact .inr h

/-- a text folded line by line, as the line loops read it: `step st line hadNl` for every line, without its line break,
`hadNl` saying that one followed. Used through the three equations below and `lines_induction` -/
def foldLines {σ : Type} (step : σ → List Char → Bool → σ) (st : σ) (s : List Char) : σ :=
  (lineCuts s).foldl (fun st c => step st c.1 c.2) st

section
variable {σ : Type} (step : σ → List Char → Bool → σ) (st : σ)

theorem foldLines_nil : foldLines step st [] = st := rfl

theorem foldLines_last (pre : List Char) (hn : '\n' ∉ pre) (hne : pre ≠ []) :
    foldLines step st pre = step st pre false := by
  rw [foldLines, lineCuts_last pre hn hne]; rfl

theorem foldLines_row (pre post : List Char) (hn : '\n' ∉ pre) :
    foldLines step st (pre ++ '\n' :: post) = foldLines step (step st pre true) post := by
  rw [foldLines, lineCuts_row pre post hn]; rfl

theorem foldLines_append (R X : List Char) (hR : R = [] ∨ R.getLast? = some '\n') :
    foldLines step st (R ++ X) = foldLines step (foldLines step st R) X := by
  induction R using lines_induction generalizing st with
  | nil => rfl
  | last pre hnp hne => exact absurd (List.mem_of_getLast? (hR.resolve_left hne)) hnp
  | row pre post hnp ih =>
    rw [List.append_assoc, List.cons_append, foldLines_row _ _ pre _ hnp, foldLines_row _ _ pre post hnp,
      ih _ (complete_rows_tail pre post (hR.resolve_left (by simp)))]

end

/-- the line loops keep the line structure: every step appends a piece without line break and then the line break of its
line, if it had one (`h`; `out` reads the written text off the state) -/
theorem fold_lines_out {σ : Type} (step : σ → List Char → Bool → σ) (out : σ → List Char)
    (h : ∀ st l b, '\n' ∉ l → ∃ piece, out (step st l b) = out st ++ piece ++ (if b then ['\n'] else []) ∧ '\n' ∉ piece) :
    ∀ (s : List Char) (st : σ), ∃ Q, out (foldLines step st s) = out st ++ Q ∧
      Q.count '\n' = s.count '\n' ∧ (s = [] → Q = []) ∧ (s.getLast? = some '\n' → Q.getLast? = some '\n') := by
  intro s
  induction s using lines_induction with
  | nil => intro st; exact ⟨[], by simp [foldLines_nil], rfl, fun _ => rfl, fun h => by cases h⟩
  | last pre hnp hne =>
    intro st
    obtain ⟨piece, e, hp⟩ := h st pre false hnp
    refine ⟨piece, ?_, ?_, fun h0 => absurd h0 hne, fun hl => absurd (List.mem_of_getLast? hl) hnp⟩
    · rw [foldLines_last step st pre hnp hne]; simpa using e
    · rw [count_nl_zero_of_not_mem _ hp, count_nl_zero_of_not_mem _ hnp]
  | row pre post hnp ih =>
    intro st
    obtain ⟨piece, e, hp⟩ := h st pre true hnp
    obtain ⟨Q, q1, q2, q3, q4⟩ := ih (step st pre true)
    refine ⟨piece ++ '\n' :: Q, ?_, ?_, fun h0 => by simp at h0, fun hl => ?_⟩
    · rw [foldLines_row step st pre post hnp, q1, e]; simp
    · simp only [List.count_append, List.count_cons_self, q2, count_nl_zero_of_not_mem _ hp,
        count_nl_zero_of_not_mem _ hnp]
    · by_cases hpost : post = []
      · rw [q3 hpost]; simp
      · rw [getLast?_append_cons_of_ne_nil _ _ _ hpost] at hl
        have hQ : Q ≠ [] := by
          intro h0; rw [h0] at q4; exact absurd (q4 hl) (by simp)
        rw [getLast?_append_cons_of_ne_nil _ _ _ hQ]; exact q4 hl

end SaphyrVerif
