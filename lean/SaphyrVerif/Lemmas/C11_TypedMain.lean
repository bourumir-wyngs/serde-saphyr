import SaphyrVerif.Lemmas.GSimMain
/-!
Frame statement — while the typed deserializer, run on the replay cursor over the events of one document, stays strictly
inside these events, it cannot tell that cursor from any cursor that serves these events and then something else.  It is the
guarded simulation of `Lemmas/GSimMain.lean` with the frame `K`; the depth index is the nesting depth `dep K c` itself.
-/
namespace SaphyrVerif.Lemmas.Frame
open SaphyrVerif SaphyrVerif.Scalars SaphyrVerif.Pump SaphyrVerif.De
open SaphyrVerif.Lemmas.CurSim (PL PLL MRel KM VM)

/-- the statement for all functions of the mutual block of `Model/De.lean` at one fuel value.  Preconditions: the functions
that read one node (`capture`, `deser`, `deserSeqLike`, …) need the replay cursor strictly inside the frame; the loops that
run inside an open container (`seqElems`, `captureSeq`, `collectLoop`, …) need nesting depth `≥ 1` relative to the start of
the frame; `skipDepth` / `collectTaggedSeq` need at least their own depth counter; the map access only touches the cursor
while it is not flushing merged entries (`nextKey`) / has no buffered value (`nextValue`). -/
structure FrA (K : Ctx) (fuel : Nat) : Prop where
  capture : ∀ {c c'}, FSim K c c' → pos c < K.buf.length → RF K Eq (De.capture fuel c) (De.capture fuel c')
  captureSeq : ∀ fps evs {c c'}, FSim K c c' → 1 ≤ dep K c →
    RF K Eq (De.captureSeq fuel c fps evs) (De.captureSeq fuel c' fps evs)
  captureMap : ∀ fps evs {c c'}, FSim K c c' → 1 ≤ dep K c →
    RF K Eq (De.captureMap fuel c fps evs) (De.captureMap fuel c' fps evs)
  mergeSeqBatches : ∀ {b b' c c'}, FSim K c c' → 1 ≤ dep K c → PLL b b' →
    RF K PLL (De.mergeSeqBatches fuel c b) (De.mergeSeqBatches fuel c' b')
  pendingFromLive : ∀ r r' {c c'}, FSim K c c' → pos c < K.buf.length →
    RF K PL (De.pendingFromLive fuel c r) (De.pendingFromLive fuel c' r')
  collectEntriesFromMap : ∀ r r' {c c'}, FSim K c c' → pos c < K.buf.length →
    RF K PL (De.collectEntriesFromMap fuel c r) (De.collectEntriesFromMap fuel c' r')
  collectLoop : ∀ r r' {f f' m m' c c'}, FSim K c c' → 1 ≤ dep K c → PL f f' → PLL m m' →
    RF K PL (De.collectLoop fuel c r f m) (De.collectLoop fuel c' r' f' m')
  skipOneNode : ∀ {c c'}, FSim K c c' → pos c < K.buf.length → RF K Eq (De.skipOneNode fuel c) (De.skipOneNode fuel c')
  skipDepth : ∀ (depth : Nat) {c c'}, FSim K c c' → (depth : Int) ≤ dep K c →
    RF K Eq (De.skipDepth fuel c depth) (De.skipDepth fuel c' depth)
  deser : ∀ cfg ty ik km {c c'}, FSim K c c' → pos c < K.buf.length →
    RF K Eq (De.deser fuel cfg ty ik km c) (De.deser fuel cfg ty ik km c')
  bytesLoop : ∀ cfg acc {c c'}, FSim K c c' → 1 ≤ dep K c →
    RF K Eq (De.bytesLoop fuel cfg c acc) (De.bytesLoop fuel cfg c' acc)
  deserSeqLike : ∀ cfg shape {c c'}, FSim K c c' → pos c < K.buf.length →
    RF K Eq (De.deserSeqLike fuel cfg shape c) (De.deserSeqLike fuel cfg shape c')
  seqElems : ∀ cfg t acc {c c'}, FSim K c c' → 1 ≤ dep K c →
    RF K Eq (De.seqElems fuel cfg t c acc) (De.seqElems fuel cfg t c' acc)
  tupleElems : ∀ cfg ts acc {c c'}, FSim K c c' → 1 ≤ dep K c →
    RF K Eq (De.tupleElems fuel cfg ts c acc) (De.tupleElems fuel cfg ts c' acc)
  deserMapLike : ∀ cfg shape {c c'}, FSim K c c' → pos c < K.buf.length →
    RF K Eq (De.deserMapLike fuel cfg shape c) (De.deserMapLike fuel cfg shape c')
  mapEntries : ∀ cfg kt vt acc {c c' m m'}, FSim K c c' → (m.flushingMerges = false → 1 ≤ dep K c) → MRel m m' →
    RF K Eq (De.mapEntries fuel cfg kt vt c m acc) (De.mapEntries fuel cfg kt vt c' m' acc)
  structEntries : ∀ cfg fields deny acc {c c' m m'}, FSim K c c' → (m.flushingMerges = false → 1 ≤ dep K c) →
    MRel m m' →
    RF K Eq (De.structEntries fuel cfg fields deny c m acc) (De.structEntries fuel cfg fields deny c' m' acc)
  nextKey : ∀ cfg ks {c c' m m'}, FSim K c c' → (m.flushingMerges = false → 1 ≤ dep K c) → MRel m m' →
    RF K KM (De.nextKey fuel cfg ks c m) (De.nextKey fuel cfg ks c' m')
  nextValue : ∀ cfg vt {c c' m m'}, FSim K c c' → (m.pendingValue.isSome = false → 1 ≤ dep K c) → MRel m m' →
    RF K VM (De.nextValue fuel cfg vt c m) (De.nextValue fuel cfg vt c' m')
  deserEnum : ∀ cfg name variants {c c'}, FSim K c c' → pos c < K.buf.length →
    RF K Eq (De.deserEnum fuel cfg name variants c) (De.deserEnum fuel cfg name variants c')
  collectTaggedSeq : ∀ (depth : Nat) acc {c c'}, FSim K c c' → (depth : Int) ≤ dep K c →
    RF K Eq (De.collectTaggedSeq fuel c depth acc) (De.collectTaggedSeq fuel c' depth acc)
  variantPayload : ∀ cfg variants vname vloc mapMode {c c'}, FSim K c c' → (mapMode = true → 1 ≤ dep K c) →
    RF K Eq (De.variantPayload fuel cfg variants vname vloc mapMode false c)
      (De.variantPayload fuel cfg variants vname vloc mapMode false c')

section
variable {K : Ctx} {c c' : Cur}

theorem deserStr_fr (cfg : Cfg) (hs : FSim K c c') (hin : pos c < K.buf.length) :
    RF K Eq (deserStr cfg c) (deserStr cfg c') :=
  (deserStr_g cfg (GSim.frame_at hs) (fun _ => hin)).toRF

end

theorem frA (K : Ctx) : ∀ fuel, FrA K fuel := fun fuel =>
  have g := gA fuel (GSim.frame K)
  have off {b : Prop} : false = true → b := fun h => nomatch h
  { capture := fun hs hin => (g.capture (GSim.frame_at hs) (fun _ => hin)).toRF
    captureSeq := fun fps evs _ _ hs hd => (g.captureSeq fps evs (GSim.frame_at hs) hd).toRF
    captureMap := fun fps evs _ _ hs hd => (g.captureMap fps evs (GSim.frame_at hs) hd).toRF
    mergeSeqBatches := fun hs hd hb => (g.mergeSeqBatches (GSim.frame_at hs) hd (.false hb)).toRF
    pendingFromLive := fun _ _ _ _ hs hin => (g.pendingFromLive (GSim.frame_at hs) (fun _ => hin) Qx.false).toRF
    collectEntriesFromMap := fun _ _ _ _ hs hin =>
      (g.collectEntriesFromMap (GSim.frame_at hs) (fun _ => hin) Qx.false).toRF
    collectLoop := fun _ _ _ _ _ _ _ _ hs hd hf hm => (g.collectLoop (GSim.frame_at hs) hd Qx.false (.false hf) (.false hm)).toRF
    skipOneNode := fun hs hin => (g.skipOneNode (GSim.frame_at hs) (fun _ => hin)).toRF
    skipDepth := fun depth _ _ hs hd => (g.skipDepth depth (GSim.frame_at hs) hd).toRF
    deser := fun cfg ty ik km _ _ hs hin => (g.deser cfg ty ik km (GSim.frame_at hs) (fun _ => hin)).toRF
    bytesLoop := fun cfg acc _ _ hs hd => (g.bytesLoop cfg acc (GSim.frame_at hs) hd).toRF
    deserSeqLike := fun cfg shape _ _ hs hin => (g.deserSeqLike cfg shape (GSim.frame_at hs) (fun _ => hin)).toRF
    seqElems := fun cfg t acc _ _ hs hd => (g.seqElems cfg t acc (GSim.frame_at hs) hd).toRF
    tupleElems := fun cfg ts acc _ _ hs hd => (g.tupleElems cfg ts acc (GSim.frame_at hs) hd).toRF
    deserMapLike := fun cfg shape _ _ hs hin => (g.deserMapLike cfg shape (GSim.frame_at hs) (fun _ => hin)).toRF
    mapEntries := fun cfg kt vt acc _ _ _ _ hs hd hm => (g.mapEntries cfg kt vt acc (GSim.frame_at hs) hd (.false hm)).toRF
    structEntries := fun cfg fields deny acc _ _ _ _ hs hd hm =>
      (g.structEntries cfg fields deny acc (GSim.frame_at hs) hd (.false hm)).toRF
    nextKey := fun cfg ks _ _ _ _ hs hd hm => (g.nextKey cfg ks (GSim.frame_at hs) hd (.false hm)).toRF
    nextValue := fun cfg vt _ _ _ _ hs hd hm => (g.nextValue cfg vt (GSim.frame_at hs) hd (.false hm)).toRF
    deserEnum := fun cfg name variants _ _ hs hin =>
      (g.deserEnum cfg name variants (GSim.frame_at hs) (fun _ => hin)).toRF
    collectTaggedSeq := fun depth acc _ _ hs hd => (g.collectTaggedSeq depth acc (GSim.frame_at hs) hd).toRF
    variantPayload := fun cfg variants vname vloc mapMode _ _ hs hd =>
      (g.variantPayload cfg variants vname vloc mapMode false (GSim.frame_at hs) hd off).toRF }

#print axioms frA

end SaphyrVerif.Lemmas.Frame
