import SaphyrVerif.Lemmas.C17Sanitize
/-!
C17: byte slices of character lists (`dropBytes`, `takeBytes`, `slice`),
the `Res` monad, column → byte mapping.
-/
namespace SaphyrVerif.Lemmas.C17
open SaphyrVerif SaphyrVerif.Snippet

@[simp] theorem res_bind_ok {α β} (a : α) (f : α → Res β) : (Res.ok a >>= f) = f a := rfl
@[simp] theorem res_bind_panic {α β} (s : String) (f : α → Res β) : (Res.panic s >>= f) = Res.panic s := rfl
@[simp] theorem res_pure {α} (a : α) : (pure a : Res α) = Res.ok a := rfl

theorem blen_cons (c : Char) (s : List Char) : blen (c :: s) = utf8LenChar c + blen s := utf8Len_cons c s
theorem blen_append (a b : List Char) : blen (a ++ b) = blen a + blen b := utf8Len_append a b
@[simp] theorem blen_nil : blen [] = 0 := rfl

theorem blen_pos_of_ne_nil (s : List Char) (h : s ≠ []) : 0 < blen s := utf8Len_pos_of_ne_nil s h

theorem blen_take_le (s : List Char) (k : Nat) : blen (s.take k) ≤ blen s := utf8Len_take_le s k

theorem blen_take_mono (s : List Char) {i j : Nat} (h : i ≤ j) : blen (s.take i) ≤ blen (s.take j) :=
  utf8Len_take_mono s h

theorem blen_take_lt (s : List Char) {i j : Nat} (hij : i < j) (hj : j ≤ s.length) :
    blen (s.take i) < blen (s.take j) := utf8Len_take_lt s hij hj

theorem blen_take_drop (s : List Char) {i j : Nat} (h : i ≤ j) :
    blen ((s.take j).drop i) = blen (s.take j) - blen (s.take i) := utf8Len_take_drop s h

theorem dropBytes_zero (s : List Char) : dropBytes s 0 = some s := by
  cases s <;> rfl

theorem dropBytes_cons_ge (c : Char) (cs : List Char) (n : Nat) (h : utf8LenChar c ≤ n) :
    dropBytes (c :: cs) n = dropBytes cs (n - utf8LenChar c) := by
  have := utf8LenChar_pos c
  cases n with
  | zero => omega
  | succ n => simp only [dropBytes, h, if_true]

theorem dropBytes_cons_lt (c : Char) (cs : List Char) (n : Nat) (h0 : 0 < n) (h : n < utf8LenChar c) :
    dropBytes (c :: cs) n = none := by
  cases n with
  | zero => omega
  | succ n =>
    have : ¬ utf8LenChar c ≤ n + 1 := by omega
    simp only [dropBytes, this, if_false]

theorem dropBytes_append (p q : List Char) : dropBytes (p ++ q) (blen p) = some q := by
  induction p with
  | nil => exact dropBytes_zero q
  | cons c cs ih =>
    rw [List.cons_append, blen_cons, dropBytes_cons_ge _ _ _ (by omega)]
    have : utf8LenChar c + blen cs - utf8LenChar c = blen cs := by omega
    rw [this, ih]

theorem dropBytes_some (s : List Char) (n : Nat) (r : List Char) (h : dropBytes s n = some r) :
    ∃ p, s = p ++ r ∧ blen p = n := by
  induction s generalizing n with
  | nil =>
    cases n with
    | zero => simp only [dropBytes] at h; cases h; exact ⟨[], rfl, rfl⟩
    | succ n => simp [dropBytes] at h
  | cons c cs ih =>
    cases n with
    | zero => rw [dropBytes_zero] at h; cases h; exact ⟨[], rfl, rfl⟩
    | succ n =>
      by_cases hc : utf8LenChar c ≤ n + 1
      · rw [dropBytes_cons_ge _ _ _ hc] at h
        obtain ⟨p, hp, hl⟩ := ih _ h
        refine ⟨c :: p, by rw [hp]; rfl, ?_⟩
        rw [blen_cons, hl]; omega
      · rw [dropBytes_cons_lt _ _ _ (by omega) (by omega)] at h
        cases h

theorem takeBytes_zero (s : List Char) : takeBytes s 0 = some [] := by
  cases s <;> rfl

theorem takeBytes_cons_ge (c : Char) (cs : List Char) (n : Nat) (h : utf8LenChar c ≤ n) :
    takeBytes (c :: cs) n = (takeBytes cs (n - utf8LenChar c)).map (c :: ·) := by
  have := utf8LenChar_pos c
  cases n with
  | zero => omega
  | succ n => simp only [takeBytes, h, if_true]

theorem takeBytes_cons_lt (c : Char) (cs : List Char) (n : Nat) (h0 : 0 < n) (h : n < utf8LenChar c) :
    takeBytes (c :: cs) n = none := by
  cases n with
  | zero => omega
  | succ n =>
    have : ¬ utf8LenChar c ≤ n + 1 := by omega
    simp only [takeBytes, this, if_false]

theorem takeBytes_append (p q : List Char) : takeBytes (p ++ q) (blen p) = some p := by
  induction p with
  | nil => exact takeBytes_zero q
  | cons c cs ih =>
    rw [List.cons_append, blen_cons, takeBytes_cons_ge _ _ _ (by omega)]
    have : utf8LenChar c + blen cs - utf8LenChar c = blen cs := by omega
    rw [this, ih]; rfl

theorem takeBytes_some (s : List Char) (n : Nat) (t : List Char) (h : takeBytes s n = some t) :
    ∃ q, s = t ++ q ∧ blen t = n := by
  induction s generalizing n t with
  | nil =>
    cases n with
    | zero => simp only [takeBytes] at h; cases h; exact ⟨[], rfl, rfl⟩
    | succ n => simp [takeBytes] at h
  | cons c cs ih =>
    cases n with
    | zero => rw [takeBytes_zero] at h; cases h; exact ⟨c :: cs, rfl, rfl⟩
    | succ n =>
      by_cases hc : utf8LenChar c ≤ n + 1
      · rw [takeBytes_cons_ge _ _ _ hc] at h
        cases ht : takeBytes cs (n + 1 - utf8LenChar c) with
        | none => rw [ht] at h; cases h
        | some t' =>
          rw [ht] at h
          simp only [Option.map_some, Option.some.injEq] at h
          obtain ⟨q, hq, hl⟩ := ih _ _ ht
          refine ⟨q, by rw [← h, hq]; rfl, ?_⟩
          rw [← h, blen_cons, hl]; omega
      · rw [takeBytes_cons_lt _ _ _ (by omega) (by omega)] at h
        cases h

theorem slice_append3 (p m q : List Char) (site : String) :
    slice (p ++ m ++ q) (blen p) (blen p + blen m) site = .ok m := by
  unfold slice
  rw [if_pos (by omega), List.append_assoc, dropBytes_append]
  have : blen p + blen m - blen p = blen m := by omega
  simp only [this, takeBytes_append]

/-- the same for a text, a start and an end that are known by equations: the form the callers have at hand -/
theorem slice_eq {s p m q : List Char} {a b : Nat} (hs : s = p ++ m ++ q) (ha : a = blen p) (hb : b = blen p + blen m)
    (site : String) : slice s a b site = .ok m := by
  subst hs; subst ha; subst hb; exact slice_append3 p m q site

/-- `&s[a..]` of `s = p ++ r` at `a = blen p` -/
theorem slice_from (p r : List Char) (site : String) : slice (p ++ r) (blen p) (blen (p ++ r)) site = .ok r := by
  have := slice_append3 p r [] site
  rw [List.append_nil] at this
  rw [blen_append]; exact this

/-- `&s[..b]` -/
theorem slice_to (m q : List Char) (site : String) : slice (m ++ q) 0 (blen m) site = .ok m := by
  have := slice_append3 [] m q site
  simpa using this

theorem slice_ok (s : List Char) (a b : Nat) (site : String) (t : List Char) (h : slice s a b site = .ok t) :
    ∃ p q, s = p ++ t ++ q ∧ blen p = a ∧ a + blen t = b := by
  unfold slice at h
  by_cases hab : a ≤ b
  · rw [if_pos hab] at h
    cases hd : dropBytes s a with
    | none => simp only [hd] at h; cases h
    | some r =>
      simp only [hd] at h
      cases ht : takeBytes r (b - a) with
      | none => simp only [ht] at h; cases h
      | some t' =>
        simp only [ht, Res.ok.injEq] at h
        subst h
        obtain ⟨p, hp, hpl⟩ := dropBytes_some _ _ _ hd
        obtain ⟨q, hq, hql⟩ := takeBytes_some _ _ _ ht
        exact ⟨p, q, by rw [hp, hq, List.append_assoc], hpl, by omega⟩
  · rw [if_neg hab] at h; cases h

theorem slice_take (s : List Char) (i j : Nat) (site : String) (h : i ≤ j) :
    slice s (blen (s.take i)) (blen (s.take j)) site = .ok ((s.take j).drop i) := by
  have e1 := take_eq_take_append_drop s h
  have e2 : s = s.take i ++ (s.take j).drop i ++ s.drop j := by
    rw [← e1, List.take_append_drop]
  exact slice_eq e2 rfl (utf8Len_take_add s h) site

theorem colToByteGo_eq (col1 : Nat) (l : List Char) (col i : Nat) :
    colToByteGo col1 l col i =
      if col ≤ col1 ∧ col1 - col ≤ l.length then some (i + blen (l.take (col1 - col))) else none := by
  induction l generalizing col i with
  | nil =>
    unfold colToByteGo
    by_cases h : col = col1
    · subst h; simp
    · rw [if_neg h]
      have : ¬ (col ≤ col1 ∧ col1 - col ≤ ([] : List Char).length) := by
        simp only [List.length_nil]; omega
      rw [if_neg this]
  | cons c cs ih =>
    unfold colToByteGo
    by_cases h : col = col1
    · subst h; simp
    · rw [if_neg h, ih]
      by_cases h2 : col + 1 ≤ col1 ∧ col1 - (col + 1) ≤ cs.length
      · rw [if_pos h2, if_pos (by simp only [List.length_cons]; omega)]
        have : col1 - col = (col1 - (col + 1)) + 1 := by omega
        rw [this, List.take_succ_cons, blen_cons]
        congr 1; omega
      · rw [if_neg h2, if_neg (by simp only [List.length_cons]; omega)]

/-- `col_to_byte_offset_in_line` in closed form -/
theorem colToByte_eq (line : List Char) (col1 : Nat) :
    colToByte line col1 =
      if 1 ≤ col1 ∧ col1 - 1 ≤ line.length then some (blen (line.take (col1 - 1))) else none := by
  unfold colToByte
  by_cases h : col1 = 0
  · subst h; simp
  · rw [if_neg h, colToByteGo_eq]
    by_cases h2 : 1 ≤ col1 ∧ col1 - 1 ≤ line.length
    · rw [if_pos h2, if_pos h2]; simp
    · rw [if_neg h2, if_neg h2]

end SaphyrVerif.Lemmas.C17
