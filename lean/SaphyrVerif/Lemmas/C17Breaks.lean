import SaphyrVerif.Lemmas.C17Rows
/-!
C17: `normalize_line_breaks` (`normBreaks`, fix of finding
`C17-lone-cr-line-break`) — it keeps lengths, byte offsets and the byte-order mark, is idempotent, and
the `\n`-separated lines of its result (with the `\r` of a CRLF pair stripped) are exactly the lines of
the text under the YAML line-break rule (`Spec.Snippet.yamlLines`): `yamlLines_eq`, over `rawLines` (`split('\n')`).
Then cutting a text: `breaksCtx` counts the lines that end within a prefix given the character behind it, `EndsLine P R`
says that `R` begins at the beginning of a line, and there the lines of `P ++ R` are those of `P`, then those of `R`
(`yamlLines_append`): what the line-aligned snapshot of `C17Aligned` and the fragment statements of Props/C17 rest on.
-/
namespace SaphyrVerif.Lemmas.C17
open SaphyrVerif SaphyrVerif.Snippet
open SaphyrVerif.Spec.Snippet (takeRows dropRows row visibleLine yamlLines yamlLine)

theorem normBreaks_cons (c : Char) (cs : List Char) :
    normBreaks (c :: cs) = (if c = '\r' ∧ cs.head? ≠ some '\n' then '\n' else c) :: normBreaks cs := rfl

@[simp] theorem normBreaks_nil : normBreaks [] = [] := rfl

theorem normBreaks_length (s : List Char) : (normBreaks s).length = s.length := by
  induction s with
  | nil => rfl
  | cons c cs ih => rw [normBreaks_cons, List.length_cons, List.length_cons, ih]

theorem normBreaks_blen (s : List Char) : blen (normBreaks s) = blen s := by
  induction s with
  | nil => rfl
  | cons c cs ih =>
    rw [normBreaks_cons, blen_cons, blen_cons, ih]
    split
    · rename_i h; rw [h.1]; rfl
    · rfl

theorem normBreaks_eq_nil (s : List Char) : normBreaks s = [] ↔ s = [] := by
  cases s with
  | nil => simp
  | cons c cs => simp [normBreaks_cons]

theorem normBreaks_isEmpty (s : List Char) : (normBreaks s).isEmpty = s.isEmpty := by
  cases s <;> rfl

theorem normBreaks_head_nl (s : List Char) :
    (normBreaks s).head? = some '\n' ↔
      (s.head? = some '\n' ∨ (s.head? = some '\r' ∧ (s.drop 1).head? ≠ some '\n')) := by
  cases s with
  | nil => simp
  | cons c cs =>
    rw [normBreaks_cons]
    simp only [List.head?_cons, Option.some.injEq, List.drop_one, List.tail_cons]
    by_cases h : c = '\r' ∧ cs.head? ≠ some '\n'
    · rw [if_pos h]; simp [h.1, h.2]
    · rw [if_neg h]
      constructor
      · intro hc; exact .inl hc
      · rintro (hc | ⟨hc, hn⟩)
        · exact hc
        · exact absurd ⟨hc, hn⟩ h

/-- the byte-order mark is neither CR nor LF -/
theorem normBreaks_stripBom (t : List Char) : normBreaks (stripBom t) = stripBom (normBreaks t) := by
  cases t with
  | nil => rfl
  | cons c cs =>
    rw [normBreaks_cons]
    by_cases hb : c.toNat = 0xFEFF
    · have hne : ¬ (c = '\r' ∧ cs.head? ≠ some '\n') := by
        intro h; rw [h.1] at hb; revert hb; decide
      rw [if_neg hne]
      simp only [stripBom, hb, if_true]
    · have h2 : ¬ (if c = '\r' ∧ cs.head? ≠ some '\n' then '\n' else c).toNat = 0xFEFF := by
        split
        · decide
        · exact hb
      simp only [stripBom, hb, h2, if_false]
      rw [normBreaks_cons]

/-- in a normalised text every carriage return is followed by a line feed: nothing is left to rewrite -/
theorem normBreaks_idem (s : List Char) : normBreaks (normBreaks s) = normBreaks s := by
  induction s with
  | nil => rfl
  | cons c cs ih =>
    rw [normBreaks_cons, normBreaks_cons, ih]
    congr 1
    by_cases h : c = '\r' ∧ cs.head? ≠ some '\n'
    · rw [if_pos h]
      exact if_neg (fun h2 => absurd h2.1 (by decide))
    · rw [if_neg h]
      apply if_neg
      rintro ⟨hc, h2⟩
      exact h2 ((normBreaks_head_nl cs).mpr (.inl (Decidable.byContradiction fun hq => h ⟨hc, hq⟩)))

/-- the pieces of a text between line feeds (`split('\n')`) -/
def rawLines : List Char → List (List Char)
  | [] => [[]]
  | c :: cs =>
    if c = '\n' then [] :: rawLines cs
    else match rawLines cs with
      | l :: ls => (c :: l) :: ls
      | [] => [[c]]

theorem rawLines_ne_nil (s : List Char) : rawLines s ≠ [] := by
  induction s with
  | nil => simp [rawLines]
  | cons c cs ih =>
    unfold rawLines
    split
    · simp
    · split <;> simp

theorem rawLines_cons_nl (cs : List Char) : rawLines ('\n' :: cs) = [] :: rawLines cs := by
  simp [rawLines]

theorem rawLines_cons_other (c : Char) (cs : List Char) (h : c ≠ '\n') :
    ∃ l ls, rawLines cs = l :: ls ∧ rawLines (c :: cs) = (c :: l) :: ls := by
  cases hq : rawLines cs with
  | nil => exact absurd hq (rawLines_ne_nil cs)
  | cons l ls =>
    refine ⟨l, ls, rfl, ?_⟩
    conv => lhs; unfold rawLines
    rw [if_neg h, hq]

theorem rawLines_length (s : List Char) : (rawLines s).length = s.count '\n' + 1 := by
  induction s with
  | nil => rfl
  | cons c cs ih =>
    by_cases h : c = '\n'
    · subst h
      rw [rawLines_cons_nl, List.length_cons, ih, List.count_cons_self]
    · obtain ⟨l, ls, h1, h2⟩ := rawLines_cons_other c cs h
      rw [h2, List.length_cons, ← List.length_cons (a := l), ← h1, ih, List.count_cons_of_ne h]

theorem yamlLines_cons_nl (cs : List Char) : yamlLines ('\n' :: cs) = [] :: yamlLines cs := by
  conv => lhs; unfold yamlLines
  rw [if_pos rfl]

theorem yamlLines_cons_crlf (cs : List Char) (h : cs.head? = some '\n') :
    yamlLines ('\r' :: cs) = yamlLines cs := by
  conv => lhs; unfold yamlLines
  rw [if_neg (by decide), if_pos rfl, if_pos h]

theorem yamlLines_cons_cr (cs : List Char) (h : cs.head? ≠ some '\n') :
    yamlLines ('\r' :: cs) = [] :: yamlLines cs := by
  conv => lhs; unfold yamlLines
  rw [if_neg (by decide), if_pos rfl, if_neg h]

theorem stripCr_cons_of_ne (c : Char) (l : List Char) (h : c ≠ '\r') :
    Spec.Snippet.stripCr (c :: l) = c :: Spec.Snippet.stripCr l := stripLast_cons_of_ne '\r' c l h

theorem stripNl_cons_of_ne (c : Char) (l : List Char) (h : c ≠ '\n') :
    Spec.Snippet.stripNl (c :: l) = c :: Spec.Snippet.stripNl l := stripLast_cons_of_ne '\n' c l h

/-- (the key fact of the repair) the lines the `\n`-based helpers see in the normalised text — the
pieces between line feeds, without the CR of a CRLF pair — are the lines of the original text under
the YAML rule (LF, CRLF, lone CR) -/
theorem yamlLines_eq (s : List Char) :
    yamlLines s = (rawLines (normBreaks s)).map Spec.Snippet.stripCr := by
  induction s with
  | nil => rfl
  | cons c cs ih =>
    rw [normBreaks_cons]
    by_cases hnl : c = '\n'
    · subst hnl
      rw [if_neg (by intro h; exact absurd h.1 (by decide)), rawLines_cons_nl, List.map_cons, ← ih, yamlLines_cons_nl]
      rfl
    · by_cases hcr : c = '\r'
      · subst hcr
        by_cases hh : cs.head? = some '\n'
        · -- CRLF: the CR stays, alone on its raw line in front of the line feed
          obtain ⟨ds, rfl⟩ := List.head?_eq_some_iff.mp hh
          rw [if_neg (fun h => h.2 hh), yamlLines_cons_crlf _ hh, ih, normBreaks_cons,
            if_neg (by intro h; exact absurd h.1 (by decide))]
          rfl
        · -- lone CR
          rw [if_pos ⟨rfl, hh⟩, rawLines_cons_nl, List.map_cons, ← ih, yamlLines_cons_cr _ hh]
          rfl
      · rw [if_neg (fun h => hcr h.1)]
        obtain ⟨l, ls, h1, h2⟩ := rawLines_cons_other c (normBreaks cs) hnl
        rw [h2, List.map_cons, stripCr_cons_of_ne c l hcr]
        conv => lhs; unfold yamlLines
        rw [if_neg hnl, if_neg hcr, ih, h1, List.map_cons]

/-- raw line number `k` (0-based) is row `k + 1` without its line feed -/
theorem rawLines_get (s : List Char) (k : Nat) (hk : k ≤ s.count '\n') :
    (rawLines s)[k]? = some (Spec.Snippet.stripNl (takeRows 1 (dropRows k s))) := by
  induction s generalizing k with
  | nil => rw [Nat.le_zero.mp hk]; rfl
  | cons c cs ih =>
    by_cases h : c = '\n'
    · subst h
      rw [rawLines_cons_nl]
      cases k with
      | zero => rw [dropRows_zero, takeRows_succ_cons, if_pos rfl, takeRows_zero]; rfl
      | succ k =>
        rw [List.count_cons_self] at hk
        rw [List.getElem?_cons_succ, ih k (by omega), dropRows_succ_cons, if_pos rfl]
    · obtain ⟨l, ls, h1, h2⟩ := rawLines_cons_other c cs h
      rw [List.count_cons_of_ne h] at hk
      have := ih k hk
      rw [h1] at this
      rw [h2]
      cases k with
      | zero =>
        rw [dropRows_zero] at this ⊢
        rw [takeRows_succ_cons, if_neg h, stripNl_cons_of_ne c _ h]
        simp only [List.getElem?_cons_zero, Option.some.injEq] at this ⊢
        rw [this]
      | succ k =>
        rw [dropRows_succ_cons, if_neg h]
        exact this

theorem yamlLines_length (s : List Char) : (yamlLines s).length = (normBreaks s).count '\n' + 1 := by
  rw [yamlLines_eq, List.length_map, rawLines_length]

theorem yamlLines_ne_nil (s : List Char) : yamlLines s ≠ [] :=
  List.ne_nil_of_length_pos (by rw [yamlLines_length]; omega)

theorem yamlLine_eq_visible (s : List Char) (k : Nat) (h1 : 1 ≤ k) (h2 : k ≤ (normBreaks s).count '\n' + 1) :
    yamlLine s k = some (visibleLine (normBreaks s) k) := by
  unfold yamlLine
  rw [if_neg (by omega), yamlLines_eq, List.getElem?_map, rawLines_get _ (k - 1) (by omega)]
  rfl

theorem yamlLine_some_iff (s : List Char) (k : Nat) (l : List Char) :
    yamlLine s k = some l ↔ (1 ≤ k ∧ k ≤ (normBreaks s).count '\n' + 1 ∧ l = visibleLine (normBreaks s) k) := by
  constructor
  · intro h
    have hk : k ≠ 0 := by
      intro hk; rw [yamlLine, if_pos hk] at h; cases h
    have hlt : k - 1 < (yamlLines s).length := by
      rw [yamlLine, if_neg hk] at h; exact (List.getElem?_eq_some_iff.mp h).1
    rw [yamlLines_length] at hlt
    rw [yamlLine_eq_visible s k (by omega) (by omega), Option.some.injEq] at h
    exact ⟨by omega, by omega, h.symm⟩
  · rintro ⟨h1, h2, rfl⟩
    exact yamlLine_eq_visible s k h1 h2

/-- number of lines (YAML rule) that end within `P` when the character after `P` is `next`: a CR at
the very end of `P` ends a line unless `next` is a line feed -/
def breaksCtx : List Char → Option Char → Nat
  | [], _ => 0
  | c :: cs, next =>
    (if c = '\n' ∨ (c = '\r' ∧ (cs.head?.or next) ≠ some '\n') then 1 else 0) + breaksCtx cs next

theorem breaksCtx_cons (c : Char) (cs : List Char) (next : Option Char) :
    breaksCtx (c :: cs) next =
      (if c = '\n' ∨ (c = '\r' ∧ (cs.head?.or next) ≠ some '\n') then 1 else 0) + breaksCtx cs next := rfl

theorem breaksCtx_append (A B : List Char) (next : Option Char) :
    breaksCtx (A ++ B) next = breaksCtx A (B.head?.or next) + breaksCtx B next := by
  induction A with
  | nil => simp [breaksCtx]
  | cons c cs ih =>
    rw [List.cons_append, breaksCtx_cons, breaksCtx_cons, ih]
    have e : (cs ++ B).head?.or next = cs.head?.or (B.head?.or next) := by
      cases cs with
      | nil => simp
      | cons d ds => simp
    rw [e]; omega

theorem breaksCtx_no_break (x : List Char) (next : Option Char) (h : ∀ c ∈ x, c ≠ '\n' ∧ c ≠ '\r') :
    breaksCtx x next = 0 := by
  induction x with
  | nil => rfl
  | cons c cs ih =>
    rw [breaksCtx_cons, ih (fun d hd => h d (List.mem_cons_of_mem _ hd))]
    have := h c (List.mem_cons_self ..)
    rw [if_neg (by intro hc; rcases hc with hc | hc; exact this.1 hc; exact this.2 hc.1)]

theorem breaksCtx_none (P : List Char) (next : Option Char) :
    breaksCtx P next + (if P.getLast? = some '\r' ∧ next = some '\n' then 1 else 0) = breaksCtx P none := by
  rcases List.eq_nil_or_concat P with rfl | ⟨L, b, rfl⟩
  · rfl
  · rw [List.concat_eq_append, breaksCtx_append, breaksCtx_append, List.getLast?_concat]
    simp only [breaksCtx, List.head?_nil, Option.none_or, Option.some.injEq]
    by_cases hb : b = '\r'
    · by_cases hn : next = some '\n'
      · simp [hb, hn]
      · simp [hb, hn]
    · simp [hb]

theorem breaksCtx_none_eq (P : List Char) : breaksCtx P none = (normBreaks P).count '\n' := by
  induction P with
  | nil => rfl
  | cons c cs ih =>
    rw [breaksCtx_cons, Option.or_none, normBreaks_cons, count_nl_cons, ih, Nat.add_comm]
    congr 1
    by_cases h : c = '\r' ∧ cs.head? ≠ some '\n'
    · rw [if_pos (.inr h), if_pos h, if_pos rfl]
    · rw [if_neg h]
      by_cases h1 : c = '\n'
      · rw [if_pos (.inl h1), if_pos h1]
      · rw [if_neg (fun hc => hc.elim h1 h), if_neg h1]

/-- the correction term: a CR at the very end of `P` is a line break of `P` on its own, whatever follows -/
theorem breaksCtx_yamlLines (P : List Char) (next : Option Char) :
    breaksCtx P next + 1 + (if P.getLast? = some '\r' ∧ next = some '\n' then 1 else 0) = (yamlLines P).length := by
  rw [yamlLines_length, ← breaksCtx_none_eq, ← breaksCtx_none P next]; omega

/-- `P` is empty or ends with a complete line break, given the text `R` that follows it (a CRLF pair is
not split between `P` and `R`): `R` begins at the beginning of a line -/
def EndsLine (P R : List Char) : Prop :=
  P = [] ∨ P.getLast? = some '\n' ∨ (P.getLast? = some '\r' ∧ R.head? ≠ some '\n')

theorem EndsLine.tail {c : Char} {cs R : List Char} (h : EndsLine (c :: cs) R) (hcs : cs ≠ []) : EndsLine cs R := by
  rcases h with h | h | h
  · cases h
  · right; left; rw [← List.getLast?_cons_of_ne_nil (x := c) hcs]; exact h
  · right; right; rw [← List.getLast?_cons_of_ne_nil (x := c) hcs]; exact h

theorem EndsLine.append_left {X R : List Char} (h : EndsLine X R) (P : List Char) (hX : X ≠ []) : EndsLine (P ++ X) R := by
  rcases h.resolve_left hX with h | h
  · exact .inr (.inl (by rw [List.getLast?_append, h]; rfl))
  · exact .inr (.inr ⟨by rw [List.getLast?_append, h.1]; rfl, h.2⟩)

/-- only the first character of what follows matters -/
theorem EndsLine.append_right {P T : List Char} (h : EndsLine P T) (S : List Char) (hT : T ≠ []) :
    EndsLine P (T ++ S) := by
  obtain ⟨c, t, rfl⟩ := List.exists_cons_of_ne_nil hT
  exact h

theorem breaksCtx_endsLine (P R : List Char) (h : EndsLine P R) : breaksCtx P R.head? + 1 = (yamlLines P).length := by
  have := breaksCtx_yamlLines P R.head?
  rwa [if_neg (fun hc => by
    rcases h with h | h | h
    · rw [h] at hc; exact absurd hc.1 (by simp)
    · rw [h] at hc; exact absurd hc.1 (by decide)
    · exact h.2 hc.2), Nat.add_zero] at this

theorem rawLines_append_nl (A B : List Char) : rawLines (A ++ '\n' :: B) = rawLines A ++ rawLines B := by
  induction A with
  | nil => exact rawLines_cons_nl B
  | cons c cs ih =>
    by_cases hc : c = '\n'
    · subst hc
      rw [List.cons_append, rawLines_cons_nl, rawLines_cons_nl, ih, List.cons_append]
    · obtain ⟨l, ls, e1, e2⟩ := rawLines_cons_other c cs hc
      obtain ⟨l2, ls2, f1, f2⟩ := rawLines_cons_other c (cs ++ '\n' :: B) hc
      rw [ih, e1, List.cons_append, List.cons.injEq] at f1
      rw [List.cons_append, f2, e2, ← f1.1, ← f1.2, List.cons_append]

theorem rawLines_append (A B : List Char) (h : A = [] ∨ A.getLast? = some '\n') :
    rawLines (A ++ B) = (rawLines A).dropLast ++ rawLines B := by
  rcases h with rfl | h
  · rfl
  · obtain ⟨A', rfl⟩ := List.getLast?_eq_some_iff.mp h
    rw [List.append_assoc, List.singleton_append, rawLines_append_nl, rawLines_append_nl]
    exact congrArg (· ++ rawLines B) List.dropLast_concat.symm

theorem normBreaks_append (P R : List Char) (h : EndsLine P R) :
    normBreaks (P ++ R) = normBreaks P ++ normBreaks R := by
  induction P with
  | nil => rfl
  | cons c cs ih =>
    cases cs with
    | nil =>
      rcases h with h | h | h
      · cases h
      · simp only [List.getLast?_singleton, Option.some.injEq] at h
        subst h
        rfl
      · simp only [List.getLast?_singleton, Option.some.injEq] at h
        obtain ⟨rfl, h2⟩ := h
        simp [normBreaks_cons, h2]
    | cons d ds =>
      rw [List.cons_append, normBreaks_cons, normBreaks_cons, ih (h.tail (List.cons_ne_nil d ds))]
      rfl

/-- a final carriage return is a lone one -/
theorem normBreaks_getLast? (P : List Char) :
    (normBreaks P).getLast? = P.getLast?.map (fun c => if c = '\r' then '\n' else c) := by
  induction P with
  | nil => rfl
  | cons c cs ih =>
    rw [normBreaks_cons]
    by_cases hcs : cs = []
    · subst hcs
      by_cases hc : c = '\r'
      · simp [hc]
      · simp [hc]
    · rw [List.getLast?_cons_of_ne_nil hcs, ← ih,
        List.getLast?_cons_of_ne_nil (fun h0 => hcs ((normBreaks_eq_nil cs).mp h0))]

theorem normBreaks_getLast (P R : List Char) (h : EndsLine P R) :
    normBreaks P = [] ∨ (normBreaks P).getLast? = some '\n' := by
  rw [normBreaks_getLast?]
  rcases h with h | h | h
  · exact .inl (by rw [h]; rfl)
  · exact .inr (by rw [h]; rfl)
  · exact .inr (by rw [h.1]; rfl)

/-- cutting at a line break: the complete lines of `P` (all but the empty piece after its last break), then the lines of `R` -/
theorem yamlLines_append (P R : List Char) (h : EndsLine P R) :
    yamlLines (P ++ R) = (yamlLines P).dropLast ++ yamlLines R := by
  rw [yamlLines_eq, yamlLines_eq, yamlLines_eq, normBreaks_append P R h,
    rawLines_append _ _ (normBreaks_getLast P R h), List.map_append, List.map_dropLast]

theorem yamlLine_append (P R : List Char) (h : EndsLine P R) (j : Nat) (hj : 1 ≤ j) :
    yamlLine (P ++ R) ((yamlLines P).length - 1 + j) = yamlLine R j := by
  unfold yamlLine
  have hpos : 0 < (yamlLines P).length := List.length_pos_iff.mpr (yamlLines_ne_nil P)
  rw [if_neg (by omega), if_neg (by omega), yamlLines_append P R h,
    List.getElem?_append_right (by rw [List.length_dropLast]; omega), List.length_dropLast]
  congr 1
  omega

end SaphyrVerif.Lemmas.C17
