import SaphyrVerif.Lemmas.C11_Cursor
import SaphyrVerif.Lemmas.C11_Typed2LockMain
/-!
The cursor returned by a function of the typed deserializer (on success and on error) is `Le` the cursor it was
given (`RLe`: same kind, progress measure not larger); in particular a live cursor stays live.  Here: the statement
for `deserStr`, `byteSeqVisit` and `structFinish` (outside the mutual block), and the `grind` setup the later files use
(`Lemmas/C11_Root.lean` chains facts `Le c _` / `Lt c _` only from a cursor marked `Root`).

A property of ONE cursor that `peek` / `next` keep is the lock-step comparison of `Lemmas/C11_Typed2Lock*.lean`
of the cursor with itself (`σ = id`): `Inv` holds of the cursor returned with a value, `ErrI` of the cursor
returned with an error.
-/
namespace SaphyrVerif.Lemmas.C11
open SaphyrVerif SaphyrVerif.Scalars SaphyrVerif.Pump SaphyrVerif.De

def selfLP (I E : Cur → Prop) (h : ∀ c, I c → E c) : Lock.LP where
  σ := id
  Inv := I
  ErrI := E
  σ_lastLoc := fun _ => rfl
  σ_refLoc := fun _ => rfl
  σ_atAlias := fun _ => rfl
  σ_replay := fun _ _ _ => rfl
  inv_err := h

section
variable {I E : Cur → Prop} {h : ∀ c, I c → E c} {α : Type}

theorem selfLP_lr {x : R α} (hok : ∀ a d, x = .ok a d → I d) (herr : ∀ e d, x = .err e d → E d) :
    Lock.LR (selfLP I E h) x x := by
  cases x with
  | ok a d => exact Lock.LR.ok (P := selfLP I E h) (hok a d rfl)
  | err e d => exact Lock.LR.err (P := selfLP I E h) (herr e d rfl)

theorem selfLP_closed
    (hpeek : ∀ c, I c → (∀ o d, c.peek = .ok o d → I d) ∧ (∀ e d, c.peek = .err e d → E d))
    (hnext : ∀ c, I c → (∀ o d, c.next = .ok o d → I d) ∧ (∀ e d, c.next = .err e d → E d)) :
    Lock.Closed (selfLP I E h) :=
  fun c hc => ⟨selfLP_lr (hpeek c hc).1 (hpeek c hc).2, selfLP_lr (hnext c hc).1 (hnext c hc).2⟩
end

def RLe {α : Type} (c : Cur) (r : R α) : Prop := Le c (rcur r)

@[grind =] theorem RLe_ok {α : Type} (c c' : Cur) (a : α) : RLe c (R.ok a c') = Le c c' := rfl
@[grind =] theorem RLe_err {α : Type} (c c' : Cur) (e : DErr) : RLe c (R.err e c' : R α) = Le c c' := rfl
theorem rle_peek (c : Cur) : RLe c c.peek := peek_le c
theorem rle_next (c : Cur) : RLe c c.next := next_le c
/-- marks the cursor all facts are to be related to: write `have : Root c := trivial` before calling `grind`; the
transitivity patterns of `Lemmas/C11_Root.lean` only fire from a marked cursor, which keeps the instances linear -/
def Root (_c : Cur) : Prop := True
grind_pattern rle_peek => c.peek
grind_pattern rle_next => c.next

abbrev leLP (c0 : Cur) : Lock.LP := selfLP (Le c0) (Le c0) (fun _ h => h)

theorem leLP_closed (c0 : Cur) : Lock.Closed (leLP c0) := by
  refine selfLP_closed (fun c hc => ?_) (fun c hc => ?_)
  · have hp := peek_le c
    exact ⟨fun o d hd => by rw [hd] at hp; exact hc.trans hp, fun e d hd => by rw [hd] at hp; exact hc.trans hp⟩
  · have hn := next_le c
    exact ⟨fun o d hd => by rw [hd] at hn; exact hc.trans hn, fun e d hd => by rw [hd] at hn; exact hc.trans hn⟩

theorem rle_of_lr {α : Type} {c0 : Cur} {r : R α} (hr : Lock.LR (leLP c0) r r) : RLe c0 r := by
  cases r with
  | ok a d => exact (Lock.LR.fwd_ok rfl hr).2
  | err e d => exact (Lock.LR.fwd_err rfl hr).2

theorem rle_deserStr (cfg : Cfg) (c : Cur) : RLe c (deserStr cfg c) :=
  rle_of_lr (Lock.deserStr_lk (leLP_closed c) cfg (Le.refl c))
grind_pattern rle_deserStr => deserStr cfg c

theorem rle_byteSeqVisit (shape : Ty ⊕ List Ty) (data : List Nat) (c : Cur) : RLe c (byteSeqVisit shape data c) :=
  rle_of_lr (Lock.byteSeqVisit_lk (leLP_closed c) shape data (Le.refl c))
grind_pattern rle_byteSeqVisit => byteSeqVisit shape data c

theorem rle_structFinish (fields : List (String × Ty)) (got : List (String × Val)) (c : Cur) :
    RLe c (structFinish fields got c) :=
  rle_of_lr (Lock.structFinish_lk (leLP_closed c) fields got (Le.refl c))
grind_pattern rle_structFinish => structFinish fields got c

end SaphyrVerif.Lemmas.C11
