import SaphyrVerif.Model.Locs
import SaphyrVerif.Spec.Locs
import SaphyrVerif.Lemmas.Utf8
/-! Helper lemmas for Part A of `Props/C16.lean`: the position walk `posOf`, the walk against the counting
specification, and the conversions by themselves (how the input enters, exactness on coordinates that fit `u32`, the
byte information); `Props/C16.lean` applies them to marks that are positions of a text without unfolding the conversions. -/
namespace SaphyrVerif.Lemmas.C16
open SaphyrVerif SaphyrVerif.Locs

/-- one character consumed: a line ends at LF and at a CR that is not followed by LF -/
theorem step_eq (p : Pos) (c : Char) (nx : Option Char) :
    p.step c nx =
      if (c == '\n' || (c == '\r' && nx != some '\n')) = true then
        ⟨p.index + 1, p.line + 1, 0, p.byte + utf8LenChar c⟩
      else ⟨p.index + 1, p.line, p.col + 1, p.byte + utf8LenChar c⟩ := by
  unfold Pos.step isBreak
  by_cases hr : c = '\r'
  · subst hr
    by_cases hx : nx = some '\n' <;> simp [hx]
  · by_cases hn : c = '\n' <;> simp [hr, hn]

def lexLt (p q : Pos) : Prop := p.line < q.line ∨ (p.line = q.line ∧ p.col < q.col)

theorem lexLt_trans {p q r : Pos} (h1 : lexLt p q) (h2 : lexLt q r) : lexLt p r := by
  unfold lexLt at *; omega

theorem lexLt_irrefl (p : Pos) : ¬ lexLt p p := by unfold lexLt; omega

theorem step_lex (p : Pos) (c : Char) (nx : Option Char) : lexLt p (p.step c nx) := by
  rw [step_eq]
  split
  · exact Or.inl (Nat.lt_succ_self _)
  · exact Or.inr ⟨rfl, Nat.lt_succ_self _⟩

theorem walk_nil (p : Pos) (n : Nat) : walk p [] n = p := by
  cases n <;> rfl

theorem utf8Len_nil : utf8Len [] = 0 := rfl

theorem walk_add (p : Pos) (text : List Char) (a b : Nat) :
    walk p text (a + b) = walk (walk p text a) (text.drop a) b := by
  induction text generalizing p a with
  | nil => simp [walk_nil]
  | cons c rest ih =>
    cases a with
    | zero => simp [walk]
    | succ a =>
      have : a + 1 + b = (a + b) + 1 := by omega
      rw [this]
      simp only [walk, List.drop_succ_cons]
      exact ih _ a

theorem posOf_succ (text : List Char) (i : Nat) (hi : i < text.length) :
    posOf text (i + 1) = (posOf text i).step text[i] text[i + 1]? := by
  unfold posOf
  rw [walk_add, List.drop_eq_getElem_cons hi]
  simp only [walk, List.head?_drop]

theorem posOf_lex_mono (text : List Char) (i j : Nat) (hij : i < j) (hj : j ≤ text.length) :
    lexLt (posOf text i) (posOf text j) := by
  induction j with
  | zero => omega
  | succ j ih =>
    rw [posOf_succ text j hj]
    by_cases h : i = j
    · subst h; exact step_lex _ _ _
    · exact lexLt_trans (ih (by omega) (by omega)) (step_lex _ _ _)

theorem posOf_lineCol_injective (text : List Char) (i j : Nat) (hi : i ≤ text.length) (hj : j ≤ text.length)
    (hl : (posOf text i).line = (posOf text j).line) (hc : (posOf text i).col = (posOf text j).col) : i = j := by
  rcases Nat.lt_trichotomy i j with h | h | h
  · have := posOf_lex_mono text i j h hj
    unfold lexLt at this; omega
  · exact h
  · have := posOf_lex_mono text j i h hi
    unfold lexLt at this; omega

/-- the byte length of a span, with the span written as `drop` then `take` -/
theorem utf8Len_span (text : List Char) (i j : Nat) (h : i ≤ j) :
    utf8Len (text.take j) - utf8Len (text.take i) = utf8Len ((text.drop i).take (j - i)) := by
  rw [← List.drop_take, utf8Len_take_drop text h]

section Spec
open SaphyrVerif.Spec.Locs

theorem lineEndsBefore_succ (text : List Char) (i : Nat) :
    lineEndsBefore text (i + 1) = lineEndsBefore text i ++ (if endsLine text i then [i] else []) := by
  unfold lineEndsBefore
  rw [List.range_succ, List.filter_append]
  congr 1
  by_cases h : endsLine text i = true <;> simp [List.filter, h]

theorem lineStart_le (text : List Char) (i : Nat) : lineStart text i ≤ i := by
  unfold lineStart
  cases h : (lineEndsBefore text i).getLast? with
  | none => simp
  | some j =>
    have hm : j ∈ lineEndsBefore text i := List.mem_of_getLast? h
    unfold lineEndsBefore at hm
    simp only [List.mem_filter, List.mem_range] at hm
    simp only
    omega

theorem posOf_eq_spec (text : List Char) (i : Nat) (hi : i ≤ text.length) :
    posOf text i = ⟨i, lineOf text i, colOf text i, byteOf text i⟩ := by
  induction i with
  | zero =>
    simp [posOf, walk, Pos.start, lineOf, colOf, byteOf, lineStart, lineEndsBefore, utf8Len]
  | succ i ih =>
    have hlt : i < text.length := by omega
    rw [posOf_succ text i hlt, ih (by omega)]
    have hget : text[i]? = some text[i] := List.getElem?_eq_getElem hlt
    have hls := lineStart_le text i
    have hbyte : byteOf text (i + 1) = byteOf text i + utf8LenChar text[i] := by
      unfold byteOf
      rw [List.take_add_one, utf8Len_append, hget]
      simp [utf8Len]
    have hends : endsLine text i = (text[i] == '\n' || (text[i] == '\r' && text[i + 1]? != some '\n')) := by
      simp only [endsLine, hget]
    have hline : lineOf text (i + 1) = lineOf text i + (if endsLine text i then 1 else 0) := by
      unfold lineOf
      rw [lineEndsBefore_succ]
      by_cases h : endsLine text i = true <;> simp [h] <;> omega
    have hstart : lineStart text (i + 1) = if endsLine text i then i + 1 else lineStart text i := by
      unfold lineStart
      rw [lineEndsBefore_succ]
      by_cases h : endsLine text i = true <;> simp [h]
    rw [step_eq, ← hends, hbyte, hline]
    simp only [colOf, hstart]
    by_cases he : endsLine text i = true
    · simp only [he, if_true]
      congr 1
      omega
    · simp only [he, Bool.false_eq_true, if_false, Nat.add_zero]
      congr 1
      omega

theorem posOf_index (text : List Char) (i : Nat) (hi : i ≤ text.length) : (posOf text i).index = i := by
  rw [posOf_eq_spec text i hi]

theorem posOf_byte (text : List Char) (i : Nat) (hi : i ≤ text.length) :
    (posOf text i).byte = utf8Len (text.take i) := by
  rw [posOf_eq_spec text i hi]; rfl

theorem posOf_bounds (text : List Char) (i : Nat) (hi : i ≤ text.length) :
    1 ≤ (posOf text i).line ∧ (posOf text i).line ≤ 1 + i ∧ (posOf text i).col ≤ i := by
  rw [posOf_eq_spec text i hi]
  have := List.length_filter_le (endsLine text) (List.range i)
  simp only [lineOf, colOf, lineEndsBefore, List.length_range] at this ⊢
  omega

end Spec

theorem byteOffset_eq_some {s : Span} {b : Nat} : s.byteOffset = some b ↔ s.byteInfo ≠ (0, 0) ∧ s.byteInfo.1 = b := by
  by_cases h : s.byteInfo = (0, 0) <;> simp [Span.byteOffset, h]

theorem byteLen_eq_some {s : Span} {n : Nat} : s.byteLen = some n ↔ s.byteInfo ≠ (0, 0) ∧ s.byteInfo.2 = n := by
  by_cases h : s.byteInfo = (0, 0) <;> simp [Span.byteLen, h]

theorem byteOffset_eq_none {s : Span} : s.byteOffset = none ↔ s.byteInfo = (0, 0) := by
  by_cases h : s.byteInfo = (0, 0) <;> simp [Span.byteOffset, h]

theorem col_succ_le_usize {n : Nat} (h : n < 4294967296) : ¬ (n + 1 > Budget.USIZE_MAX) := by
  have : Budget.USIZE_MAX = 18446744073709551615 := by decide
  omega

theorem asU32_of_lt {n : Nat} (h : n < 4294967296) : asU32 n = n := Nat.mod_eq_of_lt h

/-- no panic, and the casts are exact: line and column are those of `mark_line_and_column` -/
theorem locationFromSpanIn_exact (input : Option (List Char)) {s e : Mark} {line col : Nat}
    (hlc : markLineCol s input = (line, col)) (hse : s.index ≤ e.index) (he : e.index < 4294967296)
    (hl : line < 4294967296) (hc : col < 4294967296) (hsc : s.col < 4294967296) :
    ∃ L, locationFromSpanIn input s e = .ok L ∧ L.line = line ∧ L.column = col ∧
      L.span.offset = s.index ∧ L.span.len = e.index - s.index := by
  have hidx : ¬ (e.index < s.index) := by omega
  refine ⟨_, by simp only [locationFromSpanIn, col_succ_le_usize hsc, hidx, if_false]; rfl, ?_⟩
  simp only [hlc]
  exact ⟨asU32_of_lt hl, asU32_of_lt hc, asU32_of_lt (by omega), asU32_of_lt (by omega)⟩

theorem markLineCol_none (m : Mark) : markLineCol m none = (m.line, m.col + 1) := by
  unfold markLineCol
  split <;> rfl

/-- the input enters the conversions only through `mark_line_and_column` of the start mark: where that leaves the
mark alone (no input; a mark that is a position of the text), they are the conversions without input -/
theorem locationFromSpanIn_of_lineCol {input : Option (List Char)} {s : Mark}
    (h : markLineCol s input = (s.line, s.col + 1)) (e : Mark) :
    locationFromSpanIn input s e = locationFromSpan s e := by
  unfold locationFromSpanIn locationFromSpan
  simp only [h]

theorem fromScanErrorIn_of_lineCol {input : Option (List Char)} {m : Mark}
    (h : markLineCol m input = (m.line, m.col + 1)) : fromScanErrorIn input m = fromScanError m := by
  unfold fromScanErrorIn fromScanError
  simp only [h]

/-- the byte information, for marks that carry byte offsets: both numbers or none, for inputs of any size -/
theorem locationFromSpanIn_byteInfo (input : Option (List Char)) {s e : Mark} {sb eb : Nat} {L : Location}
    (hs : s.byte = some sb) (he : e.byte = some eb) (h : locationFromSpanIn input s e = .ok L) :
    L.span.byteInfo = if sb > U32_MAX || eb - sb > U32_MAX then (0, 0) else (sb, eb - sb) := by
  simp only [locationFromSpanIn, hs, he] at h
  split at h
  · cases h
  · split at h
    · cases h
    · cases h; rfl

/-- the location of a scan error at `m` is the start of the span from `m` to `m`, with nominal length 1
and no byte information -/
theorem fromScanErrorIn_of_span (input : Option (List Char)) (m : Mark) (L : Location)
    (h : locationFromSpanIn input m m = .ok L) :
    fromScanErrorIn input m = .ok ⟨L.line, L.column, ⟨L.span.offset, 1, (0, 0)⟩⟩ := by
  simp only [locationFromSpanIn, Nat.lt_irrefl, if_false] at h
  unfold fromScanErrorIn
  split at h
  · cases h
  · rename_i hc
    cases h
    simp only [hc, if_false]

end SaphyrVerif.Lemmas.C16
