import SaphyrVerif.Lemmas.C03_TypedC
/-!
C03 at the level of typed values, the main induction: a tree and its written-out form have the same typed
meaning at every position; by induction on the nesting depth of the tree and the size of the type
(`C05.depth_size_induction`, as for `Lemmas.C05.ref_all`).
-/
namespace SaphyrVerif.Lemmas.C03T
open SaphyrVerif SaphyrVerif.Scalars SaphyrVerif.Pump SaphyrVerif.De SaphyrVerif.Spec

def Agree (cfg : Cfg) (ty : Ty) (t : ENode) : Prop :=
  (enumFree ty = true ∨ enumStable cfg.dup t = true) → interp cfg ty t = interp cfg ty (writeOut cfg.dup t)

theorem agree_seq (cfg : Cfg) (ty : Ty) (a tag : Nat) (rt : Option (List Char)) (l el : Loc) (items : List ENode)
    (ihd : ∀ ty' t', depthOf t' < depthOfL items + 1 → Agree cfg ty' t')
    (ihs : ∀ ty' t', sizeOf ty' < sizeOf ty → depthOf t' ≤ depthOfL items + 1 → Agree cfg ty' t')
    (hH : enumFree ty = true ∨ enumStableL cfg.dup items = true) :
    interp cfg ty (.seq a tag rt l el items) = interp cfg ty (.seq a tag rt l el (writeOutL cfg.dup items)) := by
  -- the same node with other marks, at a smaller type
  have hsame : ∀ ty' a tag rt l el, sizeOf ty' < sizeOf ty → (enumFree ty = true → enumFree ty' = true) →
      interp cfg ty' (.seq a tag rt l el items) = interp cfg ty' (.seq a tag rt l el (writeOutL cfg.dup items)) := by
    intro ty' a tag rt l el hs' hty
    have := ihs ty' (.seq a tag rt l el items) hs' (by simp) (hH.imp hty (by rw [enumStable_seq]; exact id))
    rwa [writeOut_seq] at this
  have hitem : ∀ ty', (enumFree ty = true → enumFree ty' = true) → ∀ n ∈ items,
      interp cfg ty' n = interp cfg ty' (writeOut cfg.dup n) := by
    intro ty' hty n hn
    have := C05.depthOfL_mem hn
    exact ihd ty' n (by omega) (hH.imp hty (fun h => enumStableL_mem h hn))
  cases ty with
  | bool | int sg w | float w | char | string | unit => rw [interp]
  | bytes =>
    rw [interp_bytes_seq, interp_bytes_seq, mapM_writeOutL items (fun n _ => byteFn_writeOut _ cfg n)]
  | newtype ty' =>
    rw [interp_newtype, interp_newtype]
    exact hsame ty' a tag rt l el (by simp) (by rw [enumFree_newtype]; exact id)
  | option ty' =>
    rw [interp_option_seq, interp_option_seq]
    congr 1
    exact hsame ty' a tag rt l el (by simp) (by rw [enumFree_option]; exact id)
  | seq te =>
    rw [C05.interp_seq_seq, C05.interp_seq_seq]
    congr 1
    exact listFrom_writeOutL (hitem te (by rw [enumFree_seq]; exact id))
  | tuple ts =>
    rw [C05.interp_tuple, C05.interp_tuple]
    simp only [tupleNode]
    congr 1
    apply tupleFrom_writeOutL
    intro f hf n hn
    obtain ⟨t0, ht0, rfl⟩ := interpFns_mem cfg ts f hf
    exact hitem t0 (fun h => enumFreeL_mem (by rw [enumFree_tuple] at h; exact h) ht0) n hn
  | map kt vt => rw [C05.interp_map_seq, C05.interp_map_seq]
  | struct fields deny =>
    rw [interp_struct, interp_struct]
    simp only [structNode]
  | any =>
    rw [C05.interp_any_seq, C05.interp_any_seq]
    congr 1
    exact listFrom_writeOutL (hitem .any (fun _ => enumFree_any))
  | enum name variants =>
    rw [interp_enum, interp_enum]
    simp only [enumFrom]
    cases simpleTaggedEnumName rt tag with
    | none => rfl
    | some tn =>
      simp only []
      split
      · exact variant_payload_congr cfg name variants tn (.seq a tagNone none l el items)
          (.seq a tagNone none l el (writeOutL cfg.dup items)) true rfl
          fun ty' hty' => hsame ty' a tagNone none l el hty' (fun h => by rw [enumFree_enum] at h; cases h)
      · rfl

theorem agree_map (cfg : Cfg) (ty : Ty) (a : Nat) (l el : Loc) (entries es' : List (ENode × ENode))
    (ihd : ∀ ty' t', depthOf t' < depthOfE entries + 1 → Agree cfg ty' t')
    (ihs : ∀ ty' t', sizeOf ty' < sizeOf ty → depthOf t' ≤ depthOfE entries + 1 → Agree cfg ty' t')
    (hf' : effEntries cfg.dup (writeOutE cfg.dup entries) = some es')
    (hH : enumFree ty = true ∨ enumStable cfg.dup (.map a l el entries) = true) :
    interp cfg ty (.map a l el entries) = interp cfg ty (.map a l el es') := by
  have hx : writeOut cfg.dup (.map a l el entries) = .map a l el es' := by
    rw [writeOut_map, hf']
  have hrel := effEntries_writeOut cfg.dup entries
  rw [hf'] at hrel
  obtain ⟨es, hes, hv⟩ := hrel.of_some_right
  have hidem : effEntries cfg.dup es' = some es' := eff_idem _ _ es' hf'
  have hdepth := C05.effEntries_depth cfg.dup entries es hes
  have hsame : ∀ ty', sizeOf ty' < sizeOf ty → (enumFree ty = true → enumFree ty' = true) →
      interp cfg ty' (.map a l el entries) = interp cfg ty' (.map a l el es') := by
    intro ty' hs' hty
    have := ihs ty' (.map a l el entries) hs' (by simp) (hH.imp hty id)
    rwa [hx] at this
  have hval : ∀ ty', (enumFree ty = true → enumFree ty' = true) → ∀ e ∈ es,
      interp cfg ty' e.2 = interp cfg ty' (writeOut cfg.dup e.2) := by
    intro ty' hty e he
    have := (hdepth e he).2
    refine ihd ty' e.2 (by omega) (hH.imp hty (fun h => ?_))
    rw [enumStable_map, Bool.and_eq_true] at h
    exact enumStable_eff h.2 hes e he
  cases ty with
  | bool | int sg w | float w | char | string | unit | bytes => rw [interp]
  | newtype ty' =>
    rw [interp_newtype, interp_newtype]
    exact hsame ty' (by simp) (by rw [enumFree_newtype]; exact id)
  | option ty' =>
    rw [interp_option_map, interp_option_map]
    congr 1
    exact hsame ty' (by simp) (by rw [enumFree_option]; exact id)
  | seq te => rw [C05.interp_seq_map, C05.interp_seq_map]
  | tuple ts =>
    rw [C05.interp_tuple, C05.interp_tuple]
    simp only [tupleNode]
  | map kt vt =>
    rw [C05.interp_map_map, C05.interp_map_map, hes, hidem]
    simp only [Option.bind_some]
    congr 1
    exact pairsFrom_congr hv (hval vt (by rw [enumFree_map]; exact id))
  | struct fields deny =>
    rw [interp_struct, interp_struct, C05.structNode_map, C05.structNode_map, hes, hidem]
    simp only [Option.bind_some]
    have hfe : fieldEntriesFrom cfg (fieldFns cfg fields) deny es [] =
        fieldEntriesFrom cfg (fieldFns cfg fields) deny es' [] := by
      apply fieldEntriesFrom_congr cfg _ deny hv
      · intro f hf e he
        obtain ⟨nt, hnt, rfl⟩ := fieldFns_mem cfg fields f hf
        exact hval nt.2 (fun h => enumFreeF_mem (by rw [enumFree_struct] at h; exact h) hnt) e he
      · intro e he
        have := hval .any (fun _ => enumFree_any) e he
        rwa [C05.interp_any, C05.interp_any] at this
    rw [hfe]
  | any =>
    rw [C05.interp_any_map, C05.interp_any_map, hes, hidem]
    simp only []
    congr 1
    exact pairsFrom_congr hv (hval .any (fun _ => enumFree_any))
  | enum name variants =>
    have hst : shapeStable cfg.dup entries = true ∧ enumStableE cfg.dup entries = true := by
      rcases hH with h | h
      · rw [enumFree_enum] at h; cases h
      · rw [enumStable_map, Bool.and_eq_true] at h; exact h
    rw [interp_enum, interp_enum]
    rcases shapeStable_cases hst.1 hes with ⟨k, p, rfl, hk, rfl⟩ | ⟨hlen, hne⟩
    · -- one entry with an ordinary key
      cases hv with
      | @cons _ _ p' _ _ hp hnil =>
        cases hnil
        cases k with
        | scalar kv ktag krt kst ka kl =>
          rw [C05.enumFrom_map_scalarKey, C05.enumFrom_map_scalarKey]
          simp only [List.isEmpty_nil, if_true]
          split
          · rfl
          · subst hp
            apply variant_payload_congr cfg name variants kv p (writeOut cfg.dup p) false (writeOut_isNullish _ p)
            intro ty' hty'
            refine ihs ty' p hty' (by simp; omega) (Or.inr ?_)
            have := enumStableE_mem hst.2 (List.mem_cons_self (a := (ENode.scalar kv ktag krt kst ka kl, p)) (l := []))
            simpa [hk] using this
        | seq => rw [C05.enumFrom_map_seqKey, C05.enumFrom_map_seqKey]
        | map => rw [C05.enumFrom_map_mapKey, C05.enumFrom_map_mapKey]
    · -- not one entry, and not one effective entry
      rw [enumFrom_map_not_singleton _ _ _ _ _ _ _ hlen,
        enumFrom_map_not_singleton _ _ _ _ _ _ _ (by rw [← hv.length_eq]; exact hne)]

theorem writeOut_interp (cfg : Cfg) (ty : Ty) (t : ENode)
    (hH : enumFree ty = true ∨ enumStable cfg.dup t = true) : interp cfg ty t = interp cfg ty (writeOut cfg.dup t) := by
  induction ty, t using C05.depth_size_induction with
  | step ty t ihd ihs =>
    cases t with
    | scalar v tag rt st a l => rw [writeOut_scalar]
    | seq a tag rt l el items =>
      rw [writeOut_seq]
      rw [C05.depthOf_seq] at ihd ihs
      exact agree_seq cfg ty a tag rt l el items ihd ihs (hH.imp id (by rw [enumStable_seq]; exact id))
    | map a l el entries =>
      rw [writeOut_map]
      rw [C05.depthOf_map] at ihd ihs
      cases hf' : effEntries cfg.dup (writeOutE cfg.dup entries) with
      | none => rfl
      | some es' => exact agree_map cfg ty a l el entries es' ihd ihs hf' hH

end SaphyrVerif.Lemmas.C03T
