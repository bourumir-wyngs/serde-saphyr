import SaphyrVerif.Spec.PathMap
/-! Helper lemmas for C18. Each loop of the lookup gets its loop-free form: `find_unique_by` is `uniqueOf` of
    the filtered map (`findUniqueBy_eq_spec`), the `or_else` chain of passes is `findSome?`
    (`firstPass_eq_findSome`), `search` is one of the two according to the direct lookup (`search_of_get_*`).
    Then `HashMap` lookup and insertion on the association list, and permutation invariance. -/
namespace SaphyrVerif.PathMap

variable {α : Type}

theorem loop_some (mt : Path → Path → Bool) (t : Path) (x : α × List Char) :
    ∀ l : List (Path × α), findUniqueLoop mt t l (some x) =
      if (l.filter (fun e => mt t e.1)).isEmpty then some x else none
  | [] => by simp [findUniqueLoop]
  | (c, loc) :: rest => by
    unfold findUniqueLoop
    by_cases h : mt t c = true
    · simp [h]
    · rw [if_neg h, loop_some mt t x rest, List.filter_cons_of_neg (by simpa using h)]

theorem loop_none (mt : Path → Path → Bool) (t : Path) :
    ∀ l : List (Path × α), findUniqueLoop mt t l none = uniqueOf (l.filter (fun e => mt t e.1))
  | [] => by simp [findUniqueLoop, uniqueOf]
  | (c, loc) :: rest => by
    unfold findUniqueLoop
    by_cases h : mt t c = true
    · simp only [h, if_true, Option.isSome_none, Bool.false_eq_true, if_false, List.filter_cons_of_pos]
      cases hl : leafString c with
      | none =>
        cases hf : rest.filter (fun e => mt t e.1) with
        | nil => simp [uniqueOf, hl]
        | cons a as => simp [uniqueOf]
      | some leaf =>
        simp only [loop_some]
        cases hf : rest.filter (fun e => mt t e.1) with
        | nil => simp [uniqueOf, hl]
        | cons a as => simp [uniqueOf]
    · simp [h, loop_none mt t rest]

theorem findUniqueBy_eq_spec (m : Map α) (t : Path) (f : Path → Path → Bool) :
    findUniqueBy m t f = findUniqueSpec m t f := by
  unfold findUniqueBy findUniqueSpec candidates
  cases t with
  | nil => simp
  | cons a as => simp [loop_none]

theorem uniqueOf_of_length_ne_one (l : List (Path × α)) (h : l.length ≠ 1) : uniqueOf l = none := by
  match l, h with
  | [], _ => rfl
  | [_], h => simp at h
  | _ :: _ :: _, _ => rfl

theorem uniqueOf_eq_some {l : List (Path × α)} {loc : α} {leaf : List Char} :
    uniqueOf l = some (loc, leaf) ↔ ∃ c, l = [(c, loc)] ∧ leafString c = some leaf := by
  match l with
  | [] => simp [uniqueOf]
  | [(c, loc')] =>
    simp only [uniqueOf, Option.map_eq_some_iff, Prod.mk.injEq, List.cons.injEq, and_true]
    constructor
    · rintro ⟨lf, h1, h2, h3⟩
      exact ⟨c, ⟨rfl, h2⟩, h3 ▸ h1⟩
    · rintro ⟨c', ⟨h1, h2⟩, h3⟩
      exact ⟨leaf, h1 ▸ h3, h2, rfl⟩
  | _ :: _ :: _ => simp [uniqueOf]

theorem uniqueOf_perm {l l' : List (Path × α)} (h : l.Perm l') : uniqueOf l = uniqueOf l' := by
  by_cases h1 : l.length = 1
  · match l, h1 with
    | [e], _ =>
      have := List.singleton_perm.mp h
      subst this
      rfl
  · rw [uniqueOf_of_length_ne_one l h1, uniqueOf_of_length_ne_one l' (h.length_eq ▸ h1)]

theorem keysNodup_cons {e : Path × α} {m : Map α} :
    KeysNodup (e :: m) ↔ (∀ v, (e.1, v) ∉ m) ∧ KeysNodup m := by
  unfold KeysNodup
  simp only [List.map_cons, List.nodup_cons, List.mem_map, not_exists, not_and]
  constructor
  · rintro ⟨h1, h2⟩
    exact ⟨fun v hv => h1 (e.1, v) hv rfl, h2⟩
  · rintro ⟨h1, h2⟩
    exact ⟨fun x hx hxe => h1 x.2 (by rw [← hxe]; exact hx), h2⟩

theorem get_eq_some_iff {m : Map α} (hm : KeysNodup m) {p : Path} {v : α} :
    get m p = some v ↔ (p, v) ∈ m := by
  induction m with
  | nil => simp [get]
  | cons e rest ih =>
    obtain ⟨h1, h2⟩ := keysNodup_cons.mp hm
    unfold get at ih ⊢
    by_cases he : e.1 = p
    · have : (e.1 == p) = true := by simp [he]
      simp only [List.find?_cons, this, Option.map_some, Option.some.injEq, List.mem_cons]
      constructor
      · intro h; left; rw [← he, ← h]
      · rintro (h | h)
        · rw [← h]
        · exact absurd (he ▸ h) (h1 v)
    · have : (e.1 == p) = false := by simp [he]
      simp only [List.find?_cons, this, List.mem_cons]
      rw [ih h2]
      constructor
      · intro h; right; exact h
      · rintro (h | h)
        · exact absurd (by rw [← h]) he
        · exact h

theorem get_eq_none_iff {m : Map α} {p : Path} : get m p = none ↔ ∀ v, (p, v) ∉ m := by
  unfold get
  simp only [Option.map_eq_none_iff, List.find?_eq_none, beq_iff_eq]
  constructor
  · intro h v hv; exact h (p, v) hv rfl
  · intro h e he hep; exact h e.2 (by rw [← hep]; exact he)

theorem keysNodup_perm {m m' : Map α} (h : m.Perm m') (hm : KeysNodup m) : KeysNodup m' :=
  by
  unfold KeysNodup at *
  exact (List.Perm.nodup_iff (h.map _)).mp hm

theorem get_perm {m m' : Map α} (h : m.Perm m') (hm : KeysNodup m) (p : Path) : get m p = get m' p := by
  have hm' := keysNodup_perm h hm
  apply Option.ext
  intro v
  rw [get_eq_some_iff hm, get_eq_some_iff hm']
  exact h.mem_iff

theorem findUniqueBy_perm {m m' : Map α} (h : m.Perm m') (t : Path) (f : Path → Path → Bool) :
    findUniqueBy m t f = findUniqueBy m' t f := by
  rw [findUniqueBy_eq_spec, findUniqueBy_eq_spec]
  unfold findUniqueSpec candidates
  split
  · rfl
  · exact uniqueOf_perm (h.filter _)

/-- the `or_else` chain of `search`; what holds of `firstPass` is read off the library's lemmas about `findSome?` -/
theorem firstPass_eq_findSome (m : Map α) (t : Path) :
    ∀ fs : List (Path → Path → Bool), firstPass m t fs = fs.findSome? (findUniqueBy m t)
  | [] => rfl
  | f :: fs => by
    rw [firstPass, List.findSome?_cons, firstPass_eq_findSome m t fs]
    cases findUniqueBy m t f <;> rfl

theorem firstPass_perm {m m' : Map α} (h : m.Perm m') (t : Path) (fs : List (Path → Path → Bool)) :
    firstPass m t fs = firstPass m' t fs := by
  rw [firstPass_eq_findSome, firstPass_eq_findSome,
    (funext (findUniqueBy_perm h t) : findUniqueBy m t = findUniqueBy m' t)]

theorem firstPass_eq_none {m : Map α} {t : Path} :
    ∀ {fs : List (Path → Path → Bool)}, firstPass m t fs = none ↔ ∀ f ∈ fs, findUniqueBy m t f = none
  | fs => by
    rw [firstPass_eq_findSome]
    exact List.findSome?_eq_none_iff

/-- `search` when the direct lookup hits (`path.leaf_string()?`: no answer for the empty path) -/
theorem search_of_get_some {m : Map α} {p : Path} {loc : α} (h : get m p = some loc) :
    search m p = (leafString p).map (fun leaf => (loc, leaf)) := by
  unfold search
  rw [h]
  cases leafString p <;> rfl

theorem search_of_get_none {m : Map α} {p : Path} (h : get m p = none) :
    search m p = firstPass m p passes := by
  unfold search
  rw [h]

theorem mem_insert {m : Map α} {p : Path} {v : α} {e : Path × α} (h : e ∈ insert m p v) :
    e ∈ m ∨ e = (p, v) := by
  unfold insert at h
  split at h
  · obtain ⟨e', he', heq⟩ := List.mem_map.mp h
    by_cases hp : e'.1 = p
    · right
      simp only [hp, beq_self_eq_true, if_true] at heq
      exact heq.symm
    · left
      have : (e'.1 == p) = false := by simp [hp]
      simp only [this, Bool.false_eq_true, if_false] at heq
      exact heq ▸ he'
  · rcases List.mem_append.mp h with h | h
    · exact Or.inl h
    · exact Or.inr (List.mem_singleton.mp h)

theorem keys_insert (m : Map α) (p : Path) (v : α) :
    (insert m p v).map (·.1) = if m.any (fun e => e.1 == p) then m.map (·.1) else m.map (·.1) ++ [p] := by
  unfold insert
  split
  · rw [List.map_map]
    apply List.map_congr_left
    intro e _
    simp only [Function.comp]
    split <;> rfl
  · simp

theorem insert_keysNodup {m : Map α} (hm : KeysNodup m) (p : Path) (v : α) : KeysNodup (insert m p v) := by
  unfold KeysNodup at *
  rw [keys_insert]
  split
  · exact hm
  · rename_i hany
    refine List.nodup_append.mpr ⟨hm, by simp, ?_⟩
    intro a ha b hb
    rw [List.mem_singleton.mp hb]
    intro hab
    apply hany
    obtain ⟨e, he, rfl⟩ := List.mem_map.mp ha
    exact List.any_eq_true.mpr ⟨e, he, by simp [hab]⟩

theorem mem_keys_insert {m : Map α} {p q : Path} {v : α} (h : q ∈ m.map (·.1)) :
    q ∈ (insert m p v).map (·.1) := by
  rw [keys_insert]
  split
  · exact h
  · exact List.mem_append_left _ h

theorem self_mem_keys_insert (m : Map α) (p : Path) (v : α) : p ∈ (insert m p v).map (·.1) := by
  rw [keys_insert]
  split
  · rename_i hany
    obtain ⟨e, he, hep⟩ := List.any_eq_true.mp hany
    exact List.mem_map.mpr ⟨e, he, by simpa using hep⟩
  · simp

end SaphyrVerif.PathMap
