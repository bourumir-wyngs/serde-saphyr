import SaphyrVerif.Lemmas.Cursor
import SaphyrVerif.Model.Entry
/-!
Cursor simulation: a cursor (live pump or recorded buffer) *serves* a list of events (`Serves`); two cursors
that serve the same events are related (`Sim`), and results are compared modulo locations (`RV`; `PL`, `PLL`,
`MRel` erase the `ref` fields of the map-access state).

`Cur.refLoc` and `Cur.lastLoc` are deliberately NOT part of the relation: a live pump reports the alias
site while it replays a recorded buffer, a plain replay cursor reports the event's own location, and a
live pump moves `last_location` already on `peek`.  Both flow only into error payloads and into the `ref`
field of `PendingEntry` / `pendingValue` (which again only flows into error payloads).
-/
namespace SaphyrVerif.Lemmas.CurSim
open SaphyrVerif SaphyrVerif.Pump SaphyrVerif.De

/-- `Inv d l`: `l` is what `d` has still to deliver.  Neither operation ever fails, and `finish()` (the budget
finalisation of the live cursor) has nothing to report in any state reached. -/
def ServesInv (Inv : Cur → List Ev → Prop) : Prop :=
  ∀ d l, Inv d l → Entry.finishCur d = none ∧
    (∃ d1, d.peek = .ok l.head? d1 ∧ Inv d1 l) ∧ (∃ d2, d.next = .ok l.head? d2 ∧ Inv d2 l.tail)

/-- the cursor delivers, without error, exactly the events `es` (through any interleaving of `peek` and
`next`) and then end of input, for ever -/
def Serves (c : Cur) (es : List Ev) : Prop := ∃ Inv, ServesInv Inv ∧ Inv c es

theorem Serves.peek {c : Cur} {es : List Ev} (h : Serves c es) :
    ∃ d, c.peek = .ok es.head? d ∧ Serves d es := by
  obtain ⟨Inv, hI, hc⟩ := h
  obtain ⟨-, ⟨d, h1, h2⟩, -⟩ := hI c es hc
  exact ⟨d, h1, Inv, hI, h2⟩

theorem Serves.next {c : Cur} {es : List Ev} (h : Serves c es) :
    ∃ d, c.next = .ok es.head? d ∧ Serves d es.tail := by
  obtain ⟨Inv, hI, hc⟩ := h
  obtain ⟨-, -, ⟨d, h1, h2⟩⟩ := hI c es hc
  exact ⟨d, h1, Inv, hI, h2⟩

theorem Serves.finish {c : Cur} {es : List Ev} (h : Serves c es) : Entry.finishCur c = none := by
  obtain ⟨Inv, hI, hc⟩ := h
  exact (hI c es hc).1

theorem serves_replay (buf : List Ev) (idx : Nat) (ref : Option Loc) :
    Serves (.replay buf idx ref) (buf.drop idx) := by
  refine ⟨fun d l => ∃ i, d = .replay buf i ref ∧ l = buf.drop i, ?_, idx, rfl, rfl⟩
  rintro d l ⟨i, rfl, rfl⟩
  have hh : (buf.drop i).head? = buf[i]? := by
    rw [List.head?_drop]
  refine ⟨rfl, ?_, ?_⟩
  · exact ⟨_, by rw [hh]; rfl, i, rfl, rfl⟩
  · simp only [Cur.next, hh]
    cases hg : buf[i]? with
    | none =>
      refine ⟨_, rfl, i, rfl, ?_⟩
      have hle : buf.length ≤ i := by simpa using hg
      simp [List.drop_eq_nil_of_le hle]
    | some e =>
      refine ⟨_, rfl, i + 1, rfl, ?_⟩
      simp [List.tail_drop]

/-- `next` is a function; the step of `Serves.unique` -/
theorem Serves.next_both {c : Cur} {es es' : List Ev} (h : Serves c es) (h' : Serves c es') :
    es.head? = es'.head? ∧ ∃ d, Serves d es.tail ∧ Serves d es'.tail := by
  obtain ⟨d, h1, h2⟩ := h.next
  obtain ⟨d', h1', h2'⟩ := h'.next
  rw [h1] at h1'
  injection h1' with hh hd
  exact ⟨hh, d, h2, hd ▸ h2'⟩

theorem Serves.unique {c : Cur} {es es' : List Ev} (h : Serves c es) (h' : Serves c es') : es = es' := by
  induction es generalizing c es' with
  | nil => exact (List.head?_eq_none_iff.1 (h.next_both h').1.symm).symm
  | cons e t ih =>
    obtain ⟨hh, d, h2, h2'⟩ := h.next_both h'
    cases es' with
    | nil => cases hh
    | cons e' t' =>
      cases hh
      exact congrArg _ (ih h2 h2')

/-- Instances: a live pump cursor and the replay cursor over the events it delivers (`sim_live_replay`,
`Lemmas/CurSimPump.lean`); two replay cursors over the same buffer at the same index with different reference
locations (`Sim.replay`). -/
def Sim (c c' : Cur) : Prop := ∃ es, Serves c es ∧ Serves c' es

theorem Sim.replay (buf : List Ev) (idx : Nat) (ref ref' : Option Loc) :
    Sim (.replay buf idx ref) (.replay buf idx ref') :=
  ⟨_, serves_replay buf idx ref, serves_replay buf idx ref'⟩

theorem Sim.of_serves {c : Cur} {buf : List Ev} {idx : Nat} (h : Serves c (buf.drop idx)) (ref : Option Loc) :
    Sim c (.replay buf idx ref) := ⟨_, h, serves_replay buf idx ref⟩

theorem Sim.refl_replay (buf : List Ev) (idx : Nat) (ref : Option Loc) :
    Sim (.replay buf idx ref) (.replay buf idx ref) := Sim.replay buf idx ref ref

theorem Sim.symm {c c' : Cur} (h : Sim c c') : Sim c' c := by
  obtain ⟨es, h1, h2⟩ := h
  exact ⟨es, h2, h1⟩

theorem Sim.trans {a b c : Cur} (h1 : Sim a b) (h2 : Sim b c) : Sim a c := by
  obtain ⟨es, ha, hb⟩ := h1
  obtain ⟨es', hb', hc⟩ := h2
  cases hb.unique hb'
  exact ⟨es, ha, hc⟩

theorem Sim.finish_left {c c' : Cur} (h : Sim c c') : Entry.finishCur c = none := by
  obtain ⟨es, h1, -⟩ := h
  exact h1.finish

theorem Sim.finish_right {c c' : Cur} (h : Sim c c') : Entry.finishCur c' = none := by
  obtain ⟨es, -, h2⟩ := h
  exact h2.finish

theorem Sim.peek {c c' : Cur} (h : Sim c c') :
    ∃ o d d', c.peek = .ok o d ∧ c'.peek = .ok o d' ∧ Sim d d' := by
  obtain ⟨es, h1, h2⟩ := h
  obtain ⟨d, e1, s1⟩ := h1.peek
  obtain ⟨d', e2, s2⟩ := h2.peek
  exact ⟨_, d, d', e1, e2, es, s1, s2⟩

theorem Sim.next {c c' : Cur} (h : Sim c c') :
    ∃ o d d', c.next = .ok o d ∧ c'.next = .ok o d' ∧ Sim d d' := by
  obtain ⟨es, h1, h2⟩ := h
  obtain ⟨d, e1, s1⟩ := h1.next
  obtain ⟨d', e2, s2⟩ := h2.next
  exact ⟨_, d, d', e1, e2, _, s1, s2⟩

theorem Serves.peek_next {c : Cur} {es : List Ev} (h : Serves c es) :
    ∃ d d2, c.peek = .ok es.head? d ∧ d.next = .ok es.head? d2 ∧ Serves d2 es.tail := by
  obtain ⟨d, h1, h2⟩ := h.peek
  obtain ⟨d2, h3, h4⟩ := h2.next
  exact ⟨d, d2, h1, h3, h4⟩

/-- two results agree modulo locations: both succeed with `rel`-related values and `Sim`-related
cursors, or both fail (the errors may differ in their location payload, and — because
`attach_alias_locations_if_missing` turns an error into an `AliasError` depending on the reference
location — even in their kind) -/
inductive RV {α β : Type} (rel : α → β → Prop) : R α → R β → Prop
  | ok {a : α} {b : β} {c c' : Cur} : rel a b → Sim c c' → RV rel (.ok a c) (.ok b c')
  | err {e e' : DErr} {c c' : Cur} : RV rel (.err e c) (.err e' c')

abbrev sameVal {α : Type} (x y : R α) : Prop := RV Eq x y

/-- the same for `Except`-valued helpers -/
inductive EV {α β : Type} (rel : α → β → Prop) : Except DErr α → Except DErr β → Prop
  | ok {a : α} {b : β} : rel a b → EV rel (.ok a) (.ok b)
  | err {e e' : DErr} : EV rel (.error e) (.error e')

theorem RV.fwd_ok {α β : Type} {rel : α → β → Prop} {x : R α} {x' : R β} {a : α} {c : Cur}
    (heq : x = .ok a c) (h : RV rel x x') : ∃ a' c', x' = .ok a' c' ∧ rel a a' ∧ Sim c c' := by
  cases h with
  | ok hr hs => cases heq; exact ⟨_, _, rfl, hr, hs⟩
  | err => cases heq

theorem RV.fwd_err {α β : Type} {rel : α → β → Prop} {x : R α} {x' : R β} {e : DErr} {c : Cur}
    (heq : x = .err e c) (h : RV rel x x') : ∃ e' c', x' = .err e' c' := by
  cases h with
  | ok hr hs => cases heq
  | err => exact ⟨_, _, rfl⟩

theorem EV.fwd_ok {α β : Type} {rel : α → β → Prop} {x : Except DErr α} {x' : Except DErr β} {a : α}
    (heq : x = .ok a) (h : EV rel x x') : ∃ a', x' = .ok a' ∧ rel a a' := by
  cases h with
  | ok hr => cases heq; exact ⟨_, rfl, hr⟩
  | err => cases heq

theorem EV.fwd_err {α β : Type} {rel : α → β → Prop} {x : Except DErr α} {x' : Except DErr β} {e : DErr}
    (heq : x = .error e) (h : EV rel x x') : ∃ e', x' = .error e' := by
  cases h with
  | ok hr => cases heq
  | err => exact ⟨_, rfl⟩

theorem EV.both_ok {α β : Type} {rel : α → β → Prop} {x : Except DErr α} {x' : Except DErr β} {a : α} {a' : β}
    (h : EV rel x x') (h1 : x = .ok a) (h2 : x' = .ok a') : rel a a' := by
  cases h with
  | ok hr => cases h1; cases h2; exact hr
  | err => cases h1

theorem EV.not_ok_err {α β : Type} {rel : α → β → Prop} {x : Except DErr α} {x' : Except DErr β} {a : α} {e : DErr}
    (h : EV rel x x') (h1 : x = .ok a) (h2 : x' = .error e) : False := by
  cases h with
  | ok hr => cases h2
  | err => cases h1

theorem EV.not_err_ok {α β : Type} {rel : α → β → Prop} {x : Except DErr α} {x' : Except DErr β} {a' : β} {e : DErr}
    (h : EV rel x x') (h1 : x = .error e) (h2 : x' = .ok a') : False := by
  cases h with
  | ok hr => cases h1
  | err => cases h2

theorem RV.isOk_iff {α β : Type} {rel : α → β → Prop} {x : R α} {x' : R β} (h : RV rel x x') :
    (∃ a c, x = .ok a c) ↔ (∃ b c', x' = .ok b c') := by
  cases h with
  | ok hr hs => exact ⟨fun _ => ⟨_, _, rfl⟩, fun _ => ⟨_, _, rfl⟩⟩
  | err => exact ⟨fun h => (by obtain ⟨_, _, h⟩ := h; cases h), fun h => (by obtain ⟨_, _, h⟩ := h; cases h)⟩

theorem sameVal.ok_iff {α : Type} {x y : R α} (h : sameVal x y) (v : α) :
    (∃ c, x = .ok v c) ↔ (∃ c', y = .ok v c') := by
  cases h with
  | ok hr hs =>
    cases hr
    exact ⟨fun h => (by obtain ⟨_, h⟩ := h; cases h; exact ⟨_, rfl⟩),
      fun h => (by obtain ⟨_, h⟩ := h; cases h; exact ⟨_, rfl⟩)⟩
  | err => exact ⟨fun h => (by obtain ⟨_, h⟩ := h; cases h), fun h => (by obtain ⟨_, h⟩ := h; cases h)⟩

/-- a pending entry without its reference location (fingerprints, recorded events and start locations of
key and value are kept: `KeyNode`s are EQUAL on both sides, because `capture` takes the location from the
event itself) -/
def kv (e : PendingEntry) : KeyNode × KeyNode := (e.key, e.value)

/-- lists of pending entries equal up to `ref` -/
def PL (a b : List PendingEntry) : Prop := a.map kv = b.map kv
/-- merge batches equal up to `ref` -/
def PLL (a b : List (List PendingEntry)) : Prop := a.map (·.map kv) = b.map (·.map kv)

/-- the map-access state without reference locations -/
structure MAe where
  haveKey : Bool
  seen : List FP
  pending : List (KeyNode × KeyNode)
  mergeStack : List (List (KeyNode × KeyNode))
  flushingMerges : Bool
  pendingValue : Option (List Ev)

def er (m : MA) : MAe :=
  ⟨m.haveKey, m.seen, m.pending.map kv, m.mergeStack.map (·.map kv), m.flushingMerges, m.pendingValue.map (·.1)⟩

/-- map-access states equal up to reference locations -/
def MRel (m m' : MA) : Prop := er m = er m'

theorem PL.refl (a : List PendingEntry) : PL a a := rfl
theorem PLL.refl (a : List (List PendingEntry)) : PLL a a := rfl
theorem MRel.refl (m : MA) : MRel m m := rfl

theorem PL.nil_left {b : List PendingEntry} (h : PL [] b) : b = [] := by
  cases b with
  | nil => rfl
  | cons _ _ => simp [PL] at h

theorem PL.cons_left {e : PendingEntry} {a b : List PendingEntry} (h : PL (e :: a) b) :
    ∃ r' b', b = ⟨e.key, e.value, r'⟩ :: b' ∧ PL a b' := by
  cases b with
  | nil => simp [PL] at h
  | cons e' b' =>
    simp only [PL, List.map_cons, List.cons.injEq, kv, Prod.mk.injEq] at h
    obtain ⟨⟨h1, h2⟩, h3⟩ := h
    obtain ⟨k', v', r'⟩ := e'
    simp only at h1 h2
    subst h1 h2
    exact ⟨r', b', rfl, h3⟩

theorem PL.isEmpty {a b : List PendingEntry} (h : PL a b) : a.isEmpty = b.isEmpty := by
  cases a with
  | nil => rw [h.nil_left]
  | cons e a =>
    obtain ⟨r', b', rfl, -⟩ := h.cons_left
    rfl

theorem PL.append {a b a' b' : List PendingEntry} (h1 : PL a a') (h2 : PL b b') : PL (a ++ b) (a' ++ b') := by
  simp only [PL, List.map_append] at *
  rw [h1, h2]

theorem PL.cons {a a' : List PendingEntry} (k v : KeyNode) (r r' : Loc) (h : PL a a') :
    PL (⟨k, v, r⟩ :: a) (⟨k, v, r'⟩ :: a') := by
  simp only [PL, List.map_cons, kv] at *
  rw [h]

theorem PLL.nil_left {b : List (List PendingEntry)} (h : PLL [] b) : b = [] := by
  cases b with
  | nil => rfl
  | cons _ _ => simp [PLL] at h

theorem PLL.cons_left {x : List PendingEntry} {a b : List (List PendingEntry)} (h : PLL (x :: a) b) :
    ∃ x' b', b = x' :: b' ∧ PL x x' ∧ PLL a b' := by
  cases b with
  | nil => simp [PLL] at h
  | cons x' b' =>
    simp only [PLL, List.map_cons, List.cons.injEq] at h
    exact ⟨x', b', rfl, h.1, h.2⟩

theorem PLL.cons {x x' : List PendingEntry} {a a' : List (List PendingEntry)} (h1 : PL x x') (h2 : PLL a a') :
    PLL (x :: a) (x' :: a') := by
  simp only [PLL, PL, List.map_cons] at *
  rw [h1, h2]

theorem PLL.append {a b a' b' : List (List PendingEntry)} (h1 : PLL a a') (h2 : PLL b b') :
    PLL (a ++ b) (a' ++ b') := by
  simp only [PLL, List.map_append] at *
  rw [h1, h2]

theorem PLL.isEmpty {a b : List (List PendingEntry)} (h : PLL a b) : a.isEmpty = b.isEmpty := by
  cases a with
  | nil => rw [h.nil_left]
  | cons e a =>
    obtain ⟨x', b', rfl, -⟩ := h.cons_left
    rfl

/-- `batches.foldl (fun acc b => b ++ acc)` (merge-sequence batches, popped last to first) -/
theorem PLL.foldl_pre {a a' : List (List PendingEntry)} (h : PLL a a') {i i' : List PendingEntry} (hi : PL i i') :
    PL (a.foldl (fun acc b => b ++ acc) i) (a'.foldl (fun acc b => b ++ acc) i') := by
  induction a generalizing a' i i' with
  | nil => rw [h.nil_left]; exact hi
  | cons x a ih =>
    obtain ⟨x', b', rfl, hx, hb⟩ := h.cons_left
    exact ih hb (hx.append hi)

/-- `merges.foldl (fun acc b => acc ++ b)` (nested merges of a merge source) -/
theorem PLL.foldl_post {a a' : List (List PendingEntry)} (h : PLL a a') {i i' : List PendingEntry} (hi : PL i i') :
    PL (a.foldl (fun acc b => acc ++ b) i) (a'.foldl (fun acc b => acc ++ b) i') := by
  induction a generalizing a' i i' with
  | nil => rw [h.nil_left]; exact hi
  | cons x a ih =>
    obtain ⟨x', b', rfl, hx, hb⟩ := h.cons_left
    exact ih hb (hi.append hx)

end SaphyrVerif.Lemmas.CurSim
