import SaphyrVerif.Lemmas.C11_Typed2FailIter
/-!
Typed multi-document theorems (C11): ONE failing document of a stream, from a document
boundary.  `iter_fail_docB`: if the pump alone, from the canonical start state, fails inside the document
(`FailRun`, e.g. established by the executable check `failCheck`), then the iterator in ANY stream, from ANY
document boundary (whatever the earlier documents were, with or without the per-document enforcer), makes on this
document exactly the rounds `soloRounds` computes on the document on its own, and yields exactly these items; it
then is finished, or — after an error item — recovers at the next document.
-/
namespace SaphyrVerif.Lemmas.C11B
open SaphyrVerif SaphyrVerif.Scalars SaphyrVerif.Pump SaphyrVerif.De SaphyrVerif.Spec SaphyrVerif.Budget SaphyrVerif.Entry
open SaphyrVerif.Lemmas.C11 (Doc)
open SaphyrVerif.Lemmas.C11T (peek_congr iterLoop_congr itemsOf_neutral)

theorem canon_sade (L : AliasLimits) (ob : Option Limits) (ls : Loc) : (canonStart L ob ls).stopAtDocEnd = false := rfl
theorem canon_look (L : AliasLimits) (ob : Option Limits) (ls : Loc) : (canonStart L ob ls).look = none := rfl

theorem canon_startB (L : AliasLimits) (ob : Option Limits) (ls : Loc)
    (hmax : ∀ lim, ob = some lim → 1 ≤ lim.maxEvents) : StartB L ob ls (canonStart L ob ls) :=
  ⟨hmax, rfl, rfl, rfl, rfl, rfl, rfl, rfl, rfl, rfl, rfl, rfl, rfl⟩

theorem iter_fail_start {L : AliasLimits} {ob : Option Limits} (t : LNode) (ls le : Loc) (M X0 Y0 : List RawItem)
    (hM : M ≠ []) {es : List Ev}
    (hfail : FailRun M (canonStart L ob ls) (itemsOf t ++ M) es)
    (cfg : Cfg) (ty : Ty) (N : Nat) (r : Rounds)
    (hsolo : soloRounds cfg ty N (canonStart L ob ls) (itemsOf t ++ .ev .docEnd le :: Y0) = some r)
    {q1 : Pump} (hq1 : StartB L ob ls q1) :
    Left L ob cfg ty X0 (fun m acc => iterLoop cfg ty (m + r.2.2) q1 (itemsOf t ++ .ev .docEnd le :: X0) acc)
      r.1 r.2.1 := by
  have hq1eq := start_eq_canon hq1
  generalize q1.producedAny = a at hq1eq
  generalize q1.synthesizedNull = b at hq1eq
  -- the stream cursor is inside a failing document from the start
  have hI : FailInv L ob (.ev .docEnd le :: X0) (.live q1 (itemsOf t ++ .ev .docEnd le :: X0)) :=
    ⟨_, _, es, rfl, hq1.statB, ⟨itemsOf t, rfl, itemsOf_neutral t⟩, .inl ⟨hq1.look, hq1eq ▸
      failRun_twin hM (canon_sade L ob ls) hfail a b⟩⟩
  -- its twin differs from the canonical start state in the flags only, and these do not matter for the first `peek`
  suffices ∃ b', soloRounds cfg ty N (withFlags q1 true b') (itemsOf t ++ .ev .docEnd le :: Y0) = some r by
    obtain ⟨b', h⟩ := this
    exact iter_lock (.ev .docEnd le :: Y0) b' rfl cfg ty N q1 _ r hI (by rwa [swapSuf_append])
  subst hq1eq
  have hww : ∀ b', withFlags (withFlags (canonStart L ob ls) a b) true b' = withFlags (canonStart L ob ls) true b' :=
    fun _ => rfl
  cases N with
  | zero => simp [soloRounds] at hsolo
  | succ n =>
    simp only [soloRounds, hww] at hsolo ⊢
    rcases hfail.inv with ⟨er, p', A', hnC⟩ | ⟨e, es', p1, A', -, hnC, -⟩
    · have hnS := nextImpl_swap M (.ev .docEnd le :: Y0) hM _ _ _ _ A' (canon_sade L ob ls) hnC
      have hnT := nextImpl_pair (Y := .ev .docEnd le :: Y0) hM true false (canon_sade L ob ls) hnC
      refine ⟨false, ?_⟩
      rw [live_peek_err (canon_look L ob ls) hnS] at hsolo
      rw [live_peek_err (by rfl) hnT]
      exact hsolo
    · have hnS := nextImpl_swap M (.ev .docEnd le :: Y0) hM _ _ _ _ A' (canon_sade L ob ls) hnC
      have hnT := nextImpl_pair_event (Y := .ev .docEnd le :: Y0) hM true p1.synthesizedNull (canon_sade L ob ls) hnC
      have hp1 : withFlags p1 true p1.synthesizedNull = p1 := by
        have := (nextImpl_event hnC).2
        cases p1
        simp_all [withFlags]
      rw [hp1, ← hnS] at hnT
      refine ⟨p1.synthesizedNull, ?_⟩
      rw [peek_congr (by rfl) (canon_look L ob ls) hnT]
      exact hsolo

theorem iter_fail_docB {L : AliasLimits} {ob : Option Limits} (t : LNode) (ex : Bool) (ls le : Loc)
    (M X0 Y0 : List RawItem) (hM : M ≠ []) {es : List Ev}
    (hfail : FailRun M (canonStart L ob ls) (itemsOf t ++ M) es)
    (cfg : Cfg) (ty : Ty) (N : Nat) (r : Rounds)
    (hsolo : soloRounds cfg ty N (canonStart L ob ls) (itemsOf t ++ .ev .docEnd le :: Y0) = some r)
    {q : Pump} (hq : BoundaryB L ob q) (hl : q.look = none) :
    Left L ob cfg ty X0
      (fun m acc => iterLoop cfg ty (m + r.2.2) q (.ev (.docStart ex) ls :: (itemsOf t ++ .ev .docEnd le :: X0)) acc)
      r.1 r.2.1 := by
  obtain ⟨hq1, -⟩ := startB_start hq hl ls
  have hpk : Cur.peek (.live q (.ev (.docStart ex) ls :: (itemsOf t ++ .ev .docEnd le :: X0))) =
      Cur.peek (.live (startB ob q ls) (itemsOf t ++ .ev .docEnd le :: X0)) :=
    peek_congr hl hq1.look (step_docStartB hq ex ls _)
  exact (iter_fail_start t ls le M X0 Y0 hM hfail cfg ty N r hsolo hq1).congr
    fun m acc => iterLoop_congr cfg ty hpk _ acc

theorem DocIter.failing {L : AliasLimits} {ob : Option Limits} {cfg : Cfg} {ty : Ty} {d : Doc} {l1 : Loc}
    {es : List Ev} {Ns : Nat} {r : Rounds}
    (hfail : FailRun [.ev .docEnd 0] (canonStart L ob d.2.2.1) (itemsOf d.1 ++ [.ev .docEnd 0]) es)
    (hsolo : soloRounds cfg ty Ns (canonStart L ob d.2.2.1)
      (itemsOf d.1 ++ [.ev .docEnd d.2.2.2, .ev .streamEnd l1]) = some r) : DocIter L ob cfg ty d r :=
  fun _ X hq hl => ⟨r.1, Lemmas.C11T.sameItems.refl _, iter_fail_docB d.1 d.2.1 d.2.2.1 d.2.2.2 [.ev .docEnd 0] X
    [.ev .streamEnd l1] (by simp) hfail cfg ty Ns r hsolo hq hl⟩

/-- run the pump: it must report an error within `fuel` events, and no call may read an item of `M` -/
def runFail (M : List RawItem) : Nat → Pump → List RawItem → Bool
  | 0, _, _ => false
  | fuel + 1, p, inp =>
    match nextImpl p inp with
    | (.error _, _, rest) => decide (M <:+ rest)
    | (.event _, p', rest) => decide (M <:+ rest) && runFail M fuel p' rest
    | _ => false

theorem runFail_sound (M : List RawItem) : ∀ (fuel : Nat) (p : Pump) (A : List RawItem),
    runFail M fuel p (A ++ M) = true → ∃ es, FailRun M p (A ++ M) es := by
  intro fuel
  induction fuel with
  | zero => intro p A h; simp [runFail] at h
  | succ n ih =>
    intro p A h
    simp only [runFail] at h
    rcases hn : nextImpl p (A ++ M) with ⟨s, p', rest⟩
    rw [hn] at h
    cases s with
    | error er =>
      simp only [decide_eq_true_eq] at h
      obtain ⟨A', rfl⟩ := h
      exact ⟨[], FailRun.err hn⟩
    | event e =>
      simp only [Bool.and_eq_true, decide_eq_true_eq] at h
      obtain ⟨⟨A', rfl⟩, h2⟩ := h
      obtain ⟨es, hes⟩ := ih p' A' h2
      exact ⟨e :: es, FailRun.ev hn hes⟩
    | eof => simp at h

/-- the pump with the optional per-document enforcer `ob`, from the canonical start state of the document, fails
before the end of the document -/
def failCheck (L : AliasLimits) (ob : Option Limits) (d : Doc) : Bool :=
  runFail [.ev .docEnd 0] ((itemsOf d.1).length * 64 + 64) (canonStart L ob d.2.2.1) (itemsOf d.1 ++ [.ev .docEnd 0])

theorem failRun_of_check {L : AliasLimits} {ob : Option Limits} {d : Doc} (h : failCheck L ob d = true) :
    ∃ es, FailRun [.ev .docEnd 0] (canonStart L ob d.2.2.1) (itemsOf d.1 ++ [.ev .docEnd 0]) es :=
  runFail_sound _ _ _ _ h

end SaphyrVerif.Lemmas.C11B
