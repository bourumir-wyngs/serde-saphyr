import SaphyrVerif.Lemmas.C19Token
/-!
C19: sexagesimal tokens `D:M[:S[.frac]]` (digit groups with single underscores between digits).  An
independent description of what such a token denotes — the fields evaluated by Horner's rule in binary64
(as `read_uint_unders_to_f64` / `read_frac_part_unders` do), combined according to the sexagesimal mode
and the tag — and the proof that the token scanner consumes exactly the token and yields that value.
-/
namespace SaphyrVerif.Lemmas.C19X
open SaphyrVerif SaphyrVerif.F64 SaphyrVerif.Robotics SaphyrVerif.Spec.Robotics SaphyrVerif.Lemmas.C19
open SaphyrVerif.Lemmas.C19L

/-- Horner evaluation of a digit string in binary64: `v ← v * 10.0 + digit` -/
def hornerF (ds : List Nat) (v : Fl) : Fl := ds.foldl (fun v c => add F (mul F v TEN) (ofNat F (c - 48))) v

/-- one digit of `read_frac_part_unders`: only the first `MAX_FRAC_DIGITS` digits count -/
def fracStep (acc : Fl × Fl × Nat) (c : Nat) : Fl × Fl × Nat :=
  (if acc.2.2 < MAX_FRAC_DIGITS then add F (mul F acc.1 TEN) (ofNat F (c - 48)) else acc.1,
   if acc.2.2 < MAX_FRAC_DIGITS then mul F acc.2.1 TEN else acc.2.1,
   acc.2.2 + 1)

/-- the fraction `0.ds`: numerator and power of ten of the first 18 digits, one division -/
def fracF (ds : List Nat) : Fl :=
  let r := ds.foldl fracStep (zero F false, ONE, 0)
  div F r.1 r.2.1

theorem readUint_stop (pre rest : List Nat) (v : Fl) (d : Nat) (p : Bool) (hs : Stops rest) (hd : d ≠ 0) :
    readUint pre rest v d p = .ok (pre, rest, v, d) := by
  have hd' : (d == 0) = false := by simpa using hd
  cases rest with
  | nil => simp [readUint, hd']
  | cons c r =>
    obtain ⟨h1, h2⟩ := hs c r rfl
    have h2' : (c == 95) = false := by simpa using h2
    simp [readUint, h1, h2', hd']

theorem readUint_us (pre r : List Nat) (v : Fl) (d : Nat) (hn : nextIsDigit r = true)
    (hcap : ¬ MAX_NUM_DIGITS < d) : readUint pre (95 :: r) v d true = readUint (95 :: pre) r v d false := by
  have h95 : isDigit 95 = false := by decide
  simp only [readUint, h95, hn, hcap, Bool.false_eq_true, ↓reduceIte, beq_self_eq_true, Bool.not_true,
    Bool.or_self]

theorem readUint_sep {b : Bool} {inp ds rest : List Nat} (h : Sep b inp ds rest) (pre : List Nat) (v : Fl) (d : Nat)
    (p : Bool) (hb : b = true → p = true) (hcap : d + ds.length ≤ MAX_NUM_DIGITS) (hne : d + ds.length ≠ 0) :
    ∃ pre', readUint pre inp v d p = .ok (pre', rest, hornerF ds v, d + ds.length) := by
  induction h generalizing pre v d p with
  | stop hs => exact ⟨pre, readUint_stop pre _ v d p hs hne⟩
  | @digit _ c _ ds _ hc _ ih =>
    simp only [List.length_cons] at hcap
    have hnot : ¬ MAX_NUM_DIGITS < d + 1 := by omega
    obtain ⟨pre', e⟩ := ih (c :: pre) (add F (mul F v TEN) (ofNat F (c - 48))) (d + 1) true (fun _ => rfl) (by omega)
      (by omega)
    refine ⟨pre', ?_⟩
    rw [List.length_cons, ← Nat.add_assoc, Nat.add_right_comm]
    simp only [readUint, hc, ↓reduceIte, hnot]
    exact e  -- `hornerF (c :: ds) v` is `hornerF ds` of the accumulator in `e`, by unfolding `foldl`
  | us hn _ ih =>
    obtain rfl := hb rfl
    rw [readUint_us pre _ v d hn (by omega)]
    exact ih _ v d false nofun hcap hne

theorem readUint_groups (gs : Groups) (rest pre : List Nat) (v : Fl) (d : Nat) (p : Bool)
    (hg : gs.WF) (hne : gs ≠ []) (hs : Stops rest) (hcap : d + gs.digits.length ≤ MAX_NUM_DIGITS) :
    ∃ pre', readUint pre (gs.render ++ rest) v d p =
      .ok (pre', rest, hornerF gs.digits v, d + gs.digits.length) :=
  readUint_sep (Sep.groups hg hs false) pre v d p nofun hcap
    (by have := List.length_pos_iff.mpr (groups_digits_ne hg hne); omega)

theorem readFrac_stop (pre rest : List Nat) (num sc : Fl) (d : Nat) (p : Bool) (hs : Stops rest) (hd : d ≠ 0) :
    readFrac pre rest num sc d p = .ok (pre, rest, div F num sc, d) := by
  have hd' : (d == 0) = false := by simpa using hd
  cases rest with
  | nil => simp [readFrac, hd']
  | cons c r =>
    obtain ⟨h1, h2⟩ := hs c r rfl
    have h2' : (c == 95) = false := by simpa using h2
    simp [readFrac, h1, h2', hd']

theorem readFrac_us (pre r : List Nat) (num sc : Fl) (d : Nat) (hn : nextIsDigit r = true)
    (hcap : ¬ MAX_NUM_DIGITS < d) :
    readFrac pre (95 :: r) num sc d true = readFrac (95 :: pre) r num sc d false := by
  have h95 : isDigit 95 = false := by decide
  simp only [readFrac, h95, hn, hcap, Bool.false_eq_true, ↓reduceIte, beq_self_eq_true, Bool.not_true,
    Bool.or_self]

theorem readFrac_sep {b : Bool} {inp ds rest : List Nat} (h : Sep b inp ds rest) (pre : List Nat) (num sc : Fl) (d : Nat)
    (p : Bool) (hb : b = true → p = true) (hcap : d + ds.length ≤ MAX_NUM_DIGITS) (hne : d + ds.length ≠ 0) :
    ∃ pre', readFrac pre inp num sc d p =
      .ok (pre', rest, div F (ds.foldl fracStep (num, sc, d)).1 (ds.foldl fracStep (num, sc, d)).2.1, d + ds.length) := by
  induction h generalizing pre num sc d p with
  | stop hs => exact ⟨pre, readFrac_stop pre _ num sc d p hs hne⟩
  | @digit _ c _ ds _ hc _ ih =>
    simp only [List.length_cons] at hcap
    have hnot : ¬ MAX_NUM_DIGITS < d + 1 := by omega
    obtain ⟨pre', e⟩ := ih (c :: pre) (fracStep (num, sc, d) c).1 (fracStep (num, sc, d) c).2.1 (d + 1) true (fun _ => rfl)
      (by omega) (by omega)
    refine ⟨pre', ?_⟩
    rw [List.length_cons, ← Nat.add_assoc, Nat.add_right_comm]
    simp only [readFrac, hc, ↓reduceIte, hnot]
    exact e  -- as in `readUint_sep`: one step of the `fracStep` fold, by unfolding
  | us hn _ ih =>
    obtain rfl := hb rfl
    rw [readFrac_us pre _ num sc d hn (by omega)]
    exact ih _ num sc d false nofun hcap hne

theorem readFrac_groups (gs : Groups) (rest pre : List Nat) (num sc : Fl) (d : Nat) (p : Bool)
    (hg : gs.WF) (hne : gs ≠ []) (hs : Stops rest) (hcap : d + gs.digits.length ≤ MAX_NUM_DIGITS) :
    ∃ pre', readFrac pre (gs.render ++ rest) num sc d p =
      .ok (pre', rest, div F (gs.digits.foldl fracStep (num, sc, d)).1 (gs.digits.foldl fracStep (num, sc, d)).2.1,
        d + gs.digits.length) :=
  readFrac_sep (Sep.groups hg hs false) pre num sc d p nofun hcap
    (by have := List.length_pos_iff.mpr (groups_digits_ne hg hne); omega)

/-- `D:M`, `D:M:S`, `D:M:S.frac` — every field a non-empty list of digit groups -/
structure SexaTok where
  deg : Groups
  min : Groups
  sec : Option (Groups × Option Groups)

namespace SexaTok

def secRender (t : SexaTok) : List Nat :=
  match t.sec with
  | none => []
  | some (s, none) => 58 :: s.render
  | some (s, some f) => 58 :: (s.render ++ 46 :: f.render)

def render (t : SexaTok) : List Nat := t.deg.render ++ 58 :: (t.min.render ++ t.secRender)

def secDigits (t : SexaTok) : Nat :=
  match t.sec with
  | none => 0
  | some (s, none) => s.digits.length
  | some (s, some f) => s.digits.length + f.digits.length

def digitCount (t : SexaTok) : Nat := t.deg.digits.length + t.min.digits.length + t.secDigits

/-- a field read as `u32`: Horner in binary64, saturating conversion -/
def fieldU32 (gs : Groups) : Nat := toU32 (hornerF gs.digits (zero F false))
/-- the field does not exceed `u32::MAX` (as a binary64 value) and is at most 59 -/
def FieldOk (gs : Groups) : Prop := gt (hornerF gs.digits (zero F false)) U32MAX = false ∧ fieldU32 gs ≤ 59

structure WF (t : SexaTok) : Prop where
  deg : t.deg.WF ∧ t.deg ≠ []
  min : t.min.WF ∧ t.min ≠ [] ∧ FieldOk t.min
  sec : ∀ s fr, t.sec = some (s, fr) → s.WF ∧ s ≠ [] ∧ FieldOk s ∧ ∀ f, fr = some f → f.WF ∧ f ≠ []
  cap : t.digitCount ≤ MAX_NUM_DIGITS

/-- the seconds field (0 if absent) -/
def secs (t : SexaTok) : Fl :=
  match t.sec with
  | none => zero F false
  | some (s, none) => ofNat F (fieldU32 s)
  | some (s, some f) => add F (ofNat F (fieldU32 s)) (fracF f.digits)

/-- What the token denotes: with `D` evaluated by Horner's rule, `M`, `S` as above,
`degrees = D + M/60 + S/3600` and `seconds = D·3600 + M·60 + S` (binary64 operations, in this order);
* outside unit functions (`timeMode`): radians (`degrees · DEG2RAD`, converted ONCE) under `!degrees` /
  `!radians`, otherwise the seconds;
* inside `deg(..)` / `rad(..)`: the degrees (the wrapping function converts), the seconds under `!timestamp`. -/
def value (tag : Nat) (timeMode : Bool) (t : SexaTok) : Fl :=
  let D := hornerF t.deg.digits (zero F false)
  let M := ofNat F (fieldU32 t.min)
  let S := t.secs
  let degrees := add F (add F D (div F M SIXTY)) (div F S C3600)
  let seconds := add F (add F (mul F D C3600) (mul F M SIXTY)) S
  if timeMode then
    if tag == TAG_DEGREES || tag == TAG_RADIANS then mul F degrees DEG2RAD else seconds
  else if tag == TAG_TIMESTAMP then seconds else degrees

/-- bytes behind the token that do not continue it -/
def Ends (t : SexaTok) (k : List Nat) : Prop :=
  ∀ c r, k = c :: r → isDigit c = false ∧ c ≠ 95 ∧
    (t.sec = none → c ≠ 58) ∧ (∀ s, t.sec = some (s, none) → c ≠ 46)

end SexaTok

theorem stops_colon (r : List Nat) : Stops (58 :: r) := Head.cons ⟨by decide, by decide⟩
theorem stops_dot (r : List Nat) : Stops (46 :: r) := Head.cons ⟨by decide, by decide⟩

theorem ends_stops {t : SexaTok} {k : List Nat} (h : t.Ends k) : Stops k :=
  fun c r hk => ⟨(h c r hk).1, (h c r hk).2.1⟩

theorem readU32_groups (gs : Groups) (rest pre : List Nat) (hg : gs.WF) (hne : gs ≠ []) (hs : Stops rest)
    (hcap : gs.digits.length ≤ MAX_NUM_DIGITS) (hok : gt (hornerF gs.digits (zero F false)) U32MAX = false) :
    ∃ pre', readU32 pre (gs.render ++ rest) = .ok (pre', rest, SexaTok.fieldU32 gs, gs.digits.length) := by
  obtain ⟨p1, h1⟩ := readUint_groups gs rest pre (zero F false) 0 false hg hne hs (by omega)
  refine ⟨p1, ?_⟩
  unfold readU32
  rw [h1]
  simp only [hok, Bool.false_eq_true, ↓reduceIte, Nat.zero_add, SexaTok.fieldU32]

theorem SexaTok.render_append (t : SexaTok) (k : List Nat) :
    t.render ++ k = t.deg.render ++ (58 :: (t.min.render ++ (t.secRender ++ k))) := by
  simp [SexaTok.render]

theorem sexa_head (t : SexaTok) (hwf : t.WF) (k : List Nat) : ∃ c r, t.render ++ k = c :: r ∧ isDigit c = true := by
  rw [t.render_append]
  exact groups_render_head hwf.deg.1 hwf.deg.2 _

theorem sexaSecs_tok (st : St) (t : SexaTok) (hwf : t.WF) (k : List Nat) (hk : t.Ends k) (d12 : Nat) (pre2 : List Nat)
    (hcap : t.secDigits ≤ MAX_NUM_DIGITS) :
    ∃ pre', sexaSecs st d12 pre2 (t.secRender ++ k) = .ok (pre', k, t.secs, d12 + t.secDigits) := by
  have hks := ends_stops hk
  unfold SexaTok.secRender SexaTok.secs
  unfold SexaTok.secDigits at hcap ⊢
  cases hsec : t.sec with
  | none =>
    -- `simp only` finds `hk58` (below: `hk46`) in the context to discharge the side condition of the
    -- fall-through equation of the `match` on the remaining bytes
    have hk58 : ∀ r', k = 58 :: r' → False := fun r' h => (hk 58 r' h).2.2.1 hsec rfl
    refine ⟨pre2, ?_⟩
    unfold sexaSecs
    simp only [List.nil_append]
    rfl
  | some sf =>
    obtain ⟨s, fr⟩ := sf
    obtain ⟨hs, hsne, ⟨hsok, hs59⟩, hfr⟩ := hwf.sec s fr hsec
    have hs59' : ¬ 59 < SexaTok.fieldU32 s := by omega
    rw [hsec] at hcap
    unfold sexaSecs
    cases fr with
    | none =>
      have hk46 : ∀ r', k = 46 :: r' → False := fun r' h => (hk 46 r' h).2.2.2 s hsec rfl
      obtain ⟨p3, h3⟩ := readU32_groups s k (58 :: pre2) hs hsne hks hcap hsok
      refine ⟨p3, ?_⟩
      simp only [List.cons_append, h3, lift_ok_eq, Res.ok_bind, hs59', ↓reduceIte]
    | some f =>
      obtain ⟨hf, hfne⟩ := hfr f rfl
      simp only [] at hcap
      obtain ⟨p3, h3⟩ := readU32_groups s (46 :: (f.render ++ k)) (58 :: pre2) hs hsne (stops_dot _) (by omega) hsok
      obtain ⟨p4, h4⟩ := readFrac_groups f k (46 :: p3) (zero F false) ONE 0 false hf hfne hks (by omega)
      refine ⟨p4, ?_⟩
      simp only [List.cons_append, List.append_assoc, h3, lift_ok_eq, Res.ok_bind, hs59', ↓reduceIte, h4, fracF,
        Nat.zero_add, Nat.add_assoc]

/-- a sexagesimal token followed by bytes that do not continue it is scanned as exactly that token and
denotes `SexaTok.value` — a unitized value (`used_unit = true`, not a bare term). -/
theorem sexa_token (tag : Nat) (tm : Bool) (t : SexaTok) (hwf : t.WF) (k : List Nat) (hk : t.Ends k)
    (pre : List Nat) (d : Nat) :
    ∃ pre', parseNumberOrSpecial tag ⟨pre, t.render ++ k, d, tm⟩ =
      .ok ((t.value tag tm, true, false), ⟨pre', k, d, tm⟩) := by
  obtain ⟨hdeg, hdne⟩ := hwf.deg
  obtain ⟨hmin, hmne, hmok, hm59⟩ := hwf.min
  have hcap := hwf.cap
  unfold SexaTok.digitCount at hcap
  have hm59' : ¬ 59 < SexaTok.fieldU32 t.min := by omega
  obtain ⟨c0, r0, hhead, hc0⟩ := sexa_head t hwf k
  have hsec_stops : Stops (t.secRender ++ k) := by
    unfold SexaTok.secRender
    cases t.sec with
    | none => exact ends_stops hk
    | some sf =>
      obtain ⟨s, fr⟩ := sf
      cases fr <;> exact stops_colon _
  have hsx : ∃ pre', trySexagesimal tag ⟨pre, t.render ++ k, d, tm⟩ =
      .ok (some ((t.value tag tm, true, false), ⟨pre', k, d, tm⟩)) := by
    obtain ⟨p1, h1⟩ := readUint_groups t.deg (58 :: (t.min.render ++ (t.secRender ++ k))) pre (zero F false) 0 false
      hdeg hdne (stops_colon _) (by omega)
    obtain ⟨p2, h2⟩ := readU32_groups t.min (t.secRender ++ k) (58 :: p1) hmin hmne hsec_stops (by omega) hmok
    obtain ⟨p3, h3⟩ := sexaSecs_tok ⟨pre, t.deg.render ++ 58 :: (t.min.render ++ (t.secRender ++ k)), d, tm⟩ t hwf k hk (0 + t.deg.digits.length + t.min.digits.length)
      p2 (by omega)
    refine ⟨p3, ?_⟩
    rw [trySexagesimal_eq]
    simp only []
    rw [t.render_append, sexaLook_groups t.deg _ hdeg hdne (stops_colon _) false]
    simp only [Bool.not_true, Bool.or_self, Bool.false_eq_true, ↓reduceIte, List.head?_cons, bne_self_eq_false, h1,
      lift_ok_eq, Res.ok_bind]
    unfold sexaMins
    simp only [h2, lift_ok_eq, Res.ok_bind, hm59', ↓reduceIte, h3]
    rw [sexaFinish_eq, if_neg (by simp only []; omega)]
    rfl
  obtain ⟨p', hp'⟩ := hsx
  unfold parseNumberOrSpecial
  simp only []
  rw [startsCi_head [110, 102] rfl ⟨c0, r0, hhead, Or.inl hc0⟩, startsCi_head [97, 110] rfl ⟨c0, r0, hhead, Or.inl hc0⟩]
  simp only [Bool.false_eq_true, ↓reduceIte]
  rw [hp']
  exact ⟨p', rfl⟩

end SaphyrVerif.Lemmas.C19X
