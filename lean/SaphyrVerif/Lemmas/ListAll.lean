/-!
The specifications define their Boolean predicates on lists by recursion inside mutual blocks
(`p [] = true`, `p (x :: xs) = (f x && p xs)`).  Such a `p` holds exactly when `f` holds of every member:
proved here once, from the two equations.
-/
namespace SaphyrVerif.Lemmas

theorem mem_of_andCons {α : Type} {f : α → Bool} {p : List α → Bool} (hc : ∀ x xs, p (x :: xs) = (f x && p xs))
    {l : List α} (h : p l = true) {x : α} (hx : x ∈ l) : f x = true := by
  induction l with
  | nil => cases hx
  | cons y ys ih =>
    rw [hc, Bool.and_eq_true] at h
    rcases List.mem_cons.1 hx with rfl | hm
    · exact h.1
    · exact ih h.2 hm

theorem andCons_of_forall {α : Type} {f : α → Bool} {p : List α → Bool} (hn : p [] = true)
    (hc : ∀ x xs, p (x :: xs) = (f x && p xs)) {l : List α} (h : ∀ x ∈ l, f x = true) : p l = true := by
  induction l with
  | nil => exact hn
  | cons y ys ih =>
    rw [hc, h y (List.mem_cons_self ..), ih (fun x hx => h x (List.mem_cons_of_mem _ hx))]
    rfl

end SaphyrVerif.Lemmas
