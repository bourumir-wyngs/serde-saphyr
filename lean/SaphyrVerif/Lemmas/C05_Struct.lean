import SaphyrVerif.Lemmas.C05_MapLoop
/-!
C05: maps, structs and the untyped target at any node (`ref_map`, `ref_struct`, `ref_any`).  The derived struct
visitor `structEntries` follows the deliveries of the map access (`structEntries_spec`, by `ASt.stream_induction`);
the untyped target is served by the calls for `Vec<Any>` / `HashMap<Any, Any>` (`Ref.of_eq`).  The field lookup
(`find?_eq_lookupField`, `mem_of_lookupField`) serves the variant lookup of `C05_Enum` as well.
-/
namespace SaphyrVerif.Lemmas.C05
open SaphyrVerif SaphyrVerif.Scalars SaphyrVerif.Pump SaphyrVerif.De SaphyrVerif.Spec

theorem fieldFns_nil (cfg : Cfg) : fieldFns cfg [] = [] := by rw [fieldFns]
theorem fieldFns_cons (cfg : Cfg) (n : String) (t : Ty) (rest : List (String × Ty)) :
    fieldFns cfg ((n, t) :: rest) = (n, isOptionTy t, interp cfg t) :: fieldFns cfg rest := by rw [fieldFns]

theorem fieldFns_eq_map (cfg : Cfg) (fs : List (String × Ty)) :
    fieldFns cfg fs = fs.map fun nt => (nt.1, isOptionTy nt.2, interp cfg nt.2) := by
  induction fs with
  | nil => rw [fieldFns_nil]; rfl
  | cons f rest ih => obtain ⟨n, t⟩ := f; rw [fieldFns_cons, ih]; rfl

theorem eq_ofList_of_toList {s : String} {l : List Char} (h : s.toList = l) : s = String.ofList l := by
  subst h; simp

theorem find?_eq_lookupField_go {α : Type} (name : List Char) (fs : List (String × α)) (i : Nat) :
    fs.find? (fun p => p.1.toList == name) = (lookupField.go name fs i).map fun q => (String.ofList name, q.2) := by
  induction fs generalizing i with
  | nil => rfl
  | cons f rest ih =>
    obtain ⟨n, t⟩ := f
    simp only [lookupField.go, List.find?_cons]
    by_cases h : (n.toList == name) = true
    · simp [eq_ofList_of_toList (by simpa using h : n.toList = name)]
    · simp only [h, Bool.false_eq_true, if_false]
      exact ih (i + 1)

/-- the specification finds a field or a variant by `find?` on its name: that is the model's `lookupField` (which returns
the index in place of the name).  Through this equation both sides of a refinement goal split on the one term
`lookupField fs name`. -/
theorem find?_eq_lookupField {α : Type} (fs : List (String × α)) (name : List Char) :
    fs.find? (fun p => p.1.toList == name) = (lookupField fs name).map fun q => (String.ofList name, q.2) :=
  find?_eq_lookupField_go name fs 0

theorem mem_of_lookupField {α : Type} {fs : List (String × α)} {name : List Char} {q : Nat × α}
    (h : lookupField fs name = some q) : (String.ofList name, q.2) ∈ fs :=
  List.mem_of_find?_eq_some (by rw [find?_eq_lookupField, h]; rfl)

theorem find?_fieldFns (cfg : Cfg) (name : List Char) (fields : List (String × Ty)) :
    (fieldFns cfg fields).find? (fun f => f.1.toList == name) =
      (fields.find? (fun f => f.1.toList == name)).map fun f => (f.1, isOptionTy f.2, interp cfg f.2) := by
  rw [fieldFns_eq_map, List.find?_map]; rfl

theorem find?_fieldFns_lookup (cfg : Cfg) (name : List Char) (fields : List (String × Ty)) :
    (fieldFns cfg fields).find? (fun f => f.1.toList == name) =
      (lookupField fields name).map fun q => (String.ofList name, isOptionTy q.2, interp cfg q.2) := by
  rw [find?_fieldFns, find?_eq_lookupField, Option.map_map]; rfl

theorem fill_spec (cfg : Cfg) (got : List (String × Val)) (fields : List (String × Ty)) (acc : List (String × Val)) :
    match fillFields (fieldFns cfg fields) got with
    | some r => structFinish.fill got fields acc = .ok (acc ++ r)
    | none => ∃ e, structFinish.fill got fields acc = .error e := by
  induction fields generalizing acc with
  | nil => simp [fieldFns_nil, fillFields, structFinish.fill]
  | cons f rest ih =>
    obtain ⟨n, t⟩ := f
    simp only [fieldFns_cons, fillFields, structFinish.fill]
    cases hf : got.find? (fun p => p.1 == n) with
    | some p =>
      simp only []
      have := ih (acc ++ [p])
      cases hr : fillFields (fieldFns cfg rest) got with
      | none => simp only [hr] at this ⊢; exact this
      | some r => simp only [hr] at this ⊢; rw [this]; simp
    | none =>
      simp only []
      cases t with
      | option t' =>
        have := ih (acc ++ [(n, Val.none)])
        cases hr : fillFields (fieldFns cfg rest) got with
        | none => simp only [hr] at this ⊢; exact this
        | some r => simp only [hr, isOptionTy, if_true] at this ⊢; rw [this]; simp
      | _ =>
        cases hr : fillFields (fieldFns cfg rest) got <;> simp [isOptionTy]

theorem structFinish_spec (cfg : Cfg) (fields : List (String × Ty)) (got : List (String × Val)) (c : Cur) :
    Expect (structFinish fields got c) ((fillFields (fieldFns cfg fields) got).map .struct) c := by
  have := fill_spec cfg got fields []
  simp only [structFinish]
  cases hr : fillFields (fieldFns cfg fields) got with
  | none =>
    simp only [hr] at this
    obtain ⟨e, he⟩ := this
    simp [he]
  | some r =>
    simp only [hr, List.nil_append] at this
    simp [this]

theorem structEntries_step (fuel : Nat) (cfg : Cfg) (fields : List (String × Ty)) (deny : Bool) (c : Cur) (m : MA)
    (acc : List (String × Val)) :
    structEntries (fuel + 1) cfg fields deny c m acc =
      match nextKey fuel cfg (.inr ()) c m with
      | .err e c => .err e c
      | .ok (.done, _) c => .ok acc c
      | .ok (.key (.str name) _, m) c =>
        match lookupField fields name with
        | some (_, t) =>
          if acc.any (fun p => p.1 == String.ofList name) then .err (serdeErr "duplicate_field") c
          else
            match nextValue fuel cfg t c m with
            | .err e c => .err e c
            | .ok (v, m) c => structEntries fuel cfg fields deny c m (acc ++ [(String.ofList name, v)])
        | none =>
          if deny then .err (serdeErr "unknown_field") c
          else
            match nextValue fuel cfg .any c m with
            | .err e c => .err e c
            | .ok (_, m) c => structEntries fuel cfg fields deny c m acc
      | .ok (.key _ _, _) c => .err ⟨"ModelMisuse", 0, 0⟩ c := by
  rw [structEntries]; rfl

theorem fieldEntriesFrom_cons (cfg : Cfg) (fs : FieldFns) (deny : Bool) (k v : ENode) (es : List (ENode × ENode))
    (acc : List (String × Val)) :
    fieldEntriesFrom cfg fs deny ((k, v) :: es) acc =
      match identOf cfg k with
      | none => none
      | some name =>
        match fs.find? (fun f => f.1.toList == name) with
        | some (fname, _, vf) =>
          if acc.any (fun p => p.1 == fname) then none
          else match vf v with
            | none => none
            | some val => fieldEntriesFrom cfg fs deny es (acc ++ [(fname, val)])
        | none =>
          if deny then none
          else match interpAny cfg (depthOf v) v with
            | none => none
            | some _ => fieldEntriesFrom cfg fs deny es acc := by
  simp only [fieldEntriesFrom]; rfl

/-- what the visitor is expected to return, entry by entry (`o`: the entries after the first one) -/
theorem fieldEntries_bind_cons (cfg : Cfg) (fs : FieldFns) (deny : Bool) (k v : ENode) (o : Option (List (ENode × ENode)))
    (acc : List (String × Val)) :
    (o.map ((k, v) :: ·)).bind (fun es => fieldEntriesFrom cfg fs deny es acc) =
      (identOf cfg k).bind fun name =>
        match fs.find? (fun f => f.1.toList == name) with
        | some (fname, _, vf) =>
          if acc.any (fun p => p.1 == fname) then none
          else (vf v).bind fun val => o.bind fun es => fieldEntriesFrom cfg fs deny es (acc ++ [(fname, val)])
        | none =>
          if deny then none
          else (interp cfg .any v).bind fun _ => o.bind fun es => fieldEntriesFrom cfg fs deny es acc := by
  rw [interp_any]
  cases o with
  | none =>
    cases identOf cfg k with
    | none => rfl
    | some name =>
      simp only [Option.map_none, Option.bind_none, Option.bind_some]
      split <;> split <;> simp
  | some es =>
    simp only [Option.map_some, Option.bind_some, fieldEntriesFrom_cons]
    cases identOf cfg k with
    | none => rfl
    | some name =>
      simp only [Option.bind_some]
      cases fs.find? (fun f => f.1.toList == name) with
      | some q =>
        obtain ⟨fname, opt, vf⟩ := q
        simp only []
        split
        · rfl
        · cases vf v <;> rfl
      | none =>
        simp only []
        split
        · rfl
        · cases interpAny cfg (depthOf v) v <;> rfl

theorem structEntries_spec (X : MCtx) (cfg : Cfg) (df : Bool) (fields : List (String × Ty)) (deny : Bool) (d : Nat)
    (hV : ∀ e, EntOK d e → ∀ nt ∈ fields, Ref df cfg nt.2 e.2) (hAny : ∀ e, EntOK d e → Ref df cfg .any e.2) :
    ∀ (st : ASt), st.OK d → ∀ (seen : List FP) (m : MA) (c : Cur), Rel X st seen m c →
      Evt fun fuel => ∀ acc,
        NodeOut X.buf X.ref X.i0 X.len df ((remaining cfg.dup st seen).bind (fun es => fieldEntriesFrom cfg (fieldFns cfg fields) deny es acc))
          (structEntries fuel cfg fields deny c m acc) := by
  refine ASt.stream_induction (dup := cfg.dup) fun st hok ih seen m c hrel => ?_
  have hnk := nextKey_spec X cfg (.inr ()) (identFn cfg) d (fun e _ => keyRef_ident cfg e.1) seen st m c hok hrel
  rw [remaining_step]
  cases hstep : nextStep cfg.dup st seen with
  | fail =>
    rw [hstep] at hnk
    refine Evt.succ (Evt.mono hnk fun fuel ⟨e, c', he⟩ acc => ?_)
    rw [structEntries_step, he]
    exact Or.inl (by simp)
  | done =>
    rw [hstep] at hnk
    obtain ⟨m', hn⟩ := hnk
    refine Evt.succ (Evt.mono hn fun fuel hn acc => ?_)
    rw [structEntries_step, hn]
    simp [fieldEntriesFrom, NodeOut, MCtx.iEnd]
  | deliver k v st' =>
    rw [hstep] at hnk
    simp only [NKOut] at hnk
    obtain ⟨hent, hok', ih⟩ := ih seen k v st' hstep
    simp only [fieldEntries_bind_cons]
    cases hid : identOf cfg k with
    | none =>
      have hk : identFn cfg k = none := by simp [identFn, hid]
      simp only [hk] at hnk
      refine Evt.succ (Evt.mono hnk fun fuel ⟨e, c', he⟩ acc => ?_)
      rw [structEntries_step, he]
      exact Or.inl (by simp)
    | some name =>
      have hk : identFn cfg k = some (.str name) := by simp [identFn, hid]
      simp only [hk] at hnk
      obtain ⟨m1, c1, hrelv, hn1⟩ := hnk
      -- the value is read at type `t`, then the loop goes on with `cont val acc`
      have hvalue (t : Ty) (href : Ref df cfg t v) (cont : Val → List (String × Val) → List (String × Val)) :=
        nextValue_spec X cfg df t hrelv href
          (fun acc val => (remaining cfg.dup st' (fpOf k :: seen)).bind
            fun es => fieldEntriesFrom cfg (fieldFns cfg fields) deny es (cont val acc))
          (fun fuel acc val m c => structEntries fuel cfg fields deny c m (cont val acc))
          (fun _ _ _ _ _ _ _ h => structEntries_weak h)
          (fun val m2 c2 hrel2 => (ih (fpOf k :: seen) m2 c2 hrel2).mono fun fuel h acc => h _)
      simp only [Option.bind_some, find?_fieldFns_lookup]
      cases hl : lookupField fields name with
      | some p =>
        obtain ⟨idx, t⟩ := p
        refine Evt.succ (Evt.mono (Evt.and hn1
          (hvalue t (hV (k, v) hent _ (mem_of_lookupField hl)) (fun val acc => acc ++ [(String.ofList name, val)])))
          fun fuel ⟨hn1, hn2⟩ acc => ?_)
        rw [structEntries_step, hn1]
        simp only [hl, Option.map_some]
        by_cases hdup : acc.any (fun p => p.1 == String.ofList name) = true
        · simp only [hdup, if_true]
          exact Or.inl (by simp)
        · simp only [hdup, Bool.false_eq_true, if_false]
          exact hn2 acc
      | none =>
        refine Evt.succ (Evt.mono (Evt.and hn1 (hvalue .any (hAny (k, v) hent) (fun _ acc => acc)))
          fun fuel ⟨hn1, hn2⟩ acc => ?_)
        rw [structEntries_step, hn1]
        simp only [hl, Option.map_none]
        cases deny with
        | true => simp only [if_true]; exact Or.inl (by simp)
        | false =>
          simp only [Bool.false_eq_true, if_false]
          exact hn2 acc

theorem deserMapLike_mapStart {buf : List Ev} {i : Nat} (ref : Option Loc) {a : Nat} {l : Loc} {tl : List Ev} (fuel : Nat)
    (cfg : Cfg) (shape : (Ty × Ty) ⊕ (List (String × Ty) × Bool)) (h : buf.drop i = .mapStart a l :: tl) :
    deserMapLike (fuel + 1) cfg shape (.replay buf i ref) =
      match shape with
      | .inl (k, v) =>
        match mapEntries fuel cfg k v (.replay buf (i + 1) ref) {} [] with
        | .err e c => .err e c
        | .ok es c => .ok (.map es) c
      | .inr (fields, deny) =>
        match structEntries fuel cfg fields deny (.replay buf (i + 1) ref) {} [] with
        | .err e c => .err e c
        | .ok got c => structFinish fields got c := by
  rw [deserMapLike]
  simp only [Cursor.peek_replay_of_drop ref h, Cursor.next_replay_of_drop ref h]
  rfl

theorem deserMapLike_seqStart {buf : List Ev} {i : Nat} (ref : Option Loc) {a tag : Nat} {rt : Option (List Char)} {l : Loc}
    {tl : List Ev} (fuel : Nat) (cfg : Cfg) (shape : (Ty × Ty) ⊕ (List (String × Ty) × Bool))
    (h : buf.drop i = .seqStart a tag rt l :: tl) : IsErr (deserMapLike fuel cfg shape (.replay buf i ref)) := by
  cases fuel with
  | zero => rw [deserMapLike]; simp
  | succ fuel => rw [deserMapLike]; simp [Cursor.peek_replay_of_drop ref h, Cursor.next_replay_of_drop ref h]

theorem deserMapLike_scalar {buf : List Ev} {i : Nat} (ref : Option Loc) {v : List Char} {tag : Nat} {rt : Option (List Char)}
    {st : Style} {a : Nat} {l : Loc} {tl : List Ev} (fuel : Nat) (cfg : Cfg)
    (shape : (Ty × Ty) ⊕ (List (String × Ty) × Bool)) (h : buf.drop i = .scalar v tag rt st a l :: tl) :
    deserMapLike (fuel + 1) cfg shape (.replay buf i ref) =
      if tag == tagNull || scalarIsNullish v st then
        match shape with
        | .inl _ => .ok (.map []) (.replay buf (i + 1) ref)
        | .inr (fields, _) => structFinish fields [] (.replay buf (i + 1) ref)
      else .err ⟨"Unexpected", l, 0⟩ (.replay buf (i + 1) ref) := by
  rw [deserMapLike]
  simp only [Cursor.peek_replay_of_drop ref h, Cursor.next_replay_of_drop ref h]
  split <;> rfl

theorem interp_map_map (cfg : Cfg) (kt vt : Ty) (a : Nat) (l el : Loc) (entries : List (ENode × ENode)) :
    interp cfg (.map kt vt) (.map a l el entries) =
      ((effEntries cfg.dup entries).bind (pairsFrom (keyFn cfg kt) (interp cfg vt))).map .map := by
  rw [interp]
  simp only []
  cases effEntries cfg.dup entries <;> rfl

theorem interp_map_scalar (cfg : Cfg) (kt vt : Ty) (v : List Char) (tag : Nat) (rt : Option (List Char)) (st : Style)
    (a : Nat) (l : Loc) :
    interp cfg (.map kt vt) (.scalar v tag rt st a l) =
      if tag == tagNull || scalarIsNullish v st then some (.map []) else none := by
  rw [interp]; rfl

theorem interp_map_seq (cfg : Cfg) (kt vt : Ty) (a tag : Nat) (rt : Option (List Char)) (l el : Loc) (items : List ENode) :
    interp cfg (.map kt vt) (.seq a tag rt l el items) = none := by rw [interp]

theorem rel_init {buf : List Ev} {i : Nat} (ref : Option Loc) {a : Nat} {l el : Loc} {entries : List (ENode × ENode)}
    {rest : List Ev} (h : buf.drop i = eflatten (.map a l el entries) ++ rest) :
    Rel ⟨buf, ref, i, (eflatten (.map a l el entries)).length⟩ (.live entries []) [] {}
      (.replay buf (i + 1) ref) := by
  refine ⟨i + 1, rfl, Nat.lt_succ_self _, ⟨el, rest, Cursor.drop_succ_of_drop_eq_cons (drop_map h)⟩, ?_, rfl, rfl, PRel.nil, rfl⟩
  simp [MCtx.iEnd]; omega

theorem ref_map {cfg : Cfg} {df : Bool} {kt vt : Ty} {t : ENode} (hk : kfree t = true)
    (hK : ∀ e, EntOK (depthOf t) e → KeyRef cfg (.inl kt) (keyFn cfg kt) e.1)
    (hV : ∀ e, EntOK (depthOf t) e → Ref df cfg vt e.2) : Ref df cfg (.map kt vt) t := by
  intro buf i ref rest h
  suffices hs : Evt fun fuel => NodeOut buf ref i (eflatten t).length df (interp cfg (.map kt vt) t)
      (deserMapLike fuel cfg (.inl (kt, vt)) (.replay buf i ref)) from
    Evt.succ (hs.mono fun fuel hn => by rw [deser]; exact hn)
  cases t with
  | scalar v tag rt st a l =>
    refine Evt.succ (Evt.of_forall fun fuel => ?_)
    rw [deserMapLike_scalar ref fuel cfg _ (drop_scalar h), interp_map_scalar]
    apply NodeOut.of_expect
    split <;> simp
  | seq a tag rt l el items =>
    refine Evt.of_forall fun fuel => ?_
    rw [interp_map_seq]
    exact NodeOut.of_err (deserMapLike_seqStart ref fuel cfg _ (drop_seq h))
  | map a l el entries =>
    simp only [kfree_map] at hk
    simp only [depthOf_map] at hK hV
    refine Evt.succ (Evt.mono
      (mapEntries_spec ⟨buf, ref, i, (eflatten (.map a l el entries)).length⟩ cfg df kt vt _ hK hV
        (.live entries []) ⟨allOK_of_kfreeE hk, AllOK.nil _⟩ [] {} _ (rel_init ref h))
      fun fuel hn => ?_)
    rw [deserMapLike_mapStart ref fuel cfg _ (drop_map h), interp_map_map, ← remaining_init]
    simp only []
    have e (o : Option (List (Val × Val))) : o.map Val.map = (o.map ([] ++ ·)).bind fun ps => some (.map ps) := by
      cases o <;> rfl
    rw [e]
    exact (hn []).bind_expect (fun ps c hx => by rw [hx]; rfl) (fun e c hx => by rw [hx])

theorem structNode_map (cfg : Cfg) (fs : FieldFns) (deny : Bool) (a : Nat) (l el : Loc) (entries : List (ENode × ENode)) :
    structNode cfg fs deny (.map a l el entries) =
      ((effEntries cfg.dup entries).bind (fun es => fieldEntriesFrom cfg fs deny es [])).bind
        (fun got => (fillFields fs got).map .struct) := by
  simp only [structNode, structFrom]
  cases effEntries cfg.dup entries with
  | none => rfl
  | some es =>
    simp only [Option.bind_some]
    cases fieldEntriesFrom cfg fs deny es [] <;> rfl

theorem structNode_scalar (cfg : Cfg) (fs : FieldFns) (deny : Bool) (v : List Char) (tag : Nat) (rt : Option (List Char))
    (st : Style) (a : Nat) (l : Loc) :
    structNode cfg fs deny (.scalar v tag rt st a l) =
      if tag == tagNull || scalarIsNullish v st then (fillFields fs []).map .struct else none := by
  simp only [structNode, structFrom, isNullScalar, fieldEntriesFrom]; rfl

theorem ref_struct {cfg : Cfg} {df : Bool} {fields : List (String × Ty)} {deny : Bool} {t : ENode} (hk : kfree t = true)
    (hV : ∀ e, EntOK (depthOf t) e → ∀ nt ∈ fields, Ref df cfg nt.2 e.2)
    (hAny : ∀ e, EntOK (depthOf t) e → Ref df cfg .any e.2) : Ref df cfg (.struct fields deny) t := by
  intro buf i ref rest h
  suffices hs : Evt fun fuel => NodeOut buf ref i (eflatten t).length df (structNode cfg (fieldFns cfg fields) deny t)
      (deserMapLike fuel cfg (.inr (fields, deny)) (.replay buf i ref)) from
    Evt.succ (hs.mono fun fuel hn => by rw [deser, interp]; exact hn)
  cases t with
  | scalar v tag rt st a l =>
    refine Evt.succ (Evt.of_forall fun fuel => ?_)
    rw [deserMapLike_scalar ref fuel cfg _ (drop_scalar h), structNode_scalar]
    apply NodeOut.of_expect
    split
    · simpa using structFinish_spec cfg fields [] (.replay buf (i + 1) ref)
    · simp
  | seq a tag rt l el items =>
    refine Evt.of_forall fun fuel => ?_
    exact NodeOut.of_err (deserMapLike_seqStart ref fuel cfg _ (drop_seq h))
  | map a l el entries =>
    simp only [kfree_map] at hk
    simp only [depthOf_map] at hV hAny
    refine Evt.succ (Evt.mono
      (structEntries_spec ⟨buf, ref, i, (eflatten (.map a l el entries)).length⟩ cfg df fields deny _ hV hAny
        (.live entries []) ⟨allOK_of_kfreeE hk, AllOK.nil _⟩ [] {} _ (rel_init ref h))
      fun fuel hn => ?_)
    rw [deserMapLike_mapStart ref fuel cfg _ (drop_map h), structNode_map, ← remaining_init]
    simp only []
    exact (hn []).bind_expect (fun got c hx => by rw [hx]; exact structFinish_spec cfg fields got c) (fun e c hx => by rw [hx])

theorem keyFn_any (cfg : Cfg) : keyFn cfg .any = interp cfg .any := by
  funext k; simp [keyFn, isOptionKeyTy]

/-- a position of type `ty` that on the node `t` is served by the same call as one of type `ty'` -/
theorem Ref.of_eq {df : Bool} {cfg : Cfg} {ty ty' : Ty} {t : ENode} (h : Ref df cfg ty' t)
    (hd : ∀ {buf : List Ev} {i : Nat} (ref : Option Loc) {rest : List Ev}, buf.drop i = eflatten t ++ rest → ∀ fuel,
      deser (fuel + 1) cfg ty false false (.replay buf i ref) = deser (fuel + 1) cfg ty' false false (.replay buf i ref))
    (hi : interp cfg ty t = interp cfg ty' t) : Ref df cfg ty t := by
  intro buf i ref rest hb
  refine Evt.succ ((Evt.shift (h buf i ref rest hb)).mono fun fuel hn => ?_)
  rw [hd ref hb, hi]
  exact hn

/-- the untyped target: scalars by the core schema; a sequence is read as `Vec<Any>`, a mapping as `HashMap<Any, Any>` -/
theorem ref_any {cfg : Cfg} {df : Bool} {t : ENode} (hk : kfree t = true)
    (hsub : ∀ t', depthOf t' < depthOf t → kfree t' = true → Ref df cfg .any t') : Ref df cfg .any t := by
  cases t with
  | scalar v tag rt st a l =>
    intro buf i ref rest h
    refine Evt.succ (Evt.of_forall fun fuel => ?_)
    have h' := drop_scalar h
    rw [deser, interp_any_scalar]
    simp only [Cursor.peek_replay_of_drop ref h']
    exact NodeOut.of_expect (by simpa using deserAnyScalar_scalar ref cfg h')
  | seq a tag rt l el items =>
    simp only [kfree_seq] at hk
    refine (ref_seq (te := .any) fun a' tag' rt' l' el' items' heq it hit => ?_).of_eq (fun ref _ hb fuel => ?_)
      (by rw [interp_any_seq, interp_seq_seq])
    · cases heq
      exact hsub it (by have := depthOfL_mem hit; simp; omega) (kfreeL_mem hk hit)
    · rw [deser, deser]
      simp only [Cursor.peek_replay_of_drop ref (drop_seq hb)]
  | map a l el entries =>
    refine (ref_map (kt := .any) (vt := .any) hk (fun e he => keyRef_ty (hsub e.1 he.1 he.2.2.1))
      (fun e he => hsub e.2 he.2.1 he.2.2.2.1)).of_eq (fun ref _ hb fuel => ?_) ?_
    · rw [deser, deser]
      simp only [Cursor.peek_replay_of_drop ref (drop_map hb)]
    · rw [interp_map_map, keyFn_any, interp_any_map]
      cases effEntries cfg.dup entries <;> rfl

end SaphyrVerif.Lemmas.C05
