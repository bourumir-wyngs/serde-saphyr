import SaphyrVerif.Lemmas.C01
/-!
Helper lemmas for C11: the recovery path `skipLoop` / `skipToNextDocument`.  The loop passes over every item but a
`DocumentStart`, a `StreamEnd` and a scan error (`skipPasses`, `skipLoop_pass`); `skipLoop_found` and `skipLoop_err` are
inductions over the items passed.
-/
namespace SaphyrVerif.Lemmas.C11
open SaphyrVerif SaphyrVerif.Scalars SaphyrVerif.Pump

def skipPasses : RawItem → Bool
  | .ev (.docStart _) _ | .ev .streamEnd _ | .err .. => false
  | _ => true

/-- passing over an item (`last_location` moves, a `DocumentEnd` resets the per-document state) leaves the look-ahead
slot alone -/
theorem skipLoop_pass {x : RawItem} (hx : skipPasses x = true) (p : Pump) (tl : List RawItem) :
    ∃ q, skipLoop p (x :: tl) = skipLoop q tl ∧ q.look = p.look := by
  cases x with
  | err ua l => cases hx
  | ev raw loc => cases raw <;> first | exact ⟨_, rfl, rfl⟩ | cases hx

theorem not_skipPasses {x : RawItem} (hx : skipPasses x = false) :
    (∃ b l, x = .ev (.docStart b) l) ∨ (∃ l, x = .ev .streamEnd l) ∨ ∃ ua l, x = .err ua l := by
  cases x with
  | err ua l => exact .inr (.inr ⟨ua, l, rfl⟩)
  | ev raw loc =>
    cases raw <;> first | exact .inl ⟨_, _, rfl⟩ | exact .inr (.inl ⟨_, rfl⟩) | cases hx

theorem skipLoop_found (inp : List RawItem) : ∀ (p p' : Pump) (rest : List RawItem),
    skipLoop p inp = (true, p', rest) →
    p'.look = p.look ∧ p'.inject = [] ∧ p'.recStack = [] ∧ p'.anchors = [] ∧ p'.perAnchor = [] ∧
    p'.totalReplayed = 0 ∧ p'.producedAny = false ∧
    ∃ pre b l, inp = pre ++ .ev (.docStart b) l :: rest ∧ ∀ x ∈ pre, ∀ b' l', x ≠ .ev (.docStart b') l' := by
  induction inp with
  | nil => intro p p' rest h; simp [skipLoop] at h
  | cons it tl ih =>
    intro p p' rest h
    cases hit : skipPasses it with
    | true =>
      obtain ⟨q, hq, hlook⟩ := skipLoop_pass hit p tl
      rw [hq] at h
      obtain ⟨h1, h2, h3, h4, h5, h6, h7, pre, b, l, he, hpre⟩ := ih q p' rest h
      refine ⟨h1.trans hlook, h2, h3, h4, h5, h6, h7, it :: pre, b, l, by rw [he]; rfl, ?_⟩
      intro x hx b' l' hc
      rcases List.mem_cons.mp hx with rfl | hx
      · rw [hc] at hit; cases hit
      · exact hpre x hx b' l' hc
    | false =>
      rcases not_skipPasses hit with ⟨b, l, rfl⟩ | ⟨l, rfl⟩ | ⟨ua, l, rfl⟩
      · simp only [skipLoop] at h
        split at h
        · simp at h
        · simp at h
          obtain ⟨rfl, rfl⟩ := h
          exact ⟨rfl, rfl, rfl, rfl, rfl, rfl, rfl, [], b, l, rfl, by simp⟩
      · simp [skipLoop] at h
      · simp [skipLoop] at h

theorem skipLoop_err (pre : List RawItem) (ua : Bool) (l : Loc) (rest : List RawItem)
    (hpre : ∀ x ∈ pre, (∀ b' l', x ≠ .ev (.docStart b') l') ∧ (∀ l', x ≠ .ev .streamEnd l') ∧
      (∀ u l', x ≠ .err u l')) :
    ∀ p : Pump, (skipLoop p (pre ++ .err ua l :: rest)).1 = false := by
  induction pre with
  | nil => intro p; simp [skipLoop]
  | cons it tl ih =>
    intro p
    obtain ⟨h1, h2, h3⟩ := hpre it (List.mem_cons_self ..)
    cases hit : skipPasses it with
    | true =>
      obtain ⟨q, hq, -⟩ := skipLoop_pass hit p (tl ++ .err ua l :: rest)
      rw [List.cons_append, hq]
      exact ih (fun x hx => hpre x (List.mem_cons_of_mem _ hx)) q
    | false =>
      rcases not_skipPasses hit with ⟨b, l', rfl⟩ | ⟨l', rfl⟩ | ⟨u, l', rfl⟩
      · exact absurd rfl (h1 b l')
      · exact absurd rfl (h2 l')
      · exact absurd rfl (h3 u l')

/-- a run that finds a document has consumed at least its `DocumentStart` -/
theorem skipLoop_length (inp : List RawItem) (p : Pump) (h : (skipLoop p inp).1 = true) :
    (skipLoop p inp).2.2.length < inp.length := by
  obtain ⟨consumed, he, hne⟩ := Lemmas.C01.skipLoop_progress p inp
  cases consumed with
  | nil => rw [hne rfl] at h; cases h
  | cons x xs =>
    have := congrArg List.length he
    simp only [List.length_append, List.length_cons] at this
    omega

end SaphyrVerif.Lemmas.C11
