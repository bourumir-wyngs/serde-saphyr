import SaphyrVerif.Lemmas.C20_Flow
/-!
The reference reader on the one-line flow text of the flow fragment (`read_flow_shapes`), and the flow wrappers at the
root: the line that `FlowSeq` / `FlowMap` emit reads back as one document (`read_flow_doc_pro`).
-/
namespace SaphyrVerif.Emit

/-- what follows a node inside a flow collection: nothing, or `,` / `]` / `}` -/
def FlowRest (rest : List Char) : Prop :=
  rest = [] ∨ ∃ c r, rest = c :: r ∧ (c = ',' ∨ c = ']' ∨ c = '}')

theorem tok_not_flowIndicator {c : Char} (h : isTokChar c = true) : isFlowIndicator c = false := by
  cases hc : isFlowIndicator c with
  | false => rfl
  | true =>
    simp only [isFlowIndicator, Bool.or_eq_true, beq_iff_eq] at hc
    rcases hc with (((rfl | rfl) | rfl) | rfl) | rfl <;> exact absurd h (by decide)

/-- what may follow a plain token inside a flow collection: what follows a node (`FlowRest`), or — after a key — `: ` -/
def FlowStop (rest : List Char) : Prop := FlowRest rest ∨ ∃ after, rest = ':' :: ' ' :: after

theorem flowPlain_tok (t acc rest : List Char) (h : ∀ c ∈ t, isTokChar c = true) (hr : FlowStop rest) :
    flowPlain acc (t ++ rest) = (trimEndSpaces (acc.reverse ++ t), rest) := by
  induction t generalizing acc with
  | nil =>
    simp only [List.nil_append, List.append_nil]
    rcases hr with (rfl | ⟨c, r, rfl, hc⟩) | ⟨after, rfl⟩
    · simp [flowPlain]
    · have hfi : isFlowIndicator c = true := by rcases hc with rfl | rfl | rfl <;> decide
      have h1 : c ≠ ':' := by rcases hc with rfl | rfl | rfl <;> decide
      have h2 : c ≠ ' ' := by rcases hc with rfl | rfl | rfl <;> decide
      unfold flowPlain
      split
      · rename_i he; exact absurd he (by simp)
      · rename_i he; simp only [List.cons.injEq] at he; exact absurd he.1 h1
      · rename_i he; simp only [List.cons.injEq] at he; exact absurd he.1 h2
      · rename_i c' r' he
        simp only [List.cons.injEq] at he
        obtain ⟨rfl, rfl⟩ := he
        simp [hfi]
    · simp [flowPlain]
  | cons c cs ih =>
    have hc := h c (by simp)
    have hcs : ∀ x ∈ cs, isTokChar x = true := fun x hx => h x (by simp [hx])
    simp only [List.cons_append]
    unfold flowPlain
    split
    · rename_i he; exact absurd he (by simp)
    · rename_i he; simp only [List.cons.injEq] at he; rw [he.1] at hc; exact absurd hc (by decide)
    · rename_i he; simp only [List.cons.injEq] at he; rw [he.1] at hc; exact absurd hc (by decide)
    · rename_i c' r' he
      simp only [List.cons.injEq] at he
      obtain ⟨rfl, rfl⟩ := he
      simp only [tok_not_flowIndicator hc, Bool.false_eq_true, if_false]
      rw [ih _ hcs]; simp

theorem dropSpaces_spaces (k : Nat) (cs : List Char) : dropSpaces (spaces k ++ cs) = dropSpaces cs := by
  induction k with
  | zero => rfl
  | succ n ih => rw [← ih]; simp [spaces, List.replicate_succ, dropSpaces]

/-! The flow reader skips the blanks before a node, an item, an entry: the statements below are about a text that starts at
its first character. -/

theorem flowNode_spaces (fuel k : Nat) (cs : List Char) : flowNode fuel (spaces k ++ cs) = flowNode fuel cs := by
  cases fuel <;> simp only [flowNode, dropSpaces_spaces]

theorem flowSeqItems_spaces (fuel k : Nat) (cs : List Char) : flowSeqItems fuel (spaces k ++ cs) = flowSeqItems fuel cs := by
  cases fuel <;> simp only [flowSeqItems, flowNode_spaces]

theorem flowMapEntries_spaces (fuel k : Nat) (cs : List Char) : flowMapEntries fuel (spaces k ++ cs) = flowMapEntries fuel cs := by
  cases fuel <;> simp only [flowMapEntries, flowNode_spaces]

theorem flowNode_tok (fuel : Nat) {t : List Char} (rest : List Char) (ht : PlainTok t) (hr : FlowStop rest) :
    flowNode (fuel + 1) (t ++ rest) = some (resolvePlain t, rest) := by
  obtain ⟨c, cs, rfl, hc⟩ := ht.head
  have hsp : c ≠ ' ' := fun e => by rw [e] at hc; exact absurd hc (by decide)
  have hds : dropSpaces ((c :: cs) ++ rest) = (c :: cs) ++ rest := by simp [dropSpaces, hsp]
  have hsk : skipTag ((c :: cs) ++ rest) = (c :: cs) ++ rest := skipTag_tok (c := c) (cs := cs ++ rest) rfl hc
  have hne : ∀ x : Char, isTokChar x = false → (c == x) = false := fun x hx => by
    simp only [beq_eq_false_iff_ne]; exact isTokChar_ne hc x hx
  have hq1 : c ≠ '[' := fun e => by rw [e] at hc; exact absurd hc (by decide)
  have hq2 : c ≠ '{' := fun e => by rw [e] at hc; exact absurd hc (by decide)
  have hq3 : c ≠ '"' := fun e => by rw [e] at hc; exact absurd hc (by decide)
  have hq4 : c ≠ '\'' := fun e => by rw [e] at hc; exact absurd hc (by decide)
  rw [flowNode, hds, hsk]
  simp only [List.cons_append]
  split
  · rename_i he; simp only [List.cons.injEq] at he; exact absurd he.1 hq1
  · rename_i he; simp only [List.cons.injEq] at he; exact absurd he.1 hq2
  · rename_i he; simp only [List.cons.injEq] at he; exact absurd he.1 hq3
  · rename_i he; simp only [List.cons.injEq] at he; exact absurd he.1 hq4
  · rename_i cs' _ _ _ _
    split
    · rename_i he; exact absurd he (by simp)
    · rename_i c' r' he
      simp only [List.cons.injEq] at he
      obtain ⟨rfl, rfl⟩ := he
      simp only [hne '&' (by decide), hne '*' (by decide), hne '%' (by decide), hne '@' (by decide), hne '`' (by decide),
        hne '#' (by decide), tok_not_flowIndicator hc, Bool.or_self, Bool.false_eq_true, if_false]
      have := flowPlain_tok (c :: cs) [] rest ht.chars hr
      simp only [List.cons_append, List.reverse_nil, List.nil_append] at this
      rw [this]
      simp [trimEndSpaces_tok ht.chars]

/-- a safe key inside a flow mapping: the scan stops at `: ` -/
theorem flowNode_key (fuel : Nat) {key : List Char} (after : List Char) (hk : isSafeStr key = true) :
    flowNode (fuel + 1) (key ++ ':' :: ' ' :: after) = some (.str key, ':' :: ' ' :: after) := by
  rw [← resolvePlain_safe hk]
  exact flowNode_tok fuel _ (safe_plainTok hk) (Or.inr ⟨after, rfl⟩)

/-- first character of a flow text: a token character or an opening bracket -/
def FlowHead (txt : List Char) : Prop := ∃ c cs, txt = c :: cs ∧ (isTokChar c = true ∨ c = '[' ∨ c = '{')

theorem PlainTok.flowHead {t : List Char} (ht : PlainTok t) : FlowHead t := by
  obtain ⟨c, cs, e, hc⟩ := ht.head; exact ⟨c, cs, e, Or.inl hc⟩

theorem FlowHead.skip {t : List Char} (h : FlowHead t) (rest : List Char) :
    ∃ c cs, t ++ rest = c :: cs ∧ c ≠ ' ' ∧ c ≠ ',' ∧ c ≠ ']' ∧ c ≠ '}' := by
  obtain ⟨c, cs, rfl, hc⟩ := h
  refine ⟨c, cs ++ rest, rfl, ?_⟩
  rcases hc with h | rfl | rfl
  · refine ⟨?_, ?_, ?_, ?_⟩ <;> (rintro rfl; exact absurd h (by decide))
  · decide
  · decide

theorem FlowHead.append {t : List Char} (h : FlowHead t) (rest : List Char) : FlowHead (t ++ rest) := by
  obtain ⟨c, cs, rfl, hc⟩ := h; exact ⟨c, cs ++ rest, rfl, hc⟩

theorem flowNode_open_seq (fuel : Nat) (body : List Char) :
    flowNode (fuel + 1) ('[' :: body) =
      (match dropSpaces body with
       | ']' :: r => some (.seq [], r)
       | _ => (flowSeqItems fuel body).map fun (xs, r) => (.seq xs, r)) := by
  rw [flowNode, show dropSpaces ('[' :: body) = '[' :: body by simp [dropSpaces]]
  simp [skipTag]
  rfl

theorem flowNode_open_map (fuel : Nat) (body : List Char) :
    flowNode (fuel + 1) ('{' :: body) =
      (match dropSpaces body with
       | '}' :: r => some (.map [], r)
       | _ => match flowMapEntries fuel body with
         | some (es, r) => if hasDupKey es then none else some (.map es, r)
         | none => none) := by
  rw [flowNode, show dropSpaces ('{' :: body) = '{' :: body by simp [dropSpaces]]
  simp [skipTag]
  rfl

/-- `[` before a flow text: the sequence is not the empty one -/
theorem flowNode_seq_head {t : List Char} (h : FlowHead t) (fuel : Nat) (body : List Char) :
    flowNode (fuel + 1) ('[' :: (t ++ body)) = (flowSeqItems fuel (t ++ body)).map fun (xs, r) => (.seq xs, r) := by
  obtain ⟨c, cs, e, h1, _, h3, _⟩ := h.skip body
  rw [flowNode_open_seq, e]
  simp [dropSpaces, h1, h3]

/-- `{` before a flow text: the mapping is not the empty one -/
theorem flowNode_map_head {t : List Char} (h : FlowHead t) (fuel : Nat) (body : List Char) :
    flowNode (fuel + 1) ('{' :: (t ++ body)) =
      (match flowMapEntries fuel (t ++ body) with
       | some (es, r) => if hasDupKey es then none else some (.map es, r)
       | none => none) := by
  obtain ⟨c, cs, e, h1, _, _, h4⟩ := h.skip body
  rw [flowNode_open_map, e]
  simp [dropSpaces, h1, h4]

theorem flowRest_cons {c : Char} (r : List Char) (hc : c = ',' ∨ c = ']' ∨ c = '}') : FlowRest (c :: r) := Or.inr ⟨c, r, rfl, hc⟩

theorem flowRest_tail (t rest : List Char) (c : Char) (hc : c = ',' ∨ c = ']' ∨ c = '}') : FlowRest (c :: t ++ rest) :=
  flowRest_cons _ hc

/-- a string that is none of the keys is none of the keys the reader compares -/
theorem no_key_erase_flow {kt : List Char} : ∀ (es : List (SVal × SVal)), inFlowFragEntries es = true → kt ∉ keysOf es →
    (eraseEntries es).any (fun e => e.1 == PVal.str kt) = false
  | [], _, _ => rfl
  | (k, v) :: es, hv, hn => by
    obtain ⟨kt', rfl, hkv⟩ := inFlowFragEntries_cons hv
    simp only [keysOf, List.mem_cons, not_or] at hn
    simp only [eraseEntries, erase, List.any_cons, Bool.or_eq_false_iff]
    refine ⟨?_, no_key_erase_flow es hkv.2 hn.2⟩
    rw [Bool.eq_false_iff]
    show ¬ PVal.beq (PVal.str kt') (PVal.str kt) = true
    simp only [PVal.beq, beq_iff_eq]
    exact fun e => hn.1 e.symm

/-- distinct string keys: the reader's duplicate-key check passes (flow fragment) -/
theorem hasDupKey_erase_flow : ∀ (es : List (SVal × SVal)), inFlowFragEntries es = true → (keysOf es).Nodup →
    hasDupKey (eraseEntries es) = false
  | [], _, _ => rfl
  | (k, v) :: es, hv, hn => by
    obtain ⟨kt, rfl, hkv⟩ := inFlowFragEntries_cons hv
    simp only [keysOf, List.nodup_cons] at hn
    simp only [eraseEntries, erase, hasDupKey, Bool.or_eq_false_iff]
    exact ⟨no_key_erase_flow es hkv.2 hn.1, hasDupKey_erase_flow es hkv.2 hn.2⟩

/-- the reader on a flow text: `txt` starts as a node does and reads as `p`, whatever follows -/
structure ReadsFlow (txt : List Char) (p : PVal) : Prop where
  head : FlowHead txt
  reads : ∀ (fuel : Nat) (rest : List Char), fuel ≥ txt.length + 1 → FlowRest rest → flowNode fuel (txt ++ rest) = some (p, rest)

/-- … on the items of a non-empty flow sequence up to and including `]` -/
def ReadsFlowItems (xs : List SVal) : Prop :=
  xs ≠ [] → FlowHead (flowItems xs) ∧ ∀ (fuel : Nat) (rest : List Char), fuel ≥ (flowItems xs).length + 2 →
    flowSeqItems fuel (flowItems xs ++ ']' :: rest) = some (eraseList xs, rest)

/-- … on the entries of a non-empty flow mapping up to and including `}` -/
def ReadsFlowEntries (es : List (SVal × SVal)) : Prop :=
  es ≠ [] → FlowHead (flowEntries es) ∧ ∀ (fuel : Nat) (rest : List Char), fuel ≥ (flowEntries es).length + 2 →
    flowMapEntries fuel (flowEntries es ++ '}' :: rest) = some (eraseEntries es, rest)

theorem reads_flow_tok {t : List Char} (ht : PlainTok t) : ReadsFlow t (resolvePlain t) := by
  refine ⟨ht.flowHead, fun fuel rest hf hr => ?_⟩
  obtain ⟨f', rfl⟩ : ∃ f', fuel = f' + 1 := ⟨fuel - 1, by omega⟩
  exact flowNode_tok f' rest ht (Or.inl hr)

/-! One step of the reader's loops: an item and what follows it, an entry `key: value` and what follows it. -/

/-- the value after `key: ` -/
theorem flowValue_reads {txt : List Char} {p : PVal} (hr : ReadsFlow txt p) (fuel : Nat) (rest : List Char)
    (hf : fuel ≥ txt.length + 1) (hrest : FlowRest rest) : flowValue (fuel + 1) (' ' :: (txt ++ rest)) = some (p, rest) := by
  obtain ⟨c, cs, e, h1, h2, h3, h4⟩ := hr.head.skip rest
  rw [← hr.reads fuel rest hf hrest, e]
  simp [flowValue, dropSpaces, h1, h2, h3, h4]

theorem flowSeqItems_last {txt : List Char} {p : PVal} (hr : ReadsFlow txt p) (fuel : Nat) (rest : List Char)
    (hf : fuel ≥ txt.length + 1) : flowSeqItems (fuel + 1) (txt ++ ']' :: rest) = some ([p], rest) := by
  rw [flowSeqItems, hr.reads fuel _ hf (flowRest_cons _ (by decide))]
  simp [dropSpaces]

theorem flowSeqItems_more {txt : List Char} {p : PVal} (hr : ReadsFlow txt p) {nxt : List Char} (hn : FlowHead nxt) (fuel : Nat)
    (more : List Char) (hf : fuel ≥ txt.length + 1) :
    flowSeqItems (fuel + 1) (txt ++ ',' :: ' ' :: (nxt ++ more)) =
      (flowSeqItems fuel (nxt ++ more)).map fun (vs, r) => (p :: vs, r) := by
  obtain ⟨c, cs, e, h1, _, h3, _⟩ := hn.skip more
  rw [flowSeqItems, hr.reads fuel _ hf (flowRest_cons _ (by decide)), ← flowSeqItems_spaces fuel 1 (nxt ++ more), e]
  simp [dropSpaces, spaces, h1, h3]

theorem flowMapEntries_last {key txt : List Char} {p : PVal} (hk : isSafeStr key = true) (hr : ReadsFlow txt p)
    (fuel : Nat) (rest : List Char) (hf : fuel ≥ txt.length + 1) :
    flowMapEntries (fuel + 1 + 1) (key ++ ':' :: ' ' :: (txt ++ '}' :: rest)) = some ([(.str key, p)], rest) := by
  rw [flowMapEntries, flowNode_key fuel _ hk]
  simp [dropSpaces, flowValue_reads hr fuel ('}' :: rest) hf (flowRest_cons _ (by decide))]

theorem flowMapEntries_more {key txt : List Char} {p : PVal} (hk : isSafeStr key = true) (hr : ReadsFlow txt p)
    {nxt : List Char} (hn : FlowHead nxt) (fuel : Nat) (more : List Char) (hf : fuel ≥ txt.length + 1) :
    flowMapEntries (fuel + 1 + 1) (key ++ ':' :: ' ' :: (txt ++ ',' :: ' ' :: (nxt ++ more))) =
      (flowMapEntries (fuel + 1) (nxt ++ more)).map fun (es, r) => ((.str key, p) :: es, r) := by
  obtain ⟨c, cs, e, h1, _, _, h4⟩ := hn.skip more
  rw [flowMapEntries, flowNode_key fuel _ hk, ← flowMapEntries_spaces (fuel + 1) 1 (nxt ++ more), e]
  simp [dropSpaces, spaces, h1, h4, flowValue_reads hr fuel (',' :: ' ' :: c :: cs) hf (flowRest_cons _ (by decide))]

theorem reads_flow_seq {xs : List SVal} (hitems : ReadsFlowItems xs) :
    ReadsFlow ('[' :: flowItems xs ++ [']']) (.seq (eraseList xs)) := by
  refine ⟨⟨'[', _, rfl, Or.inr (Or.inl rfl)⟩, fun fuel rest hf _ => ?_⟩
  obtain ⟨f', rfl⟩ : ∃ f', fuel = f' + 1 := ⟨fuel - 1, by omega⟩
  simp only [List.cons_append, List.nil_append, List.append_assoc, List.length_cons, List.length_append] at hf ⊢
  cases xs with
  | nil => simp [flowItems, flowNode_open_seq, dropSpaces, eraseList]
  | cons x xs' =>
    obtain ⟨hh, hi⟩ := hitems (by simp)
    rw [flowNode_seq_head hh, hi f' rest (by omega)]
    rfl

theorem reads_flow_map {es : List (SVal × SVal)} (hdup : hasDupKey (eraseEntries es) = false)
    (hentries : ReadsFlowEntries es) : ReadsFlow ('{' :: flowEntries es ++ ['}']) (.map (eraseEntries es)) := by
  refine ⟨⟨'{', _, rfl, Or.inr (Or.inr rfl)⟩, fun fuel rest hf _ => ?_⟩
  obtain ⟨f', rfl⟩ : ∃ f', fuel = f' + 1 := ⟨fuel - 1, by omega⟩
  simp only [List.cons_append, List.nil_append, List.append_assoc, List.length_cons, List.length_append] at hf ⊢
  cases es with
  | nil => simp [flowEntries, flowNode_open_map, dropSpaces, eraseEntries]
  | cons e es' =>
    obtain ⟨hh, hi⟩ := hentries (by simp)
    rw [flowNode_map_head hh, hi f' rest (by omega)]
    simp [hdup]

theorem reads_flow_variant {n : List Char} (hn : isSafeStr n = true) {txt : List Char} {p : PVal}
    (hr : ReadsFlow txt p) : ReadsFlow (flowVariant n txt) (.map [(.str n, p)]) := by
  refine ⟨⟨'{', _, rfl, Or.inr (Or.inr rfl)⟩, fun fuel rest hf _ => ?_⟩
  simp only [flowVariant, List.length_cons, List.length_append, List.length_nil] at hf
  obtain ⟨f', rfl⟩ : ∃ f', fuel = f' + 1 + 1 + 1 := ⟨fuel - 3, by omega⟩
  simp only [flowVariant, List.append_assoc, List.cons_append, List.nil_append]
  rw [flowNode_map_head (safe_plainTok hn).flowHead, flowMapEntries_last hn hr f' rest (by omega)]
  rfl

/-- the reader on the flow text of every value of the flow fragment, on the items of a flow sequence, on the entries of a
flow mapping -/
theorem read_flow_shapes :
    (∀ v, inFlowFrag v = true → ReadsFlow (flowTxt v) (erase v)) ∧ (∀ xs, inFlowFragList xs = true → ReadsFlowItems xs) ∧
    (∀ es, inFlowFragEntries es = true → ReadsFlowEntries es) := by
  refine inFlowFrag.shapes_all ?leaf ?str ?unit ?wrap ?seq ?map ?nv ?tv ?sv ?nil ?cons ?enil ?ekey
  case leaf =>
    intro v hl
    obtain ⟨tok, ht⟩ := leafTok_of_isLeaf plainToks hl
    rw [flowTxt_leaf ht, ← (leafTok_plainTok ht).2.1]
    exact reads_flow_tok (leafTok_plainTok ht).1
  case str => exact fun t ht => by simpa [flowTxt, erase, resolvePlain_safe ht] using reads_flow_tok (safe_plainTok ht)
  case unit => exact fun e n hn => by simpa [flowTxt, erase, resolvePlain_safe hn] using reads_flow_tok (safe_plainTok hn)
  case wrap => exact fun v _ h => by simpa only [flowTxt, erase, and_self] using h
  case seq => exact fun xs _ hitems => by simpa only [flowTxt, erase, and_self] using reads_flow_seq hitems
  case map => exact fun known es hv hn hentries => by simpa only [flowTxt, erase] using reads_flow_map (hasDupKey_erase_flow es hv hn) hentries
  case nv => exact fun n v hn _ h => by simpa only [flowTxt, erase] using reads_flow_variant hn h
  case tv => exact fun n xs h => by simpa only [flowTxt, erase] using h
  case sv => exact fun n fs h => by simpa only [flowTxt, erase] using h
  case nil => exact fun hne => absurd rfl hne
  case cons =>
    intro x xs _ _ h1 hrest _
    refine ⟨by simpa only [flowItems] using h1.head.append _, fun fuel rest hf => ?_⟩
    obtain ⟨f', rfl⟩ : ∃ f', fuel = f' + 1 := ⟨fuel - 1, by omega⟩
    cases xs with
    | nil =>
      simp only [flowItems, flowItemsTail, List.append_nil] at hf ⊢
      exact flowSeqItems_last h1 f' rest (by omega)
    | cons y ys =>
      obtain ⟨hn, h2⟩ := hrest (by simp)
      have e : flowItems (x :: y :: ys) = flowTxt x ++ ',' :: ' ' :: flowItems (y :: ys) := by simp [flowItems, flowItemsTail]
      rw [e] at hf ⊢
      simp only [List.length_append, List.length_cons] at hf
      rw [List.append_assoc, List.cons_append, List.cons_append, flowSeqItems_more h1 hn f' _ (by omega), h2 f' rest (by omega)]
      rfl
  case enil => exact fun hne => absurd rfl hne
  case ekey =>
    intro kt v es hk _ _ h1 hrest _
    refine ⟨by simpa only [flowEntries, keyOf, Option.getD_some, List.append_assoc] using (safe_plainTok hk).flowHead.append _,
      fun fuel rest hf => ?_⟩
    cases es with
    | nil =>
      simp only [flowEntries, flowEntriesTail, keyOf, Option.getD_some, List.append_nil, List.length_append, List.length_cons] at hf
      obtain ⟨f', rfl⟩ : ∃ f', fuel = f' + 1 + 1 := ⟨fuel - 2, by omega⟩
      simp only [flowEntries, flowEntriesTail, keyOf, Option.getD_some, List.append_nil, List.append_assoc, List.cons_append]
      exact flowMapEntries_last hk h1 f' rest (by omega)
    | cons e2 es' =>
      obtain ⟨hn, h3⟩ := hrest (by simp)
      have e : flowEntries ((.str kt, v) :: e2 :: es') = kt ++ ':' :: ' ' :: (flowTxt v ++ ',' :: ' ' :: flowEntries (e2 :: es')) := by
        obtain ⟨k2, v2⟩ := e2; simp [flowEntries, flowEntriesTail, keyOf]
      rw [e] at hf ⊢
      simp only [List.length_append, List.length_cons] at hf
      obtain ⟨f', rfl⟩ : ∃ f', fuel = f' + 1 + 1 := ⟨fuel - 2, by omega⟩
      rw [List.append_assoc, List.cons_append, List.cons_append, List.append_assoc, List.cons_append, List.cons_append,
        flowMapEntries_more hk h1 hn f' _ (by omega), h3 (f' + 1) rest (by omega)]
      rfl

theorem read_flow : ∀ (v : SVal), inFlowFrag v = true → ReadsFlow (flowTxt v) (erase v) := read_flow_shapes.1
theorem read_flow_entries : ∀ (es : List (SVal × SVal)), es ≠ [] → inFlowFragEntries es = true → ∀ (fuel k : Nat) (rest : List Char),
    fuel ≥ (flowEntries es).length + 2 →
    flowMapEntries fuel (spaces k ++ flowEntries es ++ '}' :: rest) = some (eraseEntries es, rest) :=
  fun es hne hv fuel k rest hf => by
    rw [List.append_assoc, flowMapEntries_spaces]
    exact (read_flow_shapes.2.2 es hv hne).2 fuel rest hf

theorem flowVariant_lay {n txt : List Char} (hn : isSafeStr n = true) (ht : AllLay txt) : AllLay (flowVariant n txt) := by
  have h : AllLay (['{'] ++ (n ++ ([':', ' '] ++ (txt ++ ['}'])))) :=
    AllLay.append (allLay_lit _ (by decide)) ((allLay_safe hn).append
      (AllLay.append (allLay_lit _ (by decide)) (ht.append (allLay_lit ['}'] (by decide)))))
  simpa [flowVariant] using h

theorem flow_lay_shapes :
    (∀ v, inFlowFrag v = true → AllLay (flowTxt v)) ∧
    (∀ xs, inFlowFragList xs = true → AllLay (flowItems xs) ∧ AllLay (flowItemsTail xs)) ∧
    (∀ es, inFlowFragEntries es = true → AllLay (flowEntries es) ∧ AllLay (flowEntriesTail es)) := by
  have hbr : ∀ (a z : Char) {t : List Char}, lineChar a = true → lineChar z = true → AllLay t → AllLay (a :: t ++ [z]) :=
    fun a z t ha hz ht => AllLay.append (a := a :: t) (AllLay.append (a := [a]) (fun x hx => by simp at hx; subst hx; exact ha) ht)
      (fun x hx => by simp at hx; subst hx; exact hz)
  refine inFlowFrag.shapes_all ?leaf ?str ?unit ?wrap ?seq ?map ?nv ?tv ?sv ?nil ?cons ?enil ?ekey
  case leaf =>
    intro v hl
    obtain ⟨tok, ht⟩ := leafTok_of_isLeaf plainToks hl
    rw [flowTxt_leaf ht]
    exact allLay_tok (leafTok_plainTok ht).1
  case str => exact fun t ht => allLay_safe ht
  case unit => exact fun _ n hn => allLay_safe hn
  case wrap => exact fun v _ h => by simpa only [flowTxt, and_self] using h
  case seq => exact fun xs _ h => by simpa only [flowTxt, and_self] using hbr '[' ']' (by decide) (by decide) h.1
  case map => exact fun _ es _ _ h => by simpa only [flowTxt] using hbr '{' '}' (by decide) (by decide) h.1
  case nv => exact fun n v hn _ h => by simpa only [flowTxt] using flowVariant_lay hn h
  case tv => exact fun n xs h => by simpa only [flowTxt] using h
  case sv => exact fun n fs h => by simpa only [flowTxt] using h
  case nil => exact ⟨allLay_nil, allLay_nil⟩
  case cons =>
    intro x xs _ _ h1 h2
    exact ⟨h1.append h2.2, AllLay.append (a := [',', ' ']) (allLay_lit _ (by decide)) (h1.append h2.2)⟩
  case enil => exact ⟨allLay_nil, allLay_nil⟩
  case ekey =>
    intro kt v es hk _ _ h1 h2
    have h3 : AllLay (kt ++ ':' :: ' ' :: flowTxt v ++ flowEntriesTail es) := by
      simpa using (allLay_safe hk).append (AllLay.append (a := [':', ' ']) (allLay_lit _ (by decide)) (h1.append h2.2))
    refine ⟨by simpa [flowEntries, keyOf] using h3, ?_⟩
    simpa [flowEntriesTail, keyOf] using AllLay.append (a := [',', ' ']) (allLay_lit _ (by decide)) h3

theorem flowTxt_lay : ∀ (v : SVal), inFlowFrag v = true → AllLay (flowTxt v) := flow_lay_shapes.1
theorem flowItems_lay : ∀ (xs : List SVal), inFlowFragList xs = true → AllLay (flowItems xs) ∧ AllLay (flowItemsTail xs) :=
  flow_lay_shapes.2.1
theorem flowEntries_lay : ∀ (es : List (SVal × SVal)), inFlowFragEntries es = true →
    AllLay (flowEntries es) ∧ AllLay (flowEntriesTail es) := flow_lay_shapes.2.2

/-- a one-line flow collection as the only line of a document: a good line that reads as the collection -/
theorem flow_line_root (t : List Char) (pv : PVal) (hl : AllLay t)
    (hs : ∃ cs, t = '[' :: cs ∨ t = '{' :: cs)
    (hread : flowNode (t.length + 2) t = some (pv, [])) :
    AllGood [⟨0, t⟩] ∧ ∀ fuel, fuel ≥ 2 * mu [⟨0, t⟩] + 2 → blockNode fuel 0 none false [⟨0, t⟩] = some (pv, []) := by
  have hgl : GoodLine ⟨0, t⟩ := bracketLine_good hs hl
  refine ⟨AllGood.cons hgl allGood_nil, ?_⟩
  intro fuel hf
  obtain ⟨f', rfl⟩ : ∃ f', fuel = f' + 1 := ⟨fuel - 1, by omega⟩
  rw [blockNode, skipBlank_cons [] (goodLine_notSkippable hgl)]
  obtain ⟨cs, h | h⟩ := hs
  · subst h
    simp [classify, skipTag, flowAcross, hread] at hread ⊢
  · subst h
    simp [classify, skipTag, flowAcross, hread] at hread ⊢

theorem readDoc_flow_line_pro (o : Opts) (t : List Char) (pv : PVal) (hl : AllLay t)
    (hs : ∃ cs, t = '[' :: cs ∨ t = '{' :: cs)
    (hread : flowNode (t.length + 2) t = some (pv, [])) : readDoc (prologue o ++ t ++ ['\n']) = some pv := by
  obtain ⟨hg, hr⟩ := flow_line_root t pv hl hs hread
  simpa [renderLines, spaces] using readDoc_prologue o [⟨0, t⟩] pv hg (FirstLine.ofGood (bracketLine_good hs hl) _) hr

/-- the reader on the one-line flow text of a sequence / mapping of the flow fragment, after the prologue of `yaml_12` if any -/
theorem read_flow_doc_pro (o : Opts) (v : SVal) (hv : inFlowFrag v = true) (hs : ∃ cs, flowTxt v = '[' :: cs ∨ flowTxt v = '{' :: cs) :
    readDoc (prologue o ++ flowTxt v ++ ['\n']) = some (erase v) := by
  refine readDoc_flow_line_pro o _ _ (flowTxt_lay v hv) hs ?_
  simpa using (read_flow v hv).reads ((flowTxt v).length + 2) [] (by omega) (Or.inl rfl)

/-- … where there is no prologue -/
theorem read_flow_doc (v : SVal) (hv : inFlowFrag v = true) (hs : ∃ cs, flowTxt v = '[' :: cs ∨ flowTxt v = '{' :: cs) :
    readDoc (flowTxt v ++ ['\n']) = some (erase v) := read_flow_doc_pro {} v hv hs

end SaphyrVerif.Emit
