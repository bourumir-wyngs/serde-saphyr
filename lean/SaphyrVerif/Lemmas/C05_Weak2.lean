import SaphyrVerif.Lemmas.C05_Weak1
import SaphyrVerif.Lemmas.DeEqnsLoops
/-!
`Stays` (`Lemmas/C05_Weak1.lean`) for the functions of the mutual block that do not call `deser`: skipping, capturing, the
tagged sequence collector, the merge readers; the recursive ones each by its own induction on the fuel (the three capture
functions together, `WeakCap`).  A loop that peeks goes by its equation
in `Lemmas/DeEqnsLoops.lean`: the item is treated once, before the event under the cursor is split into its kinds.
-/
namespace SaphyrVerif.Lemmas.C05
open SaphyrVerif SaphyrVerif.Scalars SaphyrVerif.Pump SaphyrVerif.De SaphyrVerif.Spec
variable {cfg : Cfg} {buf : List Ev} {ref : Option Loc}

theorem skipDepth_weak (fuel : Nat) : ∀ {i : Nat} {depth : Nat} {u : Unit} {c' : Cur},
    skipDepth fuel (.replay buf i ref) depth = .ok u c' → Stays buf ref i depth c' := by
  induction fuel with
  | zero => intro i depth u c' h; rw [skipDepth] at h; contradiction
  | succ fuel ih =>
    intro i depth u c' h
    rw [skipDepth] at h
    split at h
    · weak_leaf
    · rename_i hd
      have hd : depth ≠ 0 := by simpa using hd
      weak_ev
      · contradiction
      all_goals exact Stays.step hb (ih h) (by simp only [Ev.delta]; omega) (by omega)

theorem skipOneNode_weak {fuel : Nat} {i : Nat} {u : Unit} {c' : Cur}
    (h : skipOneNode fuel (.replay buf i ref) = .ok u c') : Stays buf ref i 0 c' := by
  cases fuel with
  | zero => rw [skipOneNode] at h; contradiction
  | succ fuel =>
    rw [skipOneNode] at h
    weak_ev
    all_goals first
      | weak_leaf
      | exact Stays.step hb (skipDepth_weak fuel h) (by simp [Ev.delta]) (by omega)

theorem collectTaggedSeq_weak (fuel : Nat) : ∀ {i : Nat} {depth : Nat} {acc r : List Ev} {c' : Cur},
    collectTaggedSeq fuel (.replay buf i ref) depth acc = .ok r c' → Stays buf ref i depth c' := by
  induction fuel with
  | zero => intro i depth acc r c' h; rw [collectTaggedSeq] at h; contradiction
  | succ fuel ih =>
    intro i depth acc r c' h
    rw [collectTaggedSeq] at h
    split at h
    · weak_leaf
    · rename_i hd
      have hd : depth ≠ 0 := by simpa using hd
      weak_ev
      · contradiction
      all_goals exact Stays.step hb (ih h) (by simp only [Ev.delta]; omega) (by omega)

structure WeakCap (buf : List Ev) (ref : Option Loc) (fuel : Nat) : Prop where
  capture : ∀ {i : Nat} {n : KeyNode} {c' : Cur},
    capture fuel (.replay buf i ref) = .ok n c' → Stays buf ref i 0 c'
  captureSeq : ∀ {i : Nat} {fps : List FP} {evs : List Ev} {r : List FP × List Ev} {c' : Cur},
    captureSeq fuel (.replay buf i ref) fps evs = .ok r c' → Stays buf ref i 1 c'
  captureMap : ∀ {i : Nat} {fps : List (FP × FP)} {evs : List Ev} {r : List (FP × FP) × List Ev} {c' : Cur},
    captureMap fuel (.replay buf i ref) fps evs = .ok r c' → Stays buf ref i 1 c'

theorem weakCap (fuel : Nat) : WeakCap buf ref fuel := by
  induction fuel with
  | zero =>
    constructor
    · intro i n c' h; rw [capture] at h; contradiction
    · intro i fps evs r c' h; rw [captureSeq] at h; contradiction
    · intro i fps evs r c' h; rw [captureMap] at h; contradiction
  | succ fuel ih =>
    have item : ∀ {i fps evs r c'}, csItem fuel (.replay buf i ref) fps evs = .ok r c' → Stays buf ref i 1 c' := by
      intro i fps evs r c' h
      unfold csItem at h
      split at h
      · contradiction
      · rename_i hq
        exact (ih.capture hq).trans (fun j hj => by subst hj; exact ih.captureSeq h) (by omega)
    have entry : ∀ {i fps evs r c'}, cmEntry fuel (.replay buf i ref) fps evs = .ok r c' → Stays buf ref i 1 c' := by
      intro i fps evs r c' h
      unfold cmEntry at h
      split at h
      · contradiction
      · rename_i hq
        refine (ih.capture hq).trans (k' := 1) (fun j hj => ?_) (by omega)
        subst hj
        split at h
        · contradiction
        · rename_i hq2
          exact (ih.capture hq2).trans (fun j hj => by subst hj; exact ih.captureMap h) (by omega)
    constructor
    · intro i n c' h
      rw [capture] at h
      weak_ev
      all_goals try weak_leaf
      · split at h
        · contradiction
        · rename_i hq; cases h
          exact Stays.step hb (ih.captureSeq hq) (by simp [Ev.delta]) (by omega)
      · split at h
        · contradiction
        · rename_i hq; cases h
          exact Stays.step hb (ih.captureMap hq) (by simp [Ev.delta]) (by omega)
    · intro i fps evs r c' h
      rw [captureSeq_succ] at h
      weak_ev
      all_goals first | weak_leaf | exact item h
    · intro i fps evs r c' h
      rw [captureMap_succ] at h
      weak_ev
      all_goals first | weak_leaf | exact entry h

theorem capture_weak {fuel : Nat} {i : Nat} {n : KeyNode} {c' : Cur}
    (h : capture fuel (.replay buf i ref) = .ok n c') : Stays buf ref i 0 c' := (weakCap fuel).capture h

theorem mergeSeqBatches_weak (fuel : Nat) : ∀ {i : Nat} {bs r : List (List PendingEntry)} {c' : Cur},
    mergeSeqBatches fuel (.replay buf i ref) bs = .ok r c' → Stays buf ref i 1 c' := by
  induction fuel with
  | zero => intro i bs r c' h; rw [mergeSeqBatches] at h; contradiction
  | succ fuel ih =>
    have item : ∀ {i bs r c'}, msItem fuel (.replay buf i ref) bs = .ok r c' → Stays buf ref i 1 c' := by
      intro i bs r c' h
      simp only [msItem] at h
      split at h
      · contradiction
      · rename_i hq
        refine (capture_weak hq).trans (k' := 1) (fun j hj => ?_) (by omega)
        subst hj
        split at h
        · contradiction
        · exact ih h
    intro i bs r c' h
    rw [mergeSeqBatches_succ] at h
    weak_ev
    all_goals first | weak_leaf | exact item h

theorem pendingFromLive_weak {fuel : Nat} {i : Nat} {mref : Loc} {r : List PendingEntry} {c' : Cur}
    (h : pendingFromLive fuel (.replay buf i ref) mref = .ok r c') : Stays buf ref i 0 c' := by
  cases fuel with
  | zero => rw [pendingFromLive] at h; contradiction
  | succ fuel =>
    rw [pendingFromLive] at h
    weak_ev
    all_goals try weak_leaf
    · weak_splits
    · split at h
      · contradiction
      · rename_i hq; cases h
        exact Stays.step hb (mergeSeqBatches_weak fuel hq) (by simp only [Ev.delta]; omega) (by omega)
    · split at h
      · contradiction
      · rename_i hq
        split at h
        · contradiction
        · cases h; exact capture_weak hq

theorem collectLoop_weak (fuel : Nat) : ∀ {i : Nat} {l : Loc} {fields r : List PendingEntry}
    {merges : List (List PendingEntry)} {c' : Cur},
    collectLoop fuel (.replay buf i ref) l fields merges = .ok r c' → Stays buf ref i 1 c' := by
  induction fuel with
  | zero => intro i l fields r merges c' h; rw [collectLoop] at h; contradiction
  | succ fuel ih =>
    have item : ∀ {i l fields merges r c'},
        clItem fuel (.replay buf i ref) l fields merges = .ok r c' → Stays buf ref i 1 c' := by
      intro i l fields merges r c' h
      unfold clItem at h
      split at h
      · contradiction
      · rename_i hq
        refine (capture_weak hq).trans (k' := 1) (fun j hj => ?_) (by omega)
        subst hj
        unfold clEntry at h
        split at h
        · simp only [peek_replay] at h
          split at h
          · contradiction
          · rename_i hq2
            exact (pendingFromLive_weak hq2).trans (fun j hj => by subst hj; exact ih h) (by omega)
        · split at h
          · contradiction
          · rename_i hq2
            exact (capture_weak hq2).trans (fun j hj => by subst hj; exact ih h) (by omega)
    intro i l fields r merges c' h
    rw [collectLoop_item] at h
    weak_ev
    all_goals first | weak_leaf | exact item h

theorem collectEntriesFromMap_weak {fuel : Nat} {i : Nat} {l : Loc} {r : List PendingEntry} {c' : Cur}
    (h : collectEntriesFromMap fuel (.replay buf i ref) l = .ok r c') : Stays buf ref i 0 c' := by
  cases fuel with
  | zero => rw [collectEntriesFromMap] at h; contradiction
  | succ fuel =>
    rw [collectEntriesFromMap] at h
    weak_ev
    all_goals try weak_leaf
    exact Stays.step hb (collectLoop_weak fuel h) (by simp only [Ev.delta]; omega) (by omega)

end SaphyrVerif.Lemmas.C05
