import SaphyrVerif.Lemmas.C11_Typed2FailStream
/-!
Typed multi-document theorems (C11): streams that MIX served documents (whatever their type
outcome: value, skipped, error item + recovery, left over) and documents in which the pump fails (dangling alias,
budget breach, …), in any order.  Each document has its items "on its own" (`Mix`), and either case of `DocCase` satisfies the
contract `DocIter`: by `iter_stream` the iterator yields their concatenation, document by document, up to (and
including) the first document that finishes the iterator.
-/
namespace SaphyrVerif.Lemmas.C11B
open SaphyrVerif SaphyrVerif.Scalars SaphyrVerif.Pump SaphyrVerif.De SaphyrVerif.Spec SaphyrVerif.Budget SaphyrVerif.Entry
open SaphyrVerif.Lemmas.C11 (Doc)

/-- how ONE document is handled on its own: `r = (items, the iterator goes on behind the document, rounds)` — the flag
of `soloRounds`, and constantly `true` for a served document whatever the flag of its `docRounds` says.
Either the pump serves the document (then the items are those of `docSpec`, and the iterator always goes on), or
the pump fails inside it (then the items are those of `soloRounds` on the one-document stream, and the iterator
goes on iff the document was left through the recovery); in both cases the rounds fit into the parser items of
the document + 2. -/
inductive DocCase (L : AliasLimits) (ob : Option Limits) (cfg : Cfg) (ty : Ty) (l1 : Loc) (d : Doc) : Rounds → Prop
  | served (evs : List Ev) (r0 : Rounds) : DocServe L ob d evs →
      docSpec cfg ty ((itemsOf d.1).length + 2) evs = some r0 → DocCase L ob cfg ty l1 d (r0.1, true, r0.2.2)
  | failing (es : List Ev) (Ns : Nat) (r0 : Rounds) :
      FailRun [.ev .docEnd 0] (canonStart L ob d.2.2.1) (itemsOf d.1 ++ [.ev .docEnd 0]) es →
      soloRounds cfg ty Ns (canonStart L ob d.2.2.1) (itemsOf d.1 ++ [.ev .docEnd d.2.2.2, .ev .streamEnd l1]) = some r0 →
      r0.2.2 ≤ (itemsOf d.1).length + 2 → DocCase L ob cfg ty l1 d r0

def Mix (L : AliasLimits) (ob : Option Limits) (cfg : Cfg) (ty : Ty) (l1 : Loc) : List Doc → List Rounds → Prop
  | [], [] => True
  | d :: ds, r :: rs => DocCase L ob cfg ty l1 d r ∧ Mix L ob cfg ty l1 ds rs
  | _, _ => False

theorem docCase_le {L : AliasLimits} {ob : Option Limits} {cfg : Cfg} {ty : Ty} {l1 : Loc} {d : Doc} {r : Rounds}
    (h : DocCase L ob cfg ty l1 d r) : r.2.2 ≤ (itemsOf d.1).length + 2 := by
  cases h with
  | served evs r0 _ hr => exact docRounds_le cfg ty _ _ r0 hr
  | failing es Ns r0 _ _ hle => exact hle

theorem DocCase.contract {L : AliasLimits} {ob : Option Limits} {cfg : Cfg} {ty : Ty} {l1 : Loc} {d : Doc}
    {r : Rounds} (h : DocCase L ob cfg ty l1 d r) : DocIter L ob cfg ty d r := by
  cases h with
  | served evs r0 hs hr => exact DocIter.served hs hr
  | failing es Ns r0 hfail hsolo _ => exact DocIter.failing hfail hsolo

theorem Mix.contract {L : AliasLimits} {ob : Option Limits} {cfg : Cfg} {ty : Ty} {l1 : Loc} :
    ∀ {ds : List Doc} {rs : List Rounds}, Mix L ob cfg ty l1 ds rs → DocsIter L ob cfg ty ds rs
  | [], [], _ => .nil
  | _ :: _, _ :: _, h => .cons h.1.contract (Mix.contract h.2)
  | [], _ :: _, h => h.elim
  | _ :: _, [], h => h.elim

theorem Mix.fit {L : AliasLimits} {ob : Option Limits} {cfg : Cfg} {ty : Ty} {l1 : Loc} :
    ∀ {ds : List Doc} {rs : List Rounds}, Mix L ob cfg ty l1 ds rs → RoundsFit ds rs
  | [], _, _ => trivial
  | _ :: _, [], _ => trivial
  | _ :: _, _ :: _, h => ⟨docCase_le h.1, Mix.fit h.2⟩

end SaphyrVerif.Lemmas.C11B
