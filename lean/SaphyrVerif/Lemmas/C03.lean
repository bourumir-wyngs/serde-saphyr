import SaphyrVerif.Lemmas.C04
/-!
C03 at the level of the specification.  `effEntries_alt` is the closed form the proofs use: the own entries the
policy keeps, then what the merge values deliver (`seqSourceEntries`) without the keys already present.
`sourceEntries_forall` turns an invariant of the nodes a merge value passes through into a property of every
entry it delivers.  Namespace `C03T`: the effective entry list is an explicit mapping (no merge key, and its
own effective entry list).
-/
namespace SaphyrVerif.Lemmas.C03
open SaphyrVerif SaphyrVerif.Scalars SaphyrVerif.Pump SaphyrVerif.De SaphyrVerif.Spec
open SaphyrVerif.Lemmas.C04 (keys)

@[simp] theorem sourceEntries_scalar (v : List Char) (tag : Nat) (rt : Option (List Char)) (st : Style) (a : Nat) (l : Loc) :
    sourceEntries (.scalar v tag rt st a l) = if mergeScalarIsNull v st tag then some [] else none := by rw [sourceEntries]; rfl
@[simp] theorem sourceEntries_map (a : Nat) (l el : Loc) (es : List (ENode × ENode)) :
    sourceEntries (.map a l el es) = mapSourceEntries es := by rw [sourceEntries]
@[simp] theorem sourceEntries_seq (a tag : Nat) (rt : Option (List Char)) (l el : Loc) (items : List ENode) :
    sourceEntries (.seq a tag rt l el items) = seqSourceEntries items := by rw [sourceEntries]
@[simp] theorem mapSourceEntries_nil : mapSourceEntries [] = some [] := by rw [mapSourceEntries]
theorem mapSourceEntries_cons (k v : ENode) (rest : List (ENode × ENode)) :
    mapSourceEntries ((k, v) :: rest) =
      if isMergeKeyNode k then
        match sourceEntries v, mapSourceEntries rest with
        | some b, some r => some (r ++ b)
        | _, _ => none
      else
        match mapSourceEntries rest with
        | some r => some ((k, v) :: r)
        | none => none := by rw [mapSourceEntries]; rfl
@[simp] theorem seqSourceEntries_nil : seqSourceEntries [] = some [] := by rw [seqSourceEntries]
theorem seqSourceEntries_cons (n : ENode) (ns : List ENode) :
    seqSourceEntries (n :: ns) =
      match sourceEntries n, seqSourceEntries ns with
      | some b, some r => some (r ++ b)
      | _, _ => none := by rw [seqSourceEntries]; rfl

@[simp] theorem isNullMergeNode_scalar (v : List Char) (tag : Nat) (rt : Option (List Char)) (st : Style) (a : Nat) (l : Loc) :
    isNullMergeNode (.scalar v tag rt st a l) = mergeScalarIsNull v st tag := rfl

theorem splitEntries_cons (k v : ENode) (rest : List (ENode × ENode)) :
    splitEntries ((k, v) :: rest) =
      if isMergeKeyNode k then ((splitEntries rest).1, v :: (splitEntries rest).2)
      else ((k, v) :: (splitEntries rest).1, (splitEntries rest).2) := by
  simp only [splitEntries]

theorem splitEntries_eq (es : List (ENode × ENode)) :
    splitEntries es =
      (es.filter fun e => !isMergeKeyNode e.1, (es.filter fun e => isMergeKeyNode e.1).map (·.2)) := by
  induction es with
  | nil => rfl
  | cons kv rest ih =>
    obtain ⟨k, v⟩ := kv
    rw [splitEntries_cons, ih]
    cases hk : isMergeKeyNode k <;> simp [hk]

theorem splitEntries_own_no_merge (es : List (ENode × ENode)) :
    ∀ e ∈ (splitEntries es).1, isMergeKeyNode e.1 = false := by
  rw [splitEntries_eq]
  exact fun e he => by simpa using (List.mem_filter.1 he).2

theorem splitEntries_of_no_merge (es : List (ENode × ENode)) (h : ∀ e ∈ es, isMergeKeyNode e.1 = false) :
    splitEntries es = (es, []) := by
  rw [splitEntries_eq, List.filter_eq_self.2 (fun e he => by simp [h e he]),
    List.filter_eq_nil_iff.2 (fun e he => by simp [h e he])]
  rfl

theorem splitEntries_own_mem (es : List (ENode × ENode)) : ∀ e ∈ (splitEntries es).1, e ∈ es := by
  rw [splitEntries_eq]
  exact fun e he => (List.mem_filter.1 he).1

theorem splitEntries_merge_mem (es : List (ENode × ENode)) :
    ∀ m ∈ (splitEntries es).2, ∃ k, (k, m) ∈ es ∧ isMergeKeyNode k = true := by
  rw [splitEntries_eq]
  intro m hm
  obtain ⟨⟨k, v⟩, he, rfl⟩ := List.mem_map.1 hm
  exact ⟨k, (List.mem_filter.1 he).1, (List.mem_filter.1 he).2⟩

theorem mapSource_alt (entries : List (ENode × ENode)) :
    mapSourceEntries entries =
      (seqSourceEntries (splitEntries entries).2).map ((splitEntries entries).1 ++ ·) := by
  induction entries with
  | nil => simp [splitEntries]
  | cons e rest ih =>
    obtain ⟨k, v⟩ := e
    rw [splitEntries_cons]
    by_cases hk : isMergeKeyNode k = true
    · simp only [mapSourceEntries_cons, seqSourceEntries_cons, hk, if_true, ih]
      cases sourceEntries v <;> cases seqSourceEntries (splitEntries rest).2 <;> simp
    · simp only [mapSourceEntries_cons, hk, Bool.false_eq_true, if_false, ih]
      cases seqSourceEntries (splitEntries rest).2 <;> simp

/-! Every entry delivered by a merge value is a non-merge entry of a mapping reached from it through merge values
and sequence items.  So a property `P` of those entries follows from an invariant `Q` of the nodes passed on
the way.  The two `_cons_forall` lemmas are the steps, for whoever runs a recursion of his own. -/

theorem seqSourceEntries_cons_forall {P : ENode × ENode → Prop} {n : ENode} {ns : List ENode}
    (hn : ∀ b, sourceEntries n = some b → ∀ e ∈ b, P e) (hns : ∀ b, seqSourceEntries ns = some b → ∀ e ∈ b, P e) :
    ∀ b, seqSourceEntries (n :: ns) = some b → ∀ e ∈ b, P e := by
  intro es h
  rw [seqSourceEntries_cons] at h
  split at h
  · next b r hb hr =>
    cases h
    exact fun e he => (List.mem_append.1 he).elim (hns r hr e) (hn b hb e)
  · cases h

theorem mapSourceEntries_cons_forall {P : ENode × ENode → Prop} {k v : ENode} {rest : List (ENode × ENode)}
    (hkv : if isMergeKeyNode k then ∀ b, sourceEntries v = some b → ∀ e ∈ b, P e else P (k, v))
    (hrest : ∀ b, mapSourceEntries rest = some b → ∀ e ∈ b, P e) :
    ∀ b, mapSourceEntries ((k, v) :: rest) = some b → ∀ e ∈ b, P e := by
  intro es h
  rw [mapSourceEntries_cons] at h
  split at h <;> rename_i hk <;> simp only [hk, if_true, Bool.false_eq_true, if_false] at hkv <;> split at h
  · next b r hb hr =>
    cases h
    exact fun e he => (List.mem_append.1 he).elim (hrest r hr e) (hkv b hb e)
  · cases h
  · next r hr =>
    cases h
    exact fun e he => (List.mem_cons.1 he).elim (fun h => h ▸ hkv) (hrest r hr e)
  · cases h

mutual
theorem sourceEntries_forall {Q : ENode → Prop} {P : ENode × ENode → Prop}
    (hseq : ∀ a tag rt l el items, Q (.seq a tag rt l el items) → ∀ it ∈ items, Q it)
    (hmap : ∀ a l el es, Q (.map a l el es) → ∀ e ∈ es, if isMergeKeyNode e.1 then Q e.2 else P e) :
    ∀ (n : ENode) (es : List (ENode × ENode)), Q n → sourceEntries n = some es → ∀ e ∈ es, P e
  | .scalar v _ _ st _ _, es, _, h => by
    rw [sourceEntries_scalar] at h
    split at h
    · cases h; simp
    · cases h
  | .map a l el entries, es, hq, h =>
    mapSourceEntries_forall hseq hmap entries es (hmap a l el entries hq) (sourceEntries_map .. ▸ h)
  | .seq a tag rt l el items, es, hq, h =>
    seqSourceEntries_forall hseq hmap items es (hseq a tag rt l el items hq) (sourceEntries_seq .. ▸ h)
termination_by structural x => x
theorem mapSourceEntries_forall {Q : ENode → Prop} {P : ENode × ENode → Prop}
    (hseq : ∀ a tag rt l el items, Q (.seq a tag rt l el items) → ∀ it ∈ items, Q it)
    (hmap : ∀ a l el es, Q (.map a l el es) → ∀ e ∈ es, if isMergeKeyNode e.1 then Q e.2 else P e) :
    ∀ (entries es : List (ENode × ENode)),
    (∀ e ∈ entries, if isMergeKeyNode e.1 then Q e.2 else P e) → mapSourceEntries entries = some es → ∀ e ∈ es, P e
  | [], es, _, h => by simp at h; subst h; simp
  | (k, v) :: rest, es, hq, h => by
    refine mapSourceEntries_cons_forall ?_
      (fun b => mapSourceEntries_forall hseq hmap rest b fun e he => hq e (List.mem_cons_of_mem _ he)) es h
    have hkv := hq (k, v) (List.mem_cons_self ..)
    split
    · rw [if_pos ‹_›] at hkv; exact fun b => sourceEntries_forall hseq hmap v b hkv
    · rwa [if_neg ‹_›] at hkv
termination_by structural x => x
theorem seqSourceEntries_forall {Q : ENode → Prop} {P : ENode × ENode → Prop}
    (hseq : ∀ a tag rt l el items, Q (.seq a tag rt l el items) → ∀ it ∈ items, Q it)
    (hmap : ∀ a l el es, Q (.map a l el es) → ∀ e ∈ es, if isMergeKeyNode e.1 then Q e.2 else P e) :
    ∀ (items : List ENode) (es : List (ENode × ENode)),
    (∀ it ∈ items, Q it) → seqSourceEntries items = some es → ∀ e ∈ es, P e
  | [], es, _, h => by simp at h; subst h; simp
  | n :: ns, es, hq, h =>
    seqSourceEntries_cons_forall (fun b => sourceEntries_forall hseq hmap n b (hq n (List.mem_cons_self ..)))
      (fun b => seqSourceEntries_forall hseq hmap ns b fun it hi => hq it (List.mem_cons_of_mem _ hi)) es h
termination_by structural x => x
end

theorem sourceEntries_no_merge (n : ENode) (es : List (ENode × ENode)) (h : sourceEntries n = some es) :
    ∀ e ∈ es, isMergeKeyNode e.1 = false :=
  sourceEntries_forall (Q := fun _ => True) (fun _ _ _ _ _ _ _ _ _ => trivial)
    (fun _ _ _ _ _ e _ => by cases isMergeKeyNode e.1 <;> simp) n es trivial h

theorem mapSourceEntries_no_merge (l es : List (ENode × ENode)) (h : mapSourceEntries l = some es) :
    ∀ e ∈ es, isMergeKeyNode e.1 = false :=
  mapSourceEntries_forall (Q := fun _ => True) (fun _ _ _ _ _ _ _ _ _ => trivial)
    (fun _ _ _ _ _ e _ => by cases isMergeKeyNode e.1 <;> simp) l es
    (fun e _ => by cases isMergeKeyNode e.1 <;> simp) h

theorem seqSourceEntries_no_merge : ∀ (l : List ENode) (es : List (ENode × ENode)),
    seqSourceEntries l = some es → ∀ e ∈ es, isMergeKeyNode e.1 = false :=
  fun l es h => seqSourceEntries_forall (Q := fun _ => True) (fun _ _ _ _ _ _ _ _ _ => trivial)
    (fun _ _ _ _ _ e _ => by cases isMergeKeyNode e.1 <;> simp) l es (fun _ _ => trivial) h

/-- the right side is how `effEntries` collects the batches of its merge values: from last to first -/
theorem seqSource_eq (l : List ENode) :
    seqSourceEntries l = (l.reverse.mapM sourceEntries).map List.flatten := by
  induction l with
  | nil => simp
  | cons n ns ih =>
    rw [seqSourceEntries_cons, ih, List.reverse_cons, List.mapM_append]
    simp only [List.mapM_cons, List.mapM_nil]
    cases sourceEntries n <;> cases List.mapM sourceEntries ns.reverse <;> simp

theorem effEntries_alt (dup : DupPolicy) (entries : List (ENode × ENode)) :
    effEntries dup entries =
      match applyPolicy dup (splitEntries entries).1 [], seqSourceEntries (splitEntries entries).2 with
      | some ownKept, some src => some (ownKept ++ dropSeen src (keys ownKept).reverse)
      | _, _ => none := by
  rw [seqSource_eq]
  unfold effEntries
  cases h1 : applyPolicy dup (splitEntries entries).1 [] with
  | none => simp [h1]
  | some ownKept =>
    cases h2 : List.mapM sourceEntries (splitEntries entries).2.reverse with
    | none => simp [h1, h2]
    | some batches => simp [h1, h2, keys]

theorem eff_some {dup : DupPolicy} {entries es : List (ENode × ENode)} (h : effEntries dup entries = some es) :
    ∃ ownKept src, applyPolicy dup (splitEntries entries).1 [] = some ownKept ∧
      seqSourceEntries (splitEntries entries).2 = some src ∧ es = ownKept ++ dropSeen src (keys ownKept).reverse := by
  rw [effEntries_alt] at h
  cases ho : applyPolicy dup (splitEntries entries).1 [] with
  | none => simp [ho] at h
  | some ownKept =>
    cases hs : seqSourceEntries (splitEntries entries).2 with
    | none => simp [ho, hs] at h
    | some src => exact ⟨ownKept, src, rfl, rfl, by simpa [ho, hs] using h.symm⟩

theorem eff_mem {dup : DupPolicy} {entries es : List (ENode × ENode)} (h : effEntries dup entries = some es) :
    ∀ e ∈ es, e ∈ (splitEntries entries).1 ∨ ∃ src, seqSourceEntries (splitEntries entries).2 = some src ∧ e ∈ src := by
  obtain ⟨ownKept, src, ho, hs, rfl⟩ := eff_some h
  intro e he
  rcases List.mem_append.1 he with he | he
  · exact Or.inl ((C04.applyPolicy_sublist dup _ [] ownKept ho).subset he)
  · exact Or.inr ⟨src, hs, (C04.dropSeen_sublist src _).subset he⟩

theorem dropSeen_keys_disjoint (src ownKept : List (ENode × ENode)) :
    ∀ m ∈ dropSeen src (keys ownKept).reverse, ∀ o ∈ ownKept, fpOf m.1 ≠ fpOf o.1 := by
  intro m hm o ho heq
  apply (C04.dropSeen_nodup src (keys ownKept).reverse).2 (fpOf m.1) (List.mem_map.2 ⟨m, hm, rfl⟩)
  rw [List.mem_reverse, heq]
  exact List.mem_map.2 ⟨o, ho, rfl⟩

theorem keys_eff_nodup (src ownKept : List (ENode × ENode)) :
    (keys (ownKept ++ dropSeen src (keys ownKept).reverse)).Nodup ↔ (keys ownKept).Nodup := by
  simp only [keys, List.map_append]
  refine ⟨fun hn => (List.nodup_append.1 hn).1, fun hn =>
    List.nodup_append.2 ⟨hn, (C04.dropSeen_nodup src _).1, fun a ha b hb hab => ?_⟩⟩
  obtain ⟨o, ho, rfl⟩ := List.mem_map.1 ha
  obtain ⟨m, hm, rfl⟩ := List.mem_map.1 hb
  exact dropSeen_keys_disjoint src ownKept m hm o ho hab.symm

end SaphyrVerif.Lemmas.C03

namespace SaphyrVerif.Lemmas.C03T
open SaphyrVerif SaphyrVerif.Scalars SaphyrVerif.Pump SaphyrVerif.De SaphyrVerif.Spec
open SaphyrVerif.Lemmas.C04 (keys)

theorem eff_no_merge (dup : DupPolicy) (entries es : List (ENode × ENode)) (h : effEntries dup entries = some es) :
    ∀ e ∈ es, isMergeKeyNode e.1 = false := by
  intro e he
  rcases C03.eff_mem h e he with ho | ⟨src, hs, hm⟩
  · exact C03.splitEntries_own_no_merge entries e ho
  · exact C03.seqSourceEntries_no_merge _ src hs e hm

theorem eff_nodup (dup : DupPolicy) (entries es : List (ENode × ENode)) (h : effEntries dup entries = some es)
    (hdup : dup ≠ .lastWins) : (keys es).Nodup := by
  obtain ⟨ownKept, src, h1, -, rfl⟩ := C03.eff_some h
  exact (C03.keys_eff_nodup src ownKept).2 (C04.applyPolicy_nodup_of_ne_lastWins dup hdup _ [] ownKept h1).1

theorem eff_of_no_merge (dup : DupPolicy) (es : List (ENode × ENode)) (hnm : ∀ e ∈ es, isMergeKeyNode e.1 = false)
    (hp : applyPolicy dup es [] = some es) : effEntries dup es = some es := by
  rw [C03.effEntries_alt, C03.splitEntries_of_no_merge es hnm]
  simp [hp, seqSourceEntries, dropSeen]

theorem eff_idem (dup : DupPolicy) (entries es : List (ENode × ENode)) (h : effEntries dup entries = some es) :
    effEntries dup es = some es := by
  apply eff_of_no_merge dup es (eff_no_merge dup entries es h)
  by_cases hd : dup = .lastWins
  · subst hd; exact C04.applyPolicy_lastWins es []
  · exact C04.applyPolicy_nodup dup es [] (eff_nodup dup entries es h hd) (by simp)

end SaphyrVerif.Lemmas.C03T
